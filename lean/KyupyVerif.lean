import KyupyVerif.Model.BAlg
import KyupyVerif.Model.BenchSem
import KyupyVerif.Model.BenchText
import KyupyVerif.Model.Callback
import KyupyVerif.Model.Capture
import KyupyVerif.Model.CircNet
import KyupyVerif.Model.CircObj
import KyupyVerif.Model.CircObjSub
import KyupyVerif.Model.Comp
import KyupyVerif.Model.Cycle
import KyupyVerif.Model.DataPath
import KyupyVerif.Model.Datasheet
import KyupyVerif.Model.Def
import KyupyVerif.Model.DefText
import KyupyVerif.Model.Encode
import KyupyVerif.Model.Grid
import KyupyVerif.Model.Heap
import KyupyVerif.Model.ImplCert
import KyupyVerif.Model.Kahn
import KyupyVerif.Model.LevelMem
import KyupyVerif.Model.Locs
import KyupyVerif.Model.MapCert
import KyupyVerif.Model.Net
import KyupyVerif.Model.Netlist
import KyupyVerif.Model.Prim
import KyupyVerif.Model.ResolveHyp
import KyupyVerif.Model.ResolveStatic
import KyupyVerif.Model.Sdf
import KyupyVerif.Model.SdfCirc
import KyupyVerif.Model.SdfText
import KyupyVerif.Model.SdfWave
import KyupyVerif.Model.Sig
import KyupyVerif.Model.SimOps
import KyupyVerif.Model.Stil
import KyupyVerif.Model.StilSim
import KyupyVerif.Model.StilText
import KyupyVerif.Model.SubstSem
import KyupyVerif.Model.Substitute
import KyupyVerif.Model.Techlib
import KyupyVerif.Model.TextLex
import KyupyVerif.Model.Transform
import KyupyVerif.Model.Traverse
import KyupyVerif.Model.Val
import KyupyVerif.Model.VerilogLib
import KyupyVerif.Model.VerilogLibFit
import KyupyVerif.Model.VerilogSem
import KyupyVerif.Model.VerilogText
import KyupyVerif.Model.Wave
import KyupyVerif.Model.WaveCirc
import KyupyVerif.Model.WaveIO
import KyupyVerif.Model.WaveStrip
import KyupyVerif.Gen.Bp
import KyupyVerif.Gen.EncTables
import KyupyVerif.Gen.MvTables
import KyupyVerif.Gen.Ops2
import KyupyVerif.Gen.Ops4
import KyupyVerif.Gen.Ops8_0
import KyupyVerif.Gen.Ops8_1
import KyupyVerif.Gen.Ops8_2
import KyupyVerif.Gen.Ops8_3
import KyupyVerif.Gen.Ops8_4
import KyupyVerif.Gen.Ops8_5
import KyupyVerif.Gen.Ops8_6
import KyupyVerif.Gen.Ops8_7
import KyupyVerif.Gen.Sem8
import KyupyVerif.Gen.Tables
import KyupyVerif.Gen.TechImpl
import KyupyVerif.Gen.TechImpl0
import KyupyVerif.Gen.TechImpl1
import KyupyVerif.Gen.TechImpl2
import KyupyVerif.Gen.TechImpl3
import KyupyVerif.Gen.TechImpl4
import KyupyVerif.Gen.TechImpl5
import KyupyVerif.Gen.TechImpl6
import KyupyVerif.Gen.TechImpl7
import KyupyVerif.Gen.Techlib
import KyupyVerif.Gen.Techlib0
import KyupyVerif.Gen.Techlib1
import KyupyVerif.Gen.Techlib2
import KyupyVerif.Gen.Techlib3
import KyupyVerif.Gen.Techlib4
import KyupyVerif.Gen.Techlib5
import KyupyVerif.Gen.Techlib6
import KyupyVerif.Gen.Techlib7
import KyupyVerif.Proofs.Activity
import KyupyVerif.Proofs.ActivityCirc
import KyupyVerif.Proofs.AllCirc
import KyupyVerif.Proofs.AllCircDemo
import KyupyVerif.Proofs.AllCircMem
import KyupyVerif.Proofs.AllCircWave
import KyupyVerif.Proofs.Basics
import KyupyVerif.Proofs.BenchCirc
import KyupyVerif.Proofs.BenchEnd
import KyupyVerif.Proofs.BenchErr
import KyupyVerif.Proofs.BenchForks
import KyupyVerif.Proofs.BenchLines
import KyupyVerif.Proofs.BenchSched
import KyupyVerif.Proofs.BenchSem
import KyupyVerif.Proofs.BenchText
import KyupyVerif.Proofs.Capture
import KyupyVerif.Proofs.CircLabel
import KyupyVerif.Proofs.CircNet
import KyupyVerif.Proofs.CircObjBase
import KyupyVerif.Proofs.CircObjCalls
import KyupyVerif.Proofs.CircObjCopy
import KyupyVerif.Proofs.CircObjDangling
import KyupyVerif.Proofs.CircObjElim
import KyupyVerif.Proofs.CircObjHistory
import KyupyVerif.Proofs.CircObjInv
import KyupyVerif.Proofs.CircObjLoops
import KyupyVerif.Proofs.CircObjOps
import KyupyVerif.Proofs.CircObjRemoveLine
import KyupyVerif.Proofs.CircObjSInv
import KyupyVerif.Proofs.CircObjState
import KyupyVerif.Proofs.CircObjStats
import KyupyVerif.Proofs.CircObjSubst
import KyupyVerif.Proofs.CircObjSubstFull
import KyupyVerif.Proofs.CircObjSubstStatic
import KyupyVerif.Proofs.CircOuts
import KyupyVerif.Proofs.CircSNodes
import KyupyVerif.Proofs.CircSem
import KyupyVerif.Proofs.CopyTrim
import KyupyVerif.Proofs.Cycle
import KyupyVerif.Proofs.CycleMem
import KyupyVerif.Proofs.CycleNet
import KyupyVerif.Proofs.CycleRel
import KyupyVerif.Proofs.CycleSpec
import KyupyVerif.Proofs.CycleStrip
import KyupyVerif.Proofs.CycleZeroCap
import KyupyVerif.Proofs.SubstTwin
import KyupyVerif.Proofs.DanglingSome
import KyupyVerif.Proofs.DataPath
import KyupyVerif.Proofs.DataPathArr
import KyupyVerif.Proofs.DataPathLanes
import KyupyVerif.Proofs.DataPathStr
import KyupyVerif.Proofs.DataPathVal
import KyupyVerif.Proofs.Def
import KyupyVerif.Proofs.DefPartial
import KyupyVerif.Proofs.DefText
import KyupyVerif.Proofs.DefTextLex
import KyupyVerif.Proofs.DefTextRead
import KyupyVerif.Proofs.Densify
import KyupyVerif.Proofs.Embed
import KyupyVerif.Proofs.Encode
import KyupyVerif.Proofs.FormatEquiv
import KyupyVerif.Proofs.FormatEquiv3
import KyupyVerif.Proofs.FormatEquiv4
import KyupyVerif.Proofs.FormatEquiv5
import KyupyVerif.Proofs.GateVal
import KyupyVerif.Proofs.GenOpsProg
import KyupyVerif.Proofs.GenOpsWO
import KyupyVerif.Proofs.Grid
import KyupyVerif.Proofs.GridLanes
import KyupyVerif.Proofs.HeapCanon
import KyupyVerif.Proofs.HeapChunks
import KyupyVerif.Proofs.HeapHist
import KyupyVerif.Proofs.HeapInv
import KyupyVerif.Proofs.HeapUsed
import KyupyVerif.Proofs.ImplDatasheet
import KyupyVerif.Proofs.ImplDatasheet2
import KyupyVerif.Proofs.ImplDescribes
import KyupyVerif.Proofs.InstCertChk
import KyupyVerif.Proofs.Lanes
import KyupyVerif.Proofs.LevelMem
import KyupyVerif.Proofs.Levelise
import KyupyVerif.Proofs.LineEqN
import KyupyVerif.Proofs.LineRemove
import KyupyVerif.Proofs.LineRemoveWF
import KyupyVerif.Proofs.LinesDriven
import KyupyVerif.Proofs.Locs
import KyupyVerif.Proofs.LutSem
import KyupyVerif.Proofs.MapSound
import KyupyVerif.Proofs.MapSoundRel
import KyupyVerif.Proofs.MemMapAccept
import KyupyVerif.Proofs.MemMapAlias
import KyupyVerif.Proofs.MemMapAlloc
import KyupyVerif.Proofs.MemMapFold
import KyupyVerif.Proofs.MemMapFrees
import KyupyVerif.Proofs.MemMapPre
import KyupyVerif.Proofs.MemMapSpec
import KyupyVerif.Proofs.MemMapStatic
import KyupyVerif.Proofs.MemRef
import KyupyVerif.Proofs.MvChk
import KyupyVerif.Proofs.NetLabelling
import KyupyVerif.Proofs.RowsLineEq
import KyupyVerif.Proofs.Netlist
import KyupyVerif.Proofs.NetlistBF
import KyupyVerif.Proofs.NetlistCirc
import KyupyVerif.Proofs.NetlistReach
import KyupyVerif.Proofs.Perm
import KyupyVerif.Proofs.PrimExpr
import KyupyVerif.Proofs.RemoveDangling
import KyupyVerif.Proofs.ResolveGeneral
import KyupyVerif.Proofs.ResolveStatic
import KyupyVerif.Proofs.Sdf
import KyupyVerif.Proofs.SdfCirc
import KyupyVerif.Proofs.SdfText
import KyupyVerif.Proofs.SdfTextRaw
import KyupyVerif.Proofs.SdfWaveBounds
import KyupyVerif.Proofs.StaPath
import KyupyVerif.Proofs.SdfWaveNet
import KyupyVerif.Proofs.SdfWaveDemo
import KyupyVerif.Proofs.SelectSpec
import KyupyVerif.Proofs.SemAll
import KyupyVerif.Proofs.SemL
import KyupyVerif.Proofs.Solve
import KyupyVerif.Proofs.SpecRel
import KyupyVerif.Proofs.Stil
import KyupyVerif.Proofs.StilExtract
import KyupyVerif.Proofs.StilSim
import KyupyVerif.Proofs.StilText
import KyupyVerif.Proofs.StilTextLex
import KyupyVerif.Proofs.StripLink
import KyupyVerif.Proofs.StripLinkLogic
import KyupyVerif.Proofs.StripLinkMem
import KyupyVerif.Proofs.StripLinkOps
import KyupyVerif.Proofs.StripProg
import KyupyVerif.Proofs.SubstGeneral
import KyupyVerif.Proofs.SubstLk
import KyupyVerif.Proofs.SubstLkLoops
import KyupyVerif.Proofs.SubstWrites
import KyupyVerif.Proofs.SubstCert
import KyupyVerif.Proofs.SubstCoreCert
import KyupyVerif.Proofs.SubstDirections
import KyupyVerif.Proofs.SubstEq
import KyupyVerif.Proofs.SubstKeepsAll
import KyupyVerif.Proofs.SubstVocab
import KyupyVerif.Proofs.SubstNodeLoop
import KyupyVerif.Proofs.SubstProgress
import KyupyVerif.Proofs.SubstResolve
import KyupyVerif.Proofs.SubstVirtualHost
import KyupyVerif.Proofs.Substitute
import KyupyVerif.Proofs.SubstituteObs
import KyupyVerif.Proofs.SubstituteBuilt
import KyupyVerif.Proofs.SubstituteWire
import KyupyVerif.Proofs.SwapLast
import KyupyVerif.Proofs.TechAdd
import KyupyVerif.Proofs.TechCells
import KyupyVerif.Proofs.TechChk
import KyupyVerif.Proofs.TechFun
import KyupyVerif.Proofs.TechPins
import KyupyVerif.Proofs.TextLex
import KyupyVerif.Proofs.Transform
import KyupyVerif.Proofs.TransformConv
import KyupyVerif.Proofs.TransformElim
import KyupyVerif.Proofs.TransformSim
import KyupyVerif.Proofs.TransformSplice
import KyupyVerif.Proofs.TransformStable
import KyupyVerif.Proofs.Kahn
import KyupyVerif.Proofs.Traverse
import KyupyVerif.Proofs.VerilogCirc
import KyupyVerif.Proofs.VerilogEnd
import KyupyVerif.Proofs.VerilogFlat
import KyupyVerif.Proofs.VerilogLib1
import KyupyVerif.Proofs.VerilogLib3
import KyupyVerif.Proofs.VerilogLib4
import KyupyVerif.Proofs.VerilogLibFit
import KyupyVerif.Proofs.VerilogLines
import KyupyVerif.Proofs.VerilogNodes
import KyupyVerif.Proofs.VerilogSem
import KyupyVerif.Proofs.VerilogText
import KyupyVerif.Proofs.VerilogTextConst
import KyupyVerif.Proofs.VerilogTextLex
import KyupyVerif.Proofs.VerilogTextParse
import KyupyVerif.Proofs.WaveAffine
import KyupyVerif.Proofs.WaveBridge
import KyupyVerif.Proofs.WaveCircuit
import KyupyVerif.Proofs.WaveExact
import KyupyVerif.Proofs.WaveHazard
import KyupyVerif.Proofs.WaveIOArrays
import KyupyVerif.Proofs.WaveIOAssign
import KyupyVerif.Proofs.WaveIOCapture
import KyupyVerif.Proofs.WaveIOCheck
import KyupyVerif.Proofs.WaveIOEval
import KyupyVerif.Proofs.WaveIOOrder
import KyupyVerif.Proofs.WaveInit
import KyupyVerif.Proofs.WaveMem
import KyupyVerif.Proofs.WaveMemCirc
import KyupyVerif.Proofs.WaveMemDemo
import KyupyVerif.Proofs.WaveMemSound
import KyupyVerif.Proofs.WaveMember
import KyupyVerif.Proofs.WaveMono
import KyupyVerif.Proofs.WaveParity
import KyupyVerif.Proofs.WavePhases
import KyupyVerif.Proofs.WaveStrip
import KyupyVerif.Proofs.WaveTerm
import KyupyVerif.Proofs.WideGate
import KyupyVerif.Props.C01
import KyupyVerif.Props.C02
import KyupyVerif.Props.C03
import KyupyVerif.Props.C04
import KyupyVerif.Props.C05
import KyupyVerif.Props.C06
import KyupyVerif.Props.C07
import KyupyVerif.Props.C08
import KyupyVerif.Props.C09
import KyupyVerif.Props.C10
import KyupyVerif.Props.C10Datasheet
import KyupyVerif.Props.C10Library
import KyupyVerif.Props.C11
import KyupyVerif.Props.C11Library
import KyupyVerif.Props.C12
import KyupyVerif.Props.C12Algebra
import KyupyVerif.Props.C13
import KyupyVerif.Props.C14
import KyupyVerif.Props.C14Wave
import KyupyVerif.Props.C15
import KyupyVerif.Props.C15Gen
import KyupyVerif.Props.C15Sim
import KyupyVerif.Props.C16
import KyupyVerif.Props.C17
import KyupyVerif.Props.C18
import KyupyVerif.Props.C19
import KyupyVerif.Props.C19Fun
import KyupyVerif.Props.C19Gates
import KyupyVerif.Props.C20
import KyupyVerif.Drv.Accum
import KyupyVerif.Drv.Callback
import KyupyVerif.Drv.CircNet
import KyupyVerif.Drv.CircObj
import KyupyVerif.Drv.Cycle
import KyupyVerif.Drv.DataPath
import KyupyVerif.Drv.Datasheet
import KyupyVerif.Drv.Def
import KyupyVerif.Drv.Encode
import KyupyVerif.Drv.FormatEquiv
import KyupyVerif.Drv.Grid
import KyupyVerif.Drv.HeapHist
import KyupyVerif.Drv.ImplCert
import KyupyVerif.Drv.NetText
import KyupyVerif.Drv.Netlist
import KyupyVerif.Drv.Registry
import KyupyVerif.Drv.Sdf
import KyupyVerif.Drv.SdfWave
import KyupyVerif.Drv.Stil
import KyupyVerif.Drv.StilSim
import KyupyVerif.Drv.TechCount
import KyupyVerif.Drv.Transform
import KyupyVerif.Drv.Traverse
import KyupyVerif.Drv.VerilogLib
import KyupyVerif.Drv.WaveIO
import KyupyVerif.Drv.WaveStrip
