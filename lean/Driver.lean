import KyupyVerif.Model.Val
import KyupyVerif.Model.Comp
import KyupyVerif.Model.Wave
import KyupyVerif.Model.Heap
import KyupyVerif.Model.Kahn
import KyupyVerif.Model.Net
import KyupyVerif.Model.SimOps
import KyupyVerif.Model.WaveCirc
import KyupyVerif.Model.Capture
import KyupyVerif.Model.MapCert
import KyupyVerif.Model.LevelMem
import KyupyVerif.Proofs.Solve
import KyupyVerif.Proofs.GenOpsWO
import KyupyVerif.Proofs.StripLink
import KyupyVerif.Proofs.MemMapSpec
import KyupyVerif.Proofs.LinesDriven
import KyupyVerif.Gen.Tables
import KyupyVerif.Drv.Registry
/-! Line protocol driver: one request per line on stdin, one answer per line on stdout.
Beside the model files it imports the generated tables and the Proofs/ modules that define the Boolean hypotheses its commands
evaluate (`wellOrderedB`, `Net.wfB`, `orderOKB`, `forksOKB`, `readsDrivenB`, `linesDrivenB`); the Drv/ modules import theirs.
All of it is core Lean, so this links as a stand-alone executable.
The commands of this file (among them those that keep the state `DState`: heap, net) are the cases of `step` below; every other command is the `handle` of a
`Drv/<Name>.lean` module, registered in `extHandlers` of Drv/Registry.lean and reached through `KV.Drv.tryExt` in the last case of `step`. -/
open KV

def parseNats (s : String) : List Nat := (s.splitOn ",").filter (· ≠ "") |>.map String.toNat!

def parseMapIn (net : Net) (strip capsMin rest : String) : Option MapIn :=
  match rest.splitOn "|" with
  | [opsS, startsS, locsS, capsS, clenS] =>
    let ops := (opsS.splitOn "/").filter (· ≠ "") |>.map fun t =>
      match (t.splitOn ",").map String.toNat! with
      | [l, o, a, b, c, d] => OpRow.mk l o a b c d
      | _ => default
    some { net := net, strip := strip == "1", ops := ops, starts := parseNats startsS,
           locs := ((locsS.splitOn ",").filter (· ≠ "") |>.map String.toInt!).toArray,
           caps := (parseNats capsS).toArray, cLen := clenS.toNat!, capsMin := capsMin.toNat! }
  | _ => none

/-! ### spec tables (specification answers for the Python oracles) -/
def packCodes (l : List Nat) : Nat :=
  (l.zipIdx.map fun (v, i) => v <<< (3 * i)).foldl (· + ·) 0

def tuples (k : Nat) : List (List V3) :=
  -- operand 0 least significant
  match k with
  | 0 => [[]]
  | k+1 => (tuples k).flatMap fun t => [] ++ (V3.all.map fun v => t ++ [v])

def tuplesLS (k : Nat) : List (List V3) :=
  (List.range (8 ^ k)).map fun i => (List.range k).map fun j => V3.ofCode ((i / 8 ^ j) % 8)

def specTab (op : String) (k : Nat) : String :=
  let f : List V3 → V3 := match op with
    | "not" => fun xs => specNot (xs.headD default)
    | "and" => specAnd | "or" => specOr | "xor" => specXor
    | _ => fun _ => default
  toString (packCodes ((tuplesLS k).map fun t => (f t).code))

def compTab (name : String) : String :=
  match comp8 name with
  | none => "none"
  | some f => toString (packCodes ((tuplesLS 4).map fun t =>
      (f (t.getD 0 default) (t.getD 1 default) (t.getD 2 default) (t.getD 3 default)).code))

/-! ### wave evaluator -/
namespace WaveD
open KV.Wave
def parseT (s : String) : T :=
  if s == "m" then .tmin else if s == "M" then .tmax else if s == "O" then .tovl else .fin (s.toInt?.getD 0)
def showT : T → String
  | .tmin => "m" | .tmax => "M" | .tovl => "O" | .fin t => toString t
def parseList (s : String) : List T := (s.splitOn ",").filter (· ≠ "") |>.map parseT
-- wave lut zcap w0 t0 w1 t1 w2 t2 w3 t3 d(16 ints: i p q order)
def handle (f : Array String) : String :=
  if f.size < 26 then "bad" else
  let lut := f[0]!.toNat!; let zcap := f[1]!.toNat!
  let ws : Fin 4 → List T := fun i => parseList (if f[2 + 2*i.val]! == "-" then "" else f[2 + 2*i.val]!)
  let terms : Fin 4 → T := fun i => parseT f[3 + 2*i.val]!
  let D : Delays := fun i p q => (f[10 + 4*i + (if p then 2 else 0) + (if q then 1 else 0)]!).toInt!
  let (ents, term, nr, nf) := waveEval lut D ws terms zcap
  s!"{",".intercalate (ents.map showT)} {showT term} {nr} {nf}"
end WaveD

/-! ### whole WaveSim propagation over an op program -/
namespace WaveSimD
open KV.Wave KV.Sig
def parseWv (s : String) : Wv :=
  match s.splitOn ":" with
  | [e, t] => ⟨WaveD.parseList (if e == "-" then "" else e), WaveD.parseT t⟩
  | _ => Wv.empty
def showWv (w : Wv) : String :=
  let e := ",".intercalate (w.ents.map WaveD.showT)
  s!"{if e == "" then "-" else e}:{WaveD.showT w.term}"
def parseOp (s : String) : Op :=
  match (s.splitOn ",").map String.toNat! with
  | [l, o, a, b, c, d] => ⟨l, o, [a, b, c, d]⟩
  | [l, o, a, b, c, d, da, db, dc, dd] => ⟨l, o, [a, b, c, d, da, db, dc, dd]⟩
  | _ => ⟨0, 0, []⟩
/-- wavesim <ops> ; <delays per index: d00,d01,d10,d11> ; <caps csv> ; <stim idx=wv ...> -/
def handle (rest : String) : String :=
  match (rest.splitOn ";").map (·.trimAscii.toString) with
  | [opsS, delS, capS, stimS] =>
    let ops := (opsS.splitOn " ").filter (· ≠ "") |>.map parseOp
    let dels := ((delS.splitOn " ").filter (· ≠ "") |>.map fun d => (d.splitOn ",").map String.toInt!).toArray
    let caps := (parseNats capS).toArray
    let cfg : WCfg := { delay := fun l p q => ((dels.getD l []).getD ((if p then 2 else 0) + (if q then 1 else 0)) 0),
                        cap := fun i => caps.getD i 0 }
    let stim := (stimS.splitOn " ").filter (· ≠ "") |>.map fun t =>
      match t.splitOn "=" with
      | [i, w] => (i.toNat!, parseWv w)
      | _ => (0, Wv.empty)
    let n := caps.size
    let env0 : Array Wv := (List.range n).map (fun i => match stim.find? (·.1 == i) with | some p => p.2 | none => Wv.empty) |>.toArray
    -- array-based execution (`execArrG`, proved equal to `execG` = `simWave`), recording counts per op
    let (envF, cnts) := ops.foldl (fun (acc : Array Wv × List (Nat × Nat)) op =>
        let xs := op.ins.map fun i => acc.1.getD i Wv.empty
        (execArrStep Wv.empty (waveSem cfg) acc.1 op, acc.2 ++ [waveCounts cfg op xs])) (env0, [])
    let written := ops.map (·.out) ++ stim.map (·.1)
    let sigs := (List.range n).map fun i => if written.contains i then showWv (envF.getD i Wv.empty) else "."
    s!"{" ".intercalate sigs} ; {" ".intercalate (cnts.map fun c => s!"{c.1},{c.2}")}"
  | _ => "bad"
/-- capture <wv> <time|M> : init eat lst final val ovl -/
def capture (w : String) (t : String) : String :=
  let r := KV.Wave.captureWv (parseWv w) (WaveD.parseT t)
  s!"{if r.init then 1 else 0} {WaveD.showT r.eat} {WaveD.showT r.lst} {if r.final then 1 else 0} {if r.val then 1 else 0} {if r.ovl then 1 else 0}"
end WaveSimD

/-! ### heap -/
namespace HeapD
open KV.Heap
def dump (h : Heap) : String :=
  let rec go (start : Nat) : List Chunk → List String
    | [] => []
    | c :: r => s!"{start}:{c.size}:{if c.free then "f" else "u"}" :: go (start + c.size) r
  s!"{" ".intercalate (go 0 h.cs)} | cur={total h.cs} max={h.maxSz}"
end HeapD

/-! ### Kahn order -/
namespace KahnD
open KV.Kahn
-- kahn n ; seq bits ; succs (| separated lists) ; preds (| separated lists)
def handle (rest : String) : String :=
  match rest.splitOn ";" with
  | [n, sq, su, pr] =>
    let n := n.trimAscii.toString.toNat!
    let seqA := (parseNats sq.trimAscii.toString).toArray
    let suA := ((su.trimAscii.toString.splitOn "|").map parseNats).toArray
    let prA := ((pr.trimAscii.toString.splitOn "|").map parseNats).toArray
    let g : G := { n := n, succs := fun v => suA.getD v [], preds := fun v => prA.getD v [], seq := fun v => seqA.getD v 0 == 1 }
    ",".intercalate ((kahn g).map toString)
  | _ => "bad"
end KahnD

/-! ### netlists -/
namespace NetD
def hexVal (c : Char) : Nat :=
  if c.isDigit then c.toNat - '0'.toNat else if 'a' ≤ c ∧ c ≤ 'f' then c.toNat - 'a'.toNat + 10
  else if 'A' ≤ c ∧ c ≤ 'F' then c.toNat - 'A'.toNat + 10 else 0
def pctDecode : List Char → List Char
  | '%' :: a :: b :: r => Char.ofNat (16 * hexVal a + hexVal b) :: pctDecode r
  | '%' :: _ => []
  | c :: r => c :: pctDecode r
  | [] => []
def unpct (s : String) : String := String.ofList (pctDecode s.toList)
def parsePins (s : String) : List (Option Nat) :=
  (s.splitOn ",").filter (· ≠ "") |>.map fun t => if t == "-" then none else some t.toNat!
def parseNode (s : String) : NodeD :=
  match s.splitOn ":" with
  | [k, i, o] => { kind := unpct k, ins := parsePins i, outs := parsePins o }
  | _ => default
def parseLine (s : String) : LineD :=
  match (s.splitOn ".").map String.toNat! with
  | [a, b, c, d] => ⟨a, b, c, d⟩
  | _ => default
def parseNet (s : String) : Net :=
  match (s.splitOn ";").map (·.trimAscii.toString) with
  | [ns, ls, io] =>
    { nodes := ((ns.splitOn "|").filter (· ≠ "") |>.map parseNode).toArray,
      lines := ((ls.splitOn "|").filter (· ≠ "") |>.map parseLine).toArray,
      io := parseNats io }
  | _ => default
def showOps (ops : List OpRow) : String :=
  " ".intercalate (ops.map fun o => s!"{o.lut},{o.out},{o.i0},{o.i1},{o.i2},{o.i3}")
def showInts (l : List Int) : String := ",".intercalate (l.map toString)
def showNats (l : List Nat) : String := ",".intercalate (l.map toString)
def bitsOf (s : String) : Nat → Bool := fun i => (s.toList.getD i '0') == '1'
end NetD

structure DState where
  heap : KV.Heap.Heap := { cs := [], maxSz := 0 }
  net : Net := default

def step (st : DState) (line : String) : DState × String :=
  let l := line.trimAscii.toString
  let toks := l.splitOn " "
  match toks with
  | ["spectab", op, k] => (st, specTab op k.toNat!)
  | ["comptab", name] => (st, compTab name)
  | "wave" :: rest => (st, WaveD.handle rest.toArray)
  | ["heap", "new"] => ({ st with heap := { cs := [], maxSz := 0 } }, "ok")
  | ["heap", "alloc", n] =>
      let (loc, h') := st.heap.alloc n.toNat!
      ({ st with heap := h' }, s!"{loc} ; {HeapD.dump h'}")
  | ["heap", "free", n] =>
      match st.heap.free n.toNat! with
      | some h' => ({ st with heap := h' }, s!"ok ; {HeapD.dump h'}")
      | none => (st, "err")
  | "kahn" :: _ => (st, KahnD.handle (l.drop 5).toString)
  | "wavesim" :: _ => (st, WaveSimD.handle (l.drop 8).toString)
  | ["capture", w, t] => (st, WaveSimD.capture w t)
  | "net" :: _ => ({ st with net := NetD.parseNet (l.drop 4).toString }, "ok")
  | ["snodes"] => (st, NetD.showNats st.net.sNodes)
  | ["genops", strip, order] =>
      (st, NetD.showOps (genOps Gen.kindPrefixes st.net (parseNats order) (strip == "1")))
  | ["simops", strip, reuse, capsMin, capsSpec, order] =>
      let net := st.net
      let ops := genOps Gen.kindPrefixes net (parseNats order) (strip == "1")
      let stems := stemsOf net (strip == "1")
      let lev := levelise net.idx.len stems ops
      let capsL := (parseNats capsSpec).toArray
      let capsIn : Nat → Nat := fun i => if capsL.size == 1 then capsL[0]! else capsL.getD i 0
      let m := memMap net ops stems lev capsIn capsMin.toNat! (reuse == "1")
      (st, s!"{NetD.showOps ops} ; {NetD.showNats lev.starts.reverse} ; {NetD.showInts m.locs.toList} ; {NetD.showNats m.caps.toList} ; {m.heap.maxSz}")
  | ["evalmv", m, codes] =>
      let net := st.net
      let cs := codes.toList.map fun ch => ch.toNat - '0'.toNat
      let res : List String :=
        if m == "8" then
          let a : Nat → V3 := fun i => V3.ofCode (cs.getD i 0)
          let ok := consistentB net V3.zero specNot prim8 a (evalAll net V3.zero specNot prim8 a)
          (evalCapturesG net V3.zero specNot prim8 a).map (fun o => match o with
            | some v => toString v.code | none => "-") ++ [if ok then "" else "!"]
        else
          let a : Nat → V2 := fun i => V2.ofV3 (V3.ofCode (cs.getD i 0))
          let z := V2.ofV3 V3.zero
          let ok := consistentB net z spec4Not prim4 a (evalAll net z spec4Not prim4 a)
          (evalCapturesG net z spec4Not prim4 a).map (fun o => match o with
            | some v => toString v.code | none => "-") ++ [if ok then "" else "!"]
      (st, "".intercalate res)
  | ["mapok", strip, capsMin, rest] =>
      -- rest = ops|starts|locs|caps|clen with , inside and / between ops
      match parseMapIn st.net strip capsMin rest with
      | some p => (st, match p.checkFast with | none => "ok" | some e => "FAIL " ++ e)
      | none => (st, "bad")
  | ["opsindep", strip, capsMin, rest] =>
      -- footprint conditions of C07.level_threads_any_order / C06.level_any_thread_order_wave on the REAL tables
      -- (theorem C07.level_conditions_of_certificate: implied by `mapok`), `oneLevelB` for every (level_starts[i], level_stops[i]),
      -- number of levels with >= 2 scratch writers (where the former condition `opsIndepB` fails)
      match parseMapIn st.net strip capsMin rest with
      | some p =>
          let stops := p.starts.drop 1 ++ [p.ops.length]
          let lev := (p.starts.zip stops).all fun (a, b) => p.oneLevelB a b && decide (b ≤ p.ops.length)
          (st, s!"indep={p.levelsIndepB} onelevel={lev} capsmin={decide (2 ≤ p.capsMin)} clash={p.scratchClashLevels}")
      | none => (st, "bad")
  | ["schedok", strip, capsMin, rest, sched] =>
      match parseMapIn st.net strip capsMin rest with
      | some p => (st, if p.schedOKB (parseNats sched) then "ok" else "FAIL")
      | none => (st, "bad")
  | ["netcert", order] =>
      (st, s!"wf={st.net.wfB} order={orderOKB st.net (parseNats order)}")
  | ["simopscert", strip, order] =>
      -- hypotheses of KV.C08.simops_map_accepted on the loaded netlist and the given (real) topological order
      let o := parseNats order
      (st, s!"wf={st.net.wfB} order={orderOKB st.net o} forks={strip != "1" || forksOKB st.net o} reads={readsDrivenB Gen.kindPrefixes st.net o}")
  | ["netarity"] =>
      -- domain predicate `Net.arityOKB` (audit finding 1 / known finding D33) on the loaded netlist
      (st, s!"arity={st.net.arityOKB}")
  | ["netspeccert", order] =>
      -- hypotheses of KV.C02.sim8_netlist_all_circuits / oracle_labelling_is_simulation on the loaded netlist and order
      let o := parseNats order
      (st, s!"forks={forksOKB st.net o} lines={linesDrivenB Gen.kindPrefixes st.net o}")
  | ["forkcert", order] =>
      -- hypotheses of KV.C06.genOps_strip_link on the loaded netlist, and the branch ↦ stem list of the model
      let pairs := (stemList st.net).map fun (b, s) => s!"{b}:{s}"
      (st, s!"forks={forksOKB st.net (parseNats order)} stems={",".intercalate pairs}")
  | ["wellordered", opsS] =>
      let ops := (opsS.splitOn "/").filter (· ≠ "") |>.map WaveSimD.parseOp
      (st, if KV.Sig.wellOrderedB ops then "ok" else "FAIL")
  | ["levelsok", startsS, opsS] =>
      let ops := (opsS.splitOn "/").filter (· ≠ "") |>.map WaveSimD.parseOp
      let lvls := KV.Sig.splitLevels ops (parseNats startsS)
      let bad := (lvls.zipIdx.filter fun (lv, _) => !(KV.Sig.levelIndepB lv)).map (·.2)
      (st, if bad.isEmpty then "ok" else s!"FAIL levels {bad}")
  | ["eval2", bits, k] =>
      let net := st.net
      let a := iterState net k.toNat! (NetD.bitsOf bits)
      let n := net.sNodes.length
      -- acceptance flag over ALL iterates 0..k (audit-2 finding 7): hypothesis `iterAccepted` of C01.cycle_iter_iterState
      let ok := iterAccepted net k.toNat! (NetD.bitsOf bits)
      let cap := (evalCaptures net a).map fun o => match o with
        | some true => "1" | some false => "0" | none => "-"
      let nxt := (List.range n).map fun j => if a j then "1" else "0"
      (st, s!"{"".intercalate cap}{if ok then "" else "!"} {"".intercalate nxt}")
  | cmd :: args => (st, (KV.Drv.tryExt cmd args).getD "bad-op")
  | [] => (st, "bad-op")

partial def loop (h : IO.FS.Stream) (out : IO.FS.Stream) (st : DState) : IO Unit := do
  let line ← h.getLine
  if line.isEmpty then return ()
  let (st', ans) := step st line
  out.putStrLn ans
  out.flush
  loop h out st'

def main : IO Unit := do
  let out ← IO.getStdout
  loop (← IO.getStdin) out {}
  out.flush
