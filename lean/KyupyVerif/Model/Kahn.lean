
namespace KV.Kahn

/-! probe: model of Circuit.topological_order (after the D4 fix: counts connected pins) -/
structure G where
  n : Nat
  succs : Nat → List Nat      -- readers of the connected out-lines of a node, in pin order
  preds : Nat → List Nat      -- drivers of the connected in-lines of a node
  seq : Nat → Bool            -- dff / latch

def G.indeg (g : G) (r : Nat) : Nat := (g.preds r).length
def G.isSrc (g : G) (v : Nat) : Bool := g.indeg v == 0 || g.seq v

def bump (cnt : Nat → Nat) (r : Nat) : Nat → Nat := fun j => if j = r then cnt j + 1 else cnt j

/-- the inner `for line in n.outs` loop -/
def processSuccs (g : G) : List Nat → (Nat → Nat) × List Nat → (Nat → Nat) × List Nat
  | [], st => st
  | r :: rs, (cnt, q) =>
    let cnt' := bump cnt r
    let q' := if cnt' r == g.indeg r && !g.seq r then q ++ [r] else q
    processSuccs g rs (cnt', q')

structure KS where
  queue : List Nat
  cnt : Nat → Nat
  out : List Nat

def kstep (g : G) (s : KS) : Option KS :=
  match s.queue with
  | [] => none
  | v :: q =>
    let (cnt', q') := processSuccs g (g.succs v) (s.cnt, q)
    some { queue := q', cnt := cnt', out := s.out ++ [v] }

def kloop (g : G) : Nat → KS → KS
  | 0, s => s
  | fuel + 1, s => match kstep g s with
    | none => s
    | some s' => kloop g fuel s'

def kinit (g : G) : KS :=
  { queue := (List.range g.n).filter g.isSrc, cnt := fun _ => 0, out := [] }

def kahn (g : G) : List Nat := (kloop g (g.n + 1) (kinit g)).out

/-- edge consistency of the circuit graph: every connected line is seen from both ends -/
def G.Consistent (g : G) : Prop := ∀ v r, (g.succs v).count r = (g.preds r).count v

def procLen (g : G) (out : List Nat) (r : Nat) : Nat := ((g.preds r).filter (fun p => decide (p ∈ out))).length

/-- drivers come before readers -/
def Ordered (g : G) (out : List Nat) : Prop :=
  ∀ A r B, out = A ++ r :: B → g.isSrc r = false → ∀ v ∈ g.preds r, v ∈ A

end KV.Kahn
