
namespace KV.Sig

/-! probe: signal-level op-list semantics and the generic simulation lemma -/
structure Op where
  code : Nat
  out : Nat
  ins : List Nat

def upd {α} (env : Nat → α) (k : Nat) (v : α) : Nat → α := fun j => if j = k then v else env j

def execOp {α} (sem : Nat → List α → α) (env : Nat → α) (op : Op) : Nat → α :=
  upd env op.out (sem op.code (op.ins.map env))

def exec {α} (sem : Nat → List α → α) (ops : List Op) (env : Nat → α) : Nat → α :=
  ops.foldl (execOp sem) env

inductive All2 {α β} (R : α → β → Prop) : List α → List β → Prop
  | nil : All2 R [] []
  | cons {a b as bs} : R a b → All2 R as bs → All2 R (a :: as) (b :: bs)

theorem All2.getD {α β} {R : α → β → Prop} {xs : List α} {ys : List β} (h : All2 R xs ys)
    (i : Nat) (dx : α) (dy : β) (hd : R dx dy) : R (xs.getD i dx) (ys.getD i dy) := by
  induction h generalizing i with
  | nil => simpa using hd
  | cons hab _ ih =>
    cases i with
    | zero => simpa using hab
    | succ i => simpa using ih i

theorem All2.map {α β} {R : α → β → Prop} {e1 : Nat → α} {e2 : Nat → β} (h : ∀ l, R (e1 l) (e2 l))
    (is : List Nat) : All2 R (is.map e1) (is.map e2) := by
  induction is with
  | nil => exact .nil
  | cons i is ih => exact .cons (h i) ih

theorem All2.forall_left {α β} {R : α → β → Prop} {P : α → Prop} {xs : List α} {ys : List β}
    (h : All2 R xs ys) (hp : ∀ x y, R x y → P x) : ∀ x ∈ xs, P x := by
  induction h with
  | nil => intro x hx; cases hx
  | cons hab _ ih =>
    intro x hx
    rcases List.mem_cons.mp hx with rfl | hm
    · exact hp _ _ hab
    · exact ih x hm
theorem All2.forall_right {α β} {R : α → β → Prop} {P : β → Prop} {xs : List α} {ys : List β}
    (h : All2 R xs ys) (hp : ∀ x y, R x y → P y) : ∀ y ∈ ys, P y := by
  induction h with
  | nil => intro y hy; cases hy
  | cons hab _ ih =>
    intro y hy
    rcases List.mem_cons.mp hy with rfl | hm
    · exact hp _ _ hab
    · exact ih y hm

/-! ### generalisation: the semantics sees the whole op row (needed when the meaning of an op depends on
its operand *indices*, e.g. per-line delays and the output's capacity in the waveform simulator) -/

def execOpG {α} (sem : Op → List α → α) (env : Nat → α) (op : Op) : Nat → α :=
  upd env op.out (sem op (op.ins.map env))

def execG {α} (sem : Op → List α → α) (ops : List Op) (env : Nat → α) : Nat → α :=
  ops.foldl (execOpG sem) env

theorem exec_eq_execG {α} (sem : Nat → List α → α) (ops : List Op) (env : Nat → α) :
    exec sem ops env = execG (fun op => sem op.code) ops env := rfl

theorem execG_rel_on {α β} (R : α → β → Prop) (s1 : Op → List α → α) (s2 : Op → List β → β)
    (ops : List Op)
    (hop : ∀ op ∈ ops, ∀ (xs : List α) (ys : List β), All2 R xs ys → R (s1 op xs) (s2 op ys))
    (e1 : Nat → α) (e2 : Nat → β) (h : ∀ l, R (e1 l) (e2 l)) :
    ∀ l, R (execG s1 ops e1 l) (execG s2 ops e2 l) := by
  induction ops generalizing e1 e2 with
  | nil => simpa [execG] using h
  | cons op ops ih =>
    simp only [execG, List.foldl_cons]
    apply ih (fun o ho => hop o (List.mem_cons_of_mem _ ho))
    intro l
    simp only [execOpG, upd]
    split
    · exact hop op (List.mem_cons_self) _ _ (All2.map h op.ins)
    · exact h l

/-- simulation lemma with a per-op hypothesis: only the ops of this program need to preserve `R` -/
theorem exec_rel_on {α β} (R : α → β → Prop) (s1 : Nat → List α → α) (s2 : Nat → List β → β)
    (ops : List Op)
    (hop : ∀ op ∈ ops, ∀ (xs : List α) (ys : List β), All2 R xs ys → R (s1 op.code xs) (s2 op.code ys))
    (e1 : Nat → α) (e2 : Nat → β) (h : ∀ l, R (e1 l) (e2 l)) :
    ∀ l, R (exec s1 ops e1 l) (exec s2 ops e2 l) :=
  execG_rel_on R (fun op => s1 op.code) (fun op => s2 op.code) ops hop e1 e2 h

/-- simulation lemma: a relation preserved by every primitive is preserved by every program -/
theorem exec_rel {α β} (R : α → β → Prop) (s1 : Nat → List α → α) (s2 : Nat → List β → β)
    (hop : ∀ code (xs : List α) (ys : List β), All2 R xs ys → R (s1 code xs) (s2 code ys))
    (ops : List Op) (e1 : Nat → α) (e2 : Nat → β) (h : ∀ l, R (e1 l) (e2 l)) :
    ∀ l, R (exec s1 ops e1 l) (exec s2 ops e2 l) :=
  exec_rel_on R s1 s2 ops (fun op _ => hop op.code) e1 e2 h

/-- unary invariant version -/
theorem execG_inv_on {α} (P : α → Prop) (s : Op → List α → α) (ops : List Op)
    (hop : ∀ op ∈ ops, ∀ xs : List α, (∀ x ∈ xs, P x) → P (s op xs))
    (e : Nat → α) (h : ∀ l, P (e l)) : ∀ l, P (execG s ops e l) :=
  execG_rel_on (fun a (_ : α) => P a) s s ops (fun op hm xs _ hxy => hop op hm xs (hxy.forall_left fun _ _ h => h)) e e h

def Indep (a b : Op) : Prop := a.out ≠ b.out ∧ a.out ∉ b.ins ∧ b.out ∉ a.ins

theorem execOpG_comm {α} (sem : Op → List α → α) (a b : Op) (env : Nat → α) (h : Indep a b) :
    execOpG sem (execOpG sem env a) b = execOpG sem (execOpG sem env b) a := by
  obtain ⟨h1, h2, h3⟩ := h
  funext j
  have ea : b.ins.map (upd env a.out (sem a (a.ins.map env))) = b.ins.map env := by
    apply List.map_congr_left; intro x hx; simp [upd]; intro hxa; exact absurd (hxa ▸ hx) h2
  have eb : a.ins.map (upd env b.out (sem b (b.ins.map env))) = a.ins.map env := by
    apply List.map_congr_left; intro x hx; simp [upd]; intro hxb; exact absurd (hxb ▸ hx) h3
  simp only [execOpG, ea, eb, upd]
  by_cases hja : j = a.out <;> by_cases hjb : j = b.out <;> simp_all

/-- two ops with disjoint footprints commute -/
theorem execOp_comm {α} (sem : Nat → List α → α) (a b : Op) (env : Nat → α)
    (h1 : a.out ≠ b.out) (h2 : a.out ∉ b.ins) (h3 : b.out ∉ a.ins) :
    execOp sem (execOp sem env a) b = execOp sem (execOp sem env b) a :=
  execOpG_comm (fun op => sem op.code) a b env ⟨h1, h2, h3⟩

end KV.Sig

namespace KV.Sig
/-! ### array-based execution (what the compiled driver runs) and its equality with `execG` -/

def execArrStep {α} (d : α) (sem : Op → List α → α) (e : Array α) (op : Op) : Array α :=
  e.setIfInBounds op.out (sem op (op.ins.map fun i => e.getD i d))

def execArrG {α} (d : α) (sem : Op → List α → α) (ops : List Op) (env : Array α) : Array α :=
  ops.foldl (execArrStep d sem) env

theorem execArrStep_size {α} (d : α) (sem : Op → List α → α) (e : Array α) (op : Op) :
    (execArrStep d sem e op).size = e.size := by simp [execArrStep]

theorem execArrG_eq {α} (d : α) (sem : Op → List α → α) (ops : List Op) (env : Array α)
    (hb : ∀ op ∈ ops, op.out < env.size) (l : Nat) :
    (execArrG d sem ops env).getD l d = execG sem ops (fun i => env.getD i d) l := by
  induction ops generalizing env with
  | nil => rfl
  | cons op ops ih =>
    simp only [execArrG, execG, List.foldl_cons]
    have hsz := execArrStep_size d sem env op
    have := ih (execArrStep d sem env op) (fun o ho => by rw [hsz]; exact hb o (List.mem_cons_of_mem _ ho))
    simp only [execArrG, execG] at this
    rw [this]
    have hout := hb op List.mem_cons_self
    have henv : (fun i => (execArrStep d sem env op).getD i d) = execOpG sem (fun i => env.getD i d) op := by
      funext j
      simp only [execOpG, upd, execArrStep]
      by_cases hj : j = op.out
      · subst hj; simp [Array.getD_eq_getD_getElem?, hout]
      · simp only [hj, if_false]
        simp only [Array.getD_eq_getD_getElem?]
        rw [Array.getElem?_setIfInBounds_ne (Ne.symm hj)]
    rw [henv]

end KV.Sig

namespace KV.Sig
def nodupB : List Nat → Bool
  | [] => true
  | x :: r => !(r.contains x) && nodupB r

/-- Boolean certificate for one level: outputs pairwise different and no op reads an output of the level -/
def levelIndepB (lv : List Op) : Bool :=
  let outs := lv.map (·.out)
  nodupB outs && lv.all fun o => o.ins.all fun i => !(outs.contains i)


/-- split an op list into its levels given the level start indices -/
def splitLevels (ops : List Op) (starts : List Nat) : List (List Op) :=
  let stops := starts.drop 1 ++ [ops.length]
  (starts.zip stops).map fun (a, b) => (ops.drop a).take (b - a)
end KV.Sig
