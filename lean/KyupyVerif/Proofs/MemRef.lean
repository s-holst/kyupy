/-! An ABSTRACT soundness argument for a signal-memory map (C08 `mem_refines`): for any `Layout` (how a signal lives in memory)
and `Cert` (definition / last-use levels with the separation condition), level-wise execution on memory refines signal-level
execution. It is not instantiated for the `SimOps` tables: the theorem about the real certificate checker `MapIn.check` is
proved on its own in Proofs/MapSound.lean (`RW`, `Good`, `Inv`), which also covers schedules and aliases. -/
namespace KV.MemRef

abbrev Mem (C : Type) := Nat → C

structure Op (α : Type) where
  out : Nat
  ins : List Nat
  sem : List α → α

structure Layout (α C : Type) where
  reg : Nat → Nat → Prop                 -- reg x a : address a belongs to signal x
  get : Nat → Mem C → α
  put : Nat → α → Mem C → Mem C
  get_put : ∀ x v m, get x (put x v m) = v
  put_frame : ∀ x v m a, ¬ reg x a → put x v m a = m a
  get_dep : ∀ x m m', (∀ a, reg x a → m a = m' a) → get x m = get x m'

variable {α C : Type}

def overlap (L : Layout α C) (x y : Nat) : Prop := ∃ a, L.reg x a ∧ L.reg y a

def sigStep (env : Nat → α) (o : Op α) : Nat → α :=
  fun j => if j = o.out then o.sem (o.ins.map env) else env j

def memStep (L : Layout α C) (m : Mem C) (o : Op α) : Mem C :=
  L.put o.out (o.sem (o.ins.map fun i => L.get i m)) m

structure Cert (L : Layout α C) where
  dfn : Nat → Nat
  last : Nat → Nat
  dfn_le_last : ∀ x, dfn x ≤ last x
  sep : ∀ x y, x ≠ y → overlap L x y → last x < dfn y ∨ last y < dfn x

def LevelOK (L : Layout α C) (c : Cert L) (k : Nat) (ops : List (Op α)) : Prop :=
  (∀ o ∈ ops, c.dfn o.out = k ∧ ∀ i ∈ o.ins, c.dfn i < k ∧ k ≤ c.last i) ∧
  (ops.map (·.out)).Nodup

/-- invariant inside level k after executing a prefix whose outputs are `done` -/
def J (L : Layout α C) (c : Cert L) (k : Nat) (done : List Nat) (m : Mem C) (env : Nat → α) : Prop :=
  (∀ x, c.dfn x < k → k ≤ c.last x → L.get x m = env x) ∧
  (∀ x ∈ done, L.get x m = env x)

theorem step_J (L : Layout α C) (c : Cert L) (k : Nat) (done : List Nat) (m : Mem C) (env : Nat → α)
    (o : Op α) (hdfn : c.dfn o.out = k) (hins : ∀ i ∈ o.ins, c.dfn i < k ∧ k ≤ c.last i)
    (hdone : ∀ x ∈ done, c.dfn x = k ∧ x ≠ o.out)
    (h : J L c k done m env) :
    J L c k (o.out :: done) (memStep L m o) (sigStep env o) := by
  obtain ⟨hlive, hd⟩ := h
  have hargs : (o.ins.map fun i => L.get i m) = o.ins.map env := by
    apply List.map_congr_left
    intro i hi
    exact hlive i (hins i hi).1 (hins i hi).2
  have hlast_out : k ≤ c.last o.out := hdfn ▸ c.dfn_le_last o.out
  -- a signal other than the output whose life overlaps level `k` keeps its reading: the regions are disjoint
  have frame : ∀ x, x ≠ o.out → c.dfn x ≤ k → k ≤ c.last x → L.get x (memStep L m o) = L.get x m := by
    intro x hne h1 h2
    apply L.get_dep
    intro a ha
    exact L.put_frame _ _ _ a fun hy => by rcases c.sep x o.out hne ⟨a, ha, hy⟩ with h | h <;> omega
  refine ⟨?_, ?_⟩
  · intro x hx1 hx2
    have hne : x ≠ o.out := by intro e; subst e; omega
    simp only [sigStep, hne, if_false, frame x hne (by omega) hx2]
    exact hlive x hx1 hx2
  · intro x hx
    rcases List.mem_cons.mp hx with rfl | hx
    · simp [memStep, sigStep, L.get_put, hargs]
    · obtain ⟨hxk, hne⟩ := hdone x hx
      have hlx : k ≤ c.last x := hxk ▸ c.dfn_le_last x
      simp only [sigStep, hne, if_false, frame x hne (by omega) hlx]
      exact hd x hx

def runSig (env : Nat → α) (ops : List (Op α)) : Nat → α := ops.foldl sigStep env
def runMem (L : Layout α C) (m : Mem C) (ops : List (Op α)) : Mem C := ops.foldl (memStep L) m

theorem level_J (L : Layout α C) (c : Cert L) (k : Nat) (ops : List (Op α)) :
    ∀ (done : List Nat) (m : Mem C) (env : Nat → α),
    (∀ o ∈ ops, c.dfn o.out = k ∧ ∀ i ∈ o.ins, c.dfn i < k ∧ k ≤ c.last i) →
    (ops.map (·.out)).Nodup → (∀ x ∈ done, c.dfn x = k ∧ x ∉ ops.map (·.out)) →
    J L c k done m env →
    J L c k ((ops.map (·.out)).reverse ++ done) (runMem L m ops) (runSig env ops) := by
  induction ops with
  | nil => intro done m env _ _ _ h; simpa [runMem, runSig] using h
  | cons o rest ih =>
    intro done m env hops hnd hdone h
    simp only [List.map_cons, List.nodup_cons] at hnd
    have ho := hops o (by simp)
    have hstep := step_J L c k done m env o ho.1 ho.2
      (fun x hx => ⟨(hdone x hx).1, fun e => (hdone x hx).2 (by simp [e])⟩) h
    have := ih (o.out :: done) (memStep L m o) (sigStep env o)
      (fun o' ho' => hops o' (List.mem_cons_of_mem _ ho')) hnd.2
      (by
        intro x hx
        rcases List.mem_cons.mp hx with rfl | hx
        · exact ⟨ho.1, hnd.1⟩
        · exact ⟨(hdone x hx).1, fun hm => (hdone x hx).2 (by simp [hm])⟩)
      hstep
    simpa [runMem, runSig, List.reverse_cons, List.append_assoc] using this

/-- invariant between levels -/
def I (L : Layout α C) (c : Cert L) (k : Nat) (m : Mem C) (env : Nat → α) : Prop :=
  ∀ x, c.dfn x < k → k ≤ c.last x → L.get x m = env x

theorem level_I (L : Layout α C) (c : Cert L) (k : Nat) (ops : List (Op α)) (m : Mem C) (env : Nat → α)
    (hops : ∀ o ∈ ops, c.dfn o.out = k ∧ ∀ i ∈ o.ins, c.dfn i < k ∧ k ≤ c.last i)
    (hnd : (ops.map (·.out)).Nodup)
    (hcover : ∀ x, c.dfn x = k → x ∈ ops.map (·.out))
    (h : I L c k m env) : I L c (k + 1) (runMem L m ops) (runSig env ops) := by
  have hJ := level_J L c k ops [] m env hops hnd (by simp) ⟨h, by simp⟩
  intro x hx1 hx2
  rcases Nat.lt_or_ge (c.dfn x) k with hlt | hge
  · exact hJ.1 x hlt (by omega)
  · have : c.dfn x = k := by omega
    exact hJ.2 x (by simpa using hcover x this)

theorem prog_I (L : Layout α C) (c : Cert L) :
    ∀ (levels : List (List (Op α))) (k : Nat) (m : Mem C) (env : Nat → α),
    (∀ j (hj : j < levels.length), let ops := levels[j]
        (∀ o ∈ ops, c.dfn o.out = k + j ∧ ∀ i ∈ o.ins, c.dfn i < k + j ∧ k + j ≤ c.last i) ∧
        (ops.map (·.out)).Nodup ∧ (∀ x, c.dfn x = k + j → x ∈ ops.map (·.out))) →
    I L c k m env →
    I L c (k + levels.length) (levels.foldl (runMem L) m) (levels.foldl runSig env) := by
  intro levels
  induction levels with
  | nil => intro k m env _ h; simpa using h
  | cons ops rest ih =>
    intro k m env hall h
    have h0 := hall 0 (by simp)
    simp only [List.getElem_cons_zero, Nat.add_zero] at h0
    have h1 := level_I L c k ops m env h0.1 h0.2.1 h0.2.2 h
    have := ih (k + 1) (runMem L m ops) (runSig env ops)
      (by
        intro j hj
        have := hall (j + 1) (by simp; omega)
        simp only [List.getElem_cons_succ] at this
        simpa [Nat.add_assoc, Nat.add_comm 1 j] using this)
      h1
    simpa [List.foldl_cons, Nat.add_assoc, Nat.add_comm 1 rest.length] using this

end KV.MemRef
