import KyupyVerif.Proofs.SubstKeepsAll
/-! C10, `resolve_tlib_cells` (circuit.py; model `resolveCells`) as a chain of substitutions.  Shared by both loops (this file and
Proofs/ResolveGeneral.lean): the cell's relational meaning `CellSem` and its transport `implMatches_move`, and the walk over the key
list done ONCE for an abstract invariant `Inv cur D` ("`cur` is `h` with the cells in `D` substituted") and an abstract run-time
condition `ok` (`resolve_fold_inv`, `resolve_cells_inv`).  Then the loop in which nothing is removed (`resolve_sem` of Props/C10):
invariant `ResRel`, one substitution keeps it (`resRel_step`, from the certificate `SubstCertD` that `substitute_cert` gives), the whole
loop (`resolve_sem_main`) — the labellings of the final circuit correspond to the labellings of the original circuit in which every
library cell has the relational meaning of its implementation. -/
namespace KV.Transform
open KV

theorem implMatches_move {α : Type _} (H1 H2 : NNet) (c1 c2 : Nat) (m : NNet) (sh : Shape) (z : α) (neg : α → α)
    (prim : String → α → α → α → α → α) (anm vm v1 v2 : Nat → α)
    (hins : ∀ k, (instIn H1 c1 k).isNone = (instIn H2 c2 k).isNone)
    (hinv : ∀ k l1 l2, instIn H1 c1 k = some l1 → instIn H2 c2 k = some l2 → v2 l2 = v1 l1)
    (hout : ∀ k il l2, sh.outLines[k]? = some il → instOut H2 c2 k = some l2 → vm il = v2 l2)
    (hM : ImplMatches H1 c1 m sh z neg prim anm vm v1) : ImplMatches H2 c2 m sh z neg prim anm vm v2 := by
  obtain ⟨h1, h2, _⟩ := hM
  have hdead : deadLine H1 c1 m sh = deadLine H2 c2 m sh := by
    funext l
    simp only [deadLine, hins]
  have hport : ∀ p, portVal H2 c2 sh z v2 p = portVal H1 c1 sh z v1 p := by
    intro p
    simp only [portVal]
    have := hins (sh.inPorts.idxOf p)
    -- both pins open or both connected; with both open the two sides are `z`, which the `rw` closes
    cases e1 : instIn H1 c1 (sh.inPorts.idxOf p) <;> cases e2 : instIn H2 c2 (sh.inPorts.idxOf p) <;> rw [e1, e2] at this
    · simp at this
    · simp at this
    · exact hinv _ _ _ e1 e2
  refine ⟨by rw [← hdead]; exact h1, fun p hp => by rw [h2 p hp, hport], hout⟩

def CellSem {α : Type _} (lib : Lib) (h : NNet) (c : Nat) (z : α) (neg : α → α) (prim : String → α → α → α → α → α)
    (v : Nat → α) : Prop :=
  ∃ impl sh anm vm, lib.find (h.net.node c).kind = some impl ∧ implShape impl = some sh ∧
    ImplMatches h c impl sh z neg prim anm vm v

/-- `cur` is the original circuit `h` with the cells in `D` substituted: the original nodes keep index and key, those outside `D` are
    untouched.  `fw` / `bw`: a labelling of `cur` is a labelling of `h` with the cells of `D` as holes that have the meaning of their
    implementations (`CellSem`), and such a labelling of `h` extends to one of `cur` (same values on the lines of `h`).  `S` = further
    holes, original nodes not yet substituted: a step needs them to treat its own cell `d` as a hole of `h` (`holes_step`). -/
structure ResRel {α : Type _} (lib : Lib) (h : NNet) (z : α) (neg : α → α) (prim : String → α → α → α → α → α)
    (cur : NNet) (D : Nat → Prop) : Prop where
  wf : WF cur
  nsize : h.net.nodes.size ≤ cur.net.nodes.size
  lsize : h.net.lines.size ≤ cur.net.lines.size
  io : cur.net.io = h.net.io
  node : ∀ d, d < h.net.nodes.size → ¬ D d → cur.net.node d = h.net.node d
  key : ∀ d, d < h.net.nodes.size → cur.key d = h.key d
  fw : ∀ (S : Nat → Prop), (∀ s, S s → s < h.net.nodes.size ∧ ¬ D s) → ∀ an' v' : Nat → α,
    ConsOff cur S z neg prim an' v' →
    ConsOff h (fun d => S d ∨ D d) z neg prim an' v' ∧ ∀ c, D c → CellSem lib h c z neg prim v'
  bw : ∀ (S : Nat → Prop) (an v : Nat → α),
    ConsOff h (fun d => S d ∨ D d) z neg prim an v → (∀ c, D c → CellSem lib h c z neg prim v) →
    ∃ an' v', ConsOff cur S z neg prim an' v' ∧ (∀ l, l < h.net.lines.size → v' l = v l) ∧
      (∀ d, d < h.net.nodes.size → ¬ D d → an' d = an d)

theorem resRel_refl {α : Type _} (lib : Lib) (h : NNet) (w : WF h) (z : α) (neg : α → α) (prim : String → α → α → α → α → α) :
    ResRel lib h z neg prim h (fun _ => False) := by
  refine ⟨w, Nat.le_refl _, Nat.le_refl _, rfl, fun _ _ _ => rfl, fun _ _ => rfl, ?_, ?_⟩
  · intro S _ an' v' hc
    exact ⟨consOff_congr (fun d => by simp) hc, fun c hc' => absurd hc' id⟩
  · intro S an v hc _
    exact ⟨an, v, consOff_congr (fun d => by simp) hc, fun _ _ => rfl, fun _ _ _ => rfl⟩

theorem holes_step {N : Nat} {S D : Nat → Prop} {d : Nat} (hS : ∀ s, S s → s < N ∧ ¬ (D s ∨ s = d)) (hd : d < N) (hnD : ¬ D d) :
    ∀ s, (S s ∨ s = d) → s < N ∧ ¬ D s := by
  rintro s (hs | hs)
  · exact ⟨(hS s hs).1, fun x => (hS s hs).2 (Or.inl x)⟩
  · rw [hs]; exact ⟨hd, hnD⟩

theorem resRel_step {α : Type _} {lib : Lib} {h : NNet} {z : α} {neg : α → α} {prim : String → α → α → α → α → α}
    {cur : NNet} {D : Nat → Prop} (r : ResRel lib h z neg prim cur D) (hw : WF h) (d : Nat) (hd : d < h.net.nodes.size) (hnd : ¬ D d)
    (impl : NNet) (hfind : lib.find (h.net.node d).kind = some impl)
    (sh : Shape) (dn : Nat) (map : Array (Option Nat)) (nxt : NNet) (ct : SubstCertD cur d impl sh dn map nxt) :
    ResRel lib h z neg prim nxt (fun x => D x ∨ x = d) := by
  have hnode := r.node d hd hnd
  have hin : ∀ k, instIn cur d k = instIn h d k := fun k => by simp [instIn, hnode]
  have hout : ∀ k, instOut cur d k = instOut h d k := fun k => by simp [instOut, hnode]
  refine ⟨SubstCertD.wf' ct, Nat.le_trans r.nsize ct.nsize, ?_, ct.io'.trans r.io, ?_, ?_, ?_, ?_⟩
  · rw [ct.lsize]; have := r.lsize; omega
  · intro d' hd' hn
    obtain ⟨h1, h2⟩ := not_or.mp hn
    rw [ct.frameNode d' (Nat.lt_of_lt_of_le hd' r.nsize) h2]; exact r.node d' hd' h1
  · intro d' hd'
    rw [ct.keyFrame d' (Nat.lt_of_lt_of_le hd' r.nsize)]; exact r.key d' hd'
  · intro S hS an' v' hc
    have hS1 : ∀ s, S s → s < cur.net.nodes.size ∧ s ≠ d := by
      intro s hs
      obtain ⟨a, b⟩ := hS s hs
      exact ⟨Nat.lt_of_lt_of_le a r.nsize, fun e => b (Or.inr e)⟩
    obtain ⟨f1, anm, vm, hM, _⟩ := ct.forward z neg prim S hS1 an' v' hc
    have hS2 := holes_step hS hd hnd
    obtain ⟨g1, g2⟩ := r.fw (fun s => S s ∨ s = d) hS2 an' v' f1
    refine ⟨consOff_congr (fun x => by rw [or_assoc, or_comm (a := x = d)]) g1, ?_⟩
    rintro c' (hc' | hc')
    · exact g2 c' hc'
    · subst hc'
      exact ⟨impl, sh, anm, vm, hfind, ct.shape, implMatches_move cur h c' c' impl sh z neg prim anm vm v' v' (fun k => by rw [hin])
        (fun k l1 l2 h1 h2 => by rw [hin, h2] at h1; rw [Option.some.inj h1])
        (fun k il l2 hk ho => hM.2.2 k il l2 hk (by rw [hout]; exact ho)) hM⟩
  · intro S an v hc hcells
    obtain ⟨an1, v1, c1, e1, e2⟩ := r.bw (fun s => S s ∨ s = d) an v
      (consOff_congr (fun x => by rw [or_assoc, or_comm (a := x = d)]) hc)
      (fun c' hc' => hcells c' (Or.inl hc'))
    obtain ⟨impl', sh', anm, vm, hf', hs', hM⟩ := hcells d (Or.inr rfl)
    have : impl' = impl := Option.some.inj (hf'.symm.trans hfind)
    subst this
    have : sh' = sh := Option.some.inj (hs'.symm.trans ct.shape)
    subst this
    -- the cell's meaning under the labelling of `cur`
    have hM1 : ImplMatches cur d impl' sh' z neg prim anm vm v1 := by
      apply implMatches_move h cur d d impl' sh' z neg prim anm vm v v1 (fun k => by rw [hin]) _ _ hM
      · intro k l1 l2 h1 h2
        rw [hin, h1] at h2
        rw [← Option.some.inj h2]
        exact e1 l1 (hw.fwdIn d hd k l1 h1).1
      · intro k il l2 hk ho
        rw [hout] at ho
        rw [hM.2.2 k il l2 hk ho, e1 l2 (hw.fwdOut d hd k l2 ho).1]
    obtain ⟨an', v', c2, b1, b2, _⟩ := ct.backward z neg prim S an1 v1 anm vm c1 hM1
    refine ⟨an', v', c2, fun l hl => (b1 l (Nat.lt_of_lt_of_le hl r.lsize)).trans (e1 l hl), ?_⟩
    intro d' hd' hn
    obtain ⟨h1, h2⟩ := not_or.mp hn
    exact (b2 d' (Nat.lt_of_lt_of_le hd' r.nsize) h2).trans (e2 d' hd' h1)


/-- the loop of `resolveCells`, once for both invariants: if one `resolveStep` at an original node `d` (not yet done) carries `Inv` from
    `D` to `D ∪ {d | its kind is in the library}`, then `Inv` holds at the end for `D` and the library cells among `ds`.  `ok` = the
    run-time condition, a function of the keys still to come and the current circuit; a step hands it on. -/
theorem resolve_fold_inv (lib : Lib) (h : NNet) (Inv : NNet → (Nat → Prop) → Prop) (ok : List (String × Bool) → NNet → Bool)
    (step : ∀ cur D d ks s1, d < h.net.nodes.size → ¬ D d → Inv cur D → ok (h.key d :: ks) cur = true →
      resolveStep lib cur (h.key d) = some s1 →
      ok ks s1 = true ∧ ∃ D', (∀ x, D' x ↔ (D x ∨ (x = d ∧ (lib.find (h.net.node x).kind).isSome = true))) ∧ Inv s1 D') :
    ∀ (ds : List Nat) (cur : NNet) (D : Nat → Prop) (h' : NNet), (∀ d ∈ ds, d < h.net.nodes.size ∧ ¬ D d) → ds.Nodup →
    Inv cur D → ok (ds.map h.key) cur = true → (ds.map h.key).foldlM (resolveStep lib) cur = some h' →
    ∃ D', (∀ x, D' x ↔ (D x ∨ (x ∈ ds ∧ (lib.find (h.net.node x).kind).isSome = true))) ∧ Inv h' D'
  | [], cur, D, h', _, _, r, _, he => by
    simp only [List.map_nil, List.foldlM_nil] at he
    cases (Option.some.inj he)
    exact ⟨D, fun x => by simp, r⟩
  | d :: ds, cur, D, h', hds, hnd, r, hok, he => by
    obtain ⟨hd, hnD⟩ := hds d List.mem_cons_self
    have hnd' := List.nodup_cons.mp hnd
    simp only [List.map_cons, List.foldlM_cons, Option.bind_eq_bind, Option.bind_eq_some_iff] at he
    obtain ⟨s1, hs1, hfold⟩ := he
    obtain ⟨k6, D1, hD1, r1⟩ := step cur D d (ds.map h.key) s1 hd hnD r hok hs1
    obtain ⟨D2, hD2, r2⟩ := resolve_fold_inv lib h Inv ok step ds s1 D1 h'
      (fun d' hd' => ⟨(hds d' (List.mem_cons_of_mem _ hd')).1, fun a => by
        rcases (hD1 d').mp a with a | a
        · exact (hds d' (List.mem_cons_of_mem _ hd')).2 a
        · exact hnd'.1 (a.1 ▸ hd')⟩) hnd'.2 r1 k6 hfold
    refine ⟨D2, fun x => ?_, r2⟩
    rw [hD2, hD1, List.mem_cons, or_assoc, or_and_right]

/-- … for `resolveCells` (the snapshot of all nodes), from the empty set of substituted cells -/
theorem resolve_cells_inv (lib : Lib) (h h' : NNet) (Inv : NNet → (Nat → Prop) → Prop) (ok : List (String × Bool) → NNet → Bool)
    (step : ∀ cur D d ks s1, d < h.net.nodes.size → ¬ D d → Inv cur D → ok (h.key d :: ks) cur = true →
      resolveStep lib cur (h.key d) = some s1 →
      ok ks s1 = true ∧ ∃ D', (∀ x, D' x ↔ (D x ∨ (x = d ∧ (lib.find (h.net.node x).kind).isSome = true))) ∧ Inv s1 D')
    (r0 : Inv h (fun _ => False)) (hok : ok h.keys h = true) (he : resolveCells lib h = some h') :
    Inv h' (fun x => x < h.net.nodes.size ∧ (lib.find (h.net.node x).kind).isSome = true) := by
  obtain ⟨D', hD', r⟩ := resolve_fold_inv lib h Inv ok step (List.range h.net.nodes.size) h (fun _ => False) h'
    (fun d hd => ⟨List.mem_range.mp hd, fun x => x⟩) List.nodup_range r0 hok he
  have : D' = fun x => x < h.net.nodes.size ∧ (lib.find (h.net.node x).kind).isSome = true :=
    funext fun x => propext ((hD' x).trans (by simp))
  exact this ▸ r

theorem resolve_sem_main {α : Type _} (lib : Lib) (h h' : NNet) (hw : WF h) (z : α) (neg : α → α)
    (prim : String → α → α → α → α → α) (hok : resolveOKB lib h.keys h = true) (he : resolveCells lib h = some h') :
    ResRel lib h z neg prim h' (fun x => x < h.net.nodes.size ∧ (lib.find (h.net.node x).kind).isSome = true) := by
  refine resolve_cells_inv lib h h' (ResRel lib h z neg prim) (resolveOKB lib) (fun cur D d ks s1 hd hnD r hok hs1 => ?_)
    (resRel_refl lib h hw z neg prim) hok he
  have hdc : d < cur.net.nodes.size := Nat.lt_of_lt_of_le hd r.nsize
  have hlook : cur.lookup (h.key d) = d := by rw [← r.key d hd]; exact lookup_key_m cur r.wf.nodup d hdc
  have hnode := r.node d hd hnD
  simp only [resolveOKB, hlook, hdc, if_true, hnode] at hok
  simp only [resolveStep, hlook, hdc, if_true, hnode] at hs1
  cases hfind : lib.find (h.net.node d).kind with
  | none =>
    rw [hfind] at hok hs1
    cases (Option.some.inj hs1)
    exact ⟨hok, D, fun x => ⟨Or.inl, fun a => a.elim id fun b => by rw [b.1, hfind] at b; simp at b⟩, r⟩
  | some impl =>
    rw [hfind] at hok hs1
    simp only [Bool.and_eq_true, Bool.not_eq_true'] at hok
    obtain ⟨⟨⟨⟨⟨k1, k2⟩, k3⟩, k4⟩, k5⟩, k6⟩ := hok
    have hs1 : substitute cur d impl = some s1 := hs1
    rw [hs1] at k6
    have hcf : (cur.net.node d).isFork = false := by rw [hnode]; exact k5
    obtain ⟨sh, dn, map, ct⟩ := substitute_cert cur impl s1 d r.wf (WF.of_wf k1) hdc k4 hcf k3 k2 hs1
    exact ⟨k6, _, fun x => ⟨fun a => a.imp_right fun b => ⟨b, by rw [b, hfind]; rfl⟩, fun a => a.imp_right (·.1)⟩,
      resRel_step r hw d hd hnD impl hfind sh dn map s1 ct⟩

end KV.Transform
