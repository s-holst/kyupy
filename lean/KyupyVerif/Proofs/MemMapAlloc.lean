import KyupyVerif.Proofs.MemMapStatic
import KyupyVerif.Proofs.HeapHist
/-! The allocation invariant of `memMap` (fold form): along the pre-loop and the level loop every signal that owns
memory and is not dead holds a region of the heap's live set, live signals have different locations, and any two
signals that own memory are disjoint or have separated life times (`last x < dfn y`). -/
namespace KV
open KV.Heap

def MapSt.loc (s : MapSt) (x : Nat) : Int := s.locs.getD x (-1)
def MapSt.cap (s : MapSt) (x : Nat) : Nat := s.caps.getD x 0

def ovl (s : MapSt) (x y : Nat) : Prop :=
  s.loc x < s.loc y + (s.cap y : Int) ∧ s.loc y < s.loc x + (s.cap x : Int)

theorem allocAt_heap (s : MapSt) (i c : Nat) : (allocAt s i c).heap = (s.heap.alloc c).2 := rfl
theorem allocAt_refc (s : MapSt) (i c : Nat) : (allocAt s i c).refc = s.refc := rfl
theorem allocAt_szl (s : MapSt) (i c : Nat) : (allocAt s i c).locs.size = s.locs.size := by simp [allocAt]
theorem allocAt_szc (s : MapSt) (i c : Nat) : (allocAt s i c).caps.size = s.caps.size := by simp [allocAt]
theorem allocAt_loc_self (s : MapSt) (i c : Nat) (hi : i < s.locs.size) :
    (allocAt s i c).loc i = ((s.heap.alloc c).1 : Int) := by
  simp [allocAt, MapSt.loc, hi]
theorem allocAt_cap_self (s : MapSt) (i c : Nat) (hi : i < s.caps.size) : (allocAt s i c).cap i = c := by
  simp [allocAt, MapSt.cap, hi]
theorem allocAt_loc_ne (s : MapSt) (i c x : Nat) (h : x ≠ i) : (allocAt s i c).loc x = s.loc x := by
  simp [allocAt, MapSt.loc, Ne.symm h]
theorem allocAt_cap_ne (s : MapSt) (i c x : Nat) (h : x ≠ i) : (allocAt s i c).cap x = s.cap x := by
  simp [allocAt, MapSt.cap, Ne.symm h]

/-- `A` = signals that own memory, `a` = start of the current level (signals dead at `a` have been released or may be) -/
structure AInv (p : MapIn) (reuse : Bool) (a : Nat) (A : Nat → Prop) (s : MapSt) : Prop where
  szl : s.locs.size = p.ix.len
  szc : s.caps.size = p.ix.len
  hi : HInv s.heap
  bd : ∀ x, A x → 0 ≤ s.loc x ∧ s.loc x + (s.cap x : Int) ≤ (s.heap.maxSz : Int) ∧ p.capsMin ≤ s.cap x
  lv : ∀ x, A x → ¬ Dead p reuse a x → ((s.loc x).toNat, s.cap x) ∈ s.heap.used
  inj : ∀ x y, A x → A y → ¬ Dead p reuse a x → ¬ Dead p reuse a y → s.loc x = s.loc y → x = y
  /-- the second alternative is offered only off the scratch slots: `last` / `dfn` say nothing about them (several rows write `tmp`) -/
  sep : ∀ x y, A x → A y → x ≠ y → ¬ ovl s x y ∨
    (x ≠ p.ix.tmp ∧ x ≠ p.ix.tmp2 ∧ y ≠ p.ix.tmp ∧ y ≠ p.ix.tmp2 ∧ (p.last x < p.dfn y ∨ p.last y < p.dfn x))

theorem AInv.weaken {p : MapIn} {reuse : Bool} {a : Nat} {A A' : Nat → Prop} {s : MapSt}
    (h : AInv p reuse a A s) (hA : ∀ x, A' x → A x) : AInv p reuse a A' s :=
  ⟨h.szl, h.szc, h.hi, fun x hx => h.bd x (hA x hx), fun x hx => h.lv x (hA x hx),
   fun x y hx hy => h.inj x y (hA x hx) (hA y hy), fun x y hx hy => h.sep x y (hA x hx) (hA y hy)⟩

def withRefc (s : MapSt) (r : Array Int) : MapSt := { s with refc := r }

theorem AInv.withRefc {p : MapIn} {reuse : Bool} {a : Nat} {A : Nat → Prop} {s : MapSt}
    (h : AInv p reuse a A s) (r : Array Int) : AInv p reuse a A (withRefc s r) :=
  ⟨h.szl, h.szc, h.hi, h.bd, h.lv, h.inj, h.sep⟩

theorem AInv.alloc {p : MapIn} {reuse : Bool} {a : Nat} {A : Nat → Prop} {s : MapSt} (h : AInv p reuse a A s)
    (y c : Nat) (hy : ¬ A y) (hlen : y < p.ix.len) (hmin : p.capsMin ≤ c) (hc : 0 < c) (hpos : 0 < p.capsMin)
    (hdead : ∀ x, A x → Dead p reuse a x →
      x ≠ p.ix.tmp ∧ x ≠ p.ix.tmp2 ∧ y ≠ p.ix.tmp ∧ y ≠ p.ix.tmp2 ∧ p.last x < p.dfn y) :
    AInv p reuse a (fun x => A x ∨ x = y) (allocAt s y c) := by
  obtain ⟨hu, f6, f3⟩ := alloc_spec s.heap c
  obtain ⟨f0, f2, _⟩ := alloc_hwm s.heap c h.hi
  have hyl : y < s.locs.size := by rw [h.szl]; exact hlen
  have hyc : y < s.caps.size := by rw [h.szc]; exact hlen
  have ly := allocAt_loc_self s y c hyl
  have cy := allocAt_cap_self s y c hyc
  have lo : ∀ x, A x → (allocAt s y c).loc x = s.loc x ∧ (allocAt s y c).cap x = s.cap x := by
    intro x hx
    have hne : x ≠ y := fun e => hy (e ▸ hx)
    exact ⟨allocAt_loc_ne s y c x hne, allocAt_cap_ne s y c x hne⟩
  -- the heap hands out a chunk disjoint from every live one (`alloc_spec`), and a signal that is not dead holds a live chunk (`lv`)
  have disj : ∀ x, A x → ¬ Dead p reuse a x → ¬ ovl (allocAt s y c) x y ∧ s.loc x ≠ ((s.heap.alloc c).1 : Int) := by
    intro x hx hd
    have hr := h.lv x hx hd
    have hb := h.bd x hx
    have hcx : 0 < s.cap x := Nat.lt_of_lt_of_le hpos hb.2.2
    have := f6 _ hr
    simp only at this
    obtain ⟨e1, e2⟩ := lo x hx
    refine ⟨?_, ?_⟩
    · unfold ovl
      rw [e1, e2, ly, cy]
      omega
    · omega
  refine ⟨by rw [allocAt_szl]; exact h.szl, by rw [allocAt_szc]; exact h.szc, by rw [allocAt_heap]; exact alloc_inv s.heap c hc h.hi, ?_, ?_, ?_, ?_⟩
  · rintro x (hx | rfl)
    · obtain ⟨e1, e2⟩ := lo x hx
      have := h.bd x hx
      rw [e1, e2, allocAt_heap]
      refine ⟨this.1, ?_, this.2.2⟩
      have := this.2.1
      omega
    · rw [ly, cy, allocAt_heap]
      exact ⟨by omega, by omega, hmin⟩
  · rintro x (hx | rfl) hd
    · obtain ⟨e1, e2⟩ := lo x hx
      rw [e1, e2, allocAt_heap]
      exact (hu _).mpr (.inr (h.lv x hx hd))
    · rw [ly, cy, allocAt_heap]
      simpa using (hu _).mpr (.inl rfl)
  · rintro x z (hx | rfl) (hz | rfl) hdx hdz he
    · rw [(lo x hx).1, (lo z hz).1] at he
      exact h.inj x z hx hz hdx hdz he
    · rw [(lo x hx).1, ly] at he
      exact absurd he (disj x hx hdx).2
    · rw [(lo z hz).1, ly] at he
      exact absurd he.symm (disj z hz hdz).2
    · rfl
  · rintro x z (hx | rfl) (hz | rfl) hxz
    · have : ovl (allocAt s y c) x z ↔ ovl s x z := by
        simp only [ovl, (lo x hx).1, (lo x hx).2, (lo z hz).1, (lo z hz).2]
      rw [this]; exact h.sep x z hx hz hxz
    · by_cases hd : Dead p reuse a x
      · obtain ⟨g1, g2, g3, g4, g5⟩ := hdead x hx hd
        exact .inr ⟨g1, g2, g3, g4, .inl g5⟩
      · exact .inl (disj x hx hd).1
    · by_cases hd : Dead p reuse a z
      · obtain ⟨g1, g2, g3, g4, g5⟩ := hdead z hz hd
        exact .inr ⟨g3, g4, g1, g2, .inr g5⟩
      · left
        intro ho
        exact (disj z hz hd).1 ⟨ho.2, ho.1⟩
    · exact absurd rfl hxz

def FsInv (p : MapIn) (reuse : Bool) (a k : Nat) (A : Nat → Prop) (s : MapSt) (fs : List Int) : Prop :=
  reuse = true → ∀ l ∈ fs, ∃ x, A x ∧ ¬ Dead p reuse a x ∧ Dead p reuse k x ∧ l = s.loc x

theorem AInv.level_end {p : MapIn} {reuse : Bool} {a b : Nat} {A : Nat → Prop} {s : MapSt} {fs : List Int}
    (h : AInv p reuse a A s) (hab : a ≤ b) (hfs : FsInv p reuse a b A s fs) :
    AInv p reuse b A (if reuse then { s with heap := freeAll s.heap fs } else s) := by
  cases reuse with
  | false =>
    simp only [Bool.false_eq_true, if_false]
    exact ⟨h.szl, h.szc, h.hi, h.bd, fun x hx _ => h.lv x hx (not_dead_noreuse p a x),
      fun x y hx hy _ _ => h.inj x y hx hy (not_dead_noreuse p a x) (not_dead_noreuse p a y), h.sep⟩
  | true =>
    simp only [if_true]
    obtain ⟨f1, f2, f3⟩ := freeAll_spec fs s.heap h.hi
    have nd : ∀ x, ¬ Dead p true b x → ¬ Dead p true a x := fun x hx hd => hx (hd.mono hab)
    refine ⟨h.szl, h.szc, f1, ?_, ?_, ?_, h.sep⟩
    · intro x hx
      show 0 ≤ s.loc x ∧ s.loc x + (s.cap x : Int) ≤ ((freeAll s.heap fs).maxSz : Int) ∧ _
      rw [f2]; exact h.bd x hx
    · intro x hx hd
      show ((s.loc x).toNat, s.cap x) ∈ (freeAll s.heap fs).used
      refine (f3 _).mpr ⟨h.lv x hx (nd x hd), ?_⟩
      simp only [List.mem_map, not_exists, not_and]
      intro l hl
      obtain ⟨x', hx', hda, hdb, rfl⟩ := hfs rfl l hl
      intro he
      have hne : x' ≠ x := fun e => hd (e ▸ hdb)
      apply hne
      apply h.inj x' x hx' hx hda (nd x hd)
      have b1 := (h.bd x hx).1
      have b2 := (h.bd x' hx').1
      omega
    · intro x y hx hy hdx hdy
      exact h.inj x y hx hy (nd x hdx) (nd y hdy)

/-- the count of `x` is at least the number of operand occurrences still to come, plus one if `x` is pinned (an inequality:
    the initial pinning, `prePins` in Proofs/MemMapPre.lean, may pin a signal more than once — an input slot that is also captured) -/
def RcInv (p : MapIn) (k : Nat) (s : MapSt) : Prop :=
  s.refc.size = p.ix.len ∧ ∀ x, x < p.ix.len →
    (occ p.stems x (p.ops.drop k) : Int) + (if pinnedM p x then 1 else 0) ≤ s.refc.getD x 0

theorem foldl_decRef (xs : List Nat) (s : MapSt) : xs.foldl decRef s = withRefc s (decs s.refc xs) := by
  induction xs generalizing s with
  | nil => rfl
  | cons x r ih => simp only [List.foldl_cons, ih, decRef, decs, withRefc]

-- `decs` is used through `decs_size`, `decs_getD` only; sealed, the unifier does not unroll the four decrements of a row
-- whenever it compares two states
attribute [local irreducible] decs

def decRow (st : Array (Option Nat)) (s : MapSt) (o : OpRow) : MapSt := withRefc s (decs s.refc (opSrcs st o))

theorem mapOpStep_eq (ix : Idx) (st : Array (Option Nat)) (capsIn : Nat → Nat) (capsMin : Nat) (s : MapSt)
    (fs : List Int) (o : OpRow) : mapOpStep ix st capsIn capsMin (s, fs) o =
      if o.out = ix.tmp then (decRow st s o, (opSrcs st o).foldl (collectStep (decRow st s o)) fs)
      else (allocAt (decRow st s o) o.out (max capsMin (capsIn o.out)),
        (opSrcs st o).foldl (collectStep (decRow st s o)) fs) := by
  unfold mapOpStep
  simp only [foldl_decRef, bne_iff_ne, ne_eq, ite_not]
  rfl

theorem RcInv.decRow {p : MapIn} {k : Nat} {o : OpRow} {s : MapSt} (hk : p.ops[k]? = some o) (hR : RcInv p k s) :
    RcInv p (k + 1) (decRow p.stems s o) := by
  show RcInv p (k + 1) (withRefc s (decs s.refc (opSrcs p.stems o)))
  unfold RcInv withRefc
  refine ⟨(decs_size _ _).trans hR.1, fun x hx => ?_⟩
  have := hR.2 x hx
  rw [occ_drop _ _ _ _ _ hk] at this
  rw [decs_getD _ _ _ (hR.1 ▸ hx)]
  push_cast at this
  omega

theorem mem_setAdd {l : List Int} {v x : Int} (h : x ∈ setAdd l v) : x ∈ l ∨ x = v := by
  unfold setAdd at h
  split at h
  · exact .inl h
  · simpa using h

theorem mem_collect (s : MapSt) (xs : List Nat) (fs : List Int) (l : Int) (h : l ∈ xs.foldl (collectStep s) fs) :
    l ∈ fs ∨ ∃ x ∈ xs, s.refc.getD x 0 ≤ 0 ∧ l = s.loc x := by
  induction xs generalizing fs with
  | nil => exact .inl h
  | cons x r ih =>
    simp only [List.foldl_cons] at h
    rcases ih _ h with h1 | ⟨y, hy, h2, h3⟩
    · unfold collectStep at h1
      split at h1
      · rename_i hc
        rcases mem_setAdd h1 with h1 | h1
        · exact .inl h1
        · exact .inr ⟨x, List.mem_cons_self, hc, h1⟩
      · exact .inl h1
    · exact .inr ⟨y, List.mem_cons_of_mem _ hy, h2, h3⟩

theorem FsInv.collect {p : MapIn} (hp : ProgOK p) {reuse : Bool} {a k : Nat} (hak : a ≤ k) {o : OpRow}
    (hk : p.ops[k]? = some o) {s : MapSt} {fs : List Int} (hR : RcInv p (k + 1) s)
    (hF : FsInv p reuse a k (AllocAt p k) s fs) :
    FsInv p reuse a (k + 1) (AllocAt p k) s ((opSrcs p.stems o).foldl (collectStep s) fs) := by
  intro hre l hl
  rcases mem_collect _ _ _ _ hl with h | ⟨x, hx, hc, rfl⟩
  · obtain ⟨x, h1, h2, h3, h4⟩ := hF hre l h
    exact ⟨x, h1, h2, h3.mono (Nat.le_succ k), h4⟩
  · obtain ⟨g1, g2, _, _⟩ := hp.operand_alloc hk hx
    have hrc := hR.2 x g2
    have hu : usedAt p k x := ⟨o, hk, hx⟩
    cases hpx : pinnedM p x with
    | true => rw [hpx, if_pos rfl] at hrc; omega
    | false =>
      rw [hpx, if_neg Bool.false_ne_true] at hrc
      refine ⟨x, g1, fun hd => ?_, ⟨hre, hpx, ⟨k, hu⟩, occ_zero_no_use p x (k + 1) (by omega)⟩, rfl⟩
      have := hd.2.2.2 k hu
      omega

/-- what holds of (state, pending free set) after `k` rows inside the level that starts at `a` -/
def RowInv (p : MapIn) (reuse : Bool) (a k : Nat) (sf : MapSt × List Int) : Prop :=
  AInv p reuse a (AllocAt p k) sf.1 ∧ RcInv p k sf.1 ∧ FsInv p reuse a k (AllocAt p k) sf.1 sf.2

theorem opStep_inv {p : MapIn} (hp : ProgOK p) (hpos : 0 < p.capsMin) (reuse : Bool) (capsIn : Nat → Nat)
    {a k : Nat} (ha : a ∈ p.starts) (hak : a ≤ k) (hlev : p.levelOf k = p.levelOf a)
    {o : OpRow} (hk : p.ops[k]? = some o) (s : MapSt) (fs : List Int) (hI : RowInv p reuse a k (s, fs)) :
    RowInv p reuse a (k + 1) (mapOpStep p.ix p.stems capsIn p.capsMin (s, fs) o) := by
  obtain ⟨hA, hR, hF⟩ := hI
  unfold RowInv
  have hA1 : AInv p reuse a (AllocAt p k) (decRow p.stems s o) := hA.withRefc _
  have hR1 := hR.decRow hk
  have hF1 := FsInv.collect hp hak hk hR1 hF
  rw [mapOpStep_eq]
  split
  · rename_i ht
    refine ⟨hA1.weaken fun x hx => (AllocAt.of_succ hk hx).resolve_right fun h => h.2 ht, hR1, fun hre l hl => ?_⟩
    obtain ⟨x, h1, h⟩ := hF1 hre l hl
    exact ⟨x, h1.mono (Nat.le_succ k), h⟩
  · rename_i ht
    obtain ⟨hfresh, hz⟩ := hp.out_fresh hk ht
    have hlen : o.out < p.ix.len := by have := ix_vals p; omega
    have hA2 := hA1.alloc o.out (max p.capsMin (capsIn o.out)) hfresh hlen (Nat.le_max_left _ _)
      (Nat.lt_of_lt_of_le hpos (Nat.le_max_left _ _)) hpos (by
        intro x hx hd
        have hpx := hd.2.1
        refine ⟨?_, ?_, ht, by have := ix_vals p; omega, ?_⟩
        · intro e; rw [e, pinnedM_tmp] at hpx; cases hpx
        · intro e; rw [e, pinnedM_tmp2] at hpx; cases hpx
        · rw [hp.dfn_out hk ht, hlev]
          exact hp.dead_last ha hd)
    refine ⟨hA2.weaken fun x hx => (AllocAt.of_succ hk hx).imp_right And.left, hR1, fun hre l hl => ?_⟩
    obtain ⟨x, h1, h2, h3, h4⟩ := hF1 hre l hl
    refine ⟨x, h1.mono (Nat.le_succ k), h2, h3, ?_⟩
    have hne : x ≠ o.out := fun e => hfresh (e ▸ h1)
    rw [h4, allocAt_loc_ne _ _ _ _ hne]

theorem levelOps_getElem? (ops : List OpRow) (a b i : Nat) (hi : a + i < b) (hb : b ≤ ops.length) :
    (levelOps ops (a, b))[i]? = some ops[a + i] := by
  simp [levelOps, show i < b - a by omega, Array.getD_eq_getD_getElem?, List.getElem?_eq_getElem (show a + i < ops.length by omega)]

theorem levelOps_fold_inv {σ : Type} (ops : List OpRow) (f : σ → OpRow → σ) (Q : Nat → σ → Prop) {a b : Nat} (hab : a ≤ b)
    (hb : b ≤ ops.length) (step : ∀ k o s, a ≤ k → k < b → ops[k]? = some o → Q k s → Q (k + 1) (f s o)) (s : σ) (h0 : Q a s) :
    Q b ((levelOps ops (a, b)).foldl f s) := by
  have hlen : (levelOps ops (a, b)).length = b - a := by simp [levelOps]
  have := foldl_inv_done f (fun done s => Q (a + done.length) s) (levelOps ops (a, b)) [] s (by simpa using h0)
    (fun pre o r s e hI => by
      have hi : a + pre.length < b := by have := congrArg List.length e; simp [hlen] at this; omega
      have ho := levelOps_getElem? ops a b pre.length hi hb
      rw [e] at ho
      simp only [List.getElem?_append_right (Nat.le_refl _), Nat.sub_self, List.getElem?_cons_zero, Option.some.injEq] at ho
      simp only [List.nil_append, List.length_append, List.length_singleton, ← Nat.add_assoc] at hI ⊢
      exact step _ o s (Nat.le_add_right _ _) hi (by rw [ho]; exact List.getElem?_eq_getElem _) hI)
  simpa [hlen, Nat.add_sub_cancel' hab] using this

theorem levelPairs_getElem? (starts : List Nat) (n i : Nat) (hi : i < starts.length) :
    (levelPairs starts n)[i]? = some (starts[i], starts.getD (i + 1) n) := by
  rw [levelPairs, List.getElem?_zip_eq_some, List.getElem?_eq_getElem hi, List.getD_eq_getElem?_getD]
  refine ⟨rfl, ?_⟩
  by_cases h1 : i + 1 < starts.length
  · rw [List.getElem?_append_left (by rw [List.length_drop]; omega), List.getElem?_drop, Nat.add_comm 1 i,
      List.getElem?_eq_getElem h1]
    rfl
  · have e : i - (starts.drop 1).length = 0 := by rw [List.length_drop]; omega
    rw [List.getElem?_append_right (by rw [List.length_drop]; omega), e, List.getElem?_eq_none (l := starts) (i := i + 1) (by omega)]
    rfl

theorem levelPairs_fold_inv {σ : Type} (starts : List Nat) (n : Nat) (hs : StartsOK starts n) (f : σ → Nat × Nat → σ)
    (P : Nat → σ → Prop)
    (step : ∀ a b s, a ∈ starts → a ≤ b → b ≤ n → (∀ t ∈ starts, t ≤ a ∨ b ≤ t) → P a s → P b (f s (a, b)))
    (s : σ) (h0 : P 0 s) : P n ((levelPairs starts n).foldl f s) := by
  have hlen : (levelPairs starts n).length = starts.length := by simp [levelPairs]; omega
  have h00 : starts[0]?.getD n = 0 := by rw [← List.head?_eq_getElem?, hs.1]; rfl
  have := foldl_inv_done f (fun done s => P (starts.getD done.length n) s) (levelPairs starts n) [] s (by simpa [h00] using h0)
    (fun pre ab r s e hI => by
      have hi : pre.length < starts.length := by rw [← hlen, e]; simp
      have hab : ab = (starts[pre.length], starts.getD (pre.length + 1) n) := by
        have := levelPairs_getElem? starts n pre.length hi
        rw [e] at this
        simpa using this
      obtain ⟨l1, l2, l3⟩ := hs.level hi
      simp only [List.nil_append, List.length_append, List.length_singleton] at hI ⊢
      rw [List.getD_eq_getElem?_getD, List.getElem?_eq_getElem hi, Option.getD_some] at hI
      rw [hab]
      exact step _ _ s (List.getElem_mem hi) l1 l2 l3 hI)
  simpa [hlen, List.getD_eq_getElem?_getD] using this

def MInv (p : MapIn) (reuse : Bool) (k : Nat) (s : MapSt) : Prop :=
  AInv p reuse k (AllocAt p k) s ∧ RcInv p k s

theorem levelRows_inv {p : MapIn} (hp : ProgOK p) (hpos : 0 < p.capsMin) (reuse : Bool) (capsIn : Nat → Nat)
    {a b : Nat} (ha : a ∈ p.starts) (hab : a ≤ b) (hb : b ≤ p.ops.length) (hgap : ∀ t ∈ p.starts, t ≤ a ∨ b ≤ t)
    (s : MapSt) (h : MInv p reuse a s) :
    RowInv p reuse a b ((levelOps p.ops (a, b)).foldl (mapOpStep p.ix p.stems capsIn p.capsMin) (s, [])) :=
  levelOps_fold_inv p.ops (mapOpStep p.ix p.stems capsIn p.capsMin) (fun k sf => RowInv p reuse a k sf) hab hb
    (fun k o sf hak hkb hk hI => opStep_inv hp hpos reuse capsIn ha hak (levelOf_const p hgap hak hkb) hk sf.1 sf.2 hI)
    (s, []) ⟨h.1, h.2, fun _ l hl => by cases hl⟩

theorem levelStep_inv {p : MapIn} (hp : ProgOK p) (hpos : 0 < p.capsMin) (reuse : Bool) (capsIn : Nat → Nat)
    {a b : Nat} (ha : a ∈ p.starts) (hab : a ≤ b) (hb : b ≤ p.ops.length) (hgap : ∀ t ∈ p.starts, t ≤ a ∨ b ≤ t)
    (s : MapSt) (h : MInv p reuse a s) :
    MInv p reuse b (mapLevelStep p.ix p.stems capsIn p.capsMin reuse p.ops s (a, b)) := by
  obtain ⟨kA, kR, kF⟩ := levelRows_inv hp hpos reuse capsIn ha hab hb hgap s h
  unfold mapLevelStep
  refine ⟨kA.level_end hab kF, ?_⟩
  cases reuse with
  | false => exact kR
  | true => exact kR

theorem levels_inv {p : MapIn} (hp : ProgOK p) (hpos : 0 < p.capsMin) (reuse : Bool) (capsIn : Nat → Nat)
    (s : MapSt) (h0 : MInv p reuse 0 s) :
    MInv p reuse p.ops.length
      ((levelPairs p.starts p.ops.length).foldl (mapLevelStep p.ix p.stems capsIn p.capsMin reuse p.ops) s) :=
  levelPairs_fold_inv p.starts p.ops.length hp.starts _ (fun k s => MInv p reuse k s)
    (fun _ _ s ha hab hb hgap h => levelStep_inv hp hpos reuse capsIn ha hab hb hgap s h) s h0

end KV
