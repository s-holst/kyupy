import KyupyVerif.Proofs.LinesDriven
import KyupyVerif.Proofs.RowsLineEq
/-! Labellings of the lines of a net that satisfy every gate equation of the specification evaluator, any net: `NetLabelling` is the
Prop form of the oracle's check `consistentB` (`NetLabellingOff S`: the lines driven from the nodes in `S` are left free). Under a
schedule that writes every line the simulation of the generated program is the only such labelling (`sim_is_the_labelling`); hence
it computes the only model of any description whose models correspond to the labellings (`sim_is_the_model`). -/
namespace KV
open KV.Sig

theorem linesDriven_spec {tbl : List PrefixRow} {net : Net} {order : List Nat} (h : linesDrivenB tbl net order = true) {l : Nat}
    (hl : l < net.lines.size) : ∃ r ∈ genOps tbl net order false, r.out = l := by
  simp only [linesDrivenB, List.all_eq_true, List.mem_range, List.contains_eq_mem, decide_eq_true_eq] at h
  obtain ⟨r, hr, he⟩ := List.mem_map.mp (h l hl)
  exact ⟨r, hr, he⟩

theorem line_driver_out (net : Net) (order : List Nat) (hwf : net.wfB = true) (ho : orderOKB net order = true)
    (hall : linesDrivenB Gen.kindPrefixes net order = true) (l : Nat) (hl : l < net.lines.size) :
    (net.line l).driver < net.nodes.size ∧ ∃ pin : Nat, (net.node (net.line l).driver).outs[pin]? = some (some l) := by
  obtain ⟨r, hr, he⟩ := linesDriven_spec hall hl
  obtain ⟨_, ht, _⟩ := idx_vals net
  have hne : r.out ≠ net.idx.tmp := by rw [he, ht]; omega
  obtain ⟨n, _, hnlt, _, pin, hpin, _, hdrv, _⟩ := genOps_line_row hwf (orderOK_lt ho) hr hne
  rw [he] at hpin hdrv
  rw [hdrv]
  exact ⟨hnlt, pin, hpin⟩

end KV

namespace KV.Netlist
open KV KV.Sig

universe u

def NetLabelling {α} (net : Net) (z : α) (neg : α → α) (prim : String → α → α → α → α → α) (a : Nat → α) (v : Nat → α) : Prop :=
  ∀ i, i < net.lines.size → v i = lineEq net net.sPos z neg prim a v i

theorem netLabelling_iff_consistentB {α} [BEq α] [LawfulBEq α] (net : Net) (hdrv : ∀ l, l < net.lines.size → (net.line l).driver < net.nodes.size)
    (z : α) (neg : α → α) (prim : String → α → α → α → α → α) (a : Nat → α) (v : Array α) :
    consistentB net z neg prim a v = true ↔ NetLabelling net z neg prim a (fun i => v.getD i z) := by
  unfold consistentB NetLabelling
  simp only [List.all_eq_true, List.mem_range, beq_iff_eq]
  constructor
  · intro h i hi
    rw [h i hi]
    apply lineEq_congr
    · exact sPosTable_getD net (hdrv i hi)
    · intros; rfl
  · intro h i hi
    rw [h i hi]
    apply lineEq_congr
    · exact (sPosTable_getD net (hdrv i hi)).symm
    · intros; rfl

def NetLabellingOff {α} (net : Net) (S : Nat → Prop) (z : α) (neg : α → α) (prim : String → α → α → α → α → α) (a : Nat → α)
    (v : Nat → α) : Prop :=
  ∀ i, i < net.lines.size → ¬ S (net.line i).driver → v i = lineEq net net.sPos z neg prim a v i

theorem netLabellingOff_false {α} (net : Net) (z : α) (neg : α → α) (prim : String → α → α → α → α → α) (a : Nat → α) (v : Nat → α) :
    NetLabellingOff net (fun _ => False) z neg prim a v ↔ NetLabelling net z neg prim a v :=
  ⟨fun h i hi => h i hi (fun x => x), fun h i hi _ => h i hi⟩


theorem netConsistent_labelling {α : Type u} (net : Net) (order : List Nat)
    (hall : linesDrivenB Gen.kindPrefixes net order = true) (neg : α → α) (prim : String → α → α → α → α → α)
    (env val : Nat → α) (hc : NetConsistent net order neg prim env val) :
    NetLabelling net (env net.idx.zero) neg prim (fun p => env (net.idx.ppi + p)) val := by
  intro i hi
  obtain ⟨r, hr, he⟩ := linesDriven_spec hall hi
  obtain ⟨_, ht, _⟩ := idx_vals net
  have := hc.2 r hr (by rw [he, ht]; omega)
  rw [he] at this
  exact this

theorem netLabelling_consistent {α : Type u} (net : Net) (order : List Nat) (hwf : net.wfB = true) (ho : orderOKB net order = true)
    (hall : linesDrivenB Gen.kindPrefixes net order = true) (neg : α → α) (prim : String → α → α → α → α → α)
    (env v : Nat → α) (hc : NetLabelling net (env net.idx.zero) neg prim (fun p => env (net.idx.ppi + p)) v) :
    NetConsistent net order neg prim env (fun x => if x < net.lines.size then v x else env x) := by
  constructor
  · intro x hx hw
    have hge : ¬ x < net.lines.size := by
      intro hlt
      obtain ⟨r, hr, he⟩ := linesDriven_spec hall hlt
      exact hw r hr he
    simp only [if_neg hge]
  · intro r hr hl
    obtain ⟨n, _, hnlt, _, _, _, hlt, hdrv, _⟩ := genOps_line_row hwf (orderOK_lt ho) hr hl
    simp only [if_pos hlt]
    rw [hc r.out hlt]
    apply lineEq_congr
    · rfl
    · intro i l' hi
      have hl' : l' < net.lines.size := by
        rw [hdrv] at hi
        exact (wf_in hwf hnlt (inPin_some hi)).1
      simp only [if_pos hl']

/-- **every net in the domain** (`wfB`, `orderOKB`, `forksOKB`, `linesDrivenB`), from whatever description it was built: the
simulation of the generated program, read on the lines, is THE labelling that satisfies every gate equation of the specification
evaluator -/
theorem sim_is_the_labelling {α : Type u} (sem spec : Nat → List α → α)
    (heq : ∀ code, KnownCode code → ∀ xs, sem code xs = spec code xs) (neg : α → α) (prim : String → α → α → α → α → α)
    (hs : SemSpec spec neg prim) (net : Net) (order : List Nat) (hwf : net.wfB = true) (ho : orderOKB net order = true)
    (hfk : forksOKB net order = true) (hall : linesDrivenB Gen.kindPrefixes net order = true) (env : Nat → α) :
    NetLabelling net (env net.idx.zero) neg prim (fun p => env (net.idx.ppi + p))
      (exec sem ((genOps Gen.kindPrefixes net order false).map OpRow.toOp) env) ∧
    ∀ v, NetLabelling net (env net.idx.zero) neg prim (fun p => env (net.idx.ppi + p)) v →
      ∀ i, i < net.lines.size → v i = exec sem ((genOps Gen.kindPrefixes net order false).map OpRow.toOp) env i := by
  obtain ⟨h1, h2⟩ := logic_netlist_all_circuits sem spec heq neg prim hs net order hwf ho hfk env
  refine ⟨netConsistent_labelling net order hall neg prim env _ h1, ?_⟩
  intro v hv i hi
  have := h2 _ (netLabelling_consistent net order hwf ho hall neg prim env v hv) i (by
    obtain ⟨_, ht, _⟩ := idx_vals net
    omega)
  simp only [if_pos hi] at this
  exact this

/-- **every net in the domain, any description**: `M` the models of a description that speaks about the first `n` lines of `net`
(`lab m`: the values a model gives them). When every model extends to a labelling of `net` that satisfies every gate equation and every such labelling
comes from a model, one model per labelling, there is exactly one model and the scheduled simulation computes its values -/
theorem sim_is_the_model {α μ : Type u} (sem spec : Nat → List α → α)
    (heq : ∀ code, KnownCode code → ∀ xs, sem code xs = spec code xs) (neg : α → α) (prim : String → α → α → α → α → α)
    (hs : SemSpec spec neg prim) (net : Net) (order : List Nat) (hwf : net.wfB = true) (ho : orderOKB net order = true)
    (hfk : forksOKB net order = true) (hall : linesDrivenB Gen.kindPrefixes net order = true) (env : Nat → α)
    (n : Nat) (hn : n ≤ net.lines.size) (M : μ → Prop) (lab : μ → Nat → α)
    (hto : ∀ m, M m → ∃ v, NetLabelling net (env net.idx.zero) neg prim (fun p => env (net.idx.ppi + p)) v ∧ ∀ i, i < n → v i = lab m i)
    (hfrom : ∀ v, NetLabelling net (env net.idx.zero) neg prim (fun p => env (net.idx.ppi + p)) v →
      ∃ m, M m ∧ ∀ i, i < n → v i = lab m i)
    (huniq : ∀ m m', M m → M m' → (∀ i, i < n → lab m i = lab m' i) → m = m') :
    ∃ m, M m ∧ (∀ m', M m' → m' = m) ∧
      ∀ i, i < n → exec sem ((genOps Gen.kindPrefixes net order false).map OpRow.toOp) env i = lab m i := by
  obtain ⟨h1, h2⟩ := sim_is_the_labelling sem spec heq neg prim hs net order hwf ho hfk hall env
  obtain ⟨m, hm, hl⟩ := hfrom _ h1
  refine ⟨m, hm, fun m' hm' => huniq m' m hm' hm fun i hi => ?_, hl⟩
  obtain ⟨v, hv, hvl⟩ := hto m' hm'
  rw [← hl i hi, ← hvl i hi]
  exact h2 v hv i (by omega)

theorem captures_congr {α : Type u} {net : Net} (hwf : net.wfB = true) {v v' : Nat → α}
    (h : ∀ i, i < net.lines.size → v i = v' i) (ns : List Nat) (hns : ∀ n ∈ ns, n < net.nodes.size) :
    (ns.map fun n => (net.node n).inPin 0 |>.map v) = ns.map fun n => (net.node n).inPin 0 |>.map v' := by
  apply List.map_congr_left
  intro n hn
  cases hp : (net.node n).inPin 0 with
  | none => rfl
  | some l => simp only [Option.map_some, h l (wf_in hwf (hns n hn) (inPin_some hp)).1]

end KV.Netlist

namespace KV
open KV.Sig KV.Netlist

/-- **every labelling of the lines that the oracle's checker accepts is the simulation result**: for every well-formed netlist
    all of whose lines are driven by scheduled rows, every topological order, any value domain with decidable equality and
    any op semantics that agrees with the primitive meanings -/
theorem consistentB_unique {α} [BEq α] [LawfulBEq α] (net : Net) (order : List Nat) (hwf : net.wfB = true)
    (ho : orderOKB net order = true) (hfk : forksOKB net order = true) (hall : linesDrivenB Gen.kindPrefixes net order = true)
    (sem : Nat → List α → α) (neg : α → α) (prim : String → α → α → α → α → α) (hs : SemSpec sem neg prim)
    (env : Nat → α) (v : Array α)
    (hc : consistentB net (env net.idx.zero) neg prim (fun p => env (net.idx.ppi + p)) v = true) :
    ∀ l, l < net.lines.size →
      v.getD l (env net.idx.zero) = exec sem ((genOps Gen.kindPrefixes net order false).map OpRow.toOp) env l := by
  exact (sim_is_the_labelling sem sem (fun _ _ _ => rfl) neg prim hs net order hwf ho hfk hall env).2 _
    ((netLabelling_iff_consistentB net (fun l hl => (line_driver_out net order hwf ho hall l hl).1) _ neg prim _ v).mp hc)

end KV
