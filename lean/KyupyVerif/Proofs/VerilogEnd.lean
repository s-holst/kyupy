import KyupyVerif.Proofs.VerilogSem
import KyupyVerif.Proofs.BenchEnd
/-! What the interface nodes of `verilogNet …` capture (`v_captures`), soundness of the driver's acceptance check
(`vModelB_sound`), and the composition with the scheduled simulation (`verilog_sim_generic`). -/
namespace KV.Netlist
open KV KV.Sig

universe u
variable {cfg : Cfg} {tl : TL} {ports : List String} {stmts : List Stmt}

theorem v_captures {α : Type u} (hok : VOK cfg tl ports stmts) (z : α) (prim : String → α → α → α → α → α) (σ : String → α) :
    ((verilogNet cfg tl ports stmts).sNodes.map fun n =>
        ((verilogNet cfg tl ports stmts).node n).inPin 0 |>.map (vLabel cfg tl stmts z prim σ)) =
      vCaptures tl ports stmts z prim σ := by
  unfold verilogNet
  rw [toNet_captures (module cfg tl ports stmts) _ _ (verilogNet_sNodes hok) (vSNames_resolved hok) _
    (wOfV cfg tl stmts z prim σ) (v_label_agrees hok z prim σ), module_flat' hok]
  unfold vCaptures
  apply List.map_congr_left
  intro e he
  have h0 := (vSNames_resolved hok e he).2
  rw [any_vL]
  cases e with
  | fork s => simp [Ep.rpin] at h0 ⊢; exfalso
              unfold vSNames at he
              simp only [List.mem_append, List.mem_map, List.mem_filter] at he
              rcases he with (⟨_, _, h⟩ | ⟨_, _, h⟩) | ⟨_, _, h⟩ <;> cases h
  | cell n p =>
    have hp : p = 0 := h0
    subst hp
    simp only
    by_cases hout : n ∈ outputNames (sigDecls stmts)
    · have hmem : (⟨.fork n, .cell n 0, n⟩ : VLine) ∈ vFlat cfg tl (sigDecls stmts) stmts := vFlat_output _ n hout
      have hany : ((vFlat cfg tl (sigDecls stmts) stmts).any fun t => t.r == Ep.cell n 0) = true := by
        rw [List.any_eq_true]; exact ⟨_, hmem, by simp⟩
      have := wOfV_line hok z prim σ _ hmem
      simp only at this
      simp only [hany, if_true, this, List.contains_eq_mem, hout, decide_true, sigVal_driven hok z prim σ n (hok.outs n hout)]
    · have hc : (outputNames (sigDecls stmts)).contains n = false := by simpa using hout
      simp only [hc, Bool.false_eq_true, if_false]
      cases hf : (vInsts stmts).find? (fun i => i.name == n) with
      | none =>
        have hany : ((vFlat cfg tl (sigDecls stmts) stmts).any fun t => t.r == Ep.cell n 0) = false := by
          rw [List.any_eq_false]
          intro t ht hr
          rw [List.find?_eq_none] at hf
          rcases vFlat_reader_cell hok t ht n 0 (by simpa using hr) with ⟨j, hj, _, _, e, _⟩ | ⟨hm, _⟩
          · have := hf j hj; simp [e] at this
          · exact hout hm
        rw [hany]; rfl
      | some i =>
        have hi := List.mem_of_find?_eq_some hf
        have hin : i.name = n := by simpa using List.find?_some hf
        subst hin
        have h1 := inVal_inst hok i hi z prim (wOfV cfg tl stmts z prim σ) σ (fun t ht _ => wOfV_line hok z prim σ t ht) 0 0
        rw [inVal_cell_eq, any_vL] at h1
        exact h1

theorem vModelB_sound {α : Type u} [BEq α] [LawfulBEq α] (z : α) (neg : α → α) (prim : String → α → α → α → α → α) (a : Nat → α)
    (tab : List (String × α)) (h : vModelB tl ports stmts z neg prim a tab = true) :
    VModel tl ports stmts z neg prim a (vEnvOf z tab) := by
  unfold vModelB at h
  simp only [Bool.and_eq_true, List.all_eq_true, beq_iff_eq] at h
  refine ⟨fun i hi o ho => h.1.1.1 i hi o ho, fun n hn => h.1.1.2 n hn, fun ts hts => h.1.2 ts hts, fun s hs => ?_⟩
  unfold vEnvOf
  rw [lookupA_eq_none tab s fun p hp e => by have := h.2 p hp; rw [e, hs] at this; cases this]
  rfl

theorem verilog_sim_generic {α : Type u} (hok : VOK cfg tl ports stmts) (sem spec : Nat → List α → α)
    (heq : ∀ code, KnownCode code → ∀ xs, sem code xs = spec code xs) (neg : α → α) (prim : String → α → α → α → α → α)
    (hs : SemSpec spec neg prim) (order : List Nat) (ho : orderOKB (verilogNet cfg tl ports stmts) order = true)
    (hfk : forksOKB (verilogNet cfg tl ports stmts) order = true)
    (hall : linesDrivenB Gen.kindPrefixes (verilogNet cfg tl ports stmts) order = true) (env : Nat → α) :
    ∃ σ, VModel tl ports stmts (env (verilogNet cfg tl ports stmts).idx.zero) neg prim
        (fun p => env ((verilogNet cfg tl ports stmts).idx.ppi + p)) σ ∧
      (∀ σ', VModel tl ports stmts (env (verilogNet cfg tl ports stmts).idx.zero) neg prim
        (fun p => env ((verilogNet cfg tl ports stmts).idx.ppi + p)) σ' → σ' = σ) ∧
      (∀ i, i < (verilogNet cfg tl ports stmts).lines.size →
        exec sem ((genOps Gen.kindPrefixes (verilogNet cfg tl ports stmts) order false).map OpRow.toOp) env i =
          vLabel cfg tl stmts (env (verilogNet cfg tl ports stmts).idx.zero) prim σ i) ∧
      ((verilogNet cfg tl ports stmts).sNodes.map fun n => ((verilogNet cfg tl ports stmts).node n).inPin 0 |>.map
        (exec sem ((genOps Gen.kindPrefixes (verilogNet cfg tl ports stmts) order false).map OpRow.toOp) env)) =
          vCaptures tl ports stmts (env (verilogNet cfg tl ports stmts).idx.zero) prim σ := by
  have hwf : (verilogNet cfg tl ports stmts).wfB = true := toNet_wf _ _
  obtain ⟨σ, hm, hu, hl⟩ := sim_is_the_model sem spec heq neg prim hs (verilogNet cfg tl ports stmts) order hwf ho hfk hall env _
    (Nat.le_refl _) _ (vLabel cfg tl stmts _ prim) (fun σ hm => ⟨_, v_model_labelling hok _ neg prim _ σ hm, fun _ _ => rfl⟩) (v_labelling_model hok _ neg prim _)
    (v_model_unique hok _ neg prim _)
  refine ⟨σ, hm, hu, hl, ?_⟩
  rw [← v_captures hok (env (verilogNet cfg tl ports stmts).idx.zero) prim, captures_congr hwf hl]
  intro n hn
  rw [verilogNet_sNodes hok] at hn
  obtain ⟨e, he, rfl⟩ := List.mem_map.mp hn
  exact verilogNet_idx_lt (vSNames_resolved hok e he).1

end KV.Netlist
