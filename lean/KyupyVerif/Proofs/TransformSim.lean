import KyupyVerif.Proofs.LineRemoveWF
/-! C10 (`elim_sem`).  One splice of `eliminate_1to1_forks` (model `splice`) is `out_line.remove()`, then
`in_line.reader = …` (`setReader`), then `n.remove()` (`splice_eq_prims`; circuit.py calls `n.remove()` first: the dumps agree, a node
deletion and a line deletion renumber different index spaces and commute), so that it keeps the invariant `SI` by what is known of these
three (`splice_SI`); the result embeds (`Emb`) into the circuit before with the reader pin of the removed out-line re-pointed to the
fork's in-line (`rewire`, `splice_emb`), which has the same consistent labellings (`rewire_consOff`).  `Sim` (structure) and
`SemP` (meaning: a consistent labelling, renamed along the index maps, stays consistent and every surviving node reads the same values)
relate a circuit and the result, composed over the visiting order (`elimForksInM_induct`); `sim_consistentB` and `sim_captures` put
them in the terms of Props/C10 (`consistentB`, `relabel`, `reassign`, `capturesOf`). -/
namespace KV.Transform
open KV

/-- `nn` in which pin `P` of node `R` reads line `a` -/
def rewire (nn : NNet) (R P a : Nat) : NNet :=
  { nn with net := { nn.net with nodes := nn.net.nodes.modify R fun n => { n with ins := growSet n.ins P (some a) } } }

section rewire
variable (nn : NNet) (R P a : Nat)

theorem rewire_sizes : (rewire nn R P a).net.nodes.size = nn.net.nodes.size ∧
    (rewire nn R P a).net.lines.size = nn.net.lines.size ∧ (rewire nn R P a).net.io = nn.net.io ∧
    (rewire nn R P a).names = nn.names := by simp [rewire]

theorem rewire_node (x : Nat) : (rewire nn R P a).net.node x =
    if x = R ∧ R < nn.net.nodes.size then { nn.net.node x with ins := growSet (nn.net.node x).ins P (some a) } else nn.net.node x :=
  node_modify nn.net R _ x

theorem rewire_kind (x : Nat) : ((rewire nn R P a).net.node x).kind = (nn.net.node x).kind := by
  rw [rewire_node]; split <;> rfl

theorem rewire_inPin (hR : R < nn.net.nodes.size) (x k : Nat) :
    ((rewire nn R P a).net.node x).inPin k = if x = R ∧ k = P then some a else (nn.net.node x).inPin k :=
  setReader_inPin nn.net a R P hR x k

theorem rewire_spN (x : Nat) : spN (rewire nn R P a).net x = spN nn.net x := by
  apply spN_eq_of_mem_iff
  have hk := isDff_of_kind (rewire_kind nn R P a x)
  rw [mem_sNodes, mem_sNodes, (rewire_sizes nn R P a).1, (rewire_sizes nn R P a).2.2.1, hk.1, hk.2]

theorem rewire_lineEq {α : Type _} (z : α) (neg : α → α) (prim : String → α → α → α → α → α) (an v : Nat → α) {b : Nat}
    (hR : R < nn.net.nodes.size) (hRP : (nn.net.node R).inPin P = some b) (hv : v b = v a) (l : Nat) :
    lineEq (rewire nn R P a).net (spN (rewire nn R P a).net) z neg prim an v l = lineEq nn.net (spN nn.net) z neg prim an v l := by
  refine lineEq_congr _ _ _ _ z neg prim _ _ _ _ _ _ (rewire_kind nn R P a _) rfl (by rw [rewire_spN]; rfl) fun k => ?_
  show (((rewire nn R P a).net.node (nn.net.line l).driver).inPin k).map v = _
  rw [rewire_inPin nn R P a hR]
  split
  · rename_i h; rw [h.1, h.2, hRP, Option.map_some, Option.map_some, hv]
  · rfl

/-- idea: `b` is the out-line of a fork `i` that reads `a` and is neither a hole, an `s_node` nor `R` itself, so in both circuits the
    equation of `b` says `v b = v a`, which is the hypothesis of `rewire_lineEq` -/
theorem rewire_consOff {α : Type _} (z : α) (neg : α → α) (prim : String → α → α → α → α → α) (an v : Nat → α) {b i : Nat}
    (S : Nat → Prop) (hR : R < nn.net.nodes.size) (hRP : (nn.net.node R).inPin P = some b) (hb : b < nn.net.lines.size)
    (hbd : (nn.net.line b).driver = i) (hf : (nn.net.node i).isFork = true) (hsp : spN nn.net i = none)
    (hia : (nn.net.node i).inPin 0 = some a) (hne : i ≠ R) (hS : ¬ S i) :
    ConsOff (rewire nn R P a) S z neg prim an v ↔ ConsOff nn S z neg prim an v := by
  have hv : ∀ {net' : Net}, net'.line b = nn.net.line b → net'.node i = nn.net.node i → spN net' i = none →
      v b = lineEq net' (spN net') z neg prim an v b → v b = v a := fun e1 e2 e3 h =>
    h.trans (lineEq_fork _ _ z neg prim an _ b i a (by rw [e1]; exact hbd) (by rw [e2]; exact hf) e3 (by rw [e2]; exact hia))
  have hi' : (rewire nn R P a).net.node i = nn.net.node i := by rw [rewire_node]; simp [hne]
  constructor
  · intro hc l hl hnS
    rw [hc l hl hnS]
    exact rewire_lineEq nn R P a z neg prim an v hR hRP
      (hv (net' := (rewire nn R P a).net) rfl hi' (by rw [rewire_spN]; exact hsp) (hc b hb (by show ¬ S (nn.net.line b).driver; rw [hbd]; exact hS))) l
  · intro hc l hl hnS
    rw [rewire_lineEq nn R P a z neg prim an v hR hRP (hv (net' := nn.net) rfl rfl hsp (hc b hb (by rw [hbd]; exact hS))) l]
    exact hc l hl hnS
end rewire

/-- `ll.reader = R; ll.reader_pin = P; R.ins[P] = ll` at a free pin: the former reader keeps a stale entry, nothing else changes -/
theorem setReader_wfx {nn : NNet} (w : WFm nn) {ll R P : Nat} (hll : ll < nn.net.lines.size) (hR : R < nn.net.nodes.size)
    (hfree : (nn.net.node R).ins.getD P none = none) :
    WFx { nn with net := setReader nn.net ll R P } (nn.net.line ll).reader := by
  have hs := setReader_sizes nn.net ll R P
  have hin := setReader_inPin nn.net ll R P hR
  have hline := fun l hl => setReader_line nn.net ll R P l hl
  refine ⟨by show nn.names.size = _; rw [hs.1]; exact w.names, ?_, ?_, ?_, ?_, ?_⟩
  · rw [keys_congr nn { nn with net := setReader nn.net ll R P } rfl hs.1 (setReader_kind nn.net ll R P)]; exact w.nodup
  · intro j hj; show j < (setReader nn.net ll R P).nodes.size; rw [hs.1]; exact w.io j (by rw [← hs.2.2]; exact hj)
  · intro l hl
    have hl' : l < nn.net.lines.size := by rw [← hs.2.1]; exact hl
    obtain ⟨b1, b2, b3, b4⟩ := w.back l hl'
    dsimp only
    rw [hs.1, setReader_outs, (setReader_line_drv nn.net ll R P l hl').1, (setReader_line_drv nn.net ll R P l hl').2, hin, hline l hl']
    refine ⟨b1, ?_, b3, ?_⟩
    · split
      · exact hR
      · exact b2
    · split
      · rename_i e; subst e; simp
      · -- no other line ends at the free pin
        have : ¬ ((nn.net.line l).reader = R ∧ (nn.net.line l).rpin = P) := by
          intro hc; rw [hc.1, hc.2, hfree] at b4; exact absurd b4 (by simp)
        rw [if_neg this]; exact b4
  · intro j hj hne k l hp
    have hj' : j < nn.net.nodes.size := by rw [← hs.1]; exact hj
    have hp' : ((setReader nn.net ll R P).node j).ins.getD k none = some l := hp
    rw [hin] at hp'
    dsimp only
    rw [hs.2.1]
    split at hp'
    · rename_i hc
      cases hp'
      rw [hline ll hll, if_pos rfl]
      exact ⟨hll, hc.1.symm, hc.2.symm⟩
    · obtain ⟨a1, a2, a3⟩ := w.fwdIn j hj' k l hp'
      have : ¬ ll = l := by intro e; subst e; exact hne a2.symm
      rw [hline l a1, if_neg this]
      exact ⟨a1, a2, a3⟩
  · intro j hj _ k l hp
    have hj' : j < nn.net.nodes.size := by rw [← hs.1]; exact hj
    have hp' : ((setReader nn.net ll R P).node j).outs.getD k none = some l := hp
    rw [setReader_outs] at hp'
    obtain ⟨a1, a2, a3⟩ := w.fwdOut j hj' k l hp'
    dsimp only
    rw [hs.2.1, (setReader_line_drv nn.net ll R P l a1).1, (setReader_line_drv nn.net ll R P l a1).2]
    exact ⟨a1, a2, a3⟩

section prims
variable {nn : NNet} {i a b : Nat} (c : SC nn i a b)
include c

/-- the circuit after `out_line.remove()` -/
def SC.mid1 (_ : SC nn i a b) : Net :=
  let nodes := nn.net.nodes.modify i fun n => { n with outs := [] }
  let nodes := nodes.modify (nn.net.line b).reader fun n => { n with ins := growSet n.ins (nn.net.line b).rpin none }
  delLine { nn.net with nodes := nodes } b

theorem SC.removeLine_b : removeLine true nn.net b = some c.mid1 := by
  have hb := c.b_facts
  have hd : detachDriver nn.net b = some { nn.net with nodes := nn.net.nodes.modify i fun n => { n with outs := [] } } := by
    unfold detachDriver
    simp only [hb.2.1, hb.2.2, c.fork, c.outs_eq, if_true]
    simp [growSet, renumberDpins]
  simp only [removeLine, hd, Option.map_some, if_true]
  rfl

/-- `mid1` after `in_line.reader = out_reader; …` (`setReader`); the index of the in-line is the one `del c.lines[b]` has left it -/
def SC.mid2 (c : SC nn i a b) : NNet :=
  { nn with net := setReader c.mid1 (mvN nn.net.lines.size b a) (nn.net.line b).reader (nn.net.line b).rpin }

theorem splice_eq_prims : splice nn i a b = delNode c.mid2 i := by
  have : (if a == nn.net.lines.size - 1 then b else a) = mvN nn.net.lines.size b a := by simp [mvN]
  unfold SC.mid2; rw [← this]; rfl

/-- what `dn_wfm` / `dn_emb` ask of the circuit before `n.remove()`: well-formed but for the fork's own (stale) input pin, no line attached
    to the fork -/
theorem SC.mid2_facts : RLSpec true nn.net (fun _ => False) b c.mid1 ∧ WFx c.mid2 i ∧ c.mid2.net.nodes.size = nn.net.nodes.size ∧
    c.mid2.net.lines.size = nn.net.lines.size - 1 ∧ i ∉ c.mid2.net.io ∧
    ∀ l, l < c.mid2.net.lines.size → (c.mid2.net.line l).driver ≠ i ∧ (c.mid2.net.line l).reader ≠ i := by
  have w := c.si.toWFm
  have hb := c.b_facts
  have ha := c.a_facts
  have hR := c.R_facts
  have sp := removeLine_spec nn w b hb.1 c.mid1 c.removeLine_b
  have ma := mv_facts hb.1 ha.1 c.hab
  have hs := setReader_sizes c.mid1 (mvN nn.net.lines.size b a) (nn.net.line b).reader (nn.net.line b).rpin
  have hfree : (c.mid1.node (nn.net.line b).reader).ins.getD (nn.net.line b).rpin none = none := by
    rw [sp.inPinT]; simp
  have hrd : (c.mid1.line (mvN nn.net.lines.size b a)).reader = i := by rw [(sp.line _ ma.1).2.1, ma.2]; exact ha.2.1
  have w2 := setReader_wfx (rl_wfm w hb.1 sp) (ll := mvN nn.net.lines.size b a) (by show _ < c.mid1.lines.size; rw [sp.lsize]; exact ma.1)
    (by show _ < c.mid1.nodes.size; rw [sp.nsize]; exact hR.1) hfree
  rw [show (({ nn with net := c.mid1 } : NNet).net.line (mvN nn.net.lines.size b a)).reader = i from hrd] at w2
  refine ⟨sp, w2, hs.1.trans sp.nsize, hs.2.1.trans sp.lsize, by show i ∉ (setReader _ _ _ _).io; rw [hs.2.2, sp.io]; exact fun h => ne_of_contains_false c.nio h rfl, ?_⟩
  intro l hl
  have hl1 : l < c.mid1.lines.size := by rw [← hs.2.1]; exact hl
  have hl' : l < nn.net.lines.size - 1 := by rw [← sp.lsize]; exact hl1
  obtain ⟨hy, hyb, hm⟩ := nm_facts hb.1 hl'
  show ((setReader c.mid1 _ _ _).line l).driver ≠ i ∧ ((setReader c.mid1 _ _ _).line l).reader ≠ i
  rw [(setReader_line_drv c.mid1 _ _ _ l hl1).1, setReader_line c.mid1 _ _ _ l hl1, (sp.line l hl').1]
  refine ⟨fun e => hyb (c.drv_i _ hy e), ?_⟩
  split
  · exact hR.2.2
  · -- the in-line is the only line that ended at the fork
    rename_i hne
    rw [(sp.line l hl').2.1]
    exact fun e => hne (by rw [← c.rdr_i _ hy e, hm])

theorem splice_wfm : WFm (splice nn i a b) := by
  obtain ⟨_, w2, hn, _, hio, hd⟩ := c.mid2_facts
  rw [splice_eq_prims c]
  exact dn_wfm w2 (by rw [hn]; exact c.hi) hio hd

/-- `rl_emb` exempts the pins of `R`, the reader of `b`.  `setReader` puts `a` at the one pin of `R` that lost its entry, `rewire` puts it
    at the same pin of the circuit before, every other pin is `rl_pins`: no pin is exempt -/
theorem SC.mid2_emb :
    Emb (rewire nn (nn.net.line b).reader (nn.net.line b).rpin a) c.mid2 (lineRen nn.net.lines.size b) := by
  have w := c.si.toWFm
  have hb := c.b_facts
  have hR := c.R_facts
  obtain ⟨sp, _, hn, _, _, _⟩ := c.mid2_facts
  have e := rl_emb w hb.1 sp
  have hs := setReader_sizes c.mid1 (mvN nn.net.lines.size b a) (nn.net.line b).reader (nn.net.line b).rpin
  have rs := rewire_sizes nn (nn.net.line b).reader (nn.net.line b).rpin a
  refine ⟨fun j hj => by rw [rs.1]; exact e.nodeLt j (hs.1 ▸ hj), fun l hl => by rw [rs.2.1]; exact e.lineLt l (hs.2.1 ▸ hl),
    fun _ _ _ _ h => h, fun l1 l2 h1 h2 => e.lineInj l1 l2 (hs.2.1 ▸ h1) (hs.2.1 ▸ h2), ?_, fun _ _ => rfl, ?_,
    fun j hj => hs.1 ▸ e.ioLt j (hs.2.2 ▸ hj), ?_, ?_⟩
  · intro j hj
    show ((setReader c.mid1 _ _ _).node j).kind = ((rewire nn _ _ a).net.node j).kind
    rw [setReader_kind, rewire_kind]; exact e.kind j (hs.1 ▸ hj)
  · show (setReader c.mid1 _ _ _).io.map _ = (rewire nn _ _ a).net.io
    rw [hs.2.2, rs.2.2.1]; exact e.io
  · intro j hj _ k
    show (((setReader c.mid1 _ _ _).node j).ins.getD k none).map (nmN nn.net.lines.size b) = ((rewire nn _ _ a).net.node j).inPin k
    rw [rewire_inPin nn _ _ a hR.1, setReader_inPin c.mid1 _ _ _ (by rw [sp.nsize]; exact hR.1)]
    by_cases hc : j = (nn.net.line b).reader ∧ k = (nn.net.line b).rpin
    · rw [if_pos hc, if_pos hc, Option.map_some, (mv_facts hb.1 c.a_facts.1 c.hab).2]
    · rw [if_neg hc, if_neg hc]
      exact rl_pins w hb.1 sp j k (by rw [← hn]; exact hj) hc
  · intro l' hl'
    have hl1 : l' < c.mid1.lines.size := hs.2.1 ▸ hl'
    have hd := setReader_line_drv c.mid1 (mvN nn.net.lines.size b a) (nn.net.line b).reader (nn.net.line b).rpin l' hl1
    show ((setReader c.mid1 _ _ _).line l').driver < (setReader c.mid1 _ _ _).nodes.size ∧
      (nn.net.line (nmN nn.net.lines.size b l')).driver = ((setReader c.mid1 _ _ _).line l').driver ∧
      ((nn.net.line (nmN nn.net.lines.size b l')).dpin = ((setReader c.mid1 _ _ _).line l').dpin ∨
        ((setReader c.mid1 _ _ _).node ((setReader c.mid1 _ _ _).line l').driver).isFork = true)
    rw [hd.1, hd.2, hs.1, isFork_of_kind_eq (setReader_kind c.mid1 _ _ _ _)]
    exact e.drv l' hl1

theorem splice_emb :
    Emb (rewire nn (nn.net.line b).reader (nn.net.line b).rpin a) (splice nn i a b) (stepRen nn i b) := by
  obtain ⟨_, w2, hn, _, hio, hd⟩ := c.mid2_facts
  have e : Emb _ _ _ := (c.mid2_emb.trans (dn_emb w2 (by rw [hn]; exact c.hi) hio hd)).weaken (fun _ _ hc => hc.elim id id)
  rw [hn] at e
  rw [splice_eq_prims c]
  exact e

/-- the removed out-line is driven by the fork, which reads the surviving in-line -/
theorem splice_det : Emb.Det (rewire nn (nn.net.line b).reader (nn.net.line b).rpin a) (splice nn i a b) (stepRen nn i b) := by
  have hsz := splice_sizes (nn := nn) (i := i) (a := a) (b := b)
  have hb := c.b_facts
  intro l hl hni k l0 ho
  have hl : l < nn.net.lines.size := hl
  have hlb : l = b := by
    apply Classical.byContradiction; intro hne
    have m := mv_facts hb.1 hl hne
    exact hni ⟨_, by rw [hsz.2]; exact m.1, m.2⟩
  subst hlb
  have ho' : ((rewire nn (nn.net.line l).reader (nn.net.line l).rpin a).net.node (nn.net.line l).driver).inPin k = some l0 := ho
  rw [hb.2.1, rewire_inPin nn _ _ a c.R_facts.1, if_neg (fun h => c.R_facts.2.2 h.1.symm), NodeD.inPin, c.ins_eq] at ho'
  rw [(getD_single ho').2]
  have m := mv_facts hb.1 c.a_facts.1 c.hab
  exact ⟨_, by rw [hsz.2]; exact m.1, m.2⟩

theorem splice_rewire {α : Type _} (z : α) (neg : α → α) (prim : String → α → α → α → α → α) (S : Nat → Prop) (hS : ¬ S i)
    (an v : Nat → α) :
    ConsOff (rewire nn (nn.net.line b).reader (nn.net.line b).rpin a) S z neg prim an v ↔ ConsOff nn S z neg prim an v :=
  rewire_consOff nn _ _ a z neg prim an v S c.R_facts.1 c.R_facts.2.1 c.b_facts.1 c.b_facts.2.1 c.fork
    (spN_none nn.net i c.nio c.fork) (by simp [NodeD.inPin, c.ins_eq]) (fun e => c.R_facts.2.2 e.symm) hS

theorem splice_node_prims (j' : Nat) (hj : j' < nn.net.nodes.size - 1) :
    ((splice nn i a b).net.node j').ins.length = (nn.net.node (nmN nn.net.nodes.size i j')).ins.length ∧
    ((splice nn i a b).net.node j').outs.length = (nn.net.node (nmN nn.net.nodes.size i j')).outs.length ∧
    ∀ k, ((splice nn i a b).net.node j').outs.getD k none =
      mvL (nn.net.lines.size - 1) b ((nn.net.node (nmN nn.net.nodes.size i j')).outs.getD k none) := by
  have hb := c.b_facts
  obtain ⟨sp, _, hn, _, _, _⟩ := c.mid2_facts
  obtain ⟨hd, hdi, _⟩ := nm_facts c.hi hj
  have e0 : (splice nn i a b).net.node j' =
      (setReader c.mid1 (mvN nn.net.lines.size b a) (nn.net.line b).reader (nn.net.line b).rpin).node (nmN nn.net.nodes.size i j') := by
    rw [splice_eq_prims c, delNode_node _ i j' (by rw [hn]; exact c.hi) (by rw [hn]; exact hj), hn]; rfl
  have ls := fun x => ls_removeLine true nn.net c.mid1 b c.removeLine_b (by rw [hb.2.1, hb.2.2, c.outs_eq]; simp) (fun _ => c.P_lt) x
  have hdne : nmN nn.net.nodes.size i j' ≠ (nn.net.line b).driver := by rw [hb.2.1]; exact hdi
  refine ⟨?_, ?_, fun k => by rw [e0, setReader_outs, sp.outPin _ _ hdne]⟩
  · rw [e0, setReader_node, ← (ls _).2.1]
    split
    · rename_i h
      show (growSet _ _ _).length = _
      rw [length_growSet]; exact if_pos (by rw [h.1, (ls _).2.1]; exact c.P_lt)
    · rfl
  · rw [e0, setReader_outs]
    -- only `delLine`'s renaming touches the output list of a node other than the fork
    show (c.mid1.node _).outs.length = _
    rw [SC.mid1, delLine_node, List.length_map]
    show ((nodeA ((nn.net.nodes.modify i _).modify (nn.net.line b).reader _) _).outs).length = _
    rw [nodeA_modify, nodeA_modify]
    have : ¬ (nmN nn.net.nodes.size i j' = i ∧ i < nn.net.nodes.size) := fun h => hdi h.1
    rw [if_neg this]
    split <;> rfl

theorem splice_SI : SI (splice nn i a b) := by
  refine ⟨splice_wfm c, fun j' hj hf => ?_⟩
  have hj' : j' < nn.net.nodes.size - 1 := by rw [← (splice_sizes (nn := nn) (i := i) (a := a) (b := b)).1]; exact hj
  rw [(splice_node_prims c j' hj').1]
  apply c.si.fork1 _ (nm_facts c.hi hj').1
  have hk : ((splice nn i a b).net.node j').kind = (nn.net.node (nmN nn.net.nodes.size i j')).kind := by
    have := (splice_emb c).kind j' hj
    rwa [rewire_kind] at this
  rw [← isFork_of_kind_eq hk]; exact hf

theorem consN_fork {α : Type _} (z : α) (neg : α → α) (prim : String → α → α → α → α → α) (an : Nat → α) (v : Nat → α)
    (hc : ConsN nn z neg prim an v) : v b = v a := by
  rw [hc b c.b_facts.1]
  exact lineEq_fork nn.net _ z neg prim an _ b i a c.b_facts.2.1 c.fork (spN_none nn.net i c.nio c.fork)
    (by simp [NodeD.inPin, c.ins_eq])
end prims

theorem EmbX.of_rewire {nn nn' : NNet} {r : Ren} {R P a : Nat} {X : Nat → Prop} (e : EmbX (rewire nn R P a) nn' r X) :
    EmbX nn nn' r (fun _ => True) :=
  ⟨fun j h => by have := e.nodeLt j h; rwa [(rewire_sizes nn R P a).1] at this,
   fun l h => by have := e.lineLt l h; rwa [(rewire_sizes nn R P a).2.1] at this,
   e.nodeInj, e.lineInj, fun j h => by rw [e.kind j h, rewire_kind], fun j h => by rw [e.name j h, (rewire_sizes nn R P a).2.2.2],
   by rw [e.io, (rewire_sizes nn R P a).2.2.1], e.ioLt, fun _ _ hx => absurd trivial hx, e.drv⟩
variable {skip : Bool}

/-- what `eliminate_1to1_forks` keeps besides the meaning: the invariant, the structure of the surviving part (an embedding in
    which every pin is exempt: the reader of a removed out-line reads the fork's in-line instead) and every node that is no fork -/
structure Sim (nn nn' : NNet) (r : Ren) : Prop where
  si : SI nn'
  emb : EmbX nn nn' r (fun _ => True)
  surj : ∀ j, j < nn.net.nodes.size → (nn.net.node j).isFork = false → ∃ j', j' < nn'.net.nodes.size ∧ r.node j' = j

def SemP {α : Type _} (z : α) (neg : α → α) (prim : String → α → α → α → α → α) (nn nn' : NNet) (r : Ren) : Prop :=
  ∀ (an v : Nat → α), ConsN nn z neg prim an v →
    ConsN nn' z neg prim (fun j => an (r.node j)) (fun l => v (r.line l)) ∧
    ∀ j' k, j' < nn'.net.nodes.size →
      ((nn'.net.node j').inPin k).map (fun l => v (r.line l)) = ((nn.net.node (r.node j')).inPin k).map v

theorem Sim.refl {nn : NNet} (h : SI nn) : Sim nn nn Ren.id :=
  ⟨h, (Emb.refl nn h.io (fun l hl => (h.back l hl).1)).weaken (fun _ _ _ => trivial), fun j hj _ => ⟨j, hj, rfl⟩⟩

theorem SemP.refl {α : Type _} (z : α) (neg : α → α) (prim : String → α → α → α → α → α) (nn : NNet) :
    SemP z neg prim nn nn Ren.id := fun _ _ h => ⟨h, fun _ _ _ => rfl⟩

theorem Sim.trans {a b c : NNet} {r1 r2 : Ren} (h1 : Sim a b r1) (h2 : Sim b c r2) : Sim a c (r1.comp r2) := by
  refine ⟨h2.si, (h1.emb.trans h2.emb).weaken (fun _ _ _ => trivial), fun j hj hf => ?_⟩
  obtain ⟨j1, l1, e1⟩ := h1.surj j hj hf
  obtain ⟨j2, l2, e2⟩ := h2.surj j1 l1 (by rw [isFork_of_kind_eq (h1.emb.kind j1 l1), e1]; exact hf)
  exact ⟨j2, l2, by show r1.node (r2.node j2) = j; rw [e2, e1]⟩

theorem SemP.trans {α : Type _} {z : α} {neg : α → α} {prim : String → α → α → α → α → α} {a b c : NNet} {r1 r2 : Ren}
    (s2 : Sim b c r2) (h1 : SemP z neg prim a b r1) (h2 : SemP z neg prim b c r2) : SemP z neg prim a c (r1.comp r2) := by
  intro an v hc
  obtain ⟨c1, p1⟩ := h1 an v hc
  obtain ⟨c2, p2⟩ := h2 _ _ c1
  refine ⟨c2, fun j' k hj => ?_⟩
  exact (p2 j' k hj).trans (p1 _ k (s2.emb.nodeLt j' hj))

theorem Sim.splice {nn : NNet} {i a b : Nat} (c : SC nn i a b) : Sim nn (splice nn i a b) (stepRen nn i b) := by
  refine ⟨splice_SI c, (splice_emb c).of_rewire, fun j hj hf => ?_⟩
  have hne : j ≠ i := by
    intro e; subst e
    rw [c.fork] at hf; exact absurd hf (by simp)
  have := mv_facts c.hi hj hne
  exact ⟨_, by rw [(splice_sizes (nn := nn) (i := i) (a := a) (b := b)).1]; exact this.1, this.2⟩

/-- restriction along the embedding, after re-pointing; the re-pointed pin reads `a` where it read `b`, which carry the same value -/
theorem SemP.splice {α : Type _} (z : α) (neg : α → α) (prim : String → α → α → α → α → α) {nn : NNet} {i a b : Nat}
    (c : SC nn i a b) : SemP z neg prim nn (splice nn i a b) (stepRen nn i b) := by
  intro an v hc
  have hc' := (splice_rewire c z neg prim (fun _ => False) (fun x => x) an v).mpr ((consOff_false nn z neg prim an v).mpr hc)
  refine ⟨(consOff_false _ z neg prim _ _).mp ((splice_emb c).restrict _ z neg prim an v hc'), fun j' k hj => ?_⟩
  have hp := (splice_emb c).pins j' hj (fun x => x) k
  rw [rewire_inPin nn _ _ a c.R_facts.1] at hp
  rw [show ∀ o : Option Nat, o.map (fun l => v ((stepRen nn i b).line l)) = (o.map (stepRen nn i b).line).map v from
    fun o => by rw [Option.map_map]; rfl, hp]
  split
  · rename_i h
    rw [h.1, h.2]
    show _ = Option.map v ((nn.net.node _).ins.getD _ none)
    rw [c.R_facts.2.1, Option.map_some, Option.map_some, consN_fork c z neg prim an v hc]
  · rfl

theorem elimOneM_sim {α : Type _} (z : α) (neg : α → α) (prim : String → α → α → α → α → α) (nn nn' : NNet) (r : Ren) (i : Nat)
    (h : SI nn) (hi : i < nn.net.nodes.size) (hf : (nn.net.node i).isFork = true)
    (he : elimOneM skip nn i = some (nn', r)) : Sim nn nn' r ∧ SemP z neg prim nn nn' r := by
  rcases elimOneM_cases nn nn' r i he with ⟨e1, e2⟩ | ⟨a, b, hio, hlen, hin, hout, hab, e1, e2⟩
  · subst e1; subst e2; exact ⟨Sim.refl h, SemP.refl z neg prim _⟩
  · subst e1; subst e2
    have c : SC nn i a b := ⟨h, hi, hf, hio, hlen, hin, hout, hab⟩
    exact ⟨Sim.splice c, SemP.splice z neg prim c⟩

theorem elimForksInM_induct {P : NNet → NNet → Ren → Prop} (refl : ∀ {nn}, SI nn → P nn nn Ren.id)
    (step : ∀ {nn i a b}, SC nn i a b → P nn (splice nn i a b) (stepRen nn i b))
    (trans : ∀ {a b c r1 r2}, P a b r1 → P b c r2 → P a c (r1.comp r2)) :
    ∀ (order : List String) (s : NNet × Ren) (nn' : NNet) (r : Ren), SI s.1 →
    order.foldlM (fun (s : NNet × Ren) name =>
      let i := s.1.lookup (name, true)
      if i < s.1.net.nodes.size then (elimOneM skip s.1 i).map fun p => (p.1, s.2.comp p.2) else some s) s = some (nn', r) →
    ∃ r2, r = s.2.comp r2 ∧ P s.1 nn' r2 := by
  intro order s nn' r h he
  refine (foldlM_inv _ (fun _ t => SI t.1 ∧ ∃ r2, t.2 = s.2.comp r2 ∧ P s.1 t.1 r2) (fun _ t name t1 hP h1 => ?_)
    order [] s (nn', r) ⟨h, Ren.id, rfl, refl h⟩ he).2
  obtain ⟨ht, r2, e2, p2⟩ := hP
  dsimp only at h1
  by_cases hlt : t.1.lookup (name, true) < t.1.net.nodes.size
  · rw [if_pos hlt] at h1
    obtain ⟨⟨nn1, r1⟩, hp, e⟩ := Option.map_eq_some_iff.mp h1
    subst e
    rcases elimOneM_cases t.1 nn1 r1 _ hp with ⟨e1, e2⟩ | ⟨a, b, hio, hlen, hin, hout, hab, e1, e2⟩
    · subst e1; subst e2
      exact ⟨ht, r2, e2, p2⟩
    · subst e1; subst e2
      have c : SC t.1 _ a b := ⟨ht, hlt, lookup_isFork t.1 name hlt, hio, hlen, hin, hout, hab⟩
      exact ⟨splice_SI c, r2.comp (stepRen t.1 _ b), by rw [e2]; rfl, trans p2 (step c)⟩
  · rw [if_neg hlt] at h1
    cases Option.some.inj h1
    exact ⟨ht, r2, e2, p2⟩

theorem elimForksInM_fst : ∀ (order : List String) (s : NNet × Ren),
    (order.foldlM (fun (s : NNet × Ren) name =>
      let i := s.1.lookup (name, true)
      if i < s.1.net.nodes.size then (elimOneM skip s.1 i).map fun p => (p.1, s.2.comp p.2) else some s) s).map (·.1) =
    elimForksIn skip order s.1
  | [], s => by simp [elimForksIn]
  | name :: order, s => by
    simp only [List.foldlM_cons, elimForksIn]
    by_cases hlt : s.1.lookup (name, true) < s.1.net.nodes.size
    · simp only [hlt, if_true]
      rw [← elimOneM_fst (skip := skip) s.1 (s.1.lookup (name, true))]
      cases h : elimOneM skip s.1 (s.1.lookup (name, true)) with
      | none => simp
      | some p =>
        simp only [Option.map_some, Option.bind_eq_bind, Option.bind_some]
        exact elimForksInM_fst order _
    · simp only [hlt, if_false, Option.bind_eq_bind, Option.bind_some]
      exact elimForksInM_fst order _

theorem sim_consistentB {α : Type _} [BEq α] [LawfulBEq α] {nn nn' : NNet} {r : Ren} (h : SI nn) (s : Sim nn nn' r)
    (z : α) (neg : α → α) (prim : String → α → α → α → α → α) (sem : SemP z neg prim nn nn' r)
    (asg : Nat → α) (v : Array α) (hc : consistentB nn.net z neg prim asg v = true) :
    consistentB nn'.net z neg prim (reassign r nn nn' asg) (relabel r nn' v z) = true ∧
    ∀ j' k, j' < nn'.net.nodes.size → pinRead nn'.net (relabel r nn' v z) z j' k = pinRead nn.net v z (r.node j') k := by
  have hN := (consistentB_iff h.drvLt z neg prim asg v).mp hc
  obtain ⟨c1, p1⟩ := sem _ _ hN
  constructor
  · rw [consistentB_iff s.si.drvLt]
    apply consN_congr s.si.toWFm z neg prim _ _ _ _ _ _ c1
    · intro n hn
      simp only [reassign, sigma]
      rw [getD_idxOf hn]
    · intro l hl
      rw [relabel_getD r nn' v z l hl]
  · intro j' k hj
    have := p1 j' k hj
    simp only [pinRead]
    rw [← this]
    cases ho : (nn'.net.node j').inPin k with
    | none => rfl
    | some x =>
      simp only [Option.map_some]
      rw [relabel_getD r nn' v z x (s.si.fwdIn j' hj k x ho).1]

theorem sim_captures {α : Type _} {nn nn' : NNet} {r : Ren} (s : Sim nn nn' r) (v v' : Array α) (z : α)
    (hp : ∀ j' k, j' < nn'.net.nodes.size → pinRead nn'.net v' z j' k = pinRead nn.net v z (r.node j') k)
    (p' : Nat) (hp' : p' < nn'.net.sNodes.length) :
    sigma r nn nn' p' < nn.net.sNodes.length ∧
    (capturesOf nn'.net v' z)[p']? = (capturesOf nn.net v z)[sigma r nn nn' p']? ∧
    nn'.sNames[p']? = nn.sNames[sigma r nn nn' p']? ∧
    (nn'.net.node (nn'.net.sNodes.getD p' 0)).kind = (nn.net.node (nn.net.sNodes.getD (sigma r nn nn' p') 0)).kind := by
  have hmem : nn'.net.sNodes[p'] ∈ nn'.net.sNodes := List.getElem_mem hp'
  have hlt := sNodes_lt s.si.toWFm _ hmem
  have hm := (s.emb.mem_sNodes _ hlt).mp hmem
  have hσ : sigma r nn nn' p' = nn.net.sNodes.idxOf (r.node nn'.net.sNodes[p']) := by
    simp [sigma, List.getD_eq_getElem?_getD, List.getElem?_eq_getElem hp']
  have hσlt : sigma r nn nn' p' < nn.net.sNodes.length := by rw [hσ]; exact List.idxOf_lt_length_iff.mpr hm
  have hget : nn.net.sNodes[sigma r nn nn' p'] = r.node nn'.net.sNodes[p'] := by
    simp only [hσ]; exact List.getElem_idxOf _
  refine ⟨hσlt, ?_, ?_, ?_⟩
  · simp only [capturesOf, List.getElem?_map, List.getElem?_eq_getElem hp', List.getElem?_eq_getElem hσlt, Option.map_some]
    rw [hget, hp _ 0 hlt]
  · simp only [NNet.sNames, List.getElem?_map, List.getElem?_eq_getElem hp', List.getElem?_eq_getElem hσlt, Option.map_some]
    rw [hget, s.emb.name _ hlt]
  · simp only [List.getD_eq_getElem?_getD, List.getElem?_eq_getElem hp', List.getElem?_eq_getElem hσlt, Option.getD_some]
    rw [hget, s.emb.kind _ hlt]

end KV.Transform
