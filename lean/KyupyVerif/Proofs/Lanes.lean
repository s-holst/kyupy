import KyupyVerif.Model.BAlg
import KyupyVerif.Proofs.LutSem
import KyupyVerif.Model.Sig
/-! All assignments at once.  What is written over any `BAlg` commutes with every `BHom`.  Run on `2 ^ n` lanes, the
inputs holding the `n` variables of a truth table (`var n k`), it computes its whole truth table in one evaluation;
`laneN _ (rowIdx vals)` reads the row of the assignment `vals` back.  Used for operators on four multi-valued operands
(twelve or eight variables: `lanes8`, `lanes4`) and for LUT programs on their input rows (`exec_lane`, `ttab`). -/
namespace KV

/-- `w` lanes in one natural number.  On numerals the kernel computes `&&&`, `|||`, `^^^` in one step and
keeps the result a numeral; a `BitVec` it would leave as a nest of unevaluated structure fields. -/
def Lanes (_w : Nat) := Nat

instance {w : Nat} : DecidableEq (Lanes w) := inferInstanceAs (DecidableEq Nat)
instance {w : Nat} : BAlg (Lanes w) := ⟨Nat.land, Nat.lor, Nat.xor, fun x => Nat.xor (2 ^ w - 1) x, 2 ^ w - 1, (0 : Nat)⟩

def laneN (w k : Nat) (hk : k < w) : BHom (Lanes w) Bool where
  f := fun x => Nat.testBit x k
  map_and := fun a b => Nat.testBit_and a b k
  map_or := fun a b => Nat.testBit_or a b k
  map_xor := fun a b => Nat.testBit_xor a b k
  map_not := fun (a : Nat) => by
    show Nat.testBit ((2 ^ w - 1) ^^^ a) k = !Nat.testBit a k
    simp [Nat.testBit_xor, Nat.testBit_two_pow_sub_one, hk]
  map_tt := by show Nat.testBit (2 ^ w - 1) k = true; simp [Nat.testBit_two_pow_sub_one, hk]
  map_ff := Nat.zero_testBit k

/-- the truth table of variable `m` among `k`: bit `i < 2 ^ k` is bit `m` of `i` (zeros and ones in alternating blocks of
length `2 ^ m`), built by doubling so that the kernel reaches it in `k` steps on numerals wherever it is used.  The
doubling starts at `k = m + 1` with the table of variable `m` among `m + 1`: `2 ^ m` zeros, then `2 ^ m` ones. -/
def tvar (m : Nat) : Nat → Nat
  | 0 => 0
  | k + 1 => if k < m then 0 else if k = m then (2 ^ 2 ^ m - 1) <<< 2 ^ m else tvar m k ||| (tvar m k <<< 2 ^ k)

theorem testBit_tvar (m : Nat) : ∀ k i, m < k → (tvar m k).testBit i = (decide (i < 2 ^ k) && i.testBit m)
  | 0, _, h => absurd h (Nat.not_lt_zero _)
  | k + 1, i, h => by
    have h2 : 2 ^ (k + 1) = 2 ^ k + 2 ^ k := by omega
    unfold tvar
    rw [if_neg (by omega)]
    split
    · -- the first block of ones: lanes `2 ^ m ≤ i < 2 ^ (m + 1)`
      subst k
      rw [Nat.testBit_shiftLeft, Nat.testBit_two_pow_sub_one]
      by_cases hi : 2 ^ m ≤ i
      · by_cases hj : i < 2 ^ (m + 1)
        · have hb : i.testBit m = true := by
            rw [show i = 2 ^ m + (i - 2 ^ m) by omega, Nat.testBit_two_pow_add_eq, Nat.testBit_lt_two_pow (by omega)]; rfl
          have hlt : i - 2 ^ m < 2 ^ m := by omega
          simp [hb, hi, hj, hlt]
        · have hge : ¬i - 2 ^ m < 2 ^ m := by omega
          simp [hj, hge]
      · simp [Nat.testBit_lt_two_pow (Nat.lt_of_not_le hi), hi]
    · -- doubling: the upper half repeats the lower, and bit `m < k` of `i` does not see the `2 ^ k` taken off
      have ih := fun j => testBit_tvar m k j (by omega)
      rw [Nat.testBit_or, Nat.testBit_shiftLeft, ih, ih]
      by_cases hi : 2 ^ k ≤ i
      · have hm : (i - 2 ^ k).testBit m = i.testBit m := by
          conv => rhs; rw [show i = 2 ^ k + (i - 2 ^ k) by omega]
          exact (Nat.testBit_two_pow_add_gt (by omega) _).symm
        have : (i - 2 ^ k < 2 ^ k) ↔ i < 2 ^ (k + 1) := by omega
        simp [hm, hi, Nat.not_lt_of_ge hi, this]
      · have : i < 2 ^ (k + 1) := by omega
        simp [hi, Nat.lt_of_not_le hi, this]

/-- the lane of an assignment: its values as binary digits, the first variable most significant -/
def rowIdx : List Bool → Nat
  | [] => 0
  | b :: r => 2 ^ r.length * b.toNat + rowIdx r

theorem rowIdx_lt : ∀ vals, rowIdx vals < 2 ^ vals.length
  | [] => Nat.one_pos
  | b :: r => by
    have := rowIdx_lt r
    cases b
    · show 2 ^ r.length * 0 + rowIdx r < 2 ^ (r.length + 1)
      omega
    · show 2 ^ r.length * 1 + rowIdx r < 2 ^ (r.length + 1)
      omega

theorem testBit_rowIdx : ∀ (vals : List Bool) (k : Nat), k < vals.length →
    (rowIdx vals).testBit (vals.length - 1 - k) = vals.getD k false
  | b :: r, 0, _ => by
    rw [rowIdx, Nat.testBit_two_pow_mul_add _ (rowIdx_lt r)]
    cases b <;> simp
  | b :: r, k + 1, h => by
    have hk : k < r.length := by simpa using h
    rw [rowIdx, Nat.testBit_two_pow_mul_add _ (rowIdx_lt r), List.length_cons,
      if_pos (by omega), show r.length + 1 - 1 - (k + 1) = r.length - 1 - k by omega, testBit_rowIdx r k hk]
    simp

/-- variable `k` of `n`: lane `rowIdx vals` holds `vals[k]` -/
def var (n k : Nat) : Lanes (2 ^ n) := tvar (n - 1 - k) n

theorem lane_var (vals : List Bool) {n : Nat} (hn : vals.length = n) (hi : rowIdx vals < 2 ^ n) {k : Nat} (hk : k < n) :
    (laneN _ _ hi).f (var n k) = vals.getD k false := by
  subst hn
  show (tvar _ _).testBit _ = _
  rw [testBit_tvar _ _ _ (by omega), testBit_rowIdx vals k hk, decide_eq_true hi, Bool.true_and]

theorem agree_map {F : Type → Type} (map : ∀ {α β : Type} [BAlg α] [BAlg β], BHom α β → F α → F β)
    {g g' : ∀ {α : Type} [BAlg α], F α → F α → F α → F α → F α}
    (ghom : ∀ {α β : Type} [BAlg α] [BAlg β] (h : BHom α β) (a b c d : F α),
      map h (g a b c d) = g (map h a) (map h b) (map h c) (map h d))
    (ghom' : ∀ {α β : Type} [BAlg α] [BAlg β] (h : BHom α β) (a b c d : F α),
      map h (g' a b c d) = g' (map h a) (map h b) (map h c) (map h d))
    {α β : Type} [BAlg α] [BAlg β] (h : BHom α β) {a b c d : F α} (e : g a b c d = g' a b c d) :
    g (map h a) (map h b) (map h c) (map h d) = g' (map h a) (map h b) (map h c) (map h d) := by
  rw [← ghom, ← ghom', e]

/-- operand `k` of every tuple of four 8-valued operands: twelve variables -/
def col (k : Nat) : P3 (Lanes (2 ^ 12)) := ⟨var 12 (3 * k), var 12 (3 * k + 1), var 12 (3 * k + 2)⟩
/-- operand `k` of every tuple of four 4-valued operands: eight variables -/
def col4 (k : Nat) : P2 (Lanes (2 ^ 8)) := ⟨var 8 (2 * k), var 8 (2 * k + 1)⟩

theorem lane_col (vals : List Bool) (hn : vals.length = 12) (hi : rowIdx vals < 2 ^ 12) {k : Nat} (hk : k < 4) :
    (laneN _ _ hi).f3 (col k) = ⟨vals.getD (3 * k) false, vals.getD (3 * k + 1) false, vals.getD (3 * k + 2) false⟩ := by
  rw [BHom.f3, col, lane_var vals hn hi (by omega), lane_var vals hn hi (by omega), lane_var vals hn hi (by omega)]

theorem lane_col4 (vals : List Bool) (hn : vals.length = 8) (hi : rowIdx vals < 2 ^ 8) {k : Nat} (hk : k < 4) :
    (laneN _ _ hi).f2 (col4 k) = ⟨vals.getD (2 * k) false, vals.getD (2 * k + 1) false⟩ := by
  rw [BHom.f2, col4, lane_var vals hn hi (by omega), lane_var vals hn hi (by omega)]

/-- 8-valued operators that agree on the four columns agree on every operand tuple: the tuple is a lane of them -/
theorem lanes8 {g g' : ∀ {α : Type} [BAlg α], P3 α → P3 α → P3 α → P3 α → P3 α}
    (ghom : ∀ {α β : Type} [BAlg α] [BAlg β] (h : BHom α β) (a b c d : P3 α),
      h.f3 (g a b c d) = g (h.f3 a) (h.f3 b) (h.f3 c) (h.f3 d))
    (ghom' : ∀ {α β : Type} [BAlg α] [BAlg β] (h : BHom α β) (a b c d : P3 α),
      h.f3 (g' a b c d) = g' (h.f3 a) (h.f3 b) (h.f3 c) (h.f3 d))
    (h : g (col 0) (col 1) (col 2) (col 3) = g' (col 0) (col 1) (col 2) (col 3)) (a b c d : V3) :
    g (.ofV3 a) (.ofV3 b) (.ofV3 c) (.ofV3 d) = g' (.ofV3 a) (.ofV3 b) (.ofV3 c) (.ofV3 d) := by
  have hi : _ < 2 ^ 12 := rowIdx_lt [a.p0, a.p1, a.p2, b.p0, b.p1, b.p2, c.p0, c.p1, c.p2, d.p0, d.p1, d.p2]
  have := agree_map BHom.f3 ghom ghom' (laneN _ _ hi) h
  rwa [lane_col _ rfl hi (k := 0) (by omega), lane_col _ rfl hi (k := 1) (by omega),
    lane_col _ rfl hi (k := 2) (by omega), lane_col _ rfl hi (k := 3) (by omega)] at this

theorem lanes4 {g g' : ∀ {α : Type} [BAlg α], P2 α → P2 α → P2 α → P2 α → P2 α}
    (ghom : ∀ {α β : Type} [BAlg α] [BAlg β] (h : BHom α β) (a b c d : P2 α),
      h.f2 (g a b c d) = g (h.f2 a) (h.f2 b) (h.f2 c) (h.f2 d))
    (ghom' : ∀ {α β : Type} [BAlg α] [BAlg β] (h : BHom α β) (a b c d : P2 α),
      h.f2 (g' a b c d) = g' (h.f2 a) (h.f2 b) (h.f2 c) (h.f2 d))
    (h : g (col4 0) (col4 1) (col4 2) (col4 3) = g' (col4 0) (col4 1) (col4 2) (col4 3)) (a b c d : V2) :
    g (.ofV2 a) (.ofV2 b) (.ofV2 c) (.ofV2 d) = g' (.ofV2 a) (.ofV2 b) (.ofV2 c) (.ofV2 d) := by
  have hi : _ < 2 ^ 8 := rowIdx_lt [a.p0, a.p1, b.p0, b.p1, c.p0, c.p1, d.p0, d.p1]
  have := agree_map BHom.f2 ghom ghom' (laneN _ _ hi) h
  rwa [lane_col4 _ rfl hi (k := 0) (by omega), lane_col4 _ rfl hi (k := 1) (by omega),
    lane_col4 _ rfl hi (k := 2) (by omega), lane_col4 _ rfl hi (k := 3) (by omega)] at this

/-- the truth table of `f` on `n` variables: bit `rowIdx vals` is `f vals`.  Splitting on the first variable hands `f`
a list of literals; reading the bits of a row number back into a list costs the kernel far more than `f` itself. -/
def ttab : Nat → (List Bool → Bool) → Nat
  | 0, f => (f []).toNat
  | n + 1, f => ttab n (fun r => f (false :: r)) ||| ttab n (fun r => f (true :: r)) <<< 2 ^ n

theorem ttab_lt : ∀ n f, ttab n f < 2 ^ 2 ^ n
  | 0, f => Bool.toNat_lt _
  | n + 1, f => by
    have h2 : 2 ^ (n + 1) = 2 ^ n + 2 ^ n := by omega
    rw [ttab, h2]
    refine Nat.or_lt_two_pow (Nat.lt_of_lt_of_le (ttab_lt n _) (Nat.pow_le_pow_right Nat.two_pos (Nat.le_add_right ..))) ?_
    rw [Nat.shiftLeft_eq, Nat.pow_add]
    exact Nat.mul_lt_mul_of_lt_of_le (ttab_lt n _) (Nat.le_refl _) (Nat.two_pow_pos _)

theorem testBit_ttab : ∀ (vals : List Bool) {n : Nat}, vals.length = n → ∀ f : List Bool → Bool,
    (ttab n f).testBit (rowIdx vals) = f vals
  | [], _, rfl, f => by cases h : f [] <;> simp [ttab, rowIdx, h]
  | false :: r, _, rfl, f => by
    have := rowIdx_lt r
    simp [ttab, rowIdx, testBit_ttab r rfl, Nat.not_le_of_lt this]
  | true :: r, _, rfl, f => by
    -- the table of the `false` half has no bit at `2 ^ r.length` or above
    have h := Nat.testBit_lt_two_pow (Nat.lt_of_lt_of_le (ttab_lt r.length fun r => f (false :: r))
      (Nat.pow_le_pow_right Nat.two_pos (Nat.le_add_right _ (rowIdx r))))
    simp [ttab, rowIdx, testBit_ttab r rfl, h]

open KV.Sig

def muxA {α : Type} [BAlg α] (s x y : α) : α := BAlg.or (BAlg.and s x) (BAlg.and (BAlg.not s) y)
def bitA {α : Type} [BAlg α] (code i : Nat) : α := if code.testBit i then BAlg.tt else BAlg.ff

def lutSemA {α : Type} [BAlg α] (code : Nat) (xs : List α) : α :=
  let a := xs.getD 0 BAlg.ff
  let b := xs.getD 1 BAlg.ff
  let c := xs.getD 2 BAlg.ff
  let d := xs.getD 3 BAlg.ff
  muxA d
    (muxA c (muxA b (muxA a (bitA code 15) (bitA code 14)) (muxA a (bitA code 13) (bitA code 12)))
      (muxA b (muxA a (bitA code 11) (bitA code 10)) (muxA a (bitA code 9) (bitA code 8))))
    (muxA c (muxA b (muxA a (bitA code 7) (bitA code 6)) (muxA a (bitA code 5) (bitA code 4)))
      (muxA b (muxA a (bitA code 3) (bitA code 2)) (muxA a (bitA code 1) (bitA code 0))))

theorem lutBit4_eq_testBit (code : Nat) (a b c d : Bool) : lutBit4 code a b c d = code.testBit (lutIdx a b c d) := by
  rw [lutBit4, Nat.testBit_eq_decide_div_mod_eq, Nat.shiftRight_eq_div_pow]
  rfl

theorem lutSemA_bool : @lutSemA Bool _ = lutSem := by
  funext code xs
  simp only [lutSemA, lutSem, lutBit4_eq_testBit]
  generalize xs.getD 0 _ = a, xs.getD 1 _ = b, xs.getD 2 _ = c, xs.getD 3 _ = d
  cases a <;> cases b <;> cases c <;> cases d <;> simp [muxA, bitA, BAlg.and, BAlg.or, BAlg.not, BAlg.tt, BAlg.ff, lutIdx]

theorem lutSemA_rel {α β : Type} [BAlg α] [BAlg β] (h : BHom α β) (code : Nat) {xs : List α} {ys : List β}
    (hxy : All2 (fun a b => h.f a = b) xs ys) : h.f (lutSemA code xs) = lutSemA code ys := by
  have g := fun i => hxy.getD i BAlg.ff BAlg.ff h.map_ff
  simp only [lutSemA, muxA, bitA, h.map_and, h.map_or, h.map_not, apply_ite h.f, h.map_tt, h.map_ff, g]

theorem exec_lane {α : Type} [BAlg α] (h : BHom α Bool) (ops : List Op) (e : Nat → α) (l : Nat) :
    h.f (exec lutSemA ops e l) = exec lutSem ops (fun s => h.f (e s)) l :=
  lutSemA_bool ▸ exec_rel (fun a b => h.f a = b) lutSemA lutSemA (fun code _ _ => lutSemA_rel h code) ops e _ (fun _ => rfl) l

end KV
