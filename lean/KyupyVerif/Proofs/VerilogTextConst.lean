import KyupyVerif.Proofs.VerilogText
import KyupyVerif.Proofs.Netlist
/-! Token class of SIZED CONSTANTS: every spelling `W'Bdigits` of the same width and the same value cut to
the width expands to the same bit list (`const_same`; with `collapse_inj`, `mod_eq_of_testBit` for the converse), and two module trees that differ only in such
spellings (`sameModule`) build the same circuit (`circOfModule_same`). -/
namespace KV.VerilogText
open KV.Netlist

theorem constBits_eq (w : Nat) (b : Char) (ds : List Char) :
    constBits w b ds = (List.range w).map fun i => bitStr ((parseNum (baseOf b) ds).testBit (w - 1 - i)) := by
  simp [constBits, constLoop_eq]

theorem testBit_of_mod_eq {w K K' : Nat} (h : K % 2 ^ w = K' % 2 ^ w) (j : Nat) (hj : j < w) : K.testBit j = K'.testBit j := by
  have h1 := Nat.testBit_mod_two_pow K w j
  have h2 := Nat.testBit_mod_two_pow K' w j
  rw [h] at h1
  simp only [hj, decide_true, Bool.true_and] at h1 h2
  rw [← h1, h2]

theorem mod_eq_of_testBit {w K K' : Nat} (h : ∀ j, j < w → K.testBit j = K'.testBit j) : K % 2 ^ w = K' % 2 ^ w := by
  apply Nat.eq_of_testBit_eq
  intro j
  rw [Nat.testBit_mod_two_pow, Nat.testBit_mod_two_pow]
  by_cases hj : j < w
  · simp only [hj, decide_true, Bool.true_and]; exact h j hj
  · simp [hj]

theorem bitStr_inj {a b : Bool} (h : bitStr a = bitStr b) : a = b := by
  cases a <;> cases b <;> first | rfl | (exfalso; revert h; decide)

theorem collapse_inj {l l' : List String} (h : collapse l = collapse l') : l = l' := by
  have := congrArg SelVal.toList h
  rwa [collapse_toList, collapse_toList] at this

/-- covers every base letter, letter case, leading zeros and excess digits -/
theorem const_same (w : Nat) (b b' : Char) (ds ds' : List Char)
    (h : parseNum (baseOf b) ds % 2 ^ w = parseNum (baseOf b') ds' % 2 ^ w) :
    sigsel (.const w b ds) = sigsel (.const w b' ds') := by
  simp only [sigsel, constBits_eq]
  congr 1
  apply List.map_congr_left
  intro i hi
  have hi' : i < w := List.mem_range.mp hi
  rw [testBit_of_mod_eq h (w - 1 - i) (by omega)]

theorem parseNum_zero_cons (base : Nat) (ds : List Char) : parseNum base ('0' :: ds) = parseNum base ds := by
  simp [parseNum, digitVal]

theorem toSel_const (n : String) (h : isConstWord n.toList = true) :
    toSel (.sig n none) = some (.const (constW n) (constB n) (constD n)) := by
  have hq : n.toList.contains '\'' = true := by
    obtain ⟨c, ds, b, hh, hs, e, -⟩ := constWord_parts _ h
    simp [e]
  simp only [toSel, hq, h, if_true, constW, constB, constD]

/-- what the post-parse model uses of a selection: its expansion and whether `sigsel` raises -/
def selKey (a : Sel) : SelVal × Bool := (sigsel a, a.ok)
def selsKey (l : List Sel) : List String × Bool := (concatL l, Sel.ok.okL l)

theorem sameConst_key (n n' : String) (h : sameConst n n' = true) :
    (toSel (.sig n none)).map selKey = (toSel (.sig n' none)).map selKey := by
  simp only [sameConst, Bool.and_eq_true, beq_iff_eq] at h
  obtain ⟨⟨⟨⟨h1, h2⟩, hw⟩, hv⟩, hd⟩ := h
  rw [toSel_const n h1, toSel_const n' h2]
  simp only [Option.map_some, selKey, Sel.ok, Option.some.injEq, Prod.mk.injEq]
  rw [← hw, hd]
  exact ⟨const_same _ _ _ _ _ hv, rfl⟩

/- The proofs below end with one script, `cases` on the optional parts `<;> rw … <;> simp_all [keys]`. Its idea:
`Option.map key a = Option.map key b` forces `a`, `b` to be both `none` or both `some` with equal keys; the `match … | some, some`
of `toSels` / `toPins` / `toR` / `toRs` then yields `none` on both sides or `some` of values whose key is a function of the keys
of the parts. The mixed `none`/`some` goals are contradictions with the induction hypotheses. (One lemma cannot say this for all
four definitions: each has its own compiled matcher.) -/
mutual
theorem sameSel_key : ∀ (x y : VSel), sameSel x y = true → (toSel x).map selKey = (toSel y).map selKey
  | .sig n none, .sig n' none, h => by
    simp only [sameSel, Bool.or_eq_true, beq_iff_eq] at h
    rcases h with h | h
    · rw [h]
    · exact sameConst_key n n' h
  | .sig n (some rg), .sig n' (some rg'), h => by
    simp only [sameSel, Bool.and_eq_true, beq_iff_eq] at h
    rw [h.1, h.2]
  | .cat xs, .cat ys, h => by
    simp only [sameSel] at h
    have ih := sameSels_key xs ys h
    simp only [toSel]
    cases hx : toSels xs <;> cases hy : toSels ys <;> rw [hx, hy] at ih <;> simp_all [selKey, selsKey, sigsel, Sel.ok]
  | .sig _ none, .sig _ (some _), h | .sig _ (some _), .sig _ none, h | .sig _ none, .cat _, h | .sig _ (some _), .cat _, h
  | .cat _, .sig _ none, h | .cat _, .sig _ (some _), h => by simp [sameSel] at h
theorem sameSels_key : ∀ (xs ys : List VSel), sameSels xs ys = true → (toSels xs).map selsKey = (toSels ys).map selsKey
  | [], [], _ => rfl
  | x :: r, y :: r', h => by
    simp only [sameSels, Bool.and_eq_true] at h
    have ih1 := sameSel_key x y h.1
    have ih2 := sameSels_key r r' h.2
    simp only [toSels]
    cases hx : toSel x <;> cases hy : toSel y <;> cases hr : toSels r <;> cases hr' : toSels r' <;>
      rw [hx, hy] at ih1 <;> rw [hr, hr'] at ih2 <;> simp_all [selKey, selsKey, concatL, Sel.ok.okL]
  | [], _ :: _, h | _ :: _, [], h => by simp [sameSels] at h
end

def pinStep' (m : List (String × SelVal)) (q : String × Option SelVal) : List (String × SelVal) :=
  match q.2 with
  | some v => pinPut m q.1 v
  | none => m

theorem instantiation_eq (l : List (String × Option Sel)) :
    instantiation l = (l.map fun p => (p.1, p.2.map sigsel)).foldl pinStep' [] := by
  simp only [instantiation, List.foldl_map]
  congr 1
  funext m ⟨n, o⟩
  cases o <;> rfl

def pinOk (p : String × Option Sel) : Bool := match p.2 with | some s => s.ok | none => true

def pinsKey (l : List (String × Option Sel)) : List (String × Option SelVal) × Bool :=
  (l.map fun p => (p.1, p.2.map sigsel), l.all pinOk)

theorem samePins_key : ∀ (ps qs : List VPin), samePins ps qs = true →
    (toPins ps).map pinsKey = (toPins qs).map pinsKey ∧ ps.any VPin.isPos = qs.any VPin.isPos
  | [], [], _ => ⟨rfl, rfl⟩
  | [], _ :: _, h | _ :: _, [], h => by simp [samePins] at h
  | p :: r, q :: r', h => by
    simp only [samePins, Bool.and_eq_true] at h
    obtain ⟨ih1, ih2⟩ := samePins_key r r' h.2
    cases p with
    | named pn o =>
      cases q with
      | pos _ => simp [samePin] at h
      | named qn o' =>
        cases o with
        | none =>
          cases o' with
          | some _ => simp [samePin] at h
          | none =>
            have hn : pn = qn := by simpa [samePin] using h.1
            subst hn
            refine ⟨?_, by simp only [List.any_cons, VPin.isPos, ih2]⟩
            simp only [toPins]
            cases hr : toPins r <;> cases hr' : toPins r' <;> rw [hr, hr'] at ih1 <;> simp_all [pinsKey, pinOk]
        | some x =>
          cases o' with
          | none => simp [samePin] at h
          | some y =>
            have hh : pn = qn ∧ sameSel x y = true := by simpa [samePin] using h.1
            obtain ⟨hn, hxy⟩ := hh
            subst hn
            have ihs := sameSel_key x y hxy
            refine ⟨?_, by simp only [List.any_cons, VPin.isPos, ih2]⟩
            simp only [toPins]
            cases hx : toSel x <;> cases hy : toSel y <;> cases hr : toPins r <;> cases hr' : toPins r' <;>
              rw [hx, hy] at ihs <;> rw [hr, hr'] at ih1 <;> simp_all [pinsKey, pinOk, selKey]
    | pos x =>
      cases q with
      | named _ _ => simp [samePin] at h
      | pos y =>
        refine ⟨?_, by simp only [List.any_cons, VPin.isPos, Bool.true_or]⟩
        simp only [toPins]
        exact ih1

def stmtKey (r : RStmt) : Stmt × Bool := (transform r, r.ok)

theorem rstmt_ok_inst (ty nm : String) (l : List (String × Option Sel)) : (RStmt.inst ty nm l).ok = l.all pinOk := rfl

theorem sameStmt_key (st st' : VStmt) (h : sameStmt st st' = true) :
    (toR st).map stmtKey = (toR st').map stmtKey ∧ st.hasPos = st'.hasPos := by
  cases st with
  | decl k r ns =>
    cases st' with
    | decl k' r' ns' =>
      simp only [sameStmt, Bool.and_eq_true, beq_iff_eq] at h
      obtain ⟨⟨h1, h2⟩, h3⟩ := h
      subst h1 h2 h3
      exact ⟨rfl, rfl⟩
    | _ => simp [sameStmt] at h
  | assign t s =>
    cases st' with
    | assign t' s' =>
      simp only [sameStmt, Bool.and_eq_true] at h
      have i1 := sameSel_key t t' h.1
      have i2 := sameSel_key s s' h.2
      refine ⟨?_, rfl⟩
      simp only [toR]
      cases ht : toSel t <;> cases ht' : toSel t' <;> cases hs : toSel s <;> cases hs' : toSel s' <;>
        rw [ht, ht'] at i1 <;> rw [hs, hs'] at i2 <;> simp_all [stmtKey, selKey, transform, RStmt.ok]
    | _ => simp [sameStmt] at h
  | inst ty nm pins =>
    cases st' with
    | inst ty' nm' pins' =>
      simp only [sameStmt, Bool.and_eq_true, beq_iff_eq] at h
      obtain ⟨⟨h1, h2⟩, h3⟩ := h
      subst h1 h2
      obtain ⟨i1, i2⟩ := samePins_key pins pins' h3
      refine ⟨?_, i2⟩
      simp only [toR]
      cases hp : toPins pins <;> cases hp' : toPins pins' <;> rw [hp, hp'] at i1 <;>
        simp_all [stmtKey, transform, rstmt_ok_inst, instantiation_eq, pinsKey]
    | _ => simp [sameStmt] at h

def stmtsKey (rs : List RStmt) : List Stmt × Bool := (rs.map transform, rs.all RStmt.ok)

theorem sameStmts_key : ∀ (a b : List VStmt), sameStmts a b = true →
    (toRs a).map stmtsKey = (toRs b).map stmtsKey ∧ a.any VStmt.hasPos = b.any VStmt.hasPos
  | [], [], _ => ⟨rfl, rfl⟩
  | [], _ :: _, h | _ :: _, [], h => by simp [sameStmts] at h
  | x :: r, y :: r', h => by
    simp only [sameStmts, Bool.and_eq_true] at h
    obtain ⟨i1, i2⟩ := sameStmt_key x y h.1
    obtain ⟨j1, j2⟩ := sameStmts_key r r' h.2
    refine ⟨?_, by simp only [List.any_cons, i2, j2]⟩
    simp only [toRs]
    cases hx : toR x <;> cases hy : toR y <;> cases hr : toRs r <;> cases hr' : toRs r' <;>
      rw [hx, hy] at i1 <;> rw [hr, hr'] at j1 <;> simp_all [stmtsKey, stmtKey]

/-- two module trees that differ only in the spelling of sized constants build the same circuit (or both are outside the
modelled domain, or both raise) -/
theorem circOfModule_same (cfg : Cfg) (tl : TL) (m m' : VModule) (h : sameModule m m' = true) :
    circOfModule cfg tl m = circOfModule cfg tl m' := by
  simp only [sameModule, Bool.and_eq_true, beq_iff_eq] at h
  obtain ⟨⟨_, hp⟩, hs⟩ := h
  obtain ⟨i1, i2⟩ := sameStmts_key m.stmts m'.stmts hs
  simp only [circOfModule, hp, i2]
  cases hr : toRs m.stmts <;> cases hr' : toRs m'.stmts <;> rw [hr, hr'] at i1 <;> simp_all [stmtsKey]

theorem circOfText_of_parse (cfg : Cfg) (tl : TL) (text : String) (m : VModule) (h : parseVerilog text = some [m]) :
    circOfText cfg tl text = circOfModule cfg tl m := by
  simp only [circOfText, circOfModule, h]

end KV.VerilogText
