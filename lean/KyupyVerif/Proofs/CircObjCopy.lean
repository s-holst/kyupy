import KyupyVerif.Proofs.CircObjState
import KyupyVerif.Proofs.CircObjLoops
/-! C09: on a well-formed circuit `copy()` computes exactly the pickle round trip; hence it preserves `WFc`. -/
namespace KV.CircObj

variable {c : Circ}

structure Mirrors (c acc : Circ) : Prop where
  wf : WFc0 acc
  nodes : acc.nodes = List.range c.nodes.length
  objs : ∀ j (h : j < c.nodes.length), (acc.nobj j).name = (c.nobj c.nodes[j]).name ∧ (acc.nobj j).kind = (c.nobj c.nodes[j]).kind

theorem Mirrors.lookup {acc : Circ} (m : Mirrors c acc) (wf : WFc c) {i : Nat} (hi : i ∈ c.nodes) :
    lookupNode acc (c.nobj i).name (c.nobj i).kind = some (c.nobj i).index := by
  obtain ⟨hk, hki⟩ := wf.node_at hi
  obtain ⟨o1, o2⟩ := m.objs _ hk
  rw [hki] at o1 o2
  have hmem : (c.nobj i).index ∈ acc.nodes := by rw [m.nodes]; simp [hk]
  have d := (SInv.of_wfc0 m.wf).dict ((c.nobj i).kind == FORK)
  rw [lookupNode_eq, lookup_eq_some d.keys, ← o1]
  exact d.complete _ hmem (by rw [o2])

def specOf (c : Circ) (l : Nat) : LSpec :=
  (((c.lobj l).driver.map fun d => (c.nobj d).index).getD 0, (c.lobj l).driverPin,
   ((c.lobj l).reader.map fun r => (c.nobj r).index).getD 0, (c.lobj l).readerPin)

theorem copyLine_eq {acc : Circ} (m : Mirrors c acc) (wf : WFc c) {l : Nat} (hl : l ∈ c.lines) :
    copyLine c acc l = setLine acc (specOf c l) := by
  obtain ⟨d, d1, d2, _⟩ := wf.ldrv l hl
  obtain ⟨r, r1, r2, _⟩ := wf.lrdr l hl
  have h1 : acc.nodes[(c.nobj d).index]? = some (c.nobj d).index := by rw [m.nodes]; simp [(wf.node_at d2).1]
  have h2 : acc.nodes[(c.nobj r).index]? = some (c.nobj r).index := by rw [m.nodes]; simp [(wf.node_at r2).1]
  simp [copyLine, setLine, specOf, d1, r1, m.lookup wf d2, m.lookup wf r2, h1, h2]

theorem mirrors_of_setLines {done : List LSpec} {acc : Circ}
    (inv : SetLinesInv (c.nodes.map fun i => ((c.nobj i).name, (c.nobj i).kind)) done acc) : Mirrors c acc :=
  ⟨inv.wf, by simpa using inv.nodes, fun j h => by
    have := inv.objs j (by simpa using h)
    simpa [List.getElem_map] using this⟩

theorem copyLines_eq (wf : WFc c) (acc : Circ)
    (inv : SetLinesInv (c.nodes.map fun i => ((c.nobj i).name, (c.nobj i).kind)) [] acc)
    (hends : ∀ e ∈ c.lines.map (specOf c), e.1 < (getState c).nodes.length ∧ e.2.2.1 < (getState c).nodes.length)
    (hout : (c.lines.map (specOf c)).Pairwise fun a b => ¬ (a.1 = b.1 ∧ a.2.1 = b.2.1))
    (hin : (c.lines.map (specOf c)).Pairwise fun a b => ¬ (a.2.2.1 = b.2.2.1 ∧ a.2.2.2 = b.2.2.2)) :
    c.lines.foldl (copyLine c) acc = (c.lines.map (specOf c)).foldl setLine acc := by
  rw [List.foldl_map]
  refine foldl_congr_inv _ _ (fun pre s => SetLinesInv _ (pre.map (specOf c)) s) c.lines [] acc inv ?_
  intro pre x r s e i
  simp only [List.nil_append] at i ⊢
  rw [e, List.map_append, List.map_cons] at hout hin
  refine ⟨copyLine_eq (mirrors_of_setLines i) wf (by simp [e]), ?_⟩
  rw [List.map_append]
  exact setLines_step i _ (hends _ (by simp [e]))
    (fun a ha => (List.pairwise_append.1 hout).2.2 a ha _ (by simp))
    (fun a ha => (List.pairwise_append.1 hin).2.2 a ha _ (by simp))

theorem mirrors_setIo {acc : Circ} (m : Mirrors c acc) {k : Nat} (hk : k < c.nodes.length) :
    setIo acc k = ioAppend acc k ∧ Mirrors c (ioAppend acc k) := by
  have h1 : acc.nodes[k]? = some k := by rw [m.nodes]; simp [hk]
  exact ⟨by simp [setIo, h1], ioAppend_wf0 m.wf (List.mem_of_getElem? h1), m.nodes, m.objs⟩

theorem copyIo_eq (wf : WFc c) (acc : Circ) (m : Mirrors c acc) :
    c.io.foldl (copyIo c) acc = (c.io.map fun i => (c.nobj i).index).foldl setIo acc := by
  rw [List.foldl_map]
  refine foldl_congr_inv _ _ (fun _ s => Mirrors c s) c.io [] acc m fun pre i r s e m => ?_
  have hi := wf.ioIn i (by simp [e])
  have := mirrors_setIo m (wf.node_at hi).1
  exact ⟨by rw [this.1]; simp [copyIo, m.lookup wf hi], this.1 ▸ this.2⟩

theorem copy_eq_pickle (wf : WFc c) : copy c = pickle c := by
  have ok := getState_ok wf
  have hlines : (getState c).lines = c.lines.map (specOf c) := rfl
  have hio : (getState c).io = c.io.map fun i => (c.nobj i).index := rfl
  have e1 : c.nodes.foldl (fun acc i => addNode acc (c.nobj i).name (c.nobj i).kind) empty =
      (getState c).nodes.foldl (fun acc p => addNode acc p.1 p.2) empty := by
    show _ = (c.nodes.map fun i => ((c.nobj i).name, (c.nobj i).kind)).foldl _ empty
    rw [List.foldl_map]
  have i1 := setNodes_fold (getState c).nodes ok.names
  have i2 : SetLinesInv (c.nodes.map fun i => ((c.nobj i).name, (c.nobj i).kind)) [] _ := setLines_of_setNodes i1
  have e2 := copyLines_eq wf _ i2 ok.ends ok.outPins ok.inPins
  have i3 := setLines_fold _ (c.lines.map (specOf c)) _ i2 ok.ends ok.outPins ok.inPins
  have e3 := copyIo_eq wf _ (mirrors_of_setLines i3)
  show List.foldl (copyIo c) (List.foldl (copyLine c)
      (List.foldl (fun acc i => addNode acc (c.nobj i).name (c.nobj i).kind) empty c.nodes) c.lines) c.io =
    List.foldl setIo (List.foldl setLine (List.foldl (fun acc p => addNode acc p.1 p.2) empty (getState c).nodes)
      (getState c).lines) (getState c).io
  rw [e1, e2, e3, hlines, hio]

theorem copy_wf (wf : WFc c) : WFc (copy c) := by rw [copy_eq_pickle wf]; exact pickle_wf wf

end KV.CircObj
