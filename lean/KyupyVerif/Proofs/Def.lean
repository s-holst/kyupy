import KyupyVerif.Model.Def
/-! Lemmas for C20: dictionary algebra (every dictionary of the model is `[].extendAll log`, observed through `get_extendAll`,
`mem_keys_extendAll`, `nodup_keys_extendAll`), wildcard resolution, via walk, aggregation. -/
namespace KV.Def

namespace Dict
variable {α : Type}

theorem get_extend (d : Dict α) (k : String) (vs : List α) (k' : String) :
    (d.extend k vs).get k' = if k = k' then d.get k' ++ vs else d.get k' := by
  induction d with
  | nil => by_cases h : k = k' <;> simp [extend, get, h]
  | cons e r ih =>
    obtain ⟨k0, l⟩ := e
    by_cases h0 : k0 = k <;> by_cases h1 : k0 = k' <;> by_cases h : k = k' <;> simp_all [extend, get]

/-- `d[k].append(v)` is `d[k].extend([v])` -/
theorem push_eq_extend (d : Dict α) (k : String) (v : α) : d.push k v = d.extend k [v] := by
  induction d with
  | nil => rfl
  | cons e r ih => simp only [push, extend, ih]

theorem get_push (d : Dict α) (k : String) (v : α) (k' : String) :
    (d.push k v).get k' = if k = k' then d.get k' ++ [v] else d.get k' := by
  rw [push_eq_extend, get_extend]

theorem keys_extend (d : Dict α) (k : String) (vs : List α) :
    (d.extend k vs).keys = if k ∈ d.keys then d.keys else d.keys ++ [k] := by
  induction d with
  | nil => simp [extend, keys]
  | cons e r ih =>
    obtain ⟨k0, l⟩ := e
    by_cases h0 : k0 = k
    · subst h0; simp [extend, keys]
    · have h0' : ¬ k = k0 := fun h => h0 h.symm
      simp only [keys] at ih
      by_cases hm : k ∈ r.map (·.1) <;> simp_all [extend, keys]

theorem mem_keys_extend (d : Dict α) (k : String) (vs : List α) (k' : String) :
    k' ∈ (d.extend k vs).keys ↔ k' ∈ d.keys ∨ k' = k := by
  rw [keys_extend]; split
  · constructor
    · exact Or.inl
    · rintro (h | rfl)
      · exact h
      · assumption
  · simp

theorem mem_keys_push (d : Dict α) (k : String) (v : α) (k' : String) :
    k' ∈ (d.push k v).keys ↔ k' ∈ d.keys ∨ k' = k := by
  rw [push_eq_extend, mem_keys_extend]

theorem nodup_append_singleton {l : List String} {k : String} (h : l.Nodup) (hk : k ∉ l) : (l ++ [k]).Nodup := by
  simpa [List.nodup_append, h] using fun a ha (e : a = k) => hk (e ▸ ha)

theorem nodup_keys_extend {d : Dict α} (h : d.keys.Nodup) (k : String) (vs : List α) : (d.extend k vs).keys.Nodup := by
  rw [keys_extend]; split
  · exact h
  · exact nodup_append_singleton h ‹_›

theorem nodup_keys_push {d : Dict α} (h : d.keys.Nodup) (k : String) (v : α) : (d.push k v).keys.Nodup :=
  push_eq_extend d k v ▸ nodup_keys_extend h k [v]

theorem items_get {d : Dict α} (h : d.keys.Nodup) (t : String) :
    (d.filter (·.1 = t)).flatMap (·.2) = d.get t := by
  induction d with
  | nil => simp [get]
  | cons e r ih =>
    obtain ⟨k0, l⟩ := e
    simp only [keys, List.map_cons, List.nodup_cons] at h
    by_cases h0 : k0 = t
    · subst h0
      have : r.filter (fun e => decide (e.1 = k0)) = [] := by
        rw [List.filter_eq_nil_iff]; intro e he hek
        simp at hek; apply h.1; rw [← hek]; exact List.mem_map_of_mem he
      simp [get, this]
    · have := ih h.2
      simp [get, h0, this]

theorem get_not_mem_keys {d : Dict α} {t : String} (h : t ∉ d.keys) : d.get t = [] := by
  induction d with
  | nil => rfl
  | cons e r ih =>
    obtain ⟨k0, l⟩ := e
    simp only [keys, List.map_cons, List.mem_cons, not_or] at h
    have h0 : ¬ k0 = t := fun e => h.1 e.symm
    simp only [get, h0, if_false]; exact ih h.2
/-- the dictionary after the insertions `kvs` (`d[k].extend(vs)` for each `(k, vs)`, in order). Every dictionary of the model
is `[].extendAll log` for some log (`viasD_eq`, `netWiresD_eq`, `netViasD_eq`); what the theorems say about them is read off
the three observations `get_extendAll`, `mem_keys_extendAll`, `nodup_keys_extendAll`. -/
def extendAll (d : Dict α) (kvs : List (String × List α)) : Dict α := kvs.foldl (fun d kv => d.extend kv.1 kv.2) d

/-- a single appended value as an insertion -/
abbrev one (e : String × α) : String × List α := (e.1, [e.2])

theorem extendAll_append (d : Dict α) (a b : List (String × List α)) :
    d.extendAll (a ++ b) = (d.extendAll a).extendAll b := List.foldl_append

theorem foldl_extendAll {β : Type} (f : β → List (String × List α)) (xs : List β) (d : Dict α) :
    xs.foldl (fun d x => d.extendAll (f x)) d = d.extendAll (xs.flatMap f) := List.foldl_flatMap.symm

theorem foldl_push (vs : List α) (d : Dict α) (n : String) :
    vs.foldl (fun d v => d.push n v) d = d.extendAll (vs.map fun v => (n, [v])) := by
  simp only [extendAll, List.foldl_map, push_eq_extend]

theorem get_extendAll (d : Dict α) (kvs : List (String × List α)) (t : String) :
    (d.extendAll kvs).get t = d.get t ++ (kvs.filter (·.1 = t)).flatMap (·.2) := by
  induction kvs generalizing d with
  | nil => simp [extendAll]
  | cons kv kvs ih =>
    simp only [extendAll, List.foldl_cons] at ih ⊢
    simp only [ih, get_extend]
    by_cases h : kv.1 = t <;> simp [h]

theorem mem_keys_extendAll (d : Dict α) (kvs : List (String × List α)) (k : String) :
    k ∈ (d.extendAll kvs).keys ↔ k ∈ d.keys ∨ k ∈ kvs.map (·.1) := by
  induction kvs generalizing d with
  | nil => simp [extendAll]
  | cons kv kvs ih =>
    simp only [extendAll, List.foldl_cons] at ih ⊢
    simp only [ih, mem_keys_extend, List.map_cons, List.mem_cons]
    exact or_assoc

theorem nodup_keys_extendAll (d : Dict α) (kvs : List (String × List α)) (h : d.keys.Nodup) :
    (d.extendAll kvs).keys.Nodup := by
  induction kvs generalizing d with
  | nil => exact h
  | cons kv kvs ih => exact ih _ (nodup_keys_extend h _ _)

theorem get_extendAll_one (d : Dict α) (l : List (String × α)) (t : String) :
    (d.extendAll (l.map one)).get t = d.get t ++ (l.filter (·.1 = t)).map (·.2) := by
  rw [get_extendAll]; congr 1
  induction l with
  | nil => rfl
  | cons e l ih => by_cases h : e.1 = t <;> simp_all

theorem mem_keys_extendAll_one (d : Dict α) (l : List (String × α)) (k : String) :
    k ∈ (d.extendAll (l.map one)).keys ↔ k ∈ d.keys ∨ ∃ e ∈ l, e.1 = k := by
  simp [mem_keys_extendAll]

theorem map_extend {β : Type} (f : α → β) (d : Dict α) (k : String) (vs : List α) :
    (d.extend k vs).map (fun kv => (kv.1, kv.2.map f)) = extend (d.map fun kv => (kv.1, kv.2.map f)) k (vs.map f) := by
  induction d with
  | nil => rfl
  | cons e r ih =>
    obtain ⟨k0, l⟩ := e
    by_cases hk : k0 = k <;> simp [extend, hk, ih]

theorem map_extendAll {β : Type} (f : α → β) (d : Dict α) (kvs : List (String × List α)) :
    (d.extendAll kvs).map (fun kv => (kv.1, kv.2.map f)) =
      extendAll (d.map fun kv => (kv.1, kv.2.map f)) (kvs.map fun kv => (kv.1, kv.2.map f)) := by
  induction kvs generalizing d with
  | nil => rfl
  | cons kv kvs ih => simp only [extendAll, List.foldl_cons, List.map_cons] at ih ⊢; rw [ih, map_extend]
end Dict

theorem length_resolveFrom (loc : Loc) (ps : List RPt) : (resolveFrom loc ps).length = ps.length := by
  induction ps generalizing loc with
  | nil => rfl
  | cons p ps ih => simp [resolveFrom, ih]

theorem resolve_succ (loc : Loc) (ps : List RPt) (i : Nat) (h1 : i + 1 < ps.length)
    (hr0 : i < (resolveFrom loc ps).length) (hr1 : i + 1 < (resolveFrom loc ps).length) :
    (resolveFrom loc ps)[i + 1] = ps[i + 1].onto ((resolveFrom loc ps)[i]) := by
  induction ps generalizing loc i with
  | nil => simp at h1
  | cons p ps ih =>
    cases i with
    | zero =>
      match ps, h1 with
      | q :: qs, _ => simp [resolveFrom]
    | succ i =>
      have h1' : i + 1 < ps.length := by simpa using h1
      have := ih (p.onto loc) i h1' (by rw [length_resolveFrom]; omega) (by rw [length_resolveFrom]; omega)
      simpa [resolveFrom] using this

theorem resolve_zero (loc : Loc) (p : RPt) (ps : List RPt) :
    (resolveFrom loc (p :: ps))[0]'(by simp [resolveFrom]) = p.onto loc := by
  simp [resolveFrom]

/-- on either axis (`f` reads the written coordinate, `g` the resolved one): the resolved coordinate of point `i` is the most recent
explicit value among `ps[0..i]`, or the incoming `loc` when all are `*` -/
theorem resolve_prev (f : RPt → Option Int) (g : Loc → Int) (hfg : ∀ p loc, g (p.onto loc) = (f p).getD (g loc))
    (loc : Loc) (ps : List RPt) (i : Nat) (hi : i < ps.length) (hr : i < (resolveFrom loc ps).length) :
    (∃ j, ∃ hj : j < ps.length, j ≤ i ∧ f ps[j] = some (g (resolveFrom loc ps)[i]) ∧
        ∀ k, ∀ hk : k < ps.length, j < k → k ≤ i → f ps[k] = none) ∨
    ((∀ k, ∀ hk : k < ps.length, k ≤ i → f ps[k] = none) ∧ g (resolveFrom loc ps)[i] = g loc) := by
  induction i with
  | zero =>
    match ps, hi, hr with
    | p :: ps, hi, hr =>
      have e : g (resolveFrom loc (p :: ps))[0] = (f p).getD (g loc) := hfg p loc
      cases hx : f p with
      | some v => exact Or.inl ⟨0, hi, Nat.le_refl _, by rw [e, hx]; exact hx, fun k hk h1 h2 => by omega⟩
      | none =>
        refine Or.inr ⟨fun k hk h => ?_, by rw [e, hx]; rfl⟩
        have : k = 0 := by omega
        subst this; exact hx
  | succ i ih =>
    have e : g (resolveFrom loc ps)[i + 1] = (f ps[i + 1]).getD (g ((resolveFrom loc ps)[i]'(by omega))) := by
      rw [resolve_succ loc ps i hi (by omega) hr]; exact hfg _ _
    cases hx : f ps[i + 1] with
    | some v => exact Or.inl ⟨i + 1, hi, Nat.le_refl _, by rw [e, hx]; rfl, fun k hk h1 h2 => by omega⟩
    | none =>
      have hlast : ∀ k, ∀ hk : k < ps.length, ¬ k ≤ i → k ≤ i + 1 → f ps[k] = none := by
        intro k hk h1 h2
        have : k = i + 1 := by omega
        subst this; exact hx
      rw [e, hx]
      rcases ih (by omega) (by omega) with ⟨j, hj, hji, hv, hn⟩ | ⟨hall, hv⟩
      · refine Or.inl ⟨j, hj, by omega, hv, fun k hk h1 h2 => ?_⟩
        by_cases h : k ≤ i
        · exact hn k hk h1 h
        · exact hlast k hk h h2
      · refine Or.inr ⟨fun k hk h2 => ?_, hv⟩
        by_cases h : k ≤ i
        · exact hall k hk h
        · exact hlast k hk h h2

theorem attachExt_eq (ls : List Loc) (ps : List RPt) :
    attachExt ls ps = List.zipWith (fun l p => ⟨l.1, l.2, p.ext⟩) ls ps := by
  induction ls generalizing ps with
  | nil => cases ps <;> rfl
  | cons l ls ih => cases ps <;> simp [attachExt, ih]

theorem length_attachExt (ls : List Loc) (ps : List RPt) (h : ls.length = ps.length) :
    (attachExt ls ps).length = ps.length := by
  simp [attachExt_eq, h]

theorem getElem_attachExt (ls : List Loc) (ps : List RPt) (i : Nat) (h1 : i < ls.length) (h2 : i < ps.length)
    (h3 : i < (attachExt ls ps).length) :
    (attachExt ls ps)[i] = ⟨ls[i].1, ls[i].2, ps[i].ext⟩ := by
  simp [attachExt_eq]

theorem ptsOf_append (a b : List Item) : ptsOf (a ++ b) = ptsOf a ++ ptsOf b := by
  induction a with
  | nil => rfl
  | cons it a ih => cases it <;> simp [ptsOf, ih]

theorem endLoc_append (loc : Loc) (a b : List Item) : endLoc loc (a ++ b) = endLoc (endLoc loc a) b := by
  induction a generalizing loc with
  | nil => rfl
  | cons it a ih => cases it <;> simp [endLoc, ih]

theorem viasFlat_append (loc : Loc) (a b : List Item) :
    viasFlat loc (a ++ b) = viasFlat loc a ++ viasFlat (endLoc loc a) b := by
  induction a generalizing loc with
  | nil => rfl
  | cons it a ih => cases it <;> simp [viasFlat, endLoc, ih]

theorem viasFlat_cons (loc : Loc) (it : Item) (r : List Item) :
    viasFlat loc (it :: r) = emit loc it ++ viasFlat (endLoc loc [it]) r := by
  cases it <;> simp [viasFlat, endLoc, emit]

theorem endLoc_eq_last (loc : Loc) (l : List Item) :
    endLoc loc l = ((resolveFrom loc (ptsOf l)).getLast?).getD loc := by
  induction l generalizing loc with
  | nil => rfl
  | cons it r ih =>
    cases it with
    | pt p =>
      simp only [endLoc, ptsOf, resolveFrom, ih]
      cases h : resolveFrom (p.onto loc) (ptsOf r) with
      | nil => simp
      | cons a t => cases hl : (a :: t).getLast? <;> simp_all
    | via n o => simp [endLoc, ptsOf, ih]
    | arr n nx ny dx dy => simp [endLoc, ptsOf, ih]

theorem selectKey_append {α : Type} (t : String) (a b : List (String × α)) :
    selectKey t (a ++ b) = selectKey t a ++ selectKey t b := by
  simp [selectKey]

theorem selectKey_emit (loc : Loc) (it : Item) (t : String) :
    selectKey t (emit loc it) = match it with
      | .pt _ => []
      | .via n o => if n = t then [(loc.1, loc.2, orientOf o)] else []
      | .arr n nx ny dx dy => if n = t then arrayAt loc nx ny dx dy else [] := by
  cases it with
  | pt p => simp [emit, selectKey]
  | via n o => by_cases h : n = t <;> simp [emit, selectKey, h]
  | arr n nx ny dx dy =>
    by_cases h : n = t
    · simp [emit, selectKey, h, List.filter_map, Function.comp_def]
    · simp [emit, selectKey, h, List.filter_map, Function.comp_def]

open Dict in
theorem viasStep_eq (st : Loc × Dict ViaLoc) (it : Item) :
    viasStep st it = (endLoc st.1 [it], st.2.extendAll ((emit st.1 it).map one)) := by
  cases it with
  | pt p => rfl
  | via n o => simp [viasStep, endLoc, emit, extendAll, push_eq_extend]
  | arr n nx ny dx dy => simp [viasStep, endLoc, emit, foldl_push, Function.comp_def]

open Dict in
/-- closed form of the loop of `DefWire.vias`: end location, and the dictionary as the log `viasFlat` -/
theorem foldl_viasStep_eq (l : List Item) (st : Loc × Dict ViaLoc) :
    l.foldl viasStep st = (endLoc st.1 l, st.2.extendAll ((viasFlat st.1 l).map one)) := by
  induction l generalizing st with
  | nil => rfl
  | cons it r ih =>
    rw [List.foldl_cons, viasStep_eq, ih, viasFlat_cons, List.map_append, extendAll_append,
      ← endLoc_append, List.singleton_append]

theorem viasD_eq (w : Wire) : w.viasD = Dict.extendAll [] (w.viasFlat.map Dict.one) := by
  rw [Wire.viasD, foldl_viasStep_eq]; rfl

theorem mem_viasD_keys (w : Wire) (k : String) : k ∈ w.viasD.keys ↔ ∃ e ∈ w.viasFlat, e.1 = k := by
  rw [viasD_eq, Dict.mem_keys_extendAll_one]; simp [Dict.keys]

theorem viasD_get (w : Wire) (t : String) : w.viasD.get t = selectKey t w.viasFlat := by
  rw [viasD_eq, Dict.get_extendAll_one]; rfl

theorem viasD_keys_nodup (w : Wire) : w.viasD.keys.Nodup := by
  rw [viasD_eq]; exact Dict.nodup_keys_extendAll _ _ List.nodup_nil

theorem mem_arrayAt (loc : Loc) (nx ny : Nat) (dx dy : Int) (v : ViaLoc) :
    v ∈ arrayAt loc nx ny dx dy ↔
      ∃ i j : Nat, i < nx ∧ j < ny ∧ v = (loc.1 + (i : Int) * dx, loc.2 + (j : Int) * dy, "N") := by
  simp only [arrayAt, List.mem_flatMap, List.mem_range, List.mem_map]
  constructor
  · rintro ⟨i, hi, j, hj, rfl⟩; exact ⟨i, j, hi, hj, rfl⟩
  · rintro ⟨i, j, hi, hj, rfl⟩; exact ⟨i, hi, j, hj, rfl⟩

theorem length_arrayAt (loc : Loc) (nx ny : Nat) (dx dy : Int) :
    (arrayAt loc nx ny dx dy).length = nx * ny := by
  simp [arrayAt, List.length_flatMap, List.map_const', List.sum_replicate_nat]

theorem getElem_arrayAt (loc : Loc) (nx ny : Nat) (dx dy : Int) (i j : Nat) (hi : i < nx) (hj : j < ny)
    (h : i * ny + j < (arrayAt loc nx ny dx dy).length) :
    (arrayAt loc nx ny dx dy)[i * ny + j] = (loc.1 + (i : Int) * dx, loc.2 + (j : Int) * dy, "N") := by
  induction nx generalizing i with
  | zero => omega
  | succ n ih =>
    have split : arrayAt loc (n + 1) ny dx dy = arrayAt loc n ny dx dy ++
        (List.range ny).map (fun (j : Nat) => (loc.1 + (n : Int) * dx, loc.2 + (j : Int) * dy, "N")) := by
      simp [arrayAt, List.range_succ]
    have hl := length_arrayAt loc n ny dx dy
    by_cases hin : i < n
    · have hlt : i * ny + j < (arrayAt loc n ny dx dy).length := by
        rw [hl]
        calc i * ny + j < i * ny + ny := by omega
          _ = (i + 1) * ny := by rw [Nat.succ_mul]
          _ ≤ n * ny := Nat.mul_le_mul_right _ hin
      have := ih i hin hlt
      simp only [split]
      rw [List.getElem_append_left hlt]; exact this
    · have : i = n := by omega
      subst this
      simp only [split]
      rw [List.getElem_append_right (by rw [hl]; omega)]
      simp [hl]

theorem nodup_arrayAt (loc : Loc) (nx ny : Nat) (dx dy : Int) (hx : nx ≤ 1 ∨ dx ≠ 0) (hy : ny ≤ 1 ∨ dy ≠ 0) :
    (arrayAt loc nx ny dx dy).Nodup := by
  unfold arrayAt List.Nodup
  rw [List.pairwise_flatMap]
  refine ⟨?_, ?_⟩
  · intro i _
    rw [List.pairwise_map, List.pairwise_iff_getElem]
    intro a b ha hb hab
    simp only [List.length_range] at ha hb
    simp only [List.getElem_range, ne_eq, Prod.mk.injEq, and_true, not_and]
    intro _ e
    have hy' : dy ≠ 0 := by
      rcases hy with h | h
      · omega
      · exact h
    have := Int.eq_of_mul_eq_mul_right hy' (by omega : (a : Int) * dy = (b : Int) * dy)
    omega
  · rw [List.pairwise_iff_getElem]
    intro a b ha hb hab
    simp only [List.length_range] at ha hb
    simp only [List.getElem_range]
    intro v hv1 w hv2
    simp only [List.mem_map, List.mem_range] at hv1 hv2
    obtain ⟨j1, _, rfl⟩ := hv1
    obtain ⟨j2, _, rfl⟩ := hv2
    intro e
    simp only [Prod.mk.injEq, and_true] at e
    have hx' : dx ≠ 0 := by
      rcases hx with h | h
      · omega
      · exact h
    have := Int.eq_of_mul_eq_mul_right hx' (by omega : (a : Int) * dx = (b : Int) * dx)
    omega

open Dict in
theorem netWiresD_eq {β : Type} (pts : Wire → List β) (ws : List Wire) :
    netWiresD pts ws =
      extendAll [] (ws.flatMap fun w => if (pts w).isEmpty then [] else [(w.layer, [(w.width, pts w)])]) := by
  rw [← foldl_extendAll]; unfold netWiresD; congr; funext d w
  split <;> simp [extendAll, push_eq_extend]

theorem get_netWiresD {β : Type} (pts : Wire → List β) (ws : List Wire) (layer : String) :
    (netWiresD pts ws).get layer =
      ws.flatMap (fun w => if w.layer = layer ∧ ¬ (pts w).isEmpty then [(w.width, pts w)] else []) := by
  rw [netWiresD_eq, Dict.get_extendAll, List.filter_flatMap, List.flatMap_assoc]
  refine congrArg (fun f => List.flatMap f ws) (funext fun w => ?_)
  by_cases he : (pts w).isEmpty = true <;> by_cases hl : w.layer = layer <;> simp [he, hl]

theorem keys_netWiresD {β : Type} (pts : Wire → List β) (ws : List Wire) :
    (∀ k, k ∈ (netWiresD pts ws).keys ↔ ∃ w ∈ ws, w.layer = k ∧ ¬ (pts w).isEmpty) ∧ (netWiresD pts ws).keys.Nodup := by
  rw [netWiresD_eq]
  refine ⟨fun k => ?_, Dict.nodup_keys_extendAll _ _ List.nodup_nil⟩
  rw [Dict.mem_keys_extendAll, List.map_flatMap, List.mem_flatMap]
  refine (or_iff_right (by simp [Dict.keys])).trans (exists_congr fun w => and_congr_right fun _ => ?_)
  by_cases he : (pts w).isEmpty = true <;> simp [he, eq_comm]

/-- `netWiresD` is natural in the reading of the point list -/
theorem netWiresD_map {β γ : Type} (pts : Wire → List β) (g : β → γ) (ws : List Wire) :
    netWiresD (fun w => (pts w).map g) ws = (netWiresD pts ws).map fun kv => (kv.1, kv.2.map fun e => (e.1, e.2.map g)) := by
  rw [netWiresD_eq, netWiresD_eq, Dict.map_extendAll, List.map_flatMap]
  refine congrArg (fun f => Dict.extendAll _ (List.flatMap f ws)) (funext fun w => ?_)
  cases h : pts w <;> simp

theorem netViasD_eq (ws : List Wire) : netViasD ws = Dict.extendAll [] (ws.flatMap Wire.viasD) :=
  Dict.foldl_extendAll (fun w : Wire => w.viasD) ws []

theorem get_netViasD (ws : List Wire) (t : String) : (netViasD ws).get t = ws.flatMap (fun w => w.viasD.get t) := by
  rw [netViasD_eq, Dict.get_extendAll, List.filter_flatMap, List.flatMap_assoc]
  exact congrArg (fun f => List.flatMap f ws) (funext fun w => Dict.items_get (viasD_keys_nodup w) t)

theorem keys_netViasD (ws : List Wire) :
    (∀ k, k ∈ (netViasD ws).keys ↔ ∃ w ∈ ws, k ∈ w.viasD.keys) ∧ (netViasD ws).keys.Nodup := by
  rw [netViasD_eq]
  refine ⟨fun k => ?_, Dict.nodup_keys_extendAll _ _ List.nodup_nil⟩
  rw [Dict.mem_keys_extendAll]; simp only [Dict.keys, List.map_nil, List.not_mem_nil, false_or, List.map_flatMap, List.mem_flatMap]

end KV.Def
