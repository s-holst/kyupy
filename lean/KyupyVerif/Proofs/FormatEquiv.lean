import KyupyVerif.Proofs.GateVal
import KyupyVerif.Proofs.Basics
/-! "The same netlist written in either format" (C11), first at the level of ONE gate: the Verilog instance of the primitive library
that renders the bench statement `name = K(d0, …)` drives the signal `name` and puts on it what the bench statement computes.  Then at
NETLIST level:

One netlist description `Nl` (ports in port-list order with a direction each; gates `name = kind(drv…)` with an instance name each),
its two renderings `benchOf nl : List BStmt` and `verilogOf nl : List Stmt` (single-bit declarations, one `instOfGate` per gate over
the pin table `primTL`), the decidable common fragment `commonNlB`, and

* `bench_verilog_models_equiv` — `BenchModel (benchOf nl) z prim a σ ↔ VModel primTL nl.portNames (verilogOf nl) z neg prim a σ`
  for every value domain, assignment `a` and environment `σ` (combinational AND sequential kinds);
* `nl_spos_port`, `nl_spos_gate` — the interface positions (`s_nodes` order) of a port and of a state element are the same in both;
* `bench_verilog_captures_equiv` — what is observed per interface position is the same list.

This file imports, besides Model files, only Proofs/Basics, LineEqN and GateVal (list facts and the function of one node, no circuit):
Drv/FormatEquiv.lean imports the definitions in it (`Nl`, `benchOf`, `verilogOf`, `commonNlB`, …), and importing Proofs/BenchLines,
CircSNodes or VerilogFlat here would pull the circuit proofs into the driver. -/
namespace KV.Netlist
open KV

/-- pin table of the library of simulation primitives in the renderings of the common fragment: output `o`, inputs `i0` … `i3` -/
def primTL : TL := fun _ p =>
  if p == "o" then some (0, true) else if p == "i0" then some (0, false) else if p == "i1" then some (1, false)
  else if p == "i2" then some (2, false) else if p == "i3" then some (3, false) else none

def primInPins : List String → List (String × SelVal)
  | [] => []
  | [d0] => [("i0", .one d0)]
  | [d0, d1] => [("i0", .one d0), ("i1", .one d1)]
  | [d0, d1, d2] => [("i0", .one d0), ("i1", .one d1), ("i2", .one d2)]
  | d0 :: d1 :: d2 :: d3 :: _ => [("i0", .one d0), ("i1", .one d1), ("i2", .one d2), ("i3", .one d3)]

def instOfGate (K inst name : String) (drv : List String) : VInst := ⟨K, inst, ("o", .one name) :: primInPins drv⟩

theorem inSig_instOfGate (K inst name : String) (drv : List String) (hlen : drv.length ≤ 4) (k : Nat) (hk : k < 4) :
    inSig primTL (instOfGate K inst name drv) k = drv[k]? := by
  match drv, hlen with
  | [], _ => rcases (by omega : k = 0 ∨ k = 1 ∨ k = 2 ∨ k = 3) with rfl | rfl | rfl | rfl <;> rfl
  | [d0], _ => rcases (by omega : k = 0 ∨ k = 1 ∨ k = 2 ∨ k = 3) with rfl | rfl | rfl | rfl <;> rfl
  | [d0, d1], _ => rcases (by omega : k = 0 ∨ k = 1 ∨ k = 2 ∨ k = 3) with rfl | rfl | rfl | rfl <;> rfl
  | [d0, d1, d2], _ => rcases (by omega : k = 0 ∨ k = 1 ∨ k = 2 ∨ k = 3) with rfl | rfl | rfl | rfl <;> rfl
  | [d0, d1, d2, d3], _ => rcases (by omega : k = 0 ∨ k = 1 ∨ k = 2 ∨ k = 3) with rfl | rfl | rfl | rfl <;> rfl
  | _ :: _ :: _ :: _ :: _ :: _, h => simp at h

theorem outConn_instOfGate_any (ds : List Decl) (K inst name : String) (drv : List String) :
    outConn primTL ds (instOfGate K inst name drv) = [(0, (outSig ds name).1)] := by
  match drv with
  | [] => rfl
  | [_] => rfl
  | [_, _] => rfl
  | [_, _, _] => rfl
  | _ :: _ :: _ :: _ :: _ => rfl

theorem gate_format_equiv {α : Type _} (z : α) (neg : α → α) (prim : String → α → α → α → α → α) (a : Nat → α) (pos : Nat)
    (K inst name : String) (drv : List String) (hlen : drv.length ≤ 4) (hseq : isSeqKind K = false)
    (hc : ∀ d ∈ drv, isConstLit d = false) (σ : String → α) :
    instVal primTL z neg prim a pos (instOfGate K inst name drv) 0 σ = gateVal z prim K drv σ := by
  -- both are `primVal` of the kind; the instance reads on pin `k` the signal the statement has as operand `k`
  rw [instVal_comb primTL z neg prim a pos (instOfGate K inst name drv) 0 σ hseq, gateVal_eq]
  refine primVal_congr z prim _ _ _ fun k hk => ?_
  rw [inSig_instOfGate K inst name drv hlen k hk]
  cases hd : drv[k]? with
  | none => rfl
  | some d => simp only [Option.map_some, sigVal, hc d (List.mem_of_getElem? hd), Bool.false_eq_true, if_false]

/-! The tables of a rendering are `map` followed by `flatMap` / `filterMap` with a step that is `[]`, a singleton, `none` or `some` on
every rendered statement. -/
theorem flatMap_map_single {α β γ} {F : α → β} {G : β → List γ} {H : α → γ} (l : List α) (h : ∀ x, G (F x) = [H x]) :
    (l.map F).flatMap G = l.map H := by
  rw [List.flatMap_map, List.map_eq_flatMap]; simp only [h]

theorem flatMap_map_nil {α β γ} {F : α → β} {G : β → List γ} (l : List α) (h : ∀ x, G (F x) = []) : (l.map F).flatMap G = [] :=
  List.flatMap_eq_nil_iff.mpr fun y hy => by obtain ⟨x, _, rfl⟩ := List.mem_map.mp hy; exact h x

structure NlGate where
  name : String
  kind : String
  inst : String
  drv : List String
deriving DecidableEq, Repr, Inhabited

structure Nl where
  ports : List (Bool × String)
  gates : List NlGate
deriving Repr, Inhabited

def Nl.portNames (nl : Nl) : List String := nl.ports.map (·.2)
def Nl.pis (nl : Nl) : List String := (nl.ports.filter fun p => !p.1).map (·.2)
def Nl.pos (nl : Nl) : List String := (nl.ports.filter fun p => p.1).map (·.2)
def Nl.gateNames (nl : Nl) : List String := nl.gates.map (·.name)
def Nl.instNames (nl : Nl) : List String := nl.gates.map (·.inst)

def nlDecl (p : Bool × String) : Decl := ⟨if p.1 then .output else .input, p.2, none⟩
def nlInst (g : NlGate) : VInst := instOfGate g.kind g.inst g.name g.drv
def nlBGate (g : NlGate) : BGate := ⟨g.name, g.kind, g.drv⟩

def benchOf (nl : Nl) : List BStmt :=
  nl.ports.map (fun p => BStmt.intf [p.2]) ++ nl.gates.map fun g => BStmt.gate g.name g.kind g.drv

def verilogOf (nl : Nl) : List Stmt :=
  (nl.ports.map fun p => Stmt.decls [nlDecl p]) ++ nl.gates.map fun g => Stmt.inst g.kind g.inst (nlInst g).pins

def commonNlB (nl : Nl) : Bool :=
  nodupS nl.portNames && nodupS nl.gateNames && nodupS (nl.instNames ++ nl.portNames) &&
  (nl.pis.all fun n => !nl.gateNames.contains n) && (nl.pos.all fun n => nl.gateNames.contains n) &&
  (nl.gates.all fun g => decide (g.drv.length ≤ 4) && g.drv.all fun d => !isConstLit d)

structure CommonNl (nl : Nl) : Prop where
  ports : nl.portNames.Nodup
  gnames : nl.gateNames.Nodup
  inames : nl.instNames.Nodup
  idisj : ∀ g ∈ nl.gates, g.inst ∉ nl.portNames
  pis : ∀ n ∈ nl.pis, n ∉ nl.gateNames
  pos : ∀ n ∈ nl.pos, n ∈ nl.gateNames
  len : ∀ g ∈ nl.gates, g.drv.length ≤ 4
  nc : ∀ g ∈ nl.gates, ∀ d ∈ g.drv, isConstLit d = false

theorem fe_nodupS_iff (l : List String) : nodupS l = true ↔ l.Nodup := nodupB_iff nodupS rfl (fun _ _ => rfl) l
theorem fe_nodupE_iff (l : List Ep) : nodupE l = true ↔ l.Nodup := nodupB_iff nodupE rfl (fun _ _ => rfl) l
theorem fe_nodupN_iff (l : List Nat) : nodupN l = true ↔ l.Nodup := nodupB_iff nodupN rfl (fun _ _ => rfl) l

theorem commonNl_of (nl : Nl) (h : commonNlB nl = true) : CommonNl nl := by
  simp only [commonNlB, Bool.and_eq_true, List.all_eq_true, Bool.not_eq_true', List.contains_eq_mem, decide_eq_false_iff_not,
    decide_eq_true_eq] at h
  obtain ⟨⟨⟨⟨⟨h1, h2⟩, h3⟩, h4⟩, h5⟩, h6⟩ := h
  have h3' := (fe_nodupS_iff _).mp h3
  rw [List.nodup_append] at h3'
  exact ⟨(fe_nodupS_iff _).mp h1, (fe_nodupS_iff _).mp h2, h3'.1, fun g hg hp => h3'.2.2 g.inst (List.mem_map_of_mem hg) g.inst hp rfl,
    h4, h5, fun g hg => (h6 g hg).1, fun g hg d hd => (h6 g hg).2 d hd⟩

theorem mem_portNames (nl : Nl) (n : String) : n ∈ nl.portNames ↔ n ∈ nl.pis ∨ n ∈ nl.pos := by
  simp only [Nl.portNames, Nl.pis, Nl.pos, List.mem_map, List.mem_filter, Bool.not_eq_true']
  constructor
  · rintro ⟨p, hp, rfl⟩
    cases hb : p.1
    · exact Or.inl ⟨p, ⟨hp, hb⟩, rfl⟩
    · exact Or.inr ⟨p, ⟨hp, hb⟩, rfl⟩
  · rintro (⟨p, ⟨hp, _⟩, rfl⟩ | ⟨p, ⟨hp, _⟩, rfl⟩) <;> exact ⟨p, hp, rfl⟩


theorem benchGates_benchOf (nl : Nl) : benchGates (benchOf nl) = nl.gates.map nlBGate := by
  rw [benchGates, benchOf, List.filterMap_append, filterMap_map_none _ fun _ => rfl,
    filterMap_map_some (G := gateOf) (H := nlBGate) _ fun _ => rfl,
    List.nil_append]

theorem benchPorts_benchOf (nl : Nl) : benchPorts (benchOf nl) = nl.portNames := by
  rw [benchPorts, benchOf, List.flatMap_append, flatMap_map_single (G := portsOf) (H := (·.2)) _ fun _ => rfl,
    flatMap_map_nil (G := portsOf) _ fun _ => rfl,
    List.append_nil, Nl.portNames]

theorem isGateName_benchOf (nl : Nl) (s : String) : isGateName (benchOf nl) s = nl.gateNames.contains s := by
  rw [isGateName, benchGates_benchOf, Nl.gateNames, List.contains_eq_any_beq, List.any_map, List.any_map]
  congr 1
  funext g
  exact BEq.comm


theorem fe_lookup_none_of (ds : List Decl) (n : String) (h : ∀ d ∈ ds, d.base ≠ n) : lookup ds n = none := by
  rw [lookup, List.find?_eq_none]
  intro d hd
  simpa using h d hd

theorem fe_foldl_declPut_nodup (ds acc : List Decl) (hn : (ds.map (·.base)).Nodup) (hd : ∀ d ∈ ds, ∀ e ∈ acc, e.base ≠ d.base) :
    ds.foldl declPut acc = acc ++ ds := by
  induction ds generalizing acc with
  | nil => simp
  | cons d r ih =>
    rw [List.map_cons, List.nodup_cons] at hn
    have h1 : declPut acc d = acc ++ [d] := by
      rw [declPut, fe_lookup_none_of acc d.base (hd d List.mem_cons_self)]
    rw [List.foldl_cons, h1, ih _ hn.2, List.append_assoc, List.singleton_append]
    intro x hx e he
    rcases List.mem_append.mp he with he | he
    · exact hd x (List.mem_cons_of_mem _ hx) e he
    · rw [List.mem_singleton.mp he]
      intro e2
      exact hn.1 (e2 ▸ List.mem_map_of_mem hx)

theorem sigDecls_verilogOf (nl : Nl) (hn : nl.portNames.Nodup) : sigDecls (verilogOf nl) = nl.ports.map nlDecl := by
  rw [sigDecls, verilogOf, List.flatMap_append, flatMap_map_single (G := declsOf) (H := nlDecl) _ fun _ => rfl,
    flatMap_map_nil (G := declsOf) _ fun _ => rfl, List.append_nil]
  rw [fe_foldl_declPut_nodup _ [] (by rw [List.map_map]; exact hn) (by intro _ _ e he; cases he), List.nil_append]

theorem vInsts_verilogOf (nl : Nl) : vInsts (verilogOf nl) = nl.gates.map nlInst := by
  rw [vInsts, verilogOf, List.filterMap_append, filterMap_map_none _ fun _ => rfl,
    filterMap_map_some (G := instOf) (H := nlInst) _ fun _ => rfl,
    List.nil_append]

theorem assignPairs_verilogOf (ds : List Decl) (nl : Nl) : assignPairs ds (verilogOf nl) = [] := by
  rw [assignPairs, verilogOf, List.flatMap_append, flatMap_map_nil (G := pairsOf ds) _ fun _ => rfl,
    flatMap_map_nil (G := pairsOf ds) _ fun _ => rfl]
  rfl

theorem vPairs_verilogOf (nl : Nl) : vPairs (verilogOf nl) = [] := assignPairs_verilogOf _ nl

theorem lookup_nlDecl (ports : List (Bool × String)) (n : String) (d : Decl) (h : lookup (ports.map nlDecl) n = some d) :
    d.names = [n] := by
  rw [lookup] at h
  have hb := List.find?_some h
  have hm := List.mem_of_find?_eq_some h
  obtain ⟨p, _, rfl⟩ := List.mem_map.mp hm
  simp only [nlDecl, beq_iff_eq] at hb
  simp only [Decl.names, nlDecl, hb]

theorem lookup_nlDecl_mem (ports : List (Bool × String)) (n : String) (hn : n ∈ ports.map (·.2)) :
    ∃ d, lookup (ports.map nlDecl) n = some d := by
  cases h : lookup (ports.map nlDecl) n with
  | some d => exact ⟨d, rfl⟩
  | none =>
    exfalso
    rw [lookup, List.find?_eq_none] at h
    obtain ⟨p, hp, rfl⟩ := List.mem_map.mp hn
    exact h (nlDecl p) (List.mem_map_of_mem hp) (by simp [nlDecl])

theorem outSig_nlDecl (ports : List (Bool × String)) (s : String) : outSig (ports.map nlDecl) s = (s, false) := by
  rw [outSig]
  cases h : lookup (ports.map nlDecl) s with
  | none => rfl
  | some d => simp only [lookup_nlDecl ports s d h]

theorem fe_flatMap_single {α} (l : List α) (f : α → List α) (h : ∀ x ∈ l, f x = [x]) : l.flatMap f = l := by
  rw [flatMap_congr h, List.flatMap_singleton']

theorem posNames_nlDecl (ports : List (Bool × String)) : posNames (ports.map nlDecl) (ports.map (·.2)) = ports.map (·.2) := by
  rw [posNames]
  apply fe_flatMap_single
  intro n hn
  obtain ⟨d, hd⟩ := lookup_nlDecl_mem ports n hn
  simp only [hd, lookup_nlDecl ports n d hd]

theorem names_filter_nlDecl (P : Decl → Bool) (ports : List (Bool × String)) :
    ((ports.map nlDecl).filter P).flatMap Decl.names = (ports.filter (P ∘ nlDecl)).map (·.2) := by
  rw [List.filter_map, flatMap_map_single (G := Decl.names) (H := (·.2)) _ fun _ => rfl]

theorem inputNames_nlDecl (ports : List (Bool × String)) :
    inputNames (ports.map nlDecl) = (ports.filter fun p => !p.1).map (·.2) := by
  rw [inputNames, names_filter_nlDecl]
  congr 2
  funext p
  cases h : p.1 <;> simp [nlDecl, h]

theorem outputNames_nlDecl (ports : List (Bool × String)) :
    outputNames (ports.map nlDecl) = (ports.filter fun p => p.1).map (·.2) := by
  rw [outputNames, names_filter_nlDecl]
  congr 2
  funext p
  cases h : p.1 <;> simp [nlDecl, h]

theorem outConn_nlInst (ds : List Decl) (g : NlGate) : outConn primTL ds (nlInst g) = [(0, (outSig ds g.name).1)] :=
  outConn_instOfGate_any ds g.kind g.inst g.name g.drv

theorem drivenSigs_verilogOf (nl : Nl) (hn : nl.portNames.Nodup) :
    drivenSigs primTL (sigDecls (verilogOf nl)) (verilogOf nl) = nl.gateNames ++ nl.pis := by
  rw [drivenSigs, assignPairs_verilogOf, List.map_nil, List.append_nil, vInsts_verilogOf, sigDecls_verilogOf nl hn, inputNames_nlDecl]
  congr 1
  exact flatMap_map_single _ fun g => by rw [outConn_nlInst, outSig_nlDecl]; rfl


/-- the state elements of the description in `s_nodes` order: flip-flops, then latches -/
def Nl.seqGates (nl : Nl) : List NlGate :=
  (nl.gates.filter fun g => isDffKind g.kind) ++ (nl.gates.filter fun g => isLatchKind g.kind)

theorem benchSNames_benchOf (nl : Nl) :
    benchSNames (benchOf nl) = nl.portNames.map Ep.fork ++ nl.seqGates.map fun g => Ep.cell g.name 0 := by
  rw [benchSNames, benchPorts_benchOf, benchGates_benchOf, Nl.seqGates, List.map_append, List.append_assoc]
  simp only [List.filter_map, List.map_map]
  rfl

theorem vSNames_verilogOf (nl : Nl) (hn : nl.portNames.Nodup) :
    vSNames nl.portNames (verilogOf nl) = nl.portNames.map (fun n => Ep.cell n 0) ++ nl.seqGates.map fun g => Ep.cell g.inst 0 := by
  rw [vSNames, sigDecls_verilogOf nl hn, Nl.portNames, posNames_nlDecl, vInsts_verilogOf, Nl.seqGates, List.map_append,
    List.append_assoc]
  simp only [List.filter_map, List.map_map]
  rfl

theorem nl_spos_port (nl : Nl) (hn : nl.portNames.Nodup) (n : String) (h : n ∈ nl.portNames) :
    benchSPos (benchOf nl) (.fork n) = nl.portNames.idxOf n ∧
    vSPos nl.portNames (verilogOf nl) (.cell n 0) = nl.portNames.idxOf n := by
  rw [benchSPos, vSPos, benchSNames_benchOf, vSNames_verilogOf nl hn, List.idxOf_append, List.idxOf_append,
    if_pos (List.mem_map_of_mem h), if_pos (List.mem_map_of_mem (f := fun n => Ep.cell n 0) h)]
  exact ⟨idxOf_map_inj Ep.fork _ n (fun y _ e => Ep.fork.inj e),
    idxOf_map_inj (fun n => Ep.cell n 0) _ n (fun y _ e => (Ep.cell.inj e).1)⟩

theorem mem_seqGates (nl : Nl) (y : NlGate) (h : y ∈ nl.seqGates) : y ∈ nl.gates := by
  rcases List.mem_append.mp h with h | h <;> exact (List.mem_filter.mp h).1

/-- meaningful for state elements only: a combinational gate is in neither `s_nodes` list -/
theorem nl_spos_gate (nl : Nl) (hc : CommonNl nl) (g : NlGate) (hg : g ∈ nl.gates) :
    benchSPos (benchOf nl) (.cell g.name 0) = nl.ports.length + nl.seqGates.idxOf g ∧
    vSPos nl.portNames (verilogOf nl) (.cell g.inst 0) = nl.ports.length + nl.seqGates.idxOf g := by
  have h1 : Ep.cell g.name 0 ∉ nl.portNames.map Ep.fork := by
    intro h; obtain ⟨_, _, e⟩ := List.mem_map.mp h; cases e
  have h2 : Ep.cell g.inst 0 ∉ nl.portNames.map (fun n => Ep.cell n 0) := by
    intro h; obtain ⟨n, hn, e⟩ := List.mem_map.mp h
    exact hc.idisj g hg ((Ep.cell.inj e).1 ▸ hn)
  rw [benchSPos, vSPos, benchSNames_benchOf, vSNames_verilogOf nl hc.ports, List.idxOf_append, List.idxOf_append, if_neg h1, if_neg h2,
    List.length_map, List.length_map, Nl.portNames, List.length_map]
  constructor
  · rw [idxOf_map_inj (fun g : NlGate => Ep.cell g.name 0) _ g (fun y hy e =>
      inj_of_nodup_map (fun g : NlGate => g.name) hc.gnames (mem_seqGates nl y hy) hg (Ep.cell.inj e).1)]
    omega
  · rw [idxOf_map_inj (fun g : NlGate => Ep.cell g.inst 0) _ g (fun y hy e =>
      inj_of_nodup_map (fun g : NlGate => g.inst) hc.inames (mem_seqGates nl y hy) hg (Ep.cell.inj e).1)]
    omega


theorem instVal_nlInst {α : Type _} (z : α) (neg : α → α) (prim : String → α → α → α → α → α) (a : Nat → α) (pos : Nat) (g : NlGate)
    (hlen : g.drv.length ≤ 4) (hnc : ∀ d ∈ g.drv, isConstLit d = false) (σ : String → α) :
    instVal primTL z neg prim a pos (nlInst g) 0 σ = if isSeqKind g.kind then a pos else gateVal z prim g.kind g.drv σ := by
  cases hs : isSeqKind g.kind with
  | false =>
    simp only [Bool.false_eq_true, if_false]
    exact gate_format_equiv z neg prim a pos g.kind g.inst g.name g.drv hlen hs hnc σ
  | true =>
    have hty : (nlInst g).ty = g.kind := rfl
    simp only [instVal, hty, hs, if_true]
    simp

theorem benchModel_benchOf {α} (nl : Nl) (z : α) (prim : String → α → α → α → α → α) (a : Nat → α) (σ : String → α) :
    BenchModel (benchOf nl) z prim a σ ↔
      (∀ g ∈ nl.gates, σ g.name = if isSeqKind g.kind then a (benchSPos (benchOf nl) (.cell g.name 0)) else gateVal z prim g.kind g.drv σ) ∧
      (∀ s, s ∉ nl.gateNames → σ s = if s ∈ nl.portNames then a (benchSPos (benchOf nl) (.fork s)) else z) := by
  unfold BenchModel
  rw [benchGates_benchOf]
  simp only [List.mem_map, forall_exists_index, and_imp, forall_apply_eq_imp_iff₂, isGateName_benchOf, freeVal, benchPorts_benchOf,
    List.contains_eq_mem, decide_eq_false_iff_not, decide_eq_true_eq]
  rfl

theorem vModel_verilogOf {α} (nl : Nl) (hn : nl.portNames.Nodup) (z : α) (neg : α → α) (prim : String → α → α → α → α → α)
    (a : Nat → α) (σ : String → α) :
    VModel primTL nl.portNames (verilogOf nl) z neg prim a σ ↔
      (∀ g ∈ nl.gates, σ g.name = instVal primTL z neg prim a (vSPos nl.portNames (verilogOf nl) (.cell g.inst 0)) (nlInst g) 0 σ) ∧
      (∀ n ∈ nl.pis, σ n = a (vSPos nl.portNames (verilogOf nl) (.cell n 0))) ∧
      (∀ s, s ∉ nl.gateNames → s ∉ nl.pis → σ s = z) := by
  unfold VModel
  rw [drivenSigs_verilogOf nl hn, vPairs_verilogOf, vInsts_verilogOf]
  have hin : inputNames (sigDecls (verilogOf nl)) = nl.pis := by rw [sigDecls_verilogOf nl hn, inputNames_nlDecl]; rfl
  rw [hin]
  simp only [List.mem_map, forall_exists_index, and_imp, forall_apply_eq_imp_iff₂, outConn_nlInst, List.mem_singleton, forall_eq,
    sigDecls_verilogOf nl hn, outSig_nlDecl, List.not_mem_nil, false_imp_iff, implies_true, true_and, List.contains_eq_mem,
    List.mem_append, decide_eq_false_iff_not, not_or]
  rfl

theorem bench_verilog_models_equiv {α : Type _} (nl : Nl) (hc : CommonNl nl) (z : α) (neg : α → α) (prim : String → α → α → α → α → α)
    (a : Nat → α) (σ : String → α) :
    BenchModel (benchOf nl) z prim a σ ↔ VModel primTL nl.portNames (verilogOf nl) z neg prim a σ := by
  rw [benchModel_benchOf, vModel_verilogOf nl hc.ports]
  have hg : ∀ g ∈ nl.gates,
      instVal primTL z neg prim a (vSPos nl.portNames (verilogOf nl) (.cell g.inst 0)) (nlInst g) 0 σ =
        if isSeqKind g.kind then a (benchSPos (benchOf nl) (.cell g.name 0)) else gateVal z prim g.kind g.drv σ := by
    intro g hg
    rw [instVal_nlInst z neg prim a _ g (hc.len g hg) (hc.nc g hg) σ, (nl_spos_gate nl hc g hg).1, (nl_spos_gate nl hc g hg).2]
  have hp : ∀ n ∈ nl.portNames, benchSPos (benchOf nl) (.fork n) = vSPos nl.portNames (verilogOf nl) (.cell n 0) := by
    intro n hn
    rw [(nl_spos_port nl hc.ports n hn).1, (nl_spos_port nl hc.ports n hn).2]
  constructor
  · rintro ⟨h1, h2⟩
    refine ⟨fun g hgm => by rw [hg g hgm]; exact h1 g hgm, fun n hn => ?_, fun s hs hpi => ?_⟩
    · have hpn : n ∈ nl.portNames := (mem_portNames nl n).mpr (Or.inl hn)
      rw [h2 n (hc.pis n hn), if_pos hpn, hp n hpn]
    · have hpn : s ∉ nl.portNames := by
        intro h
        rcases (mem_portNames nl s).mp h with h | h
        · exact hpi h
        · exact hs (hc.pos s h)
      rw [h2 s hs, if_neg hpn]
  · rintro ⟨h1, h2, h3⟩
    refine ⟨fun g hgm => by rw [← hg g hgm]; exact h1 g hgm, fun s hs => ?_⟩
    by_cases hpn : s ∈ nl.portNames
    · rw [if_pos hpn, hp s hpn]
      rcases (mem_portNames nl s).mp hpn with h | h
      · exact h2 s h
      · exact absurd (hc.pos s h) hs
    · rw [if_neg hpn]
      exact h3 s hs (fun h => hpn ((mem_portNames nl s).mpr (Or.inl h)))


theorem fe_find_map_key {β} (F : NlGate → β) (k : NlGate → String) (k' : β → String) (hk : ∀ y, k' (F y) = k y) (l : List NlGate)
    (g : NlGate) (hg : g ∈ l) (hinj : ∀ y ∈ l, k y = k g → y = g) :
    (l.map F).find? (fun x => k' x == k g) = some (F g) := by
  rw [List.find?_map]
  obtain ⟨x, hx⟩ := Option.isSome_iff_exists.mp
    (List.find?_isSome.mpr ⟨g, hg, by simp [hk]⟩ : (l.find? ((fun x => k' x == k g) ∘ F)).isSome)
  rw [hx, Option.map_some, hinj x (List.mem_of_find?_eq_some hx) (by simpa [hk] using List.find?_some hx)]

theorem fe_find_map_key_none {β} (F : NlGate → β) (k : NlGate → String) (k' : β → String) (hk : ∀ y, k' (F y) = k y) (l : List NlGate)
    (n : String) (hn : ∀ y ∈ l, k y ≠ n) : (l.map F).find? (fun x => k' x == n) = none := by
  rw [List.find?_eq_none]
  intro x hx
  obtain ⟨y, hy, rfl⟩ := List.mem_map.mp hx
  rw [hk]
  simpa using hn y hy

theorem bench_verilog_captures_equiv {α} (nl : Nl) (hc : CommonNl nl) (z : α) (prim : String → α → α → α → α → α) (σ : String → α) :
    benchCaptures (benchOf nl) σ = vCaptures primTL nl.portNames (verilogOf nl) z prim σ := by
  rw [benchCaptures, vCaptures, benchSNames_benchOf, vSNames_verilogOf nl hc.ports, List.map_append, List.map_append, List.map_map,
    List.map_map, List.map_map, List.map_map, sigDecls_verilogOf nl hc.ports, outputNames_nlDecl, vInsts_verilogOf, benchGates_benchOf]
  congr 1
  · apply List.map_congr_left
    intro n hn
    simp only [Function.comp, isGateName_benchOf, List.contains_eq_mem]
    rcases (mem_portNames nl n).mp hn with h | h
    · have h1 : n ∉ nl.gateNames := hc.pis n h
      have h2 : n ∉ nl.pos := fun h' => h1 (hc.pos n h')
      have h3 : (nl.gates.map nlInst).find? (fun x => x.name == n) = none :=
        fe_find_map_key_none nlInst (·.inst) (·.name) (fun _ => rfl) nl.gates n (fun y hy e => hc.idisj y hy (e ▸ hn))
      have h2' : n ∉ (nl.ports.filter fun p => p.1).map (·.2) := h2
      simp only [h1, h2', decide_false, Bool.false_eq_true, if_false, h3]
    · have h1 : n ∈ nl.gateNames := hc.pos n h
      have h' : n ∈ (nl.ports.filter fun p => p.1).map (·.2) := h
      simp only [h1, h', decide_true, if_true]
  · apply List.map_congr_left
    intro g hgs
    have hg := mem_seqGates nl g hgs
    have h1 : (nl.gates.map nlBGate).find? (fun x => x.name == g.name) = some (nlBGate g) :=
      fe_find_map_key nlBGate (·.name) (·.name) (fun _ => rfl) nl.gates g hg
        (fun y hy e => inj_of_nodup_map (fun g : NlGate => g.name) hc.gnames hy hg e)
    have h2 : (nl.gates.map nlInst).find? (fun x => x.name == g.inst) = some (nlInst g) :=
      fe_find_map_key nlInst (·.inst) (·.name) (fun _ => rfl) nl.gates g hg
        (fun y hy e => inj_of_nodup_map (fun g : NlGate => g.inst) hc.inames hy hg e)
    have h3 : g.inst ∉ (nl.ports.filter fun p => p.1).map (·.2) :=
      fun h => hc.idisj g hg ((mem_portNames nl g.inst).mpr (Or.inr h))
    have h4 : inSig primTL (nlInst g) 0 = g.drv[0]? := inSig_instOfGate g.kind g.inst g.name g.drv (hc.len g hg) 0 (by omega)
    simp only [Function.comp, h1, h2, List.contains_eq_mem, h3, decide_false, Bool.false_eq_true, if_false, h4, nlBGate]
    cases hd : g.drv with
    | nil => rfl
    | cons d r =>
      have := hc.nc g hg d (by rw [hd]; exact List.mem_cons_self)
      simp only [List.head?_cons, Option.map_some, List.getElem?_cons_zero, sigVal, this, Bool.false_eq_true, if_false]

/-- the arity domain of the Verilog rendering holds for every description: `primTL` numbers input pins 0..3 only -/
theorem vArity_verilogOf (nl : Nl) : vArityB primTL (verilogOf nl) = true := by
  rw [vArityB, List.all_eq_true]
  intro i _
  rw [Bool.or_eq_true, List.all_eq_true]
  right
  intro c hc
  rw [inConn, List.mem_filterMap] at hc
  obtain ⟨ps, _, hps⟩ := hc
  rw [p2In] at hps
  have key : ∀ idx, primTL i.ty ps.1 = some (idx, false) → idx < 4 := by
    intro idx h
    unfold primTL at h
    split at h
    · cases h
    · split at h
      · cases h; omega
      · split at h
        · cases h; omega
        · split at h
          · cases h; omega
          · split at h
            · cases h; omega
            · cases h
  split at hps
  · rename_i idx s h1 _
    cases hps
    exact decide_eq_true (key idx h1)
  · cases hps


def Nl.nPos (nl : Nl) : Nat := nl.ports.length + nl.seqGates.length

theorem mem_seqGates_of_seq (nl : Nl) (g : NlGate) (hg : g ∈ nl.gates) (hs : isSeqKind g.kind = true) : g ∈ nl.seqGates := by
  rw [isSeqKind, Bool.or_eq_true] at hs
  rw [Nl.seqGates, List.mem_append, List.mem_filter, List.mem_filter]
  rcases hs with h | h
  · exact Or.inl ⟨hg, h⟩
  · exact Or.inr ⟨hg, h⟩

theorem benchModel_benchOf_congr {α} (nl : Nl) (hc : CommonNl nl) (z : α) (prim : String → α → α → α → α → α) (a a' : Nat → α)
    (ha : ∀ p, p < nl.nPos → a p = a' p) (σ : String → α) :
    BenchModel (benchOf nl) z prim a σ → BenchModel (benchOf nl) z prim a' σ := by
  rw [benchModel_benchOf, benchModel_benchOf]
  rintro ⟨h1, h2⟩
  refine ⟨fun g hg => ?_, fun s hs => ?_⟩
  · rw [h1 g hg]
    cases hs : isSeqKind g.kind with
    | false => rfl
    | true =>
      simp only [if_true]
      rw [(nl_spos_gate nl hc g hg).1]
      apply ha
      have := List.idxOf_lt_length_of_mem (mem_seqGates_of_seq nl g hg hs)
      rw [Nl.nPos]; omega
  · rw [h2 s hs]
    by_cases hp : s ∈ nl.portNames
    · rw [if_pos hp, if_pos hp, (nl_spos_port nl hc.ports s hp).1]
      apply ha
      have := List.idxOf_lt_length_of_mem hp
      have hl : nl.portNames.length = nl.ports.length := by rw [Nl.portNames, List.length_map]
      rw [Nl.nPos]; omega
    · rw [if_neg hp, if_neg hp]

theorem benchOK_benchOf (nl : Nl) (hc : CommonNl nl) (hk : ∀ g ∈ nl.gates, g.kind ≠ forkKind) : benchOKB (benchOf nl) = true := by
  rw [benchOKB, benchGates_benchOf, Bool.and_eq_true, List.all_eq_true]
  refine ⟨?_, ?_⟩
  · rw [List.map_map]
    exact (fe_nodupS_iff _).mpr hc.gnames
  · intro b hb
    obtain ⟨g, hg, rfl⟩ := List.mem_map.mp hb
    simpa [nlBGate] using hk g hg


/-- `BenchModel`, the interface positions and the observations depend on a description only through `benchGates` (gate statements
in text order) and `benchPorts` (interface names in text order): interleaving, grouping of interface statements do not matter -/
theorem benchModel_congr_stmts {α} (bs bs' : List BStmt) (hg : benchGates bs' = benchGates bs) (hp : benchPorts bs' = benchPorts bs)
    (z : α) (prim : String → α → α → α → α → α) (a : Nat → α) (σ : String → α) :
    (BenchModel bs' z prim a σ ↔ BenchModel bs z prim a σ) ∧ benchSNames bs' = benchSNames bs ∧
    benchCaptures bs' σ = benchCaptures bs σ := by
  have hs : benchSNames bs' = benchSNames bs := by simp only [benchSNames, hg, hp]
  refine ⟨?_, hs, ?_⟩
  · simp only [BenchModel, stmtVal, freeVal, isGateName, benchSPos, hs, hg, hp]
  · simp only [benchCaptures, isGateName, hs, hg]
    rfl

theorem vModel_congr_stmts {α} (tl : TL) (ports : List String) (vs vs' : List Stmt) (hd : sigDecls vs' = sigDecls vs)
    (hi : vInsts vs' = vInsts vs) (ha : ∀ ds, assignPairs ds vs' = assignPairs ds vs)
    (z : α) (neg : α → α) (prim : String → α → α → α → α → α) (a : Nat → α) (σ : String → α) :
    (VModel tl ports vs' z neg prim a σ ↔ VModel tl ports vs z neg prim a σ) ∧ vSNames ports vs' = vSNames ports vs ∧
    vCaptures tl ports vs' z prim σ = vCaptures tl ports vs z prim σ := by
  have hs : vSNames ports vs' = vSNames ports vs := by simp only [vSNames, hd, hi]
  refine ⟨?_, hs, ?_⟩
  · simp only [VModel, vSPos, vPairs, drivenSigs, hs, hd, hi, ha]
  · simp only [vCaptures, hs, hd, hi]

end KV.Netlist
