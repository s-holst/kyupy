import KyupyVerif.Proofs.FormatEquiv
/-! Both canonical renderings of a CLOSED netlist description BUILD (C11, section `FormatEquiv` of Props/C11Library.lean):
`closedNlB nl` (decidable, about the description only) implies `benchOKB (benchOf nl)` and — without branch forks (`cfg.bf = false`,
the default of `verilog.parse`) — `verilogOKB cfg primTL nl.portNames (verilogOf nl)`, the fragment hypothesis of
`verilog_parsed_sem` / `verilog_end_to_end`. -/
namespace KV.Netlist
open KV

def closedNlB (nl : Nl) : Bool :=
  commonNlB nl &&
  (nl.gates.all fun g => g.kind != forkKind && g.drv.all fun d => (nl.gateNames ++ nl.pis).contains d) &&
  ((nl.gateNames ++ nl.pis).all fun n => !isConstBit n)

structure ClosedNl (nl : Nl) : Prop where
  kinds : ∀ g ∈ nl.gates, g.kind ≠ forkKind
  ops : ∀ g ∈ nl.gates, ∀ d ∈ g.drv, d ∈ nl.gateNames ++ nl.pis
  ncb : ∀ n ∈ nl.gateNames ++ nl.pis, isConstBit n = false

theorem closedNl_of (nl : Nl) (h : closedNlB nl = true) : commonNlB nl = true ∧ CommonNl nl ∧ ClosedNl nl := by
  simp only [closedNlB, Bool.and_eq_true, List.all_eq_true, Bool.not_eq_true', List.contains_eq_mem, decide_eq_true_eq, bne_iff_ne,
    ne_eq] at h
  exact ⟨h.1.1, commonNl_of nl h.1.1, fun g hg => (h.1.2 g hg).1, fun g hg d hd => (h.1.2 g hg).2 d hd, h.2⟩

def primInConn : List String → List (String × Nat × String)
  | [] => []
  | [d0] => [("i0", 0, d0)]
  | [d0, d1] => [("i0", 0, d0), ("i1", 1, d1)]
  | [d0, d1, d2] => [("i0", 0, d0), ("i1", 1, d1), ("i2", 2, d2)]
  | d0 :: d1 :: d2 :: d3 :: _ => [("i0", 0, d0), ("i1", 1, d1), ("i2", 2, d2), ("i3", 3, d3)]

theorem inConn_nlInst (g : NlGate) : inConn primTL (nlInst g) = primInConn g.drv := by
  rw [nlInst]
  match g.drv with
  | [] => rfl
  | [_] => rfl
  | [_, _] => rfl
  | [_, _, _] => rfl
  | _ :: _ :: _ :: _ :: _ => rfl

theorem mem_primInConn (drv : List String) (c : String × Nat × String) (h : c ∈ primInConn drv) : c.2.2 ∈ drv := by
  match drv, h with
  | [], h => cases h
  | [d0], h =>
    simp only [primInConn, List.mem_cons, List.not_mem_nil, or_false] at h
    subst h; simp
  | [d0, d1], h =>
    simp only [primInConn, List.mem_cons, List.not_mem_nil, or_false] at h
    rcases h with rfl | rfl <;> simp
  | [d0, d1, d2], h =>
    simp only [primInConn, List.mem_cons, List.not_mem_nil, or_false] at h
    rcases h with rfl | rfl | rfl <;> simp
  | d0 :: d1 :: d2 :: d3 :: _, h =>
    simp only [primInConn, List.mem_cons, List.not_mem_nil, or_false] at h
    rcases h with rfl | rfl | rfl | rfl <;> simp

theorem primInConn_idx_nodup (drv : List String) : ((primInConn drv).map (·.2.1)).Nodup := by
  match drv with
  | [] => exact List.nodup_nil
  | [_] => simp [primInConn]
  | [_, _] => simp [primInConn]
  | [_, _, _] => simp [primInConn]
  | _ :: _ :: _ :: _ :: _ => simp [primInConn]

theorem walk_eq_flatMap {σ α β} (next : σ → α → σ) (f : σ → α → List β) (g : α → List β) (l : List α)
    (h : ∀ st, ∀ x ∈ l, f st x = g x) (st : σ) : walk next f st l = l.flatMap g := by
  induction l generalizing st with
  | nil => rfl
  | cons x r ih =>
    rw [walk, h st x List.mem_cons_self, ih (fun st y hy => h st y (List.mem_cons_of_mem _ hy)), List.flatMap_cons]

theorem connWalk_eq {β} (tl : TL) (f : Nat → VInst × (String × Nat × String) → List β)
    (g : VInst × (String × Nat × String) → List β) (insts : List VInst)
    (h : ∀ k, ∀ i ∈ insts, ∀ c ∈ inConn tl i, f k (i, c) = g (i, c)) (k0 : Nat) :
    connWalk tl f k0 insts = insts.flatMap fun i => (inConn tl i).flatMap fun c => g (i, c) :=
  walk_eq_flatMap _ _ (fun i => (inConn tl i).flatMap fun c => g (i, c)) insts
    (fun k i hi => walk_eq_flatMap _ _ (fun c => g (i, c)) (inConn tl i) (fun k' c hc => h k' i hi c hc) k) k0

def Nl.pinEps (nl : Nl) : List Ep := nl.gates.flatMap fun g => (primInConn g.drv).map fun c => Ep.cell g.inst c.2.1

theorem connWalk_verilogOf {β} (nl : Nl) (f : Nat → VInst × (String × Nat × String) → List β)
    (g : VInst × (String × Nat × String) → List β)
    (h : ∀ k, ∀ x ∈ nl.gates, ∀ c ∈ primInConn x.drv, f k (nlInst x, c) = g (nlInst x, c)) (k0 : Nat) :
    connWalk primTL f k0 (nl.gates.map nlInst) = nl.gates.flatMap fun x => (primInConn x.drv).flatMap fun c => g (nlInst x, c) := by
  rw [connWalk_eq primTL f g _ (by
    intro k i hi c hc
    obtain ⟨x, hx, rfl⟩ := List.mem_map.mp hi
    rw [inConn_nlInst] at hc
    exact h k x hx c hc) k0, List.flatMap_map]
  apply flatMap_congr
  intro x _
  rw [inConn_nlInst]

theorem outLines_readers (ds : List Decl) (hds : ∀ s, outSig ds s = (s, false)) (l : List NlGate) :
    (((l.map nlInst).flatMap fun i => (outConn primTL ds i).map fun o => (⟨.cell i.name o.1, .fork o.2, o.2⟩ : VLine)).map (·.r)) =
      (l.map (·.name)).map Ep.fork := by
  rw [List.map_flatMap, List.map_map]
  exact flatMap_map_single _ fun g => by rw [outConn_nlInst, hds]; rfl

theorem vFlat_readers_of (cfg : Cfg) (nl : Nl) (g : VInst × (String × Nat × String) → List VLine)
    (hg : ∀ k, ∀ x ∈ nl.gates, ∀ c ∈ primInConn x.drv, connLines cfg.bf k (nlInst x, c) = g (nlInst x, c)) :
    (vFlat cfg primTL (nl.ports.map nlDecl) (verilogOf nl)).map (·.r) =
      nl.gateNames.map Ep.fork ++ nl.pis.map Ep.fork ++
        (nl.gates.flatMap fun x => (primInConn x.drv).flatMap fun c => (g (nlInst x, c)).map (·.r)) ++
        nl.pos.map (fun n => Ep.cell n 0) := by
  rw [vFlat, assignPairs_verilogOf, vInsts_verilogOf, inputNames_nlDecl, outputNames_nlDecl,
    connWalk_verilogOf nl (connLines cfg.bf) g hg]
  simp only [walk, List.append_nil, List.map_append]
  rw [outLines_readers _ (outSig_nlDecl nl.ports)]
  simp only [Nl.gateNames, Nl.pis, Nl.pos, List.map_map, List.map_flatMap]
  rfl

theorem vFlat_readers (cfg : Cfg) (hbf : cfg.bf = false) (nl : Nl)
    (hnc : ∀ g ∈ nl.gates, ∀ d ∈ g.drv, isConstLit d = false) :
    (vFlat cfg primTL (nl.ports.map nlDecl) (verilogOf nl)).map (·.r) =
      nl.gateNames.map Ep.fork ++ nl.pis.map Ep.fork ++ nl.pinEps ++ nl.pos.map (fun n => Ep.cell n 0) := by
  rw [vFlat_readers_of cfg nl (fun ic => [(⟨.fork ic.2.2.2, .cell ic.1.name ic.2.2.1, ic.2.2.2⟩ : VLine)]) (by
      intro k x hx c hc
      have := hnc x hx c.2.2 (mem_primInConn x.drv c hc)
      simp only [connLines, hbf, this, Bool.false_eq_true, if_false, List.nil_append, srcFork])]
  simp only [List.map_cons, List.map_nil, ← List.map_eq_flatMap]
  rfl

theorem pis_nodup (nl : Nl) (h : nl.portNames.Nodup) : nl.pis.Nodup :=
  List.Pairwise.sublist (List.Sublist.map _ List.filter_sublist) h

theorem pos_nodup (nl : Nl) (h : nl.portNames.Nodup) : nl.pos.Nodup :=
  List.Pairwise.sublist (List.Sublist.map _ List.filter_sublist) h

theorem mem_pinEps (l : List NlGate) (e : Ep)
    (h : e ∈ l.flatMap fun g => (primInConn g.drv).map fun c => Ep.cell g.inst c.2.1) : ∃ x ∈ l, ∃ k, e = Ep.cell x.inst k := by
  obtain ⟨x, hx, he⟩ := List.mem_flatMap.mp h
  obtain ⟨c, _, rfl⟩ := List.mem_map.mp he
  exact ⟨x, hx, c.2.1, rfl⟩

theorem pinEps_nodup (l : List NlGate) (h : (l.map (·.inst)).Nodup) :
    (l.flatMap fun g => (primInConn g.drv).map fun c => Ep.cell g.inst c.2.1).Nodup := by
  rw [List.Nodup, List.pairwise_flatMap]
  refine ⟨fun g _ => ?_, (List.pairwise_map.mp h).imp fun {a b} hab x hx y hy e => ?_⟩
  · have := nodup_map_of_inj (fun k => Ep.cell g.inst k) (fun x _ y _ e => (Ep.cell.inj e).2) (primInConn_idx_nodup g.drv)
    rw [List.map_map] at this
    exact this
  · obtain ⟨_, _, rfl⟩ := List.mem_map.mp hx
    obtain ⟨_, _, rfl⟩ := List.mem_map.mp hy
    exact hab (Ep.cell.inj e).1

theorem readers_nodup_of (nl : Nl) (hc : CommonNl nl) (M : List Ep) (hM : M.Nodup)
    (hMf : ∀ n ∈ nl.gateNames ++ nl.pis, Ep.fork n ∉ M) (hMc : ∀ n ∈ nl.pos, Ep.cell n 0 ∉ M) :
    (nl.gateNames.map Ep.fork ++ nl.pis.map Ep.fork ++ M ++ nl.pos.map (fun n => Ep.cell n 0)).Nodup := by
  have h1 : (nl.gateNames.map Ep.fork ++ nl.pis.map Ep.fork).Nodup := by
    rw [← List.map_append]
    apply nodup_map_of_inj Ep.fork (fun _ _ _ _ e => Ep.fork.inj e)
    rw [List.nodup_append]
    exact ⟨hc.gnames, pis_nodup nl hc.ports, fun a ha b hb e => hc.pis b hb (e ▸ ha)⟩
  rw [← List.map_append] at h1 ⊢
  rw [List.nodup_append, List.nodup_append]
  refine ⟨⟨h1, hM, ?_⟩, nodup_map_of_inj _ (fun _ _ _ _ e => (Ep.cell.inj e).1) (pos_nodup nl hc.ports), ?_⟩
  · intro a ha b hb e
    obtain ⟨n, hn, rfl⟩ := List.mem_map.mp ha
    exact hMf n hn (e ▸ hb)
  · intro a ha b hb e
    obtain ⟨n, hn, rfl⟩ := List.mem_map.mp hb
    rcases List.mem_append.mp ha with ha | ha
    · obtain ⟨m, _, rfl⟩ := List.mem_map.mp ha
      cases e
    · exact hMc n hn (e ▸ ha)

theorem readers_nodup (nl : Nl) (hc : CommonNl nl) :
    (nl.gateNames.map Ep.fork ++ nl.pis.map Ep.fork ++ nl.pinEps ++ nl.pos.map (fun n => Ep.cell n 0)).Nodup := by
  refine readers_nodup_of nl hc _ (pinEps_nodup nl.gates hc.inames) ?_ ?_
  · intro n _ h
    obtain ⟨x, _, k, e⟩ := mem_pinEps nl.gates _ h
    cases e
  · intro n hn h
    obtain ⟨x, hx, k, e⟩ := mem_pinEps nl.gates _ h
    exact hc.idisj x hx ((Ep.cell.inj e).1 ▸ (mem_portNames nl n).mpr (Or.inr hn))

theorem portBitNames_nlDecl (ports : List (Bool × String)) : portBitNames (ports.map nlDecl) = ports.map (·.2) := by
  rw [portBitNames, names_filter_nlDecl, List.filter_eq_self.mpr]
  intro p _
  cases h : p.1 <;> simp [nlDecl, h]

theorem ports_declared (ports : List (Bool × String)) :
    ((ports.map (·.2)).all fun p => match lookup (ports.map nlDecl) p with | some d => d.kind != .wire | none => false) = true := by
  rw [List.all_eq_true]
  intro p hp
  obtain ⟨d, hd⟩ := lookup_nlDecl_mem ports p hp
  rw [hd]
  rw [lookup] at hd
  obtain ⟨q, _, rfl⟩ := List.mem_map.mp (List.mem_of_find?_eq_some hd)
  simp only [nlDecl]
  cases q.1 <;> decide

theorem pinOK_o (ds : List Decl) (D : List String) (ty s : String) :
    pinOK primTL ds D ty ("o", .one s) = !(outSig ds s).2 := rfl

theorem pinOK_i (ds : List Decl) (D : List String) (ty d : String) (hcb : isConstBit d = false) (hD : d ∈ D) :
    pinOK primTL ds D ty ("i0", .one d) = true ∧ pinOK primTL ds D ty ("i1", .one d) = true ∧
    pinOK primTL ds D ty ("i2", .one d) = true ∧ pinOK primTL ds D ty ("i3", .one d) = true := by
  have h : (isConstLit d || (!isConstBit d && D.contains d)) = true := by simp [hcb, hD]
  exact ⟨h, h, h, h⟩

theorem primInPins_all (P : String × SelVal → Bool) (drv : List String)
    (h : ∀ d ∈ drv, P ("i0", .one d) = true ∧ P ("i1", .one d) = true ∧ P ("i2", .one d) = true ∧ P ("i3", .one d) = true) :
    (primInPins drv).all P = true := by
  match drv, h with
  | [], _ => rfl
  | [d0], h => simp [primInPins, (h d0 (by simp)).1]
  | [d0, d1], h => simp [primInPins, (h d0 (by simp)).1, (h d1 (by simp)).2.1]
  | [d0, d1, d2], h => simp [primInPins, (h d0 (by simp)).1, (h d1 (by simp)).2.1, (h d2 (by simp)).2.2.1]
  | d0 :: d1 :: d2 :: d3 :: _, h =>
    simp [primInPins, (h d0 (by simp)).1, (h d1 (by simp)).2.1, (h d2 (by simp)).2.2.1, (h d3 (by simp)).2.2.2]

theorem constNames_verilogOf (ds : List Decl) (nl : Nl) (hnc : ∀ g ∈ nl.gates, ∀ d ∈ g.drv, isConstLit d = false) :
    constNames primTL ds (verilogOf nl) = [] := by
  rw [constNames, assignPairs_verilogOf, vInsts_verilogOf]
  rw [connWalk_verilogOf nl _ (fun _ => []) (by
    intro k x hx c hc
    have := hnc x hx c.2.2 (mem_primInConn x.drv c hc)
    simp only [this, Bool.false_eq_true, if_false])]
  simp only [walk, List.nil_append]
  exact List.flatMap_eq_nil_iff.mpr fun x _ => List.flatMap_eq_nil_iff.mpr fun _ _ => rfl

theorem verilogOK_verilogOf_of_readers (cfg : Cfg) (nl : Nl) (hc : CommonNl nl) (hcl : ClosedNl nl)
    (h7 : nodupE ((vFlat cfg primTL (nl.ports.map nlDecl) (verilogOf nl)).map (·.r)) = true) :
    verilogOKB cfg primTL nl.portNames (verilogOf nl) = true := by
  have hsd := sigDecls_verilogOf nl hc.ports
  have hD : drivenSigs primTL (nl.ports.map nlDecl) (verilogOf nl) = nl.gateNames ++ nl.pis := by
    rw [← hsd]; exact drivenSigs_verilogOf nl hc.ports
  simp only [verilogOKB, Bool.and_eq_true, hsd, hD]
  refine ⟨⟨⟨⟨⟨⟨⟨⟨⟨⟨?_, ?_⟩, ?_⟩, ?_⟩, ?_⟩, ?_⟩, ?_⟩, ?_⟩, ?_⟩, ?_⟩, ?_⟩
  · rw [assignPairs_verilogOf]; rfl
  · exact ports_declared nl.ports
  · rw [Nl.portNames, posNames_nlDecl]; exact (fe_nodupS_iff _).mpr hc.ports
  · rw [Nl.portNames, posNames_nlDecl, portBitNames_nlDecl, List.all_eq_true]
    intro n hn
    simpa using hn
  · rw [vInsts_verilogOf, List.all_eq_true]
    intro i hi
    obtain ⟨g, hg, rfl⟩ := List.mem_map.mp hi
    show ((("o", SelVal.one g.name) :: primInPins g.drv).all _) = true
    rw [List.all_cons, pinOK_o, outSig_nlDecl, Bool.and_eq_true]
    refine ⟨rfl, primInPins_all _ _ (fun d hd => ?_)⟩
    exact pinOK_i _ _ _ d (hcl.ncb d (hcl.ops g hg d hd)) (hcl.ops g hg d hd)
  · rw [vInsts_verilogOf, portBitNames_nlDecl, constNames_verilogOf _ nl hc.nc, List.append_nil, List.map_map]
    apply (fe_nodupS_iff _).mpr
    show (nl.instNames ++ nl.portNames).Nodup
    rw [List.nodup_append]
    refine ⟨hc.inames, hc.ports, fun a ha b hb e => ?_⟩
    obtain ⟨g, hg, rfl⟩ := List.mem_map.mp ha
    exact hc.idisj g hg (e ▸ hb)
  · exact h7
  · rw [vInsts_verilogOf, List.all_eq_true]
    intro i hi
    obtain ⟨g, hg, rfl⟩ := List.mem_map.mp hi
    simpa [nlInst, instOfGate] using hcl.kinds g hg
  · rw [vInsts_verilogOf, List.all_eq_true]
    intro i hi
    obtain ⟨g, hg, rfl⟩ := List.mem_map.mp hi
    rw [inConn_nlInst]
    exact (fe_nodupN_iff _).mpr (primInConn_idx_nodup g.drv)
  · rw [outputNames_nlDecl, List.all_eq_true]
    intro n hn
    have : n ∈ nl.gateNames := hc.pos n hn
    simp [this]
  · rw [List.all_eq_true]
    intro n hn
    simp [hcl.ncb n hn]

theorem verilogOK_verilogOf (cfg : Cfg) (hbf : cfg.bf = false) (nl : Nl) (hc : CommonNl nl) (hcl : ClosedNl nl) :
    verilogOKB cfg primTL nl.portNames (verilogOf nl) = true :=
  verilogOK_verilogOf_of_readers cfg nl hc hcl (by
    rw [vFlat_readers cfg hbf nl hc.nc]
    exact (fe_nodupE_iff _).mpr (readers_nodup nl hc))

theorem benchArity_benchOf (nl : Nl) (hc : CommonNl nl) : benchArityB (benchOf nl) = true := by
  rw [benchArityB, benchGates_benchOf, List.all_eq_true]
  intro b hb
  obtain ⟨g, hg, rfl⟩ := List.mem_map.mp hb
  simp [nlBGate, hc.len g hg]

end KV.Netlist
