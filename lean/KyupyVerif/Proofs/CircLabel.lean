import KyupyVerif.Proofs.CircSNodes
import KyupyVerif.Proofs.NetLabelling
/-! Labellings of the lines of `Circ.toNet` by index versus values at reader end points: `toNet_lineEq_agree` (the gate equation
of line `i` under any labelling that agrees with `w` on the lines).  `CircModel` — values at the reader end points that satisfy
the name-level gate equation `driveVal` of every line — is the middle step both formats go through: `circ_model_labelling` /
`circ_labelling_model` carry it to and from the labellings of the net (with a hole set: `_off`); a format only has to say what
`driveVal` is on its kinds of lines (Proofs/BenchSem.lean, Proofs/VerilogSem.lean).  `toNet_inPin_map`, `toNet_captures`: what an
input pin / the interface nodes of the dump read under such a labelling, by names. -/
namespace KV.Netlist
open KV

universe u

theorem toNet_lineEq_agree {α} (C : Circ) (io : List Nat) (sp : Nat → Option Nat) (z : α) (neg : α → α)
    (prim : String → α → α → α → α → α) (a : Nat → α) (v : Nat → α) (w : Ep → α)
    (hv : ∀ j (hj : j < (flatLines C).length), v j = w (flatLines C)[j].2)
    (i : Nat) (hi : i < (flatLines C).length) (hd : C.resolved (flatLines C)[i].1) :
    lineEq (C.toNet io) sp z neg prim a v i =
      driveVal (flatLines C) (C.kindOf (flatLines C)[i].1) (sp (C.nodeIdx (flatLines C)[i].1)) z neg prim a w (flatLines C)[i].1 := by
  rw [← toNet_lineEq C io sp z neg prim a w i hi hd]
  apply lineEq_congr
  · rfl
  · intro k l' hk
    rw [toNet_line C io i hi] at hk
    simp only at hk
    have hlt : l' < (C.toNet io).lines.size :=
      (wf_in (toNet_wf C io) (by rw [toNet_nodes_size]; exact hd) (inPin_some hk)).1
    rw [toNet_lines_size] at hlt
    rw [hv l' hlt, List.getD_eq_getElem?_getD, List.getElem?_eq_getElem hlt]
    rfl

def CircModel {α} (C : Circ) (io : List Nat) (z : α) (neg : α → α) (prim : String → α → α → α → α → α) (a : Nat → α)
    (w : Ep → α) : Prop :=
  ∀ p ∈ flatLines C, w p.2 = driveVal (flatLines C) (C.kindOf p.1) ((C.toNet io).sPos (C.nodeIdx p.1)) z neg prim a w p.1

theorem inLineOf_self (L : List (Ep × Ep)) (hnd : (L.map (·.2)).Nodup) (i : Nat) (hi : i < L.length) :
    inLineOf L L[i].2 = some i := by
  apply lastWith_unique _ L i L[i] (List.getElem?_eq_getElem hi) (by simp)
  intro i' x' hx' hp
  have hi' : i' < L.length := (List.getElem?_eq_some_iff.mp hx').1
  have hx'' : L[i'] = x' := (List.getElem?_eq_some_iff.mp hx').2
  have h1 : (L.map (·.2))[i']'(by simpa using hi') = (L.map (·.2))[i]'(by simpa using hi) := by
    simp only [List.getElem_map, hx'']
    simpa using hp
  exact (List.getElem_inj hnd).mp h1

theorem toNet_inPin_map {α : Type u} (C : Circ) (io : List Nat) (e : Ep) (hr : C.resolved e) (v : Nat → α) (w : Ep → α)
    (hv : ∀ j (hj : j < (flatLines C).length), v j = w (flatLines C)[j].2) :
    (((C.toNet io).node (C.nodeIdx e)).inPin e.rpin).map v =
      if (flatLines C).any (fun p => p.2 == e) then some (w e) else none := by
  rw [toNet_inPin_ep C io e hr]
  exact map_inLineOf _ v w hv e

theorem toNet_captures {α : Type u} (C : Circ) (io : List Nat) (names : List Ep)
    (hsn : (C.toNet io).sNodes = names.map C.nodeIdx) (hres : ∀ e ∈ names, C.resolved e ∧ e.rpin = 0)
    (v : Nat → α) (w : Ep → α) (hv : ∀ j (hj : j < (flatLines C).length), v j = w (flatLines C)[j].2) :
    ((C.toNet io).sNodes.map fun n => ((C.toNet io).node n).inPin 0 |>.map v) =
      names.map fun e => if (flatLines C).any (fun p => p.2 == e) then some (w e) else none := by
  rw [hsn, List.map_map]
  apply List.map_congr_left
  intro e he
  rw [← toNet_inPin_map C io e (hres e he).1 v w hv, (hres e he).2]
  rfl

/-- `CircModel` with holes: the lines driven from an end point in `H` carry no equation, the meaning of those nodes is given from
outside (C10 `ConsOff`; used for library cells) -/
def CircModelOff {α} (C : Circ) (io : List Nat) (H : Ep → Prop) (z : α) (neg : α → α) (prim : String → α → α → α → α → α)
    (a : Nat → α) (w : Ep → α) : Prop :=
  ∀ p ∈ flatLines C, ¬ H p.1 →
    w p.2 = driveVal (flatLines C) (C.kindOf p.1) ((C.toNet io).sPos (C.nodeIdx p.1)) z neg prim a w p.1

theorem circModelOff_false {α} (C : Circ) (io : List Nat) (z : α) (neg : α → α) (prim : String → α → α → α → α → α) (a : Nat → α)
    (w : Ep → α) : CircModelOff C io (fun _ => False) z neg prim a w ↔ CircModel C io z neg prim a w :=
  ⟨fun h p hp => h p hp (fun x => x), fun h p hp _ => h p hp⟩

theorem circ_model_labelling_off {α} (C : Circ) (io : List Nat) (hres : ∀ p ∈ flatLines C, C.resolved p.1) (S : Nat → Prop)
    (H : Ep → Prop) (hSH : ∀ p ∈ flatLines C, H p.1 → S (C.nodeIdx p.1)) (z : α) (neg : α → α)
    (prim : String → α → α → α → α → α) (a : Nat → α) (w : Ep → α) (v : Nat → α)
    (hv : ∀ j (hj : j < (flatLines C).length), v j = w (flatLines C)[j].2) (hm : CircModelOff C io H z neg prim a w) :
    NetLabellingOff (C.toNet io) S z neg prim a v := by
  intro i hi hS
  rw [toNet_lines_size] at hi
  rw [toNet_line C io i hi] at hS
  rw [toNet_lineEq_agree C io _ z neg prim a v w hv i hi (hres _ (List.getElem_mem hi)), hv i hi]
  exact hm _ (List.getElem_mem hi) (fun h => hS (hSH _ (List.getElem_mem hi) h))

theorem circ_labelling_model_off {α} (C : Circ) (io : List Nat) (hres : ∀ p ∈ flatLines C, C.resolved p.1)
    (hnd : ((flatLines C).map (·.2)).Nodup) (S : Nat → Prop) (H : Ep → Prop) (hSH : ∀ p ∈ flatLines C, S (C.nodeIdx p.1) → H p.1)
    (z : α) (neg : α → α) (prim : String → α → α → α → α → α) (a : Nat → α) (v : Nat → α)
    (hc : NetLabellingOff (C.toNet io) S z neg prim a v) :
    CircModelOff C io H z neg prim a (fun e => v ((inLineOf (flatLines C) e).getD 0)) ∧
    ∀ j (hj : j < (flatLines C).length), v j = (fun e => v ((inLineOf (flatLines C) e).getD 0)) (flatLines C)[j].2 := by
  have hv : ∀ j (hj : j < (flatLines C).length), v j = (fun e => v ((inLineOf (flatLines C) e).getD 0)) (flatLines C)[j].2 := by
    intro j hj
    show v j = v ((inLineOf (flatLines C) (flatLines C)[j].2).getD 0)
    rw [inLineOf_self _ hnd j hj]; rfl
  refine ⟨?_, hv⟩
  intro p hp hH
  obtain ⟨i, hi, rfl⟩ := List.getElem_of_mem hp
  rw [← hv i hi, hc i (by rw [toNet_lines_size]; exact hi) (by
    rw [toNet_line C io i hi]; exact fun h => hH (hSH _ (List.getElem_mem hi) h))]
  exact toNet_lineEq_agree C io _ z neg prim a v _ hv i hi (hres _ (List.getElem_mem hi))

theorem circ_model_labelling {α} (C : Circ) (io : List Nat) (hres : ∀ p ∈ flatLines C, C.resolved p.1) (z : α) (neg : α → α)
    (prim : String → α → α → α → α → α) (a : Nat → α) (w : Ep → α) (v : Nat → α)
    (hv : ∀ j (hj : j < (flatLines C).length), v j = w (flatLines C)[j].2) (hm : CircModel C io z neg prim a w) :
    NetLabelling (C.toNet io) z neg prim a v :=
  (netLabellingOff_false _ z neg prim a v).mp (circ_model_labelling_off C io hres (fun _ => False) (fun _ => False) (fun _ _ h => h)
    z neg prim a w v hv ((circModelOff_false C io z neg prim a w).mpr hm))

theorem circ_labelling_model {α} (C : Circ) (io : List Nat) (hres : ∀ p ∈ flatLines C, C.resolved p.1)
    (hnd : ((flatLines C).map (·.2)).Nodup) (z : α) (neg : α → α) (prim : String → α → α → α → α → α) (a : Nat → α) (v : Nat → α)
    (hc : NetLabelling (C.toNet io) z neg prim a v) :
    CircModel C io z neg prim a (fun e => v ((inLineOf (flatLines C) e).getD 0)) ∧
    ∀ j (hj : j < (flatLines C).length), v j = (fun e => v ((inLineOf (flatLines C) e).getD 0)) (flatLines C)[j].2 := by
  obtain ⟨h1, h2⟩ := circ_labelling_model_off C io hres hnd (fun _ => False) (fun _ => False) (fun _ _ h => h) z neg prim a v
    ((netLabellingOff_false _ z neg prim a v).mpr hc)
  exact ⟨(circModelOff_false C io z neg prim a _).mp h1, h2⟩

end KV.Netlist
