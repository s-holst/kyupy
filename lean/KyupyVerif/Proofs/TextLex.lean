import KyupyVerif.Model.TextLex
import KyupyVerif.Proofs.Basics
/-! What the SDF / DEF / STIL text proofs share.  About the scanner engine `KV.TextLex`: matchers on texts of the form
`token ++ rest`, scan lists (`first_pre`; `splitAtTm` finds a terminal in a scan list so that side conditions on the terminals in
front of it can be evaluated), the three rewriting rules for `next` (end of text, token, ignored match) that keep the fuel out of
the grammar proofs, and `Lx` / `Lx.core`: how the scanner of a state reads one printed token, by the order of its scan list.  About
the readers: `loop_read` / `loop_read_st`, the one induction behind every "items* closing-token" loop of the three grammars; in front of
them `length_le_flatMap`, which the DEF round trip uses.  Bench and
Verilog have hand-written scanners (`skipC`/`skipV`, `nextRaw`) and use only `beq_false_of_pred` from here. -/
namespace KV.TextLex

theorem beq_false_of_pred (p : Char → Bool) {c d : Char} (hc : p c = true) (hd : p d = false) : (c == d) = false := by
  cases hb : (c == d) with
  | false => rfl
  | true => simp only [beq_iff_eq] at hb; subst hb; rw [hc] at hd; cases hd

@[simp] theorem stripPrefix_append (k r : List Char) : stripPrefix k (k ++ r) = some r := by
  induction k with
  | nil => cases r <;> rfl
  | cons a k ih => simp [stripPrefix, ih]

theorem lit_append (k r : List Char) : lit k (k ++ r) = some (k, r) := by simp [lit]

theorem spanP_nil (p : Char → Bool) : spanP p [] = ([], []) := rfl

theorem spanP_cons_false (p : Char → Bool) (c : Char) (r : List Char) (h : p c = false) :
    spanP p (c :: r) = ([], c :: r) := by simp [spanP, h]

theorem spanP_append (p : Char → Bool) (a r : List Char) (ha : ∀ c ∈ a, p c = true)
    (hr : ∀ c r', r = c :: r' → p c = false) : spanP p (a ++ r) = (a, r) := by
  induction a with
  | nil =>
    cases r with
    | nil => rfl
    | cons c r' => simp [spanP, hr c r' rfl]
  | cons x a ih =>
    have hx : p x = true := ha x (by simp)
    have := ih (fun c hc => ha c (by simp [hc]))
    simp [spanP, hx, this]

theorem plus_append (p : Char → Bool) (a r : List Char) (hne : a ≠ []) (ha : ∀ c ∈ a, p c = true)
    (hr : ∀ c r', r = c :: r' → p c = false) : plus p (a ++ r) = some (a, r) := by
  unfold plus
  rw [spanP_append p a r ha hr]
  cases a with
  | nil => exact absurd rfl hne
  | cons x a => rfl

theorem plus_cons_false (p : Char → Bool) (c : Char) (r : List Char) (h : p c = false) : plus p (c :: r) = none := by
  simp [plus, spanP, h]

theorem plus_nil (p : Char → Bool) : plus p [] = none := rfl

theorem chr_cons (k : Char) (r : List Char) : chr k (k :: r) = some ([k], r) := by simp [chr]

theorem chr_cons_ne (k c : Char) (r : List Char) (h : c ≠ k) : chr k (c :: r) = none := by simp [chr, h]

theorem delimited_cons_ne (o c x : Char) (r : List Char) (h : x ≠ o) : delimited o c (x :: r) = none := by
  simp [delimited, h]

theorem delimited_append (o c : Char) (t r : List Char) (hne : t ≠ []) (ht : ∀ x ∈ t, x ≠ c) :
    delimited o c (o :: (t ++ c :: r)) = some (o :: (t ++ [c]), r) := by
  unfold delimited
  simp only [↓reduceIte]
  rw [spanP_append (· ≠ c) t (c :: r) (by intro x hx; simpa using ht x hx)
        (by intro x r' h; cases h; simp)]
  cases t with
  | nil => exact absurd rfl hne
  | cons x t => simp

theorem stripPrefix_none (a b : List Char) (c : Char) (R : List Char) (h : a.isPrefixOf b = false) (ha : ∀ x ∈ a, x ≠ c) :
    stripPrefix a (b ++ c :: R) = none := by
  induction a generalizing b with
  | nil => simp at h
  | cons x a ih =>
    cases b with
    | nil => simp [stripPrefix, ha x (by simp)]
    | cons y b =>
      simp only [List.cons_append, stripPrefix]
      by_cases e : x = y
      · subst e
        simp only [List.isPrefixOf, beq_self_eq_true, Bool.true_and] at h
        simp [ih b h (fun z hz => ha z (by simp [hz]))]
      · simp [e]

theorem first_pre (L : Lex τ) (pre post : List τ) (t : τ) (cs x r : List Char) (hpre : ∀ u ∈ pre, L.run u cs = none)
    (ht : L.run t cs = some (x, r)) : first L (pre ++ t :: post) cs = some (t, x, r) := by
  induction pre with
  | nil => simp [first, ht]
  | cons u pre ih =>
    simp only [List.cons_append, first, hpre u (by simp)]
    exact ih (fun v hv => hpre v (by simp [hv]))

/-- `ts = a ++ t :: b`, found by search (so that side conditions on `a` can be evaluated) -/
def splitAtTm [DecidableEq τ] (t : τ) : List τ → Option (List τ × List τ)
  | [] => none
  | u :: us => if u = t then some ([], us) else (splitAtTm t us).map fun p => (u :: p.1, p.2)

theorem splitAtTm_spec [DecidableEq τ] (t : τ) (ts a b : List τ) (h : splitAtTm t ts = some (a, b)) : ts = a ++ t :: b := by
  induction ts generalizing a with
  | nil => simp [splitAtTm] at h
  | cons u us ih =>
    simp only [splitAtTm] at h
    split at h
    · rename_i e; cases h; simp [e]
    · simp only [Option.map_eq_some_iff] at h
      obtain ⟨p, hp, he⟩ := h
      cases he
      rw [ih p.1 hp]; rfl

theorem nextF_mono (L : Lex τ) (ts : List τ) : ∀ (n m : Nat) (cs : List Char), cs.length ≤ n → cs.length ≤ m →
    nextF L ts n cs = nextF L ts m cs := by
  intro n
  induction n with
  | zero =>
    intro m cs hn _
    have : cs = [] := List.eq_nil_of_length_eq_zero (by omega)
    subst this
    cases m <;> rfl
  | succ n ih =>
    intro m cs hn hm
    cases cs with
    | nil => cases m <;> rfl
    | cons c cs =>
      cases m with
      | zero => simp at hm
      | succ m =>
        simp only [nextF]
        cases hf : first L ts (c :: cs) with
        | none => rfl
        | some x =>
          obtain ⟨t, tok, r⟩ := x
          simp only
          split
          · split
            · rename_i hlt
              simp only [List.length_cons] at hlt hn hm
              exact ih m r (by omega) (by omega)
            · rfl
          · rfl

@[simp] theorem next_nil (L : Lex τ) (ts : List τ) : next L ts [] = some (.eof, []) := rfl

theorem next_tok (L : Lex τ) (ts : List τ) (cs : List Char) (t : τ) (tok r : List Char)
    (hf : first L ts cs = some (t, tok, r)) (hi : L.ign t = false) (hne : cs ≠ []) :
    next L ts cs = some (.tok t tok, r) := by
  cases cs with
  | nil => exact absurd rfl hne
  | cons c cs => simp [next, nextF, hf, hi]

theorem next_ign (L : Lex τ) (ts : List τ) (cs : List Char) (t : τ) (tok r : List Char)
    (hf : first L ts cs = some (t, tok, r)) (hi : L.ign t = true) (hlt : r.length < cs.length) :
    next L ts cs = next L ts r := by
  cases cs with
  | nil => simp at hlt
  | cons c cs =>
    simp only [next, List.length_cons, nextF, hf, hi, ↓reduceIte]
    simp only [List.length_cons] at hlt
    simp only [hlt, ↓reduceIte]
    exact nextF_mono L ts _ _ r (by omega) (by omega)

/-! ## one printed token

The printers put one blank in front of a token.  `Lx nx F s t x`: the puller `nx` (`next L`, or DEF's `nextD`, which re-types an
`ID` afterwards) in state `s` reads a blank, the text `x` and then any text allowed by `F` as the token `t` with text `x`, and stops in
front of that text.  `F` is a parameter because what may follow differs: white space after most tokens, `;` after a STIL parameter
value, a character outside its class after an SDF name.  Because of the one blank the round trips built on `Lx` (SDF, STIL, DEF) are
about the text the printer writes; bench and Verilog prove "any layout" by another route (relation `Lexes`). -/
def Lx {τ σ : Type} (nx : σ → List Char → Option (Tok τ × List Char)) (F : List Char → Prop) (s : σ) (t : τ) (x : List Char) :
    Prop :=
  ∀ R, F R → nx s (' ' :: (x ++ R)) = some (.tok t x, R)

/-- Two independent splits of the scan list, because the ignored terminal may stand before or after `t`: `ts = a ++ ig :: b` with
nothing in `a` able to start at a blank and `ig` taking exactly the blank in front of `c0` (whatever text it returns: `[]` for
STIL / DEF, the blank for SDF) gives the skip; `ts = c ++ t :: d` with everything in `c` failing at the token text gives the match. -/
theorem Lx.core (L : Lex τ) (F : List Char → Prop) (ts a b c d : List τ) (ig t : τ) (c0 : Char) (x' : List Char)
    (hskip : ts = a ++ ig :: b) (ha : ∀ u ∈ a, ∀ X, L.run u (' ' :: X) = none)
    (hig : ∀ X, ∃ g, L.run ig (' ' :: c0 :: X) = some (g, c0 :: X)) (higt : L.ign ig = true)
    (hsplit : ts = c ++ t :: d) (hpre : ∀ R, F R → ∀ u ∈ c, L.run u (c0 :: x' ++ R) = none)
    (ht : ∀ R, F R → L.run t (c0 :: x' ++ R) = some (c0 :: x', R)) (hign : L.ign t = false) :
    Lx (next L) F ts t (c0 :: x') := by
  intro R hR
  have h1 : next L ts (' ' :: (c0 :: x' ++ R)) = next L ts (c0 :: x' ++ R) := by
    obtain ⟨g, hg⟩ := hig (x' ++ R)
    rw [hskip]
    exact next_ign L _ _ ig g _ (first_pre L a b ig _ _ _ (fun u hu => ha u hu _) hg) higt (by simp)
  rw [h1, hsplit]
  exact next_tok L _ _ t _ _ (first_pre L c d t _ _ _ (hpre R hR) (ht R hR)) hign (by simp)

/-- the two splits of `Lx.core` found by search and its conditions on `a` and `c` as a computation: `noBlank` / `fails` say
(soundly, not completely) which terminals cannot start at a blank / cannot match the token text -/
def check [DecidableEq τ] (ig : τ) (noBlank fails : τ → Bool) (ts : List τ) (t : τ) : Bool :=
  match splitAtTm ig ts, splitAtTm t ts with
  | some (a, _), some (c, _) => a.all noBlank && c.all fails
  | _, _ => false

theorem Lx.of_check [DecidableEq τ] (L : Lex τ) (F : List Char → Prop) (ig : τ) (noBlank fails : τ → Bool) (ts : List τ) (t : τ)
    (c0 : Char) (x' : List Char) (h : check ig noBlank fails ts t = true)
    (hnb : ∀ u, noBlank u = true → ∀ X, L.run u (' ' :: X) = none)
    (hig : ∀ X, ∃ g, L.run ig (' ' :: c0 :: X) = some (g, c0 :: X)) (higt : L.ign ig = true)
    (hfails : ∀ u, fails u = true → ∀ R, F R → L.run u (c0 :: x' ++ R) = none)
    (ht : ∀ R, F R → L.run t (c0 :: x' ++ R) = some (c0 :: x', R)) (hign : L.ign t = false) :
    Lx (next L) F ts t (c0 :: x') := by
  unfold check at h
  split at h
  · rename_i a b c d h1 h2
    simp only [Bool.and_eq_true, List.all_eq_true] at h
    exact Lx.core L F ts a b c d ig t c0 x' (splitAtTm_spec _ _ _ _ h1) (fun u hu => hnb u (h.1 u hu)) hig higt
      (splitAtTm_spec _ _ _ _ h2) (fun R hR u hu => hfails u (h.2 u hu) R hR) ht hign
  · cases h

theorem length_le_flatMap {α β : Type} (g : α → List β) (l : List α) (h : ∀ x ∈ l, 1 ≤ (g x).length) :
    l.length ≤ (l.flatMap g).length := by
  induction l with
  | nil => simp
  | cons x l ih =>
    have h1 := h x (by simp)
    have h2 := ih (fun y hy => h y (by simp [hy]))
    simp only [List.flatMap_cons, List.length_append, List.length_cons]
    omega

/-! ## fuelled list readers

Every reader of an item list in the text models has one shape: `F (n + 1) s text` looks at the next token; on the closing token
it returns `[]`, otherwise it reads one item and calls `F n s'` on the rest.  `enc` prints a token list, `len` is any additive
size of token lists that gives every valid item at least 1 (so that fuel above the size of the printed list suffices); `P` says in
which scanner states the reader may be entered.  The item's own size bound `len (toks x) < N` is what its inner readers need. -/
theorem loop_read_st {α τ σ : Type} (F : Nat → σ → List Char → Option (List α × List Char)) (P : σ → Prop)
    (valid : α → Bool) (toks : α → List τ) (enc : List τ → List Char) (len : List τ → Nat) (term : List τ)
    (R out : List Char) (N : Nat) (hadd : ∀ a b, len (a ++ b) = len a + len b) (hpos : ∀ x, valid x = true → 1 ≤ len (toks x))
    (hstop : ∀ s, P s → ∀ n, F (n + 1) s (enc term ++ R) = some ([], out))
    (hstep : ∀ s, P s → ∀ n x T v, valid x = true → len (toks x) < N →
      (∀ s', P s' → F n s' (enc T ++ R) = some (v, out)) → F (n + 1) s (enc (toks x ++ T) ++ R) = some (x :: v, out))
    (l : List α) (hl : l.all valid = true) (hN : len (l.flatMap toks) < N) (s : σ) (hs : P s) :
    F N s (enc (l.flatMap toks ++ term) ++ R) = some (l, out) := by
  have main : ∀ l : List α, l.all valid = true → len (l.flatMap toks) < N → l.length ≤ len (l.flatMap toks) ∧
      ∀ n, l.length < n → ∀ s, P s → F n s (enc (l.flatMap toks ++ term) ++ R) = some (l, out) := by
    intro l
    induction l with
    | nil =>
      refine fun _ _ => ⟨Nat.zero_le _, fun n hn s hs => ?_⟩
      obtain ⟨n, rfl⟩ : ∃ m, n = m + 1 := ⟨n - 1, by omega⟩
      exact hstop s hs n
    | cons x l ih =>
      intro hl hN
      simp only [List.all_cons, Bool.and_eq_true] at hl
      simp only [List.flatMap_cons, hadd] at hN ⊢
      have hx := hpos x hl.1
      obtain ⟨h1, h2⟩ := ih hl.2 (by omega)
      refine ⟨by simp only [List.length_cons]; omega, fun n hn s hs => ?_⟩
      obtain ⟨n, rfl⟩ : ∃ m, n = m + 1 := ⟨n - 1, by omega⟩
      rw [List.append_assoc]
      exact hstep s hs n x _ l hl.1 (by omega) (fun s' hs' => h2 n (by simpa using hn) s' hs')
  obtain ⟨h1, h2⟩ := main l hl hN
  exact h2 N (by omega) s hs

theorem loop_read {α τ : Type} (F : Nat → List Char → Option (List α × List Char)) (valid : α → Bool)
    (toks : α → List τ) (enc : List τ → List Char) (len : List τ → Nat) (term : List τ) (R out : List Char) (N : Nat)
    (hadd : ∀ a b, len (a ++ b) = len a + len b) (hpos : ∀ x, valid x = true → 1 ≤ len (toks x))
    (hstop : ∀ n, F (n + 1) (enc term ++ R) = some ([], out))
    (hstep : ∀ n x T v, valid x = true → len (toks x) < N → F n (enc T ++ R) = some (v, out) →
      F (n + 1) (enc (toks x ++ T) ++ R) = some (x :: v, out))
    (l : List α) (hl : l.all valid = true) (hN : len (l.flatMap toks) < N) :
    F N (enc (l.flatMap toks ++ term) ++ R) = some (l, out) :=
  loop_read_st (fun n (_ : Unit) => F n) (fun _ => True) valid toks enc len term R out N hadd hpos (fun _ _ => hstop)
    (fun _ _ n x T v hv hx ih => hstep n x T v hv hx (ih () trivial)) l hl hN () trivial

end KV.TextLex
