import KyupyVerif.Proofs.HeapChunks
/-! Used regions of the address-ordered heap model: allocation adds exactly one region that overlaps no live
one, release removes exactly the released region, regions are pairwise disjoint, in address order and inside the managed range. -/
namespace KV.Heap

/-- (start, size) of the chunks in use, in address order; `s` = start address of the first chunk -/
def usedFrom : Nat → List Chunk → List (Nat × Nat)
  | _, [] => []
  | s, c :: r => (if c.free then [] else [(s, c.size)]) ++ usedFrom (s + c.size) r

theorem usedFrom_bounds (s : Nat) (l : List Chunk) : ∀ r ∈ usedFrom s l, s ≤ r.1 ∧ r.1 + r.2 ≤ s + total l := by
  induction l generalizing s with
  | nil => intro r hr; simp [usedFrom] at hr
  | cons c l ih =>
    intro r hr
    simp only [usedFrom, List.mem_append] at hr
    rw [total_cons]
    rcases hr with hr | hr
    · split at hr
      · simp at hr
      · simp at hr; subst hr; simp <;> omega
    · have := ih (s + c.size) r hr; omega

/-- for any chunk list, no invariant needed: the regions are read off one after the other -/
theorem usedFrom_sorted (s : Nat) (l : List Chunk) :
    (usedFrom s l).Pairwise (fun a b => a.1 + a.2 ≤ b.1) := by
  induction l generalizing s with
  | nil => simp [usedFrom]
  | cons c l ih =>
    simp only [usedFrom]
    rw [List.pairwise_append]
    refine ⟨by split <;> simp, ih _, ?_⟩
    intro a ha b hb
    split at ha
    · simp at ha
    · simp at ha; subst ha
      have := usedFrom_bounds (s + c.size) l b hb
      simp; omega

theorem mem_mid {α} {A B : List α} {x r : α} : r ∈ A ++ x :: B ↔ r = x ∨ r ∈ A ++ B := by
  simp only [List.mem_append, List.mem_cons]
  exact or_left_comm

theorem pairwise_mid {α} {R : α → α → Prop} {A B : List α} {x : α} (h : (A ++ x :: B).Pairwise R) :
    ∀ r ∈ A ++ B, R r x ∨ R x r := by
  rw [List.pairwise_append, List.pairwise_cons] at h
  intro r hr
  rcases List.mem_append.1 hr with hr | hr
  · exact Or.inl (h.2.2 r hr x List.mem_cons_self)
  · exact Or.inr (h.2.1.1 r hr)

theorem usedFrom_append (s : Nat) (a b : List Chunk) :
    usedFrom s (a ++ b) = usedFrom s a ++ usedFrom (s + total a) b := by
  induction a generalizing s with
  | nil => simp [usedFrom, total]
  | cons x r ih => simp only [List.cons_append, usedFrom, ih, total_cons, List.append_assoc, Nat.add_assoc]

/-- allocation inside the list: total unchanged, and the list of used regions gains exactly `(loc, size)`, at its place in address
    order. The form `A ++ x :: B` against `A ++ B` is chosen so that `mem_mid` gives the membership statement and `pairwise_mid`
    (with `usedFrom_sorted`) the disjointness from every live region at once -/
theorem allocIn_spec (size : Nat) : ∀ (s : Nat) (l : List Chunk) (loc : Nat) (l' : List Chunk),
    allocIn size s l = some (loc, l') →
    total l' = total l ∧ ∃ A B, usedFrom s l' = A ++ (loc, size) :: B ∧ usedFrom s l = A ++ B := by
  intro s l loc l' h
  obtain ⟨pre, c, post, rfl, hc, hle, rfl, rfl, _⟩ := allocIn_shape size s l loc l' h
  have hl : usedFrom s (pre ++ c :: post) = usedFrom s pre ++ usedFrom (s + total pre + c.size) post := by
    simp [usedFrom_append, usedFrom, hc]
  by_cases he : c.size = size
  · subst he
    refine ⟨by simp [total], _, _, ?_, hl⟩
    simp [usedFrom_append, usedFrom, total, Nat.add_assoc]
  · have e : s + total pre + size + (c.size - size) = s + total pre + c.size := by omega
    refine ⟨?_, _, _, ?_, hl⟩
    · simp only [if_neg he, total, List.map_append, List.map_cons, List.sum_append, List.sum_cons, List.singleton_append]
      omega
    · simp [if_neg he, usedFrom_append, usedFrom, e]

theorem Freed.spec {loc s : Nat} {l l' : List Chunk} (h : Freed loc s l l') :
    total l' ≤ total l ∧ ∃ n A B, usedFrom s l = A ++ (loc, n) :: B ∧ usedFrom s l' = A ++ B := by
  induction h with
  | @last c hc => exact ⟨by simp [total], c.size, [], [], by simp [usedFrom, hc], rfl⟩
  | @next c n r hc hn =>
    exact ⟨by simp [total, Nat.add_assoc], c.size, [], usedFrom (loc + c.size) (n :: r), by simp [usedFrom, hc],
      by simp [usedFrom, hn, Nat.add_assoc]⟩
  | @here c n r hc hn =>
    exact ⟨by simp [total], c.size, [], usedFrom (loc + c.size) (n :: r), by simp [usedFrom, hc], by simp [usedFrom]⟩
  | @trimF s c r _ _ hc ih | @trimU s c r _ _ hc ih =>
    obtain ⟨_, n, A, B, e1, e2⟩ := ih
    obtain ⟨rfl, rfl⟩ := List.append_eq_nil_iff.1 e2.symm
    exact ⟨by simp [total], n, usedFrom s [c], [], by simp [usedFrom, e1], by simp [usedFrom, hc]⟩
  | @prev s c r d r' _ _ hc hd _ ih =>
    obtain ⟨ht, n, A, B, e1, e2⟩ := ih
    refine ⟨by simp only [total_cons] at ht ⊢; omega, n, A, B, by simp [usedFrom, hc, e1], ?_⟩
    simpa [usedFrom, hd, Nat.add_assoc] using e2
  | @skip s c r d r' _ _ _ ih =>
    obtain ⟨ht, n, A, B, e1, e2⟩ := ih
    exact ⟨by simp only [total_cons] at ht ⊢; omega, n, (if c.free then [] else [(s, c.size)]) ++ A, B,
      by simp [usedFrom, e1], by rw [usedFrom, e2, List.append_assoc]⟩

theorem freeIn_spec (loc : Nat) : ∀ (s : Nat) (l l' : List Chunk), freeIn loc s l = some l' →
    total l' ≤ total l ∧ ∃ n A B, usedFrom s l = A ++ (loc, n) :: B ∧ usedFrom s l' = A ++ B :=
  fun s l l' h => (freed_of_freeIn loc s l l' h).spec

end KV.Heap
