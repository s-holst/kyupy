import KyupyVerif.Model.DataPath
import KyupyVerif.Proofs.Encode
import KyupyVerif.Proofs.CycleNet
/-! Bridge between the byte layout of `mv_to_bp` / `bp_to_mv` (Model/Encode.lean) and the `BitVec` lanes of the bit-parallel
simulation theorems: lanes of `ofBytes`, `toBytes` round trip, lanes of the planes `mv_to_bp` produces, codes `bp_to_mv`
reads from three planes; closed forms of the byte-level `s_to_c` / `c_to_s` (Model/DataPath.lean); the three codecs are lawful; the byte
loop is the value loop through `dec`; `LaneView` / `Arity` and, over them, one lane of a capture and of `cycle(k)`. -/
namespace KV.DP
open KV KV.Sig KV.Cycle KV.Enc


theorem testBit_ofBitsLE (l : List Bool) (i : Nat) : (ofBitsLE l).testBit i = l.getD i false := by
  induction l generalizing i with
  | nil => simp [ofBitsLE]
  | cons b l ih =>
    cases i with
    | zero =>
      simp only [ofBitsLE, List.getD_cons_zero, Nat.testBit_zero]
      cases b <;> simp <;> omega
    | succ i =>
      simp only [ofBitsLE, List.getD_cons_succ, Nat.testBit_succ, ← ih]
      congr 1
      cases b <;> simp <;> omega

theorem getLsbD_ofBytes (nb : Nat) (bytes : List Nat) (p : Nat) :
    (ofBytes nb bytes).getLsbD p = (decide (p < 8 * nb) && (unpackBytes bytes).getD p false) := by
  simp only [ofBytes, BitVec.getLsbD_ofNat, testBit_ofBitsLE]

theorem getLsbD_ofBytes_byte (nb : Nat) (bytes : List Nat) (p : Nat) :
    (ofBytes nb bytes).getLsbD p = (decide (p < 8 * nb) && (bytes.getD (p / 8) 0 / 2 ^ (p % 8) % 2 == 1)) := by
  rw [getLsbD_ofBytes, getD_unpackBytes]

theorem unpack_toBytes (nb : Nat) (v : BitVec (8 * nb)) (p : Nat) :
    (unpackBytes (toBytes nb v)).getD p false = v.getLsbD p := by
  rw [toBytes, getD_unpack_pack]
  by_cases hp : p < 8 * nb
  · rw [getD_range_map _ _ _ _ hp]; simp [hp]
  · have : v.getLsbD p = false := BitVec.getLsbD_of_ge v p (Nat.not_lt.mp hp)
    simp [hp, this]

@[simp] theorem toBytes_length (nb : Nat) (v : BitVec (8 * nb)) : (toBytes nb v).length = nb := by simp [toBytes]

@[simp] theorem ofBytes_toBytes (nb : Nat) (v : BitVec (8 * nb)) : ofBytes nb (toBytes nb v) = v := by
  apply BitVec.eq_of_getLsbD_eq
  intro i hi
  rw [getLsbD_ofBytes, unpack_toBytes]
  simp [hi]

@[simp] theorem ofBytes_nil (nb : Nat) : ofBytes nb [] = 0 := by
  apply BitVec.eq_of_getLsbD_eq
  intro i _
  rw [getLsbD_ofBytes]
  simp [unpackBytes]


theorem plane_mvToBpRow (row : List Nat) (b p : Nat) (hb : b < 3) :
    (plane (cdiv row.length 8) (mvToBpRow (cdiv row.length 8) row) b).getLsbD p
      = (decide (p < row.length) && (row.getD p 0 / 2 ^ b % 2 == 1)) := by
  rw [plane, getLsbD_ofBytes, mvToBpRow_getD _ _ _ hb, getD_unpack_pack, colBit _ _ _ hb]
  have := cdiv8_ge row.length
  by_cases hp : p < row.length
  · have : p < 8 * cdiv row.length 8 := by omega
    simp [hp, this]
  · simp [hp]


theorem getD_bpToMvRow (nb : Nat) (planes : SRow) (p : Nat) (hp : p < 8 * nb) :
    (bpToMvRow nb planes).getD p 0 = ofBitsLE (((planes.map unpackBytes).map (·.getD p false)).take 8) := by
  simp only [bpToMvRow]
  rw [getD_range_map _ _ _ _ hp]

def b2n (b : Bool) : Nat := if b then 1 else 0

theorem bpToMvRow_lanes (nb : Nat) (x0 x1 x2 : List Nat) (p : Nat) (hp : p < 8 * nb) :
    (bpToMvRow nb [x0, x1, x2]).getD p 0 =
      b2n ((ofBytes nb x0).getLsbD p) + 2 * b2n ((ofBytes nb x1).getLsbD p) + 4 * b2n ((ofBytes nb x2).getLsbD p) := by
  rw [getD_bpToMvRow _ _ _ hp]
  simp only [getLsbD_ofBytes, hp, decide_true, Bool.true_and, List.map_cons, List.map_nil, List.take_succ_cons, List.take_nil,
    ofBitsLE, b2n]
  cases (unpackBytes x0).getD p false <;> cases (unpackBytes x1).getD p false <;> cases (unpackBytes x2).getD p false <;> rfl

theorem bpToMvRow_length (nb : Nat) (planes : SRow) : (bpToMvRow nb planes).length = 8 * nb := by simp [bpToMvRow]


/-- what a codec must satisfy for the byte-level steps to be the value-level steps of Model/Cycle.lean seen through `dec`.
    There is no `enc (dec r) = r`: the planes an arity does not read may hold anything, so `dec` is only a left inverse of `enc`
    and the theorems go from bytes to values, never back -/
structure Codec.Lawful {α} (C : Codec α) (merge : α → α → α) : Prop where
  dec_enc : ∀ v r, C.dec (C.enc v r) = v
  dec_merge : ∀ a b, C.dec (C.merge a b) = merge (C.dec a) (C.dec b)

theorem codec2_lawful (nb : Nat) : (codec2 nb).Lawful mergeCopy :=
  ⟨fun v r => by simp [codec2, plane], fun _ _ => rfl⟩

theorem codec4_lawful (nb : Nat) : (codec4 nb).Lawful mergeCopy :=
  ⟨fun v r => by simp [codec4, plane], fun _ _ => rfl⟩

/-- `s_ppo_to_ppi` for m = 8 on bit-parallel values: initial := previously assigned final, final := captured final, activity := their
    difference -/
def merge8W {w : Nat} (old new : P3 (BitVec w)) : P3 (BitVec w) := ⟨new.p0, old.p0, new.p0 ^^^ old.p0⟩
/-- … and on one lane: what `merge` of C01 `cycle_step` is instantiated with for m = 8 (the driver's `Drv.Cycle.merge8` has the same body) -/
def merge8L (old new : V3) : V3 := ⟨new.p0, old.p0, new.p0 ^^ old.p0⟩

theorem bit_xor (x y i : Nat) : ((x ^^^ y) / 2 ^ i % 2 == 1) = ((x / 2 ^ i % 2 == 1) ^^ (y / 2 ^ i % 2 == 1)) := by
  have h : ∀ n, (n / 2 ^ i % 2 == 1) = n.testBit i := by
    intro n; rw [Nat.testBit, Nat.shiftRight_eq_div_pow]; simp [Nat.one_and_eq_mod_two]
  rw [h, h, h, Nat.testBit_xor]

theorem ofBytes_xorBytes (nb : Nat) (x y : List Nat) : ofBytes nb (xorBytes nb x y) = ofBytes nb x ^^^ ofBytes nb y := by
  apply BitVec.eq_of_getLsbD_eq
  intro i hi
  rw [BitVec.getLsbD_xor, getLsbD_ofBytes_byte, getLsbD_ofBytes_byte, getLsbD_ofBytes_byte]
  have hj : i / 8 < nb := by omega
  simp only [hi, decide_true, Bool.true_and, xorBytes, getD_range_map _ _ _ _ hj, bit_xor]

theorem codec8_lawful (nb : Nat) : (codec8 nb).Lawful merge8W :=
  ⟨fun v r => by simp [codec8, plane], fun a b => by simp [codec8, plane, merge8W, ofBytes_xorBytes]⟩


theorem sToCB_eq {α} (C : Codec α) (T : Tabs) (s0 : List SRow) (env : Nat → α) :
    sToCB C T s0 env = sToC T (C.dec []) (s0.map C.dec) env := by
  unfold sToCB sToC
  congr 1
  funext e px
  rw [getD_map']

theorem cToSB_length {α} (C : Codec α) (T : Tabs) (env : Nat → α) (s1 : List SRow) : (cToSB C T env s1).length = s1.length :=
  foldl_set_length _ _ _ _

theorem cToSB_eq {α} (C : Codec α) (net : Net) (strip : Bool) (env : Nat → α) (s1 : List SRow) :
    cToSB C (tabsOf net strip) env s1 =
      s1.mapIdx fun q r => if isPoppo net q then C.enc (env (capSig net strip q)) r else r := by
  unfold cToSB
  rw [poppo_foldl_set net strip (fun q sig => C.enc (env sig) (s1.getD q []))]
  apply List.ext_getElem?
  intro i
  simp only [List.getElem?_mapIdx, List.getD_eq_getElem?_getD]
  cases s1[i]? <;> rfl

theorem foldl_set_map {ι β γ} (f : β → γ) (l : List ι) (pos : ι → Nat) (v : ι → β) (v' : ι → γ) (h : ∀ i, f (v i) = v' i)
    (x : List β) : (l.foldl (fun s i => s.set (pos i) (v i)) x).map f = l.foldl (fun s i => s.set (pos i) (v' i)) (x.map f) := by
  induction l generalizing x with
  | nil => rfl
  | cons i r ih => rw [List.foldl_cons, ih, List.map_set, h, List.foldl_cons]

theorem cToSB_dec {α} (C : Codec α) (merge : α → α → α) (hC : C.Lawful merge) (T : Tabs) (env : Nat → α) (s1 : List SRow) :
    (cToSB C T env s1).map C.dec = cToS T env (s1.map C.dec) :=
  foldl_set_map C.dec T.poppo _ _ _ (fun _ => hC.dec_enc _ _) s1

theorem ppoToPpiB_dec {α} (C : Codec α) (merge : α → α → α) (hC : C.Lawful merge) (T : Tabs) (s0 s1 : List SRow) :
    (ppoToPpiB C T s0 s1).map C.dec = ppoToPpi T merge (C.dec []) (s0.map C.dec) (s1.map C.dec) :=
  foldl_set_map C.dec T.ppio _ _ _ (fun p => by rw [hC.dec_merge, getD_map', getD_map']) s0

def decSt {α} (C : Codec α) (st : StB α) : St α := ⟨st.env, ⟨st.s0.map C.dec, st.s1.map C.dec⟩⟩

theorem cycle1B_dec {α} (C : Codec α) (merge : α → α → α) (hC : C.Lawful merge) (sem : Op → List α → α) (ops : List Op)
    (T : Tabs) (st : StB α) :
    decSt C (cycle1B C sem ops T st) = cycle1 sem ops T merge (C.dec []) (decSt C st) := by
  simp only [decSt, cycle1B, cycle1, cToSB_dec C merge hC, ppoToPpiB_dec C merge hC, sToCB_eq]

theorem cycleKB_dec {α} (C : Codec α) (merge : α → α → α) (hC : C.Lawful merge) (sem : Op → List α → α) (ops : List Op)
    (T : Tabs) (k : Nat) (st : StB α) :
    decSt C (cycleKB C sem ops T k st) = cycleK sem ops T merge (C.dec []) k (decSt C st) := by
  induction k generalizing st with
  | zero => rfl
  | succ k ih => simp only [cycleKB, cycleK, ih, cycle1B_dec C merge hC]


def toStB {α} (C : Codec α) (st : StBA α) : StB α := ⟨envOf (C.dec []) st.env, st.s0, st.s1⟩

theorem sToCBA_eq {α} (C : Codec α) (T : Tabs) (s0 : List SRow) (env : Array α) :
    sToCBA C T s0 env = sToCA T (C.dec []) (s0.map C.dec) env := by
  unfold sToCBA sToCA
  congr 1
  funext e px
  rw [getD_map']

theorem cycle1BA_eq {α} (C : Codec α) (sem : Op → List α → α) (ops : List Op) (T : Tabs) (st : StBA α)
    (hb : ∀ op ∈ ops, op.out < st.env.size) (hp : ∀ px ∈ T.pippi, px.2 < st.env.size) :
    toStB C (cycle1BA C sem ops T st) = cycle1B C sem ops T (toStB C st) ∧
    (cycle1BA C sem ops T st).env.size = st.env.size := by
  obtain ⟨he, hs⟩ := propA_eq sem ops T (C.dec []) (st.s0.map C.dec) st.env hb hp
  rw [← sToCBA_eq, ← sToCB_eq] at he
  rw [← sToCBA_eq] at hs
  refine ⟨?_, hs⟩
  have hc : ∀ (arr : Array α) (s1 : List SRow), cToSBA C T arr s1 = cToSB C T (envOf (C.dec []) arr) s1 := fun _ _ => rfl
  unfold toStB cycle1BA cycle1B
  simp only [hc, he]

/-- **the driver's array form = the model** -/
theorem cycleKBA_eq {α} (C : Codec α) (sem : Op → List α → α) (ops : List Op) (T : Tabs) (n : Nat)
    (hb : ∀ op ∈ ops, op.out < n) (hp : ∀ px ∈ T.pippi, px.2 < n) :
    ∀ (k : Nat) (st : StBA α), st.env.size = n →
      toStB C (cycleKBA C sem ops T k st) = cycleKB C sem ops T k (toStB C st) := by
  intro k st hn
  rw [eq_iter (cycleKBA C sem ops T) (cycle1BA C sem ops T) (fun _ => rfl) (fun _ _ => rfl),
    eq_iter (cycleKB C sem ops T) (cycle1B C sem ops T) (fun _ => rfl) (fun _ _ => rfl)]
  refine (iter_rel (R := fun a b => toStB C a = b ∧ a.env.size = n) (fun a b ⟨e, hs⟩ => ?_) k st _ ⟨rfl, hn⟩).1
  obtain ⟨h1, h2⟩ := cycle1BA_eq C sem ops T a (fun op ho => hs ▸ hb op ho) (fun px hpx => hs ▸ hp px hpx)
  exact ⟨e ▸ h1, h2.trans hs⟩

/-! ### lanes: what one lane of the byte-level run is

`LaneView` collects what the proofs need to know about an arity: `ln p` reads lane `p` of a memory value (`β` = the one-lane
value domain: `Bool`, `V2`, `V3`), `ofCode` is the value a pattern entry denotes, `code` the multi-valued code `bp_to_mv` shows
for a captured value, `keep` the weight with which the OLD plane 2 of the `s[1]` row shows through (4 for m = 2, 4, where
`c_to_s` does not write that plane; 0 for m = 8). -/

structure LaneView {α β : Type} (C : Codec α) (nb : Nat) (ln : Nat → α → β) (ofCode : Nat → β) (code : β → Nat) (keep : Nat) :
    Prop where
  dec_row : ∀ (row : List Nat) p, cdiv row.length 8 = nb → ln p (C.dec (mvToBpRow nb row)) = ofCode (if p < row.length then row.getD p 0 else 0)
  dec_nil : ∀ p, ln p (C.dec []) = ofCode 0
  enc_code : ∀ v r p, p < 8 * nb →
    (bpToMvRow nb (C.enc v r)).getD p 0 = code (ln p v) + keep * b2n ((plane nb r 2).getLsbD p)
  enc_len : ∀ v r, (C.enc v r).length = 3

theorem upd_map {α β} (f : α → β) (env : Nat → α) (k : Nat) (v : α) :
    (fun x => f (upd env k v x)) = upd (fun x => f (env x)) k (f v) := by
  funext x; unfold upd; split <;> rfl

theorem sToC_map {α β} (f : α → β) (T : Tabs) (d : α) (a : List α) (env : Nat → α) :
    (fun x => f (sToC T d a env x)) = sToC T (f d) (a.map f) (fun x => f (env x)) := by
  unfold sToC
  generalize T.pippi = l
  induction l generalizing env with
  | nil => rfl
  | cons px r ih =>
    simp only [List.foldl_cons]
    rw [ih, upd_map, getD_map']

theorem getD_mapIdx_lt {γ δ} (f : Nat → γ → δ) (l : List γ) (i : Nat) (d : δ) (dg : γ) (h : i < l.length) :
    (l.mapIdx f).getD i d = f i (l.getD i dg) := by
  simp [List.getD_eq_getElem?_getD, List.getElem?_mapIdx, List.getElem?_eq_getElem h]

/-- what the data path needs to know about one arity. Lane-wise-ness is ONE fact, at op level (`op_lane`, the form `exec_rel_on` and
    `cycleK_rel` take); `mergeW` / `mergeL` are `s_ppo_to_ppi` on memory values / on one lane -/
structure Arity (β : Type) where
  A : Nat → Type
  C : ∀ nb, Codec (A nb)
  ln : ∀ nb, Nat → A nb → β
  ofCode : Nat → β
  code : β → Nat
  keep : Nat
  semW : ∀ nb, Nat → List (A nb) → A nb
  semL : Nat → List β → β
  mergeW : ∀ nb, A nb → A nb → A nb
  mergeL : β → β → β
  view : ∀ nb, LaneView (C nb) nb (ln nb) ofCode code keep
  lawful : ∀ nb, (C nb).Lawful (mergeW nb)
  op_lane : ∀ nb p, p < 8 * nb → ∀ (code : Nat) (xs : List (A nb)) (ys : List β),
    All2 (fun v b => ln nb p v = b) xs ys → ln nb p (semW nb code xs) = semL code ys
  merge_lane : ∀ nb p a b, ln nb p (mergeW nb a b) = mergeL (ln nb p a) (ln nb p b)

theorem Arity.lanes {β} (R : Arity β) (nb p : Nat) (hp : p < 8 * nb) (ops : List Op) (env : Nat → R.A nb) (l : Nat) :
    R.ln nb p (exec (R.semW nb) ops env l) = exec R.semL ops (fun x => R.ln nb p (env x)) l :=
  exec_rel_on (fun v b => R.ln nb p v = b) (R.semW nb) R.semL ops (fun op _ => R.op_lane nb p hp op.code) env _ (fun _ => rfl) l

section lanes
variable {β : Type} (R : Arity β) (nb : Nat)

/-- any state (`s[0]`, `s[1]` left by earlier runs, memory contents), any lane, padding lanes included; the `keep` term is what `c_to_s`
    does not overwrite -/
theorem captureB_lane (ops : List Op) (net : Net) (strip : Bool) (env0 : Nat → R.A nb) (s0 s1 : List SRow) (q p : Nat)
    (hp : p < 8 * nb) (hq : q < s1.length) (hcap : isPoppo net q = true) :
    (bpToMvRow nb ((captureB (R.C nb) (fun op => R.semW nb op.code) ops (tabsOf net strip) env0 s0 s1).getD q [])).getD p 0 =
      R.code (exec R.semL ops (sToC (tabsOf net strip) (R.ofCode 0) (s0.map fun r => R.ln nb p ((R.C nb).dec r))
        (fun x => R.ln nb p (env0 x))) (capSig net strip q)) + R.keep * b2n ((plane nb (s1.getD q []) 2).getLsbD p) := by
  unfold captureB
  rw [cToSB_eq, getD_mapIdx_lt _ _ _ _ [] hq]
  simp only [hcap, if_true]
  rw [(R.view nb).enc_code _ _ _ hp, ← exec_eq_execG, R.lanes nb p hp, sToCB_eq, sToC_map (R.ln nb p), (R.view nb).dec_nil, List.map_map]
  rfl

end lanes

section
variable {α : Type} (C : Codec α) (semW : Nat → List α → α)

theorem captureB_skip (ops : List Op) (net : Net) (strip : Bool) (env0 : Nat → α) (s0 s1 : List SRow) (q : Nat)
    (hcap : isPoppo net q = false) :
    (captureB C (fun op => semW op.code) ops (tabsOf net strip) env0 s0 s1).getD q [] = s1.getD q [] := by
  unfold captureB
  rw [cToSB_eq, List.getD_eq_getElem?_getD, List.getElem?_mapIdx]
  cases h : s1[q]? <;> simp [hcap, List.getD_eq_getElem?_getD, h]

theorem captureB_len3 (hlen : ∀ v r, (C.enc v r).length = 3) (ops : List Op) (net : Net) (strip : Bool) (env0 : Nat → α)
    (s0 s1 : List SRow) (h3 : ∀ r ∈ s1, r.length = 3) :
    ∀ r ∈ captureB C (fun op => semW op.code) ops (tabsOf net strip) env0 s0 s1, r.length = 3 := by
  unfold captureB
  rw [cToSB_eq]
  intro r hr
  rw [List.mem_mapIdx] at hr
  obtain ⟨i, hi, rfl⟩ := hr
  split
  · exact hlen _ _
  · exact h3 _ (List.getElem_mem hi)

end


theorem bits255 : ∀ i, i < 8 → (255 / 2 ^ i % 2 == 1) = true := by decide

theorem getLsbD_ofBytes_replicate (nb x p : Nat) :
    (ofBytes nb (List.replicate nb x)).getLsbD p = (decide (p < 8 * nb) && (x / 2 ^ (p % 8) % 2 == 1)) := by
  rw [getLsbD_ofBytes_byte]
  by_cases hp : p < 8 * nb
  · have : p / 8 < nb := by omega
    simp [hp, List.getD_eq_getElem?_getD, this]
  · simp [hp]

/-- a fresh row shows UNASSIGNED (code 2) in every lane -/
theorem bpToMvRow_fresh (nb p : Nat) (hp : p < 8 * nb) : (bpToMvRow nb (freshRow nb)).getD p 0 = 2 := by
  unfold freshRow
  rw [bpToMvRow_lanes _ _ _ _ _ hp]
  simp only [getLsbD_ofBytes_replicate, hp, decide_true, Bool.true_and, bits255 (p % 8) (by omega)]
  simp [b2n]

theorem plane2_fresh (nb p : Nat) : (plane nb (freshRow nb) 2).getLsbD p = false := by
  simp [plane, freshRow, getLsbD_ofBytes_replicate]

/-- **lanes through the clock loop on bytes, any arity**: the planes the arity reads of `s[0]`, `s[1]` after `cycle(k)` on bytes show in
    lane `p` (padding lanes too) the ONE-LANE `Cycle.cycleK` started on that lane: the byte loop is the value loop through `dec`
    (`cycleKB_dec`), and the value loop preserves every relation the ops and `merge` preserve (`cycleK_rel`) -/
theorem cycle_patterns {β} (R : Arity β) (nb : Nat) (ops : List Op) (T : Tabs) (k : Nat) (st : StB (R.A nb)) (p : Nat)
    (hp : p < 8 * nb) :
    let r := cycleKB (R.C nb) (fun op => R.semW nb op.code) ops T k st
    let rb := cycleK (fun op => R.semL op.code) ops T R.mergeL (R.ofCode 0) k
      ⟨fun x => R.ln nb p (st.env x),
        ⟨st.s0.map fun row => R.ln nb p ((R.C nb).dec row), st.s1.map fun row => R.ln nb p ((R.C nb).dec row)⟩⟩
    (r.s0.map fun row => R.ln nb p ((R.C nb).dec row)) = rb.s.s0 ∧ (r.s1.map fun row => R.ln nb p ((R.C nb).dec row)) = rb.s.s1 := by
  intro r rb
  have hd := cycleKB_dec (R.C nb) (R.mergeW nb) (R.lawful nb) (fun op => R.semW nb op.code) ops T k st
  have h := cycleK_rel (fun v b => R.ln nb p v = b) (fun op => R.semW nb op.code) (fun op => R.semL op.code) ops
    (fun op _ => R.op_lane nb p hp op.code) T (R.mergeW nb) R.mergeL (fun a b a' b' h h' => by rw [R.merge_lane, h, h'])
    ((R.C nb).dec []) (R.ofCode 0) ((R.view nb).dec_nil p) k (decSt (R.C nb) st)
    ⟨fun x => R.ln nb p (st.env x),
      ⟨st.s0.map fun row => R.ln nb p ((R.C nb).dec row), st.s1.map fun row => R.ln nb p ((R.C nb).dec row)⟩⟩
    ⟨fun _ => rfl, by
      show All2 _ (st.s0.map (R.C nb).dec) _
      have := All2.of_map (R.ln nb p) (st.s0.map (R.C nb).dec)
      simpa [List.map_map, Function.comp_def] using this, by
      show All2 _ (st.s1.map (R.C nb).dec) _
      have := All2.of_map (R.ln nb p) (st.s1.map (R.C nb).dec)
      simpa [List.map_map, Function.comp_def] using this⟩
  rw [← hd] at h
  have e0 := h.s0.map_eq
  have e1 := h.s1.map_eq
  simp only [decSt, List.map_map, Function.comp_def] at e0 e1
  exact ⟨e0, e1⟩

end KV.DP
