import KyupyVerif.Proofs.MapSound
import KyupyVerif.Proofs.WaveCircuit
import KyupyVerif.Proofs.WaveAffine
/-! How a waveform lives in the signal memory of `WaveSim` (wave_sim.py: `cbuf[z_mem + k, sim]`, one lane).

The region of a signal is `[loc, loc + cap)`. A waveform is stored as its entries (`TMIN` or finite times) followed by
one terminator (`TMAX` or `TMAX_OVL`); whatever lies behind the terminator inside the region is stale. Reading
(`_wave_eval` for its operands, `wave_capture_cpu`, the harness' `read_wave`) scans the region up to the first cell
`≥ TMAX`; writing stores entries and terminator and may leave ANY values in the remaining cells of the region (the real
evaluator pushes and pops entries while it runs, so cells behind the final terminator hold left-overs of the run).

The code-path model (Model/WaveIO.lean: `rdCells`, `readWave`, `writeCells`, `WaveIO.wrWave`) spells the same region discipline
with the code's own loops; Proofs/WaveIOOrder.lean shows the two agree (`readWave_rdCells_eq`, `wrWave_eq`). The evaluator instance
`evWave` and the read-back law `read_wrWave` take their region facts from here through these two equations; what the code-path theorems
of C06 need about single reads and stores (`readWave_prefix`, `rdCells_writeCells`) is proved on the model's own definitions in
Proofs/WaveIOAssign.lean.

`waveRW junk` is that discipline as an instance of `MapSound.RW` for every choice `junk` of the left-over cells;
`waveRW_fit`: a waveform with at most `cap - 1` entries, none of them a terminator, and a genuine terminator reads back
exactly. -/
namespace KV.Wave
open KV

def cells (l : Int) (c : Nat) (m : Int → T) : List T := (List.range c).map fun (i : Nat) => m (l + (i : Int))

def scan : List T → Wv
  | [] => ⟨[], T.tmax⟩
  | x :: r => if x.isTerm then ⟨[], x⟩ else ⟨x :: (scan r).ents, (scan r).term⟩

def rdWave (l : Int) (c : Nat) (m : Int → T) : Wv := scan (cells l c m)

/-- write a waveform into region `[l, l + c)`: entries, terminator, and `junk a` in every later cell `a` of the region;
    nothing outside the region changes (an entry or terminator that would fall outside the region is not written) -/
def wrWave (junk : Int → T) (l : Int) (c : Nat) (w : Wv) (m : Int → T) : Int → T := fun a =>
  if l ≤ a ∧ a < l + (c : Int) then
    if (a - l).toNat < w.ents.length then w.ents.getD (a - l).toNat T.tmax
    else if (a - l).toNat = w.ents.length then w.term
    else junk a
  else m a

def Fits (c : Nat) (w : Wv) : Prop :=
  w.ents.length < c ∧ (∀ e ∈ w.ents, e.isTerm = false) ∧ w.term.isTerm = true

theorem cells_length (l : Int) (c : Nat) (m : Int → T) : (cells l c m).length = c := by simp [cells]

theorem cells_getElem? (l : Int) (c : Nat) (m : Int → T) (i : Nat) (h : i < c) :
    (cells l c m)[i]? = some (m (l + (i : Int))) := by
  simp [cells, h]

theorem cells_congr (l : Int) (c : Nat) (m m' : Int → T)
    (h : ∀ a, l ≤ a → a < l + (c : Int) → m a = m' a) : cells l c m = cells l c m' := by
  unfold cells
  apply List.map_congr_left
  intro i hi
  have := List.mem_range.mp hi
  exact h _ (by omega) (by omega)

theorem scan_append (es : List T) (t : T) (rest : List T) (he : ∀ e ∈ es, e.isTerm = false) (ht : t.isTerm = true) :
    scan (es ++ t :: rest) = ⟨es, t⟩ := by
  induction es with
  | nil => simp [scan, ht]
  | cons e es ih =>
    have h1 : e.isTerm = false := he e List.mem_cons_self
    have := ih (fun x hx => he x (List.mem_cons_of_mem _ hx))
    simp [scan, h1, this]

theorem scan_ents (cs : List T) : ∀ e ∈ (scan cs).ents, e.isTerm = false := by
  induction cs with
  | nil => intro e he; simp [scan] at he
  | cons x r ih =>
    intro e he
    unfold scan at he
    split at he
    · simp at he
    · rename_i hx
      rcases List.mem_cons.mp he with rfl | h
      · simpa using hx
      · exact ih e h

theorem scan_term (cs : List T) : (scan cs).term.isTerm = true := by
  induction cs with
  | nil => rfl
  | cons x r ih =>
    unfold scan
    split
    · assumption
    · exact ih

theorem scan_len (cs : List T) : (scan cs).ents.length ≤ cs.length := by
  induction cs with
  | nil => simp [scan]
  | cons x r ih =>
    unfold scan
    split
    · simp
    · simp only [List.length_cons]; omega

theorem rdWave_len (l : Int) (c : Nat) (m : Int → T) : (rdWave l c m).ents.length ≤ c := by
  have := scan_len (cells l c m)
  rw [cells_length] at this
  exact this

theorem rdWave_dep (l : Int) (c : Nat) (m m' : Int → T)
    (h : ∀ a, l ≤ a → a < l + (c : Int) → m a = m' a) : rdWave l c m = rdWave l c m' := by
  unfold rdWave; rw [cells_congr l c m m' h]

theorem wrWave_frame (junk : Int → T) (l : Int) (c : Nat) (w : Wv) (m : Int → T) (a : Int)
    (h : ¬ (l ≤ a ∧ a < l + (c : Int))) : wrWave junk l c w m a = m a := by
  simp [wrWave, h]

theorem wrWave_cells (junk : Int → T) (l : Int) (c : Nat) (w : Wv) (m : Int → T) (h : w.ents.length < c) :
    (cells l c (wrWave junk l c w m)).take (w.ents.length + 1) = w.ents ++ [w.term] := by
  apply List.ext_getElem?
  intro i
  by_cases hi : i < w.ents.length + 1
  · rw [List.getElem?_take_of_lt hi, cells_getElem? _ _ _ _ (by omega)]
    have hreg : l ≤ l + (i : Int) ∧ l + (i : Int) < l + (c : Int) := by omega
    have hoff : (l + (i : Int) - l).toNat = i := by omega
    simp only [wrWave, hreg, and_self, if_true, hoff]
    by_cases hi2 : i < w.ents.length
    · simp only [hi2, if_true]
      rw [List.getElem?_append_left hi2, List.getD_eq_getElem?_getD, List.getElem?_eq_getElem hi2]
      rfl
    · have : i = w.ents.length := by omega
      subst this
      simp
  · rw [List.getElem?_eq_none (by simp [cells_length]; omega), List.getElem?_eq_none (by simp; omega)]

theorem rd_wr_fit (junk : Int → T) (l : Int) (c : Nat) (w : Wv) (m : Int → T) (hf : Fits c w) :
    rdWave l c (wrWave junk l c w m) = w := by
  obtain ⟨hlen, hent, hterm⟩ := hf
  unfold rdWave
  have := wrWave_cells junk l c w m hlen
  rw [← List.take_append_drop (w.ents.length + 1) (cells l c (wrWave junk l c w m)), this,
    List.append_assoc, List.singleton_append]
  exact scan_append _ _ _ hent hterm

/-- the storage discipline of `WaveSim` as a `MapSound.RW`, for every way `junk` (a function of the region, the value
    written and the memory before) of filling the cells behind the terminator -/
def waveRW (junk : Int → Nat → Wv → (Int → T) → Int → T) : MapSound.RW Wv T where
  rd := rdWave
  wr l c w m := wrWave (junk l c w m) l c w m
  wr_frame l c w m a h := wrWave_frame _ l c w m a h
  rd_dep := rdWave_dep

def keepJunk : Int → Nat → Wv → (Int → T) → Int → T := fun _ _ _ m a => m a

theorem waveRW_fit (junk : Int → Nat → Wv → (Int → T) → Int → T) (l : Int) (c : Nat) (w : Wv) (m : Int → T)
    (hf : Fits c w) : (waveRW junk).rd l c ((waveRW junk).wr l c w m) = w :=
  rd_wr_fit _ l c w m hf

theorem fits_of_ok {c : Nat} {w : Wv} (hok : w.ok) (hlen : w.ents.length < c) : Fits c w :=
  ⟨hlen, fun e he => not_term_of_wf (hok.1.2 e he), hok.2⟩

/-- **the evaluator's result fits the region of its output**: at most `cap - 1` entries (the push branch of `_wave_eval`
    requires `z_cur < z_cap - 1`), none of them a terminator, followed by `TMAX`/`TMAX_OVL` -/
theorem OpOK.fits {cfg : WCfg} {op : Sig.Op} {xs : List Wv} (h : OpOK cfg op xs) : Fits (cfg.cap op.out) (waveSem cfg op xs) :=
  fits_of_ok (waveSem_ok h) (waveSem_len cfg op xs (by have := h.cap; omega))

theorem waveSem_fits (cfg : WCfg) (op : Sig.Op) (xs : List Wv) (hd : ∀ l p q, 0 ≤ cfg.delay l p q)
    (hc : 4 ≤ cfg.cap op.out) (hx : ∀ x ∈ xs, x.ok) : Fits (cfg.cap op.out) (waveSem cfg op xs) :=
  OpOK.fits ⟨hd, hc, slot_ok hx⟩

/-! ### the stimulus as `s_to_c` stores it (wave_sim.py:108-117): three cells per input slot -/

def stimCells (i : Bool) (t : Int) (f : Bool) : List T :=
  match i, f with
  | false, false => [T.tmax, T.tmax, T.tmax]
  | false, true => [T.fin t, T.tmax, T.tmax]
  | true, false => [T.tmin, T.fin t, T.tmax]
  | true, true => [T.tmin, T.tmax, T.tmax]

theorem scan_stim (i f : Bool) (t : Int) (rest : List T) : scan (stimCells i t f ++ rest) = stimWave i t f := by
  cases i <;> cases f <;> simp [stimCells, stimWave, scan, T.isTerm]

theorem rdWave_stim (l : Int) (c : Nat) (m : Int → T) (i f : Bool) (t : Int)
    (h : (cells l c m).take 3 = stimCells i t f) : rdWave l c m = stimWave i t f := by
  unfold rdWave
  rw [← List.take_append_drop 3 (cells l c m), h]
  exact scan_stim i f t _

theorem stimWave_ok (i f : Bool) (t : Int) : (stimWave i t f).ok := by
  cases i <;> cases f <;> simp [stimWave, Wv.ok, WfRem, T.isFin, T.isTerm]

theorem rdWave_tmax_head (l : Int) (c : Nat) (m : Int → T) (h : (cells l c m).head? = some T.tmax) :
    rdWave l c m = Wv.empty := by
  unfold rdWave
  cases hc : cells l c m with
  | nil => rw [hc] at h; cases h
  | cons x r =>
    rw [hc] at h
    simp only [List.head?_cons, Option.some.injEq] at h
    subst h
    rfl

/-- freshly initialised memory (`self.c = zeros + TMAX`) reads as the empty waveform everywhere -/
theorem rdWave_fresh (l : Int) (c : Nat) : rdWave l c (fun _ => T.tmax) = Wv.empty := by
  unfold rdWave cells
  cases c with
  | zero => rfl
  | succ n => simp [List.range_succ_eq_map, scan, T.isTerm, Wv.empty]

theorem T.aff_isTerm (k s : Int) (a : T) : (a.aff k s).isTerm = a.isTerm := by cases a <;> rfl
theorem T.aff_isFin (k s : Int) (a : T) : (a.aff k s).isFin = a.isFin := by cases a <;> rfl

theorem scan_aff (k s : Int) (cs : List T) : scan (cs.map (T.aff k s)) = (scan cs).aff k s := by
  induction cs with
  | nil => rfl
  | cons x r ih =>
    simp only [List.map_cons, scan, T.aff_isTerm]
    split
    · rename_i h
      cases x <;> simp_all [Wv.aff, T.aff, T.isTerm]
    · rw [ih]; rfl

theorem rdWave_aff (k s : Int) (l : Int) (c : Nat) (m : Int → T) :
    rdWave l c (fun a => (m a).aff k s) = (rdWave l c m).aff k s := by
  unfold rdWave
  rw [← scan_aff]
  congr 1
  simp [cells]

theorem Wv.aff_ok (k s : Int) {w : Wv} (h : w.ok) : (w.aff k s).ok := by
  obtain ⟨⟨h1, h2⟩, h3⟩ := h
  refine ⟨⟨?_, ?_⟩, ?_⟩
  · intro e he
    simp only [Wv.aff, ← List.map_tail, List.mem_map] at he
    obtain ⟨x, hx, rfl⟩ := he
    rw [T.aff_isFin]; exact h1 x hx
  · intro e he
    simp only [Wv.aff, List.mem_map] at he
    obtain ⟨x, hx, rfl⟩ := he
    rcases h2 x hx with rfl | hf
    · exact Or.inl rfl
    · exact Or.inr (by rw [T.aff_isFin]; exact hf)
  · show (w.term.aff k s).isTerm = true
    rw [T.aff_isTerm]; exact h3

end KV.Wave
