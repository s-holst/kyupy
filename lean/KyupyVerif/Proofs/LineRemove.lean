import KyupyVerif.Proofs.SubstWrites
/-! C10: `Line.remove()` of circuit.py (model `removeLine b`; `b = false` leaves the reader's pin alone) described through the accessors
`Net.node` / `Net.line`.  `RLSpec` says what the circuit looks like afterwards; `removeLineB_spec` proves it from one assumption, that
the output list of the line's driver and the lines naming it as their driver agree (`DrvAt`).  The removal is cut at `removeLine_eq`
into the detach step (pin cleared; at a fork the list squeezed and its lines renumbered) and `del lines[l]`, which only renames the
last line to `l` (`DrvAt.delLine`).  Also `ll.reader = …` / `ll.driver = …` (`setReader`, `setDriver`) through accessors, and `LS`, the
pin-list lengths that `Line.remove()` keeps. -/
namespace KV.Transform
open KV

def PinNodup (l : List (Option Nat)) : Prop := ∀ k1 k2 x, l.getD k1 none = some x → l.getD k2 none = some x → k1 = k2

theorem pinNodup_tail {o : Option Nat} {l : List (Option Nat)} (h : PinNodup (o :: l)) : PinNodup l := by
  intro k1 k2 x h1 h2
  have := h (k1 + 1) (k2 + 1) x (by simpa using h1) (by simpa using h2)
  omega

theorem lineA_modify_dpin (ls : Array LineD) (x0 y c : Nat) :
    lineA (ls.modify x0 fun ln => { ln with dpin := c }) y =
      if y = x0 ∧ x0 < ls.size then { lineA ls y with dpin := c } else lineA ls y :=
  getD_modify ls x0 y _ default

theorem renumberDpins_fields : ∀ (outs : List (Option Nat)) (ls : Array LineD) (k0 y : Nat),
    (lineA (renumberDpins ls outs k0) y).driver = (lineA ls y).driver ∧
    (lineA (renumberDpins ls outs k0) y).reader = (lineA ls y).reader ∧
    (lineA (renumberDpins ls outs k0) y).rpin = (lineA ls y).rpin
  | [], _, _, _ => ⟨rfl, rfl, rfl⟩
  | none :: rest, ls, k0, y => by simp only [renumberDpins]; exact renumberDpins_fields rest ls _ y
  | some x :: rest, ls, k0, y => by
    simp only [renumberDpins]
    have ih := renumberDpins_fields rest (ls.modify x fun ln => { ln with dpin := k0 }) (k0 + 1) y
    rw [lineA_modify_dpin] at ih
    split at ih <;> exact ih

theorem renumberDpins_other : ∀ (outs : List (Option Nat)) (ls : Array LineD) (k0 y : Nat),
    (∀ k, outs.getD k none ≠ some y) → lineA (renumberDpins ls outs k0) y = lineA ls y
  | [], _, _, _, _ => rfl
  | none :: rest, ls, k0, y, h => by
    simp only [renumberDpins]
    exact renumberDpins_other rest ls _ y (fun k => by simpa using h (k + 1))
  | some x :: rest, ls, k0, y, h => by
    simp only [renumberDpins]
    rw [renumberDpins_other rest _ _ y (fun k => by simpa using h (k + 1)), lineA_modify_dpin]
    have : ¬ y = x := fun e => h 0 (by simp [e])
    simp [this]

theorem renumberDpins_at : ∀ (outs : List (Option Nat)) (ls : Array LineD) (k0 k y : Nat), PinNodup outs →
    outs.getD k none = some y → y < ls.size → (lineA (renumberDpins ls outs k0) y).dpin = k0 + k
  | [], _, _, k, y, _, h, _ => by simp at h
  | none :: rest, ls, k0, k, y, hn, h, hy => by
    simp only [renumberDpins]
    cases k with
    | zero => simp at h
    | succ k =>
      have := renumberDpins_at rest ls (k0 + 1) k y (pinNodup_tail hn) (by simpa using h) hy
      omega
  | some x :: rest, ls, k0, k, y, hn, h, hy => by
    simp only [renumberDpins]
    cases k with
    | zero =>
      have e : x = y := by simpa using h
      subst e
      rw [renumberDpins_other rest _ _ x (fun k hk => by
        have := hn 0 (k + 1) x (by simp) (by simpa using hk); omega), lineA_modify_dpin]
      simp [hy]
    | succ k =>
      have := renumberDpins_at rest (ls.modify x fun ln => { ln with dpin := k0 }) (k0 + 1) k y (pinNodup_tail hn)
        (by simpa using h) (by simpa using hy)
      omega

/-- the two outcomes of `detachDriver` (the disjunction of `detachDriver_spec`, named for `removeLine_eq`): `O` = the new `outs` of the
    driver, `lines1` = the line table; the pin is cleared, or at a fork deleted (no entry `None` is left: `None.driver_pin` raises)
    and the lines renumbered along `O` -/
def DetachCase (net : Net) (l : Nat) (O : List (Option Nat)) (lines1 : Array LineD) : Prop :=
  ((net.node (net.line l).driver).isFork = true ∧
    O = (growSet (net.node (net.line l).driver).outs (net.line l).dpin none).eraseIdx (net.line l).dpin ∧
    O.any (·.isNone) = false ∧ lines1 = renumberDpins net.lines O 0) ∨
  ((net.node (net.line l).driver).isFork = false ∧
    O = growSet (net.node (net.line l).driver).outs (net.line l).dpin none ∧ lines1 = net.lines)

theorem detachDriver_spec (net net1 : Net) (l : Nat) (he : detachDriver net l = some net1) :
    ∃ O, net1.io = net.io ∧ net1.nodes = net.nodes.modify (net.line l).driver (fun n => { n with outs := O }) ∧
    (((net.node (net.line l).driver).isFork = true ∧
      O = (growSet (net.node (net.line l).driver).outs (net.line l).dpin none).eraseIdx (net.line l).dpin ∧
      O.any (·.isNone) = false ∧ net1.lines = renumberDpins net.lines O 0) ∨
    ((net.node (net.line l).driver).isFork = false ∧
      O = growSet (net.node (net.line l).driver).outs (net.line l).dpin none ∧ net1.lines = net.lines)) := by
  unfold detachDriver at he
  dsimp only at he
  split at he
  · rename_i hf
    split at he
    · exact absurd he (by simp)
    · rename_i hany
      cases he
      exact ⟨_, rfl, rfl, Or.inl ⟨hf, rfl, Bool.eq_false_iff.mpr hany, rfl⟩⟩
  · rename_i hf
    cases he
    exact ⟨_, rfl, rfl, Or.inr ⟨by simpa using hf, rfl, rfl⟩⟩

theorem getD_eraseIdx (l : List (Option Nat)) (i k : Nat) :
    (l.eraseIdx i).getD k none = l.getD (if k < i then k else k + 1) none := by
  simp only [List.getD_eq_getElem?_getD, List.getElem?_eraseIdx]
  split <;> rfl

theorem getD_eraseIdx_of_ne {l : List (Option Nat)} {i q y : Nat} (h : l.getD q none = some y) (hne : q ≠ i) :
    ∃ k, (l.eraseIdx i).getD k none = some y := by
  by_cases hq : q < i
  · exact ⟨q, by rw [getD_eraseIdx, if_pos hq]; exact h⟩
  · have h1 : ¬ q - 1 < i := by omega
    have h2 : q - 1 + 1 = q := by omega
    exact ⟨q - 1, by rw [getD_eraseIdx, if_neg h1, h2]; exact h⟩

theorem pinNodup_eraseIdx {l : List (Option Nat)} (h : PinNodup l) (i : Nat) : PinNodup (l.eraseIdx i) := by
  intro k1 k2 x a1 a2
  rw [getD_eraseIdx] at a1 a2
  have := h _ _ x a1 a2
  split at this <;> split at this <;> omega

theorem getD_growSet_none {l : List (Option Nat)} {i k y : Nat} (h : (growSet l i none).getD k none = some y) :
    k ≠ i ∧ l.getD k none = some y := by
  rw [getD_growSet] at h
  split at h
  · exact absurd h (by simp)
  · rename_i hne; exact ⟨hne, h⟩

theorem pinNodup_growSet_none {l : List (Option Nat)} (h : PinNodup l) (i : Nat) : PinNodup (growSet l i none) :=
  fun _ _ x a1 a2 => h _ _ x (getD_growSet_none a1).2 (getD_growSet_none a2).2

theorem nodeA_eq_node (net : Net) (x : Nat) : nodeA net.nodes x = net.node x := rfl
theorem lineA_eq_line (net : Net) (x : Nat) : lineA net.lines x = net.line x := rfl


theorem delLine_node (net : Net) (l x : Nat) : (delLine net l).node x =
    { net.node x with ins := (net.node x).ins.map (fun o => if o == some (net.lines.size - 1) then some l else o),
                      outs := (net.node x).outs.map (fun o => if o == some (net.lines.size - 1) then some l else o) } := by
  simp only [delLine, Net.node, Array.getD_eq_getD_getElem?, Array.getElem?_map]
  cases h : net.nodes[x]? with
  | none => simp; rfl
  | some n => simp

theorem delLine_sizes (net : Net) (l : Nat) : (delLine net l).nodes.size = net.nodes.size ∧
    (delLine net l).lines.size = net.lines.size - 1 ∧ (delLine net l).io = net.io := by
  simp [delLine]

theorem delLine_line (net : Net) (l l' : Nat) (hl : l < net.lines.size) (hl' : l' < net.lines.size - 1) :
    (delLine net l).line l' = net.line (nmN net.lines.size l l') :=
  getD_swapPop net.lines default l l' hl hl'

theorem node_of_nodes_modify {net net1 : Net} {k : Nat} {f : NodeD → NodeD} (hn : net1.nodes = net.nodes.modify k f) (x : Nat) :
    net1.node x = if x = k ∧ k < net.nodes.size then f (net.node x) else net.node x := by
  show net1.nodes.getD x default = _
  rw [hn]; exact getD_modify ..

theorem node_modify (net : Net) (k : Nat) (f : NodeD → NodeD) (x : Nat) :
    ({ net with nodes := net.nodes.modify k f } : Net).node x = if x = k ∧ k < net.nodes.size then f (net.node x) else net.node x :=
  node_of_nodes_modify rfl x

theorem mvL_none' (last b : Nat) : mvL last b none = none := rfl

/-- `Line.remove()` cut before its last statement: the result is `del lines[l]` of a circuit `net2` in which the driver's output
    list is `O` (`DetachCase`) and the reader's pin is cleared when `b` -/
theorem removeLine_eq (b : Bool) (net net' : Net) (l : Nat) (he : removeLine b net l = some net') :
    ∃ (O : List (Option Nat)) (net2 : Net), net' = delLine net2 l ∧ net2.io = net.io ∧ net2.lines.size = net.lines.size ∧
      net2.nodes.size = net.nodes.size ∧
      (∀ y, net2.node y =
        { kind := (net.node y).kind,
          ins := if b = true ∧ y = (net.line l).reader ∧ (net.line l).reader < net.nodes.size
            then growSet (net.node y).ins (net.line l).rpin none else (net.node y).ins,
          outs := if y = (net.line l).driver ∧ (net.line l).driver < net.nodes.size then O else (net.node y).outs }) ∧
      (∀ y, (net2.line y).driver = (net.line y).driver ∧ (net2.line y).reader = (net.line y).reader ∧
        (net2.line y).rpin = (net.line y).rpin) ∧ DetachCase net l O net2.lines := by
  simp only [removeLine, Option.map_eq_some_iff] at he
  obtain ⟨net1, h1, e⟩ := he
  obtain ⟨O, hio1, hnodes1, hcase⟩ := detachDriver_spec net net1 l h1
  have hsz1 : net1.lines.size = net.lines.size := by
    rcases hcase with ⟨_, _, _, hl1⟩ | ⟨_, _, hl1⟩
    · rw [hl1, renumberDpins_size]
    · rw [hl1]
  have hf1 : ∀ y, (net1.line y).driver = (net.line y).driver ∧ (net1.line y).reader = (net.line y).reader ∧
      (net1.line y).rpin = (net.line y).rpin := by
    intro y
    rcases hcase with ⟨_, _, _, hl1⟩ | ⟨_, _, hl1⟩
    · have := renumberDpins_fields O net.lines 0 y
      have e0 : net1.line y = lineA (renumberDpins net.lines O 0) y := by
        show lineA net1.lines y = _; rw [hl1]
      rw [e0]; exact this
    · have e0 : net1.line y = net.line y := by
        show lineA net1.lines y = lineA net.lines y; rw [hl1]
      rw [e0]; exact ⟨rfl, rfl, rfl⟩
  have hn1 := node_of_nodes_modify hnodes1
  have hs1 : net1.nodes.size = net.nodes.size := by rw [hnodes1]; simp
  cases b with
  | false =>
    refine ⟨O, net1, by rw [← e]; simp, hio1, hsz1, hs1, fun y => ?_, hf1, hcase⟩
    rw [hn1]
    by_cases c2 : y = (net.line l).driver ∧ (net.line l).driver < net.nodes.size
    · simp only [if_pos c2, Bool.false_eq_true, false_and, if_false]
    · simp only [if_neg c2, Bool.false_eq_true, false_and, if_false]
  | true =>
    refine ⟨O, { net1 with nodes := net1.nodes.modify (net1.line l).reader fun n =>
        { n with ins := growSet n.ins (net1.line l).rpin none } }, by rw [← e]; simp, hio1, hsz1, by simp [hs1], fun y => ?_,
      hf1, hcase⟩
    rw [node_modify net1, (hf1 l).2.1, (hf1 l).2.2, hs1, hn1]
    simp only [true_and]
    by_cases c1 : y = (net.line l).reader ∧ (net.line l).reader < net.nodes.size <;>
      by_cases c2 : y = (net.line l).driver ∧ (net.line l).driver < net.nodes.size
    · simp only [if_pos c1, if_pos c2]
    · simp only [if_pos c1, if_neg c2]
    · simp only [if_neg c1, if_pos c2]
    · simp only [if_neg c1, if_neg c2]

theorem removeLine_lsize (b : Bool) (net net' : Net) (l : Nat) (he : removeLine b net l = some net') :
    net'.lines.size = net.lines.size - 1 := by
  obtain ⟨_, net2, rfl, _, hl2, _⟩ := removeLine_eq b net net' l he
  rw [(delLine_sizes net2 l).2.1, hl2]

theorem removeLine_nsize (b : Bool) (net net' : Net) (l : Nat) (he : removeLine b net l = some net') :
    net'.nodes.size = net.nodes.size := by
  obtain ⟨_, net2, rfl, _, _, hn2, _⟩ := removeLine_eq b net net' l he
  rw [(delLine_sizes net2 l).1, hn2]

/-- the output list of node `d` and the lines that record `d` as their driver agree; `Ex` = lines whose driver side is
    stale (the lines at the output pins of the instance before they are connected to the copied implementation) -/
structure DrvAt (net : Net) (Ex : Nat → Prop) (d : Nat) : Prop where
  lt : d < net.nodes.size
  fwd : ∀ p y, (net.node d).outs.getD p none = some y →
    y < net.lines.size ∧ (net.line y).driver = d ∧ (net.line y).dpin = p ∧ ¬ Ex y
  back : ∀ y, y < net.lines.size → ¬ Ex y → (net.line y).driver = d → (net.node d).outs.getD (net.line y).dpin none = some y

theorem DrvAt.outs_nodup {net : Net} {Ex : Nat → Prop} {d : Nat} (w : DrvAt net Ex d) : PinNodup (net.node d).outs := by
  intro k1 k2 x h1 h2
  rw [← (w.fwd k1 x h1).2.2.1, ← (w.fwd k2 x h2).2.2.1]

theorem WFm.drvAt {nn : NNet} (w : WFm nn) {d : Nat} (hd : d < nn.net.nodes.size) : DrvAt nn.net (fun _ => False) d :=
  ⟨hd, fun p y hp => ⟨(w.fwdOut d hd p y hp).1, (w.fwdOut d hd p y hp).2.1, (w.fwdOut d hd p y hp).2.2, fun x => x⟩,
    fun y hy _ hdy => by rw [← hdy]; exact (w.back y hy).2.2.1⟩

/-- `l` counts as stale (`Ex y ∨ y = l`: it has left the output pins), so `del lines[l]` only renames the last line to `l` -/
theorem DrvAt.delLine {net : Net} {Ex : Nat → Prop} {d l : Nat} (w : DrvAt net (fun y => Ex y ∨ y = l) d) (hl : l < net.lines.size) :
    DrvAt (delLine net l) (fun y => Ex (nmN net.lines.size l y)) d := by
  refine ⟨by rw [(delLine_sizes net l).1]; exact w.lt, ?_, ?_⟩
  · intro k y' hp
    rw [delLine_node] at hp
    dsimp only at hp
    rw [getD_map_mvL] at hp
    obtain ⟨y, hy, e⟩ := mvL_eq_some hp
    obtain ⟨a1, a2, a3, a4⟩ := w.fwd k y hy
    obtain ⟨m1, m2⟩ := mv_facts hl a1 (fun e0 => a4 (Or.inr e0))
    subst e
    rw [(delLine_sizes net l).2.1, delLine_line net l _ hl m1, m2]
    exact ⟨m1, a2, a3, fun hc => a4 (Or.inl hc)⟩
  · intro y' hy' hne' hd'
    rw [(delLine_sizes net l).2.1] at hy'
    obtain ⟨hy, hyl, hmv⟩ := nm_facts hl hy'
    rw [delLine_line net l y' hl hy'] at hd' ⊢
    rw [delLine_node]
    dsimp only
    rw [getD_map_mvL, w.back _ hy (fun hc => hc.elim hne' hyl) hd', mvL_some, hmv]

/-- `removeLine` specification: the circuit `net'` after `l.remove()` (`b = true`) or `l.reader = None; l.remove()` (`b = false`), through accessors: the reader's
    pin is cleared when `b`, every reference to the last line shows `l` (`mvL` on a pin, `nmN` on a line index).  The output list of
    `l`'s driver is not given pin by pin (its pin is cleared, or deleted at a fork with the later pins and their lines' `dpin` moving
    down): `outPin` speaks of the other nodes, the last clause of `line` says "`dpin` kept, or a line of the same driver and that is a
    fork", and `drv` says what is known instead — the driver side of a node that was in order is in order, so a line of the new
    list has `dpin` = its position.  `Ex` = lines that are stale on the driver side. -/
structure RLSpec (b : Bool) (net : Net) (Ex : Nat → Prop) (l : Nat) (net' : Net) : Prop where
  nsize : net'.nodes.size = net.nodes.size
  lsize : net'.lines.size = net.lines.size - 1
  io : net'.io = net.io
  kind : ∀ x, (net'.node x).kind = (net.node x).kind
  inPin : ∀ x k, (net'.node x).ins.getD k none =
    if b = true ∧ x = (net.line l).reader ∧ k = (net.line l).rpin then none
    else mvL (net.lines.size - 1) l ((net.node x).ins.getD k none)
  outPin : ∀ x k, x ≠ (net.line l).driver →
    (net'.node x).outs.getD k none = mvL (net.lines.size - 1) l ((net.node x).outs.getD k none)
  line : ∀ l', l' < net.lines.size - 1 →
    (net'.line l').driver = (net.line (nmN net.lines.size l l')).driver ∧
    (net'.line l').reader = (net.line (nmN net.lines.size l l')).reader ∧
    (net'.line l').rpin = (net.line (nmN net.lines.size l l')).rpin ∧
    ((net'.line l').dpin = (net.line (nmN net.lines.size l l')).dpin ∨
      ((net.line (nmN net.lines.size l l')).driver = (net.line l).driver ∧ (net.node (net.line l).driver).isFork = true))
  drv : ∀ d, DrvAt net Ex d → DrvAt net' (fun y => Ex (nmN net.lines.size l y)) d

theorem RLSpec.inPinF {net : Net} {Ex : Nat → Prop} {l : Nat} {net' : Net} (sp : RLSpec false net Ex l net') (x k : Nat) :
    (net'.node x).ins.getD k none = mvL (net.lines.size - 1) l ((net.node x).ins.getD k none) := by
  rw [sp.inPin]; simp

theorem RLSpec.inPinT {net : Net} {Ex : Nat → Prop} {l : Nat} {net' : Net} (sp : RLSpec true net Ex l net') (x k : Nat) :
    (net'.node x).ins.getD k none =
      if x = (net.line l).reader ∧ k = (net.line l).rpin then none else mvL (net.lines.size - 1) l ((net.node x).ins.getD k none) := by
  rw [sp.inPin]; simp

/-- only the driver of the line has to be in order (`w`).  In `net2` of `removeLine_eq` every `DrvAt` holds with `l` joined to the
    stale lines (`hd2`: `O` lists the driver's other lines, and the `dpin` of each is its position in `O`); `DrvAt.delLine` does the rest -/
theorem removeLineB_spec (b : Bool) (net : Net) (Ex : Nat → Prop) (l : Nat) (hl : l < net.lines.size) (hex : ¬ Ex l)
    (w : DrvAt net Ex (net.line l).driver) (hr : b = true → (net.line l).reader < net.nodes.size) (net' : Net)
    (he : removeLine b net l = some net') : RLSpec b net Ex l net' := by
  obtain ⟨O, net2, rfl, hio2, hsz2, hns2, hn2, hf2, hcase⟩ := removeLine_eq b net net' l he
  have bd := w.lt
  have bo := w.back l hl hex rfl
  have houts : ∀ x, (net2.node x).outs = if x = (net.line l).driver then O else (net.node x).outs := by
    intro x
    rw [hn2]
    by_cases e : x = (net.line l).driver
    · rw [if_pos e]; exact if_pos ⟨e, bd⟩
    · rw [if_neg e]; exact if_neg (fun hc => e hc.1)
  -- `O` is the driver's list with pin `dpin` cleared, squeezed at a fork: its entries are the driver's other lines
  have hOfwd : ∀ k y, O.getD k none = some y →
      y < net.lines.size ∧ (net.line y).driver = (net.line l).driver ∧ ¬ Ex y ∧ y ≠ l := by
    intro k y h
    have : ∃ k0, k0 ≠ (net.line l).dpin ∧ (net.node (net.line l).driver).outs.getD k0 none = some y := by
      rcases hcase with ⟨_, hO, _, _⟩ | ⟨_, hO, _⟩
      · rw [hO, getD_eraseIdx] at h
        exact ⟨_, getD_growSet_none h⟩
      · rw [hO] at h
        exact ⟨_, getD_growSet_none h⟩
    obtain ⟨k0, hne, h0⟩ := this
    obtain ⟨a1, a2, a3, a4⟩ := w.fwd k0 y h0
    exact ⟨a1, a2, a4, fun e => hne (by rw [← a3, e])⟩
  have hOback : ∀ y, y < net.lines.size → ¬ Ex y → y ≠ l → (net.line y).driver = (net.line l).driver →
      ∃ k, O.getD k none = some y := by
    intro y hy hexy hne hdy
    have yo := w.back y hy hexy hdy
    have hpne : (net.line y).dpin ≠ (net.line l).dpin := by
      intro ep; rw [ep, bo] at yo; exact hne (Option.some.inj yo).symm
    have yg : (growSet (net.node (net.line l).driver).outs (net.line l).dpin none).getD (net.line y).dpin none = some y := by
      rw [getD_growSet, if_neg hpne]; exact yo
    rcases hcase with ⟨_, hO, _, _⟩ | ⟨_, hO, _⟩
    · rw [hO]; exact getD_eraseIdx_of_ne yg hpne
    · exact ⟨_, by rw [hO]; exact yg⟩
  -- `l.driver_pin = i` along `O`, no other line changes
  have hOdp : ∀ k y, O.getD k none = some y → (net2.line y).dpin = k := by
    intro k y h
    show (lineA net2.lines y).dpin = k
    rcases hcase with ⟨_, hO, _, hl1⟩ | ⟨_, hO, hl1⟩
    · have hOnd : PinNodup O := by rw [hO]; exact pinNodup_eraseIdx (pinNodup_growSet_none w.outs_nodup _) _
      rw [hl1, renumberDpins_at O net.lines 0 k y hOnd h (hOfwd k y h).1]
      exact Nat.zero_add k
    · rw [hl1]
      rw [hO] at h
      exact (w.fwd k y (getD_growSet_none h).2).2.2.1
  have hdp : ∀ y, (net.line y).driver ≠ (net.line l).driver → (net2.line y).dpin = (net.line y).dpin := by
    intro y h
    show (lineA net2.lines y).dpin = _
    rcases hcase with ⟨_, _, _, hl1⟩ | ⟨_, _, hl1⟩
    · rw [hl1, renumberDpins_other O net.lines 0 y (fun k hk => h (hOfwd k y hk).2.1)]; rfl
    · rw [hl1]; rfl
  -- the driver side of every node before `del lines[l]`; `l` has left the pins
  have hd2 : ∀ d, DrvAt net Ex d → DrvAt net2 (fun y => Ex y ∨ y = l) d := by
    intro d wd
    refine ⟨by rw [hns2]; exact wd.lt, ?_, ?_⟩
    · intro k y hp
      rw [houts] at hp
      rw [hsz2, (hf2 y).1]
      by_cases e : d = (net.line l).driver
      · rw [if_pos e] at hp
        obtain ⟨a1, a2, a3, a4⟩ := hOfwd k y hp
        exact ⟨a1, a2.trans e.symm, hOdp k y hp, fun hc => hc.elim a3 a4⟩
      · rw [if_neg e] at hp
        obtain ⟨a1, a2, a3, a4⟩ := wd.fwd k y hp
        exact ⟨a1, a2, (hdp y (by rw [a2]; exact e)).trans a3, fun hc => hc.elim a4 (fun e0 => e (by rw [← a2, e0]))⟩
    · intro y hy hexy hdy
      rw [hsz2] at hy
      rw [(hf2 y).1] at hdy
      rw [houts]
      by_cases e : d = (net.line l).driver
      · rw [if_pos e]
        obtain ⟨k, hk⟩ := hOback y hy (fun hc => hexy (Or.inl hc)) (fun hc => hexy (Or.inr hc)) (hdy.trans e)
        rw [hOdp k y hk]; exact hk
      · rw [if_neg e, hdp y (by rw [hdy]; exact e)]
        exact wd.back y hy (fun hc => hexy (Or.inl hc)) hdy
  refine ⟨?_, ?_, ?_, ?_, ?_, ?_, ?_, fun d wd => ?_⟩
  · rw [(delLine_sizes _ l).1, hns2]
  · rw [(delLine_sizes _ l).2.1, hsz2]
  · rw [(delLine_sizes _ l).2.2]; exact hio2
  · intro x; rw [delLine_node, hn2]
  · intro x k
    rw [delLine_node, hn2, hsz2]
    dsimp only
    rw [getD_map_mvL]
    by_cases e1 : b = true ∧ x = (net.line l).reader
    · rw [if_pos ⟨e1.1, e1.2, hr e1.1⟩, getD_growSet]
      by_cases e2 : k = (net.line l).rpin
      · simp [e1, e2, mvL]
      · simp [e1, e2]
    · rw [if_neg (fun hc => e1 ⟨hc.1, hc.2.1⟩), if_neg (fun hc => e1 ⟨hc.1, hc.2.1⟩)]
  · intro x k hne
    rw [delLine_node, hsz2]
    dsimp only
    rw [getD_map_mvL, houts, if_neg hne]
  · intro l' hl'
    rw [delLine_line _ l l' (by rw [hsz2]; exact hl) (by rw [hsz2]; exact hl'), hsz2]
    refine ⟨(hf2 _).1, (hf2 _).2.1, (hf2 _).2.2, ?_⟩
    by_cases hdl : (net.line (nmN net.lines.size l l')).driver = (net.line l).driver
    · rcases hcase with ⟨hF, _, _, _⟩ | ⟨_, _, hl1⟩
      · exact Or.inr ⟨hdl, hF⟩
      · exact Or.inl (by show (lineA net2.lines _).dpin = _; rw [hl1]; rfl)
    · exact Or.inl (hdp _ hdl)
  · have := (hd2 d wd).delLine (by rw [hsz2]; exact hl)
    rw [hsz2] at this
    exact this

theorem removeLine_spec (nn : NNet) (w : WFm nn) (l : Nat) (hl : l < nn.net.lines.size) (net' : Net)
    (he : removeLine true nn.net l = some net') : RLSpec true nn.net (fun _ => False) l net' :=
  removeLineB_spec true nn.net (fun _ => False) l hl (fun x => x) (w.drvAt (w.back l hl).1) (fun _ => (w.back l hl).2.1) net' he

theorem removeLineF_spec (net : Net) (Ex : Nat → Prop) (l : Nat) (hl : l < net.lines.size) (hex : ¬ Ex l)
    (w : DrvAt net Ex (net.line l).driver) (net' : Net)
    (he : removeLine false net l = some net') : RLSpec false net Ex l net' :=
  removeLineB_spec false net Ex l hl hex w (fun e => absurd e (by simp)) net' he

theorem setReader_node (net : Net) (ll r rp x : Nat) : (setReader net ll r rp).node x =
    if x = r ∧ r < net.nodes.size then { net.node x with ins := growSet (net.node x).ins rp (some ll) } else net.node x := by
  show nodeA (net.nodes.modify r _) x = _
  rw [nodeA_modify]; rfl

theorem setReader_line (net : Net) (ll r rp l : Nat) (hl : l < net.lines.size) : (setReader net ll r rp).line l =
    if ll = l then { net.line l with reader := r, rpin := rp } else net.line l := by
  show lineA (net.lines.modify ll _) l = _
  rw [lineA_modify _ _ _ _ hl]; rfl

theorem setReader_sizes (net : Net) (ll r rp : Nat) : (setReader net ll r rp).nodes.size = net.nodes.size ∧
    (setReader net ll r rp).lines.size = net.lines.size ∧ (setReader net ll r rp).io = net.io := by
  simp [setReader]

theorem setDriver_node (net : Net) (ll d dp x : Nat) : (setDriver net ll d dp).node x =
    if x = d ∧ d < net.nodes.size then { net.node x with outs := growSet (net.node x).outs dp (some ll) } else net.node x := by
  show nodeA (net.nodes.modify d _) x = _
  rw [nodeA_modify]; rfl

theorem setDriver_line (net : Net) (ll d dp l : Nat) (hl : l < net.lines.size) : (setDriver net ll d dp).line l =
    if ll = l then { net.line l with driver := d, dpin := dp } else net.line l := by
  show lineA (net.lines.modify ll _) l = _
  rw [lineA_modify _ _ _ _ hl]; rfl

theorem setDriver_sizes (net : Net) (ll d dp : Nat) : (setDriver net ll d dp).nodes.size = net.nodes.size ∧
    (setDriver net ll d dp).lines.size = net.lines.size ∧ (setDriver net ll d dp).io = net.io := by
  simp [setDriver]

theorem setReader_outs (net : Net) (ll r rp x : Nat) : ((setReader net ll r rp).node x).outs = (net.node x).outs := by
  rw [setReader_node]; split <;> rfl

theorem setReader_inPin (net : Net) (ll r rp : Nat) (hr : r < net.nodes.size) (x k : Nat) :
    ((setReader net ll r rp).node x).ins.getD k none = if x = r ∧ k = rp then some ll else (net.node x).ins.getD k none := by
  rw [setReader_node]
  by_cases e : x = r
  · simp only [e, hr, and_self, if_true, true_and, getD_growSet]
  · simp [e]

theorem setReader_kind (net : Net) (ll r rp x : Nat) : ((setReader net ll r rp).node x).kind = (net.node x).kind := by
  rw [setReader_node]; split <;> rfl

theorem setReader_line_drv (net : Net) (ll r rp y : Nat) (hy : y < net.lines.size) :
    ((setReader net ll r rp).line y).driver = (net.line y).driver ∧ ((setReader net ll r rp).line y).dpin = (net.line y).dpin := by
  rw [setReader_line net _ _ _ _ hy]
  split <;> exact ⟨rfl, rfl⟩

theorem setDriver_ins (net : Net) (ll d dp x : Nat) : ((setDriver net ll d dp).node x).ins = (net.node x).ins := by
  rw [setDriver_node]; split <;> rfl

theorem setDriver_kind (net : Net) (ll d dp x : Nat) : ((setDriver net ll d dp).node x).kind = (net.node x).kind := by
  rw [setDriver_node]; split <;> rfl

theorem setDriver_line_rdr (net : Net) (ll d dp y : Nat) (hy : y < net.lines.size) :
    ((setDriver net ll d dp).line y).reader = (net.line y).reader ∧ ((setDriver net ll d dp).line y).rpin = (net.line y).rpin := by
  rw [setDriver_line net _ _ _ _ hy]
  split <;> exact ⟨rfl, rfl⟩

/-! `LS net net' j` (lengths stay): node `j` has the same kind, the same number of input pin slots and (unless it is a fork, whose outputs
`Line.remove()` squeezes) the same number of output pin slots in `net'` as in `net`.  `Line.remove()` keeps the lengths of every node
when the line's `dpin` (and, when the reader pin is cleared, its `rpin`) lies inside the list: there `growSet` is `List.set`. -/

def LS (net net' : Net) (j : Nat) : Prop :=
  (net'.node j).kind = (net.node j).kind ∧ (net'.node j).ins.length = (net.node j).ins.length ∧
  ((net.node j).isFork = false → (net'.node j).outs.length = (net.node j).outs.length)

theorem LS.of_eq {net net' : Net} {j : Nat} (h : net'.node j = net.node j) : LS net net' j := by
  unfold LS; rw [h]; exact ⟨rfl, rfl, fun _ => rfl⟩

theorem LS.trans {a b c : Net} {j : Nat} (h1 : LS a b j) (h2 : LS b c j) : LS a c j :=
  ⟨h2.1.trans h1.1, h2.2.1.trans h1.2.1, fun hf => (h2.2.2 (by
    show ((b.node j).kind == "__fork__") = false
    rw [h1.1]; exact hf)).trans (h1.2.2 hf)⟩

theorem ls_removeLine (b : Bool) (net net' : Net) (l : Nat) (he : removeLine b net l = some net')
    (hd : (net.line l).dpin < (net.node (net.line l).driver).outs.length)
    (hr : b = true → (net.line l).rpin < (net.node (net.line l).reader).ins.length) (j : Nat) : LS net net' j := by
  obtain ⟨O, net2, rfl, _, _, _, hn2, _, hcase⟩ := removeLine_eq b net net' l he
  rw [LS, delLine_node, hn2]
  refine ⟨rfl, ?_, fun hf => ?_⟩
  · simp only [List.length_map]
    split
    · rename_i hc
      rw [hc.2.1, length_growSet, if_pos (hr hc.1)]
    · rfl
  · simp only [List.length_map]
    split
    · rename_i hc
      rcases hcase with ⟨hfk, _, _, _⟩ | ⟨_, hO, _⟩
      · rw [hc.1, hfk] at hf; exact absurd hf (by simp)
      · rw [hO, hc.1, length_growSet, if_pos hd]
    · rfl

end KV.Transform
