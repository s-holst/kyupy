import KyupyVerif.Model.Net
/-! The function of ONE node of a netlist. `lineEqN` is `lineEq` with everything it looks at made explicit; its last branch, the
combinational core `primVal`, is also what a bench gate statement (`gateVal`), a Verilog instance (`instVal`) and a constant cell
(`constVal`) compute (Proofs/GateVal.lean), and what `driveVal` computes on the lines of a built circuit (Proofs/CircSem.lean).
First the two facts about `NodeD` and `Net` that the readings of `lineEq` share: a fork is not sequential (`fork_not_seq`), and the
table of `s_node` positions is the function `sPos` (`sPosTable_getD`). Last: `lineEq` by the class of the driver (`lineEq_of_src`,
`lineEq_of_fork`, `lineEq_of_cell`), what the rows of the scheduler are compared with (Proofs/RowsLineEq.lean). -/
namespace KV

theorem fork_not_seq {nd : NodeD} (h : nd.isFork = true) : nd.isSeq = false ∧ nd.lkind = "__fork__" := by
  have hk : nd.kind = "__fork__" := by simpa [NodeD.isFork] using h
  have h1 : hasSub "dff" ("__fork__" : String).toLower = false := by decide +kernel
  have h2 : hasSub "latch" ("__fork__" : String).toLower = false := by decide +kernel
  have h3 : ("__fork__" : String).toLower = "__fork__" := by decide +kernel
  refine ⟨?_, ?_⟩
  · simp only [NodeD.isSeq, NodeD.isDff, NodeD.isLatch, NodeD.lkind, hk, h1, h2, Bool.or_self]
  · simp only [NodeD.lkind, hk, h3]

theorem sPosTable_getD (net : Net) {n : Nat} (hn : n < net.nodes.size) : net.sPosTable.getD n none = net.sPos n := by
  unfold Net.sPosTable Net.sPos
  simp only [Array.getD_eq_getD_getElem?, List.getElem?_toArray, List.getElem?_map, List.getElem?_range hn,
    Option.map_some, Option.getD_some]

/-- the primitive chosen by kind family and by which of pins 2, 3 are connected, applied to pins 0..3 (`z` where unconnected) -/
def primVal {α} (z : α) (prim : String → α → α → α → α → α) (lkind : String) (pv : Nat → Option α) : α :=
  match specPrimName lkind (pv 2).isSome (pv 3).isSome with
  | some name => prim name ((pv 0).getD z) ((pv 1).getD z) ((pv 2).getD z) ((pv 3).getD z)
  | none => z

theorem primVal_congr {α} (z : α) (prim : String → α → α → α → α → α) (lk : String) (pv pv' : Nat → Option α)
    (h : ∀ k, k < 4 → pv k = pv' k) : primVal z prim lk pv = primVal z prim lk pv' := by
  unfold primVal
  simp only [h 0 (by omega), h 1 (by omega), h 2 (by omega), h 3 (by omega)]

namespace Transform

theorem node_ge_size (net : Net) {x : Nat} (h : net.nodes.size ≤ x) : net.node x = default := by
  simp only [Net.node, Array.getD_eq_getD_getElem?]
  rw [Array.getElem?_eq_none h]; rfl

/-- `lineEq` with everything it looks at made explicit: kind of the driver, output pin, the assigned value if the driver
    is an `s_node`, the values read at the input pins (`none` = unconnected) -/
def lineEqN {α} (z : α) (neg : α → α) (prim : String → α → α → α → α → α) (kind : String) (dpin : Nat)
    (spa : Option α) (pv : Nat → Option α) : α :=
  let d : NodeD := ⟨kind, [], []⟩
  let pinVal := fun (i : Nat) => (pv i).getD z
  match spa with
  | some ap =>
    if d.isSeq then (if d.isDff && dpin == 1 then neg ap else ap)
    else match pv 0 with
      | some x => if d.isFork then x else ap
      | none => ap
  | none =>
    if d.isFork then pinVal 0
    else match specPrimName d.lkind (pv 2).isSome (pv 3).isSome with
      | some name => prim name (pinVal 0) (pinVal 1) (pinVal 2) (pinVal 3)
      | none => z

theorem lineEq_eq_N {α} (net : Net) (sp : Nat → Option Nat) (z : α) (neg : α → α) (prim : String → α → α → α → α → α)
    (a : Nat → α) (v : Nat → α) (l : Nat) :
    lineEq net sp z neg prim a v l =
      lineEqN z neg prim (net.node (net.line l).driver).kind (net.line l).dpin ((sp (net.line l).driver).map a)
        (fun k => ((net.node (net.line l).driver).inPin k).map v) := by
  simp only [lineEq, lineEqN]
  have e1 : (⟨(net.node (net.line l).driver).kind, [], []⟩ : NodeD).isSeq = (net.node (net.line l).driver).isSeq := rfl
  have e2 : (⟨(net.node (net.line l).driver).kind, [], []⟩ : NodeD).isDff = (net.node (net.line l).driver).isDff := rfl
  have e3 : (⟨(net.node (net.line l).driver).kind, [], []⟩ : NodeD).isFork = (net.node (net.line l).driver).isFork := rfl
  have e4 : (⟨(net.node (net.line l).driver).kind, [], []⟩ : NodeD).lkind = (net.node (net.line l).driver).lkind := rfl
  rw [e1, e2, e3, e4]
  cases sp (net.line l).driver <;> cases (net.node (net.line l).driver).inPin 0 <;>
    cases (net.node (net.line l).driver).inPin 1 <;> cases (net.node (net.line l).driver).inPin 2 <;>
    cases (net.node (net.line l).driver).inPin 3 <;> rfl

theorem lineEq_congr {α} (net net' : Net) (sp sp' : Nat → Option Nat) (z : α) (neg : α → α)
    (prim : String → α → α → α → α → α) (a a' : Nat → α) (v v' : Nat → α) (l l' : Nat)
    (hk : (net'.node (net'.line l').driver).kind = (net.node (net.line l).driver).kind)
    (hd : (net'.line l').dpin = (net.line l).dpin)
    (hs : (sp' (net'.line l').driver).map a' = (sp (net.line l).driver).map a)
    (hv : ∀ k, ((net'.node (net'.line l').driver).inPin k).map v' = ((net.node (net.line l).driver).inPin k).map v) :
    lineEq net' sp' z neg prim a' v' l' = lineEq net sp z neg prim a v l := by
  rw [lineEq_eq_N, lineEq_eq_N, hk, hd, hs]
  congr 1
  funext k; exact hv k

theorem lineEqN_comb {α} (z : α) (neg : α → α) (prim : String → α → α → α → α → α) (K : String) (dp : Nat) (pv : Nat → Option α)
    (hK : (K == "__fork__") = false) : lineEqN z neg prim K dp none pv = primVal z prim K.toLower pv := by
  simp only [lineEqN, NodeD.isFork, hK, Bool.false_eq_true, if_false, NodeD.lkind, primVal]

end Transform

theorem lineEq_congr {α : Type _} (net : Net) (sp1 sp2 : Nat → Option Nat) (z : α) (neg : α → α)
    (prim : String → α → α → α → α → α) (a : Nat → α) (v1 v2 : Nat → α) (l : Nat)
    (hsp : sp1 (net.line l).driver = sp2 (net.line l).driver)
    (hv : ∀ i l', (net.node (net.line l).driver).inPin i = some l' → v1 l' = v2 l') :
    lineEq net sp1 z neg prim a v1 l = lineEq net sp2 z neg prim a v2 l :=
  Transform.lineEq_congr net net sp2 sp1 z neg prim a a v2 v1 l l rfl rfl (by rw [hsp]) fun k => by
    cases h : (net.node (net.line l).driver).inPin k with
    | none => rfl
    | some l' => simp only [Option.map_some, hv k l' h]

section
variable {α : Type _} (net : Net) (sp : Nat → Option Nat) (z : α) (neg : α → α) (prim : String → α → α → α → α → α)
  (a v : Nat → α) (l : Nat)

theorem lineEq_of_src {p : Nat} (hsp : sp (net.line l).driver = some p)
    (hnf : ((net.node (net.line l).driver).isFork && ((net.node (net.line l).driver).inPin 0).isSome) = false) :
    lineEq net sp z neg prim a v l =
      if (net.node (net.line l).driver).isDff && (net.line l).dpin == 1 then neg (a p) else a p := by
  simp only [lineEq, hsp]
  cases hi : (net.node (net.line l).driver).inPin 0 <;> cases hq : (net.node (net.line l).driver).isDff <;>
    simp_all [NodeD.isSeq]

theorem lineEq_of_fork (hf : (net.node (net.line l).driver).isFork = true)
    (h : sp (net.line l).driver = none ∨ ((net.node (net.line l).driver).inPin 0).isSome = true) :
    lineEq net sp z neg prim a v l = (((net.node (net.line l).driver).inPin 0).map v).getD z := by
  simp only [lineEq, hf, (fork_not_seq hf).1, if_true]
  cases hs : sp (net.line l).driver with
  | none => cases (net.node (net.line l).driver).inPin 0 <;> rfl
  | some p =>
    cases hi : (net.node (net.line l).driver).inPin 0 with
    | none => rw [hs, hi] at h; simp at h
    | some l' => simp

theorem lineEq_of_cell (hs : sp (net.line l).driver = none) (hf : (net.node (net.line l).driver).isFork = false) :
    lineEq net sp z neg prim a v l =
      primVal z prim (net.node (net.line l).driver).lkind fun k => ((net.node (net.line l).driver).inPin k).map v := by
  rw [Transform.lineEq_eq_N, hs]
  exact Transform.lineEqN_comb z neg prim _ _ _ hf

end

end KV
