import KyupyVerif.Proofs.CycleNet
/-! `cycle(k)` does not depend on `strip_forks`: for every well-formed netlist, topological order that contains the driver of
every captured line, value domain and op semantics in which `BUF1` returns its first operand, the `s` array after k cycles
of the stripped simulator equals that of the un-stripped one (signal level; C06 `strip_irrelevant_logic` lifted through the
clock loop — the two memories differ on the branch signals, which the stripped program neither writes nor reads). -/
namespace KV.Cycle
open KV KV.Sig KV.Wave

theorem sigOps_true_eq (tbl : List PrefixRow) {net : Net} {order : List Nat}
    (hwf : net.wfB = true) (ho : orderOKB net order = true) (hf : forksOKB net order = true) :
    sigOps tbl net order true = stripOps4 (stemList net) (sigOps tbl net order false) := by
  rw [sigOps_false, ← genOps_strip_eq_stripOps4 tbl hwf ho hf]
  rfl

theorem stripped_out_mem (tbl : List PrefixRow) {net : Net} {order : List Nat}
    (hwf : net.wfB = true) (ho : orderOKB net order = true) (hf : forksOKB net order = true)
    (o : Op) (h : o ∈ sigOps tbl net order true) : ∃ o' ∈ sigOps tbl net order false, o'.out = o.out := by
  rw [sigOps_true_eq tbl hwf ho hf] at h
  unfold stripOps4 at h
  obtain ⟨o', ho', rfl⟩ := List.mem_map.1 h
  exact ⟨o', (List.mem_filter.1 ho').1, rfl⟩

theorem sToC_strip {α} (net : Net) (d : α) (a : List α) (e : Nat → α) :
    sToC (tabsOf net true) d a e = sToC (tabsOf net false) d a e := by
  -- only `pippi` is read, and that table does not mention the stems
  simp only [sToC, tabsOf]

section
variable {α : Type} (tbl : List PrefixRow) {net : Net} {order : List Nat}
  (hwf : net.wfB = true) (ho : orderOKB net order = true) (hf : forksOKB net order = true)
  (hcov : capDriversB net order = true)
  (f : Nat → List α → α) (dflt : α) (hbuf : ∀ xs, f BUF1 xs = xs.getD 0 dflt)
include hwf ho hf hcov hbuf

theorem captured_strip (d : α) (a : List α) (es eu : Nat → α)
    (hag : Agree (sigOps tbl net order false) (tabsOf net false) es eu) (p : Nat) (hp : p < net.sNodes.length) :
    solOf (fun op => f op.code) (sigOps tbl net order true) (tabsOf net true) d es a (capSig net true p) =
      solOf (fun op => f op.code) (sigOps tbl net order false) (tabsOf net false) d eu a (capSig net false p) := by
  rw [← solOf_agree (Jt net) _ _ (sigOps_false_WOJ tbl net order hwf ho) net false d a es eu hag _ (capSig_notJunk net hwf p)]
  unfold solOf
  rw [sToC_strip, ← exec_eq_execG, ← exec_eq_execG, capSig_true net hwf, sigOps_false]
  -- the captured signal is no branch, or a branch whose fork is scheduled (`capDriversB`)
  refine strip_sig_read tbl net order hwf ho hf f dflt hbuf _ _ ?_
  rw [capSig_false]
  cases hpin : (sNodeAt net p).inPin 0 with
  | none => exact .inl (stems_none_ge hwf (by simp [Net.idx]))
  | some l =>
    cases hst : (stemsOf net true).getD l none with
    | none => exact .inl rfl
    | some s =>
      have hmem : (net.line l).driver ∈ order := by
        have := List.all_eq_true.1 hcov p (List.mem_range.2 hp)
        rw [hpin] at this
        simpa using this
      obtain ⟨q, hq, hqo⟩ := branch_written tbl hwf hmem hst
      exact .inr ⟨q.toOp, List.mem_map_of_mem hq, hqo⟩

omit hcov hbuf in
theorem agree_strip_after (d : α) (a : List α) (es eu : Nat → α)
    (hag : Agree (sigOps tbl net order false) (tabsOf net false) es eu) :
    Agree (sigOps tbl net order false) (tabsOf net false)
      (solOf (fun op => f op.code) (sigOps tbl net order true) (tabsOf net true) d es a)
      (solOf (fun op => f op.code) (sigOps tbl net order false) (tabsOf net false) d eu a) := by
  intro x hx hp
  unfold solOf
  rw [execG_frame _ _ _ x hx, execG_frame _ _ _ x (fun o ho' he => by
    obtain ⟨o', ho'', he'⟩ := stripped_out_mem tbl hwf ho hf o ho'
    exact hx o' ho'' (he'.trans he))]
  rw [sToC_strip, sToC_apply, sToC_apply, if_neg hp, if_neg hp]
  exact hag x hx hp

theorem cycle1_strip (merge : α → α → α) (d : α) (ss su : St α)
    (h : Tracks (sigOps tbl net order false) net false ss su.s su.env) :
    Tracks (sigOps tbl net order false) net false
      (cycle1 (fun op => f op.code) (sigOps tbl net order true) (tabsOf net true) merge d ss)
      (cycle1 (fun op => f op.code) (sigOps tbl net order false) (tabsOf net false) merge d su).s
      (cycle1 (fun op => f op.code) (sigOps tbl net order false) (tabsOf net false) merge d su).env := by
  obtain ⟨hs, h0, h1, hag⟩ := h
  have es := cycle1_s (fun op => f op.code) (sigOps tbl net order true) net true merge d ss (by rw [hs]; exact h0) (by rw [hs]; exact h1)
  have eu := cycle1_s (fun op => f op.code) (sigOps tbl net order false) net false merge d su h0 h1
  have hcap := captured_strip tbl hwf ho hf hcov f dflt hbuf d su.s.s0 ss.env su.env hag
  refine ⟨?_, by rw [eu]; simp [stepS, nextRow_length, h0], by rw [eu]; simp [stepS, captureRow_length, h1], ?_⟩
  · rw [es, eu]
    unfold stepS
    rw [hs, nextRow_congr net true false merge _ _ su.s.s0 (fun p hp => hcap p (by omega)),
      captureRow_congr net true false _ _ su.s.s1 (fun p hp => hcap p (by omega))]
  · rw [cycle1_env, cycle1_env, hs]
    exact agree_strip_after tbl hwf ho hf f d su.s.s0 ss.env su.env hag

theorem cycleK_strip (merge : α → α → α) (d : α) :
    ∀ (k : Nat) (ss su : St α), ss.s = su.s → su.s.s0.length = net.sNodes.length → su.s.s1.length = net.sNodes.length →
      Agree (sigOps tbl net order false) (tabsOf net false) ss.env su.env →
      (cycleK (fun op => f op.code) (sigOps tbl net order true) (tabsOf net true) merge d k ss).s =
        (cycleK (fun op => f op.code) (sigOps tbl net order false) (tabsOf net false) merge d k su).s := by
  intro k ss su hs h0 h1 hag
  rw [cycleK_eq_iter, cycleK_eq_iter]
  exact (iter_rel (R := fun ss su => Tracks (sigOps tbl net order false) net false ss su.s su.env)
    (cycle1_strip tbl hwf ho hf hcov f dflt hbuf merge d) k ss su ⟨hs, h0, h1, hag⟩).1

end
end KV.Cycle
