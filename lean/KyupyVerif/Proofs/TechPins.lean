import KyupyVerif.Proofs.TechCells
import KyupyVerif.Proofs.SemL
/-! kernel evaluation of the pin-table, partition and known-op-code checkers on every chunk of the generated library tables -/
namespace KV.Tech
open KV.TL KV.DS KV.Sig

theorem pins_all : ∀ ch ∈ Gen.techChunks, ch.all Cell.pinsOK = true := by decide +kernel
theorem part_all : ∀ ch ∈ Gen.techChunks, ch.all partOK = true := by decide +kernel

def codesKnown (c : Cell) : Bool := c.ops.all fun r => (Gen.prims.map (·.2)).contains (r.getD 0 0)

theorem codes_known : ∀ ch ∈ Gen.techChunks, ch.all codesKnown = true := by decide +kernel

theorem knownProg {c : Cell} (hc : c ∈ cells) : KnownProg c.prog := by
  have h := all_chunks codes_known hc
  simp only [codesKnown, List.all_eq_true] at h
  intro op hop
  obtain ⟨r, hr, rfl⟩ := List.mem_map.mp hop
  have := h r hr
  simp only [List.contains_iff_mem, List.mem_map] at this
  obtain ⟨⟨name, code⟩, hm, hcode⟩ := this
  refine ⟨name, ?_⟩
  have e : (rowOp r).code = code := by simp only [rowOp]; exact hcode.symm
  rw [e]; exact hm

/-- what the three real 2-valued code paths compute on a cell's program is the LUT semantics (`specL2` of Proofs/SemL.lean unfolds to
`lutSem`: `arg` is `List.getD`) -/
theorem paths_eq_lut {c : Cell} (hc : c ∈ cells) (sem : Nat → List Bool → Bool)
    (hs : ∀ code, KnownCode code → ∀ xs, sem code xs = specL2 code xs) (env : Nat → Bool) (l : Nat) :
    exec sem c.prog env l = exec lutSem c.prog env l :=
  exec_eq_of_known sem specL2 hs c.prog (knownProg hc) env l

end KV.Tech
