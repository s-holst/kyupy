import KyupyVerif.Model.BenchText
import KyupyVerif.Proofs.TextLex
/-! Round trip print → parse for the bench text model (`Model/BenchText.lean`).

Two halves that meet in the relation `Lexes s ts` ("pulling tokens from `s` yields `ts`, then the end of the text"):
* parser side (`pStmts_okK`): a text that lexes to the token stream of a statement list — every interface keyword in any of
  its four spellings — parses to that statement list;
* lexer side (`lexes_render_tail`): a token list printed with ANY layout (`layoutOK`: ignorable gaps, a NAME not directly followed
  by a name character) lexes back to itself.
In file order: `Lexes`; the gapless token streams (`stmtT`, `stmtTK`; the model's streams with gaps map onto them, `*_map`); parser side;
lexer side; valid trees have printable tokens and the printer's layouts are layouts; the two sides combined (`parse_layout_kw`, `parse_print`). -/
namespace KV.BenchText
open KV.Netlist
open KV.TextLex (beq_false_of_pred)


/-- `t ≠ .eof` and `r.length < s.length` are there for
`length_le` only: the fuel `s.length + 1` of `parseChars` covers the token count. -/
inductive Lexes : List Char → List Tok → Prop
  | nil {s : List Char} : next s = some (.eof, []) → Lexes s []
  | cons {s r : List Char} {t : Tok} {ts : List Tok} :
      t ≠ .eof → next s = some (t, r) → r.length < s.length → Lexes r ts → Lexes s (t :: ts)

theorem Lexes.length_le {s : List Char} {ts : List Tok} (h : Lexes s ts) : ts.length ≤ s.length := by
  induction h with
  | nil _ => simp
  | cons _ _ hl _ ih => simp only [List.length_cons]; omega

theorem Lexes.cons_inv {s : List Char} {t : Tok} {ts : List Tok} (h : Lexes s (t :: ts)) :
    ∃ r, next s = some (t, r) ∧ Lexes r ts := by
  cases h with
  | cons _ hn _ hr => exact ⟨_, hn, hr⟩

theorem Lexes.nil_inv {s : List Char} (h : Lexes s []) : next s = some (.eof, []) := by
  cases h with
  | nil hn => exact hn


/-- `, a , b )` -/
def tailT : List String → List Tok
  | [] => [.rpar]
  | n :: r => .comma :: .name n.toList :: tailT r

/-- `( a , b )` -/
def paramT : List String → List Tok
  | [] => [.lpar, .rpar]
  | n :: r => .lpar :: .name n.toList :: tailT r

def stmtT : BStmt → List Tok
  | .intf ns => .name kwInput :: paramT ns
  | .gate n k d => .name n.toList :: .eq :: .name k.toList :: paramT d

def stmtTK (kw : List Char) : BStmt → List Tok
  | .intf ns => .name kw :: paramT ns
  | .gate n k d => stmtT (.gate n k d)

theorem tailT_length (ns : List String) : (tailT ns).length = 2 * ns.length + 1 := by
  induction ns with
  | nil => rfl
  | cons n r ih => simp only [tailT, List.length_cons, ih]; omega

theorem paramT_length_gt (ns : List String) : ns.length < (paramT ns).length := by
  cases ns with
  | nil => simp [paramT]
  | cons n r => simp [paramT, tailT_length]; omega

theorem namesTG_map_tail (a : String) (r : List String) (g : List Char) :
    (namesTG (a :: r) ++ [(Tok.rpar, g)]).map (·.1) = .name a.toList :: tailT r := by
  induction r generalizing a with
  | nil => rfl
  | cons b r ih =>
    simp only [namesTG, List.cons_append, List.map_cons, tailT]
    rw [ih b]

theorem paramsTG_map (ns : List String) (e : List Char) : (paramsTG ns e).map (·.1) = paramT ns := by
  cases ns with
  | nil => rfl
  | cons a r =>
    simp only [paramsTG, List.map_cons, paramT]
    rw [namesTG_map_tail]

theorem stmtTG_map (e : List Char) (st : BStmt) : (stmtTG e st).map (·.1) = stmtT st := by
  cases st with
  | intf ns => simp only [stmtTG, List.map_cons, stmtT, paramsTG_map]
  | gate n k d => simp only [stmtTG, List.map_cons, stmtT, paramsTG_map]

theorem stmtTGK_map (kw e : List Char) (st : BStmt) : (stmtTGK kw e st).map (·.1) = stmtTK kw st := by
  cases st with
  | intf ns => simp only [stmtTGK, List.map_cons, stmtTK, paramsTG_map]
  | gate n k d => simp only [stmtTGK, stmtTK, stmtTG_map]

theorem benchToks_nil : benchToks [] = [] := rfl

theorem benchToks_cons (st : BStmt) (rest : List BStmt) : benchToks (st :: rest) = stmtT st ++ benchToks rest := by
  simp only [benchToks, benchTG, List.flatMap_cons, List.map_append, stmtTG_map]

theorem benchToksK_nil : benchToksK [] = [] := rfl

theorem benchToksK_cons (p : List Char × BStmt) (rest : List (List Char × BStmt)) :
    benchToksK (p :: rest) = stmtTK p.1 p.2 ++ benchToksK rest := by
  simp only [benchToksK, List.flatMap_cons, stmtTGK_map]

theorem benchToksK_canon (stmts : List BStmt) : benchToksK (stmts.map fun st => (kwInput, st)) = benchToks stmts := by
  induction stmts with
  | nil => rfl
  | cons st rest ih =>
    rw [List.map_cons, benchToksK_cons, benchToks_cons, ih]
    cases st <;> rfl

theorem pParamsTail_ok (ns : List String) : ∀ (f : Nat) (s : List Char) (ts : List Tok),
    Lexes s (tailT ns ++ ts) → ns.length < f → ∃ r, pParamsTail f s = some (ns, r) ∧ Lexes r ts := by
  induction ns with
  | nil =>
    intro f s ts h hf
    obtain ⟨r, hn, hr⟩ := Lexes.cons_inv h
    cases f with
    | zero => omega
    | succ f => exact ⟨r, by simp only [pParamsTail, hn], hr⟩
  | cons n ns ih =>
    intro f s ts h hf
    obtain ⟨r1, hn1, h1⟩ := Lexes.cons_inv h
    obtain ⟨r2, hn2, h2⟩ := Lexes.cons_inv h1
    cases f with
    | zero => omega
    | succ f =>
      obtain ⟨r3, hp, h3⟩ := ih f r2 ts h2 (by simp only [List.length_cons] at hf; omega)
      exact ⟨r3, by simp only [pParamsTail, hn1, hn2, hp, String.ofList_toList], h3⟩

theorem pParams_ok (ns : List String) (f : Nat) (s : List Char) (ts : List Tok)
    (h : Lexes s (paramT ns ++ ts)) (hf : ns.length ≤ f) : ∃ r, pParams f s = some (ns, r) ∧ Lexes r ts := by
  cases ns with
  | nil =>
    obtain ⟨r1, hn1, h1⟩ := Lexes.cons_inv h
    obtain ⟨r2, hn2, h2⟩ := Lexes.cons_inv h1
    exact ⟨r2, by simp only [pParams, hn1, hn2], h2⟩
  | cons n ns =>
    obtain ⟨r1, hn1, h1⟩ := Lexes.cons_inv h
    obtain ⟨r2, hn2, h2⟩ := Lexes.cons_inv h1
    obtain ⟨r3, hp, h3⟩ := pParamsTail_ok ns f r2 ts h2 (by simp only [List.length_cons] at hf; omega)
    exact ⟨r3, by simp only [pParams, hn1, hn2, hp, String.ofList_toList], h3⟩

theorem stmtTK_length_gt (kw : List Char) (st : BStmt) :
    (match st with | .intf ns => ns.length | .gate _ _ d => d.length) < (stmtTK kw st).length := by
  cases st with
  | intf ns => have := paramT_length_gt ns; simp only [stmtTK, List.length_cons]; omega
  | gate n k d => have := paramT_length_gt d; simp only [stmtTK, stmtT, List.length_cons]; omega

theorem pStmts_okK (ks : List (List Char × BStmt)) : ∀ (f : Nat) (s : List Char),
    kwsOK ks = true → (∀ p ∈ ks, validStmt p.2 = true) → Lexes s (benchToksK ks) → (benchToksK ks).length < f →
    pStmts f s = some (ks.map (·.2)) := by
  induction ks with
  | nil =>
    intro f s _ _ h hf
    cases f with
    | zero => omega
    | succ f => simp only [pStmts, Lexes.nil_inv h, List.map_nil]
  | cons p rest ih =>
    intro f s hk hv h hf
    rw [benchToksK_cons] at h hf
    obtain ⟨kw, st⟩ := p
    have hlen := stmtTK_length_gt kw st
    simp only [kwsOK, List.all_cons, Bool.and_eq_true] at hk
    cases f with
    | zero => omega
    | succ f =>
      have hrest : ∀ q ∈ rest, validStmt q.2 = true := fun x hx => hv x (List.mem_cons_of_mem _ hx)
      have hst := hv (kw, st) List.mem_cons_self
      cases st with
      | intf ns =>
        simp only [stmtTK, List.cons_append] at h
        obtain ⟨r1, hn1, h1⟩ := Lexes.cons_inv h
        obtain ⟨r2, hp, h2⟩ := pParams_ok ns f r1 _ h1 (by simp only [List.length_append] at hf hlen ⊢; omega)
        have := ih f r2 hk.2 hrest h2 (by simp only [List.length_append] at hf; omega)
        have hkw : isKw kw = true := hk.1
        simp only [pStmts, hn1, hkw, if_true, hp, this, List.map_cons]
      | gate n k d =>
        simp only [stmtTK, stmtT, List.cons_append] at h
        obtain ⟨r1, hn1, h1⟩ := Lexes.cons_inv h
        obtain ⟨r2, hn2, h2⟩ := Lexes.cons_inv h1
        obtain ⟨r3, hn3, h3⟩ := Lexes.cons_inv h2
        obtain ⟨r4, hp, h4⟩ := pParams_ok d f r3 _ h3 (by simp only [List.length_append] at hf hlen ⊢; omega)
        have := ih f r4 hk.2 hrest h4 (by simp only [List.length_append] at hf; omega)
        have hkn : isKw n.toList = false := by
          simp only [validStmt, Bool.and_eq_true, Bool.not_eq_true'] at hst
          exact hst.1.1.2
        simp only [pStmts, hn1, hkn, hn2, hn3, hp, this, String.ofList_toList, List.map_cons]
        simp


theorem notName_of_blank (c : Char) (h : (c == ' ' || c == '\t' || c == '\x0c' || c == '\n') = true) : isNameChar c = false := by
  simp only [Bool.or_eq_true, beq_iff_eq] at h
  rcases h with ((h | h) | h) | h <;> subst h <;> decide

theorem skipC_gap (m : Mode) (g : List Char) : gapB m g = true → ∀ x, skipC m (g ++ x) = skipC .ws x := by
  fun_induction gapB m g <;> intro h x <;> simp_all [skipC]

theorem gap_headNotName (g x : List Char) (h : gapB .ws g = true) (hg : g ≠ []) : headNotName (g ++ x) = true := by
  cases g with
  | nil => exact absurd rfl hg
  | cons c r =>
    simp only [List.cons_append, headNotName, Bool.not_eq_true']
    simp only [gapB] at h
    split at h
    · next hb => exact notName_of_blank c hb
    · split at h
      · next hb => simp only [beq_iff_eq] at hb; subst hb; decide
      · split at h
        · next hb => simp only [beq_iff_eq] at hb; subst hb; decide
        · simp at h

def tokOK : Tok → Bool
  | .name n => !n.isEmpty && n.all isNameChar
  | .eof => false
  | _ => true

theorem tokText_length_pos (t : Tok) (ht : tokOK t = true) : 0 < (tokText t).length := by
  cases t with
  | name n => cases n with
    | nil => simp [tokOK] at ht
    | cons c r => simp [tokText]
  | eof => simp [tokOK] at ht
  | lpar => simp [tokText]
  | rpar => simp [tokText]
  | comma => simp [tokText]
  | eq => simp [tokText]

theorem tokOK_ne_eof (t : Tok) (ht : tokOK t = true) : t ≠ .eof := by
  intro h; subst h; simp [tokOK] at ht

theorem skipC_tok (t : Tok) (y : List Char) (ht : tokOK t = true) : skipC .ws (tokText t ++ y) = tokText t ++ y := by
  cases t with
  | name n =>
    cases n with
    | nil => simp [tokOK] at ht
    | cons c r =>
      simp only [tokOK, List.all_cons, Bool.and_eq_true] at ht
      have hc := ht.2.1
      have h1 : (c == ' ' || c == '\t' || c == '\x0c' || c == '\n') = false := by
        simp only [beq_false_of_pred isNameChar hc (d := ' ') (by decide), beq_false_of_pred isNameChar hc (d := '\t') (by decide),
          beq_false_of_pred isNameChar hc (d := '\x0c') (by decide), beq_false_of_pred isNameChar hc (d := '\n') (by decide), Bool.or_self]
      simp only [tokText, List.cons_append, skipC, h1, beq_false_of_pred isNameChar hc (d := '#') (by decide),
        beq_false_of_pred isNameChar hc (d := '\r') (by decide), Bool.false_eq_true, if_false]
  | eof => simp [tokOK] at ht
  | lpar => rfl
  | rpar => rfl
  | comma => rfl
  | eq => rfl

theorem nextRaw_tok (t : Tok) (y : List Char) (ht : tokOK t = true) (hy : t.isName = true → headNotName y = true) :
    nextRaw (tokText t ++ y) = some (t, y) := by
  cases t with
  | name n =>
    cases n with
    | nil => simp [tokOK] at ht
    | cons c r =>
      simp only [tokOK, List.all_cons, Bool.and_eq_true] at ht
      have hc := ht.2.1
      have hall : ∀ a ∈ r, isNameChar a = true := by simpa using ht.2.2
      have hy' := hy rfl
      have htw : (r ++ y).takeWhile isNameChar = r ∧ (r ++ y).dropWhile isNameChar = y := by
        rw [List.takeWhile_append_of_pos hall, List.dropWhile_append_of_pos hall]
        cases y with
        | nil => simp
        | cons d y' =>
          simp only [headNotName, Bool.not_eq_true'] at hy'
          simp [hy']
      simp only [tokText, List.cons_append, nextRaw, beq_false_of_pred isNameChar hc (d := '(') (by decide),
        beq_false_of_pred isNameChar hc (d := ')') (by decide), beq_false_of_pred isNameChar hc (d := ',') (by decide),
        beq_false_of_pred isNameChar hc (d := '=') (by decide), hc, if_true, htw.1, htw.2, Bool.false_eq_true, if_false]
  | eof => simp [tokOK] at ht
  | lpar => rfl
  | rpar => rfl
  | comma => rfl
  | eq => rfl

theorem next_gap_tok (g0 : List Char) (t : Tok) (y : List Char) (hg : gapB .ws g0 = true) (ht : tokOK t = true)
    (hy : t.isName = true → headNotName y = true) : next (g0 ++ (tokText t ++ y)) = some (t, y) := by
  rw [next, skipC_gap .ws g0 hg, skipC_tok t y ht, nextRaw_tok t y ht hy]


theorem headNotName_tail (tail : List Char) (h : tailOK tail = true) : headNotName tail = true := by
  cases tail with
  | nil => rfl
  | cons c body =>
    simp only [tailOK, Bool.and_eq_true, beq_iff_eq] at h
    rw [h.1]; simp [headNotName]; decide

theorem headNotName_append (x tail : List Char) (hx : headNotName x = true) (ht : headNotName tail = true) :
    headNotName (x ++ tail) = true := by
  cases x with
  | nil => exact ht
  | cons c r => exact hx

theorem next_gap_tail (g0 tail : List Char) (hg : gapB .ws g0 = true) (ht : tailOK tail = true) :
    next (g0 ++ tail) = some (.eof, []) := by
  rw [next, skipC_gap .ws g0 hg]
  cases tail with
  | nil => rfl
  | cons c body =>
    simp only [tailOK, Bool.and_eq_true, beq_iff_eq, List.isEmpty_iff] at ht
    rw [ht.1]
    simp only [skipC]
    simp [ht.2, nextRaw]

theorem lexes_render_tail (tail : List Char) (ht : tailOK tail = true) (l : List (Tok × List Char)) :
    ∀ (g0 : List Char), gapB .ws g0 = true → (∀ p ∈ l, tokOK p.1 = true) → layoutOK l = true →
    Lexes (g0 ++ (renderTG l ++ tail)) (l.map (·.1)) := by
  induction l with
  | nil => intro g0 hg _ _; simp only [renderTG, List.nil_append, List.map_nil]; exact .nil (next_gap_tail g0 tail hg ht)
  | cons p r ih =>
    intro g0 hg hok hl
    obtain ⟨t, g⟩ := p
    simp only [layoutOK, Bool.and_eq_true, Bool.or_eq_true, Bool.not_eq_true'] at hl
    have htk : tokOK t = true := hok (t, g) List.mem_cons_self
    simp only [renderTG, List.map_cons, List.append_assoc]
    refine .cons (tokOK_ne_eof t htk) (next_gap_tok g0 t _ hg htk ?_) ?_
      (ih g hl.1.1 (fun p hp => hok p (List.mem_cons_of_mem _ hp)) hl.2)
    · intro hn
      rcases hl.1.2 with h | h
      · rw [hn] at h; cases h
      · rw [← List.append_assoc]
        exact headNotName_append _ tail h (headNotName_tail tail ht)
    · have := tokText_length_pos t htk
      simp only [List.length_append]; omega

theorem lexes_render (l : List (Tok × List Char)) : ∀ (g0 : List Char), gapB .ws g0 = true →
    (∀ p ∈ l, tokOK p.1 = true) → layoutOK l = true → Lexes (g0 ++ renderTG l) (l.map (·.1)) := by
  intro g0 hg hok hl
  simpa using lexes_render_tail [] rfl l g0 hg hok hl


theorem tokOK_name (s : String) : tokOK (.name s.toList) = validName s := rfl

theorem isKw_iff (n : List Char) :
    isKw n = true ↔ n = "INPUT".toList ∨ n = "input".toList ∨ n = "OUTPUT".toList ∨ n = "output".toList := by
  simp only [isKw, Bool.or_eq_true, beq_iff_eq, or_assoc]
  rfl

theorem tokOK_kw (kw : List Char) (h : isKw kw = true) : tokOK (.name kw) = true := by
  rcases (isKw_iff kw).mp h with h | h | h | h <;> subst h <;> decide

theorem tailT_all (ns : List String) : (tailT ns).all tokOK = ns.all validName := by
  induction ns with
  | nil => rfl
  | cons n r ih => simp only [tailT, List.all_cons, ih, tokOK_name]; rfl

theorem paramT_all (ns : List String) : (paramT ns).all tokOK = ns.all validName := by
  cases ns with
  | nil => rfl
  | cons n r => simp only [paramT, List.all_cons, tailT_all, tokOK_name]; rfl

theorem stmtTK_all (kw : List Char) (st : BStmt) (hk : kwOK (kw, st) = true) (h : validStmt st = true) :
    (stmtTK kw st).all tokOK = true := by
  cases st with
  | intf ns => simp only [stmtTK, List.all_cons, paramT_all, tokOK_kw kw hk, Bool.true_and]; exact h
  | gate n k d =>
    simp only [validStmt, Bool.and_eq_true, Bool.not_eq_true'] at h
    simp only [stmtTK, stmtT, List.all_cons, paramT_all, tokOK_name, h.1.1.1, h.1.2, h.2]; rfl

theorem benchToksK_all (ks : List (List Char × BStmt)) (hk : kwsOK ks = true) (hv : ∀ p ∈ ks, validStmt p.2 = true) :
    (benchToksK ks).all tokOK = true := by
  simp only [benchToksK, List.all_flatMap, List.all_eq_true]
  intro p hp
  rw [← List.all_eq_true, stmtTGK_map]
  exact stmtTK_all p.1 p.2 (List.all_eq_true.mp hk p hp) (hv p hp)

theorem layoutOK_punct (t : Tok) (g : List Char) (rest : List (Tok × List Char)) (ht : t.isName = false)
    (hg : gapB .ws g = true) : layoutOK ((t, g) :: rest) = layoutOK rest := by
  simp only [layoutOK, hg, ht, Bool.not_false, Bool.true_or, Bool.and_self, Bool.true_and]

theorem layoutOK_name_gap (n g : List Char) (rest : List (Tok × List Char)) (hg : gapB .ws g = true) (hne : g ≠ []) :
    layoutOK ((.name n, g) :: rest) = layoutOK rest := by
  simp only [layoutOK, hg, gap_headNotName g _ hg hne, Bool.or_true, Bool.and_self, Bool.true_and]

theorem layoutOK_name_punct (n : List Char) (t : Tok) (g : List Char) (rest : List (Tok × List Char))
    (ht : headNotName (tokText t) = true) (hte : tokText t ≠ []) :
    layoutOK ((.name n, []) :: (t, g) :: rest) = layoutOK ((t, g) :: rest) := by
  have : headNotName ([] ++ renderTG ((t, g) :: rest)) = true := by
    simp only [List.nil_append, renderTG]
    cases htt : tokText t with
    | nil => exact absurd htt hte
    | cons c r => rw [htt] at ht; exact ht
  simp only [layoutOK, this, gapB, Bool.or_true, Bool.and_self, Bool.true_and]

theorem layout_names (ns : List String) (e : List Char) (he : gapB .ws e = true) (rest : List (Tok × List Char)) :
    layoutOK (namesTG ns ++ (.rpar, e) :: rest) = layoutOK rest := by
  fun_induction namesTG ns with
  | case1 => exact layoutOK_punct _ _ _ rfl he
  | case2 a =>
    simp only [List.cons_append, List.nil_append]
    rw [layoutOK_name_punct _ _ _ _ (by decide) (by decide)]
    exact layoutOK_punct _ _ _ rfl he
  | case3 a b r ih =>
    simp only [List.cons_append]
    rw [layoutOK_name_punct _ _ _ _ (by decide) (by decide), layoutOK_punct _ _ _ rfl (by decide)]
    exact ih

theorem layout_params (ns : List String) (e : List Char) (he : gapB .ws e = true) (rest : List (Tok × List Char)) :
    layoutOK (paramsTG ns e ++ rest) = layoutOK rest := by
  simp only [paramsTG, List.cons_append, List.append_assoc, List.nil_append]
  rw [layoutOK_punct _ _ _ rfl (by decide)]
  exact layout_names ns e he rest

theorem layout_stmt (e : List Char) (he : gapB .ws e = true) (st : BStmt) (rest : List (Tok × List Char)) :
    layoutOK (stmtTG e st ++ rest) = layoutOK rest := by
  cases st with
  | intf ns =>
    simp only [stmtTG, List.cons_append]
    simp only [paramsTG, List.cons_append]
    rw [layoutOK_name_punct _ _ _ _ (by decide) (by decide)]
    have := layout_params ns e he rest
    simp only [paramsTG, List.cons_append] at this
    exact this
  | gate n k d =>
    simp only [stmtTG, List.cons_append]
    rw [layoutOK_name_gap _ _ _ (by decide) (by decide), layoutOK_punct _ _ _ rfl (by decide)]
    simp only [paramsTG, List.cons_append]
    rw [layoutOK_name_punct _ _ _ _ (by decide) (by decide)]
    have := layout_params d e he rest
    simp only [paramsTG, List.cons_append] at this
    exact this

theorem layout_bench (stmts : List BStmt) : layoutOK (benchTG stmts) = true := by
  induction stmts with
  | nil => rfl
  | cons st rest ih => simp only [benchTG, List.flatMap_cons] at ih ⊢; rw [layout_stmt _ (by decide)]; exact ih

theorem layout_benchWith (sg : List (BStmt × List Char)) (hg : ∀ p ∈ sg, gapB .ws p.2 = true) : layoutOK (benchTGWith sg) = true := by
  induction sg with
  | nil => rfl
  | cons p rest ih =>
    simp only [benchTGWith, List.flatMap_cons] at ih ⊢
    rw [layout_stmt _ (hg p List.mem_cons_self)]
    exact ih (fun q hq => hg q (List.mem_cons_of_mem _ hq))

theorem benchTGWith_toks (sg : List (BStmt × List Char)) : (benchTGWith sg).map (·.1) = benchToks (sg.map (·.1)) := by
  induction sg with
  | nil => rfl
  | cons p rest ih =>
    simp only [List.map_cons, benchToks_cons, ← ih]
    simp only [benchTGWith, List.flatMap_cons, List.map_append, stmtTG_map]


theorem parse_layout_kw (ks : List (List Char × BStmt)) (hk : kwsOK ks = true) (hv : ∀ p ∈ ks, validStmt p.2 = true)
    (g0 tail : List Char) (l : List (Tok × List Char)) (hl : l.map (·.1) = benchToksK ks) (hg0 : gapB .ws g0 = true)
    (hlay : layoutOK l = true) (ht : tailOK tail = true) :
    parseChars (g0 ++ (renderTG l ++ tail)) = some (ks.map (·.2)) := by
  have hlex : Lexes (g0 ++ (renderTG l ++ tail)) (benchToksK ks) := by
    rw [← hl]
    refine lexes_render_tail tail ht l g0 hg0 (fun p hp => List.all_eq_true.mp (benchToksK_all ks hk hv) p.1 ?_) hlay
    rw [← hl]; exact List.mem_map_of_mem hp
  exact pStmts_okK ks _ _ hk hv hlex (by have := hlex.length_le; omega)

theorem kwsOK_canon (stmts : List BStmt) : kwsOK (stmts.map fun st => (kwInput, st)) = true := by
  simp only [kwsOK, List.all_map, List.all_eq_true]
  intro st _
  cases st <;> rfl

/-- `parse_layout_kw` at the canonical member of the keyword class -/
theorem parse_layout_tail (stmts : List BStmt) (hv : ∀ st ∈ stmts, validStmt st = true) (g0 tail : List Char)
    (l : List (Tok × List Char)) (hl : l.map (·.1) = benchToks stmts) (hg0 : gapB .ws g0 = true)
    (hlay : layoutOK l = true) (ht : tailOK tail = true) : parseChars (g0 ++ (renderTG l ++ tail)) = some stmts := by
  have := parse_layout_kw (stmts.map fun st => (kwInput, st)) (kwsOK_canon stmts) (by simpa using hv) g0 tail l
    (by rw [hl, benchToksK_canon]) hg0 hlay ht
  simpa [Function.comp_def] using this

theorem parse_layout (stmts : List BStmt) (hv : ∀ st ∈ stmts, validStmt st = true) (g0 : List Char)
    (l : List (Tok × List Char)) (hl : l.map (·.1) = benchToks stmts) (hg0 : gapB .ws g0 = true)
    (hlay : layoutOK l = true) : parseChars (g0 ++ renderTG l) = some stmts := by
  simpa using parse_layout_tail stmts hv g0 [] l hl hg0 hlay rfl

theorem parse_print (stmts : List BStmt) (hv : ∀ st ∈ stmts, validStmt st = true) :
    parseBench (printBench stmts) = some stmts := by
  simp only [parseBench, printBench, String.toList_ofList]
  exact parse_layout stmts hv [] (benchTG stmts) rfl rfl (layout_bench stmts)

/-- the class is exact: a statement-leading NAME that is NOT one of the four literals followed by `(` is a syntax error
(`Input(a)`, `OutPut(z)`: the name is read as an assignment target and `=` must follow) -/
theorem not_kw_not_interface (n : List Char) (hn : isKw n = false) (s : List Char) (ts : List Tok)
    (h : Lexes s (.name n :: .lpar :: ts)) : parseChars s = none := by
  obtain ⟨r1, hn1, h1⟩ := Lexes.cons_inv h
  obtain ⟨r2, hn2, _⟩ := Lexes.cons_inv h1
  simp only [parseChars, pStmts, hn1, hn, hn2, Bool.false_eq_true, if_false]

end KV.BenchText
