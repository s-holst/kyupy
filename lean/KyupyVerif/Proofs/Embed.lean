import KyupyVerif.Proofs.SubstVocab
/-! C10, circuits with parts removed (the engine of `elim_sem`, `remove_dangling_sem` and `substitute_sem_removing`): `Emb nn nn' r` — the
circuit `nn'` is `nn` with some nodes and lines removed and the rest renumbered; `r` = the index maps (new index ↦ old index).  Every
surviving node keeps its kind and reads, pin by pin, the same lines; every surviving line keeps its driver.  `EmbX` exempts the pins of a
set `X` of nodes (the state in the middle of a removal); embeddings compose (`EmbX.trans`: the exempt sets add up).
A labelling of `nn` that is consistent outside a set of holes (`ConsOff`), restricted to the surviving lines, is one of `nn'`
(`Emb.restrict`), and a labelling of `nn'` together with values for the removed lines that satisfy their equations is one of `nn`
(`Emb.extend`).  When every removed line is driven by a node that reads surviving lines only (`Emb.Det`) such values exist
(`Emb.extA`) and are unique outside the holes (`Emb.unique`). -/
namespace KV.Transform
open KV

/-- `X` = nodes of `nn'` whose input pins are exempt from `pins`: after `Line.remove()` the reader of the removed line has lost a pin
    entry (in `remove_dangling_nodes` that reader is the node being removed).  The semantic lemmas below need `Emb`, no node exempt -/
structure EmbX (nn nn' : NNet) (r : Ren) (X : Nat → Prop) : Prop where
  nodeLt : ∀ j', j' < nn'.net.nodes.size → r.node j' < nn.net.nodes.size
  lineLt : ∀ l', l' < nn'.net.lines.size → r.line l' < nn.net.lines.size
  nodeInj : ∀ j1 j2, j1 < nn'.net.nodes.size → j2 < nn'.net.nodes.size → r.node j1 = r.node j2 → j1 = j2
  lineInj : ∀ l1 l2, l1 < nn'.net.lines.size → l2 < nn'.net.lines.size → r.line l1 = r.line l2 → l1 = l2
  kind : ∀ j', j' < nn'.net.nodes.size → (nn'.net.node j').kind = (nn.net.node (r.node j')).kind
  name : ∀ j', j' < nn'.net.nodes.size → nn'.names.getD j' "" = nn.names.getD (r.node j') ""
  io : nn'.net.io.map r.node = nn.net.io
  ioLt : ∀ j ∈ nn'.net.io, j < nn'.net.nodes.size
  pins : ∀ j', j' < nn'.net.nodes.size → ¬ X j' → ∀ k, ((nn'.net.node j').inPin k).map r.line = (nn.net.node (r.node j')).inPin k
  -- the driver pin may differ at a fork: `Line.remove()` squeezes a fork's output list and renumbers (`renumberDpins`), and the
  -- equation of a line driven by a fork does not look at the pin (`lineEqN_fork_dpin`)
  drv : ∀ l', l' < nn'.net.lines.size → (nn'.net.line l').driver < nn'.net.nodes.size ∧
    (nn.net.line (r.line l')).driver = r.node (nn'.net.line l').driver ∧
    ((nn.net.line (r.line l')).dpin = (nn'.net.line l').dpin ∨ (nn'.net.node (nn'.net.line l').driver).isFork = true)

abbrev Emb (nn nn' : NNet) (r : Ren) : Prop := EmbX nn nn' r (fun _ => False)

theorem EmbX.mem_sNodes {nn nn' : NNet} {r : Ren} {X : Nat → Prop} (e : EmbX nn nn' r X) (j' : Nat) (hj : j' < nn'.net.nodes.size) :
    j' ∈ nn'.net.sNodes ↔ r.node j' ∈ nn.net.sNodes := by
  have hk := isDff_of_kind (e.kind j' hj)
  rw [_root_.KV.Transform.mem_sNodes nn'.net j', _root_.KV.Transform.mem_sNodes nn.net (r.node j'), hk.1, hk.2]
  have hio : j' ∈ nn'.net.io ↔ r.node j' ∈ nn.net.io := by
    rw [← e.io, List.mem_map]
    constructor
    · intro h; exact ⟨j', h, rfl⟩
    · rintro ⟨j0, h0, e0⟩
      have := e.nodeInj j0 j' (e.ioLt j0 h0) hj e0
      rw [← this]; exact h0
  rw [hio]
  simp only [hj, e.nodeLt j' hj, true_and]

theorem lineEqN_fork_dpin {α} (z : α) (neg : α → α) (prim : String → α → α → α → α → α) (kind : String) (dp1 dp2 : Nat)
    (spa : Option α) (pv : Nat → Option α) (hf : (⟨kind, [], []⟩ : NodeD).isFork = true) :
    lineEqN z neg prim kind dp1 spa pv = lineEqN z neg prim kind dp2 spa pv := by
  simp [lineEqN, (fork_not_seq hf).1]

theorem Emb.lineEq_eq {α : Type _} {nn nn' : NNet} {r : Ren} (e : Emb nn nn' r) (z : α) (neg : α → α)
    (prim : String → α → α → α → α → α) (an v : Nat → α) (l' : Nat) (hl : l' < nn'.net.lines.size) :
    lineEq nn'.net (spN nn'.net) z neg prim (fun j => an (r.node j)) (fun l => v (r.line l)) l' =
      lineEq nn.net (spN nn.net) z neg prim an v (r.line l') := by
  obtain ⟨hd, hdrv, hdp⟩ := e.drv l' hl
  rw [lineEq_eq_N, lineEq_eq_N, hdrv, ← e.kind _ hd]
  have hsp : (spN nn'.net (nn'.net.line l').driver).map (fun j => an (r.node j)) =
      (spN nn.net (r.node (nn'.net.line l').driver)).map an :=
    spN_map_congr (e.mem_sNodes _ hd) an _ fun _ => rfl
  have hpv : (fun k => ((nn'.net.node (nn'.net.line l').driver).inPin k).map (fun l => v (r.line l))) =
      (fun k => ((nn.net.node (r.node (nn'.net.line l').driver)).inPin k).map v) := by
    funext k
    rw [← e.pins _ hd (fun x => x) k, Option.map_map]; rfl
  rw [hsp, hpv]
  rcases hdp with hdp | hdp
  · rw [hdp]
  · apply lineEqN_fork_dpin
    simpa [NodeD.isFork] using hdp

theorem Emb.restrict {α : Type _} {nn nn' : NNet} {r : Ren} (e : Emb nn nn' r) (S : Nat → Prop) (z : α) (neg : α → α)
    (prim : String → α → α → α → α → α) (an v : Nat → α) (hc : ConsOff nn S z neg prim an v) :
    ConsOff nn' (fun j' => S (r.node j')) z neg prim (fun j => an (r.node j)) (fun l => v (r.line l)) := by
  intro l' hl hnS
  obtain ⟨_, hdrv, _⟩ := e.drv l' hl
  rw [e.lineEq_eq z neg prim an v l' hl]
  exact hc (r.line l') (e.lineLt l' hl) (by rw [hdrv]; exact hnS)

theorem Emb.extend {α : Type _} {nn nn' : NNet} {r : Ren} (e : Emb nn nn' r) (S : Nat → Prop) (z : α) (neg : α → α)
    (prim : String → α → α → α → α → α) (an v : Nat → α)
    (hc : ConsOff nn' (fun j' => S (r.node j')) z neg prim (fun j => an (r.node j)) (fun l => v (r.line l)))
    (hrem : ∀ l, l < nn.net.lines.size → (¬ ∃ l', l' < nn'.net.lines.size ∧ r.line l' = l) → ¬ S (nn.net.line l).driver →
      v l = lineEq nn.net (spN nn.net) z neg prim an v l) :
    ConsOff nn S z neg prim an v := by
  intro l hl hnS
  by_cases hi : ∃ l', l' < nn'.net.lines.size ∧ r.line l' = l
  · obtain ⟨l', hl', el⟩ := hi
    subst el
    obtain ⟨_, hdrv, _⟩ := e.drv l' hl'
    rw [← e.lineEq_eq z neg prim an v l' hl']
    exact hc l' hl' (by show ¬ S (r.node (nn'.net.line l').driver); rw [← hdrv]; exact hnS)
  · exact hrem l hl hi hnS

/-- every removed line is driven by a node that reads surviving lines only: its value is determined by the surviving ones -/
def Emb.Det (nn nn' : NNet) (r : Ren) : Prop :=
  ∀ l, l < nn.net.lines.size → (¬ ∃ l', l' < nn'.net.lines.size ∧ r.line l' = l) →
    ∀ k l0, (nn.net.node (nn.net.line l).driver).inPin k = some l0 → ∃ l', l' < nn'.net.lines.size ∧ r.line l' = l0

open Classical in
/-- `A` = the assignment `an` of `nn` is given.  A removed line that is driven by a hole takes the prescribed value `pre`; any other
    removed line carries what its driver computes from the surviving lines (`Emb.Det`): no acyclicity needed -/
theorem Emb.extA {α : Type _} (z : α) (neg : α → α) (prim : String → α → α → α → α → α) {nn nn' : NNet} {r : Ren}
    (c' : WFm nn') (e : Emb nn nn' r) (hdet : Emb.Det nn nn' r) (S : Nat → Prop) (pre an v' : Nat → α)
    (hc : ConsOff nn' (fun j' => S (r.node j')) z neg prim (fun j => an (r.node j)) v') :
    ∃ v, ConsOff nn S z neg prim an v ∧ (∀ l', l' < nn'.net.lines.size → v (r.line l') = v' l') ∧
      ∀ l, l < nn.net.lines.size → (¬ ∃ l', l' < nn'.net.lines.size ∧ r.line l' = l) → S (nn.net.line l).driver → v l = pre l := by
  let vb : Nat → α := fun l => if h : ∃ l', l' < nn'.net.lines.size ∧ r.line l' = l then v' (choose h) else z
  let v : Nat → α := fun l => if h : ∃ l', l' < nn'.net.lines.size ∧ r.line l' = l then v' (choose h)
    else if S (nn.net.line l).driver then pre l else lineEq nn.net (spN nn.net) z neg prim an vb l
  have hsel : ∀ (x : α) l', l' < nn'.net.lines.size →
      (if h : ∃ l'', l'' < nn'.net.lines.size ∧ r.line l'' = r.line l' then v' (choose h) else x) = v' l' := by
    intro x l' hl'
    have h : ∃ l'', l'' < nn'.net.lines.size ∧ r.line l'' = r.line l' := ⟨l', hl', rfl⟩
    rw [dif_pos h, e.lineInj _ _ (choose_spec h).1 hl' (choose_spec h).2]
  have hv : ∀ l', l' < nn'.net.lines.size → v (r.line l') = v' l' := fun l' => hsel _ l'
  have hvb : ∀ l', l' < nn'.net.lines.size → vb (r.line l') = v' l' := fun l' => hsel _ l'
  refine ⟨v, ?_, hv, fun l _ hni hS => by show (if h : _ then _ else _) = _; rw [dif_neg hni, if_pos hS]⟩
  apply e.extend S z neg prim an v
  · intro l hl hnS
    show v (r.line l) = _
    rw [hv l hl, hc l hl hnS]
    exact c'.lineEq_vals z neg prim _ _ _ _ (fun _ _ => rfl) (fun l hl => hv l hl) l hl
  · intro l hl hni hnS
    have hvl : v l = lineEq nn.net (spN nn.net) z neg prim an vb l := by
      show (if h : _ then _ else _) = _; rw [dif_neg hni, if_neg hnS]
    rw [hvl]
    refine KV.lineEq_congr nn.net _ _ z neg prim an vb v l rfl fun k l0 ho => ?_
    obtain ⟨l0', hl0', e0⟩ := hdet l hl hni k l0 ho
    rw [← e0, hv l0' hl0', hvb l0' hl0']

theorem Emb.unique {α : Type _} (z : α) (neg : α → α) (prim : String → α → α → α → α → α) {nn nn' : NNet} {r : Ren}
    (hdet : Emb.Det nn nn' r) (S : Nat → Prop) (an v1 v2 : Nat → α)
    (c1 : ConsOff nn S z neg prim an v1) (c2 : ConsOff nn S z neg prim an v2)
    (hag : ∀ l', l' < nn'.net.lines.size → v1 (r.line l') = v2 (r.line l')) :
    ∀ l, l < nn.net.lines.size → ¬ S (nn.net.line l).driver → v1 l = v2 l := by
  intro l hl hnS
  by_cases hi : ∃ l', l' < nn'.net.lines.size ∧ r.line l' = l
  · obtain ⟨l', hl', e⟩ := hi; rw [← e]; exact hag l' hl'
  · rw [c1 l hl hnS, c2 l hl hnS]
    refine KV.lineEq_congr nn.net _ _ z neg prim an v1 v2 l rfl fun k l0 ho => ?_
    obtain ⟨l0', hl0', e0⟩ := hdet l hl hi k l0 ho
    rw [← e0, hag l0' hl0']

theorem Emb.refl (nn : NNet) (hio : ∀ i ∈ nn.net.io, i < nn.net.nodes.size)
    (hd : ∀ l, l < nn.net.lines.size → (nn.net.line l).driver < nn.net.nodes.size) : Emb nn nn Ren.id :=
  ⟨fun _ h => h, fun _ h => h, fun _ _ _ _ h => h, fun _ _ _ _ h => h, fun _ _ => rfl, fun _ _ => rfl, List.map_id' _, hio,
   fun j _ _ k => by show ((nn.net.node j).inPin k).map (fun l => l) = (nn.net.node j).inPin k; simp, fun l hl => ⟨hd l hl, rfl, Or.inl rfl⟩⟩

theorem EmbX.trans {a b c : NNet} {r1 r2 : Ren} {X1 X2 : Nat → Prop} (h1 : EmbX a b r1 X1) (h2 : EmbX b c r2 X2) :
    EmbX a c (r1.comp r2) (fun j => X2 j ∨ X1 (r2.node j)) := by
  refine ⟨fun j h => h1.nodeLt _ (h2.nodeLt j h), fun l h => h1.lineLt _ (h2.lineLt l h), ?_, ?_, ?_, ?_, ?_, h2.ioLt, ?_, ?_⟩
  · intro j1 j2 l1 l2 e
    exact h2.nodeInj j1 j2 l1 l2 (h1.nodeInj _ _ (h2.nodeLt _ l1) (h2.nodeLt _ l2) e)
  · intro j1 j2 l1 l2 e
    exact h2.lineInj j1 j2 l1 l2 (h1.lineInj _ _ (h2.lineLt _ l1) (h2.lineLt _ l2) e)
  · intro j h; exact (h2.kind j h).trans (h1.kind _ (h2.nodeLt j h))
  · intro j h; exact (h2.name j h).trans (h1.name _ (h2.nodeLt j h))
  · have : c.net.io.map (r1.comp r2).node = (c.net.io.map r2.node).map r1.node := by
      rw [List.map_map]; rfl
    rw [this, h2.io, h1.io]
  · intro j hj hX k
    have hx2 : ¬ X2 j := fun x => hX (Or.inl x)
    have hx1 : ¬ X1 (r2.node j) := fun x => hX (Or.inr x)
    have := h1.pins _ (h2.nodeLt j hj) hx1 k
    rw [← h2.pins j hj hx2 k, Option.map_map] at this
    exact this
  · intro l hl
    obtain ⟨d2, e2, p2⟩ := h2.drv l hl
    obtain ⟨d1, e1, p1⟩ := h1.drv _ (h2.lineLt l hl)
    refine ⟨d2, ?_, ?_⟩
    · show (a.net.line (r1.line (r2.line l))).driver = r1.node (r2.node (c.net.line l).driver)
      rw [e1, e2]
    · show (a.net.line (r1.line (r2.line l))).dpin = (c.net.line l).dpin ∨ _
      have hk : (c.net.node (c.net.line l).driver).isFork = (b.net.node (b.net.line (r2.line l)).driver).isFork := by
        rw [e2]; exact isFork_of_kind_eq (h2.kind _ d2)
      rcases p1 with p1 | p1
      · rcases p2 with p2 | p2
        · exact Or.inl (p1.trans p2)
        · exact Or.inr p2
      · exact Or.inr (by rw [hk]; exact p1)

theorem EmbX.weaken {a b : NNet} {r : Ren} {X X' : Nat → Prop} (h : EmbX a b r X) (hXX : ∀ j, j < b.net.nodes.size → X j → X' j) :
    EmbX a b r X' :=
  { h with pins := fun j hj hx k => h.pins j hj (fun x => hx (hXX j hj x)) k }

end KV.Transform
