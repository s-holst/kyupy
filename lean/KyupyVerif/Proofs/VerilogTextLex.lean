import KyupyVerif.Model.VerilogText
import KyupyVerif.Proofs.TextLex
/-! Lexer side of the round trip for the Verilog text model (`Model/VerilogText.lean`): a token list printed with any
layout (`layoutOK`) lexes back to itself (`lexes_render`), each token pulled in its own lexer context. -/
namespace KV.VerilogText
open KV.TextLex (beq_false_of_pred)

/-- pulling tokens from `s`, each in the listed context, yields the list, then the end of the text (`t ≠ .eof` and the length
condition serve `length_le`, i.e. the fuel of `parseChars`) -/
inductive Lexes : List Char → List CT → Prop
  | nil {s : List Char} : next .top s = some (.eof, []) → Lexes s []
  | cons {s r : List Char} {c : Ctx} {t : Tok} {ts : List CT} :
      t ≠ .eof → next c s = some (t, r) → r.length < s.length → Lexes r ts → Lexes s ((c, t) :: ts)

theorem Lexes.length_le {s : List Char} {ts : List CT} (h : Lexes s ts) : ts.length ≤ s.length := by
  induction h with
  | nil _ => simp
  | cons _ _ hl _ ih => simp only [List.length_cons]; omega

theorem Lexes.cons_inv {s : List Char} {c : Ctx} {t : Tok} {ts : List CT} (h : Lexes s ((c, t) :: ts)) :
    ∃ r, next c s = some (t, r) ∧ Lexes r ts := by
  cases h with
  | cons _ hn _ hr => exact ⟨_, hn, hr⟩

theorem Lexes.nil_inv {s : List Char} (h : Lexes s []) : next .top s = some (.eof, []) := by
  cases h with
  | nil hn => exact hn

theorem skipV_gap (m : Mode) (g : List Char) : gapV m g = true → ∀ x, skipV m (g ++ x) = skipV .ws x := by
  fun_induction gapV m g <;> intro h x <;> simp_all [skipV]

def startOK (c : Char) : Bool :=
  !(c == ' ' || c == '\t' || c == '\x0c' || c == '\n') && !(c == '\r') && !(c == '/') && !(c == '(')

theorem skipV_start (c : Char) (y : List Char) (h : startOK c = true) : skipV .ws (c :: y) = some (c :: y) := by
  simp only [startOK, Bool.and_eq_true, Bool.not_eq_true'] at h
  simp only [skipV, h.1.1.1, h.1.1.2, h.1.2, h.2, Bool.false_eq_true, if_false]

theorem startOK_of_pred (p : Char → Bool) (c : Char) (hc : p c = true) (h1 : p ' ' = false) (h2 : p '\t' = false)
    (h3 : p '\x0c' = false) (h4 : p '\n' = false) (h5 : p '\r' = false) (h6 : p '/' = false) (h7 : p '(' = false) :
    startOK c = true := by
  simp only [startOK, beq_false_of_pred p hc h1, beq_false_of_pred p hc h2, beq_false_of_pred p hc h3,
    beq_false_of_pred p hc h4, beq_false_of_pred p hc h5, beq_false_of_pred p hc h6, beq_false_of_pred p hc h7,
    Bool.or_self, Bool.not_false, Bool.and_self]

theorem startOK_idStart (c : Char) (hc : isIdStart c = true) : startOK c = true :=
  startOK_of_pred isIdStart c hc (by decide) (by decide) (by decide) (by decide) (by decide) (by decide) (by decide)

theorem startOK_digit (c : Char) (hc : c.isDigit = true) : startOK c = true :=
  startOK_of_pred Char.isDigit c hc (by decide) (by decide) (by decide) (by decide) (by decide) (by decide) (by decide)

def tokOK : CT → Bool
  | (.gen, .word w) => isIdentWord w || isConstWord w
  | (.gen, .esc s) => !s.isEmpty && s.all notEscTerm
  | (.num, .num ds) => !ds.isEmpty && ds.all Char.isDigit
  | (.gen, .sym c) => isSym c
  | (.top, .modkw) => true
  | _ => false

theorem takeWhile_append_stop {p : Char → Bool} (a y : List Char) (ha : a.all p = true) (hy : headNot p y = true) :
    (a ++ y).takeWhile p = a ∧ (a ++ y).dropWhile p = y := by
  have hall : ∀ x ∈ a, p x = true := by simpa using ha
  rw [List.takeWhile_append_of_pos hall, List.dropWhile_append_of_pos hall]
  cases y with
  | nil => simp
  | cons d y' =>
    simp only [headNot, Bool.not_eq_true'] at hy
    simp [hy]

theorem headNot_mono {p q : Char → Bool} (h : ∀ c, q c = true → p c = true) (y : List Char) (hy : headNot p y = true) :
    headNot q y = true := by
  cases y with
  | nil => rfl
  | cons d y' =>
    simp only [headNot, Bool.not_eq_true'] at hy ⊢
    cases hq : q d with
    | false => rfl
    | true => rw [h d hq] at hy; cases hy

theorem isIdChar_of_digit (c : Char) (h : c.isDigit = true) : isIdChar c = true := by
  simp [isIdChar, h]

theorem isIdChar_of_hex (c : Char) (h : isHex c = true) : isIdChar c = true := by
  simp only [isHex, Bool.or_eq_true, Bool.and_eq_true, decide_eq_true_eq] at h
  simp only [isIdChar, KV.BenchText.isLetter, Bool.or_eq_true, Bool.and_eq_true, decide_eq_true_eq]
  rcases h with (h | h) | h
  · exact Or.inl (Or.inr h)
  · exact Or.inl (Or.inl (Or.inl (Or.inl (Or.inl (Or.inl (Or.inl ⟨by omega, by omega⟩))))))
  · exact Or.inl (Or.inl (Or.inl (Or.inl (Or.inl (Or.inl (Or.inr ⟨by omega, by omega⟩))))))

theorem isSym_false_of_pred (p : Char → Bool) (c : Char) (hc : p c = true)
    (h : p ';' = false ∧ p '(' = false ∧ p ')' = false ∧ p ',' = false ∧ p '.' = false ∧ p '[' = false ∧ p ']' = false ∧
      p ':' = false ∧ p '=' = false ∧ p '{' = false ∧ p '}' = false) : isSym c = false := by
  obtain ⟨h1, h2, h3, h4, h5, h6, h7, h8, h9, h10, h11⟩ := h
  simp only [isSym, beq_false_of_pred p hc h1, beq_false_of_pred p hc h2, beq_false_of_pred p hc h3,
    beq_false_of_pred p hc h4, beq_false_of_pred p hc h5, beq_false_of_pred p hc h6, beq_false_of_pred p hc h7,
    beq_false_of_pred p hc h8, beq_false_of_pred p hc h9, beq_false_of_pred p hc h10, beq_false_of_pred p hc h11, Bool.or_self]

theorem nextRaw_ident (w y : List Char) (hw : isIdentWord w = true) (hy : headNot isIdChar y = true) :
    nextRaw .gen (w ++ y) = some (.word w, y) := by
  cases w with
  | nil => simp [isIdentWord] at hw
  | cons c r =>
    simp only [isIdentWord, Bool.and_eq_true] at hw
    have hs : isSym c = false := isSym_false_of_pred isIdStart c hw.1 (by decide)
    have := takeWhile_append_stop r y hw.2 hy
    simp only [List.cons_append, nextRaw, hs, hw.1, this.1, this.2, Bool.false_eq_true, if_false, if_true]

theorem not_idStart_of_digit (c : Char) (h : c.isDigit = true) : isIdStart c = false := by
  have hd := Char.isDigit_iff_toNat.mp h
  have h2 : (c == '_') = false := beq_false_of_pred Char.isDigit h (by decide)
  simp only [isIdStart, KV.BenchText.isLetter, h2, Bool.or_false, Bool.or_eq_false_iff, Bool.and_eq_false_iff,
    decide_eq_false_iff_not, beq_eq_false_iff_ne]
  simp only [Char.reduceToNat] at hd
  omega

theorem constWord_parts (w : List Char) (hw : isConstWord w = true) :
    ∃ c ds b h hs, w = c :: ds ++ '\'' :: b :: h :: hs ∧ c.isDigit = true ∧ ds.all Char.isDigit = true ∧
      isBase b = true ∧ isHex h = true ∧ hs.all isHex = true := by
  unfold isConstWord at hw
  split at hw
  · next q b h rest hd =>
    simp only [Bool.and_eq_true, Bool.not_eq_true', beq_iff_eq] at hw
    obtain ⟨⟨⟨⟨h1, h2⟩, h3⟩, h4⟩, h5⟩ := hw
    have hsplit := List.takeWhile_append_dropWhile (p := Char.isDigit) (l := w)
    rw [hd, h2] at hsplit
    have hall : (w.takeWhile Char.isDigit).all Char.isDigit = true := List.all_takeWhile
    cases htw : w.takeWhile Char.isDigit with
    | nil => rw [htw] at h1; simp at h1
    | cons c ds =>
      rw [htw] at hsplit hall
      simp only [List.all_cons, Bool.and_eq_true] at hall
      exact ⟨c, ds, b, h, rest, hsplit.symm, hall.1, hall.2, h3, h4, h5⟩
  · cases hw

theorem nextRaw_const (w y : List Char) (hw : isConstWord w = true) (hy : headNot isIdChar y = true) :
    nextRaw .gen (w ++ y) = some (.word w, y) := by
  obtain ⟨c, ds, b, h, hs, rfl, hc, hds, hb, hh, hhs⟩ := constWord_parts w hw
  have hs1 : isSym c = false := isSym_false_of_pred Char.isDigit c hc (by decide)
  have hs2 : isIdStart c = false := not_idStart_of_digit c hc
  have hs3 : (c == '\\') = false := beq_false_of_pred Char.isDigit hc (by decide)
  have hq : headNot Char.isDigit ('\'' :: b :: h :: (hs ++ y)) = true := by simp [headNot]
  have h1 := takeWhile_append_stop ds ('\'' :: b :: h :: (hs ++ y)) hds hq
  have h2 := takeWhile_append_stop hs y hhs (headNot_mono isIdChar_of_hex y hy)
  simp only [List.cons_append, List.append_assoc, nextRaw, hs1, hs2, hs3, hc, Bool.false_eq_true, if_false, if_true, constTok,
    h1.1, h1.2, hb, hh, h2.1, h2.2, beq_self_eq_true, Bool.and_self]

theorem nextRaw_word (w y : List Char) (hw : tokOK (.gen, .word w) = true) (hy : headNot isIdChar y = true) :
    nextRaw .gen (w ++ y) = some (.word w, y) := by
  simp only [tokOK, Bool.or_eq_true] at hw
  rcases hw with hw | hw
  · exact nextRaw_ident w y hw hy
  · exact nextRaw_const w y hw hy

theorem nextRaw_esc (s : List Char) (e : Char) (y : List Char) (hs : tokOK (.gen, .esc s) = true) (he : isEscTerm e = true) :
    nextRaw .gen ('\\' :: s ++ e :: y) = some (.esc s, y) := by
  simp only [tokOK, Bool.and_eq_true, Bool.not_eq_true'] at hs
  have hq : headNot notEscTerm (e :: y) = true := by simp [headNot, notEscTerm, he]
  have h1 := takeWhile_append_stop s (e :: y) hs.2 hq
  have h0 : isSym '\\' = false := by decide
  have h0' : isIdStart '\\' = false := by decide
  simp only [List.cons_append, nextRaw, h0, h0', Bool.false_eq_true, if_false, beq_self_eq_true, if_true, escTok, h1.1, h1.2, hs.1]

theorem nextRaw_num (ds y : List Char) (hs : tokOK (.num, .num ds) = true) (hy : headNot isIdChar y = true) :
    nextRaw .num (ds ++ y) = some (.num ds, y) := by
  simp only [tokOK, Bool.and_eq_true, Bool.not_eq_true'] at hs
  cases ds with
  | nil => simp at hs
  | cons c r =>
    simp only [List.all_cons, Bool.and_eq_true] at hs
    have h1 := takeWhile_append_stop r y hs.2.2 (headNot_mono isIdChar_of_digit y hy)
    simp only [List.cons_append, nextRaw, hs.2.1, if_true, h1.1, h1.2]

theorem nextRaw_sym (c : Char) (y : List Char) (hs : isSym c = true) : nextRaw .gen (c :: y) = some (.sym c, y) := by
  simp only [nextRaw, hs, if_true]

theorem nextRaw_modkw (y : List Char) : nextRaw .top (kwModule ++ y) = some (.modkw, y) := by
  simp [kwModule, nextRaw, List.isPrefixOf]

/-- what is left of the gap when the token has been pulled: an escaped identifier takes the first character with it -/
def afterGap (t : Tok) (g : List Char) : List Char :=
  match t with
  | .esc _ => g.drop 1
  | _ => g

theorem startOK_sym (c : Char) (hs : isSym c = true) (hc : (c == '(') = false) : startOK c = true := by
  simp only [isSym, Bool.or_eq_true, beq_iff_eq] at hs
  rcases hs with (((((((((h | h) | h) | h) | h) | h) | h) | h) | h) | h) | h <;> subst h <;> first | decide | (simp at hc)

theorem skipV_lp (y : List Char) (hy : headNot (· == '*') y = true) : skipV .ws ('(' :: y) = some ('(' :: y) := by
  cases y with
  | nil => rfl
  | cons d y' =>
    simp only [headNot, Bool.not_eq_true'] at hy
    simp [skipV, hy]

theorem tokOK_cases (ct : CT) (h : tokOK ct = true) :
    (∃ w, ct = (.gen, .word w) ∧ (isIdentWord w = true ∨ isConstWord w = true)) ∨
    (∃ s, ct = (.gen, .esc s) ∧ s.isEmpty = false ∧ s.all notEscTerm = true) ∨
    (∃ ds, ct = (.num, .num ds) ∧ ds.isEmpty = false ∧ ds.all Char.isDigit = true) ∨
    (∃ c, ct = (.gen, .sym c) ∧ isSym c = true) ∨ ct = (.top, .modkw) := by
  obtain ⟨c, t⟩ := ct
  cases c <;> cases t <;> simp_all [tokOK]

/-- the first character of a token starts no ignorable item (for `(` that depends on the character behind it) and is not `*` -/
theorem tokText_head (ct : CT) (h : tokOK ct = true) :
    ∃ c r, tokText ct.2 = c :: r ∧ (startOK c = true ∨ ct.2 = .sym '(') ∧ c ≠ '*' := by
  rcases tokOK_cases ct h with ⟨w, rfl, hw | hw⟩ | ⟨s, rfl, -⟩ | ⟨ds, rfl, hne, hd⟩ | ⟨c, rfl, hc⟩ | rfl
  · cases w with
    | nil => simp [isIdentWord] at hw
    | cons d r =>
      simp only [isIdentWord, Bool.and_eq_true] at hw
      exact ⟨d, r, rfl, Or.inl (startOK_idStart d hw.1), by intro e; subst e; exact absurd hw.1 (by decide)⟩
  · obtain ⟨d, ds, b, h, hs, rfl, hd, -⟩ := constWord_parts w hw
    exact ⟨d, _, rfl, Or.inl (startOK_digit d hd), by intro e; subst e; exact absurd hd (by decide)⟩
  · exact ⟨'\\', s, rfl, Or.inl (by decide), by decide⟩
  · cases ds with
    | nil => simp at hne
    | cons d r =>
      simp only [List.all_cons, Bool.and_eq_true] at hd
      exact ⟨d, r, rfl, Or.inl (startOK_digit d hd.1), by intro e; subst e; exact absurd hd.1 (by decide)⟩
  · refine ⟨c, [], rfl, ?_, by intro e; subst e; exact absurd hc (by decide)⟩
    cases hd : (c == '(') with
    | false => exact Or.inl (startOK_sym c hc hd)
    | true => rw [eq_of_beq hd]; exact Or.inr rfl
  · exact ⟨'m', _, rfl, Or.inl (by decide), by decide⟩

theorem skipV_tok (ct : CT) (g rest : List Char) (hok : tokOK ct = true) (hg : gapOK ct.2 g rest = true) :
    skipV .ws (tokText ct.2 ++ (g ++ rest)) = some (tokText ct.2 ++ (g ++ rest)) := by
  obtain ⟨c, r, e, hs | hs, -⟩ := tokText_head ct hok
  · rw [e]; exact skipV_start c _ hs
  · rw [hs] at hg ⊢
    simp only [gapOK, Bool.and_eq_true, Bool.or_eq_true, bne_iff_ne, ne_eq] at hg
    rcases hg.2 with h | h
    · exact absurd trivial h
    · exact skipV_lp _ h

theorem nextRaw_tok (ct : CT) (g rest : List Char) (hok : tokOK ct = true) (hg : gapOK ct.2 g rest = true) :
    nextRaw ct.1 (tokText ct.2 ++ (g ++ rest)) = some (ct.2, afterGap ct.2 g ++ rest) := by
  rcases tokOK_cases ct hok with ⟨w, rfl, -⟩ | ⟨s, rfl, -⟩ | ⟨ds, rfl, -⟩ | ⟨c, rfl, hc⟩ | rfl
  · simp only [gapOK, Bool.and_eq_true] at hg
    exact nextRaw_word w _ hok hg.2
  · cases g with
    | nil => simp [gapOK] at hg
    | cons e g' =>
      simp only [gapOK, Bool.and_eq_true] at hg
      exact nextRaw_esc s e _ hok hg.1
  · simp only [gapOK, Bool.and_eq_true] at hg
    exact nextRaw_num ds _ hok hg.2
  · exact nextRaw_sym c _ hc
  · exact nextRaw_modkw _

theorem gapV_afterGap (t : Tok) (g rest : List Char) (hg : gapOK t g rest = true) : gapV .ws (afterGap t g) = true := by
  cases t with
  | esc s =>
    cases g with
    | nil => simp [gapOK] at hg
    | cons e g' => simp only [gapOK, Bool.and_eq_true] at hg; exact hg.2
  | eof => simp [gapOK] at hg
  | word w => simp only [gapOK, Bool.and_eq_true] at hg; exact hg.1
  | num w => simp only [gapOK, Bool.and_eq_true] at hg; exact hg.1
  | sym w => simp only [gapOK, Bool.and_eq_true] at hg; exact hg.1
  | modkw => exact hg

theorem afterGap_length (t : Tok) (g : List Char) : (afterGap t g).length ≤ g.length := by
  cases t <;> simp [afterGap]

theorem tokText_pos (ct : CT) (hok : tokOK ct = true) : 0 < (tokText ct.2).length := by
  obtain ⟨c, r, e, -⟩ := tokText_head ct hok
  simp [e]

theorem tokOK_ne_eof (ct : CT) (hok : tokOK ct = true) : ct.2 ≠ .eof := by
  rcases tokOK_cases ct hok with ⟨_, rfl, -⟩ | ⟨_, rfl, -⟩ | ⟨_, rfl, -⟩ | ⟨_, rfl, -⟩ | rfl <;> exact fun h => nomatch h

theorem next_gap_tok (g0 : List Char) (ct : CT) (g rest : List Char) (hg0 : gapV .ws g0 = true) (hok : tokOK ct = true)
    (hg : gapOK ct.2 g rest = true) :
    next ct.1 (g0 ++ (tokText ct.2 ++ (g ++ rest))) = some (ct.2, afterGap ct.2 g ++ rest) := by
  rw [next, skipV_gap .ws g0 hg0, skipV_tok ct g rest hok hg]
  exact nextRaw_tok ct g rest hok hg

theorem next_end (g0 : List Char) (hg0 : gapV .ws g0 = true) : next .top g0 = some (.eof, []) := by
  have := skipV_gap .ws g0 hg0 []
  rw [List.append_nil] at this
  rw [next, this]; rfl

theorem lexes_render (l : List (CT × List Char)) : ∀ (g0 : List Char), gapV .ws g0 = true →
    (∀ p ∈ l, tokOK p.1 = true) → layoutOK l = true → Lexes (g0 ++ renderL l) (l.map (·.1)) := by
  induction l with
  | nil => intro g0 hg _ _; simp only [renderL, List.append_nil, List.map_nil]; exact .nil (next_end g0 hg)
  | cons p r ih =>
    intro g0 hg0 hok hl
    obtain ⟨ct, g⟩ := p
    simp only [layoutOK, Bool.and_eq_true] at hl
    have ht : tokOK ct = true := hok (ct, g) List.mem_cons_self
    simp only [renderL, List.map_cons]
    have hnext := next_gap_tok g0 ct g (renderL r) hg0 ht hl.1
    refine .cons (c := ct.1) (t := ct.2) (tokOK_ne_eof ct ht) hnext ?_
      (ih _ (gapV_afterGap ct.2 g _ hl.1) (fun p hp => hok p (List.mem_cons_of_mem _ hp)) hl.2)
    have h1 := tokText_pos ct ht
    have h2 := afterGap_length ct.2 g
    simp only [List.length_append]; omega

/-- pulling tokens from `s`, each in the listed context, yields SPELLINGS of the listed (canonical) tokens, then the end -/
inductive LexesC : List Char → List CT → Prop
  | nil {s : List Char} : next .top s = some (.eof, []) → LexesC s []
  | cons {s r : List Char} {c : Ctx} {a t : Tok} {ts : List CT} :
      a ≠ .eof → next c s = some (a, r) → r.length < s.length → sameTok a t = true → LexesC r ts → LexesC s ((c, t) :: ts)

theorem LexesC.length_le {s : List Char} {ts : List CT} (h : LexesC s ts) : ts.length ≤ s.length := by
  induction h with
  | nil _ => simp
  | cons _ _ hl _ _ ih => simp only [List.length_cons]; omega

theorem LexesC.cons_inv {s : List Char} {c : Ctx} {t : Tok} {ts : List CT} (h : LexesC s ((c, t) :: ts)) :
    ∃ a r, next c s = some (a, r) ∧ sameTok a t = true ∧ LexesC r ts := by
  cases h with
  | cons _ hn _ hs hr => exact ⟨_, _, hn, hs, hr⟩

theorem LexesC.nil_inv {s : List Char} (h : LexesC s []) : next .top s = some (.eof, []) := by
  cases h with
  | nil hn => exact hn

theorem sameTok_refl (t : Tok) : sameTok t t = true := by simp [sameTok]

theorem lexesC_of_spells {s : List Char} {as : List CT} (h : Lexes s as) : ∀ (ts : List CT), spellsB as ts = true → LexesC s ts := by
  induction h with
  | nil hn =>
    intro ts hs
    cases ts with
    | nil => exact .nil hn
    | cons _ _ => simp [spellsB] at hs
  | cons hne hn hl _ ih =>
    intro ts hs
    cases ts with
    | nil => simp [spellsB] at hs
    | cons ct ts' =>
      obtain ⟨c', t⟩ := ct
      simp only [spellsB, Bool.and_eq_true, beq_iff_eq] at hs
      obtain ⟨⟨hc, hst⟩, hr⟩ := hs
      subst hc
      exact .cons hne hn hl hst (ih ts' hr)

theorem spellsB_refl (ts : List CT) : spellsB ts ts = true := by
  induction ts with
  | nil => rfl
  | cons ct r ih => obtain ⟨c, t⟩ := ct; simp [spellsB, sameTok_refl, ih]

/-- tokens with one spelling only: literals, `module`, keyword words -/
theorem sameTok_sym {a : Tok} {c : Char} (h : sameTok a (.sym c) = true) : a = .sym c := by
  cases a <;> simp_all [sameTok]

theorem sameTok_modkw {a : Tok} (h : sameTok a .modkw = true) : a = .modkw := by
  cases a <;> simp_all [sameTok]

theorem sameTok_kw {a : Tok} {w : List Char} (hk : (kwOf w).isNone = false) (h : sameTok a (.word w) = true) : a = .word w := by
  cases a <;> simp_all [sameTok]

theorem sameTok_of_sym {c : Char} {t : Tok} (h : sameTok (.sym c) t = true) : t = .sym c := by
  cases t <;> simp_all [sameTok]

theorem sameTok_num {a : Tok} {ds : List Char} (h : sameTok a (.num ds) = true) :
    ∃ ds', a = .num ds' ∧ numVal ds' = numVal ds := by
  cases a with
  | num ds' =>
    refine ⟨ds', rfl, ?_⟩
    simp only [sameTok, Bool.or_eq_true, beq_iff_eq, Bool.and_eq_true] at h
    rcases h with h | h
    · cases h; rfl
    · exact h.2
  | _ => simp_all [sameTok]

theorem sameTok_tokName {a t : Tok} (h : sameTok a t = true) : tokName a = tokName t := by
  cases a <;> cases t <;> simp_all [sameTok, tokName]

end KV.VerilogText
