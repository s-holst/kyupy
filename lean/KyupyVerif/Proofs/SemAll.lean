import KyupyVerif.Proofs.SpecRel
import KyupyVerif.Gen.Tables
import KyupyVerif.Gen.Ops2
import KyupyVerif.Gen.Ops4
import KyupyVerif.Gen.Sem8
/-! The generated dispatchers `sem2n/sem2p/sem2c/sem4/sem8` (what the real if/elif chains compute for an op code)
against the specification, for every `(name, LUT code)` of `sim.names` (`Gen.prims`) and all operand tuples.

8- and 4-valued: on all tuples at once (`lanes8`, `lanes4`) the dispatch chain of a code is the composition `primExpr`
read over the recorded bit-parallel operators `bp8v_*` / `bp4v_*`, and those are the documented operators by C12
(`bp8_*_spec`, `bp4_*_spec`).  2-valued: tuple by tuple (`chk2`, `chk2_sound`); `chk8` / `chk4` are the same form of check for
the other two logics, which no theorem uses. -/
namespace KV

abbrev GOp8 := P3 Bool → P3 Bool → P3 Bool → P3 Bool → P3 Bool
abbrev GOp4 := P2 Bool → P2 Bool → P2 Bool → P2 Bool → P2 Bool
abbrev GOp2 := Bool → Bool → Bool → Bool → Bool

def agree8 (g : GOp8) (f : Op8) : Bool :=
  V3.all.all fun a => V3.all.all fun b => V3.all.all fun c => V3.all.all fun d =>
    (g (.ofV3 a) (.ofV3 b) (.ofV3 c) (.ofV3 d)).toV3 == f a b c d

def agree4 (g : GOp4) (f : Op4) : Bool :=
  V2.all.all fun a => V2.all.all fun b => V2.all.all fun c => V2.all.all fun d =>
    (g (.ofV2 a) (.ofV2 b) (.ofV2 c) (.ofV2 d)).toV2 == f a b c d

/-- table entry (name, LUT code, generated function) agrees with `comp8 name` on every operand tuple -/
def chk8 (e : String × Nat × GOp8) : Bool :=
  match comp8 e.1 with
  | none => false
  | some f => agree8 e.2.2 f

def chk4 (e : String × Nat × GOp4) : Bool :=
  match comp4 e.1 with
  | none => false
  | some f => agree4 e.2.2 f

/-- 2-valued: generated function equals the LUT bit of its code and the documented formula -/
def chk2 (e : String × Nat × GOp2) : Bool :=
  bools.all fun a => bools.all fun b => bools.all fun c => bools.all fun d =>
    e.2.2 a b c d == lutBit4 e.2.1 a b c d && formula e.1 a b c d == some (e.2.2 a b c d)

theorem bools_complete (b : Bool) : b ∈ bools := by cases b <;> decide

theorem chk2_sound {e : String × Nat × GOp2} (h : chk2 e = true) (a b c d : Bool) :
    e.2.2 a b c d = lutBit4 e.2.1 a b c d ∧ formula e.1 a b c d = some (e.2.2 a b c d) := by
  simp only [chk2, List.all_eq_true, Bool.and_eq_true, beq_iff_eq] at h
  exact h a (bools_complete a) b (bools_complete b) c (bools_complete c) d (bools_complete d)


/-- the algebra of the recorded bit-parallel operators of `logic.py`, 8-valued -/
def bp8 (α : Type) [BAlg α] : Alg (P3 α) where
  not := Gen.bp8v_not1
  op2 | .and => Gen.bp8v_and2 | .or => Gen.bp8v_or2 | .xor => Gen.bp8v_xor2
  op3 | .and => Gen.bp8v_and3 | .or => Gen.bp8v_or3 | .xor => Gen.bp8v_xor3
  op4 | .and => Gen.bp8v_and4 | .or => Gen.bp8v_or4 | .xor => Gen.bp8v_xor4

def bp4 (α : Type) [BAlg α] : Alg (P2 α) where
  not := Gen.bp4v_not1
  op2 | .and => Gen.bp4v_and2 | .or => Gen.bp4v_or2 | .xor => Gen.bp4v_xor2
  op3 | .and => Gen.bp4v_and3 | .or => Gen.bp4v_or3 | .xor => Gen.bp4v_xor3
  op4 | .and => Gen.bp4v_and4 | .or => Gen.bp4v_or4 | .xor => Gen.bp4v_xor4

theorem bp8_hom {α β : Type} [BAlg α] [BAlg β] (h : BHom α β) : Alg.Rel (fun p q => h.f3 p = q) (bp8 α) (bp8 β) :=
  .of_map _ (Gen.bp8v_not1_hom h)
    (fun | .and => Gen.bp8v_and2_hom h | .or => Gen.bp8v_or2_hom h | .xor => Gen.bp8v_xor2_hom h)
    (fun | .and => Gen.bp8v_and3_hom h | .or => Gen.bp8v_or3_hom h | .xor => Gen.bp8v_xor3_hom h)
    (fun | .and => Gen.bp8v_and4_hom h | .or => Gen.bp8v_or4_hom h | .xor => Gen.bp8v_xor4_hom h)

theorem bp4_hom {α β : Type} [BAlg α] [BAlg β] (h : BHom α β) : Alg.Rel (fun p q => h.f2 p = q) (bp4 α) (bp4 β) :=
  .of_map _ (Gen.bp4v_not1_hom h)
    (fun | .and => Gen.bp4v_and2_hom h | .or => Gen.bp4v_or2_hom h | .xor => Gen.bp4v_xor2_hom h)
    (fun | .and => Gen.bp4v_and3_hom h | .or => Gen.bp4v_or3_hom h | .xor => Gen.bp4v_xor3_hom h)
    (fun | .and => Gen.bp4v_and4_hom h | .or => Gen.bp4v_or4_hom h | .xor => Gen.bp4v_xor4_hom h)

/-- the recorded operators are the documented ones: the operator theorems of C12, one per arity and family -/
theorem bp8_spec : Alg.Rel (fun (p : P3 Bool) v => p.toV3 = v) (bp8 Bool) spec8 :=
  .of_map _ (fun a => C12.bp8_not_spec a.toV3)
    (fun | .and => fun a b => C12.bp8_and2_spec a.toV3 b.toV3 | .or => fun a b => C12.bp8_or2_spec a.toV3 b.toV3
         | .xor => fun a b => C12.bp8_xor2_spec a.toV3 b.toV3)
    (fun | .and => fun a b c => C12.bp8_and3_spec a.toV3 b.toV3 c.toV3 | .or => fun a b c => C12.bp8_or3_spec a.toV3 b.toV3 c.toV3
         | .xor => fun a b c => C12.bp8_xor3_spec a.toV3 b.toV3 c.toV3)
    (fun | .and => fun a b c d => C12.bp8_and4_spec a.toV3 b.toV3 c.toV3 d.toV3
         | .or => fun a b c d => C12.bp8_or4_spec a.toV3 b.toV3 c.toV3 d.toV3
         | .xor => fun a b c d => C12.bp8_xor4_spec a.toV3 b.toV3 c.toV3 d.toV3)

theorem bp4_spec : Alg.Rel (fun (p : P2 Bool) v => p.toV2 = v) (bp4 Bool) spec4 :=
  .of_map _ (fun a => C12.bp4_not_spec a.toV2)
    (fun | .and => fun a b => C12.bp4_and2_spec a.toV2 b.toV2 | .or => fun a b => C12.bp4_or2_spec a.toV2 b.toV2
         | .xor => fun a b => C12.bp4_xor2_spec a.toV2 b.toV2)
    (fun | .and => fun a b c => C12.bp4_and3_spec a.toV2 b.toV2 c.toV2 | .or => fun a b c => C12.bp4_or3_spec a.toV2 b.toV2 c.toV2
         | .xor => fun a b c => C12.bp4_xor3_spec a.toV2 b.toV2 c.toV2)
    (fun | .and => fun a b c d => C12.bp4_and4_spec a.toV2 b.toV2 c.toV2 d.toV2
         | .or => fun a b c d => C12.bp4_or4_spec a.toV2 b.toV2 c.toV2 d.toV2
         | .xor => fun a b c d => C12.bp4_xor4_spec a.toV2 b.toV2 c.toV2 d.toV2)

/-- on the columns `col 0..3` (every operand tuple, one per lane) the dispatch chain of the code computes the
composition of the name.  The composition is looked up in the table itself (`find?`), so that soundness gets the
membership `comp_expr` asks for; the check is one evaluation on lanes per op. -/
def chkSem {X : Type} [DecidableEq X] (sem : Nat → X → X → X → X → X) (A : Alg X) (col : Nat → X) (p : String × Nat) : Bool :=
  match primExpr.find? (·.1 == p.1) with
  | none => false
  | some ne => sem p.2 (col 0) (col 1) (col 2) (col 3) == ne.2.eval A (col 0) (col 1) (col 2) (col 3)

theorem chkSem_sound {X : Type} [DecidableEq X] {sem : Nat → X → X → X → X → X} {A : Alg X} {col : Nat → X}
    {name : String} {code : Nat} (h : chkSem sem A col (name, code) = true) :
    ∃ e, (name, e) ∈ primExpr ∧ sem code (col 0) (col 1) (col 2) (col 3) = e.eval A (col 0) (col 1) (col 2) (col 3) := by
  unfold chkSem at h
  split at h
  · exact absurd h (by simp)
  · rename_i ne hfind
    obtain ⟨n, e⟩ := ne
    obtain rfl : n = name := by simpa using List.find?_some hfind
    exact ⟨e, List.mem_of_find?_eq_some hfind, by simpa using h⟩

theorem sem8_all : Gen.prims.all (chkSem Gen.sem8 (bp8 _) col) = true := by decide +kernel
theorem sem4_all : Gen.prims.all (chkSem Gen.sem4 (bp4 _) col4) = true := by decide +kernel

theorem sem8_eq_comp {name : String} {code : Nat} (h : (name, code) ∈ Gen.prims) :
    ∃ f, comp8 name = some f ∧ ∀ a b c d : V3,
      (Gen.sem8 code (.ofV3 a) (.ofV3 b) (.ofV3 c) (.ofV3 d)).toV3 = f a b c d := by
  obtain ⟨e, he, hc⟩ := chkSem_sound (List.all_eq_true.mp sem8_all _ h)
  refine ⟨_, (comp_expr _ he).1, fun a b c d => ?_⟩
  rw [lanes8 (g := fun {α} [BAlg α] => Gen.sem8 (α := α) code) (g' := fun {α} [BAlg α] => e.eval (bp8 α))
    (fun h => Gen.sem8_hom h code) (fun h _ _ _ _ => e.eval_rel (bp8_hom h) rfl rfl rfl rfl) hc a b c d]
  exact e.eval_rel bp8_spec rfl rfl rfl rfl

theorem sem4_eq_comp {name : String} {code : Nat} (h : (name, code) ∈ Gen.prims) :
    ∃ f, comp4 name = some f ∧ ∀ a b c d : V2,
      (Gen.sem4 code (.ofV2 a) (.ofV2 b) (.ofV2 c) (.ofV2 d)).toV2 = f a b c d := by
  obtain ⟨e, he, hc⟩ := chkSem_sound (List.all_eq_true.mp sem4_all _ h)
  refine ⟨_, (comp_expr _ he).2, fun a b c d => ?_⟩
  rw [lanes4 (g := fun {α} [BAlg α] => Gen.sem4 (α := α) code) (g' := fun {α} [BAlg α] => e.eval (bp4 α))
    (fun h => Gen.sem4_hom h code) (fun h _ _ _ _ => e.eval_rel (bp4_hom h) rfl rfl rfl rfl) hc a b c d]
  exact e.eval_rel bp4_spec rfl rfl rfl rfl

def chkSem2 (sem : Nat → Bool → Bool → Bool → Bool → Bool) (e : String × Nat) : Bool :=
  chk2 (e.1, e.2, sem e.2)

theorem sem2n_all : Gen.prims.all (chkSem2 Gen.sem2n) = true := by decide +kernel
theorem sem2p_all : Gen.prims.all (chkSem2 Gen.sem2p) = true := by decide +kernel
theorem sem2c_all : Gen.prims.all (chkSem2 Gen.sem2c) = true := by decide +kernel

theorem sem2_eq {sem} (hall : Gen.prims.all (chkSem2 sem) = true) {name : String} {code : Nat}
    (h : (name, code) ∈ Gen.prims) (a b c d : Bool) :
    sem code a b c d = lutBit4 code a b c d ∧ formula name a b c d = some (sem code a b c d) := by
  have := List.all_eq_true.mp hall _ h
  exact chk2_sound (e := (name, code, sem code)) this a b c d

theorem prims_names : (Gen.prims.map (·.1)).all (primNames.contains ·) = true ∧
    primNames.all ((Gen.prims.map (·.1)).contains ·) = true := by decide +kernel

end KV
