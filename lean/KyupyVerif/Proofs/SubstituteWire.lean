import KyupyVerif.Proofs.SubstituteObs
import KyupyVerif.Proofs.SubstNodeLoop
/-! C10 (`substitute`), frame and wiring of one connecting loop: the frame `FrameA` / `Frame` (what `substitute` leaves untouched in
the host when the designated cell exists and no connected input is ignored: `NoIgnored`), kept by `phase1`, by `phase3` (`MapGe`: the
node map points at the cell or behind the host's nodes) and by the loop over the implementation's nodes; `inTarget` / `outTarget` by cases; `Side` (reader /
driver) and `wireLoop`, a connecting loop in which nothing is removed, which `connectIns` / `connectOuts` are under `NoIgnored`
(`connectIns_wireLoop`, `connectOuts_wireLoop`): its pin writes (`wireWrites`, `wireLoop_nodes`) and its line table (`wireLoop_wire`). -/
namespace KV.Transform
open KV

/-- the host part of the arrays is untouched: nodes other than `c`, the driver side of lines outside `O`, the reader
    side of lines outside `I` -/
structure FrameA (h : NNet) (c : Nat) (I O : List Nat) (ns : Array NodeD) (ls : Array LineD) : Prop where
  nsize : h.net.nodes.size ≤ ns.size
  lsize : h.net.lines.size ≤ ls.size
  node : ∀ d, d < h.net.nodes.size → d ≠ c → nodeA ns d = h.net.node d
  drv : ∀ l, l < h.net.lines.size → l ∉ O →
    (lineA ls l).driver = (h.net.line l).driver ∧ (lineA ls l).dpin = (h.net.line l).dpin
  rdr : ∀ l, l < h.net.lines.size → l ∉ I →
    (lineA ls l).reader = (h.net.line l).reader ∧ (lineA ls l).rpin = (h.net.line l).rpin

def MapGe (map : Array (Option Nat)) (c n : Nat) : Prop := ∀ k x, map.getD k none = some x → x = c ∨ n ≤ x

/-- `phase3` writes to images of `node_map` only and appends its lines -/
theorem frameA_foldl {h : NNet} {c : Nat} {I O : List Nat} (map : Array (Option Nat)) (hm : MapGe map c h.net.nodes.size)
    (ls : List LineD) (st : Array NodeD × Array LineD) (fr : FrameA h c I O st.1 st.2) :
    FrameA h c I O (ls.foldl (addImplLine map) st).1 (ls.foldl (addImplLine map) st).2 := by
  rw [foldl_addImplLine_eq]
  have hl : ∀ l, l < h.net.lines.size → lineA (st.2 ++ ((ls.filter (copL map)).map (mkL map)).toArray) l = lineA st.2 l := fun l hl => by
    simp [lineA, Array.getD_eq_getD_getElem?, Array.getElem?_append, Nat.lt_of_lt_of_le hl fr.lsize]
  refine ⟨by rw [attachAll_size]; exact fr.nsize, by simp; have := fr.lsize; omega, fun d hd hne => ?_,
    fun l h1 ho => by rw [hl l h1]; exact fr.drv l h1 ho, fun l h1 hi => by rw [hl l h1]; exact fr.rdr l h1 hi⟩
  rw [attachAll_node_ne, fr.node d hd hne]
  intro w hw e
  obtain ⟨t, ht, b, rfl⟩ := mem_newWrites.mp hw
  obtain ⟨ln, hln, eln⟩ := List.mem_map.mp (List.getElem_mem ht)
  have hcp := (List.mem_filter.mp hln).2
  simp only [copL, Bool.and_eq_true, Option.isSome_iff_exists] at hcp
  obtain ⟨⟨xd, hxd⟩, ⟨xr, hxr⟩⟩ := hcp
  have h1 := hm _ _ hxd
  have h2 := hm _ _ hxr
  cases b <;> simp only [endOf, cond_true, cond_false, ← eln, mkL, hxd, hxr, Option.getD_some] at e <;> omega

def Frame (h : NNet) (c : Nat) (I O : List Nat) (nn : NNet) : Prop := FrameA h c I O nn.net.nodes nn.net.lines

theorem frame_phase1 (h : NNet) (c : Nat) (m : NNet) (dn : Nat) (I O : List Nat) :
    Frame h c I O (phase1 h c m (some dn)).1 ∧ MapGe (phase1 h c m (some dn)).2 c h.net.nodes.size := by
  refine ⟨⟨by simp [phase1], Nat.le_refl _, fun d _ hne => ?_, fun _ _ _ => ⟨rfl, rfl⟩, fun _ _ _ => ⟨rfl, rfl⟩⟩, fun k x hx => ?_⟩
  · exact nodeA_modify_ne _ c d _ (fun e => hne e.symm)
  · rw [phase1_map_getD] at hx
    split at hx
    · exact Or.inl (Option.some.inj hx).symm
    · cases hx

/-- the node loop appends nodes behind the host's and maps to them -/
theorem frame_foldlM {h : NNet} {c : Nat} {I O : List Nat} (m : NNet) (hn : String) (des : Option Nat)
    (js : List Nat) (st st' : NNet × Array (Option Nat)) (hh : js.foldlM (addImplNode m hn des) st = some st')
    (fr : Frame h c I O st.1) (hm : MapGe st.2 c h.net.nodes.size) : Frame h c I O st'.1 ∧ MapGe st'.2 c h.net.nodes.size := by
  obtain ⟨e1, e2, _, _, e5⟩ := nodeLoop_net m hn des js st st' hh
  refine ⟨⟨by rw [e1]; simp; have := fr.nsize; omega, by rw [e2]; exact fr.lsize, fun d hd hne => ?_, by rw [e2]; exact fr.drv,
    by rw [e2]; exact fr.rdr⟩, fun k x hx => (e5 k x hx).elim (hm k x) fun hge => Or.inr (Nat.le_trans fr.nsize hge)⟩
  rw [e1, ← fr.node d hd hne]
  simp [nodeA, Array.getD_eq_getD_getElem?, Array.getElem?_append, Nat.lt_of_lt_of_le hd fr.nsize]

theorem inTarget_cases {m : NNet} {map : Array (Option Nat)} {inn r rp : Nat} (h : inTarget m map inn = some (r, rp)) :
    ((m.net.node inn).outs.length = 1 ∧ ∃ i0, (m.net.node inn).outs.head? = some (some i0) ∧
      map.getD (m.net.line i0).reader none = some r ∧ rp = (m.net.line i0).rpin) ∨
    ((m.net.node inn).outs.length ≠ 1 ∧ map.getD inn none = some r ∧ rp = 0) := by
  unfold inTarget at h
  dsimp only at h
  split at h
  · rename_i h1
    left
    refine ⟨by simpa using h1, ?_⟩
    split at h
    · rename_i l hl
      simp only [Option.map_eq_some_iff, Prod.mk.injEq] at h
      obtain ⟨r', hr, e1, e2⟩ := h
      exact ⟨l, hl, e1 ▸ hr, e2.symm⟩
    · exact absurd h (by simp)
  · rename_i h1
    right
    simp only [Option.map_eq_some_iff, Prod.mk.injEq] at h
    obtain ⟨r', hr, e1, e2⟩ := h
    exact ⟨by simpa using h1, e1 ▸ hr, e2.symm⟩

theorem outTarget_cases {m : NNet} {map : Array (Option Nat)} {l d dp : Nat} (h : outTarget m map l = some (d, dp)) :
    (0 < (m.net.node (m.net.line l).reader).outs.length ∧ map.getD (m.net.line l).reader none = some d ∧
      dp = (m.net.node (m.net.line l).reader).outs.length) ∨
    ((m.net.node (m.net.line l).reader).outs.length = 0 ∧ map.getD (m.net.line l).driver none = some d ∧
      dp = (m.net.line l).dpin) := by
  unfold outTarget at h
  dsimp only at h
  split at h <;> rename_i h1 <;> simp only [Option.map_eq_some_iff, Prod.mk.injEq] at h <;> obtain ⟨r', hr, e1, e2⟩ := h
  · exact Or.inl ⟨by simpa using h1, e1 ▸ hr, e2.symm⟩
  · exact Or.inr ⟨by simpa using h1, e1 ▸ hr, e2.symm⟩

theorem inTarget_map {m : NNet} {map : Array (Option Nat)} {inn r rp : Nat} (h : inTarget m map inn = some (r, rp)) :
    ∃ k, map.getD k none = some r := by
  rcases inTarget_cases h with ⟨_, _, _, hm, _⟩ | ⟨_, hm, _⟩ <;> exact ⟨_, hm⟩

theorem outTarget_map {m : NNet} {map : Array (Option Nat)} {l d dp : Nat} (h : outTarget m map l = some (d, dp)) :
    ∃ k, map.getD k none = some d := by
  rcases outTarget_cases h with ⟨_, hm, _⟩ | ⟨_, hm, _⟩ <;> exact ⟨_, hm⟩

def NoIgnored (m : NNet) (l : List (Nat × Option Nat)) : Prop :=
  ∀ p ∈ l, p.2.isSome = true → ((m.net.node p.1).outs.length == 0) = false

/-- one side of a line with what `substitute` does to it: `ll.reader = x; ll.reader_pin = p; x.ins[p] = ll` (`setReader`), or the
    same for driver and `outs` (`setDriver`).  `fin` is the end point that is set, `oth` the other one -/
structure Side where
  set : Net → Nat → Nat → Nat → Net
  rd : Bool
  fin : LineD → Nat × Nat
  oth : LineD → Nat × Nat
  lsize : ∀ net ll x p, (set net ll x p).lines.size = net.lines.size
  line_ne : ∀ net ll x p l, ll ≠ l → lineA (set net ll x p).lines l = lineA net.lines l
  line_eq : ∀ net ll x p, ll < net.lines.size →
    fin (lineA (set net ll x p).lines ll) = (x, p) ∧ oth (lineA (set net ll x p).lines ll) = oth (lineA net.lines ll)
  nodes_eq : ∀ net ll x p, (set net ll x p).nodes = attach net.nodes ⟨rd, x, p, ll⟩

def rdSide : Side where
  set := setReader
  rd := true
  fin ln := (ln.reader, ln.rpin)
  oth ln := (ln.driver, ln.dpin)
  lsize := by intros; simp [setReader]
  line_ne := by intro net ll x p l h; simp [setReader, lineA, Array.getD_eq_getD_getElem?, Array.getElem?_modify, h]
  line_eq := by intro net ll x p h; simp only [setReader]; rw [lineA_modify _ _ _ _ h]; simp
  nodes_eq := fun _ _ _ _ => rfl

def drSide : Side where
  set := setDriver
  rd := false
  fin ln := (ln.driver, ln.dpin)
  oth ln := (ln.reader, ln.rpin)
  lsize := by intros; simp [setDriver]
  line_ne := by intro net ll x p l h; simp [setDriver, lineA, Array.getD_eq_getD_getElem?, Array.getElem?_modify, h]
  line_eq := by intro net ll x p h; simp only [setDriver]; rw [lineA_modify _ _ _ _ h]; simp
  nodes_eq := fun _ _ _ _ => rfl

def wireLoop (S : Side) (tg : Nat → Option (Nat × Nat)) : List (Nat × Option Nat) → Net → Option Net
  | [], net => some net
  | (_, none) :: rest, net => wireLoop S tg rest net
  | (a, some ll) :: rest, net => (tg a).bind fun t => wireLoop S tg rest (S.set net ll t.1 t.2)

theorem connectIns_wireLoop (m : NNet) (map : Array (Option Nat)) : ∀ (l : List (Nat × Option Nat)) (net : Net)
    (st' : Net × (Option Nat → Option Nat)), connectIns m map l (net, id) = some st' → NoIgnored m l →
    st'.2 = id ∧ wireLoop rdSide (inTarget m map) l net = some st'.1
  | [], net, st', he, _ => by simp only [connectIns] at he; cases he; exact ⟨rfl, rfl⟩
  | (inn, none) :: rest, net, st', he, hni => by
    simp only [connectIns, id] at he
    exact connectIns_wireLoop m map rest net st' he (fun p hp => hni p (List.mem_cons_of_mem _ hp))
  | (inn, some ll0) :: rest, net, st', he, hni => by
    have hno : ((m.net.node inn).outs.length == 0) = false := hni (inn, some ll0) List.mem_cons_self rfl
    simp only [connectIns, id] at he
    simp only [hno, Bool.false_eq_true, if_false] at he
    split at he
    · exact absurd he (by simp)
    · rename_i r rp htgt
      have ih := connectIns_wireLoop m map rest _ st' he (fun p hp => hni p (List.mem_cons_of_mem _ hp))
      exact ⟨ih.1, by simp only [wireLoop, htgt, Option.bind_some]; exact ih.2⟩

theorem connectOuts_wireLoop (m : NNet) (map : Array (Option Nat)) : ∀ (l : List (Nat × Option Nat))
    (st st' : Net × List (Option Nat)), connectOuts m map l st = some st' →
    wireLoop drSide (outTarget m map) l st.1 = some st'.1
  | [], st, st', he => by simp only [connectOuts] at he; cases he; rfl
  | (il, none) :: rest, (net, dang), st', he => by
    simp only [connectOuts] at he
    show wireLoop drSide (outTarget m map) rest net = some st'.1
    exact connectOuts_wireLoop m map rest _ st' he
  | (il, some ll0) :: rest, (net, dang), st', he => by
    simp only [connectOuts] at he
    split at he
    · exact absurd he (by simp)
    · rename_i d dp htgt
      simp only [wireLoop, htgt, Option.bind_some]
      exact connectOuts_wireLoop m map rest _ st' he

/-- the pin writes of a connecting loop -/
def wireWrites (b : Bool) (tg : Nat → Option (Nat × Nat)) (l : List (Nat × Option Nat)) : List PinW :=
  l.filterMap fun ao => ao.2.bind fun ll => (tg ao.1).map fun t => ⟨b, t.1, t.2, ll⟩

theorem mem_wireWrites {b : Bool} {tg : Nat → Option (Nat × Nat)} {w : PinW} {l : List (Nat × Option Nat)} :
    w ∈ wireWrites b tg l ↔ ∃ a ll x p, (a, some ll) ∈ l ∧ tg a = some (x, p) ∧ w = ⟨b, x, p, ll⟩ := by
  simp only [wireWrites, List.mem_filterMap, Option.bind_eq_some_iff, Option.map_eq_some_iff]
  constructor
  · rintro ⟨⟨a, o⟩, hm, ll, rfl, ⟨x, p⟩, ht, rfl⟩
    exact ⟨a, ll, x, p, hm, ht, rfl⟩
  · rintro ⟨a, ll, x, p, hm, ht, rfl⟩
    exact ⟨(a, some ll), hm, ll, rfl, (x, p), ht, rfl⟩

theorem wireLoop_nodes (S : Side) (tg : Nat → Option (Nat × Nat)) : ∀ (l : List (Nat × Option Nat)) (net fin : Net),
    wireLoop S tg l net = some fin → fin.nodes = attachAll net.nodes (wireWrites S.rd tg l)
  | [], net, fin, he => by simp only [wireLoop] at he; cases he; rfl
  | (a, none) :: rest, net, fin, he => by
    simp only [wireLoop] at he
    exact wireLoop_nodes S tg rest net fin he
  | (a, some ll) :: rest, net, fin, he => by
    simp only [wireLoop] at he
    obtain ⟨⟨x, p⟩, htg, he⟩ := Option.bind_eq_some_iff.mp he
    rw [wireLoop_nodes S tg rest _ fin he, S.nodes_eq]
    simp [wireWrites, htg, attachAll]

/-- the lines of the list are distinct (`Nodup`), so no iteration overwrites the end point an earlier one has set; the other end
    (`S.oth`) is written by no iteration -/
theorem wireLoop_wire (S : Side) (tg : Nat → Option (Nat × Nat)) :
    ∀ (l : List (Nat × Option Nat)) (net fin : Net), wireLoop S tg l net = some fin →
    (l.filterMap (·.2)).Nodup → (∀ x ∈ l.filterMap (·.2), x < net.lines.size) →
    fin.lines.size = net.lines.size ∧
    (∀ x, x ∉ l.filterMap (·.2) → lineA fin.lines x = lineA net.lines x) ∧
    (∀ x, S.oth (lineA fin.lines x) = S.oth (lineA net.lines x)) ∧
    (∀ a ll, (a, some ll) ∈ l → ∃ x p, tg a = some (x, p) ∧ S.fin (lineA fin.lines ll) = (x, p))
  | [], net, fin, he, _, _ => by
    simp only [wireLoop] at he
    cases he
    exact ⟨rfl, fun _ _ => rfl, fun _ => rfl, fun _ _ hx => absurd hx (by simp)⟩
  | (a, none) :: rest, net, fin, he, hnd, hlt => by
    simp only [wireLoop] at he
    have ih := wireLoop_wire S tg rest net fin he (by simpa [List.filterMap_cons] using hnd)
      (by simpa [List.filterMap_cons] using hlt)
    refine ⟨ih.1, by simpa [List.filterMap_cons] using ih.2.1, ih.2.2.1, fun a' ll hmem => ?_⟩
    rcases List.mem_cons.mp hmem with e | e
    · simp at e
    · exact ih.2.2.2 a' ll e
  | (a, some ll0) :: rest, net, fin, he, hnd, hlt => by
    simp only [wireLoop] at he
    obtain ⟨⟨x, p⟩, htg, he⟩ := Option.bind_eq_some_iff.mp he
    have hnd' : ll0 ∉ rest.filterMap (·.2) ∧ (rest.filterMap (·.2)).Nodup := by
      simpa [List.filterMap_cons] using hnd
    have hll0 : ll0 < net.lines.size := hlt ll0 (by simp)
    have ih := wireLoop_wire S tg rest (S.set net ll0 x p) fin he hnd'.2
      (fun y hy => by rw [S.lsize]; exact hlt y (by simp [hy]))
    have hrec := S.line_eq net ll0 x p hll0
    refine ⟨ih.1.trans (S.lsize ..), fun y hy => ?_, fun y => ?_, fun a' ll hmem => ?_⟩
    · have hy' : y ≠ ll0 ∧ y ∉ rest.filterMap (·.2) := by simpa [List.filterMap_cons] using hy
      rw [ih.2.1 y hy'.2, S.line_ne _ _ _ _ _ (Ne.symm hy'.1)]
    · rw [ih.2.2.1 y]
      by_cases e : ll0 = y
      · rw [← e]; exact hrec.2
      · rw [S.line_ne _ _ _ _ _ e]
    · rcases List.mem_cons.mp hmem with e | e
      · simp only [Prod.mk.injEq, Option.some.injEq] at e
        obtain ⟨e1, e2⟩ := e
        subst e1; subst e2
        exact ⟨x, p, htg, by rw [ih.2.1 ll hnd'.1]; exact hrec.1⟩
      · exact ih.2.2.2 a' ll e

end KV.Transform
