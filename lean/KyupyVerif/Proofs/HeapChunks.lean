import KyupyVerif.Model.Heap
/-! The two operations on the chunk list. Allocation: what first fit does to the list (`allocIn_shape`). Release: `Freed` lists what a
successful `freeIn` does, at the released chunk and on the way back (`freed_of_freeIn`: the walk through the definition that every preservation fact
rests on; that a live start IS released, `freeIn_isSome` in HeapCanon, is a second walk: it produces the result). Both
keep `NoAdj` (`allocIn_noAdj`, `freeIn_noAdj`); `Pos` and the used-list equations are read off the same two descriptions in HeapInv /
HeapUsed. -/
namespace KV.Heap

theorem noAdj_tail {c : Chunk} {l : List Chunk} (h : NoAdj (c :: l)) (hl : l ≠ []) : NoAdj l := by
  cases l with
  | nil => exact absurd rfl hl
  | cons d r => exact h.2

theorem noAdj_cons_used {c : Chunk} {l : List Chunk} (hc : c.free = false) (h : l = [] ∨ NoAdj l) :
    NoAdj (c :: l) := by
  cases l with
  | nil => exact hc
  | cons d r =>
    refine ⟨?_, ?_⟩
    · intro ⟨h1, _⟩; simp [hc] at h1
    · cases h with
      | inl h => cases h
      | inr h => exact h

theorem total_cons (c : Chunk) (r : List Chunk) : total (c :: r) = c.size + total r := by
  simp [total]

/-- **first fit**: allocation replaces the first free chunk `c` that is large enough (no free chunk of `pre` is) by a used chunk of
    the requested size, followed by the free remainder of `c` if there is one; everything else stays -/
theorem allocIn_shape (size : Nat) : ∀ (s : Nat) (l : List Chunk) (loc : Nat) (l' : List Chunk),
    allocIn size s l = some (loc, l') →
    ∃ pre c post, l = pre ++ c :: post ∧ c.free = true ∧ size ≤ c.size ∧ loc = s + total pre ∧
      l' = pre ++ ⟨size, false⟩ :: ((if c.size = size then [] else [⟨c.size - size, true⟩]) ++ post) ∧
      ∀ p ∈ pre, ¬ (p.free = true ∧ size ≤ p.size) := by
  intro s l
  induction l generalizing s with
  | nil => intro loc l' h; simp [allocIn] at h
  | cons c rest ih =>
    intro loc l' h
    unfold allocIn at h
    split at h
    · rename_i hc
      simp only [Bool.and_eq_true, beq_iff_eq] at hc
      cases h
      exact ⟨[], c, rest, rfl, hc.1, by omega, by simp [total], by simp [hc.2], by simp⟩
    · split at h
      · rename_i hc
        simp only [Bool.and_eq_true, decide_eq_true_eq] at hc
        cases h
        exact ⟨[], c, rest, rfl, hc.1, by omega, by simp [total], by simp [Nat.ne_of_gt hc.2], by simp⟩
      · rename_i hne hng
        split at h
        · cases h
        · rename_i loc' rest' hrec
          cases h
          obtain ⟨pre, c', post, rfl, hf, hle, rfl, rfl, hfirst⟩ := ih _ _ _ hrec
          refine ⟨c :: pre, c', post, rfl, hf, hle, by simp [total_cons, Nat.add_assoc], rfl, ?_⟩
          intro p hp
          rcases List.mem_cons.1 hp with rfl | hp
          · intro ⟨hpf, hps⟩
            simp only [hpf, Bool.true_and, beq_iff_eq, decide_eq_true_eq] at hne hng
            omega
          · exact hfirst p hp

theorem noAdj_split (pre post : List Chunk) (c u : Chunk) (hc : c.free = true) (hu : u.free = false) (rem : List Chunk)
    (hrem : rem = [] ∨ ∃ r, rem = [r]) : NoAdj (pre ++ c :: post) → NoAdj (pre ++ u :: (rem ++ post)) := by
  induction pre with
  | nil =>
    intro h
    simp only [List.nil_append] at h ⊢
    cases post with
    | nil => exact absurd hc (by simpa [NoAdj] using h)
    | cons d post' =>
      have hd : ¬ d.free = true := fun hd => h.1 ⟨hc, hd⟩
      rcases hrem with rfl | ⟨r, rfl⟩
      · exact ⟨by simp [hu], h.2⟩
      · exact ⟨by simp [hu], fun hr => hd hr.2, h.2⟩
  | cons p pre ih =>
    intro h
    cases pre with
    | nil => exact ⟨by simp [hu], ih h.2⟩
    | cons q pre' => exact ⟨h.1, ih h.2⟩

theorem allocIn_noAdj (size : Nat) : ∀ (start : Nat) (l : List Chunk) (loc : Nat) (l' : List Chunk),
    NoAdj l → allocIn size start l = some (loc, l') → NoAdj l' := by
  intro start l loc l' hinv h
  obtain ⟨pre, c, post, rfl, hc, _, _, rfl, _⟩ := allocIn_shape size start l loc l' h
  refine noAdj_split pre post c ⟨size, false⟩ hc rfl _ ?_ hinv
  split
  · exact Or.inl rfl
  · exact Or.inr ⟨_, rfl⟩

theorem noAdj_cons_cons {c d : Chunk} {r : List Chunk} :
    NoAdj (c :: d :: r) ↔ (¬ (c.free = true ∧ d.free = true) ∧ NoAdj (d :: r)) := Iff.rfl

theorem noAdj_single {c : Chunk} : NoAdj [c] ↔ c.free = false := Iff.rfl

theorem noAdj_head_used {c c' : Chunk} {r : List Chunk} (h : NoAdj (c :: r)) (hc : c'.free = false) (hr : r ≠ []) :
    NoAdj (c' :: r) := by
  cases r with
  | nil => exact absurd rfl hr
  | cons d r' => exact ⟨by simp [hc], h.2⟩

/-- `Freed loc s l l'`: releasing the used chunk that starts at `loc` in `l` (whose first chunk starts at `s`) gives `l'`. At the chunk:
    `last` removes it, `next` merges it with a free successor, `here` marks it free. On the way back: `trimF`/`trimU` when everything
    behind is gone (a free chunk in front goes too), `prev` merges a free immediate predecessor, `skip` keeps the chunk -/
inductive Freed (loc : Nat) : Nat → List Chunk → List Chunk → Prop
  | last {c} : c.free = false → Freed loc loc [c] []
  | next {c n r} : c.free = false → n.free = true → Freed loc loc (c :: n :: r) (⟨c.size + n.size, true⟩ :: r)
  | here {c n r} : c.free = false → n.free = false → Freed loc loc (c :: n :: r) (⟨c.size, true⟩ :: n :: r)
  | trimF {s c r} : s < loc → Freed loc (s + c.size) r [] → c.free = true → Freed loc s (c :: r) []
  | trimU {s c r} : s < loc → Freed loc (s + c.size) r [] → c.free = false → Freed loc s (c :: r) [c]
  | prev {s c r d r'} : s < loc → Freed loc (s + c.size) r (d :: r') → c.free = true → d.free = true → s + c.size = loc →
      Freed loc s (c :: r) (⟨c.size + d.size, true⟩ :: r')
  | skip {s c r d r'} : s < loc → Freed loc (s + c.size) r (d :: r') → ¬ (c.free = true ∧ d.free = true ∧ s + c.size = loc) →
      Freed loc s (c :: r) (c :: d :: r')

theorem freed_of_freeIn (loc : Nat) : ∀ (s : Nat) (l l' : List Chunk), freeIn loc s l = some l' → Freed loc s l l' := by
  intro s l
  induction l generalizing s with
  | nil => intro l' h; simp [freeIn] at h
  | cons c rest ih =>
    intro l' h
    unfold freeIn at h
    split at h
    · rename_i heq
      simp only [beq_iff_eq] at heq; subst heq
      split at h
      · cases h
      · rename_i hcf
        simp only [Bool.not_eq_true] at hcf
        cases rest with
        | nil => cases h; exact .last hcf
        | cons n rest' =>
          simp only at h
          split at h <;> cases h
          · exact .next hcf ‹_›
          · exact .here hcf (by simpa using ‹¬ n.free = true›)
    · split at h
      · rename_i hlt
        split at h
        · cases h
        · rename_i hrec
          split at h <;> cases h
          · exact .trimF hlt (ih _ _ hrec) ‹_›
          · exact .trimU hlt (ih _ _ hrec) (by simpa using ‹¬ c.free = true›)
        · rename_i d rest' hrec
          have hr := ih _ _ hrec
          split at h <;> cases h
          · rename_i hm
            simp only [Bool.and_eq_true, beq_iff_eq] at hm
            exact .prev hlt hr hm.1.1 hm.1.2 hm.2
          · rename_i hm
            refine .skip hlt hr (fun ⟨a, b, c⟩ => hm ?_)
            simp [a, b, c]
      · cases h

theorem Freed.head_free {loc s : Nat} {d e : Chunk} {r r' : List Chunk} (h : Freed loc s (d :: r) (e :: r')) (hne : s ≠ loc) :
    e.free = d.free := by
  cases h with
  | next | here => exact absurd rfl hne
  | trimU => rfl
  | prev _ _ hc => exact hc.symm ▸ rfl
  | skip => rfl

theorem Freed.noAdj {loc s : Nat} {l l' : List Chunk} (h : Freed loc s l l') (hinv : NoAdj l) : NoAdj l' := by
  induction h with
  | last => trivial
  | @next c n r _ hn =>
    cases r with
    | nil => exact absurd hn (by simpa [NoAdj] using hinv.2)
    | cons m r => exact ⟨fun ⟨_, hm⟩ => hinv.2.1 ⟨hn, hm⟩, hinv.2.2⟩
  | here _ hn => exact ⟨by simp [hn], hinv.2⟩
  | trimF => trivial
  | trimU _ _ hc => exact hc
  | @prev s c r d r' _ hr _ hd _ ih =>
    cases r with
    | nil => cases hr
    | cons x r =>
      have := ih hinv.2
      cases r' with
      | nil => exact absurd hd (by simpa [NoAdj] using this)
      | cons f r' => exact ⟨fun ⟨_, hf⟩ => this.1 ⟨hd, hf⟩, this.2⟩
  | @skip s c r d r' _ hr hm ih =>
    cases r with
    | nil => cases hr
    | cons x r =>
      refine ⟨fun ⟨hc, hd⟩ => ?_, ih hinv.2⟩
      have hne : s + c.size ≠ loc := fun e => hm ⟨hc, hd, e⟩
      exact hinv.1 ⟨hc, hr.head_free hne ▸ hd⟩

theorem freeIn_noAdj (loc : Nat) : ∀ (start : Nat) (l l' : List Chunk),
    NoAdj l → freeIn loc start l = some l' → NoAdj l' := fun s l l' hi h => (freed_of_freeIn loc s l l' h).noAdj hi

end KV.Heap
