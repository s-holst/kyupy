import KyupyVerif.Proofs.RemoveDangling
/-! C10, progress: `remove_dangling_nodes` (model `removeDangling`) never fails and never runs out of fuel on a
circuit that is well-formed up to trailing `None`s whose forks have gap-free output lists — the fuel
`stack.length + lines.size + 1` that `substitute` passes suffices (every iteration consumes one unit and either pops one stack
entry or pops one, removes `k` lines and pushes `k` entries). -/
namespace KV.Transform
open KV

/-- the output list of every fork is gap-free (`Line.remove()` deletes the entry of a fork instead of clearing it; a fork with a
    `None` entry makes `Line.remove()` raise: `None.driver_pin`) -/
def FD (net : Net) : Prop := ∀ j, j < net.nodes.size → (net.node j).isFork = true → ∀ o ∈ (net.node j).outs, o ≠ none

theorem FD_of_forksDenseB {net : Net} (h : forksDenseB net = true) : FD net := by
  intro j hj hf o ho
  simp only [forksDenseB, List.all_eq_true, List.mem_range] at h
  have := h j hj
  simp only [hf, Bool.not_true, Bool.false_or, List.all_eq_true] at this
  intro e; subst e
  exact absurd (this none ho) (by simp)

theorem mem_of_any_isNone {l : List (Option Nat)} (h : l.any (·.isNone) = true) : none ∈ l := by
  obtain ⟨o, ho, e⟩ := List.any_eq_true.mp h
  cases o with
  | none => exact ho
  | some _ => simp at e

/-- node `j`, if a fork, is dense: no gap in its output list (`FD`: all forks dense) -/
def Dn (net : Net) (j : Nat) : Prop := (net.node j).isFork = true → ∀ o ∈ (net.node j).outs, o ≠ none

theorem detachDriver_some (net : Net) (l : Nat)
    (hb : (net.node (net.line l).driver).outs.getD (net.line l).dpin none = some l) (dn : Dn net (net.line l).driver) :
    ∃ net1, detachDriver net l = some net1 := by
  unfold detachDriver
  dsimp only
  split
  · rename_i hf
    split
    · rename_i hany
      have hmem := mem_of_any_isNone hany
      rw [show growSet (net.node (net.line l).driver).outs (net.line l).dpin none =
        (net.node (net.line l).driver).outs.set (net.line l).dpin none by simp [growSet, lt_of_getD_some hb],
        List.eraseIdx_set_eq] at hmem
      -- an entry of the list after `del outs[pin]` is an entry of the list before
      exact absurd rfl (dn hf _ (List.mem_of_mem_eraseIdx hmem))
    · exact ⟨_, rfl⟩
  · exact ⟨_, rfl⟩

/-- `Line.remove()` keeps a fork gap-free: it deletes the entry of a fork, and raises when another entry is `None` -/
theorem dense_removeLine (b : Bool) (net net' : Net) (l : Nat) (he : removeLine b net l = some net') (j : Nat)
    (hd : Dn net j) : Dn net' j := by
  obtain ⟨O, net2, rfl, _, _, _, hn2, _, hcase⟩ := removeLine_eq b net net' l he
  intro hf o ho
  rw [delLine_node, hn2] at hf ho
  have hk : (net.node j).isFork = true := hf
  obtain ⟨o', ho', e⟩ := List.mem_map.mp ho
  have hne : o' ≠ none := by
    dsimp only at ho'
    split at ho'
    · rename_i hc
      rcases hcase with ⟨_, _, hany, _⟩ | ⟨hnf, _, _⟩
      · intro eo; subst eo
        have : O.any (·.isNone) = true := List.any_eq_true.mpr ⟨none, ho', rfl⟩
        rw [hany] at this; exact absurd this (by simp)
      · rw [hc.1, hnf] at hk; exact absurd hk (by simp)
    · exact hd hk o' ho'
  intro eo; subst eo
  split at e
  · exact absurd e (by simp)
  · exact hne e

theorem FD_removeLine (b : Bool) (net net' : Net) (l : Nat) (he : removeLine b net l = some net') (fd : FD net) : FD net' :=
  fun j hj => dense_removeLine b net net' l he j (fd j (removeLine_nsize b net net' l he ▸ hj))

theorem removeLines_some (nn : NNet) (x : Nat) : ∀ (rem : List Nat) (cur : Net) (ren : Option Nat → Option Nat) (r : Ren),
    RLInv nn x cur rem ren r → FD cur →
    ∃ net', removeLines ren rem cur = some net' ∧ FD net' ∧ net'.lines.size + rem.length = cur.lines.size
  | [], cur, ren, r, _, fd => ⟨cur, rfl, fd, rfl⟩
  | l0 :: rest, cur, ren, r, iv, fd => by
    obtain ⟨l', hren, hl', hrl, hrd⟩ := iv.pend l0 List.mem_cons_self
    obtain ⟨bd, br, bo, bi⟩ := iv.wfm.back l' hl'
    obtain ⟨net1, h1⟩ := detachDriver_some cur l' bo (fd _ bd)
    have hrm : ∃ cur', removeLine true cur l' = some cur' := by
      simp only [removeLine, h1, Option.map_some]; exact ⟨_, rfl⟩
    obtain ⟨cur', hrm⟩ := hrm
    have iv' := rlinv_step nn x l0 rest cur cur' ren r l' iv hren hrm
    have fd' := FD_removeLine true cur cur' l' hrm fd
    obtain ⟨net', h2, fd2, hsz⟩ := removeLines_some nn x rest cur' _ _ iv' fd'
    refine ⟨net', ?_, fd2, ?_⟩
    · unfold removeLines
      rw [hren]
      dsimp only
      rw [hrm]
      exact h2
    · have := removeLine_lsize true cur cur' l' hrm
      simp only [List.length_cons]
      omega

theorem FD_delNode (nn : NNet) (i : Nat) (hi : i < nn.net.nodes.size) (fd : FD nn.net) : FD (delNode nn i).net := by
  intro j hj hf o ho
  rw [(delNode_sizes nn i).1] at hj
  rw [delNode_node nn i j hi hj] at hf ho
  exact fd _ (nm_facts hi hj).1 hf o ho

theorem removeDangling_some : ∀ (fuel : Nat) (nn : NNet) (own : List Nat) (stack : List (Option Nat)),
    WFm nn → FD nn.net → (∀ x ∈ own, x < nn.net.nodes.size) → stack.length + nn.net.lines.size < fuel →
    ∃ nn', removeDangling fuel nn own stack = some nn'
  | 0, _, _, _, _, _, _, h => by omega
  | fuel + 1, nn, own, [], _, _, _, _ => ⟨nn, by simp [removeDangling]⟩
  | fuel + 1, nn, own, none :: rest, w, fd, ho, h => by
    rw [removeDangling]
    exact removeDangling_some fuel nn own rest w fd ho (by simp only [List.length_cons] at h; omega)
  | fuel + 1, nn, own, some root :: rest, w, fd, ho, h => by
    have hlen : rest.length + nn.net.lines.size < fuel := by simp only [List.length_cons] at h; omega
    rw [removeDangling_cons_some]
    split
    · exact removeDangling_some fuel nn own rest w fd ho hlen
    · rename_i hk
      obtain ⟨houts', hio', _, hmem⟩ := not_keptRoot hk
      have hroot := ho root hmem
      obtain ⟨net', hrl, fd', hsz⟩ := removeLines_some nn root _ nn.net id Ren.id (RLInv.init nn w root hroot hio' houts') fd
      rw [hrl]
      dsimp only
      have w' := (removeRoot_emb nn w root hroot hio' houts' net' hrl).1
      have hns : net'.nodes.size = nn.net.nodes.size := (pinsOnly_removeLines _ _ _ _ hrl).1.1
      have hroot' : root < ({ nn with net := net' } : NNet).net.nodes.size := by rw [hns]; exact hroot
      have fd'' := FD_delNode { nn with net := net' } root hroot' fd'
      have hsz' := delNode_sizes { nn with net := net' } root
      apply removeDangling_some fuel _ _ _ w' fd''
      · rw [hsz'.1]
        show ∀ y ∈ _, y < net'.nodes.size - 1
        rw [hns]; exact own_mvNode_lt ho hroot
      · rw [hsz'.2]
        show _ + net'.lines.size < fuel
        simp only [List.length_append, List.length_map]
        omega

end KV.Transform
