import KyupyVerif.Proofs.RemoveDangling
/-! C10, `substitute_sem_general`: the **lockstep relation** `Lk` between the state of the real run of `substitute` (in which
`Line.remove()` at an ignored pin renumbers the lines) and the state of a *virtual* run in which the line at an ignored pin simply
stays where it is (stale on the reader side), and the steps of the two runs that keep it.  `Line(...)` is no step of its own: it is
the append of the object, `setDriver`, `setReader` (`addLineNet_eq`). -/
namespace KV.Transform
open KV

theorem drvAt_setReader {net : Net} {Ex : Nat → Prop} {d : Nat} (w : DrvAt net Ex d) (ll r rp : Nat) :
    DrvAt (setReader net ll r rp) Ex d := by
  obtain ⟨sn, sl, _⟩ := setReader_sizes net ll r rp
  have hl := setReader_line_drv net ll r rp
  refine ⟨by rw [sn]; exact w.lt, ?_, ?_⟩
  · intro p y hp
    rw [setReader_outs] at hp
    obtain ⟨q1, q2, q3, q4⟩ := w.fwd p y hp
    rw [sl, (hl y q1).1, (hl y q1).2]
    exact ⟨q1, q2, q3, q4⟩
  · intro y hy hex hdy
    rw [sl] at hy
    rw [(hl y hy).1] at hdy
    rw [setReader_outs, (hl y hy).2]
    exact w.back y hy hex hdy

/-- `a` (state of the real run) is `b` (state of the virtual run) without the lines in `G`, nodes renumbered by `π`, lines by `ψ`; the
reader side of the `PI`-lines and the driver side of the `PO`-lines of `b` is not connected yet.  `Own` = the nodes of `a` that the
substitution itself writes (the cell and the nodes it adds); the other nodes are host nodes.  The fields are those of `LkN`, `LkL`,
`LkR`, `LkD` below (`Lk.parts`). -/
structure Lk (Own : Nat → Prop) (π ψ : Nat → Nat) (G PI PO : Nat → Prop) (a b : Net) : Prop where
  πinj : ∀ x y, π x = π y → x = y
  nodeLt : ∀ x, x < a.nodes.size → π x < b.nodes.size
  kind : ∀ x, x < a.nodes.size → (a.node x).kind = (b.node (π x)).kind
  io : a.io.map π = b.io
  ins : ∀ x k, x < a.nodes.size → ((a.node x).ins.getD k none).map ψ = (b.node (π x)).ins.getD k none
  -- output lists agree only at the own nodes (the cell and the copies): `Line.remove()` squeezes the output list of a host fork in
  -- the real run only; the host nodes are described by `host` instead
  outs : ∀ x k, x < a.nodes.size → Own x → ((a.node x).outs.getD k none).map ψ = (b.node (π x)).outs.getD k none
  lineLt : ∀ l, l < a.lines.size → ψ l < b.lines.size ∧ ¬ G (ψ l)
  lineInj : ∀ l1 l2, l1 < a.lines.size → l2 < a.lines.size → ψ l1 = ψ l2 → l1 = l2
  lineSurj : ∀ l', l' < b.lines.size → ¬ G l' → ∃ l, l < a.lines.size ∧ ψ l = l'
  -- the driver pin may differ from the virtual one at a host fork: its outputs were renumbered by the squeeze
  drv : ∀ l, l < a.lines.size → ¬ PO (ψ l) →
    (a.line l).driver < a.nodes.size ∧ π (a.line l).driver = (b.line (ψ l)).driver ∧
    ((a.line l).dpin = (b.line (ψ l)).dpin ∨ (¬ Own (a.line l).driver ∧ (a.node (a.line l).driver).isFork = true))
  rdr : ∀ l, l < a.lines.size → ¬ PI (ψ l) →
    (a.line l).reader < a.nodes.size ∧ π (a.line l).reader = (b.line (ψ l)).reader ∧ (a.line l).rpin = (b.line (ψ l)).rpin
  insLt : ∀ x k l, (a.node x).ins.getD k none = some l → l < a.lines.size ∧ ¬ PI (ψ l)
  -- `PI`, not `PO`: no output pin of an own node holds a line whose READER end is pending, so `Line.remove()` at an ignored input
  -- never touches an own node
  outsLt : ∀ x k l, Own x → (a.node x).outs.getD k none = some l → l < a.lines.size ∧ ¬ PI (ψ l)
  -- a host node is in order on the driver side within the real circuit itself, except for the lines still to be connected (`PO`)
  host : ∀ d, d < a.nodes.size → ¬ Own d → DrvAt a (fun y => PO (ψ y)) d

/-! ### the four parts of the relation — nodes, line indices, reader side, driver side — and what each of them looks at.  A step of
the two runs proves them part by part; the node part and the line-index part are carried over by their `congr` lemmas wherever the
sizes stay. -/
structure LkN (π : Nat → Nat) (a b : Net) : Prop where
  πinj : ∀ x y, π x = π y → x = y
  nodeLt : ∀ x, x < a.nodes.size → π x < b.nodes.size
  kind : ∀ x, x < a.nodes.size → (a.node x).kind = (b.node (π x)).kind
  io : a.io.map π = b.io

structure LkL (ψ : Nat → Nat) (G : Nat → Prop) (a b : Net) : Prop where
  lineLt : ∀ l, l < a.lines.size → ψ l < b.lines.size ∧ ¬ G (ψ l)
  lineInj : ∀ l1 l2, l1 < a.lines.size → l2 < a.lines.size → ψ l1 = ψ l2 → l1 = l2
  lineSurj : ∀ l', l' < b.lines.size → ¬ G l' → ∃ l, l < a.lines.size ∧ ψ l = l'

structure LkR (π ψ : Nat → Nat) (PI : Nat → Prop) (a b : Net) : Prop where
  ins : ∀ x k, x < a.nodes.size → ((a.node x).ins.getD k none).map ψ = (b.node (π x)).ins.getD k none
  rdr : ∀ l, l < a.lines.size → ¬ PI (ψ l) →
    (a.line l).reader < a.nodes.size ∧ π (a.line l).reader = (b.line (ψ l)).reader ∧ (a.line l).rpin = (b.line (ψ l)).rpin
  insLt : ∀ x k l, (a.node x).ins.getD k none = some l → l < a.lines.size ∧ ¬ PI (ψ l)

structure LkD (Own : Nat → Prop) (π ψ : Nat → Nat) (PI PO : Nat → Prop) (a b : Net) : Prop where
  outs : ∀ x k, x < a.nodes.size → Own x → ((a.node x).outs.getD k none).map ψ = (b.node (π x)).outs.getD k none
  drv : ∀ l, l < a.lines.size → ¬ PO (ψ l) →
    (a.line l).driver < a.nodes.size ∧ π (a.line l).driver = (b.line (ψ l)).driver ∧
    ((a.line l).dpin = (b.line (ψ l)).dpin ∨ (¬ Own (a.line l).driver ∧ (a.node (a.line l).driver).isFork = true))
  outsLt : ∀ x k l, Own x → (a.node x).outs.getD k none = some l → l < a.lines.size ∧ ¬ PI (ψ l)
  host : ∀ d, d < a.nodes.size → ¬ Own d → DrvAt a (fun y => PO (ψ y)) d

section steps
variable {Own : Nat → Prop} {π ψ : Nat → Nat} {G PI PO : Nat → Prop} {a b a' b' : Net}

theorem Lk.parts : Lk Own π ψ G PI PO a b ↔ LkN π a b ∧ LkL ψ G a b ∧ LkR π ψ PI a b ∧ LkD Own π ψ PI PO a b :=
  ⟨fun lk => ⟨⟨lk.πinj, lk.nodeLt, lk.kind, lk.io⟩, ⟨lk.lineLt, lk.lineInj, lk.lineSurj⟩, ⟨lk.ins, lk.rdr, lk.insLt⟩,
    ⟨lk.outs, lk.drv, lk.outsLt, lk.host⟩⟩,
   fun ⟨n, l, r, d⟩ => ⟨n.πinj, n.nodeLt, n.kind, n.io, r.ins, d.outs, l.lineLt, l.lineInj, l.lineSurj, d.drv, r.rdr, r.insLt,
    d.outsLt, d.host⟩⟩

theorem LkN.congr (h : LkN π a b) (sa : a'.nodes.size = a.nodes.size) (ia : a'.io = a.io)
    (ka : ∀ x, (a'.node x).kind = (a.node x).kind) (sb : b'.nodes.size = b.nodes.size) (ib : b'.io = b.io)
    (kb : ∀ x, (b'.node x).kind = (b.node x).kind) : LkN π a' b' :=
  ⟨h.πinj, fun x hx => by rw [sb]; exact h.nodeLt x (sa ▸ hx), fun x hx => by rw [ka, kb]; exact h.kind x (sa ▸ hx),
    by rw [ia, ib]; exact h.io⟩

theorem LkL.congr (h : LkL ψ G a b) (sa : a'.lines.size = a.lines.size) (sb : b'.lines.size = b.lines.size) : LkL ψ G a' b' :=
  ⟨fun l hl => by rw [sb]; exact h.lineLt l (sa ▸ hl), fun l1 l2 h1 h2 => h.lineInj l1 l2 (sa ▸ h1) (sa ▸ h2),
    fun l' hl' hg => by rw [sa]; exact h.lineSurj l' (sb ▸ hl') hg⟩


theorem Lk.ψ_eq_iff (lk : Lk Own π ψ G PI PO a b) {ll' ll : Nat} (h1 : ll' < a.lines.size) (h2 : ψ ll' = ll) (l : Nat)
    (hl : l < a.lines.size) : ll = ψ l ↔ ll' = l :=
  ⟨fun e => lk.lineInj ll' l h1 hl (h2.trans e), fun e => by rw [← e]; exact h2.symm⟩


/-- `ll.reader = r; ll.reader_pin = rp; r.ins[rp] = ll` in both runs: the reader side changes -/
theorem Lk.stepReader (lk : Lk Own π ψ G PI PO a b) (ll' ll r rp : Nat) (h1 : ll' < a.lines.size) (h2 : ψ ll' = ll)
    (hr : r < a.nodes.size) :
    Lk Own π ψ G (fun x => PI x ∧ x ≠ ll) PO (setReader a ll' r rp) (setReader b ll (π r) rp) := by
  obtain ⟨n, l, _, _⟩ := Lk.parts.mp lk
  have hrb : π r < b.nodes.size := lk.nodeLt r hr
  obtain ⟨sa1, sa2, sa3⟩ := setReader_sizes a ll' r rp
  obtain ⟨sb1, sb2, sb3⟩ := setReader_sizes b ll (π r) rp
  have hψ := lk.ψ_eq_iff h1 h2
  refine Lk.parts.mpr ⟨n.congr sa1 sa3 (setReader_kind a ll' r rp) sb1 sb3 (setReader_kind b ll (π r) rp), l.congr sa2 sb2,
    ⟨?_, ?_, ?_⟩, ⟨?_, ?_, ?_, ?_⟩⟩
  · intro x k hx
    rw [sa1] at hx
    rw [setReader_inPin a _ _ _ hr, setReader_inPin b _ _ _ hrb, ← lk.ins x k hx]
    by_cases e : x = r ∧ k = rp
    · rw [if_pos e, if_pos ⟨by rw [e.1], e.2⟩, ← h2]; rfl
    · rw [if_neg e, if_neg fun c => e ⟨lk.πinj x r c.1, c.2⟩]
  · intro l hl hpi
    rw [sa2] at hl
    rw [setReader_line a _ _ _ _ hl, setReader_line b _ _ _ _ (lk.lineLt l hl).1, sa1]
    by_cases e : ll' = l
    · have e' : ll = ψ l := (hψ l hl).mpr e
      rw [if_pos e, if_pos e']
      exact ⟨hr, rfl, rfl⟩
    · have e' : ¬ ll = ψ l := fun x => e ((hψ l hl).mp x)
      rw [if_neg e, if_neg e']
      exact lk.rdr l hl (fun hp => hpi ⟨hp, fun x => e' x.symm⟩)
  · intro x k l hp
    rw [sa2]
    rw [setReader_inPin a _ _ _ hr] at hp
    split at hp
    · cases hp
      exact ⟨h1, fun hc' => hc'.2 h2⟩
    · obtain ⟨q1, q2⟩ := lk.insLt x k l hp
      exact ⟨q1, fun hc' => q2 hc'.1⟩
  · intro x k hx ho
    rw [setReader_outs, setReader_outs]
    exact lk.outs x k (sa1 ▸ hx) ho
  · intro l hl hp
    rw [sa2] at hl
    obtain ⟨q1, q2⟩ := setReader_line_drv a ll' r rp l hl
    obtain ⟨q3, q4⟩ := setReader_line_drv b ll (π r) rp _ (lk.lineLt l hl).1
    rw [sa1, q1, q2, q3, q4, isFork_of_kind_eq (setReader_kind a ll' r rp _)]
    exact lk.drv l hl hp
  · intro x k l ho hp
    rw [setReader_outs] at hp
    rw [sa2]
    exact ⟨(lk.outsLt x k l ho hp).1, fun hc => (lk.outsLt x k l ho hp).2 hc.1⟩
  · intro d hd hno
    exact drvAt_setReader (lk.host d (sa1 ▸ hd) hno) ll' r rp

/-- `ll.driver = d; ll.driver_pin = dp; d.outs[dp] = ll` in both runs: the driver side changes -/
theorem Lk.stepDriver (lk : Lk Own π ψ G PI PO a b) (ll' ll d dp : Nat) (h1 : ll' < a.lines.size) (h2 : ψ ll' = ll)
    (hd : d < a.nodes.size) (hown : Own d) (hpo : PO ll) (hpi : ¬ PI ll) :
    Lk Own π ψ G PI (fun x => PO x ∧ x ≠ ll) (setDriver a ll' d dp) (setDriver b ll (π d) dp) := by
  obtain ⟨n, l, _, _⟩ := Lk.parts.mp lk
  have hdb : π d < b.nodes.size := lk.nodeLt d hd
  obtain ⟨sa1, sa2, sa3⟩ := setDriver_sizes a ll' d dp
  obtain ⟨sb1, sb2, sb3⟩ := setDriver_sizes b ll (π d) dp
  have hψ := lk.ψ_eq_iff h1 h2
  refine Lk.parts.mpr ⟨n.congr sa1 sa3 (setDriver_kind a ll' d dp) sb1 sb3 (setDriver_kind b ll (π d) dp), l.congr sa2 sb2,
    ⟨?_, ?_, ?_⟩, ⟨?_, ?_, ?_, ?_⟩⟩
  · intro x k hx
    rw [setDriver_ins, setDriver_ins]
    exact lk.ins x k (sa1 ▸ hx)
  · intro l hl hp
    rw [sa2] at hl
    obtain ⟨q1, q2⟩ := setDriver_line_rdr a ll' d dp l hl
    obtain ⟨q3, q4⟩ := setDriver_line_rdr b ll (π d) dp _ (lk.lineLt l hl).1
    rw [sa1, q1, q2, q3, q4]
    exact lk.rdr l hl hp
  · intro x k l hp
    rw [setDriver_ins] at hp
    rw [sa2]
    exact lk.insLt x k l hp
  · intro x k hx ho
    rw [sa1] at hx
    rw [setDriver_node, setDriver_node]
    by_cases e : x = d
    · subst e
      simp only [hd, hdb, and_self, if_true]
      rw [getD_growSet, getD_growSet]
      by_cases ek : k = dp
      · simp [ek, h2]
      · simp only [ek, if_false]; exact lk.outs x k hx ho
    · have : ¬ π x = π d := fun e' => e (lk.πinj x d e')
      simp only [e, this, false_and, if_false]; exact lk.outs x k hx ho
  · intro l hl hpo'
    rw [sa2] at hl
    rw [setDriver_line a _ _ _ _ hl, setDriver_line b _ _ _ _ (lk.lineLt l hl).1, sa1]
    by_cases e : ll' = l
    · have e' : ll = ψ l := (hψ l hl).mpr e
      rw [if_pos e, if_pos e']
      exact ⟨hd, rfl, Or.inl rfl⟩
    · have e' : ¬ ll = ψ l := fun x => e ((hψ l hl).mp x)
      rw [if_neg e, if_neg e']
      obtain ⟨d1, d2, d3⟩ := lk.drv l hl (fun hp => hpo' ⟨hp, fun x => e' x.symm⟩)
      exact ⟨d1, d2, by rw [isFork_of_kind_eq (setDriver_kind a ll' d dp _)]; exact d3⟩
  · intro x k l ho hp
    rw [sa2]
    rw [setDriver_node] at hp
    split at hp
    · rw [getD_growSet] at hp
      split at hp
      · have : l = ll' := (Option.some.inj hp).symm
        subst this
        exact ⟨h1, by rw [h2]; exact hpi⟩
      · exact lk.outsLt x k l ho hp
    · exact lk.outsLt x k l ho hp
  · intro d0 hd0 hno
    rw [sa1] at hd0
    have w := lk.host d0 hd0 hno
    have hne : d0 ≠ d := fun e => hno (e ▸ hown)
    have hn : ((setDriver a ll' d dp).node d0).outs = (a.node d0).outs := by
      rw [setDriver_node]; simp [hne]
    have hln : ∀ y, y < a.lines.size → y ≠ ll' → (setDriver a ll' d dp).line y = a.line y := by
      intro y hy hne'
      rw [setDriver_line a _ _ _ _ hy, if_neg (fun e => hne' e.symm)]
    refine ⟨by rw [sa1]; exact hd0, ?_, ?_⟩
    · intro p y hp
      rw [hn] at hp
      obtain ⟨q1, q2, q3, q4⟩ := w.fwd p y hp
      have hy : y ≠ ll' := fun e => q4 (by rw [e, h2]; exact hpo)
      rw [sa2, hln y q1 hy]
      exact ⟨q1, q2, q3, fun hc => q4 hc.1⟩
    · intro y hy hex hdy
      rw [sa2] at hy
      by_cases e : y = ll'
      · subst e
        rw [setDriver_line a _ _ _ _ hy] at hdy
        simp at hdy
        exact absurd hdy.symm hne
      · rw [hln y hy e] at hdy ⊢
        rw [hn]
        apply w.back y hy _ hdy
        intro hp
        apply hex
        refine ⟨hp, fun e' => e ?_⟩
        exact lk.lineInj y ll' hy h1 (e'.trans h2.symm)

end steps

/-! the lockstep relation is kept when the real run removes the host
line at an ignored input pin (`ll.reader = None; ll.remove()`, swap-with-last renumbering) and the virtual run does
nothing: the line map is composed with the renumbering, the line joins the set `G` of lines that exist only in the
virtual circuit. -/

section remove
variable {Own : Nat → Prop} {π ψ : Nat → Nat} {G PI PO : Nat → Prop} {a b : Net}

theorem Lk.stepRemove (lk : Lk Own π ψ G PI PO a b) (g : Nat) (hg : g < a.lines.size) (hPI : PI (ψ g)) (hPO : ¬ PO (ψ g))
    (hown : ¬ Own (a.line g).driver) (a' : Net) (he : removeLine false a g = some a') :
    Lk Own π (fun l => ψ (nmN a.lines.size g l)) (fun l' => G l' ∨ l' = ψ g) PI PO a' b := by
  obtain ⟨hdlt, _, _⟩ := lk.drv g hg hPO
  have sp := removeLineF_spec a (fun y => PO (ψ y)) g hg hPO (lk.host _ hdlt hown) a' he
  -- a line at a pin other than the driver pin of `g` is not `g`, and is renumbered
  have hmv : ∀ o : Option Nat, (∀ y, o = some y → y < a.lines.size ∧ ¬ PI (ψ y)) →
      (mvL (a.lines.size - 1) g o).map (fun l => ψ (nmN a.lines.size g l)) = o.map ψ ∧
      ∀ l, mvL (a.lines.size - 1) g o = some l → l < a.lines.size - 1 ∧ ¬ PI (ψ (nmN a.lines.size g l)) := by
    intro o ho
    cases o with
    | none => exact ⟨rfl, fun l hl => absurd hl (by simp [mvL])⟩
    | some y =>
      obtain ⟨hy, hnp⟩ := ho y rfl
      obtain ⟨m1, m2⟩ := mv_facts hg hy fun e => hnp (e ▸ hPI)
      rw [mvL_some]
      exact ⟨by simp only [Option.map_some, m2], fun l hl => by cases hl; rw [m2]; exact ⟨m1, hnp⟩⟩
  obtain ⟨n, _, _, _⟩ := Lk.parts.mp lk
  refine Lk.parts.mpr ⟨n.congr sp.nsize sp.io sp.kind rfl rfl (fun _ => rfl), ⟨?_, ?_, ?_⟩, ⟨?_, ?_, ?_⟩, ⟨?_, ?_, ?_, ?_⟩⟩
  · intro l hl
    rw [sp.lsize] at hl
    obtain ⟨n1, n2, _⟩ := nm_facts hg hl
    obtain ⟨q1, q2⟩ := lk.lineLt _ n1
    refine ⟨q1, fun hc => ?_⟩
    rcases hc with hc | hc
    · exact q2 hc
    · exact n2 (lk.lineInj _ _ n1 hg hc)
  · intro l1 l2 h1 h2 e
    rw [sp.lsize] at h1 h2
    obtain ⟨n1, _, n3⟩ := nm_facts hg h1
    obtain ⟨p1, _, p3⟩ := nm_facts hg h2
    have := lk.lineInj _ _ n1 p1 e
    rw [← n3, ← p3, this]
  · intro l' hl' hng
    obtain ⟨y, hy, e⟩ := lk.lineSurj l' hl' (fun hc => hng (Or.inl hc))
    have hne : y ≠ g := fun e0 => hng (Or.inr (by rw [← e, e0]))
    obtain ⟨m1, m2⟩ := mv_facts hg hy hne
    exact ⟨mvN a.lines.size g y, by rw [sp.lsize]; exact m1, by show ψ (nmN _ _ (mvN _ _ y)) = l'; rw [m2]; exact e⟩
  · intro x k hx
    rw [sp.nsize] at hx
    rw [sp.inPinF, ← lk.ins x k hx]
    exact (hmv _ fun y hy => lk.insLt x k y hy).1
  · intro l hl hpi
    rw [sp.lsize] at hl
    obtain ⟨n1, _, _⟩ := nm_facts hg hl
    obtain ⟨_, f2, f3, _⟩ := sp.line l hl
    rw [sp.nsize, f2, f3]
    exact lk.rdr _ n1 hpi
  · intro x k l hp
    rw [sp.inPinF] at hp
    rw [sp.lsize]
    exact (hmv _ fun y hy => lk.insLt x k y hy).2 l hp
  · intro x k hx ho
    rw [sp.nsize] at hx
    have hne : x ≠ (a.line g).driver := fun e => hown (e ▸ ho)
    rw [sp.outPin _ _ hne, ← lk.outs x k hx ho]
    exact (hmv _ fun y hy => lk.outsLt x k y ho hy).1
  · intro l hl hpo
    rw [sp.lsize] at hl
    obtain ⟨n1, _, _⟩ := nm_facts hg hl
    obtain ⟨f1, _, _, f4⟩ := sp.line l hl
    obtain ⟨d1, d2, d3⟩ := lk.drv _ n1 hpo
    rw [sp.nsize, f1]
    refine ⟨d1, d2, ?_⟩
    rcases f4 with e | hc
    · rw [e, isFork_of_kind_eq (sp.kind _)]; exact d3
    · right
      rw [isFork_of_kind_eq (sp.kind _), hc.1]
      exact ⟨hown, hc.2⟩
  · intro x k l ho hp
    have hne : x ≠ (a.line g).driver := fun e => hown (e ▸ ho)
    rw [sp.outPin _ _ hne] at hp
    rw [sp.lsize]
    exact (hmv _ fun y hy => lk.outsLt x k y ho hy).2 l hp
  · intro d hd hno
    rw [sp.nsize] at hd
    exact sp.drv d (lk.host d hd hno)

end remove


/-- `Node(self, name, kind)` on the level of `Net` -/
def pushNode (net : Net) (kind : String) : Net := { net with nodes := net.nodes.push ⟨kind, [], []⟩ }
/-- `Line(self, (d, dp), (r, rp))` on the level of `Net` -/
def addLineNet (net : Net) (d dp r rp : Nat) : Net :=
  { net with nodes := (addLine (net.nodes, net.lines) d dp r rp).1, lines := (addLine (net.nodes, net.lines) d dp r rp).2 }

theorem pushNode_node (net : Net) (kind : String) (x : Nat) : (pushNode net kind).node x =
    if x = net.nodes.size then ⟨kind, [], []⟩ else net.node x := by
  show (net.nodes.push _).getD x default = _
  rw [getD_push]
  by_cases h1 : x < net.nodes.size
  · rw [if_pos h1, if_neg (by omega)]; rfl
  · by_cases h2 : x = net.nodes.size
    · rw [if_neg h1, if_pos h2, if_pos h2]
    · rw [if_neg h1, if_neg h2, if_neg h2, node_ge_size net (by omega)]

theorem addLineNet_sizes (net : Net) (d dp r rp : Nat) : (addLineNet net d dp r rp).nodes.size = net.nodes.size ∧
    (addLineNet net d dp r rp).lines.size = net.lines.size + 1 ∧ (addLineNet net d dp r rp).io = net.io := by
  simp [addLineNet, addLine]

theorem pushNode_line (net : Net) (kind : String) (l : Nat) : (pushNode net kind).line l = net.line l := rfl

/-- the new `Line` object is appended; its two assignments follow -/
def pushLine (net : Net) (x : LineD) : Net := { net with lines := net.lines.push x }

theorem pushLine_line_lt (net : Net) (x : LineD) (l : Nat) (hl : l < net.lines.size) : (pushLine net x).line l = net.line l := by
  show lineA (net.lines.push _) l = _
  rw [lineA_push _ _ _ hl]; rfl

theorem pushLine_line_eq (net : Net) (x : LineD) : (pushLine net x).line net.lines.size = x := lineA_push_eq _ _

/-- `Line(self, (d, dp), (r, rp))` is: append the object, `d.outs[dp] = line`, `r.ins[rp] = line` -/
theorem addLineNet_eq (net : Net) (d dp r rp : Nat) : addLineNet net d dp r rp =
    setReader (setDriver (pushLine net ⟨d, dp, r, rp⟩) net.lines.size d dp) net.lines.size r rp := by
  simp only [addLineNet, addLine, setReader, setDriver, pushLine]
  rw [modify_push_last _ _ (fun ln : LineD => { ln with driver := d, dpin := dp }) rfl,
    modify_push_last _ _ (fun ln : LineD => { ln with reader := r, rpin := rp }) rfl]


section steps
variable {Own : Nat → Prop} {π ψ : Nat → Nat} {G PI PO : Nat → Prop} {a b : Net}

theorem Lk.stepAddNode (lk : Lk Own π ψ G PI PO a b) (kind : String) (hπ : π a.nodes.size = b.nodes.size) :
    Lk Own π ψ G PI PO (pushNode a kind) (pushNode b kind) := by
  have hsa : (pushNode a kind).nodes.size = a.nodes.size + 1 := by simp [pushNode]
  have hsb : (pushNode b kind).nodes.size = b.nodes.size + 1 := by simp [pushNode]
  have hold : ∀ x, x < a.nodes.size → (pushNode a kind).node x = a.node x ∧ (pushNode b kind).node (π x) = b.node (π x) := by
    intro x hx
    have := lk.nodeLt x hx
    rw [pushNode_node, pushNode_node, if_neg (by omega), if_neg (by omega)]
    exact ⟨rfl, rfl⟩
  have hnew : (pushNode a kind).node a.nodes.size = ⟨kind, [], []⟩ ∧ (pushNode b kind).node (π a.nodes.size) = ⟨kind, [], []⟩ := by
    rw [pushNode_node, pushNode_node, if_pos rfl, hπ, if_pos rfl]
    exact ⟨rfl, rfl⟩
  have hnodeA : ∀ x, ((pushNode a kind).node x).ins = (a.node x).ins ∧ ((pushNode a kind).node x).outs = (a.node x).outs := by
    intro x
    rw [pushNode_node]
    split
    · rename_i e
      rw [node_ge_size a (Nat.le_of_eq e.symm)]; exact ⟨rfl, rfl⟩
    · exact ⟨rfl, rfl⟩
  obtain ⟨_, l, _, _⟩ := Lk.parts.mp lk
  refine Lk.parts.mpr ⟨⟨lk.πinj, ?_, ?_, lk.io⟩, l.congr rfl rfl, ⟨?_, ?_, ?_⟩, ⟨?_, ?_, ?_, ?_⟩⟩
  · intro x hx
    rw [hsa] at hx; rw [hsb]
    rcases Nat.lt_succ_iff_lt_or_eq.mp hx with h1 | h1
    · have := lk.nodeLt x h1; omega
    · rw [h1, hπ]; omega
  · intro x hx
    rw [hsa] at hx
    rcases Nat.lt_succ_iff_lt_or_eq.mp hx with h1 | h1
    · rw [(hold x h1).1, (hold x h1).2]; exact lk.kind x h1
    · rw [h1, hnew.1, hnew.2]
  · intro x k hx
    rw [hsa] at hx
    rcases Nat.lt_succ_iff_lt_or_eq.mp hx with h1 | h1
    · rw [(hold x h1).1, (hold x h1).2]; exact lk.ins x k h1
    · rw [h1, hnew.1, hnew.2]; rfl
  · intro l hl hpi
    obtain ⟨r1, r2, r3⟩ := lk.rdr l hl hpi
    rw [hsa, pushNode_line, pushNode_line]
    exact ⟨by omega, r2, r3⟩
  · intro x k l hp
    rw [(hnodeA x).1] at hp
    exact lk.insLt x k l hp
  · intro x k hx ho
    rw [hsa] at hx
    rcases Nat.lt_succ_iff_lt_or_eq.mp hx with h1 | h1
    · rw [(hold x h1).1, (hold x h1).2]; exact lk.outs x k h1 ho
    · rw [h1, hnew.1, hnew.2]; rfl
  · intro l hl hpo
    obtain ⟨d1, d2, d3⟩ := lk.drv l hl hpo
    rw [hsa, pushNode_line, pushNode_line, (hold _ d1).1]
    exact ⟨by omega, d2, d3⟩
  · intro x k l ho hp
    rw [(hnodeA x).2] at hp
    exact lk.outsLt x k l ho hp
  · intro d hd hno
    rw [hsa] at hd
    rcases Nat.lt_succ_iff_lt_or_eq.mp hd with h1 | h1
    · have w := lk.host d h1 hno
      refine ⟨by rw [hsa]; omega, fun p y hp => ?_, fun y hy hex hdy => ?_⟩
      · rw [(hold d h1).1] at hp; exact w.fwd p y hp
      · rw [(hold d h1).1]; exact w.back y hy hex hdy
    · subst h1
      refine ⟨by rw [hsa]; omega, ?_, ?_⟩
      · intro p y hp
        rw [hnew.1] at hp
        simp at hp
      · intro y hy hex hdy
        have hy' : y < a.lines.size := hy
        have hdy' : (a.line y).driver = a.nodes.size := hdy
        have := (lk.drv y hy' hex).1
        omega

theorem Lk.congrPI {PI' : Nat → Prop} (lk : Lk Own π ψ G PI PO a b) (h : ∀ x, PI x ↔ PI' x) : Lk Own π ψ G PI' PO a b := by
  have : PI = PI' := funext fun x => propext (h x)
  subst this; exact lk

theorem Lk.congrPO {PO' : Nat → Prop} (lk : Lk Own π ψ G PI PO a b) (h : ∀ x, PO x ↔ PO' x) : Lk Own π ψ G PI PO' a b := by
  have : PO = PO' := funext fun x => propext (h x)
  subst this; exact lk

/-- the new `Line` object in both runs, with its reader side on record and its driver side still to be connected -/
theorem Lk.stepPushLine (lk : Lk Own π ψ G PI PO a b) (x : LineD) (hr : x.reader < a.nodes.size)
    (hψ : ψ a.lines.size = b.lines.size) (hG : ¬ G b.lines.size) :
    Lk Own π ψ G PI (fun l => PO l ∨ l = b.lines.size) (pushLine a x) (pushLine b ⟨π x.driver, x.dpin, π x.reader, x.rpin⟩) := by
  have sa : (pushLine a x).lines.size = a.lines.size + 1 := by simp [pushLine]
  have sb : ∀ y, (pushLine b y).lines.size = b.lines.size + 1 := fun y => by simp [pushLine]
  have hne : ∀ l, l < a.lines.size → ψ l ≠ b.lines.size := fun l hl => Nat.ne_of_lt (lk.lineLt l hl).1
  obtain ⟨n, _, _, _⟩ := Lk.parts.mp lk
  refine Lk.parts.mpr ⟨n.congr rfl rfl (fun _ => rfl) rfl rfl (fun _ => rfl), ⟨?_, ?_, ?_⟩, ⟨lk.ins, ?_, ?_⟩, ⟨lk.outs, ?_, ?_, ?_⟩⟩
  · intro l hl
    rw [sa] at hl; rw [sb]
    rcases Nat.lt_succ_iff_lt_or_eq.mp hl with h1 | h1
    · have := lk.lineLt l h1; exact ⟨by omega, this.2⟩
    · rw [h1, hψ]; exact ⟨by omega, hG⟩
  · intro l1 l2 h1 h2 e
    rw [sa] at h1 h2
    rcases Nat.lt_succ_iff_lt_or_eq.mp h1 with c1 | c1 <;> rcases Nat.lt_succ_iff_lt_or_eq.mp h2 with c2 | c2
    · exact lk.lineInj l1 l2 c1 c2 e
    · rw [c2, hψ] at e; exact absurd e (hne l1 c1)
    · rw [c1, hψ] at e; exact absurd e.symm (hne l2 c2)
    · rw [c1, c2]
  · intro l' hl' hg
    rw [sb] at hl'; rw [sa]
    by_cases e : l' = b.lines.size
    · exact ⟨a.lines.size, by omega, by rw [hψ, e]⟩
    · obtain ⟨l, h1, h2⟩ := lk.lineSurj l' (by omega) hg
      exact ⟨l, by omega, h2⟩
  · intro l hl hpi
    rw [sa] at hl
    rcases Nat.lt_succ_iff_lt_or_eq.mp hl with h1 | h1
    · rw [pushLine_line_lt a _ _ h1, pushLine_line_lt b _ _ (lk.lineLt l h1).1]
      exact lk.rdr l h1 hpi
    · rw [h1, hψ, pushLine_line_eq, pushLine_line_eq]
      exact ⟨hr, rfl, rfl⟩
  · intro y k l hp
    obtain ⟨q1, q2⟩ := lk.insLt y k l hp
    exact ⟨by rw [sa]; omega, q2⟩
  · intro l hl hpo
    rw [sa] at hl
    rcases Nat.lt_succ_iff_lt_or_eq.mp hl with h1 | h1
    · rw [pushLine_line_lt a _ _ h1, pushLine_line_lt b _ _ (lk.lineLt l h1).1]
      exact lk.drv l h1 fun hp => hpo (Or.inl hp)
    · exact absurd (Or.inr (by rw [h1, hψ])) hpo
  · intro y k l ho hp
    obtain ⟨q1, q2⟩ := lk.outsLt y k l ho hp
    exact ⟨by rw [sa]; omega, q2⟩
  · intro d0 hd0 hno
    have w := lk.host d0 hd0 hno
    refine ⟨hd0, fun p y hp => ?_, fun y hy hex hdy => ?_⟩
    · obtain ⟨q1, q2, q3, q4⟩ := w.fwd p y hp
      rw [sa, pushLine_line_lt a _ _ q1]
      exact ⟨by omega, q2, q3, fun hc => hc.elim q4 (hne y q1)⟩
    · rw [sa] at hy
      rcases Nat.lt_succ_iff_lt_or_eq.mp hy with h1 | h1
      · rw [pushLine_line_lt a _ _ h1] at hdy ⊢
        exact w.back y h1 (fun hp => hex (Or.inl hp)) hdy
      · exact absurd (Or.inr (by rw [h1, hψ])) hex

/-- `Line(self, (d, dp), (r, rp))` in both runs: the three steps of `addLineNet_eq` -/
theorem Lk.stepAddLine (lk : Lk Own π ψ G PI PO a b) (d dp r rp : Nat) (hd : d < a.nodes.size) (hr : r < a.nodes.size)
    (hdo : Own d) (hψ : ψ a.lines.size = b.lines.size) (hG : ¬ G b.lines.size) (hPI : ¬ PI b.lines.size) (hPO : ¬ PO b.lines.size) :
    Lk Own π ψ G PI PO (addLineNet a d dp r rp) (addLineNet b (π d) dp (π r) rp) := by
  rw [addLineNet_eq, addLineNet_eq]
  have l1 := (lk.stepPushLine ⟨d, dp, r, rp⟩ hr hψ hG).stepDriver a.lines.size b.lines.size d dp
    (by simp [pushLine]) hψ hd hdo (Or.inr rfl) hPI
  have l2 := l1.stepReader a.lines.size b.lines.size r rp (by simp [setDriver, pushLine]) hψ
    (by rw [(setDriver_sizes _ _ _ _).1]; exact hr)
  exact (l2.congrPI fun y => ⟨fun hy => hy.1, fun hy => ⟨hy, fun e => hPI (e ▸ hy)⟩⟩).congrPO fun y =>
    ⟨fun hy => hy.1.elim id fun e => absurd e hy.2, fun hy => ⟨Or.inl hy, fun e => hPO (e ▸ hy)⟩⟩

end steps
end KV.Transform
