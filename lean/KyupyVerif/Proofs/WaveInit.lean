import KyupyVerif.Proofs.WaveParity
/-! The time algebra of `T` (order through `rank`, `add`, `min`), the event time (`cur` is the least pending time and `pick`
attains it), and the two phases of the loop (joined by `run_phases`, Proofs/WavePhases.lean).
Phase A (`InvA`): while some operand still starts with `tmin` (`anyPend`) the event time is `tmin` and the stack is `[]` or `[tmin]`.
Phase B (`InvB`): all remaining entries are finite, so every event is finite and the bottom entry of the stack (`bot`) can no
longer be removed: popping a one-element stack `[tmin]` would need a pulse not wider than `prev = tmin`. -/

namespace KV.Wave

namespace T
def isFin : T → Bool | fin _ => true | _ => false
def isTerm : T → Bool | tmax => true | tovl => true | _ => false

/-! ### the order: `lt` is the lexicographic order on `rank`; `lt'` is `lt` evaluated constructor by constructor -/

theorem lt_iff (a b : T) : lt a b = true ↔ a.rank.1 < b.rank.1 ∨ (a.rank.1 = b.rank.1 ∧ a.rank.2 < b.rank.2) := by
  simp [lt]

def le (a b : T) : Prop := lt b a = false

theorem le_iff (a b : T) : le a b ↔ ¬ (b.rank.1 < a.rank.1 ∨ (b.rank.1 = a.rank.1 ∧ b.rank.2 < a.rank.2)) := by
  rw [le, ← Bool.not_eq_true, lt_iff]

theorem lt_irrefl (a : T) : lt a a = false := by rw [← Bool.not_eq_true, lt_iff]; omega
theorem le_refl (a : T) : le a a := lt_irrefl a
theorem lt_of_le_of_lt {a b c : T} (h1 : le a b) (h2 : lt b c = true) : lt a c = true := by
  rw [le_iff] at h1; rw [lt_iff] at h2 ⊢; omega
theorem lt_of_lt_of_le {a b c : T} (h1 : lt a b = true) (h2 : le b c) : lt a c = true := by
  rw [le_iff] at h2; rw [lt_iff] at h1 ⊢; omega
theorem le_trans {a b c : T} (h1 : le a b) (h2 : le b c) : le a c := by
  rw [le_iff] at *; omega
theorem le_of_lt {a b : T} (h : lt a b = true) : le a b := by
  rw [le_iff]; rw [lt_iff] at h; omega

def lt' : T → T → Bool
  | tmin, tmin => false | tmin, _ => true
  | fin _, tmin => false | fin a, fin b => decide (a < b) | fin _, _ => true
  | tmax, tovl => true | tmax, _ => false
  | tovl, _ => false
theorem lt_eq (a b : T) : lt a b = lt' a b := by
  cases a <;> cases b <;> first | rfl | simp [lt, lt', rank]

@[simp] theorem lt_tmin (a : T) : lt a tmin = false := by rw [lt_eq]; cases a <;> rfl
theorem tmin_le (a : T) : le tmin a := lt_tmin a
theorem tmin_lt_of_ne (a : T) (h : a ≠ tmin) : lt tmin a = true := by
  cases a <;> simp_all [lt, rank]
theorem eq_tmin_of_le {a : T} (h : le a tmin) : a = tmin := by
  rw [le, lt_eq] at h; cases a <;> first | rfl | cases h
theorem add_lt_add {a b : T} (d : Int) (h : lt a b = true) : lt (a.add d) (b.add d) = true := by
  simp only [lt_eq] at *; cases a <;> cases b <;> simp [lt', add] at * <;> omega
theorem add_le_add {a b : T} (d : Int) (h : le a b) : le (a.add d) (b.add d) := by
  simp only [le, lt_eq] at *; cases a <;> cases b <;> simp [lt', add] at * <;> omega
theorem lt_of_widerThan {c p : T} {th : Int} (hth : 0 ≤ th) (h : widerThan c p th = true) : lt p c = true := by
  simp only [lt_eq]; cases c <;> cases p <;> simp [widerThan, lt'] at * <;> omega
theorem lt_term {a b : T} (ha : a.isFin = true ∨ a = tmin) (hb : b.isTerm = true) : lt a b = true := by
  simp only [lt_eq]; cases a <;> cases b <;> simp_all [lt', isFin, isTerm]
theorem lt_tmax_iff (a : T) : lt a tmax = true ↔ a.isTerm = false := by
  rw [lt_eq]; cases a <;> simp [lt', isTerm]

theorem add_eq_tmin (a : T) (d : Int) : a.add d = tmin ↔ a = tmin := by
  cases a <;> simp [add]
theorem add_isFin (a : T) (d : Int) : (a.add d).isFin = a.isFin := by
  cases a <;> simp [add, isFin]
theorem add_isTerm (a : T) (d : Int) : (a.add d).isTerm = a.isTerm := by
  cases a <;> simp [add, isTerm]

theorem min_cases (a b : T) : min a b = a ∨ min a b = b := by
  unfold min; split <;> simp
theorem max_cases (a b : T) : max a b = a ∨ max a b = b := by
  unfold max; split <;> simp
theorem min_le_left (a b : T) : le (min a b) a := by
  unfold min; split
  · rename_i h; exact le_of_lt h
  · exact le_refl a
theorem min_le_right (a b : T) : le (min a b) b := by
  unfold min; split
  · exact le_refl b
  · rename_i h; simpa [le] using h
end T

theorem T.lt_trans {a b c : T} (h1 : T.lt a b = true) (h2 : T.lt b c = true) : T.lt a c = true :=
  T.lt_of_lt_of_le h1 (T.le_of_lt h2)

/-- well-formed waveform entries (and every suffix of them, whence the name): finite times, except that the first may be `tmin`
    (the mark "initially 1") -/
def WfRem (l : List T) : Prop := (∀ e ∈ l.tail, e.isFin = true) ∧ (∀ e ∈ l, e = T.tmin ∨ e.isFin = true)

theorem WfRem.tail {l : List T} (h : WfRem l) : WfRem l.tail ∧ ∀ e ∈ l.tail, e.isFin = true := by
  refine ⟨⟨?_, ?_⟩, h.1⟩
  · intro e he; exact h.1 e (List.mem_of_mem_tail he)
  · intro e he; exact Or.inr (h.1 e he)

theorem forall_fin4 {P : Fin 4 → Prop} : (∀ i, P i) ↔ P 0 ∧ P 1 ∧ P 2 ∧ P 3 :=
  ⟨fun h => ⟨h 0, h 1, h 2, h 3⟩, fun h i => by
    match i with
    | 0 => exact h.1
    | 1 => exact h.2.1
    | 2 => exact h.2.2.1
    | 3 => exact h.2.2.2⟩


theorem cur_le_pend (D terms) (s : St) (i : Fin 4) : T.le (cur D terms s) (pend D terms s i) := by
  unfold cur
  match i with
  | 0 => exact T.le_trans (T.min_le_left _ _) (T.min_le_left _ _)
  | 1 => exact T.le_trans (T.min_le_left _ _) (T.min_le_right _ _)
  | 2 => exact T.le_trans (T.min_le_right _ _) (T.min_le_left _ _)
  | 3 => exact T.le_trans (T.min_le_right _ _) (T.min_le_right _ _)

theorem pend_pick (D : Delays) (terms : Fin 4 → T) (s : St) : pend D terms s (pick D terms s) = cur D terms s := by
  unfold pick
  simp only []
  split
  · assumption
  · split
    · assumption
    · split
      · assumption
      · rename_i h0 h1 h2
        unfold cur at *
        rcases T.min_cases (T.min (pend D terms s 0) (pend D terms s 1)) (T.min (pend D terms s 2) (pend D terms s 3)) with e | e
        · rcases T.min_cases (pend D terms s 0) (pend D terms s 1) with e' | e'
          · exact absurd (by rw [e, e']) h0
          · exact absurd (by rw [e, e']) h1
        · rcases T.min_cases (pend D terms s 2) (pend D terms s 3) with e' | e'
          · exact absurd (by rw [e, e']) h2
          · rw [e, e']

def pendTmin (s : St) (i : Fin 4) : Bool := (s.r i).head? == some T.tmin
def anyPend (s : St) : Bool := pendTmin s 0 || pendTmin s 1 || pendTmin s 2 || pendTmin s 3

theorem anyPend_false {s : St} (h : anyPend s = false) : ∀ i, pendTmin s i = false := by
  simp only [anyPend, Bool.or_eq_false_iff] at h
  exact forall_fin4.mpr ⟨h.1.1.1, h.1.1.2, h.1.2, h.2⟩

/-- one `_wave_eval` call with the hypotheses of C03: `hcap` is `c_caps_min`, `hD` delays ≥ 0, `hterm` operand terminators `≥ TMAX`.
    Lemmas that need `hterm` only take it by itself. Why 4: the overflow pop takes the stack from `zcap - 1` to `zcap - 2` entries
    and leaves `prev` at the POPPED time, so a leading `tmin` is safe from the next pop only if two entries remain (`InvB.jj`,
    `stepB`); with capacity 2 and with capacity 3 the initial value is lost (the two examples in Props/C03.lean). -/
structure Env where
  lut : Nat
  D : Delays
  terms : Fin 4 → T
  zcap : Nat
  hcap : 4 ≤ zcap
  hD : ∀ i p q, 0 ≤ D i p q
  hterm : ∀ i, (terms i).isTerm = true

theorem pend_eq_tmin (E : Env) (s : St) (i : Fin 4) :
    pend E.D E.terms s i = T.tmin ↔ pendTmin s i = true := by
  unfold pend pendTmin
  rw [T.add_eq_tmin]
  cases h : s.r i with
  | nil =>
    have := E.hterm i
    simp [headT]
    intro e; rw [e] at this; simp [T.isTerm] at this
  | cons x xs => simp [headT]

theorem cur_eq_tmin (E : Env) (s : St) : cur E.D E.terms s = T.tmin ↔ anyPend s = true := by
  constructor
  · intro h
    cases hp : anyPend s with
    | true => rfl
    | false =>
      have := (pend_eq_tmin E s _).mp ((pend_pick E.D E.terms s).trans h)
      rw [anyPend_false hp] at this; cases this
  · intro h
    simp only [anyPend, Bool.or_eq_true, ← pend_eq_tmin E] at h
    have key : ∀ i, pend E.D E.terms s i = T.tmin → cur E.D E.terms s = T.tmin := fun i hi =>
      T.eq_tmin_of_le (hi ▸ cur_le_pend E.D E.terms s i)
    rcases h with ((h | h) | h) | h <;> exact key _ h

theorem pick_pend (E : Env) (s : St) (h : anyPend s = true) : pendTmin s (pick E.D E.terms s) = true :=
  (pend_eq_tmin E s _).mp ((pend_pick E.D E.terms s).trans ((cur_eq_tmin E s).mpr h))

/-- the input bits once every pending `tmin` has been consumed: a pending `tmin` will toggle its bit -/
def expected (s : St) : Fin 4 → Bool := fun i => s.inp i != pendTmin s i

/-- phase A: what is particular to it. That the remaining entries are well formed follows from the cursors (`Base.wf`). -/
structure InvA (s : St) : Prop where
  z : s.z = [] ∨ s.z = [T.tmin]
  prev : s.prev = T.tmin

theorem widerThan_tmin_tmin (th : Int) (h : 0 ≤ th) : T.widerThan T.tmin T.tmin th = false := by
  simp [T.widerThan]; omega

/-- in phase A `cur = tmin` rules out both "next edge earlier" and "wider than `prev`", so a toggle is pushed iff the stack
    is empty and popped otherwise -/
theorem stepA (E : Env) (s : St) (hA : InvA s) (hp : anyPend s = true) : InvA (step E.lut E.D E.terms E.zcap s) := by
  have hc := (cur_eq_tmin E s).mpr hp
  have hcap := E.hcap
  refine step_ind (P := InvA) _ _ _ _ s (fun _ => ⟨hA.z, hA.prev⟩) (fun _ hk _ => ?_) (fun _ hfull => ?_) (fun _ hne _ _ => ?_)
  · rw [hc, hA.prev, T.lt_tmin, widerThan_tmin_tmin (thresh E.D s _) (E.hD _ _ _)] at hk
    have hz : s.z = [] := by simpa using hk
    exact ⟨Or.inr (by simp only [St.push, St.adv, hz, hc]), hc⟩
  · rcases hA.z with h | h <;> rw [h] at hfull <;> simp at hfull <;> omega
  · rcases hA.z with h | h
    · exact absurd h hne
    · exact ⟨Or.inl (by simp only [St.pop, St.adv, h, List.tail_cons]), by simp only [St.pop, h, List.tail_cons, headT]⟩

/-- the waveform on the stack starts high: its oldest entry is `tmin` -/
def bot (z : List T) : Bool := z.getLast? == some T.tmin

/-- phase B: only finite entries remain. `jj`: `prev` is the top of the stack unless the stack holds two entries or more (then
    the bottom is out of reach of a pop anyway) -/
structure InvB (s : St) : Prop where
  fin : ∀ i, ∀ e ∈ s.r i, e.isFin = true
  jj : s.prev = headT s.z T.tmin ∨ 2 ≤ s.z.length

theorem pend_fin_or_term (E : Env) (s : St) (hB : InvB s) (i : Fin 4) :
    (pend E.D E.terms s i).isFin = true ∨ (pend E.D E.terms s i).isTerm = true := by
  unfold pend
  cases h : s.r i with
  | nil => right; simp [headT, T.add_isTerm, E.hterm i]
  | cons x xs => left; simp [headT, T.add_isFin]; exact hB.fin i x (by simp [h])

theorem cur_fin (E : Env) (s : St) (hB : InvB s) (hlt : T.lt (cur E.D E.terms s) .tmax = true) :
    ∃ t, cur E.D E.terms s = T.fin t := by
  have key := pend_fin_or_term E s hB (pick E.D E.terms s)
  rw [pend_pick] at key
  rw [T.lt_tmax_iff] at hlt
  cases hc : cur E.D E.terms s with
  | fin t => exact ⟨t, rfl⟩
  | _ => simp [hc, T.isFin, T.isTerm] at key hlt

theorem bot_cons_fin (t : Int) (z : List T) : bot (T.fin t :: z) = bot z := by
  unfold bot
  cases z with
  | nil => simp
  | cons x xs => simp [List.getLast?_cons_cons]

theorem bot_tail_of_two (z : List T) (h : 2 ≤ z.length) : bot z.tail = bot z := by
  unfold bot
  match z, h with
  | a :: b :: r, _ => simp [List.getLast?_cons_cons]

theorem widerThan_fin_tmin (t th : Int) : T.widerThan (T.fin t) T.tmin th = true := by
  simp [T.widerThan]

theorem stepB (E : Env) (s : St) (hB : InvB s) (hlt : T.lt (cur E.D E.terms s) .tmax = true) :
    InvB (step E.lut E.D E.terms E.zcap s) ∧ bot (step E.lut E.D E.terms E.zcap s).z = bot s.z := by
  obtain ⟨t, hc⟩ := cur_fin E s hB hlt
  have hcap := E.hcap
  have hfin : ∀ i, ∀ e ∈ (s.adv (pick E.D E.terms s)).r i, e.isFin = true :=
    fun i e he => hB.fin i e ((upd_tail_sublist s.r _ i).subset he)
  refine step_ind (P := fun s' => InvB s' ∧ bot s'.z = bot s.z) _ _ _ _ s
    (fun _ => ⟨⟨hfin, hB.jj⟩, rfl⟩)
    (fun _ _ _ => ⟨⟨hfin, Or.inl rfl⟩, by rw [hc]; exact bot_cons_fin t _⟩)
    (fun _ hfull => ⟨⟨hfin, Or.inr (by simp only [St.over, St.pop, St.adv, List.length_tail]; omega)⟩,
      bot_tail_of_two s.z (by omega)⟩)
    (fun _ hne _ hw => ⟨⟨hfin, Or.inl rfl⟩, ?_⟩)
  -- a one-element stack `[tmin]` is never popped: the pulse would be wider than `prev = tmin`
  match hz : s.z, hne with
  | [x], _ =>
    have hprev : s.prev = x := by simpa [hz, headT] using hB.jj
    have : x ≠ T.tmin := fun e => by rw [hc, hprev, e, widerThan_fin_tmin] at hw; cases hw
    simpa [St.pop, St.adv, bot, hz] using this
  | a :: b :: r, _ => simpa [St.pop, St.adv, hz] using bot_tail_of_two (a :: b :: r) (by simp)

/-- the initial values of the four operands: a waveform starts high when its first entry is `tmin` -/
def initMask (ws : Fin 4 → List T) : Fin 4 → Bool := fun i => (ws i).head? == some T.tmin

end KV.Wave
