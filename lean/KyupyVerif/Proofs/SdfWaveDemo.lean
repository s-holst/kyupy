import KyupyVerif.Proofs.SdfWaveBounds
import KyupyVerif.Proofs.StaPath
import KyupyVerif.Proofs.SdfWaveNet
import KyupyVerif.Proofs.SdfTextRaw
import KyupyVerif.Proofs.WaveMemCirc
import KyupyVerif.Gen.Tables
/-! A concrete instance for the non-vacuity examples of the timing data path (Props/C14Wave.lean):
`z = NAND2_X1(INV_X1(a), b)` exactly as `verilog.parse("module top(a, b, z); input a; input b; output z; wire n1;
INV_X1 u1 (.I(a), .ZN(n1)); NAND2_X1 u2 (.A1(n1), .A2(b), .ZN(z)); endmodule", tlib=NANGATE, branchforks=True)` builds it
(canonical dump of the real circuit: 12 nodes — a signal fork behind every driver, a branch fork in front of every cell pin —,
11 lines), the tables `sdf.py` reads off it, and an SDF description with distinct IOPATH and INTERCONNECT values.
`Gen.kindPrefixes` (the kind table of the op rows) comes from `Gen/Tables.lean`, which the GEN step of the check writes from /repo:
this module and Props/C14Wave.lean build after that step.

Lines: 2 `a → fork a`, 4 `fork a → branch a~u1/I` (INTERCONNECT a u1/I), 5 `branch → u1.I` (IOPATH u1 I ZN),
0 `u1.ZN → fork n1`, 6 `fork n1 → branch n1~u2/A1` (INTERCONNECT u1/ZN u2/A1), 7 `branch → u2.A1` (IOPATH u2 A1 ZN),
3 `b → fork b`, 8 `fork b → branch b~u2/A2` (INTERCONNECT b u2/A2), 9 `branch → u2.A2` (IOPATH u2 (posedge A2) ZN),
1 `u2.ZN → fork z` (INTERCONNECT u2/ZN z: the only fork between the pins, no fan-out), 10 `fork z → output z`. -/
namespace KV.SdfWave
open KV KV.Sig KV.Sdf KV.SdfText KV.Wave KV.MapSound

def demoNet : Net :=
  { nodes := #[⟨"INV_X1", [some 5], [some 0]⟩, ⟨"__fork__", [some 0], [some 6]⟩, ⟨"NAND2_X1", [some 7, some 9], [some 1]⟩,
               ⟨"__fork__", [some 1], [some 10]⟩, ⟨"input", [], [some 2]⟩, ⟨"__fork__", [some 2], [some 4]⟩,
               ⟨"input", [], [some 3]⟩, ⟨"__fork__", [some 3], [some 8]⟩, ⟨"output", [some 10], []⟩,
               ⟨"__fork__", [some 4], [some 5]⟩, ⟨"__fork__", [some 6], [some 7]⟩, ⟨"__fork__", [some 8], [some 9]⟩],
    lines := #[⟨0, 0, 1, 0⟩, ⟨2, 0, 3, 0⟩, ⟨4, 0, 5, 0⟩, ⟨6, 0, 7, 0⟩, ⟨5, 0, 9, 0⟩, ⟨9, 0, 0, 0⟩, ⟨1, 0, 10, 0⟩,
               ⟨10, 0, 2, 0⟩, ⟨7, 0, 11, 0⟩, ⟨11, 0, 2, 1⟩, ⟨3, 0, 8, 0⟩],
    io := [4, 6, 8] }
/-- `c.topological_order()` of the real circuit -/
def demoOrder : List Nat := [4, 6, 5, 7, 9, 11, 0, 1, 10, 2, 3, 8]

theorem demo_hyps : demoNet.wfB = true ∧ orderOKB demoNet demoOrder = true ∧
    forksOKB demoNet demoOrder = true ∧ readsDrivenB Gen.kindPrefixes demoNet demoOrder = true := by
  decide +kernel

/-- `WaveSim(c, delays, c_caps=16)`: no fork stripping, no memory re-use -/
def demo : MapIn := simopsMap Gen.kindPrefixes demoNet demoOrder false (fun _ => 16) 4 false

theorem demo_tables : demo.ppiSlots = [14, 15] ∧ demo.ppoSrcs = [(19, 10)] ∧ demo.ix.zero = 11 ∧ demo.ix.tmp = 12 ∧
    demo.loc 14 = 12 ∧ demo.loc 15 = 16 ∧ demo.loc 11 = 0 ∧ demo.loc 19 = 180 ∧ demo.cap 19 = 16 ∧
    demo.cap 14 = 4 ∧ demo.cap 15 = 4 ∧ demo.cap 11 = 4 := by decide +kernel

theorem demo_check : demo.check = none :=
  simopsMap_accepted false (fun _ => 16) 4 false demo_hyps.1
    demo_hyps.2.1 (fun h => by cases h) demo_hyps.2.2.2 (by decide)

/-- the block list: one top-level block with the four INTERCONNECTs, one block per instance. Numbers in thousandths. -/
def demoB : List RawCell :=
  [⟨[], [[⟨"a", "u1/I", [[some 125, some 250, some 375]]⟩, ⟨"u1/ZN", "u2/A1", [[some 250, some 375, some 500]]⟩,
          ⟨"b", "u2/A2", [[some 625, some 625, some 625], [some 750, some 750, some 750]]⟩,
          ⟨"u2/ZN", "z", [[some 500, some 625, some 750]]⟩]]⟩,
   ⟨["u1"], [[⟨"I", "ZN", [[some 1000, some 1125, some 1250]]⟩]]⟩,
   ⟨["u2"], [[⟨"A1", "ZN", [[some 2000, some 2500, some 3000]]⟩,
             ⟨"(posedge A2)", "ZN", [[some 1500, some 1500, some 1500], [some 1750, some 1750, some 1750]]⟩]]⟩]

def demoText : String := printSdf (ofRaw demoB)

theorem demoText_eq : demoText = "(DELAYFILE (CELL (DELAY (ABSOLUTE (INTERCONNECT a u1/I (0.125:0.250:0.375)) (INTERCONNECT u1/ZN u2/A1 (0.250:0.375:0.500)) (INTERCONNECT b u2/A2 (0.625:0.625:0.625) (0.750:0.750:0.750)) (INTERCONNECT u2/ZN z (0.500:0.625:0.750))))) (CELL (INSTANCE u1) (DELAY (ABSOLUTE (IOPATH I ZN (1.000:1.125:1.250))))) (CELL (INSTANCE u2) (DELAY (ABSOLUTE (IOPATH A1 ZN (2.000:2.500:3.000)) (IOPATH (posedge A2) ZN (1.500:1.500:1.500) (1.750:1.750:1.750))))))\n" := by
  -- the second `String.toList_ofList` reads the character list off the literal by unification; the kernel compares two lists
  rw [demoText, printSdf, ← String.toList_inj, String.toList_ofList, String.toList_ofList]
  decide +kernel

theorem demoB_ok : rawShapeOK demoB = true ∧ (ofRaw demoB).valid = true ∧ rawNonneg demoB = true := by decide +kernel

/-- line feeding an input pin (what `cell.ins[tlib.pin_index(cell.kind, pin)]` gives on the real circuit) -/
def demoPins : PinTable := fun c p =>
  if c = "u1" ∧ p = "I" then some 5 else if c = "u2" ∧ p = "A1" then some 7 else if c = "u2" ∧ p = "A2" then some 9 else none
/-- input line of the fork between two pins (the branch fork, or the only fork when there is no fan-out) -/
def demoIc : IcTable := fun c1 p1 c2 p2 =>
  if c1 = "a" ∧ p1 = none ∧ c2 = "u1" ∧ p2 = some "I" then some 4
  else if c1 = "u1" ∧ p1 = some "ZN" ∧ c2 = "u2" ∧ p2 = some "A1" then some 6
  else if c1 = "b" ∧ p1 = none ∧ c2 = "u2" ∧ p2 = some "A2" then some 8
  else if c1 = "u2" ∧ p1 = some "ZN" ∧ c2 = "z" ∧ p2 = none then some 1 else none

theorem demoPins_range (c p : String) (l : Nat) (h : demoPins c p = some l) : l = 5 ∨ l = 7 ∨ l = 9 := by
  unfold demoPins at h
  repeat' split at h
  all_goals first | (cases h; omega) | cases h

theorem demoIc_range (c1 : String) (p1 : Option String) (c2 : String) (p2 : Option String) (l : Nat)
    (h : demoIc c1 p1 c2 p2 = some l) : l = 4 ∨ l = 6 ∨ l = 8 ∨ l = 1 := by
  unfold demoIc at h
  repeat' split at h
  all_goals first | (cases h; omega) | cases h

/-- node names of the real circuit (parallel to `demoNet.nodes`) and `NANGATE.pin_index` on the two cell kinds -/
def demoNames : Array String := #["u1", "n1", "u2", "z", "a", "a", "b", "b", "z", "a~u1/I", "n1~u2/A1", "b~u2/A2"]
def demoPinIdx : PinIdx := fun kind pin =>
  if kind = "INV_X1" ∧ (pin = "I" ∨ pin = "ZN") then some 0
  else if kind = "NAND2_X1" ∧ (pin = "A1" ∨ pin = "ZN") then some 0
  else if kind = "NAND2_X1" ∧ pin = "A2" then some 1 else none

theorem demo_tables_net :
    ([("u1", "I"), ("u2", "A1"), ("u2", "A2"), ("u3", "A1"), ("n1", "I")].all fun q =>
      netPinLine demoNet demoNames demoPinIdx q.1 q.2 == demoPins q.1 q.2) = true ∧
    ([("a", none, "u1", some "I"), ("u1", some "ZN", "u2", some "A1"), ("b", none, "u2", some "A2"),
      ("u2", some "ZN", "z", none), ("a", none, "u2", some "A1"), ("u1", some "ZN", "z", none)].all fun q =>
      netIcLine demoNet demoNames demoPinIdx q.1 q.2.1 q.2.2.1 q.2.2.2 == demoIc q.1 q.2.1 q.2.2.1 q.2.2.2) = true := by
  decide +kernel

/-- the demo file has a top-level block: `interconnects` answers (the real call does not raise) -/
theorem demo_ic_isSome : (interconnects demoIc (parse .merge demoB)).isSome = true := by decide +kernel

def demoIcArr : Arr := (interconnects demoIc (parse .merge demoB)).get demo_ic_isSome

theorem demo_ic : interconnects demoIc (parse .merge demoB) = some demoIcArr := (Option.some_get demo_ic_isSome).symm

def demoDelayD (d : Nat) : Nat → Bool → Bool → Int := sumDelay demoPins (parse .merge demoB) demoIcArr d

def demoDelay : Nat → Bool → Bool → Int := demoDelayD 0

theorem demo_sdfDelay (d : Nat) : sdfDelay demoPins demoIc (parse .merge demoB) d = some (demoDelayD d) := by
  unfold sdfDelay
  rw [demo_ic]
  rfl

theorem demo_cfg (d : Nat) (cap : Nat → Nat) :
    sdfCfg demoPins demoIc (parse .merge demoB) d cap = some ⟨demoDelayD d, cap⟩ := by
  unfold sdfCfg
  rw [demo_sdfDelay]
  rfl

/-- the whole table, lines 0 … 10 (rows `[d00, d01, d10, d11]`): the IOPATH / INTERCONNECT values of data set 0 on the lines
named in the header, 0 on the lines from a driver to its signal fork; `(posedge A2)` fills input polarity 0 only -/
theorem demoDelay_table :
    (List.range 11).map (fun l => [demoDelay l false false, demoDelay l false true, demoDelay l true false, demoDelay l true true])
    = [[0, 0, 0, 0], [500, 500, 500, 500], [0, 0, 0, 0], [0, 0, 0, 0], [125, 125, 125, 125], [1000, 1000, 1000, 1000],
       [250, 250, 250, 250], [2000, 2000, 2000, 2000], [625, 750, 625, 750], [1500, 1750, 0, 0], [0, 0, 0, 0]] := by
  decide +kernel

/-- initial memory as `s_to_c` leaves it for `a = (0, 1.000, 1)`, `b = (1, ·, 1)`: `a` rises at tick 1000 (cell 12), `b` is
constant 1 (`TMIN` in cell 16), everything else `TMAX` -/
def demoM0 : Int → T := fun a => if a = 12 then T.fin 1000 else if a = 16 then T.tmin else T.tmax

theorem demo_env : inputEnv demo demoM0 14 = ⟨[T.fin 1000], T.tmax⟩ ∧ inputEnv demo demoM0 15 = ⟨[T.tmin], T.tmax⟩ ∧
    inputEnv demo demoM0 11 = Wv.empty := by
  obtain ⟨hs, _, hz, _, l14, l15, l11, _, _, c14, c15, c11⟩ := demo_tables
  simp only [inputEnv, hs, hz, l14, l15, l11, c14, c15, c11]
  decide +kernel

theorem demo_env_cases (P : Nat → Wv → Prop) (h14 : P 14 ⟨[T.fin 1000], T.tmax⟩) (h15 : P 15 ⟨[T.tmin], T.tmax⟩)
    (hrest : ∀ l, l ≠ 14 → l ≠ 15 → P l Wv.empty) : ∀ l, P l (inputEnv demo demoM0 l) := by
  intro l
  by_cases e14 : l = 14
  · subst e14; rw [demo_env.1]; exact h14
  · by_cases e15 : l = 15
    · subst e15; rw [demo_env.2.1]; exact h15
    · by_cases e11 : l = 11
      · subst e11; rw [demo_env.2.2]; exact hrest 11 (by decide) (by decide)
      · have : inputEnv demo demoM0 l = Wv.empty := by
          unfold inputEnv
          rw [demo_tables.1, if_neg]
          simp only [List.mem_cons, List.not_mem_nil, or_false]
          rintro ((h | h) | h)
          · exact e14 h
          · exact e15 h
          · exact e11 h
        rw [this]; exact hrest l e14 e15

/-- windows of the stimulus: `a` switches at 1000, nothing else switches -/
def demoWin : Nat → C04.Win := fun l => if l = 14 then some (1000, 1000) else none

theorem demo_win_ok : ∀ l, C04.WRel (inputEnv demo demoM0 l) (demoWin l) := by
  apply demo_env_cases (fun l w => C04.WRel w (demoWin l))
  · refine ⟨by simp only [Wv.ok, WfRem]; decide +kernel, ?_⟩
    intro t ht
    simp only [List.mem_singleton, T.fin.injEq] at ht
    exact ⟨1000, 1000, rfl, by omega, by omega⟩
  · refine ⟨by simp only [Wv.ok, WfRem]; decide +kernel, ?_⟩
    intro t ht; simp at ht
  · intro l _ _
    exact ⟨Wv.empty_ok, fun t ht => by simp [Wv.empty] at ht⟩

theorem demoDelay_nonneg : ∀ l a b, 0 ≤ demoDelay l a b :=
  sdfDelay_nonneg .merge demoPins demoIc demoB demoB_ok.2.2 0 demoDelay (demo_sdfDelay 0)

theorem demo_propagated (junk : Int → Nat → Wv → (Int → T) → Int → T) :
    Propagated demo demoDelay demoM0 (memRun demo (waveRW junk) (waveRow (wcfg demo demoDelay) demo) demo.ops demoM0) :=
  propagated_exists demo demo_check (by decide) demoDelay demoDelay_nonneg junk demoM0 (inputEnv demo demoM0)
    (fun l => (demo_win_ok l).1) (stimulus_inputEnv demo demoM0)

/-- the signal-level result on the captured line 10: initially 0 (`NAND(INV(0), 1) = 0`), rises at
4875 = 1000 + 125 + 1000 + 250 + 2000 + 500 -/
theorem demo_sim : simWave (wcfg demo demoDelay) (waveProg demo) (inputEnv demo demoM0) 10 = ⟨[T.fin 4875], T.tmax⟩ := by
  decide +kernel

/-- the sensitised path from input slot 14 (`a`) to the captured line 10: rows in program order, operand slot 0 each.
LUT codes: 43690 = 0xAAAA (fork / buffer row), 21845 = 0x5555 (INV), 30583 = 0x7777 (NAND2); an unused operand reads signal 11,
the zero slot -/
def demoPath : List (OpRow × Nat) :=
  [(⟨43690, 2, 14, 11, 11, 11⟩, 0), (⟨43690, 4, 2, 11, 11, 11⟩, 0), (⟨43690, 5, 4, 11, 11, 11⟩, 0),
   (⟨21845, 0, 5, 11, 11, 11⟩, 0), (⟨43690, 6, 0, 11, 11, 11⟩, 0), (⟨43690, 7, 6, 11, 11, 11⟩, 0),
   (⟨30583, 1, 7, 9, 11, 11⟩, 0), (⟨43690, 10, 1, 11, 11, 11⟩, 0)]

end KV.SdfWave
