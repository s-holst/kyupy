import KyupyVerif.Proofs.WaveIOAssign
/-! Whole arrays: `WaveSimCuda.s_to_c` (kernel launch) vs `WaveSim.s_to_c` (three NumPy statements over `pippi_s_locs`), and
`ppo_to_ppi_gpu` vs `WaveSim.s_ppo_to_ppi`: each path characterised without hypotheses (which rows, which cells); the
comparisons are `C06.s_to_c_paths_agree`, `C06.ppo_to_ppi_paths_agree`. -/
namespace KV.WaveIO
open KV.Wave KV.Grid

/-- the work of thread `(x, y)` of `wave_assign_gpu` on lane `x` once the guards `y < s_len`, `x < sims` are passed -/
def assignWork (tb : Tab) (den : Nat) (s : Nat → Nat → SRow) (x y : Nat) (col : Col) : Col :=
  if 0 ≤ tb.ppiLoc y then
    write3 col (tb.ppiLoc y) (gpuCells (gpuFlag den (s x y).ini) (gpuFlag den (s x y).fin) (s x y).time)
  else col

theorem gpuSToC_lane (tb : Tab) (den sims bx by_ : Nat) (hbx : 0 < bx) (hby : 0 < by_) (s : Nat → Nat → SRow)
    (c : Nat → Col) (k : Nat) :
    gpuSToC tb den sims bx by_ s c k =
      if k < sims then (List.range tb.sLen).foldl (fun col y => assignWork tb den s k y col) (c k) else c k := by
  refine launch_lanes (gpuAssignThread tb den sims s) (assignWork tb den s) sims tb.sLen bx by_ hbx hby ?_ ?_ c k
  · intro x y c hx hy
    unfold gpuAssignThread assignWork
    rw [if_neg (Nat.not_le.mpr hy)]
    by_cases h3 : tb.ppiLoc y < 0
    · simp only [if_pos h3, if_neg (Int.not_le.mpr h3)]
      exact (onLane_self c x).symm
    · simp only [if_neg h3, if_neg (Nat.not_le.mpr hx), if_pos (Int.not_lt.mp h3)]
  · intro x y c h
    unfold gpuAssignThread
    repeat' split
    all_goals first | rfl | omega

def passL (n : Nat) (loc : Nat → Int) (cell : Nat → Nat → T) (k : Nat) (R : List Nat) (c : Col) : Col :=
  R.foldl (fun c y => updI c (pyIdx n (loc y + k)) (cell k y)) c

theorem cpuPass_eq (tb : Tab) (s : Nat → SRow) (k : Nat) (c : Col) :
    cpuPass tb s k c = passL tb.cLen tb.ppiLoc (fun k y => cpuCell k (cpuFlag (s y).ini) (cpuFlag (s y).fin) (s y).time) k
      (cpuAssignRows tb) c := rfl

theorem pyIdx_nonneg (n : Nat) (i : Int) (h : 0 ≤ i) : pyIdx n i = i := by
  unfold pyIdx; split
  · omega
  · rfl

theorem passL_updI_comm (n : Nat) (loc : Nat → Int) (cell : Nat → Nat → T) (k : Nat) (R : List Nat) (c : Col) (a : Int) (v : T)
    (hpos : ∀ y ∈ R, 0 ≤ loc y) (h : ∀ y ∈ R, loc y + k ≠ a) :
    passL n loc cell k R (updI c a v) = updI (passL n loc cell k R c) a v := by
  induction R generalizing c with
  | nil => rfl
  | cons y R ih =>
    simp only [passL, List.foldl_cons] at ih ⊢
    have hy := hpos y List.mem_cons_self
    rw [pyIdx_nonneg n _ (by omega), updI_comm c a (loc y + k) v _ (Ne.symm (h y List.mem_cons_self))]
    exact ih _ (fun z hz => hpos z (List.mem_cons_of_mem _ hz)) (fun z hz => h z (List.mem_cons_of_mem _ hz))

/-- with pairwise disjoint three-cell regions the three column-wise statements equal the row-wise stores -/
theorem three_passes (n : Nat) (loc : Nat → Int) (cell : Nat → Nat → T) (R : List Nat) (c : Col)
    (hpos : ∀ y ∈ R, 0 ≤ loc y)
    (hdisj : R.Pairwise (fun y y' => loc y + 3 ≤ loc y' ∨ loc y' + 3 ≤ loc y)) :
    passL n loc cell 2 R (passL n loc cell 1 R (passL n loc cell 0 R c)) =
      R.foldl (fun c y => write3 c (loc y) [cell 0 y, cell 1 y, cell 2 y]) c := by
  induction R generalizing c with
  | nil => rfl
  | cons y R ih =>
    have hy := hpos y List.mem_cons_self
    have hposR : ∀ z ∈ R, 0 ≤ loc z := fun z hz => hpos z (List.mem_cons_of_mem _ hz)
    obtain ⟨hyR, hdR⟩ := List.pairwise_cons.mp hdisj
    have step : ∀ (k : Nat) (c : Col), passL n loc cell k (y :: R) c = passL n loc cell k R (updI c (loc y + k) (cell k y)) := by
      intro k c
      simp only [passL, List.foldl_cons]
      rw [pyIdx_nonneg n _ (by omega)]
    rw [step 0, step 1, step 2]
    rw [← passL_updI_comm n loc cell 0 R _ (loc y + ((1 : Nat) : Int)) _ hposR (fun z hz => by have := hyR z hz; omega)]
    rw [← passL_updI_comm n loc cell 1 R _ (loc y + ((2 : Nat) : Int)) _ hposR (fun z hz => by have := hyR z hz; omega)]
    rw [← passL_updI_comm n loc cell 0 R _ (loc y + ((2 : Nat) : Int)) _ hposR (fun z hz => by have := hyR z hz; omega)]
    rw [ih _ hposR hdR]
    simp only [List.foldl_cons]
    congr 1
    have h0 : loc y + ((0 : Nat) : Int) = loc y := by omega
    rw [h0]
    rfl

theorem cpuAssignRows_eq (tb : Tab) (hio : tb.nIo ≤ tb.sLen) :
    cpuAssignRows tb = (List.range tb.sLen).filter fun y => decide (0 ≤ tb.ppiLoc y) := by
  unfold cpuAssignRows
  have hsplit : List.range tb.sLen = List.range tb.nIo ++ List.range' tb.nIo (tb.sLen - tb.nIo) := by
    rw [List.range_eq_range', List.range_eq_range']
    have h := @List.range'_append_1 0 tb.nIo (tb.sLen - tb.nIo)
    rw [Nat.zero_add] at h
    rw [h]
    congr 1
    omega
  rw [hsplit, List.filter_append]

/-- pairwise disjoint (P)PI regions of three cells (capacity `c_caps_min = 4` in `WaveSim`) -/
def RegionsDisjoint (tb : Tab) : Prop :=
  ∀ y y', y < tb.sLen → y' < tb.sLen → y ≠ y' → 0 ≤ tb.ppiLoc y → 0 ≤ tb.ppiLoc y' →
    tb.ppiLoc y + 3 ≤ tb.ppiLoc y' ∨ tb.ppiLoc y' + 3 ≤ tb.ppiLoc y

/-- every state element has a (P)PI slot with memory (it has at least one output pin entry) -/
def StateRowsAllocated (tb : Tab) : Prop := ∀ y, tb.nIo ≤ y → y < tb.sLen → 0 ≤ tb.ppiLoc y

theorem cpuSToC_rowwise (tb : Tab) (s : Nat → SRow) (c : Col) (hio : tb.nIo ≤ tb.sLen)
    (hdisj : RegionsDisjoint tb) :
    cpuSToC tb s c = (List.range tb.sLen).foldl (fun col y =>
      if 0 ≤ tb.ppiLoc y then write3 col (tb.ppiLoc y) (cpuCells (cpuFlag (s y).ini) (cpuFlag (s y).fin) (s y).time) else col) c := by
  unfold cpuSToC
  rw [cpuPass_eq, cpuPass_eq, cpuPass_eq, cpuAssignRows_eq tb hio]
  rw [three_passes]
  · rw [List.foldl_filter]
    congr 1
    funext col y
    simp only [decide_eq_true_eq]
    rfl
  · intro y hy
    simpa using (List.mem_filter.mp hy).2
  · have hnd : ((List.range tb.sLen).filter fun y => decide (0 ≤ tb.ppiLoc y)).Pairwise (· ≠ ·) :=
      (List.nodup_range).filter _
    refine List.Pairwise.imp_of_mem ?_ hnd
    intro y y' hy hy' hne
    have h1 := List.mem_filter.mp hy
    have h2 := List.mem_filter.mp hy'
    exact hdisj y y' (List.mem_range.mp h1.1) (List.mem_range.mp h2.1) hne (by simpa using h1.2) (by simpa using h2.2)

theorem foldl_rows_pointwise {α} (P : Nat → Prop) [DecidablePred P] (g : Nat → α → α) (n : Nat) (r0 : Nat → α) :
    (List.range n).foldl (fun r y => if P y then updN r y (g y (r y)) else r) r0 =
      fun y => if y < n ∧ P y then g y (r0 y) else r0 y := by
  induction n with
  | zero => funext y; simp
  | succ n ih =>
    rw [List.range_succ, List.foldl_append, ih]
    simp only [List.foldl_cons, List.foldl_nil]
    funext y
    by_cases hy : y = n
    · subst hy
      by_cases hp : P y <;> simp [hp, updN]
    · have : (y < n + 1) = (y < n) := propext (by omega)
      by_cases hp : P n <;> simp only [hp, if_true, if_false, updN, hy, this]

/-- a kernel whose thread `(x, y)` rewrites row `y` of lane `x` when the row passes a guard `P` (`ppo_to_ppi_gpu`,
    `wave_capture_gpu`): the launch, pointwise -/
theorem launch_rows {α} (thr : Nat → Nat → (Nat → Nat → α) → Nat → Nat → α) (P : Nat → Prop) [DecidablePred P]
    (g : Nat → Nat → α → α) (n m bx by_ : Nat) (hbx : 0 < bx) (hby : 0 < by_)
    (hthr : ∀ x y S, thr x y S = if x < n ∧ y < m ∧ P y then onLane S x (fun r => updN r y (g x y (r y))) else S)
    (S : Nat → Nat → α) (x y : Nat) :
    (launch (cdiv n bx) (cdiv m by_) bx by_).foldl (fun S p => thr p.1 p.2 S) S x y =
      if x < n ∧ y < m ∧ P y then g x y (S x y) else S x y := by
  rw [launch_lanes thr (fun x y r => if P y then updN r y (g x y (r y)) else r) n m bx by_ hbx hby ?_ ?_ S x]
  · by_cases hx : x < n
    · rw [if_pos hx, foldl_rows_pointwise P (g x) m (S x)]
      simp only [hx, true_and]
    · rw [if_neg hx, if_neg (fun h => hx h.1)]
  · intro x y S hx hy
    rw [hthr]
    by_cases hp : P y
    · rw [if_pos ⟨hx, hy, hp⟩]; simp only [hp, if_true]
    · rw [if_neg (fun h => hp h.2.2)]; simp only [hp, if_false]; exact (onLane_self S x).symm
  · intro x y S h
    rw [hthr, if_neg (fun g => h ⟨g.1, g.2.1⟩)]

/-- **the kernel launch of `ppo_to_ppi_gpu`, no hypotheses**: row `y` of lane `x` is transferred iff `x < sims`,
    `y < s_len` and BOTH its (P)PI slot and its (P)PO slot have memory -/
theorem gpuPpoToPpi_spec (tb : Tab) (time : T) (sims bx by_ : Nat) (hbx : 0 < bx) (hby : 0 < by_)
    (s : Nat → Nat → SRow) (x y : Nat) :
    gpuPpoToPpi tb time sims bx by_ s x y =
      if x < sims ∧ y < tb.sLen ∧ 0 ≤ tb.ppiLoc y ∧ 0 ≤ tb.ppoLoc y then ppoToPpiRow time (s x y) else s x y := by
  refine launch_rows (gpuPpoToPpiThread tb time sims) (fun y => 0 ≤ tb.ppiLoc y ∧ 0 ≤ tb.ppoLoc y)
    (fun _ _ r => ppoToPpiRow time r) sims tb.sLen bx by_ hbx hby ?_ s x y
  -- the guard chain of the thread
  intro x y s
  unfold gpuPpoToPpiThread
  by_cases h1 : y ≥ tb.sLen <;> by_cases h2 : x ≥ sims <;> by_cases h3 : tb.ppiLoc y < 0 <;> by_cases h4 : tb.ppoLoc y < 0 <;>
    simp only [h1, h2, h3, h4, if_true, if_false] <;> first | rw [if_neg (by omega)] | rw [if_pos (by omega)]

theorem cpuPpoToPpi_spec (tb : Tab) (time : T) (sims : Nat) (s : Nat → Nat → SRow) (x y : Nat) :
    cpuPpoToPpiAll tb time sims s x y =
      if x < sims ∧ tb.nIo ≤ y ∧ y < tb.sLen then ppoToPpiRow time (s x y) else s x y := by
  unfold cpuPpoToPpiAll cpuPpoToPpi
  by_cases hx : x < sims
  · simp only [hx, if_true, true_and]
  · simp only [hx, if_false, false_and]

end KV.WaveIO
