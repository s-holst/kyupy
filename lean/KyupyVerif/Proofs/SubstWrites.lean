import KyupyVerif.Proofs.Substitute
/-! C10 (`substitute`): the pin writes of `substituteCore` as data.  Node and line arrays are read through the accessors `nodeA` /
`lineA`.  After the node loop every statement of a run in which no line is removed is `x.ins[p] = l` or `x.outs[p] = l` (`PinW`)
together with an update of the line array, and the two arrays never read each other.  So the node array at the end is `attachAll` of an
explicit list of writes, the pin list of a node is `growAll` of the writes that name it (`attachAll_node`), and kinds, frame and pin
table are read off that one equation.  The pin table as a notion, `OwnPins`: the entry at pin `(x, k)` of an own node (the cell, a
new node) is line `l` iff `l` is one of the written lines and its end point in the final line table (`tRof` / `tDof`) is `(x, k)`.
`phase3` is such a list (`phase3_eq`); the connecting loops are in Proofs/SubstituteWire.lean (`wireLoop_nodes`). -/
namespace KV.Transform
open KV

def nodeA (ns : Array NodeD) (d : Nat) : NodeD := ns.getD d default
def lineA (ls : Array LineD) (l : Nat) : LineD := ls.getD l default

theorem nodeA_modify_ne (ns : Array NodeD) (k d : Nat) (f : NodeD → NodeD) (h : k ≠ d) : nodeA (ns.modify k f) d = nodeA ns d := by
  simp [nodeA, Array.getD_eq_getD_getElem?, Array.getElem?_modify, h]
theorem lineA_push (ls : Array LineD) (x : LineD) (l : Nat) (h : l < ls.size) : lineA (ls.push x) l = lineA ls l := by
  have : ¬ l = ls.size := by omega
  simp [lineA, Array.getD_eq_getD_getElem?, Array.getElem?_push, h, this]
theorem lineA_modify (ls : Array LineD) (k l : Nat) (f : LineD → LineD) (hl : l < ls.size) :
    lineA (ls.modify k f) l = if k = l then f (lineA ls l) else lineA ls l := by
  simp only [lineA, Array.getD_eq_getD_getElem?, Array.getElem?_modify, Array.getElem?_eq_getElem hl]
  split <;> simp

theorem nodeA_modify (ns : Array NodeD) (k d : Nat) (f : NodeD → NodeD) :
    nodeA (ns.modify k f) d = if d = k ∧ k < ns.size then f (nodeA ns d) else nodeA ns d := getD_modify ns k d f default

theorem node_push_lt (net : Net) (ns : Array NodeD) (x : NodeD) (d : Nat) (h : d < ns.size) :
    ({ net with nodes := ns.push x } : Net).node d = ns.getD d default := by
  have : ¬ d = ns.size := by omega
  simp [Net.node, Array.getD_eq_getD_getElem?, Array.getElem?_push, this]

/-- the pin table of the own nodes (the cell and the new nodes): pin `(x, k)` of an own node holds `l` iff `l` is a written line (`WR` /
    `WD`) whose end point (`tR l` / `tD l`) is `(x, k)`; and no trailing `None` -/
structure OwnPins (own : Nat → Prop) (ns : Array NodeD) (WR WD : Nat → Prop) (tR tD : Nat → Nat × Nat) : Prop where
  ins : ∀ x k l, own x → ((nodeA ns x).ins.getD k none = some l ↔ WR l ∧ tR l = (x, k))
  outs : ∀ x k l, own x → ((nodeA ns x).outs.getD k none = some l ↔ WD l ∧ tD l = (x, k))
  trail : ∀ x, own x → noTrail (nodeA ns x).ins = true ∧ noTrail (nodeA ns x).outs = true

def tRof (F : Array LineD) (l : Nat) : Nat × Nat := ((lineA F l).reader, (lineA F l).rpin)
def tDof (F : Array LineD) (l : Nat) : Nat × Nat := ((lineA F l).driver, (lineA F l).dpin)

theorem lineA_push_eq (a : Array LineD) (x : LineD) : lineA (a.push x) a.size = x := by
  simp [lineA, Array.getD_eq_getD_getElem?]


/-- `x.ins[p] = l` (`rd`) or `x.outs[p] = l` -/
structure PinW where
  rd : Bool
  x : Nat
  p : Nat
  l : Nat

def attach (ns : Array NodeD) (w : PinW) : Array NodeD :=
  ns.modify w.x fun n => if w.rd then { n with ins := growSet n.ins w.p (some w.l) } else { n with outs := growSet n.outs w.p (some w.l) }
def attachAll (ns : Array NodeD) (ws : List PinW) : Array NodeD := ws.foldl attach ns

def growAll (l : List (Option Nat)) (ws : List (Nat × Nat)) : List (Option Nat) :=
  ws.foldl (fun acc w => growSet acc w.1 (some w.2)) l
def pinsAt (b : Bool) (x : Nat) (ws : List PinW) : List (Nat × Nat) :=
  ws.filterMap fun w => if w.rd = b ∧ w.x = x then some (w.p, w.l) else none

theorem attachAll_size (ws : List PinW) (ns : Array NodeD) : (attachAll ns ws).size = ns.size := by
  induction ws generalizing ns with
  | nil => rfl
  | cons w ws ih => simp only [attachAll, List.foldl_cons] at ih ⊢; rw [ih]; simp [attach]

theorem attachAll_append (ns : Array NodeD) (a b : List PinW) : attachAll ns (a ++ b) = attachAll (attachAll ns a) b := by
  simp [attachAll, List.foldl_append]

theorem attachAll_node (ws : List PinW) (ns : Array NodeD) (x : Nat) (hx : x < ns.size) :
    nodeA (attachAll ns ws) x =
      { nodeA ns x with ins := growAll (nodeA ns x).ins (pinsAt true x ws), outs := growAll (nodeA ns x).outs (pinsAt false x ws) } := by
  induction ws generalizing ns with
  | nil => rfl
  | cons w ws ih =>
    have hs : x < (attach ns w).size := by simpa [attach] using hx
    show nodeA (attachAll (attach ns w) ws) x = _
    rw [ih (attach ns w) hs]
    simp only [attach, nodeA_modify]
    by_cases e : x = w.x
    · subst e
      cases hb : w.rd <;> simp [pinsAt, growAll, hb, hx]
    · have e' : ¬ w.x = x := fun h => e h.symm
      simp [pinsAt, e, e']

theorem getD_growAll_iff (ws : List (Nat × Nat)) (l : List (Option Nat))
    (hfun : ∀ k v v', (k, v) ∈ ws → (k, v') ∈ ws → v = v') (k v : Nat) :
    (growAll l ws).getD k none = some v ↔ (k, v) ∈ ws ∨ ((∀ v', (k, v') ∉ ws) ∧ l.getD k none = some v) := by
  induction ws generalizing l with
  | nil => simp [growAll]
  | cons w ws ih =>
    show (growAll (growSet l w.1 (some w.2)) ws).getD k none = some v ↔ _
    rw [ih _ (fun k v v' h1 h2 => hfun k v v' (List.mem_cons_of_mem _ h1) (List.mem_cons_of_mem _ h2)), getD_growSet]
    by_cases e : k = w.1
    · subst e
      simp only [if_true, Option.some.injEq, List.mem_cons]
      constructor
      · rintro (h | ⟨_, h⟩)
        · exact Or.inl (Or.inr h)
        · exact Or.inl (Or.inl (by rw [← h]))
      · rintro ((h | h) | ⟨h, _⟩)
        · by_cases hk : ∃ v', (w.1, v') ∈ ws
          · obtain ⟨v', hv'⟩ := hk
            have : v = v' := hfun w.1 v v' (by rw [h]; exact List.mem_cons_self) (List.mem_cons_of_mem _ hv')
            exact Or.inl (this ▸ hv')
          · exact Or.inr ⟨fun v' hv' => hk ⟨v', hv'⟩, (Prod.mk.inj (h.trans (Prod.eta w).symm)).2.symm⟩
        · exact Or.inl h
        · exact absurd (Or.inl rfl) (h w.2)
    · have e2 : ∀ v', (k, v') ≠ w := fun v' h => e (by rw [← h])
      simp [e, e2]

theorem noTrail_growAll (ws : List (Nat × Nat)) (l : List (Option Nat)) (h : noTrail l = true) : noTrail (growAll l ws) = true := by
  induction ws generalizing l with
  | nil => exact h
  | cons w ws ih => exact ih _ (noTrail_growSet_some l w.1 w.2 h)

theorem mem_pinsAt {b : Bool} {x k l : Nat} {ws : List PinW} : (k, l) ∈ pinsAt b x ws ↔ (⟨b, x, k, l⟩ : PinW) ∈ ws := by
  simp only [pinsAt, List.mem_filterMap]
  constructor
  · rintro ⟨w, hw, e⟩
    split at e
    · rename_i hc
      obtain ⟨e1, e2⟩ := Prod.mk.inj (Option.some.inj e)
      obtain ⟨r, x', p, l'⟩ := w
      simp only at hc e1 e2
      rw [← hc.1, ← hc.2, ← e1, ← e2]; exact hw
    · exact absurd e (by simp)
  · intro h; exact ⟨_, h, by simp⟩

theorem pinsOnlyN_attachAll (ws : List PinW) (ns : Array NodeD) : PinsOnlyN ns (attachAll ns ws) := by
  refine ⟨attachAll_size ws ns, fun j => ?_⟩
  by_cases hj : j < ns.size
  · show (nodeA (attachAll ns ws) j).kind = _
    rw [attachAll_node ws ns j hj]; rfl
  · simp only [kindAt, Array.getD_eq_getD_getElem?]
    rw [Array.getElem?_eq_none (by rw [attachAll_size]; omega), Array.getElem?_eq_none (by omega)]

theorem attachAll_node_ne (ws : List PinW) (ns : Array NodeD) (x : Nat) (h : ∀ w ∈ ws, w.x ≠ x) : nodeA (attachAll ns ws) x = nodeA ns x := by
  by_cases hx : x < ns.size
  · rw [attachAll_node ws ns x hx]
    have : ∀ b, pinsAt b x ws = [] := fun b => by
      simp only [pinsAt, List.filterMap_eq_nil_iff]
      intro w hw; simp [h w hw]
    simp [this, growAll]
  · simp only [nodeA, Array.getD_eq_getD_getElem?]
    rw [Array.getElem?_eq_none (by rw [attachAll_size]; omega), Array.getElem?_eq_none (by omega)]

/-- the pin list of side `b` (`true` = inputs) and the end of a line on that side -/
def sidePins (b : Bool) (n : NodeD) : List (Option Nat) := bif b then n.ins else n.outs
def endOf (b : Bool) (ln : LineD) : Nat × Nat := bif b then (ln.reader, ln.rpin) else (ln.driver, ln.dpin)

theorem attachAll_pin (ws : List PinW) (ns : Array NodeD) (b : Bool) (x : Nat) (hx : x < ns.size)
    (hfun : ∀ k l l', (⟨b, x, k, l⟩ : PinW) ∈ ws → (⟨b, x, k, l'⟩ : PinW) ∈ ws → l = l')
    (hempty : sidePins b (nodeA ns x) = []) (k l : Nat) :
    (sidePins b (nodeA (attachAll ns ws) x)).getD k none = some l ↔ (⟨b, x, k, l⟩ : PinW) ∈ ws := by
  have hf' : ∀ k v v', (k, v) ∈ pinsAt b x ws → (k, v') ∈ pinsAt b x ws → v = v' :=
    fun k v v' h1 h2 => hfun k v v' (mem_pinsAt.mp h1) (mem_pinsAt.mp h2)
  rw [attachAll_node ws ns x hx, ← mem_pinsAt]
  cases b <;> simp only [sidePins, cond_true, cond_false] at hempty ⊢ <;> rw [getD_growAll_iff _ _ hf', hempty] <;> simp

/-- the pin table of one side (a field of `OwnPins`) read off a write list: `WS` = the lines written on that side, `t` = where
    each of them ends; `hW` says that the writes of that side are exactly those -/
theorem pinTab_attachAll (b : Bool) (own : Nat → Prop) (ns : Array NodeD) (W : List PinW) (WS : Nat → Prop) (t : Nat → Nat × Nat)
    (hlt : ∀ w ∈ W, w.x < ns.size) (hempty : ∀ x, own x → sidePins b (nodeA ns x) = [])
    (hW : ∀ x p l, (⟨b, x, p, l⟩ : PinW) ∈ W ↔ WS l ∧ t l = (x, p))
    (hU : ∀ l1 l2, WS l1 → WS l2 → t l1 = t l2 → l1 = l2) :
    ∀ x k l, own x → ((sidePins b (nodeA (attachAll ns W) x)).getD k none = some l ↔ WS l ∧ t l = (x, k)) := by
  intro x k l hx
  by_cases hs : x < ns.size
  · rw [attachAll_pin W ns b x hs (fun k l l' h1 h2 => hU l l' ((hW _ _ _).mp h1).1 ((hW _ _ _).mp h2).1
      (((hW _ _ _).mp h1).2.trans ((hW _ _ _).mp h2).2.symm)) (hempty x hx) k l]
    exact hW x k l
  · have : nodeA (attachAll ns W) x = default := getD_ge_size _ _ (by rw [attachAll_size]; omega)
    rw [this]
    refine iff_of_false (by cases b <;> simp [sidePins, show (default : NodeD).ins = [] from rfl, show (default : NodeD).outs = [] from rfl])
      fun h => hs (hlt _ ((hW x k l).mpr h))

theorem noTrail_attachAll (own : Nat → Prop) (ns : Array NodeD) (W : List PinW)
    (hempty : ∀ x, own x → (nodeA ns x).ins = [] ∧ (nodeA ns x).outs = []) (x : Nat) (hx : own x) :
    noTrail (nodeA (attachAll ns W) x).ins = true ∧ noTrail (nodeA (attachAll ns W) x).outs = true := by
  by_cases hs : x < ns.size
  · rw [attachAll_node W ns x hs, (hempty x hx).1, (hempty x hx).2]
    exact ⟨noTrail_growAll _ _ rfl, noTrail_growAll _ _ rfl⟩
  · have : nodeA (attachAll ns W) x = default := getD_ge_size _ _ (by rw [attachAll_size]; omega)
    rw [this]; exact ⟨rfl, rfl⟩

/-- `copiedB` / `mkLine` of the model for a line record instead of a line index (the loop runs over `impl.lines`) -/
def copL (map : Array (Option Nat)) (ln : LineD) : Bool := (map.getD ln.driver none).isSome && (map.getD ln.reader none).isSome
def mkL (map : Array (Option Nat)) (ln : LineD) : LineD :=
  ⟨(map.getD ln.driver none).getD 0, ln.dpin, (map.getD ln.reader none).getD 0, ln.rpin⟩

theorem addImplLine_eq (map : Array (Option Nat)) (st : Array NodeD × Array LineD) (ln : LineD) :
    addImplLine map st ln =
      if copL map ln then addLine st (mkL map ln).driver ln.dpin (mkL map ln).reader ln.rpin else st := by
  unfold addImplLine copL mkL
  cases h1 : map.getD ln.driver none <;> cases h2 : map.getD ln.reader none <;> simp

theorem lines_toList (net : Net) : net.lines.toList = (List.range net.lines.size).map net.line := by
  apply List.ext_getElem
  · simp
  · intro i h1 h2
    simp [Net.line, Array.getD_eq_getD_getElem?]
    have : i < net.lines.size := by simpa using h1
    simp [this]


def lineWrites (l : Nat) (ln : LineD) : List PinW := [⟨false, ln.driver, ln.dpin, l⟩, ⟨true, ln.reader, ln.rpin, l⟩]

theorem addLine_eq (st : Array NodeD × Array LineD) (d dp r rp : Nat) :
    addLine st d dp r rp = (attachAll st.1 (lineWrites st.2.size ⟨d, dp, r, rp⟩), st.2.push ⟨d, dp, r, rp⟩) := rfl

/-- the writes of `Line(...)` for a block of lines appended behind line `L` -/
def newWrites : Nat → List LineD → List PinW
  | _, [] => []
  | L, ln :: r => lineWrites L ln ++ newWrites (L + 1) r

theorem foldl_addImplLine_eq (map : Array (Option Nat)) : ∀ (lns : List LineD) (st : Array NodeD × Array LineD),
    lns.foldl (addImplLine map) st =
      (attachAll st.1 (newWrites st.2.size ((lns.filter (copL map)).map (mkL map))),
       st.2 ++ ((lns.filter (copL map)).map (mkL map)).toArray)
  | [], st => by simp [newWrites, attachAll]
  | ln :: lns, st => by
    simp only [List.foldl_cons]
    rw [foldl_addImplLine_eq map lns, addImplLine_eq]
    by_cases hc : copL map ln = true
    · simp only [hc, if_true, List.filter_cons_of_pos, List.map_cons, newWrites, attachAll_append]
      simp [addLine_eq, mkL]
    · simp [hc]

theorem phase3_eq (m : NNet) (map : Array (Option Nat)) (h2 : NNet) :
    (phase3 m map h2).nodes = attachAll h2.net.nodes (newWrites h2.net.lines.size ((copiedLines m map).map (mkLine m map))) := by
  simp only [phase3]
  rw [foldl_addImplLine_eq, lines_toList, List.filter_map, List.map_map]
  rfl

theorem phase3_lines (m : NNet) (map : Array (Option Nat)) (h2 : NNet) :
    (phase3 m map h2).lines = h2.net.lines ++ ((copiedLines m map).map (mkLine m map)).toArray := by
  simp only [phase3]
  rw [foldl_addImplLine_eq, lines_toList, List.filter_map, List.map_map]
  rfl

theorem pinsOnly_phase3 (m : NNet) (map : Array (Option Nat)) (h2 : NNet) : PinsOnly h2.net (phase3 m map h2) :=
  ⟨by rw [phase3_eq]; exact pinsOnlyN_attachAll _ _, rfl⟩

theorem mem_newWrites {w : PinW} : ∀ {L : Nat} {lns : List LineD}, w ∈ newWrites L lns ↔
    ∃ t, ∃ ht : t < lns.length, ∃ b, w = ⟨b, (endOf b lns[t]).1, (endOf b lns[t]).2, L + t⟩
  | _, [] => by simp [newWrites]
  | L, ln :: r => by
    simp only [newWrites, List.mem_append, lineWrites, List.mem_cons, List.not_mem_nil, or_false, mem_newWrites (L := L + 1) (lns := r)]
    constructor
    · rintro ((h | h) | ⟨t, ht, b, h⟩)
      · exact ⟨0, by simp, false, h⟩
      · exact ⟨0, by simp, true, h⟩
      · exact ⟨t + 1, by simpa using ht, b, by simpa [Nat.add_assoc, Nat.add_comm 1 t] using h⟩
    · rintro ⟨t, ht, b, h⟩
      cases t with
      | zero => left; cases b <;> simp [h, endOf]
      | succ t => right; exact ⟨t, by simpa using ht, b, by simpa [Nat.add_assoc, Nat.add_comm 1 t] using h⟩

end KV.Transform
