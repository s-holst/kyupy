import KyupyVerif.Proofs.VerilogLib3
import KyupyVerif.Props.C10Datasheet
/-! Library capstone (C11 ∘ C10 ∘ C19 ∘ C01/C02): composition with `C10.resolve_sem` / `C10.resolve_sem_general` — the consistent
labellings of the RESOLVED circuit (`resolveCells lib (verilogNNet …)`) versus the environments of the module in which every
library instance has (b) the relational meaning of its implementation, (c) its datasheet function. C10 speaks about library-cell
NODES under a labelling, the module about library INSTANCES under an environment: `lib_bridge` translates, for any pair of such
statements that agree on the node of an instance (`relAt_iff` for (b), `cellDatasheet_iff_module` for (c)); each composition is then
the C10 theorem with the bridge behind its forward and in front of its backward direction.  Then what `C11.verilog_library_end_to_end`
puts together (`sNodes_not_lib`, `vModelOff_congr_a`, `sPos_some`) and the acceptance check of the driver (`vModelLibB_sound`). -/
namespace KV.Transform
open KV

theorem implMatches_congr {α : Type _} (h : NNet) (hw : WFm h) (c : Nat) (m : NNet) (sh : Shape) (z : α) (neg : α → α)
    (prim : String → α → α → α → α → α) (anm vm v v' : Nat → α) (hv : ∀ l, l < h.net.lines.size → v l = v' l)
    (hm : ImplMatches h c m sh z neg prim anm vm v) : ImplMatches h c m sh z neg prim anm vm v' := by
  have hlt : ∀ k ll, (instIn h c k = some ll ∨ instOut h c k = some ll) → ll < h.net.lines.size := by
    intro k ll hor
    by_cases hc : c < h.net.nodes.size
    · rcases hor with hh | hh
      · exact (hw.fwdIn c hc k ll hh).1
      · exact (hw.fwdOut c hc k ll hh).1
    · exfalso
      have hd := node_ge_size h.net (Nat.le_of_not_lt hc)
      rcases hor with hh | hh
      · unfold instIn at hh; rw [hd] at hh; cases hh
      · unfold instOut at hh; rw [hd] at hh; cases hh
  obtain ⟨h1, h2, h3⟩ := hm
  refine ⟨h1, fun p hp => ?_, fun k il ll hil hll => ?_⟩
  · rw [h2 p hp]
    unfold portVal
    cases hi : instIn h c (sh.inPorts.idxOf p) with
    | none => rfl
    | some ll => exact hv ll (hlt _ ll (Or.inl hi))
  · rw [h3 k il ll hil hll]
    exact hv ll (hlt _ ll (Or.inr hll))

theorem wfB_of_WF {nn : NNet} (w : WF nn) : nn.net.wfB = true := by
  unfold Net.wfB
  simp only [List.all_eq_true, List.mem_range, Bool.and_eq_true]
  intro n hn
  refine ⟨?_, ?_⟩
  · intro ⟨o, pin⟩ hmem
    cases o with
    | none => rfl
    | some l =>
      have hget : (nn.net.node n).outs[pin]? = some (some l) := mem_zipIdx_getElem? hmem
      have hD : (nn.net.node n).outs.getD pin none = some l := by rw [List.getD_eq_getElem?_getD, hget]; rfl
      obtain ⟨h1, h2, h3⟩ := w.fwdOut n hn pin l hD
      simp [h1, h2, h3]
  · intro ⟨o, pin⟩ hmem
    cases o with
    | none => rfl
    | some l =>
      have hget : (nn.net.node n).ins[pin]? = some (some l) := mem_zipIdx_getElem? hmem
      have hD : (nn.net.node n).ins.getD pin none = some l := by rw [List.getD_eq_getElem?_getD, hget]; rfl
      obtain ⟨h1, h2, h3⟩ := w.fwdIn n hn pin l hD
      simp [h1, h2, h3]

end KV.Transform

namespace KV.Netlist
open KV KV.Transform KV.TL KV.DS KV.Sig

universe u
variable {cfg : Cfg} {tl : TL} {ports : List String} {stmts : List Stmt}

def LibRel {α : Type u} (cfg : Cfg) (tl : TL) (ports : List String) (stmts : List Stmt) (lib : Lib) (z : α) (neg : α → α)
    (prim : String → α → α → α → α → α) (σ : String → α) : Prop :=
  ∀ i ∈ vInsts stmts, isLibInst lib i → ∃ impl sh anm vm, lib.find i.ty = some impl ∧ implShape impl = some sh ∧
    ImplMatches (verilogNNet cfg tl ports stmts) ((module cfg tl ports stmts).nodeIdx (.cell i.name 0)) impl sh z neg prim anm vm
      (vLabel cfg tl stmts z prim σ)

/-- **C10's reading of the parsed circuit = C11's reading of the module, with holes at the library cells.**
`P c v`: what is said about the library-cell node `c` under a labelling `v`; `Q i σ`: what is said about the library instance `i`
under an environment `σ`; they have to agree on the node of `i` whenever `v` is the labelling of `σ` (`hPQ`). -/
theorem lib_bridge {α : Type u} (hok : VOK cfg tl ports stmts) (lib : Lib) (hcl : LibClean lib stmts) (z : α) (neg : α → α)
    (prim : String → α → α → α → α → α) (P : Nat → (Nat → α) → Prop) (Q : VInst → (String → α) → Prop)
    (hPQ : ∀ i ∈ vInsts stmts, isLibInst lib i → ∀ σ v,
      (∀ l, l < (verilogNet cfg tl ports stmts).lines.size → v l = vLabel cfg tl stmts z prim σ l) →
      (P ((module cfg tl ports stmts).nodeIdx (.cell i.name 0)) v ↔ Q i σ)) :
    (∀ an v : Nat → α,
      ConsOff (verilogNNet cfg tl ports stmts) (libHole lib (verilogNNet cfg tl ports stmts)) z neg prim an v →
      (∀ c, libHole lib (verilogNNet cfg tl ports stmts) c → P c v) →
      ∃ σ, VModelOff (isLibInst lib) tl ports stmts z neg prim (fun p => an ((verilogNet cfg tl ports stmts).sNodes.getD p 0)) σ ∧
        (∀ l, l < (verilogNet cfg tl ports stmts).lines.size → v l = vLabel cfg tl stmts z prim σ l) ∧
        ∀ i ∈ vInsts stmts, isLibInst lib i → Q i σ) ∧
    (∀ (a : Nat → α) (σ : String → α), VModelOff (isLibInst lib) tl ports stmts z neg prim a σ →
      (∀ i ∈ vInsts stmts, isLibInst lib i → Q i σ) →
      ConsOff (verilogNNet cfg tl ports stmts) (libHole lib (verilogNNet cfg tl ports stmts)) z neg prim
        (fun n => a ((verilogNet cfg tl ports stmts).sNodes.idxOf n)) (vLabel cfg tl stmts z prim σ) ∧
      ∀ c, libHole lib (verilogNNet cfg tl ports stmts) c → P c (vLabel cfg tl stmts z prim σ)) := by
  refine ⟨fun an v hc hP => ?_, fun a σ hm hQ => ⟨verilog_model_consOff hok lib z neg prim a σ hm, fun c hc => ?_⟩⟩
  · obtain ⟨σ, hm, hl⟩ := verilog_consOff_model hok lib hcl z neg prim an v hc
    exact ⟨σ, hm, hl, fun i hi hlib => (hPQ i hi hlib σ v hl).mp (hP _ ((libHole_inst hok lib i hi 0).mpr hlib))⟩
  · obtain ⟨i, hi, hlib, rfl⟩ := libHole_is_inst hok lib hcl c hc
    exact (hPQ i hi hlib σ _ (fun _ _ => rfl)).mpr (hQ i hi hlib)

/-- the relational meaning of a cell, node vocabulary (what `C10.resolve_sem` speaks of) -/
def RelAt {α : Type u} (lib : Lib) (nn : NNet) (z : α) (neg : α → α) (prim : String → α → α → α → α → α) (c : Nat) (v : Nat → α) : Prop :=
  ∃ impl sh anm vm, lib.find (nn.net.node c).kind = some impl ∧ implShape impl = some sh ∧ ImplMatches nn c impl sh z neg prim anm vm v

/-- `hPQ` for `LibRel`: the kind of the node is the type of the instance, and `ImplMatches` looks at parsed lines only -/
theorem relAt_iff {α : Type u} (hok : VOK cfg tl ports stmts) (lib : Lib) (hW : WFm (verilogNNet cfg tl ports stmts)) (z : α) (neg : α → α)
    (prim : String → α → α → α → α → α) (i : VInst) (hi : i ∈ vInsts stmts) (σ : String → α) (v : Nat → α)
    (hl : ∀ l, l < (verilogNet cfg tl ports stmts).lines.size → v l = vLabel cfg tl stmts z prim σ l) :
    RelAt lib (verilogNNet cfg tl ports stmts) z neg prim ((module cfg tl ports stmts).nodeIdx (.cell i.name 0)) v ↔
      ∃ impl sh anm vm, lib.find i.ty = some impl ∧ implShape impl = some sh ∧
        ImplMatches (verilogNNet cfg tl ports stmts) ((module cfg tl ports stmts).nodeIdx (.cell i.name 0)) impl sh z neg prim anm vm
          (vLabel cfg tl stmts z prim σ) := by
  unfold RelAt
  rw [inst_node_kind hok i hi]
  constructor
  · rintro ⟨impl, sh, anm, vm, hf, hs, hmm⟩
    exact ⟨impl, sh, anm, vm, hf, hs, implMatches_congr _ hW _ _ _ z neg prim anm vm v _ hl hmm⟩
  · rintro ⟨impl, sh, anm, vm, hf, hs, hmm⟩
    exact ⟨impl, sh, anm, vm, hf, hs, implMatches_congr _ hW _ _ _ z neg prim anm vm _ v (fun l h => (hl l h).symm) hmm⟩

/-- **(b) resolved labellings ↔ module environments with relational cell meanings** (composition of the hole-set
`verilog_parsed_sem` with `C10.resolve_sem`) -/
theorem verilog_resolved_rel {α : Type u} (hok : VOK cfg tl ports stmts) (lib : Lib) (hcl : LibClean lib stmts) (h' : NNet)
    (hw : (verilogNNet cfg tl ports stmts).wf = true)
    (hrok : resolveOKB lib (verilogNNet cfg tl ports stmts).keys (verilogNNet cfg tl ports stmts) = true)
    (he : resolveCells lib (verilogNNet cfg tl ports stmts) = some h') (z : α) (neg : α → α) (prim : String → α → α → α → α → α) :
    h'.wf = true ∧ h'.net.io = (verilogNet cfg tl ports stmts).io ∧
    (verilogNet cfg tl ports stmts).lines.size ≤ h'.net.lines.size ∧
    (∀ d, d < (verilogNet cfg tl ports stmts).nodes.size → (lib.find ((verilogNet cfg tl ports stmts).node d).kind).isSome = false →
      h'.net.node d = (verilogNet cfg tl ports stmts).node d) ∧
    (∀ an' v' : Nat → α, ConsOff h' (fun _ => False) z neg prim an' v' →
      ∃ σ, VModelOff (isLibInst lib) tl ports stmts z neg prim (fun p => an' ((verilogNet cfg tl ports stmts).sNodes.getD p 0)) σ ∧
        (∀ l, l < (verilogNet cfg tl ports stmts).lines.size → v' l = vLabel cfg tl stmts z prim σ l) ∧
        LibRel cfg tl ports stmts lib z neg prim σ) ∧
    (∀ (a : Nat → α) (σ : String → α), VModelOff (isLibInst lib) tl ports stmts z neg prim a σ →
      LibRel cfg tl ports stmts lib z neg prim σ →
      ∃ an' v', ConsOff h' (fun _ => False) z neg prim an' v' ∧
        (∀ l, l < (verilogNet cfg tl ports stmts).lines.size → v' l = vLabel cfg tl stmts z prim σ l) ∧
        (∀ d, d < (verilogNet cfg tl ports stmts).nodes.size → (lib.find ((verilogNet cfg tl ports stmts).node d).kind).isSome = false →
          an' d = a ((verilogNet cfg tl ports stmts).sNodes.idxOf d))) := by
  obtain ⟨b1, b2⟩ := lib_bridge hok lib hcl z neg prim (RelAt lib _ z neg prim) _
    (fun i hi _ σ v hl => relAt_iff hok lib (WF.of_wf hw).toWFm z neg prim i hi σ v hl)
  obtain ⟨r1, r2, _, r4, r5, _, fw, bw⟩ := C10.resolve_sem lib (verilogNNet cfg tl ports stmts) h' hw hrok he z neg prim
  refine ⟨r1, r2, r4, r5, fun an' v' hc => ?_, fun a σ hm hrel => ?_⟩
  · obtain ⟨g1, g2⟩ := fw an' v' hc
    exact b1 an' v' g1 fun c hc => g2 c hc.1 hc.2
  · obtain ⟨c1, c2⟩ := b2 a σ hm hrel
    exact bw _ _ c1 fun c h1 h2 => c2 c ⟨h1, h2⟩

/-- **(b') the same through substitutions that REMOVE lines, instances and dangling logic** (composition with
`C10.resolve_sem_general`: every library of the built-in kind — ignored input pins, implementations without designated cell,
unconnected outputs): along the index maps `ρ` from the result to the parsed circuit -/
theorem verilog_resolved_rel_general {α : Type u} (hok : VOK cfg tl ports stmts) (lib : Lib) (hcl : LibClean lib stmts) (h' : NNet)
    (hw : (verilogNNet cfg tl ports stmts).wfNoTrail = true)
    (hrok : resolveGenOKB lib (verilogNNet cfg tl ports stmts).keys (verilogNNet cfg tl ports stmts) = true)
    (he : resolveCells lib (verilogNNet cfg tl ports stmts) = some h') (z : α) (neg : α → α) (prim : String → α → α → α → α → α) :
    h'.wfNoTrail = true ∧ ∃ ρ : Ren, h'.net.io.map ρ.node = (verilogNet cfg tl ports stmts).io ∧
    (∀ an' v' : Nat → α, ConsOff h' (fun _ => False) z neg prim an' v' →
      ∃ (an : Nat → α) (σ : String → α),
        VModelOff (isLibInst lib) tl ports stmts z neg prim (fun p => an ((verilogNet cfg tl ports stmts).sNodes.getD p 0)) σ ∧
        LibRel cfg tl ports stmts lib z neg prim σ ∧
        (∀ l', l' < h'.net.lines.size → ρ.line l' < (verilogNet cfg tl ports stmts).lines.size →
          v' l' = vLabel cfg tl stmts z prim σ (ρ.line l')) ∧
        (∀ j, j < h'.net.nodes.size → ρ.node j < (verilogNet cfg tl ports stmts).nodes.size → an (ρ.node j) = an' j)) ∧
    (∀ (a : Nat → α) (σ : String → α), VModelOff (isLibInst lib) tl ports stmts z neg prim a σ →
      LibRel cfg tl ports stmts lib z neg prim σ →
      ∃ an' v', ConsOff h' (fun _ => False) z neg prim an' v' ∧
        (∀ l', l' < h'.net.lines.size → ρ.line l' < (verilogNet cfg tl ports stmts).lines.size →
          v' l' = vLabel cfg tl stmts z prim σ (ρ.line l')) ∧
        (∀ j, j < h'.net.nodes.size → ρ.node j < (verilogNet cfg tl ports stmts).nodes.size →
          an' j = a ((verilogNet cfg tl ports stmts).sNodes.idxOf (ρ.node j)))) := by
  obtain ⟨b1, b2⟩ := lib_bridge hok lib hcl z neg prim (RelAt lib _ z neg prim) _
    (fun i hi _ σ v hl => relAt_iff hok lib (WFm.of_wfNoTrail hw) z neg prim i hi σ v hl)
  obtain ⟨r1, ρ, r2, _, _, _, fw, bw⟩ := C10.resolve_sem_general lib (verilogNNet cfg tl ports stmts) h' hw hrok he z neg prim
  refine ⟨r1, ρ, r2, fun an' v' hc => ?_, fun a σ hm hrel => ?_⟩
  · obtain ⟨an, v, g1, g2, g3, g4⟩ := fw an' v' hc
    obtain ⟨σ, hm, hl, hq⟩ := b1 an v g1 fun c hc => g2 c hc.1 hc.2
    exact ⟨an, σ, hm, hq, fun l' h1 h2 => by rw [← g3 l' h1 h2]; exact hl _ h2, g4⟩
  · obtain ⟨c1, c2⟩ := b2 a σ hm hrel
    exact bw _ _ c1 fun c h1 h2 => c2 c ⟨h1, h2⟩

theorem cert_ins_length {lib : Lib} {row : String → Cell} {ord : String → List Nat} {h : NNet} {c : Nat}
    (cert : InstCert lib row ord h c) : (h.net.node c).ins.length = (row (h.net.node c).kind).inNames.length := by
  obtain ⟨impl, sh, _, hsh, _, _, _, _, hdesc, hfit, _⟩ := cert
  have hd := describes_of hsh hdesc
  simp only [pinsFitB, Bool.and_eq_true, beq_iff_eq] at hfit
  rw [hfit.1, hd.nIn]

def LibDS (tl : TL) (stmts : List Stmt) (lib : Lib) (row : String → Cell) (σ : String → Bool) : Prop :=
  ∀ i ∈ vInsts stmts, libHas lib i.ty = true → ∃ fs, cellFuns row i.ty = some fs ∧
    ∀ o ∈ outConn tl (sigDecls stmts) i, ∀ f, fs[o.1]? = some f → σ o.2 = f (libInVals tl σ i (row i.ty).inNames.length)

theorem vModelLib_iff (lib : Lib) (row : String → Cell) (a : Nat → Bool) (σ : String → Bool) :
    VModelLib (libHas lib) row tl ports stmts a σ ↔
      VModelOff (isLibInst lib) tl ports stmts false (!·) prim2 a σ ∧ LibDS tl stmts lib row σ := Iff.rfl

/-- **(c) resolved labellings ↔ datasheet models of the module** -/
theorem verilog_resolved_datasheet (hok : VOK cfg tl ports stmts) (lib : Lib) (hcl : LibClean lib stmts) (h' : NNet)
    (hw : (verilogNNet cfg tl ports stmts).wf = true)
    (hrok : resolveOKB lib (verilogNNet cfg tl ports stmts).keys (verilogNNet cfg tl ports stmts) = true)
    (he : resolveCells lib (verilogNNet cfg tl ports stmts) = some h') (row : String → Cell) (ord : String → List Nat)
    (hcert : ∀ c, c < (verilogNNet cfg tl ports stmts).net.nodes.size →
      (lib.find ((verilogNNet cfg tl ports stmts).net.node c).kind).isSome = true → InstCert lib row ord (verilogNNet cfg tl ports stmts) c) :
    h'.wf = true ∧ h'.net.io = (verilogNet cfg tl ports stmts).io ∧
    (verilogNet cfg tl ports stmts).lines.size ≤ h'.net.lines.size ∧
    (∀ d, d < (verilogNet cfg tl ports stmts).nodes.size → (lib.find ((verilogNet cfg tl ports stmts).node d).kind).isSome = false →
      h'.net.node d = (verilogNet cfg tl ports stmts).node d) ∧
    (∀ an' v' : Nat → Bool, ConsOff h' (fun _ => False) false (!·) prim2 an' v' →
      ∃ σ, VModelLib (libHas lib) row tl ports stmts (fun p => an' ((verilogNet cfg tl ports stmts).sNodes.getD p 0)) σ ∧
        (∀ l, l < (verilogNet cfg tl ports stmts).lines.size → v' l = vLabel cfg tl stmts false prim2 σ l)) ∧
    (∀ (a : Nat → Bool) (σ : String → Bool), VModelLib (libHas lib) row tl ports stmts a σ →
      ∃ an' v', ConsOff h' (fun _ => False) false (!·) prim2 an' v' ∧
        (∀ l, l < (verilogNet cfg tl ports stmts).lines.size → v' l = vLabel cfg tl stmts false prim2 σ l) ∧
        (∀ d, d < (verilogNet cfg tl ports stmts).nodes.size → (lib.find ((verilogNet cfg tl ports stmts).node d).kind).isSome = false →
          an' d = a ((verilogNet cfg tl ports stmts).sNodes.idxOf d))) := by
  have hW := WF.of_wf hw
  obtain ⟨b1, b2⟩ := lib_bridge hok lib hcl false (!·) prim2 (CellDatasheet row _)
    (fun i σ => ∃ fs, cellFuns row i.ty = some fs ∧ ∀ o ∈ outConn tl (sigDecls stmts) i, ∀ f, fs[o.1]? = some f →
      σ o.2 = f (libInVals tl σ i (row i.ty).inNames.length))
    (fun i hi hlib σ v hl => by
      have hk := inst_node_kind hok i hi
      have hn := cert_ins_length (hcert _ (verilogNet_idx_lt (v_resolved_inst hok i hi 0)) (by rw [hk]; exact hlib))
      rw [hk] at hn
      exact cellDatasheet_iff_module hok hW row i hi σ v hl hn)
  obtain ⟨r1, r2, _, r4, r5, _, fw, bw⟩ := C10.resolve_sem lib (verilogNNet cfg tl ports stmts) h' hw hrok he false (!·) prim2
  refine ⟨r1, r2, r4, r5, fun an' v' hc => ?_, fun a σ hm => ?_⟩
  · obtain ⟨g1, g2⟩ := fw an' v' hc
    obtain ⟨σ, hm, hl, hq⟩ := b1 an' v' g1 fun c hc => (cell_datasheet_iff (hcert c hc.1 hc.2) v').mp (g2 c hc.1 hc.2)
    exact ⟨σ, ⟨hm, hq⟩, hl⟩
  · obtain ⟨c1, c2⟩ := b2 a σ hm.1 hm.2
    exact bw _ _ c1 fun c h1 h2 => (cell_datasheet_iff (hcert c h1 h2) _).mpr (c2 c ⟨h1, h2⟩)

theorem sPos_some (net : Net) (n p : Nat) (h : net.sPos n = some p) :
    n ∈ net.sNodes ∧ net.sNodes.getD p 0 = n ∧ net.sNodes.idxOf n = p := by
  unfold Net.sPos sPosIn at h
  simp only at h
  split at h
  · rename_i hlt
    cases h
    refine ⟨List.idxOf_lt_length_iff.mp hlt, ?_, rfl⟩
    rw [List.getD_eq_getElem?_getD, List.getElem?_eq_getElem hlt]
    simp
  · cases h

theorem instVal_congr_a {α : Type u} (z : α) (neg : α → α) (prim : String → α → α → α → α → α) (a a' : Nat → α) (pos : Nat)
    (i : VInst) (idx : Nat) (σ : String → α) (h : isSeqKind i.ty = true → a pos = a' pos) :
    instVal tl z neg prim a pos i idx σ = instVal tl z neg prim a' pos i idx σ := by
  unfold instVal
  by_cases hs : isSeqKind i.ty = true
  · simp only [hs, if_true, h hs]
  · simp only [hs, Bool.false_eq_true, if_false]

theorem vModelOff_congr_a {α : Type u} (hok : VOK cfg tl ports stmts) (HI : VInst → Prop) (z : α) (neg : α → α)
    (prim : String → α → α → α → α → α) (a a' : Nat → α) (σ : String → α)
    (h : ∀ n p, (verilogNet cfg tl ports stmts).sPos n = some p → a p = a' p)
    (hm : VModelOff HI tl ports stmts z neg prim a σ) : VModelOff HI tl ports stmts z neg prim a' σ := by
  refine ⟨fun i hi hH o ho => ?_, fun n hn => ?_, hm.2.2.1, hm.2.2.2⟩
  · rw [hm.1 i hi hH o ho]
    apply instVal_congr_a
    intro hs
    have := verilogNet_sPos_inst hok i hi 0
    rw [hs] at this
    exact h _ _ this
  · rw [hm.2.1 n hn]
    exact h _ _ (verilogNet_sPos_input hok n hn)

theorem sNodes_not_lib (hok : VOK cfg tl ports stmts) (lib : Lib) (hcl : LibClean lib stmts) (n : Nat)
    (hn : n ∈ (verilogNet cfg tl ports stmts).sNodes) :
    n < (verilogNet cfg tl ports stmts).nodes.size ∧ (lib.find ((verilogNet cfg tl ports stmts).node n).kind).isSome = false := by
  rw [verilogNet_sNodes hok] at hn
  obtain ⟨e, he, rfl⟩ := List.mem_map.mp hn
  have hres := (vSNames_resolved hok e he).1
  refine ⟨verilogNet_idx_lt hres, ?_⟩
  rw [verilogNet_kind _ hres]
  unfold vSNames at he
  simp only [List.mem_append, List.mem_map, List.mem_filter] at he
  have hseq : ∀ i ∈ vInsts stmts, isSeqKind i.ty = true → (lib.find i.ty).isSome = false := by
    intro i hi hs
    cases hl : (lib.find i.ty).isSome with
    | false => rfl
    | true => rw [hcl.noSeq i hi hl] at hs; cases hs
  rcases he with (⟨nm, hnm, rfl⟩ | ⟨i, ⟨hi, hd⟩, rfl⟩) | ⟨i, ⟨hi, hd⟩, rfl⟩
  · obtain ⟨d, hd, hk, hnd⟩ := (mem_portBitNames _ nm).mp (mem_posNames_port hok nm hnm)
    rw [kindOf_cell _ (module_cells_nodup hok) ⟨d.kind.str, nm, false⟩ (portCell_mem hok d hd hk nm hnd) 0]
    cases hdk : d.kind with
    | input => show (lib.find "input").isSome = false; rw [hcl.input]; rfl
    | output => show (lib.find "output").isSome = false; rw [hcl.output]; rfl
    | wire => exact absurd hdk hk
  · rw [v_kindOf_inst hok i hi]
    exact hseq i hi (by unfold isSeqKind; rw [hd]; rfl)
  · rw [v_kindOf_inst hok i hi]
    exact hseq i hi (by unfold isSeqKind; rw [hd]; simp)

theorem vModelLibB_sound (isLib : String → Bool) (row : String → Cell) (a : Nat → Bool) (tab : List (String × Bool))
    (h : vModelLibB isLib row tl ports stmts a tab = true) : VModelLib isLib row tl ports stmts a (vEnvOf false tab) := by
  unfold vModelLibB at h
  simp only [Bool.and_eq_true, List.all_eq_true, beq_iff_eq, Bool.or_eq_true, Bool.not_eq_true'] at h
  obtain ⟨⟨⟨h1, h2⟩, h3⟩, h4⟩ := h
  refine ⟨⟨fun i hi hH o ho => ?_, fun n hn => h2 n hn, fun ts hts => h3 ts hts, fun s hs => ?_⟩, fun i hi hlib => ?_⟩
  · have := (h1 i hi).2 o ho
    rw [this]
    unfold instValLib
    have hf : isLib i.ty = false := by simpa using hH
    simp [hf]
  · unfold vEnvOf
    rw [lookupA_eq_none tab s fun p hp e => by have := h4 p hp; rw [e, hs] at this; cases this]
    rfl
  · obtain ⟨hA, hB⟩ := h1 i hi
    rcases hA with hA | hA
    · rw [hlib] at hA; cases hA
    · cases hc : cellFuns row i.ty with
      | none => rw [hc] at hA; cases hA
      | some fs =>
        refine ⟨fs, rfl, fun o ho f hf => ?_⟩
        have := hB o ho
        rw [this]
        unfold instValLib
        simp only [hlib, if_true, hc, hf]

end KV.Netlist
