import KyupyVerif.Proofs.WaveTerm
/-! The two phases of the loop as one rule (`run_phases`), the INITIAL value of a produced waveform (C03), and its
well-formedness: only the bottom (first) entry of the output stack can be `tmin`, every other entry is finite — so a gate's
output is again a legal operand (`wave_gate_wf`), which is what lets the gate-level theorems be chained through a circuit.
While a leading `tmin` is pending (phase A, `InvA`) consuming it toggles that operand's input bit once — the vector `expected`
(input bits with the pending `tmin`s already applied) stays what it was at `init`, the vector of initial values. When none is
left the state satisfies `InvB` and the stack bottom tells the LUT value of that vector (`A_to_B`); from then on the bottom stays
(`stepB`). -/

namespace KV.Wave

theorem stepA_expected (E : Env) {ws : Fin 4 → List T} (hwf : ∀ i, WfRem (ws i)) (s : St) (b : Base E ws s)
    (hp : anyPend s = true) : expected (step E.lut E.D E.terms E.zcap s) = expected s := by
  have hpk := pick_pend E s hp
  funext i
  unfold expected pendTmin
  rw [step_inp, step_r]
  unfold upd
  split
  · rename_i hi; subst hi
    -- after consuming the head `tmin`, the new head is finite
    have hfin := (b.wf (hwf (pick E.D E.terms s))).tail.2
    unfold pendTmin at hpk
    have hnew : ((s.r (pick E.D E.terms s)).tail.head? == some T.tmin) = false := by
      cases ht : (s.r (pick E.D E.terms s)).tail with
      | nil => simp
      | cons x xs =>
        have := hfin x (by simp [ht])
        cases x <;> simp_all [T.isFin]
    simp only [hnew, hpk]
    cases s.inp (pick E.D E.terms s) <;> rfl
  · rfl

theorem A_to_B {E : Env} {ws : Fin 4 → List T} (hwf : ∀ i, WfRem (ws i)) {s : St} (b : Base E ws s) (hA : InvA s)
    (hp : anyPend s = false) : InvB s ∧ bot s.z = lutBit E.lut (expected s) := by
  refine ⟨⟨fun i => b.fin (hwf i) (anyPend_false hp i), Or.inl (by rcases hA.z with h | h <;> simp [h, headT, hA.prev])⟩, ?_⟩
  have : expected s = s.inp := by funext i; simp [expected, anyPend_false hp i]
  rw [this, ← b.par.2, ← b.par.1]
  rcases hA.z with h | h <;> simp [h, bot]

/-- **the loop rule for two-phase invariants**: `PA` is kept while a leading `tmin` is pending, gives `PB` when none is left,
    and `PB` is kept while only finite entries remain. `Base` and the phase invariants `InvA` / `InvB` come for free. `fuel` is
    any amount after which the loop has stopped (`run_done`: `totalLen ws` is one). -/
theorem run_phases (E : Env) (ws : Fin 4 → List T) (hwf : ∀ i, WfRem (ws i)) {PA PB : St → Prop}
    (h0 : PA (init E.lut ws))
    (hA : ∀ s, Base E ws s → InvA s → anyPend s = true → PA s → PA (step E.lut E.D E.terms E.zcap s))
    (hAB : ∀ s, Base E ws s → InvA s → InvB s → anyPend s = false → PA s → PB s)
    (hB : ∀ s, Base E ws s → InvB s → T.lt (cur E.D E.terms s) .tmax = true → PB s → PB (step E.lut E.D E.terms E.zcap s))
    (fuel : Nat) (hdone : T.lt (cur E.D E.terms (run E.lut E.D E.terms E.zcap fuel (init E.lut ws))) .tmax = false) :
    PB (run E.lut E.D E.terms E.zcap fuel (init E.lut ws)) := by
  have toB : ∀ s, Base E ws s → InvA s → anyPend s = false → PA s → InvB s ∧ PB s := fun s b a hp h =>
    ⟨(A_to_B hwf b a hp).1, hAB s b a (A_to_B hwf b a hp).1 hp h⟩
  have key := run_base E ws (P := fun s => (InvA s ∧ PA s) ∨ (InvB s ∧ PB s))
    (Or.inl ⟨⟨by simp only [init]; cases (E.lut % 2 == 1) <;> simp, rfl⟩, h0⟩) (fun s b h hlt => by
      have inB : InvB s ∧ PB s → (InvA (step E.lut E.D E.terms E.zcap s) ∧ PA (step E.lut E.D E.terms E.zcap s)) ∨
          (InvB (step E.lut E.D E.terms E.zcap s) ∧ PB (step E.lut E.D E.terms E.zcap s)) :=
        fun ⟨hb, h⟩ => Or.inr ⟨(stepB E s hb hlt).1, hB s b hb hlt h⟩
      rcases h with ⟨a, h⟩ | h
      · cases hp : anyPend s with
        | true => exact Or.inl ⟨stepA E s a hp, hA s b a hp h⟩
        | false => exact inB (toB s b a hp h)
      · exact inB h) fuel
  generalize run E.lut E.D E.terms E.zcap fuel (init E.lut ws) = s at key hdone
  obtain ⟨b, ⟨a, h⟩ | ⟨_, h⟩⟩ := key
  · -- the loop has stopped, so no `tmin` is pending: the event time would be `tmin`
    refine (toB s b a ?_ h).2
    cases hp : anyPend s with
    | false => rfl
    | true => rw [(cur_eq_tmin E s).mpr hp] at hdone; cases hdone
  · exact h

theorem run_init (E : Env) (ws : Fin 4 → List T) (hwf : ∀ i, WfRem (ws i)) (fuel : Nat)
    (hdone : T.lt (cur E.D E.terms (run E.lut E.D E.terms E.zcap fuel (init E.lut ws))) .tmax = false) :
    bot (run E.lut E.D E.terms E.zcap fuel (init E.lut ws)).z = lutBit E.lut (initMask ws) :=
  run_phases E ws hwf (PA := fun s => expected s = initMask ws) (PB := fun s => bot s.z = lutBit E.lut (initMask ws))
    (by funext i; simp [expected, init, pendTmin, initMask])
    (fun s b _ hp h => (stepA_expected E hwf s b hp).trans h)
    (fun _ b a _ hp h => h ▸ (A_to_B hwf b a hp).2)
    (fun s _ hb hlt h => (stepB E s hb hlt).2.trans h) fuel hdone

/-- C03 (initial value), gate level: the produced waveform starts high iff the LUT of the operands' initial values is 1 (`run_init`
    with the fuel `waveEval` uses) -/
theorem wave_gate_init (E : Env) (ws : Fin 4 → List T) (hwf : ∀ i, WfRem (ws i)) :
    bot (run E.lut E.D E.terms E.zcap (totalLen ws) (init E.lut ws)).z = lutBit E.lut (initMask ws) :=
  run_init E ws hwf _ (run_done E (totalLen ws) (init E.lut ws) (Nat.le_refl _))

/-- `WfRem` of a stack (newest first): only its LAST entry may be `tmin` -/
def ZW (z : List T) : Prop := (∀ e ∈ z.dropLast, e.isFin = true) ∧ (∀ e ∈ z, e = T.tmin ∨ e.isFin = true)

theorem ZW.nil : ZW [] := ⟨by simp, by simp⟩
theorem ZW.tmin1 : ZW [T.tmin] := ⟨by simp, by simp⟩

theorem ZW.tail {z : List T} (h : ZW z) : ZW z.tail := by
  refine ⟨?_, fun e he => h.2 e (List.mem_of_mem_tail he)⟩
  intro e he
  cases z with
  | nil => simp at he
  | cons x r =>
    simp only [List.tail_cons] at he
    apply h.1
    cases r with
    | nil => simp at he
    | cons y r' => simp only [List.dropLast_cons_cons]; exact List.mem_cons_of_mem _ he

theorem ZW.push_fin {z : List T} (h : ZW z) (t : Int) : ZW (T.fin t :: z) := by
  refine ⟨?_, ?_⟩
  · intro e he
    cases z with
    | nil => simp at he
    | cons y r =>
      simp only [List.dropLast_cons_cons, List.mem_cons] at he
      rcases he with rfl | he
      · rfl
      · exact h.1 e he
  · intro e he
    rcases List.mem_cons.mp he with rfl | he
    · exact Or.inr rfl
    · exact h.2 e he

theorem ZW.toWfRem {z : List T} (h : ZW z) : WfRem z.reverse := by
  refine ⟨?_, fun e he => h.2 e (List.mem_reverse.mp he)⟩
  intro e he
  rw [List.tail_reverse] at he
  exact h.1 e (List.mem_reverse.mp he)

theorem stepB_zw (E : Env) (s : St) (hB : InvB s) (hlt : T.lt (cur E.D E.terms s) .tmax = true) (hz : ZW s.z) :
    ZW (step E.lut E.D E.terms E.zcap s).z := by
  obtain ⟨t, ht⟩ := cur_fin E s hB hlt
  exact step_ind (P := fun s' => ZW s'.z) _ _ _ _ s (fun _ => hz) (fun _ _ _ => ht ▸ hz.push_fin t)
    (fun _ _ => hz.tail) (fun _ _ _ _ => hz.tail)

theorem wave_gate_wf (E : Env) (ws : Fin 4 → List T) (hwf : ∀ i, WfRem (ws i)) :
    WfRem (run E.lut E.D E.terms E.zcap (totalLen ws) (init E.lut ws)).z.reverse :=
  (run_phases E ws hwf (PA := fun _ => True) (PB := fun s => ZW s.z) trivial (fun _ _ _ _ _ => trivial)
    (fun _ _ a _ _ _ => a.z.elim (· ▸ ZW.nil) (· ▸ ZW.tmin1))
    (fun s _ hb hlt hz => stepB_zw E s hb hlt hz) _ (run_done E _ _ (Nat.le_refl _))).toWfRem

end KV.Wave
