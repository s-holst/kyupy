import KyupyVerif.Proofs.VerilogLines
/-! Nodes of a module of the fragment: its cells (`module_cells`), resolution and kinds of end points, `io_nodes` (`module_ioNames`,
the statement of `C11.ports_order`), `s_nodes` and positions (`verilogNet_sNodes`, `verilogNet_sPos_*`).  The kinds of lines of a
module as one relation (`VLineOf` from `PairStep` / `ConnStep`, `vFlat_cases`): the files after this one case on it.  `mem_walk_all`
returns its clauses under one `∀ g`, so the lines, nodes and constant names made at one `const_count` come from one step. -/
namespace KV.Netlist
open KV

def instCell (i : VInst) : NodeM := ⟨i.ty, i.name, false⟩
def portCells (d : Decl) : List NodeM := if d.kind == .wire then [] else d.names.map fun n => ⟨d.kind.str, n, false⟩

theorem filter_cells_map_fork {β} (l : List β) (f : β → String) (b : Bool) :
    (l.map fun x => (⟨forkKind, f x, b⟩ : NodeM)).filter (fun x => x.kind != forkKind) = [] := by
  induction l with
  | nil => rfl
  | cons a r ih => simp [ih]

theorem cells_portNodes (d : Decl) : (portNodes d).filter (fun x => x.kind != forkKind) = portCells d := by
  unfold portNodes portCells
  split
  · rfl
  · rw [List.filter_flatMap, List.map_eq_flatMap]
    refine flatMap_congr fun n _ => ?_
    unfold portNodes1
    split <;> simp [str_ne_fork, forkN]

section
variable {cfg : Cfg} {tl : TL} {ports : List String} {stmts : List Stmt}

theorem assignsOK_src : ∀ (pairs : List (String × String)) (F : List String), assignsOK F pairs = true →
    ∀ ts ∈ pairs, isConstLit ts.2 = false → ts.2 ∈ F ++ pairs.map (·.1)
  | [], _, _, _, h, _ => by cases h
  | p :: r, F, hok, ts, hts, hl => by
    obtain ⟨_, _, h2, h3⟩ := assignsOK_cons F p r hok
    rcases List.mem_cons.mp hts with rfl | hts
    · rcases h2 with h2 | h2
      · rw [h2] at hl; cases hl
      · exact List.mem_append_left _ (by simpa using h2.2)
    · have := assignsOK_src r (F ++ [p.1]) h3 ts hts hl
      simp only [List.map_cons, List.mem_append, List.mem_cons, List.not_mem_nil, or_false] at this ⊢
      rcases this with (h | h) | h
      · exact Or.inl h
      · exact Or.inr (Or.inl h)
      · exact Or.inr (Or.inr h)

def constCells (cfg : Cfg) (tl : TL) (ds : List Decl) (stmts : List Stmt) : List NodeM :=
  (walk (fun k ts => nextK k ts.2) pairNodes 0 (assignPairs ds stmts)).filter (fun x => x.kind != forkKind) ++
  (connWalk tl (connNodes cfg.bf) ((assignPairs ds stmts).foldl (fun k ts => nextK k ts.2) 0) (vInsts stmts)).filter
    (fun x => x.kind != forkKind)

theorem module_cells (hok : VOK cfg tl ports stmts) :
    cellsOf (module cfg tl ports stmts) =
      (vInsts stmts).map instCell ++ (sigDecls stmts).flatMap portCells ++ constCells cfg tl (sigDecls stmts) stmts := by
  unfold cellsOf
  rw [module_nodes hok]
  unfold vNodes constCells
  rw [List.filter_append, List.filter_append, List.filter_append]
  have h1 : ∀ i ∈ vInsts stmts, (p1Nodes tl (sigDecls stmts) i).filter (fun x => x.kind != forkKind) = [instCell i] := by
    intro i hi
    unfold p1Nodes forkN
    simp only [List.filter_cons, bne_iff_ne, ne_eq, hok.kinds i hi, not_false_eq_true, if_true,
      filter_cells_map_fork (outConn tl (sigDecls stmts) i) (fun o => o.2) false]
    rfl
  rw [List.filter_flatMap, flatMap_congr h1, List.filter_flatMap, flatMap_congr fun d _ => cells_portNodes d]
  simp only [← List.map_eq_flatMap, List.append_assoc]

theorem pairNodes_cells (k : Nat) (ts : String × String) :
    ((pairNodes k ts).filter (fun x => x.kind != forkKind)).map (·.name) = if isConstLit ts.2 then [constName ts.2 k] else [] := by
  unfold pairNodes
  by_cases hc : isConstLit ts.2 = true
  · have := constKind_ne_fork _ hc
    simp [hc, forkN, this]
  · simp [hc, forkN]

theorem connNodes_cells (bf : Bool) (k : Nat) (ic : VInst × (String × Nat × String)) :
    ((connNodes bf k ic).filter (fun x => x.kind != forkKind)).map (·.name) =
      if isConstLit ic.2.2.2 then [constName ic.2.2.2 k] else [] := by
  unfold connNodes
  by_cases hc : isConstLit ic.2.2.2 = true
  · have := constKind_ne_fork _ hc
    cases bf <;> simp [hc, forkN, branchN, this]
  · cases bf <;> simp [hc, branchN]

theorem constCells_names (cfg : Cfg) (tl : TL) (ds : List Decl) (stmts : List Stmt) :
    (constCells cfg tl ds stmts).map (·.name) = constNames tl ds stmts := by
  unfold constCells constNames connWalk
  rw [List.map_append, map_filter_walk, map_filter_walk]
  congr 1
  · exact walk_congr _ _ _ (fun k ts => pairNodes_cells k ts) _ _
  · apply walk_congr
    intro k i
    rw [map_filter_walk]
    exact walk_congr _ _ _ (fun k c => connNodes_cells cfg.bf k (i, c)) _ _

theorem constCells_kind (cfg : Cfg) (tl : TL) (ds : List Decl) (stmts : List Stmt) (x : NodeM) (hx : x ∈ constCells cfg tl ds stmts) :
    ∃ s, isConstLit s = true ∧ x.kind = constKind s := by
  unfold constCells at hx
  rcases List.mem_append.mp hx with h | h
  · rw [List.mem_filter] at h
    obtain ⟨k, ts, _, hn, _⟩ := mem_walk_all _ _ _ _ _ h.1
    unfold pairNodes at hn
    by_cases hc : isConstLit ts.2 = true
    · simp only [hc, if_true, List.mem_cons, List.not_mem_nil, or_false] at hn
      rcases hn with rfl | rfl
      · exact ⟨ts.2, hc, rfl⟩
      · simp [forkN] at h
    · simp only [hc, Bool.false_eq_true, if_false, List.mem_singleton] at hn
      subst hn
      simp [forkN] at h
  · rw [List.mem_filter] at h
    obtain ⟨k, i, c, _, _, hn, _⟩ := mem_connWalk_all _ _ _ _ _ h.1
    unfold connNodes at hn
    rcases List.mem_append.mp hn with hn | hn
    · by_cases hc : isConstLit c.2.2 = true
      · simp only [hc, if_true, List.mem_cons, List.not_mem_nil, or_false] at hn
        rcases hn with rfl | rfl
        · exact ⟨c.2.2, hc, rfl⟩
        · simp [forkN] at h
      · simp [hc] at hn
    · cases hb : cfg.bf
      · simp [hb] at hn
      · simp only [hb, if_true, List.mem_singleton] at hn
        subst hn
        simp [branchN] at h

theorem portCells_names (ds : List Decl) : (ds.flatMap portCells).map (·.name) = portBitNames ds := by
  unfold portBitNames
  induction ds with
  | nil => rfl
  | cons d r ih =>
    simp only [List.flatMap_cons, List.map_append, ih, List.filter_cons]
    unfold portCells
    by_cases hw : d.kind = DKind.wire
    · simp [hw]
    · simp [hw, List.map_map, Function.comp_def]

theorem module_cells_nodup (hok : VOK cfg tl ports stmts) : ((cellsOf (module cfg tl ports stmts)).map (·.name)).Nodup := by
  rw [module_cells hok, List.map_append, List.map_append, portCells_names, List.map_map, constCells_names]
  exact hok.cells

theorem instCell_mem (hok : VOK cfg tl ports stmts) (i : VInst) (hi : i ∈ vInsts stmts) :
    instCell i ∈ cellsOf (module cfg tl ports stmts) := by
  rw [module_cells hok]
  exact List.mem_append_left _ (List.mem_append_left _ (List.mem_map.mpr ⟨i, hi, rfl⟩))

theorem portCell_mem (hok : VOK cfg tl ports stmts) (d : Decl) (hd : d ∈ sigDecls stmts) (hk : d.kind ≠ .wire) (n : String)
    (hn : n ∈ d.names) : (⟨d.kind.str, n, false⟩ : NodeM) ∈ cellsOf (module cfg tl ports stmts) := by
  rw [module_cells hok]
  apply List.mem_append_left
  apply List.mem_append_right
  apply List.mem_flatMap.mpr
  refine ⟨d, hd, ?_⟩
  unfold portCells
  have : (d.kind == DKind.wire) = false := by simp [hk]
  simp only [this, Bool.false_eq_true, if_false]
  exact List.mem_map.mpr ⟨n, hn, rfl⟩

theorem v_resolved_inst (hok : VOK cfg tl ports stmts) (i : VInst) (hi : i ∈ vInsts stmts) (p : Nat) :
    (module cfg tl ports stmts).resolved (.cell i.name p) :=
  resolved_of_cell _ (instCell i) (instCell_mem hok i hi) p

theorem v_kindOf_inst (hok : VOK cfg tl ports stmts) (i : VInst) (hi : i ∈ vInsts stmts) (p : Nat) :
    (module cfg tl ports stmts).kindOf (.cell i.name p) = i.ty :=
  kindOf_cell _ (module_cells_nodup hok) (instCell i) (instCell_mem hok i hi) p

theorem v_resolved_port (hok : VOK cfg tl ports stmts) (n : String) (hn : n ∈ portBitNames (sigDecls stmts)) (p : Nat) :
    (module cfg tl ports stmts).resolved (.cell n p) := by
  obtain ⟨d, hd, hk, hnd⟩ := (mem_portBitNames _ n).mp hn
  exact resolved_of_cell _ ⟨d.kind.str, n, false⟩ (portCell_mem hok d hd hk n hnd) p

theorem v_kindOf_input (hok : VOK cfg tl ports stmts) (n : String) (hn : n ∈ inputNames (sigDecls stmts)) (p : Nat) :
    (module cfg tl ports stmts).kindOf (.cell n p) = "input" := by
  obtain ⟨d, hd, hk, hnd⟩ := (mem_inputNames _ n).mp hn
  have := kindOf_cell _ (module_cells_nodup hok) ⟨d.kind.str, n, false⟩ (portCell_mem hok d hd (by rw [hk]; simp) n hnd) p
  rw [this, hk]; rfl

theorem v_resolved_fork (hok : VOK cfg tl ports stmts) (s : String) (hs : s ∈ drivenSigs tl (sigDecls stmts) stmts) :
    (module cfg tl ports stmts).resolved (.fork s) := by
  apply resolved_of_isFork
  rw [drivenSigs_eq] at hs
  rcases List.mem_append.mp hs with h | h
  · apply (sub_after1_module cfg tl ports stmts).isFork
    rw [forksAre_afterPass1 tl ports stmts hok.kinds s]
    simpa using h
  · obtain ⟨ts, hts, rfl⟩ := List.mem_map.mp h
    rw [isFork_iff]
    refine ⟨false, ?_⟩
    rw [module_nodes hok]
    unfold vNodes
    apply List.mem_append_left
    apply List.mem_append_right
    obtain ⟨k, hk⟩ := walk_of_mem (fun k (ts : String × String) => nextK k ts.2) pairNodes 0 _ ts hts
    apply hk
    unfold pairNodes
    split <;> simp [forkN]

theorem resolved_of_fork_node (C : Circ) (f : String) (b : Bool) (h : (⟨forkKind, f, b⟩ : NodeM) ∈ C.nodes) : C.resolved (.fork f) :=
  resolved_of_isFork C f ((isFork_iff C f).mpr ⟨b, h⟩)

/-- what one step of pass 1.5 contributed, all with the same `const_count` -/
structure PairStep (cfg : Cfg) (tl : TL) (ports : List String) (stmts : List Stmt) (k : Nat) (ts : String × String) : Prop where
  mem : ts ∈ assignPairs (sigDecls stmts) stmts
  lines : ∀ t ∈ pairLines k ts, t ∈ vFlat cfg tl (sigDecls stmts) stmts
  nodes : ∀ n ∈ pairNodes k ts, n ∈ (module cfg tl ports stmts).nodes
  cname : isConstLit ts.2 = true → constName ts.2 k ∈ constNames tl (sigDecls stmts) stmts

/-- what one input-pin connection of pass 2 contributed -/
structure ConnStep (cfg : Cfg) (tl : TL) (ports : List String) (stmts : List Stmt) (k : Nat) (i : VInst) (c : String × Nat × String) :
    Prop where
  memI : i ∈ vInsts stmts
  memC : c ∈ inConn tl i
  lines : ∀ t ∈ connLines cfg.bf k (i, c), t ∈ vFlat cfg tl (sigDecls stmts) stmts
  nodes : ∀ n ∈ connNodes cfg.bf k (i, c), n ∈ (module cfg tl ports stmts).nodes
  cname : isConstLit c.2.2 = true → constName c.2.2 k ∈ constNames tl (sigDecls stmts) stmts

/-- the lines of a module of the fragment, kind by kind, each with what is known about the step that made it -/
inductive VLineOf (cfg : Cfg) (tl : TL) (ports : List String) (stmts : List Stmt) : VLine → Prop
  | instOut (i : VInst) (hi : i ∈ vInsts stmts) (o : Nat × String) (ho : o ∈ outConn tl (sigDecls stmts) i) :
      VLineOf cfg tl ports stmts ⟨.cell i.name o.1, .fork o.2, o.2⟩
  | input (n : String) (hn : n ∈ inputNames (sigDecls stmts)) : VLineOf cfg tl ports stmts ⟨.cell n 0, .fork n, n⟩
  | pairConst (k : Nat) (ts : String × String) (st : PairStep cfg tl ports stmts k ts) (hc : isConstLit ts.2 = true) :
      VLineOf cfg tl ports stmts ⟨.cell (constName ts.2 k) 0, .fork ts.1, ts.2⟩
  | pairFork (k : Nat) (ts : String × String) (st : PairStep cfg tl ports stmts k ts) (hc : isConstLit ts.2 = false) :
      VLineOf cfg tl ports stmts ⟨.fork ts.2, .fork ts.1, ts.2⟩
  | connConst (k : Nat) (i : VInst) (c : String × Nat × String) (st : ConnStep cfg tl ports stmts k i c) (hc : isConstLit c.2.2 = true) :
      VLineOf cfg tl ports stmts ⟨.cell (constName c.2.2 k) 0, .fork (constName c.2.2 k), c.2.2⟩
  | connStem (k : Nat) (i : VInst) (c : String × Nat × String) (st : ConnStep cfg tl ports stmts k i c) (hb : cfg.bf = true) :
      VLineOf cfg tl ports stmts ⟨.fork (srcFork k c), .fork (branchName (srcFork k c) i.name c.1), c.2.2⟩
  | connBranch (k : Nat) (i : VInst) (c : String × Nat × String) (st : ConnStep cfg tl ports stmts k i c) (hb : cfg.bf = true) :
      VLineOf cfg tl ports stmts ⟨.fork (branchName (srcFork k c) i.name c.1), .cell i.name c.2.1, c.2.2⟩
  | connPlain (k : Nat) (i : VInst) (c : String × Nat × String) (st : ConnStep cfg tl ports stmts k i c) (hb : cfg.bf = false) :
      VLineOf cfg tl ports stmts ⟨.fork (srcFork k c), .cell i.name c.2.1, c.2.2⟩
  | output (n : String) (hn : n ∈ outputNames (sigDecls stmts)) : VLineOf cfg tl ports stmts ⟨.fork n, .cell n 0, n⟩

theorem vFlat_cases (hok : VOK cfg tl ports stmts) (t : VLine) (ht : t ∈ vFlat cfg tl (sigDecls stmts) stmts) :
    VLineOf cfg tl ports stmts t := by
  unfold vFlat at ht
  simp only [List.mem_append, List.mem_flatMap, List.mem_map] at ht
  rcases ht with (((⟨i, hi, o, ho, rfl⟩ | ⟨n, hn, rfl⟩) | hp) | hc) | ⟨n, hn, rfl⟩
  · exact .instOut i hi o ho
  · exact .input n hn
  · obtain ⟨k, ts, hts, htp, hall⟩ := mem_walk_all _ _ _ _ _ hp
    have hst : PairStep cfg tl ports stmts k ts := by
      refine ⟨hts, fun t' ht' => ?_, fun n hn => ?_, fun hc => ?_⟩
      · unfold vFlat
        simp only [List.mem_append]
        exact Or.inl (Or.inl (Or.inr (hall pairLines t' ht')))
      · rw [module_nodes hok]
        unfold vNodes
        exact List.mem_append_left _ (List.mem_append_right _ (hall pairNodes n hn))
      · unfold constNames
        apply List.mem_append_left
        exact hall (fun k (ts : String × String) => if isConstLit ts.2 then [constName ts.2 k] else []) _ (by simp [hc])
    unfold pairLines at htp
    by_cases hcl : isConstLit ts.2 = true
    · simp only [hcl, if_true, List.mem_singleton] at htp; subst htp; exact .pairConst k ts hst hcl
    · simp only [hcl, Bool.false_eq_true, if_false, List.mem_singleton] at htp; subst htp
      exact .pairFork k ts hst (by simpa using hcl)
  · obtain ⟨k, i, c, hi, hcc, htc, hall⟩ := mem_connWalk_all tl _ _ _ _ hc
    have hst : ConnStep cfg tl ports stmts k i c := by
      refine ⟨hi, hcc, fun t' ht' => ?_, fun n hn => ?_, fun hl => ?_⟩
      · unfold vFlat
        simp only [List.mem_append]
        exact Or.inl (Or.inr (hall (connLines cfg.bf) t' ht'))
      · rw [module_nodes hok]
        unfold vNodes
        exact List.mem_append_right _ (hall (connNodes cfg.bf) n hn)
      · unfold constNames
        apply List.mem_append_right
        exact hall (fun k (ic : VInst × (String × Nat × String)) => if isConstLit ic.2.2.2 then [constName ic.2.2.2 k] else []) _ (by simp [hl])
    rcases (mem_connLines cfg.bf k i c t).mp htc with ⟨hl, rfl⟩ | ⟨hb, rfl | rfl⟩ | ⟨hb, rfl⟩
    · exact .connConst k i c hst hl
    · exact .connStem k i c hst hb
    · exact .connBranch k i c hst hb
    · exact .connPlain k i c hst hb
  · exact .output n hn

theorem vFlat_reader_cell (hok : VOK cfg tl ports stmts) (t : VLine) (ht : t ∈ vFlat cfg tl (sigDecls stmts) stmts) (n : String) (p : Nat)
    (hr : t.r = .cell n p) :
    (∃ j ∈ vInsts stmts, ∃ c ∈ inConn tl j, j.name = n ∧ c.2.1 = p ∧ c.2.2 = t.sig) ∨ (n ∈ outputNames (sigDecls stmts) ∧ p = 0) := by
  cases vFlat_cases hok t ht with
  | connBranch _ j c st _ => cases hr; exact Or.inl ⟨j, st.memI, c, st.memC, rfl, rfl, rfl⟩
  | connPlain _ j c st _ => cases hr; exact Or.inl ⟨j, st.memI, c, st.memC, rfl, rfl, rfl⟩
  | output m hm => cases hr; exact Or.inr ⟨hm, rfl⟩
  | _ => cases hr

theorem reader_cell_inst (hok : VOK cfg tl ports stmts) (i : VInst) (hi : i ∈ vInsts stmts) (k : Nat) (t : VLine)
    (ht : t ∈ vFlat cfg tl (sigDecls stmts) stmts) (hr : t.r = .cell i.name k) : inSig tl i k = some t.sig := by
  rcases vFlat_reader_cell hok t ht _ _ hr with ⟨j, hj, c, hc, e1, e2, hs⟩ | ⟨hn, _⟩
  · have := inst_eq hok hj hi e1
    subst this
    exact (inSig_iff hok j hi k t.sig).mpr ⟨c, hc, e2, hs⟩
  · exact absurd rfl (inst_not_port hok hi _ (mem_portBitNames_of_output _ _ hn))

theorem v_const_cell (hok : VOK cfg tl ports stmts) (s : String) (k : Nat) (hc : isConstLit s = true)
    (hn : (⟨constKind s, constName s k, false⟩ : NodeM) ∈ (module cfg tl ports stmts).nodes) (p : Nat) :
    (module cfg tl ports stmts).resolved (.cell (constName s k) p) ∧ (module cfg tl ports stmts).kindOf (.cell (constName s k) p) = constKind s := by
  have hmem : (⟨constKind s, constName s k, false⟩ : NodeM) ∈ cellsOf (module cfg tl ports stmts) := by
    unfold cellsOf
    exact List.mem_filter.mpr ⟨hn, by simp [constKind_ne_fork s hc]⟩
  exact ⟨resolved_of_cell _ _ hmem p, kindOf_cell _ (module_cells_nodup hok) _ hmem p⟩

theorem inConn_ok (hok : VOK cfg tl ports stmts) (i : VInst) (hi : i ∈ vInsts stmts) (c : String × Nat × String)
    (hc : c ∈ inConn tl i) : isConstLit c.2.2 = true ∨ (isConstLit c.2.2 = false ∧ c.2.2 ∈ drivenSigs tl (sigDecls stmts) stmts) := by
  obtain ⟨ps, hps, hpc⟩ := List.mem_filterMap.mp hc
  by_cases hl : isConstLit c.2.2 = true
  · exact Or.inl hl
  · exact Or.inr ⟨by simpa using hl,
      ((pinOK_p2In hpc (List.all_eq_true.mp (List.all_eq_true.mp hok.pins i hi) ps hps)).resolve_left hl).2⟩

theorem v_resolved_src (hok : VOK cfg tl ports stmts) (k : Nat) (i : VInst) (hi : i ∈ vInsts stmts) (c : String × Nat × String)
    (hc : c ∈ inConn tl i) (hn : ∀ n ∈ connNodes cfg.bf k (i, c), n ∈ (module cfg tl ports stmts).nodes) :
    (module cfg tl ports stmts).resolved (.fork (srcFork k c)) := by
  unfold srcFork
  rcases inConn_ok hok i hi c hc with hl | ⟨hl, hd⟩
  · simp only [hl, if_true]
    apply resolved_of_fork_node _ _ false
    apply hn
    unfold connNodes
    simp [hl, forkN]
  · simp only [hl, Bool.false_eq_true, if_false]
    exact v_resolved_fork hok _ hd

theorem v_resolved_branch (hb : cfg.bf = true) (k : Nat) (i : VInst) (c : String × Nat × String)
    (hn : ∀ n ∈ connNodes cfg.bf k (i, c), n ∈ (module cfg tl ports stmts).nodes) :
    (module cfg tl ports stmts).resolved (.fork (branchName (srcFork k c) i.name c.1)) := by
  apply resolved_of_fork_node _ _ true
  apply hn
  unfold connNodes
  simp [hb, branchN]

theorem v_resolved_driver (hok : VOK cfg tl ports stmts) (t : VLine) (ht : t ∈ vFlat cfg tl (sigDecls stmts) stmts) :
    (module cfg tl ports stmts).resolved t.d := by
  cases vFlat_cases hok t ht with
  | instOut i hi o _ => exact v_resolved_inst hok i hi _
  | input n hn => exact v_resolved_port hok n (mem_portBitNames_of_input _ n hn) 0
  | pairConst k ts st hc => exact (v_const_cell hok ts.2 k hc (st.nodes _ (by unfold pairNodes; simp [hc])) 0).1
  | pairFork k ts st hc =>
    exact v_resolved_fork hok _ (by rw [drivenSigs_eq]; exact assignsOK_src _ _ hok.assigns ts st.mem hc)
  | connConst k i c st hc => exact (v_const_cell hok c.2.2 k hc (st.nodes _ (by unfold connNodes; simp [hc])) 0).1
  | connStem k i c st _ => exact v_resolved_src hok k i st.memI c st.memC st.nodes
  | connBranch k i c st hb => exact v_resolved_branch hb k i c st.nodes
  | connPlain k i c st _ => exact v_resolved_src hok k i st.memI c st.memC st.nodes
  | output n hn => exact v_resolved_fork hok n (hok.outs n hn)

theorem no_line_into_const (hok : VOK cfg tl ports stmts) (cn : String) (hcn : cn ∈ constNames tl (sigDecls stmts) stmts) (p : Nat)
    (t : VLine) (ht : t ∈ vFlat cfg tl (sigDecls stmts) stmts) : t.r ≠ .cell cn p := by
  intro hr
  obtain ⟨_, _, h3⟩ := List.nodup_append.mp hok.cells
  rcases vFlat_reader_cell hok t ht _ _ hr with ⟨j, hj, _, _, e, _⟩ | ⟨hn, _⟩
  · exact h3 j.name (List.mem_append_left _ (List.mem_map.mpr ⟨j, hj, rfl⟩)) cn hcn e
  · exact h3 cn (List.mem_append_right _ (mem_portBitNames_of_output _ cn hn)) cn hcn rfl

theorem module_ioNames (hok : VOK cfg tl ports stmts) :
    ioNames (module cfg tl ports stmts) = (posNames (sigDecls stmts) ports).map some :=
  ioNames_module cfg tl ports stmts hok.posNodup hok.portsDecl

theorem mem_posNames_port (hok : VOK cfg tl ports stmts) (n : String) (hn : n ∈ posNames (sigDecls stmts) ports) :
    n ∈ portBitNames (sigDecls stmts) := by
  have hmem' : n ∈ ports.flatMap (fun p => match lookup (sigDecls stmts) p with
      | some d => d.names
      | none => []) := hn
  obtain ⟨p, hp, hnp⟩ := List.mem_flatMap.mp hmem'
  obtain ⟨d, hd, hk⟩ := hok.portsDecl p hp
  rw [hd] at hnp
  exact (mem_portBitNames _ n).mpr ⟨d, List.mem_of_find?_eq_some hd, hk, hnp⟩

theorem const_not_sname (hok : VOK cfg tl ports stmts) (cn : String) (hcn : cn ∈ constNames tl (sigDecls stmts) stmts) :
    (vSNames ports stmts).contains (Ep.cell cn 0) = false := by
  obtain ⟨h1, _, h3⟩ := List.nodup_append.mp hok.cells
  rw [Bool.eq_false_iff]
  intro h
  simp only [List.contains_eq_mem, decide_eq_true_eq] at h
  unfold vSNames at h
  simp only [List.mem_append, List.mem_map, List.mem_filter] at h
  rcases h with (⟨n, hn, h⟩ | ⟨j, ⟨hj, _⟩, h⟩) | ⟨j, ⟨hj, _⟩, h⟩
  · simp only [Ep.cell.injEq, and_true] at h
    exact h3 n (List.mem_append_right _ (mem_posNames_port hok n hn)) cn hcn h
  · simp only [Ep.cell.injEq, and_true] at h
    exact h3 j.name (List.mem_append_left _ (List.mem_map.mpr ⟨j, hj, rfl⟩)) cn hcn h
  · simp only [Ep.cell.injEq, and_true] at h
    exact h3 j.name (List.mem_append_left _ (List.mem_map.mpr ⟨j, hj, rfl⟩)) cn hcn h

theorem str_not_seq (k : DKind) : hasSub "dff" k.str.toLower = false ∧ hasSub "latch" k.str.toLower = false := by
  cases k <;> decide +kernel

theorem filter_portCells (P : String → Bool) (hP : ∀ k : DKind, P k.str = false) (ds : List Decl) :
    (ds.flatMap portCells).filter (fun x => P x.kind) = [] := by
  rw [List.filter_eq_nil_iff]
  intro x hx
  obtain ⟨d, _, hxd⟩ := List.mem_flatMap.mp hx
  unfold portCells at hxd
  split at hxd
  · cases hxd
  · obtain ⟨n, _, rfl⟩ := List.mem_map.mp hxd
    simp [hP]

theorem verilogNet_sNodes (hok : VOK cfg tl ports stmts) :
    (verilogNet cfg tl ports stmts).sNodes = (vSNames ports stmts).map (module cfg tl ports stmts).nodeIdx := by
  unfold verilogNet
  rw [toNet_sNodes _ _ (module_cells_nodup hok), module_cells hok]
  unfold vSNames Circ.ioVerilog
  rw [module_ioNames hok]
  have hc1 : (constCells cfg tl (sigDecls stmts) stmts).filter (fun x => hasSub "dff" x.kind.toLower) = [] := by
    rw [List.filter_eq_nil_iff]
    intro x hx
    obtain ⟨s, hs, hk⟩ := constCells_kind cfg tl _ stmts x hx
    rcases constKind_cases s hs with e | e <;> rw [hk, e] <;> decide +kernel
  have hc2 : (constCells cfg tl (sigDecls stmts) stmts).filter (fun x => hasSub "latch" x.kind.toLower) = [] := by
    rw [List.filter_eq_nil_iff]
    intro x hx
    obtain ⟨s, hs, hk⟩ := constCells_kind cfg tl _ stmts x hx
    rcases constKind_cases s hs with e | e <;> rw [hk, e] <;> decide +kernel
  simp only [List.filter_append, filter_portCells (fun k => hasSub "dff" k.toLower) (fun k => (str_not_seq k).1),
    filter_portCells (fun k => hasSub "latch" k.toLower) (fun k => (str_not_seq k).2), hc1, hc2, List.append_nil, List.map_append,
    List.map_map, List.filter_map]
  rfl

theorem vSNames_resolved (hok : VOK cfg tl ports stmts) :
    ∀ e ∈ vSNames ports stmts, (module cfg tl ports stmts).resolved e ∧ e.rpin = 0 := by
  intro e he
  unfold vSNames at he
  simp only [List.mem_append, List.mem_map, List.mem_filter] at he
  rcases he with (⟨n, hn, rfl⟩ | ⟨i, ⟨hi, _⟩, rfl⟩) | ⟨i, ⟨hi, _⟩, rfl⟩
  · exact ⟨v_resolved_port hok n (mem_posNames_port hok n hn) 0, rfl⟩
  · exact ⟨v_resolved_inst hok i hi 0, rfl⟩
  · exact ⟨v_resolved_inst hok i hi 0, rfl⟩

theorem verilogNet_sPos (hok : VOK cfg tl ports stmts) (e : Ep) (he : (module cfg tl ports stmts).resolved e) (h0 : e.rpin = 0) :
    (verilogNet cfg tl ports stmts).sPos ((module cfg tl ports stmts).nodeIdx e) =
      if (vSNames ports stmts).contains e then some (vSPos ports stmts e) else none := by
  unfold Net.sPos
  rw [verilogNet_sNodes hok]
  exact sPosIn_names _ _ (vSNames_resolved hok) e he h0

theorem verilogNet_sPos_fork (hok : VOK cfg tl ports stmts) (s : String) (hs : (module cfg tl ports stmts).resolved (.fork s)) :
    (verilogNet cfg tl ports stmts).sPos ((module cfg tl ports stmts).nodeIdx (.fork s)) = none := by
  rw [verilogNet_sPos hok _ hs rfl]
  have : (vSNames ports stmts).contains (Ep.fork s) = false := by
    rw [Bool.eq_false_iff]
    intro h
    simp only [List.contains_eq_mem, decide_eq_true_eq] at h
    unfold vSNames at h
    simp only [List.mem_append, List.mem_map, List.mem_filter] at h
    rcases h with (⟨_, _, h⟩ | ⟨_, _, h⟩) | ⟨_, _, h⟩ <;> cases h
  rw [this]; rfl

theorem verilogNet_sPos_inst (hok : VOK cfg tl ports stmts) (i : VInst) (hi : i ∈ vInsts stmts) (p : Nat) :
    (verilogNet cfg tl ports stmts).sPos ((module cfg tl ports stmts).nodeIdx (.cell i.name p)) =
      if isSeqKind i.ty then some (vSPos ports stmts (.cell i.name 0)) else none := by
  rw [nodeIdx_cell_pin _ i.name p 0, verilogNet_sPos hok _ (v_resolved_inst hok i hi 0) rfl]
  have : (vSNames ports stmts).contains (Ep.cell i.name 0) = isSeqKind i.ty := by
    rw [Bool.eq_iff_iff]
    simp only [List.contains_eq_mem, decide_eq_true_eq]
    unfold vSNames isSeqKind
    simp only [List.mem_append, List.mem_map, List.mem_filter, Bool.or_eq_true]
    constructor
    · rintro ((⟨n, hn, h⟩ | ⟨j, ⟨hj, hd⟩, h⟩) | ⟨j, ⟨hj, hd⟩, h⟩)
      · simp only [Ep.cell.injEq, and_true] at h
        exact absurd h.symm (inst_not_port hok hi n (mem_posNames_port hok n hn))
      · simp only [Ep.cell.injEq, and_true] at h
        rw [← inst_eq hok hj hi h]; exact Or.inl hd
      · simp only [Ep.cell.injEq, and_true] at h
        rw [← inst_eq hok hj hi h]; exact Or.inr hd
    · rintro (h | h)
      · exact Or.inl (Or.inr ⟨i, ⟨hi, h⟩, rfl⟩)
      · exact Or.inr ⟨i, ⟨hi, h⟩, rfl⟩
  rw [this]

theorem verilogNet_sPos_input (hok : VOK cfg tl ports stmts) (n : String) (hn : n ∈ inputNames (sigDecls stmts)) :
    (verilogNet cfg tl ports stmts).sPos ((module cfg tl ports stmts).nodeIdx (.cell n 0)) = some (vSPos ports stmts (.cell n 0)) := by
  rw [verilogNet_sPos hok _ (v_resolved_port hok n (mem_portBitNames_of_input _ n hn) 0) rfl]
  have : (vSNames ports stmts).contains (Ep.cell n 0) = true := by
    simp only [List.contains_eq_mem, decide_eq_true_eq]
    unfold vSNames
    apply List.mem_append_left
    apply List.mem_append_left
    exact List.mem_map.mpr ⟨n, hok.declsInPorts n (mem_portBitNames_of_input _ n hn), rfl⟩
  rw [this]; rfl

end
end KV.Netlist
