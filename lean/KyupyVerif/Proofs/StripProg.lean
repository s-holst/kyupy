import KyupyVerif.Model.WaveStrip
import KyupyVerif.Proofs.Solve
/-! Programs with fork rows (certificate `stripOkB`, Model/WaveStrip.lean) in any value domain, under any row semantics: what the
certificate says row by row (`stripOkB_cons`, `stripOkB_at`), how it follows from facts about the whole program (`stripOkB_of_global`), and the lock-step of a program with its stripped form, prefix by prefix
(`strip_prog`). The semantics enters through two hypotheses only: a translated reader row computes from the value sources what
the row computes from its operands (`hval`), and a fork row copies its operand 0 at the moment it runs (`hid`). LogicSim
(`strip_logic`, below) and WaveSim (`strip_wave`, Proofs/WaveStrip.lean) are the two instances. -/
namespace KV.Wave
open KV KV.Sig

theorem stripOkB_cons {st : List (Nat × Nat)} {zidx : Nat} {written : List Nat} {op : Op} {rest : List Op} :
    stripOkB st zidx written (op :: rest) = true ↔
    op.ins.length = 4 ∧ op.out ≠ zidx ∧ stripOkB st zidx (op.out :: written) rest = true ∧
    (∀ s, st.lookup op.out = some s → forkRowB st zidx written op s rest = true) ∧
    (st.lookup op.out = none → plainRowB st written op = true) := by
  simp only [stripOkB, Bool.and_eq_true, beq_iff_eq, bne_iff_ne]
  cases st.lookup op.out with
  | none => simp only [reduceCtorEq, false_implies, implies_true, true_and, forall_const]
            exact ⟨fun ⟨⟨⟨a, b⟩, c⟩, d⟩ => ⟨a, b, d, c⟩, fun ⟨a, b, d, c⟩ => ⟨⟨⟨a, b⟩, c⟩, d⟩⟩
  | some t => simp only [Option.some.injEq, forall_eq', reduceCtorEq, false_implies, and_true]
              exact ⟨fun ⟨⟨⟨a, b⟩, c⟩, d⟩ => ⟨a, b, d, c⟩, fun ⟨a, b, d, c⟩ => ⟨⟨⟨a, b⟩, c⟩, d⟩⟩

theorem forkRowB_spec {st : List (Nat × Nat)} {zidx : Nat} {written : List Nat} {op : Op} {s : Nat} {rest : List Op} :
    forkRowB st zidx written op s rest = true ↔
    op.code = 0xAAAA ∧ op.ins.drop 1 = [zidx, zidx, zidx] ∧ src st (op.ins.getD 0 0) = s ∧ st.lookup s = none ∧
    (st.lookup (op.ins.getD 0 0) = none ∨ op.ins.getD 0 0 ∈ written) ∧ op.ins.getD 0 0 ≠ op.out ∧
    ∀ p ∈ rest, p.out ≠ s ∧ p.out ≠ op.ins.getD 0 0 := by
  simp only [forkRowB, Bool.and_eq_true, Bool.or_eq_true, beq_iff_eq, bne_iff_ne, List.all_eq_true,
    Option.isNone_iff_eq_none, List.contains_iff_mem, and_assoc]

theorem plainRowB_spec {st : List (Nat × Nat)} {written : List Nat} {op : Op} :
    plainRowB st written op = true ↔ ∀ x ∈ op.ins, st.lookup x = none ∨ x ∈ written := by
  simp only [plainRowB, List.all_eq_true, Bool.or_eq_true, Option.isNone_iff_eq_none, List.contains_iff_mem]

theorem stripOkB_suffix {st : List (Nat × Nat)} {zidx : Nat} (pre : List Op) {written : List Nat} {ops : List Op}
    (h : stripOkB st zidx written (pre ++ ops) = true) : ∃ w', stripOkB st zidx w' ops = true := by
  induction pre generalizing written with
  | nil => exact ⟨written, h⟩
  | cons p pre ih => exact ih (stripOkB_cons.mp h).2.2.1

/-- the certificate read at one row: there `written` holds the outputs of the rows before it -/
theorem stripOkB_at {st : List (Nat × Nat)} {zidx : Nat} {w : List Nat} {pre post : List Op} {op : Op}
    (h : stripOkB st zidx w (pre ++ op :: post) = true) :
    op.ins.length = 4 ∧ op.out ≠ zidx ∧
    (∀ s, st.lookup op.out = some s → forkRowB st zidx ((pre.map (·.out)).reverse ++ w) op s post = true) ∧
    (st.lookup op.out = none → plainRowB st ((pre.map (·.out)).reverse ++ w) op = true) := by
  induction pre generalizing w with
  | nil => obtain ⟨h1, h2, _, h4, h5⟩ := stripOkB_cons.mp h; exact ⟨h1, h2, h4, h5⟩
  | cons p pre ih => simpa using ih (stripOkB_cons.mp h).2.2.1

theorem stripOkB_out_ne {st : List (Nat × Nat)} {zidx : Nat} {written : List Nat} {ops : List Op}
    (h : stripOkB st zidx written ops = true) : ∀ op ∈ ops, op.out ≠ zidx := by
  intro op hop
  obtain ⟨pre, post, rfl⟩ := List.append_of_mem hop
  exact (stripOkB_at h).2.1

theorem stripOkB_stem_none {st : List (Nat × Nat)} {zidx : Nat} {written : List Nat} {ops : List Op}
    (h : stripOkB st zidx written ops = true) {p : Op} (hp : p ∈ ops) {s : Nat} (hs : st.lookup p.out = some s) :
    st.lookup s = none := by
  obtain ⟨pre, post, rfl⟩ := List.append_of_mem hp
  exact (forkRowB_spec.mp ((stripOkB_at h).2.2.1 s hs)).2.2.2.1

theorem getD0_mem {l : List Nat} (h : l.length = 4) : l.getD 0 0 ∈ l := by
  match l, h with
  | [a, b, c, d], _ => simp

theorem stripOkB_of_global (st : List (Nat × Nat)) (zidx : Nat) (all : List Op)
    (hpw : all.Pairwise (fun o p => (∀ x ∈ o.ins, p.out ≠ x) ∧ (∀ s, st.lookup o.out = some s → p.out ≠ s)))
    (hloc : ∀ o ∈ all, ∀ x ∈ o.ins, x ≠ o.out)
    (hP : ∀ o ∈ all, o.ins.length = 4 ∧ o.out ≠ zidx ∧
      (∀ s, st.lookup o.out = some s → o.code = 0xAAAA ∧ o.ins.drop 1 = [zidx, zidx, zidx] ∧
        src st (o.ins.getD 0 0) = s ∧ st.lookup s = none) ∧
      (∀ x ∈ o.ins, st.lookup x = none ∨ ∃ q ∈ all, q.out = x)) :
    stripOkB st zidx [] all = true := by
  have key : ∀ (ops pre : List Op), all = pre ++ ops → stripOkB st zidx (pre.map (·.out)).reverse ops = true := by
    intro ops
    induction ops with
    | nil => intro _ _; rfl
    | cons op rest ih =>
      intro pre hsplit
      have hmem : op ∈ all := by rw [hsplit]; simp
      obtain ⟨hlen, hz, hfork, hex⟩ := hP op hmem
      have hpw' : (op :: rest).Pairwise _ := (List.pairwise_append.mp (hsplit ▸ hpw)).2.1
      have hhead := (List.pairwise_cons.mp hpw').1
      -- an operand that is written somewhere is written before
      have hbefore : ∀ x ∈ op.ins, (∃ q ∈ all, q.out = x) → x ∈ (pre.map (·.out)).reverse := by
        intro x hx ⟨q, hq, hqo⟩
        rw [hsplit] at hq
        rcases List.mem_append.mp hq with hq | hq
        · simp only [List.mem_reverse, List.mem_map]; exact ⟨q, hq, hqo⟩
        · rcases List.mem_cons.mp hq with rfl | hq
          · exact absurd hqo.symm (hloc q hmem x hx)
          · exact absurd hqo ((hhead q hq).1 x hx)
      have hwr : ∀ x ∈ op.ins, st.lookup x = none ∨ x ∈ (pre.map (·.out)).reverse := by
        intro x hx
        rcases hex x hx with h | h
        · exact Or.inl h
        · exact Or.inr (hbefore x hx h)
      have h0 := getD0_mem hlen
      refine stripOkB_cons.mpr ⟨hlen, hz, ?_, ?_, ?_⟩
      rotate_left
      · intro s hs
        obtain ⟨hc, hd, hsrc, hsn⟩ := hfork s hs
        exact forkRowB_spec.mpr ⟨hc, hd, hsrc, hsn, hwr _ h0, hloc op hmem _ h0,
          fun p hp => ⟨(hhead p hp).2 s hs, (hhead p hp).1 _ h0⟩⟩
      · intro _
        exact plainRowB_spec.mpr hwr
      · have := ih (pre ++ [op]) (by rw [hsplit]; simp)
        simpa using this
  exact key all [] rfl

/-- the stripped program for a translation `redir` of the reader rows: `stripOps st = stripWith (redirect st) st`,
    `stripOps4 st = stripWith (redirect4 st) st` -/
def stripWith (redir : Op → Op) (st : List (Nat × Nat)) (ops : List Op) : List Op :=
  (ops.filter fun op => (st.lookup op.out).isNone).map redir

/-- lock-step of a program with its stripped form, prefix by prefix: `sem1` runs the un-stripped rows, `sem3` the translated rows.
    After every prefix the two runs agree on every signal that is not a branch, and a branch written so far carries, in the
    un-stripped run, the value of its stem; at the end that is what the stripped run leaves on the stem -/
theorem strip_prog {α} (sem1 sem3 : Op → List α → α) (redir : Op → Op) (st : List (Nat × Nat)) (zidx : Nat)
    (hout : ∀ op, (redir op).out = op.out)
    (hval : ∀ op (e1 e3 : Nat → α), op.ins.length = 4 → (∀ x ∈ op.ins, e3 (src st x) = e1 x) →
      sem3 (redir op) ((redir op).ins.map e3) = sem1 op (op.ins.map e1))
    (ops : List Op) (env : Nat → α) (hs : stripOkB st zidx [] ops = true)
    (hid : ∀ pre op post, ops = pre ++ op :: post → (st.lookup op.out).isSome = true → op.code = 0xAAAA → op.ins.length = 4 →
      sem1 op (op.ins.map (execG sem1 pre env)) = execG sem1 pre env (op.ins.getD 0 0)) :
    (∀ l, st.lookup l = none → execG sem3 (stripWith redir st ops) env l = execG sem1 ops env l) ∧
    (∀ b s, st.lookup b = some s → (∃ p ∈ ops, p.out = b) →
      execG sem1 ops env b = execG sem3 (stripWith redir st ops) env s) := by
  have key : ∀ pre post, ops = pre ++ post →
      (∀ l, st.lookup l = none → execG sem3 (stripWith redir st pre) env l = execG sem1 pre env l) ∧
      (∀ b s, st.lookup b = some s → (∃ p ∈ pre, p.out = b) → execG sem1 pre env b = execG sem1 pre env s) := by
    intro pre
    induction pre using snoc_ind with
    | h0 => intro _ _; exact ⟨fun _ _ => rfl, fun _ _ _ ⟨p, hp, _⟩ => by cases hp⟩
    | hs pre op ih =>
      intro post hsplit
      have hsplit' : ops = pre ++ op :: post := by rw [hsplit, List.append_assoc]; rfl
      obtain ⟨ih1, ih2⟩ := ih (op :: post) hsplit'
      obtain ⟨hlen, _, hfork, hplain⟩ := stripOkB_at (hsplit' ▸ hs)
      -- an operand that may be read (no branch, or a branch written before) carries the value of its value source, a non-branch
      have hsrcv : ∀ x, (st.lookup x = none ∨ x ∈ (pre.map (·.out)).reverse ++ []) →
          st.lookup (src st x) = none ∧ execG sem1 pre env x = execG sem1 pre env (src st x) := by
        intro x hx
        cases hlx : st.lookup x with
        | none => rw [show src st x = x by simp only [src, hlx, Option.getD_none]]; exact ⟨hlx, rfl⟩
        | some t =>
          obtain ⟨p, hp, hpo⟩ : ∃ p ∈ pre, p.out = x := by simpa using hx.resolve_left (by rw [hlx]; simp)
          rw [show src st x = t by simp only [src, hlx, Option.getD_some]]
          exact ⟨stripOkB_stem_none hs (hsplit' ▸ List.mem_append_left _ hp) (hpo ▸ hlx), ih2 x t hlx ⟨p, hp, hpo⟩⟩
      -- the stem of a branch written before is final: this row does not write it
      have hfin : ∀ b s, st.lookup b = some s → (∃ p ∈ pre, p.out = b) → s ≠ op.out := by
        rintro b s hb ⟨p, hp, rfl⟩
        obtain ⟨p1, p2, rfl⟩ := List.append_of_mem hp
        obtain ⟨_, _, hf, _⟩ := stripOkB_at (pre := p1) (op := p) (post := p2 ++ op :: post) (by rw [← List.cons_append, ← List.append_assoc]; exact hsplit' ▸ hs)
        exact fun e => ((forkRowB_spec.mp (hf s hb)).2.2.2.2.2.2 op (by simp)).1 e.symm
      have hmemb : ∀ b, (∃ p ∈ pre ++ [op], p.out = b) → b = op.out ∨ ∃ p ∈ pre, p.out = b := by
        rintro b ⟨p, hp, hpo⟩
        rcases List.mem_append.mp hp with h | h
        · exact .inr ⟨p, h, hpo⟩
        · exact .inl (List.mem_singleton.mp h ▸ hpo).symm
      rw [show execG sem1 (pre ++ [op]) env = execOpG sem1 (execG sem1 pre env) op by rw [execG_append]; rfl]
      cases hlo : st.lookup op.out with
      | some s =>
        rw [show stripWith redir st (pre ++ [op]) = stripWith redir st pre by simp [stripWith, List.filter_append, hlo]]
        obtain ⟨hcode, _, hsrc, hsn, hw0, _, _⟩ := forkRowB_spec.mp (hfork s hlo)
        refine ⟨fun l hl => ?_, fun b s' hb hw => ?_⟩
        · have : l ≠ op.out := by intro e; rw [e, hlo] at hl; cases hl
          simp only [execOpG, Sig.upd, if_neg this]
          exact ih1 l hl
        · by_cases hbo : b = op.out
          · subst hbo
            rw [hlo] at hb; cases hb
            have hs' : s ≠ op.out := fun e => by rw [e, hlo] at hsn; cases hsn
            simp only [execOpG, Sig.upd, if_true, if_neg hs', hid pre op post hsplit' (by simp [hlo]) hcode hlen,
              (hsrcv _ hw0).2, hsrc]
          · have hbp := (hmemb b hw).resolve_left hbo
            simp only [execOpG, Sig.upd, if_neg hbo, if_neg (hfin b s' hb hbp)]
            exact ih2 b s' hb hbp
      | none =>
        rw [show stripWith redir st (pre ++ [op]) = stripWith redir st pre ++ [redir op] by
            simp [stripWith, List.filter_append, hlo],
          show execG sem3 (stripWith redir st pre ++ [redir op]) env =
            execOpG sem3 (execG sem3 (stripWith redir st pre) env) (redir op) by rw [execG_append]; rfl]
        have hv : sem3 (redir op) ((redir op).ins.map (execG sem3 (stripWith redir st pre) env)) =
            sem1 op (op.ins.map (execG sem1 pre env)) :=
          hval op _ _ hlen fun x hx => by
            obtain ⟨h1, h2⟩ := hsrcv x (plainRowB_spec.mp (hplain hlo) x hx)
            rw [ih1 _ h1, ← h2]
        refine ⟨fun l hl => ?_, fun b s' hb hw => ?_⟩
        · by_cases hxo : l = op.out
          · simp only [execOpG, Sig.upd, hout, hxo, if_true, hv]
          · simp only [execOpG, Sig.upd, hout, if_neg hxo]
            exact ih1 l hl
        · have hbo : b ≠ op.out := by intro e; rw [e, hlo] at hb; cases hb
          have hbp := (hmemb b hw).resolve_left hbo
          simp only [execOpG, Sig.upd, if_neg hbo, if_neg (hfin b s' hb hbp)]
          exact ih2 b s' hb hbp
  obtain ⟨h1, h2⟩ := key ops [] (by simp)
  refine ⟨h1, fun b s hb ⟨p, hp, hpo⟩ => ?_⟩
  rw [h1 s (stripOkB_stem_none hs hp (hpo ▸ hb)), h2 b s hb ⟨p, hp, hpo⟩]

/-! ### LogicSim: code-indexed semantics, four-index rows -/

/-- a reader row after stripping in LogicSim's four-index form: the four operands resolved through the stems (WaveSim rows,
    `Wave.redirect`, carry eight indices: four value sources and four delay lines). `0xAAAA` below is `BUF1`, written as in
    Model/WaveStrip.lean -/
def redirect4 (st : List (Nat × Nat)) (op : Op) : Op := ⟨op.code, op.out, op.ins.map (src st)⟩

def stripOps4 (st : List (Nat × Nat)) (ops : List Op) : List Op :=
  (ops.filter fun op => (st.lookup op.out).isNone).map (redirect4 st)

theorem strip_logic {α} (f : Nat → List α → α) (dflt : α) (hbuf : ∀ xs, f 0xAAAA xs = xs.getD 0 dflt)
    (st : List (Nat × Nat)) (zidx : Nat) (ops : List Op) (env : Nat → α) (hs : stripOkB st zidx [] ops = true) :
    (∀ l, st.lookup l = none → exec f (stripOps4 st ops) env l = exec f ops env l) ∧
    (∀ b s, st.lookup b = some s → (∃ p ∈ ops, p.out = b) → exec f ops env b = exec f (stripOps4 st ops) env s) :=
  strip_prog (fun op => f op.code) (fun op => f op.code) (redirect4 st) st zidx (fun _ => rfl)
    (fun op e1 e3 _ h => by
      show f op.code ((op.ins.map (src st)).map e3) = _
      rw [List.map_map]; exact congrArg _ (List.map_congr_left h))
    ops env hs (fun pre op _ _ _ hc hl => by rw [hc, hbuf, getD_map_lt _ _ _ _ 0 (by omega)])

end KV.Wave
