import KyupyVerif.Proofs.NetlistCirc
/-! What pass 1, pass 1.5 and pass 2 add for one pin / one assign pair (`pass1_reaches`, `pass2_reaches` through `ReadOK`,
`assignStep_spec`), and `io_nodes` of a module (`io_module`, `ioNames_module`). -/
namespace KV.Netlist

theorem pass1_reaches (tl : TL) (ds : List Decl) (stmts : List Stmt) (C0 : Circ) (ty inst p s : String) (idx : Nat)
    (pins : List (String × SelVal)) (hmem : Stmt.inst ty inst pins ∈ stmts) (hp : (p, SelVal.one s) ∈ pins)
    (htl : tl ty p = some (idx, true)) :
    (⟨.cell inst idx, .fork (outSig ds s).1, none⟩ : LineM) ∈ (stmts.foldl (pass1Stmt tl ds) C0).lines ∧
    (stmts.foldl (pass1Stmt tl ds) C0).isFork (outSig ds s).1 = true ∧
    (⟨ty, inst, false⟩ : NodeM) ∈ (stmts.foldl (pass1Stmt tl ds) C0).nodes := by
  obtain ⟨C, _, h1⟩ := foldl_reach (pass1Stmt tl ds) (fun C s => (pass1Stmt_grows tl ds C s).sub) hmem C0
  obtain ⟨C', _, h2⟩ := foldl_reach (pass1Pin tl ds ty inst) (fun C ps => (pass1Pin_grows tl ds ty inst C ps).sub) hp (C.addCell ty inst)
  have hg := pass1Pin_grows tl ds ty inst C' (p, .one s)
  have h1' : Sub (pins.foldl (pass1Pin tl ds ty inst) (C.addCell ty inst)) (stmts.foldl (pass1Stmt tl ds) C0) := h1
  refine ⟨h1'.lines _ (h2.lines _ (hg.mem_lines (by simp [pass1PinΔ, p1Out, htl]))), h1'.isFork (h2.isFork ?_), ?_⟩
  · exact (isFork_iff _ _).mpr ⟨false, hg.mem_nodes (by simp [pass1PinΔ, p1Out, htl, forkN])⟩
  · exact h1'.nodes _ ((Grows.foldl (pass1Pin_grows tl ds ty inst) pins _).sub.nodes _ (by simp))

theorem declFork_isFork (ds : List Decl) (C : Circ) (s x : String) (h : declFork ds C s = some x) :
    C.isFork x = true ∧ ∃ d, lookup ds s = some d ∧ d.names = [x] := by
  unfold declFork at h
  split at h
  · rename_i d hd
    split at h
    · rename_i y hy
      split at h
      · rename_i hf; cases h; exact ⟨hf, d, hd, hy⟩
      · cases h
    · cases h
  · cases h

theorem resolveRead_cases (cfg : Cfg) (ds : List Decl) (C : Circ) (s : String) :
    (resolveRead cfg ds C s).1 = s ∨ (resolveRead cfg ds C s).1 = s ++ "[0]" ∨
    (cfg.onebitDecl = true ∧ ∃ d, lookup ds s = some d ∧ d.names = [(resolveRead cfg ds C s).1]) := by
  unfold resolveRead
  split
  · left; rfl
  · split
    · rename_i x hx
      right; right
      by_cases hc : cfg.onebitDecl = true
      · simp only [hc, if_true] at hx
        exact ⟨hc, (declFork_isFork ds C s x hx).2⟩
      · simp [hc] at hx
    · split
      · right; left; rfl
      · left; rfl

theorem forkFor_isFork (cfg : Cfg) (ds : List Decl) (C : Circ) (s : String) :
    (forkFor cfg ds C s).isFork (resolveRead cfg ds C s).1 = true := by
  unfold forkFor
  by_cases hf : (resolveRead cfg ds C s).2 = true
  · simp only [hf, if_true]; exact isFork_addFork_self _ _ _
  · simp only [hf]
    revert hf
    unfold resolveRead
    by_cases h1 : C.isFork s = true
    · simp [h1]
    · simp only [h1]
      cases hd : (if cfg.onebitDecl = true then declFork ds C s else none) with
      | some x =>
        intro _
        simp only []
        by_cases hc : cfg.onebitDecl = true
        · simp only [hc, if_true] at hd
          exact (declFork_isFork ds C s x hd).1
        · simp [hc] at hd
      | none =>
        by_cases h2 : C.isFork (s ++ "[0]") = true
        · simp [h2]
        · simp [h2]

theorem resolveRead_of_isFork (cfg : Cfg) (ds : List Decl) (C : Circ) (s : String) (h : C.isFork s = true) :
    resolveRead cfg ds C s = (s, false) := by
  unfold resolveRead; simp [h]

/-- pass 2 has wired input pin `idx` of `inst` to signal `s`: a line from a fork `f` (through a branch fork when `cfg.bf`), where `f`
is the signal, its bit 0, its one declared bit, or the fork of a constant cell made for `s` -/
def ReadOK (cfg : Cfg) (ds : List Decl) (inst pin : String) (idx : Nat) (s : String) (C : Circ) : Prop :=
  ∃ f, (⟨.fork f, .cell inst idx, if cfg.bf then some (branchName f inst pin) else none⟩ : LineM) ∈ C.lines ∧
    C.isFork f = true ∧
    (cfg.bf = true → (⟨forkKind, branchName f inst pin, true⟩ : NodeM) ∈ C.nodes) ∧
    ((isConstBit s = false ∧ (f = s ∨ f = s ++ "[0]" ∨
        (cfg.onebitDecl = true ∧ ∃ d, lookup ds s = some d ∧ d.names = [f]))) ∨
     (isConstBit s = true ∧ ∃ k, f = constName s k ∧ (⟨.cell f 0, .fork f, none⟩ : LineM) ∈ C.lines ∧
        (⟨constKind s, f, false⟩ : NodeM) ∈ C.nodes))

theorem ReadOK.mono {cfg : Cfg} {ds : List Decl} {inst pin : String} {idx : Nat} {s : String} {C C' : Circ}
    (hs : Sub C C') (h : ReadOK cfg ds inst pin idx s C) : ReadOK cfg ds inst pin idx s C' := by
  obtain ⟨f, h1, h2, h3, h4⟩ := h
  refine ⟨f, hs.lines _ h1, hs.isFork h2, fun hb => hs.nodes _ (h3 hb), ?_⟩
  rcases h4 with h4 | ⟨hc, k, hk, hl, hn⟩
  · left; exact h4
  · right; exact ⟨hc, k, hk, hs.lines _ hl, hs.nodes _ hn⟩

theorem readerOne_ok (cfg : Cfg) (ds : List Decl) (inst pin : String) (idx : Nat) (C : Circ) (s : String) :
    ReadOK cfg ds inst pin idx s (readerOne cfg ds inst pin idx C s) := by
  have hg := readerOne_grows cfg ds inst pin idx C s
  have h1 := constPin_grows C s
  have hf : (readerOne cfg ds inst pin idx C s).isFork (resolveRead cfg ds (constPin C s).1 (constPin C s).2).1 = true :=
    (connectPin_grows cfg.bf inst pin idx _ _).sub.isFork (forkFor_isFork cfg ds _ _)
  refine ⟨_, hg.mem_lines (by simp [readerOneΔ, connΔ]), hf, fun hb => hg.mem_nodes (by simp [readerOneΔ, connΔ, hb, branchN]), ?_⟩
  by_cases hc : isConstBit s = true
  · right
    have e : (constPin C s).2 = constName s C.cc := by unfold constPin; simp [hc]
    have hfk : (constPin C s).1.isFork (constName s C.cc) = true := by
      rw [h1.isFork]; simp [constPinΔ, hc, forkN]
    rw [e, resolveRead_of_isFork _ _ _ _ hfk]
    exact ⟨hc, C.cc, rfl, hg.mem_lines (by simp [readerOneΔ, constPinΔ, hc]), hg.mem_nodes (by simp [readerOneΔ, constPinΔ, hc])⟩
  · left
    have hc' : isConstBit s = false := by simpa using hc
    have e : constPin C s = (C, s) := by unfold constPin; simp [hc']
    rw [e]
    exact ⟨hc', resolveRead_cases cfg ds C s⟩

theorem pass2_reaches (cfg : Cfg) (tl : TL) (ds : List Decl) (stmts : List Stmt) (C0 : Circ) (ty inst p s : String) (idx : Nat)
    (pins : List (String × SelVal)) (hmem : Stmt.inst ty inst pins ∈ stmts) (hp : (p, SelVal.one s) ∈ pins)
    (htl : tl ty p = some (idx, false)) :
    ReadOK cfg ds inst p idx s (stmts.foldl (pass2Stmt cfg tl ds) C0) := by
  obtain ⟨C, _, h1⟩ := foldl_reach (pass2Stmt cfg tl ds) (fun C s => (pass2Stmt_grows cfg tl ds C s).sub) hmem C0
  have hstep : pass2Stmt cfg tl ds C (Stmt.inst ty inst pins) = pins.foldl (readerPin cfg tl ds ty inst) C := rfl
  obtain ⟨C', _, h2⟩ := foldl_reach (readerPin cfg tl ds ty inst) (fun C ps => (readerPin_grows cfg tl ds ty inst C ps).sub) hp C
  rw [hstep] at h1
  have hpin : readerPin cfg tl ds ty inst C' (p, SelVal.one s) = readerOne cfg ds inst p idx C' s := by
    unfold readerPin; simp only [htl]
  have := readerOne_ok cfg ds inst p idx C' s
  rw [← hpin] at this
  exact (this.mono h2).mono h1

theorem assignStep_spec (C : Circ) (t s : String) :
    (C.isFork t = true → (⟨.fork t, .fork s, none⟩ : LineM) ∈ (assignStep C (t, s)).lines) ∧
    (C.isFork t = false → C.isFork s = true → (⟨.fork s, .fork t, none⟩ : LineM) ∈ (assignStep C (t, s)).lines) ∧
    (C.isFork t = false → C.isFork s = false → isConstBit s = true →
      (⟨.cell (constName s C.cc) 0, .fork t, none⟩ : LineM) ∈ (assignStep C (t, s)).lines ∧
      (⟨constKind s, constName s C.cc, false⟩ : NodeM) ∈ (assignStep C (t, s)).nodes) ∧
    (C.isFork t = false → C.isFork s = false → isConstBit s = false → assignStep C (t, s) = C) := by
  have g := assignStep_grows C (t, s)
  refine ⟨fun h => g.mem_lines (by simp [assignStepΔ, h]), fun h1 h2 => g.mem_lines (by simp [assignStepΔ, h1, h2]),
    fun h1 h2 h3 => ⟨g.mem_lines (by simp [assignStepΔ, h1, h2, h3]), g.mem_nodes (by simp [assignStepΔ, h1, h2, h3])⟩,
    fun h1 h2 h3 => by unfold assignStep; simp [h1, h2, h3]⟩

theorem assignStep_forks (C : Circ) (t s : String) (h : handled C (t, s) = true) :
    (assignStep C (t, s)).isFork t = true ∧ (isConstBit s = false ∨ C.isFork t = true ∨ C.isFork s = true → (assignStep C (t, s)).isFork s = true) := by
  simp only [(assignStep_grows C (t, s)).isFork, assignStepΔ]
  unfold handled at h
  by_cases h1 : C.isFork t = true
  · simp [h1, forkN]
  · by_cases h2 : C.isFork s = true
    · simp [h1, h2, forkN]
    · have h3 : isConstBit s = true := by simpa [h1, h2] using h
      simp [h1, h2, h3, forkN]

section io
def ioOfDecl (pn : List String) (d : Decl) : List (Nat × String) :=
  if d.kind == .wire then [] else d.names.flatMap (ioOfName pn)

theorem io_portDeclΔ (pn : List String) (C : Circ) (d : Decl) : (portDeclΔ pn C d).io = ioOfDecl pn d := by
  unfold portDeclΔ ioOfDecl
  split
  · rfl
  · exact Delta.walk_proj (·.io) rfl (fun _ _ => rfl) (ioOfName pn) d.names (fun _ _ _ => rfl) _

theorem io_portPass (pn : List String) (ds : List Decl) (C : Circ) :
    (portPass pn ds C).io = C.io ++ ds.flatMap (ioOfDecl pn) := by
  unfold portPass
  rw [(Grows.foldl (portDecl_grows pn) ds C).io]
  congr 1
  exact Delta.walk_proj (·.io) rfl (fun _ _ => rfl) _ _ (fun C d _ => io_portDeclΔ pn C d) _

theorem io_late (cfg : Cfg) (tl : TL) (ports : List String) (stmts : List Stmt) :
    (module cfg tl ports stmts).io = (afterPass15 cfg tl ports stmts).io := by
  have h1 : ∀ C n, (outNameΔ C n).io = [] := fun C n => by unfold outNameΔ; split <;> (try split) <;> rfl
  have h2 : ∀ ty nm C ps, (readerPinΔ cfg tl (sigDecls stmts) ty nm C ps).io = [] := fun ty nm C ps => by
    unfold readerPinΔ
    split
    · unfold readerOneΔ constPinΔ forkForΔ connΔ; split <;> split <;> rfl
    · rfl
  have h3 : ∀ C d, (outDeclΔ C d).io = [] := fun C d => by
    unfold outDeclΔ
    split
    · exact Delta.walk_io _ h1 C
    · rfl
  have h4 : ∀ C s, (pass2StmtΔ cfg tl (sigDecls stmts) C s).io = [] := fun C s => by
    cases s with
    | inst ty nm pins => exact Delta.walk_io _ (h2 ty nm) C
    | decls _ => rfl
    | assign _ _ => rfl
    | other => rfl
  unfold module outPass afterPass2
  rw [(Grows.foldl outDecl_grows _ _).io, Delta.walk_io _ h3, List.append_nil, (Grows.foldl (pass2Stmt_grows cfg tl _) stmts _).io,
    Delta.walk_io _ h4, List.append_nil]

theorem io_module (cfg : Cfg) (tl : TL) (ports : List String) (stmts : List Stmt) :
    (module cfg tl ports stmts).io = (sigDecls stmts).flatMap (ioOfDecl (posNames (sigDecls stmts) ports)) := by
  rw [io_late, (afterPass15_early cfg tl ports stmts).2]
  unfold afterPass1
  rw [io_portPass, (Grows.foldl (pass1Stmt_grows tl _) stmts _).io, Delta.walk_io _ (fun C s => (pass1StmtΔ_shape tl _ C s).2.1)]
  simp
end io

theorem ioNames_complete (C : Circ) (pn : List String)
    (hsound : ∀ p ∈ C.io, pn[p.1]? = some p.2)
    (hall : ∀ i, i < pn.length → ∃ n, (i, n) ∈ C.io) :
    ioNames C = pn.map some := by
  have hlen : (C.io.map (·.1 + 1)).foldl max 0 = pn.length := by
    apply Nat.le_antisymm
    · refine (foldl_max_le_iff (fun x => x) _ 0 _).mpr ⟨Nat.zero_le _, fun x hx => ?_⟩
      obtain ⟨p, hp, rfl⟩ := List.mem_map.mp hx
      have := hsound p hp
      have := (List.getElem?_eq_some_iff.mp this).1
      omega
    · by_cases h0 : pn.length = 0
      · omega
      · obtain ⟨n, hn⟩ := hall (pn.length - 1) (by omega)
        have : pn.length - 1 + 1 ≤ (C.io.map (·.1 + 1)).foldl max 0 :=
          ((foldl_max_le_iff (fun x => x) _ 0 _).mp (Nat.le_refl _)).2 _ (List.mem_map.mpr ⟨_, hn, rfl⟩)
        omega
  unfold ioNames
  rw [hlen]
  apply List.ext_getElem (by simp)
  intro i h1 _
  have hi : i < pn.length := by simpa using h1
  simp only [List.getElem_map, List.getElem_range]
  obtain ⟨n, hn⟩ := hall i hi
  have hne : (C.io.filter (·.1 == i)) ≠ [] := by
    intro he
    have : (i, n) ∈ C.io.filter (·.1 == i) := List.mem_filter.mpr ⟨hn, by simp⟩
    rw [he] at this; cases this
  obtain ⟨q, hq⟩ := Option.isSome_iff_exists.mp (by simpa using hne : ((C.io.filter (·.1 == i)).getLast?).isSome)
  rw [hq]
  obtain ⟨hq1, hq2⟩ := List.mem_filter.mp (List.mem_of_getLast? hq)
  have := hsound q hq1
  rw [show q.1 = i by simpa using hq2, List.getElem?_eq_getElem hi] at this
  exact this.symm

theorem ioNames_module (cfg : Cfg) (tl : TL) (ports : List String) (stmts : List Stmt)
    (hnd : (posNames (sigDecls stmts) ports).Nodup)
    (hdecl : ∀ p ∈ ports, ∃ d, lookup (sigDecls stmts) p = some d ∧ d.kind ≠ .wire) :
    ioNames (module cfg tl ports stmts) = (posNames (sigDecls stmts) ports).map some := by
  apply ioNames_complete
  · intro p hp
    rw [io_module] at hp
    obtain ⟨d, _, hpd⟩ := List.mem_flatMap.mp hp
    unfold ioOfDecl at hpd
    split at hpd
    · cases hpd
    · obtain ⟨n, _, hpn⟩ := List.mem_flatMap.mp hpd
      unfold ioOfName at hpn
      split at hpn
      · rename_i k hk
        simp only [List.mem_singleton] at hpn
        subst hpn
        exact posOf_sound _ _ _ hk
      · cases hpn
  · intro i hi
    have hget : (posNames (sigDecls stmts) ports)[i]? = some (posNames (sigDecls stmts) ports)[i] := List.getElem?_eq_getElem hi
    refine ⟨(posNames (sigDecls stmts) ports)[i], ?_⟩
    rw [io_module]
    have hmem : (posNames (sigDecls stmts) ports)[i] ∈ posNames (sigDecls stmts) ports := List.getElem_mem hi
    have hmem' : (posNames (sigDecls stmts) ports)[i] ∈ ports.flatMap (fun p => match lookup (sigDecls stmts) p with
        | some d => d.names
        | none => []) := hmem
    obtain ⟨p, hp, hn⟩ := List.mem_flatMap.mp hmem'
    obtain ⟨d, hd, hk⟩ := hdecl p hp
    rw [hd] at hn
    apply List.mem_flatMap.mpr
    refine ⟨d, List.mem_of_find?_eq_some hd, ?_⟩
    unfold ioOfDecl
    have : (d.kind == DKind.wire) = false := by simp [hk]
    simp only [this, Bool.false_eq_true, if_false]
    apply List.mem_flatMap.mpr
    refine ⟨_, hn, ?_⟩
    unfold ioOfName
    rw [posOf_nodup _ hnd i _ hget]
    simp

end KV.Netlist
