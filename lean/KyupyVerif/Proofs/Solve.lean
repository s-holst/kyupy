import KyupyVerif.Proofs.Basics
import KyupyVerif.Model.Sig
/-! An op program whose operands are never written at or after their use computes THE solution of its own
equation system: every op equation holds in the final state, inputs are untouched, and the solution is
unique. This is "evaluating the netlist gate by gate" for any value domain. The row equations are read off a program split
at one row (`execG_at_row`, `execG_row_eq`; for `Sig.exec`: `exec_equation`, C01 `sim2_equation`, which needs no condition on the
rows before the row). -/
namespace KV.Sig

theorem nodupB_nodup (l : List Nat) (h : nodupB l = true) : l.Nodup := (nodupB_iff nodupB rfl (fun _ _ => rfl) l).mp h

theorem execG_frame {α} (sem : Op → List α → α) (ops : List Op) (env : Nat → α) (j : Nat)
    (h : ∀ p ∈ ops, p.out ≠ j) : execG sem ops env j = env j :=
  foldl_inv _ (fun e : Nat → α => e j = env j) (fun e p hp he => by simp [execOpG, upd, Ne.symm (h p hp), he]) rfl

theorem execG_append {α} (sem : Op → List α → α) (a b : List Op) (env : Nat → α) :
    execG sem (a ++ b) env = execG sem b (execG sem a env) := by
  simp [execG, List.foldl_append]

theorem execG_before {α} (sem : Op → List α → α) (pre rest : List Op) (env : Nat → α) (y : Nat)
    (h : ∀ p ∈ rest, p.out ≠ y) : execG sem (pre ++ rest) env y = execG sem pre env y := by
  rw [execG_append, execG_frame sem rest _ y h]

theorem execG_at_row {α} (sem : Op → List α → α) (pre post : List Op) (o : Op) (env : Nat → α)
    (hout : ∀ p ∈ post, p.out ≠ o.out) :
    execG sem (pre ++ o :: post) env o.out = sem o (o.ins.map (execG sem pre env)) := by
  rw [execG_append]
  show execG sem post (execOpG sem (execG sem pre env) o) o.out = _
  rw [execG_frame sem post _ _ hout]
  simp [execOpG, upd]

/-- the row's equation holds in the FINAL state when the operands whose values the semantics reads (`R`) are not written from the
    row on: they carry their final values when the row is evaluated -/
theorem execG_row_eq {α} (sem : Op → List α → α) (R : List Nat) (pre post : List Op) (o : Op) (env : Nat → α)
    (hR : ∀ e e' : Nat → α, (∀ x ∈ R, e x = e' x) → sem o (o.ins.map e) = sem o (o.ins.map e'))
    (hout : ∀ p ∈ post, p.out ≠ o.out) (hins : ∀ x ∈ R, ∀ p ∈ o :: post, p.out ≠ x) :
    execG sem (pre ++ o :: post) env o.out = sem o (o.ins.map (execG sem (pre ++ o :: post) env)) := by
  rw [execG_at_row sem pre post o env hout]
  exact hR _ _ fun x hx => (execG_before sem pre (o :: post) env x (hins x hx)).symm

theorem exec_frame {α} (sem : Nat → List α → α) (ops : List Op) (env : Nat → α) (j : Nat)
    (h : ∀ o ∈ ops, o.out ≠ j) : exec sem ops env j = env j := by
  rw [exec_eq_execG]
  exact execG_frame _ ops env j h

theorem exec_append {α} (sem : Nat → List α → α) (a b : List Op) (env : Nat → α) :
    exec sem (a ++ b) env = exec sem b (exec sem a env) := by
  simp only [exec_eq_execG, execG_append]

/-- C01 core: in a straight-line program, an op whose output is not written again and whose operands are
neither its own output nor written later satisfies its defining equation in the FINAL state:
`final[out] = sem code (final[ins])`. With ops generated in topological order from a netlist this is
"the simulator's result is the gate-by-gate evaluation of the netlist". -/
theorem exec_equation {α} (sem : Nat → List α → α) (pre post : List Op) (o : Op) (env : Nat → α)
    (hout : ∀ p ∈ post, p.out ≠ o.out)
    (hins : ∀ x ∈ o.ins, x ≠ o.out ∧ ∀ p ∈ post, p.out ≠ x) :
    exec sem (pre ++ o :: post) env o.out
      = sem o.code (o.ins.map (exec sem (pre ++ o :: post) env)) :=
  execG_row_eq (fun op => sem op.code) o.ins pre post o env (fun _ _ h => congrArg _ (List.map_congr_left h)) hout
    fun x hx => List.forall_mem_cons.mpr ⟨fun e => (hins x hx).1 e.symm, (hins x hx).2⟩

def wellOrderedB : List Op → Bool
  | [] => true
  | o :: rest =>
    rest.all (fun p => p.out != o.out) && o.ins.all (fun x => x != o.out && rest.all (fun p => p.out != x)) && wellOrderedB rest

def Solves {α} (sem : Op → List α → α) (ops : List Op) (env val : Nat → α) : Prop :=
  (∀ x, (∀ p ∈ ops, p.out ≠ x) → val x = env x) ∧ (∀ o ∈ ops, val o.out = sem o (o.ins.map val))

/-! ### with a scratch ("junk") signal that several ops may write and nobody reads (every cell whose output 0 is unconnected writes
`tmp_idx`, sim.py:198, so "one writer per signal" fails exactly there: `Jt`, Proofs/GenOpsWO.lean) -/

/-- `o` is the EARLIER row, `p` a later one: `p` writes neither `o`'s output (unless that is a junk slot) nor an operand of `o` -/
def RelJ (J : Nat → Bool) (o p : Op) : Prop := (J o.out = false → p.out ≠ o.out) ∧ ∀ x ∈ o.ins, p.out ≠ x
/-- a row reads no junk slot and not its own output -/
def LocalJ (J : Nat → Bool) (o : Op) : Prop := ∀ x ∈ o.ins, J x = false ∧ x ≠ o.out
/-- well ordered modulo the junk slots (`J x = true`: several rows may write `x`, no row reads it) -/
def WOJ (J : Nat → Bool) (ops : List Op) : Prop := ops.Pairwise (RelJ J) ∧ ∀ o ∈ ops, LocalJ J o

theorem WOJ.tail {J} {o : Op} {rest : List Op} (h : WOJ J (o :: rest)) : WOJ J rest :=
  ⟨(List.pairwise_cons.mp h.1).2, fun p hp => h.2 p (List.mem_cons_of_mem _ hp)⟩

/-- every row equation holds in the result, for a semantics that looks at the values of a subset `R o` of the operand indices
    only: the order conditions are needed for those indices only (the eight-index rows of the waveform program list the branch
    LINES, whose delay entries are used but whose values are not read) -/
theorem execG_solves_read {α} (J : Nat → Bool) (sem : Op → List α → α) (R : Op → List Nat)
    (hR : ∀ o (e e' : Nat → α), (∀ x ∈ R o, e x = e' x) → sem o (o.ins.map e) = sem o (o.ins.map e'))
    (ops : List Op)
    (hp : ops.Pairwise (fun o q => (J o.out = false → q.out ≠ o.out) ∧ ∀ x ∈ R o, q.out ≠ x))
    (hl : ∀ o ∈ ops, ∀ x ∈ R o, x ≠ o.out) (env : Nat → α) :
    ∀ o ∈ ops, J o.out = false → execG sem ops env o.out = sem o (o.ins.map (execG sem ops env)) := by
  intro o ho hj
  obtain ⟨pre, post, rfl⟩ := List.append_of_mem ho
  have hrel := (List.pairwise_cons.mp (List.pairwise_append.mp hp).2.1).1
  exact execG_row_eq sem (R o) pre post o env (hR o) (fun q hq => (hrel q hq).1 hj) fun x hx =>
    List.forall_mem_cons.mpr ⟨fun e => hl _ ho x hx e.symm, fun q hq => (hrel q hq).2 x hx⟩

theorem execG_solvesJ {α} (J : Nat → Bool) (sem : Op → List α → α) (ops : List Op) (hw : WOJ J ops) (env : Nat → α) :
    ∀ o ∈ ops, J o.out = false → execG sem ops env o.out = sem o (o.ins.map (execG sem ops env)) :=
  execG_solves_read J sem (·.ins) (fun _ _ _ h => congrArg _ (List.map_congr_left h)) ops hw.1
    (fun o ho x hx => (hw.2 o ho x hx).2) env

def SolvesJ {α} (J : Nat → Bool) (sem : Op → List α → α) (ops : List Op) (env val : Nat → α) : Prop :=
  (∀ x, J x = false → (∀ p ∈ ops, p.out ≠ x) → val x = env x) ∧
  (∀ o ∈ ops, J o.out = false → val o.out = sem o (o.ins.map val))

theorem solution_uniqueJ {α} (J : Nat → Bool) (sem : Op → List α → α) (ops : List Op) (hw : WOJ J ops) (env val : Nat → α)
    (hs : SolvesJ J sem ops env val) : ∀ x, J x = false → val x = execG sem ops env x := by
  induction ops generalizing env with
  | nil => intro x hj; exact hs.1 x hj (by intro p hp; cases hp)
  | cons o rest ih =>
    have hcons : execG sem (o :: rest) env = execG sem rest (execOpG sem env o) := rfl
    have hrel := (List.pairwise_cons.mp hw.1).1
    have hloc := hw.2 o List.mem_cons_self
    rw [hcons]
    apply ih hw.tail
    refine ⟨?_, fun p hp hj => hs.2 p (List.mem_cons_of_mem _ hp) hj⟩
    intro x hj hx
    by_cases hxo : x = o.out
    · subst hxo
      have heq := hs.2 o List.mem_cons_self hj
      have hargs : o.ins.map val = o.ins.map env := by
        apply List.map_congr_left
        intro y hy
        exact hs.1 y (hloc y hy).1 (List.forall_mem_cons.mpr ⟨fun h => (hloc y hy).2 h.symm, fun p hp => (hrel p hp).2 y hy⟩)
      rw [heq, hargs]; simp [execOpG, upd]
    · have : val x = env x := hs.1 x hj (List.forall_mem_cons.mpr ⟨fun h => hxo h.symm, hx⟩)
      rw [this]; simp [execOpG, upd, hxo]

theorem execG_solution {α} (J : Nat → Bool) (sem : Op → List α → α) (ops : List Op) (hw : WOJ J ops) (env : Nat → α) :
    SolvesJ J sem ops env (execG sem ops env) :=
  ⟨fun x _ hx => execG_frame sem ops env x hx, execG_solvesJ J sem ops hw env⟩

/-! ### without a scratch signal: the certificate `wellOrderedB` gives the case `J = fun _ => false` -/

theorem wellOrderedB_woj : ∀ ops, wellOrderedB ops = true → WOJ (fun _ => false) ops
  | [], _ => ⟨List.Pairwise.nil, fun _ h => by cases h⟩
  | o :: rest, h => by
    simp only [wellOrderedB, Bool.and_eq_true, List.all_eq_true, bne_iff_ne] at h
    have ih := wellOrderedB_woj rest h.2
    exact ⟨List.pairwise_cons.mpr ⟨fun p hp => ⟨fun _ => h.1.1 p hp, fun x hx => (h.1.2 x hx).2 p hp⟩, ih.1⟩,
     fun p hp => by
      rcases List.mem_cons.mp hp with rfl | hp
      · exact fun x hx => ⟨rfl, (h.1.2 x hx).1⟩
      · exact ih.2 p hp⟩

end KV.Sig

namespace KV
open KV.Sig
theorem getElem?_split {α} {l : List α} {k : Nat} {a : α} (h : l[k]? = some a) :
    l = l.take k ++ a :: l.drop (k + 1) ∧ (l.take k).length = k := by
  have hk : k < l.length := by
    rcases Nat.lt_or_ge k l.length with h' | h'
    · exact h'
    · rw [List.getElem?_eq_none h'] at h; cases h
  have ha : l[k] = a := by
    rw [List.getElem?_eq_getElem hk] at h
    exact Option.some.inj h
  refine ⟨?_, by rw [List.length_take]; omega⟩
  rw [← ha, List.getElem_cons_drop, List.take_append_drop]

theorem woj_at_row {J : Nat → Bool} {pre post : List Op} {o : Op} (hw : WOJ J (pre ++ o :: post)) :
    (∀ x ∈ o.ins, ∀ p ∈ o :: post, p.out ≠ x) ∧
    (J o.out = false → (∀ p ∈ post, p.out ≠ o.out) ∧ ∀ p ∈ pre, p.out ≠ o.out) := by
  obtain ⟨hp, hl⟩ := hw
  rw [List.pairwise_append] at hp
  obtain ⟨_, hop, hcross⟩ := hp
  have hrel := (List.pairwise_cons.mp hop).1
  have hloc := hl o (List.mem_append_right _ List.mem_cons_self)
  refine ⟨fun x hx => List.forall_mem_cons.mpr ⟨fun e => (hloc x hx).2 e.symm, fun p hp => (hrel p hp).2 x hx⟩,
    fun hj => ⟨fun p hp => (hrel p hp).1 hj, ?_⟩⟩
  · intro p hp e
    have := (hcross p hp o List.mem_cons_self).1
    by_cases hjp : J p.out = false
    · exact this hjp e.symm
    · rw [e] at hjp; exact hjp hj

theorem operands_final {α} (J : Nat → Bool) (sem : Op → List α → α) (pre post : List Op) (o : Op) (env : Nat → α)
    (hw : WOJ J (pre ++ o :: post)) :
    o.ins.map (execG sem pre env) = o.ins.map (execG sem (pre ++ o :: post) env) :=
  List.map_congr_left fun x hx => (execG_before sem pre (o :: post) env x ((woj_at_row hw).1 x hx)).symm

theorem woj_outs_nodup {J : Nat → Bool} {ops : List Op} (hw : WOJ J ops) :
    ((ops.map (·.out)).filter (fun x => !J x)).Nodup := by
  induction ops with
  | nil => exact List.nodup_nil
  | cons o rest ih =>
    have hrel := (List.pairwise_cons.mp hw.1).1
    simp only [List.map_cons, List.filter_cons]
    split
    · rename_i hj
      simp only [Bool.not_eq_true', ] at hj
      refine List.nodup_cons.mpr ⟨?_, ih hw.tail⟩
      intro hm
      obtain ⟨hm', _⟩ := List.mem_filter.mp hm
      obtain ⟨p, hp, hpo⟩ := List.mem_map.mp hm'
      exact (hrel p hp).1 hj hpo
    · exact ih hw.tail

end KV
