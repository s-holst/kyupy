import KyupyVerif.Proofs.SubstVocab
/-! C10 (`substitute_sem`): the certificate.  `SubstPre` / `SubstCert` say everything the semantic argument uses about the circuit
`h'` that the phases of `substituteCore` build: the interface between Proofs/SubstCoreCert.lean, which shows that the built circuit
satisfies it, and Proofs/SubstEq.lean ff., which argue from it.  Then what `implShape` says of the ports (`mem_inPorts` …
`outPorts_line`) and of the designated cell (`implShape_des`), and the first consequences of `SubstPre`: which nodes of the
implementation have a copy (`unmapped` … `single_not_copied`), which lines (`new_fields`, `copy_of`), and that a host line ending
at the cell or a new node is a line of the instance (`host_reader_own`, `host_driver_own`). -/
namespace KV.Transform
open KV

/-- everything the semantic argument uses about the circuit `h'` that the phases of `substituteCore` build when the cell is kept
    as the copy of implementation node `dn` and no connected input is ignored, except the well-formedness of the result;
    `map` = `node_map`.  `dn` is the designated cell — or, for the virtual run of an implementation WITHOUT designated cell,
    `dn = m.net.nodes.size`: no node, so `des` and `mapDn` say nothing and the cell stays in `h'` as an isolated node.
    Fields: what is assumed of host and implementation (`hwf` … `noIgn`); the host outside the cell is untouched (`nsize` … `keyFrame`,
    `drvFrame`, `rdrFrame`); `node_map` (`mapM` … `kind'`: into `m`, onto the cell or behind the host's nodes, injective, defined where
    the node loop adds a node); the line table (`lsize`, `newLine`: the copied lines stand behind the host's; `inWire` / `outWire`: the
    line at a connected pin of the instance ends at `inTarget` / starts at `outTarget`) -/
structure SubstPre (h : NNet) (c : Nat) (m : NNet) (sh : Shape) (dn : Nat) (map : Array (Option Nat)) (h' : NNet) : Prop where
  hwf : WFr h
  mwf : WF m
  hc : c < h.net.nodes.size
  hio : c ∉ h.net.io
  shape : implShape m = some sh
  des : dn < m.net.nodes.size → sh.des = some dn
  dnNotPort : dn ∉ m.net.io
  ioNodup : m.net.io.Nodup
  portNotSeq : ∀ p ∈ m.net.io, isSeqKind (m.net.node p).kind = false
  portFork : ∀ p ∈ m.net.io, 0 < (m.net.node p).ins.length → 0 < (m.net.node p).outs.length → (m.net.node p).isFork = true
  insLen : (h.net.node c).ins.length ≤ sh.inPorts.length
  noIgn : ∀ k ll inn, instIn h c k = some ll → sh.inPorts[k]? = some inn → (m.net.node inn).outs.length ≠ 0
  nsize : h.net.nodes.size ≤ h'.net.nodes.size
  frameNode : ∀ d, d < h.net.nodes.size → d ≠ c → h'.net.node d = h.net.node d
  io' : h'.net.io = h.net.io
  keyFrame : ∀ d, d < h.net.nodes.size → h'.key d = h.key d
  mapM : ∀ j x, map.getD j none = some x → j < m.net.nodes.size
  mapGe : ∀ j x, map.getD j none = some x → x = c ∨ h.net.nodes.size ≤ x
  mapLt : ∀ j x, map.getD j none = some x → x < h'.net.nodes.size
  mapInj : ∀ j1 j2 x, map.getD j1 none = some x → map.getD j2 none = some x → j1 = j2
  mapDom : ∀ j, j < m.net.nodes.size → ((map.getD j none).isSome ↔
    (j ∉ m.net.io ∨ (0 < (m.net.node j).ins.length ∧ 0 < (m.net.node j).outs.length) ∨
      ((m.net.node j).ins.length = 0 ∧ 1 < (m.net.node j).outs.length)))
  mapDn : dn < m.net.nodes.size → map.getD dn none = some c
  kind' : ∀ j x, map.getD j none = some x →
    (h'.net.node x).kind = if j ∈ m.net.io then "__fork__" else (m.net.node j).kind
  lsize : h'.net.lines.size = h.net.lines.size + (copiedLines m map).length
  drvFrame : ∀ l, l < h.net.lines.size → (h.net.line l).driver ≠ c →
    (h'.net.line l).driver = (h.net.line l).driver ∧ (h'.net.line l).dpin = (h.net.line l).dpin
  rdrFrame : ∀ l, l < h.net.lines.size → (h.net.line l).reader ≠ c →
    (h'.net.line l).reader = (h.net.line l).reader ∧ (h'.net.line l).rpin = (h.net.line l).rpin
  inWire : ∀ k ll, instIn h c k = some ll → ∃ inn r rp, sh.inPorts[k]? = some inn ∧
    inTarget m map inn = some (r, rp) ∧ (h'.net.line ll).reader = r ∧ (h'.net.line ll).rpin = rp
  outWire : ∀ k ll, instOut h c k = some ll → ∃ il d dp, sh.outLines[k]? = some il ∧
    outTarget m map il = some (d, dp) ∧ (h'.net.line ll).driver = d ∧ (h'.net.line ll).dpin = dp
  newLine : ∀ t (ht : t < (copiedLines m map).length),
    h'.net.line (h.net.lines.size + t) = mkLine m map (copiedLines m map)[t]

/-- `SubstPre` with the well-formedness of the result (`WFr`: without the reader-side back pointer; the host may hold lines that are
    stale on the reader side, they stay as they are): the copied lines and every host line that points back in the host
    point back in the result, and a host line at an input pin of the cell or of a new node is a line at an input pin of the
    instance -/
structure SubstCert (h : NNet) (c : Nat) (m : NNet) (sh : Shape) (dn : Nat) (map : Array (Option Nat)) (h' : NNet) : Prop
    extends SubstPre h c m sh dn map h' where
  wf' : WFr h'
  backR : ∀ l, l < h'.net.lines.size → (h.net.lines.size ≤ l ∨ PtsBack h l) → PtsBack h' l
  ownIns : ∀ x k l, (x = c ∨ h.net.nodes.size ≤ x) → (h'.net.node x).ins.getD k none = some l → l < h.net.lines.size →
    ∃ k0, instIn h c k0 = some l

section ports
variable {m : NNet} {sh : Shape} (hs : implShape m = some sh)
include hs

theorem mem_inPorts (p : Nat) : p ∈ sh.inPorts ↔ p ∈ m.net.io ∧ (m.net.node p).ins.length = 0 := by
  rw [(implShape_spec m sh hs).1]; simp [List.mem_filter]

theorem mem_outPorts (p : Nat) : p ∈ sh.outPorts ↔ p ∈ m.net.io ∧ (m.net.node p).ins.length ≠ 0 := by
  rw [(implShape_spec m sh hs).2.1]; simp [List.mem_filter]

theorem inPorts_nodup (hn : m.net.io.Nodup) : sh.inPorts.Nodup := by
  rw [(implShape_spec m sh hs).1]; exact hn.filter _

theorem outPorts_nodup (hn : m.net.io.Nodup) : sh.outPorts.Nodup := by
  rw [(implShape_spec m sh hs).2.1]; exact hn.filter _

theorem inPorts_idxOf (hn : m.net.io.Nodup) (k inn : Nat) (hk : sh.inPorts[k]? = some inn) : sh.inPorts.idxOf inn = k := by
  obtain ⟨hlt, e⟩ := List.getElem?_eq_some_iff.mp hk
  rw [← e]
  exact (inPorts_nodup hs hn).idxOf_getElem k hlt

theorem outLines_port (k il : Nat) (hk : sh.outLines[k]? = some il) :
    ∃ rd, sh.outPorts[k]? = some rd ∧ (m.net.node rd).inPin 0 = some il := by
  have h1 := congrArg (·[k]?) (implShape_spec m sh hs).2.2
  simpa [hk] using h1

theorem outPorts_line (k rd : Nat) (hk : sh.outPorts[k]? = some rd) :
    ∃ il, sh.outLines[k]? = some il ∧ (m.net.node rd).inPin 0 = some il := by
  have h1 := congrArg (·[k]?) (implShape_spec m sh hs).2.2
  simp only [List.getElem?_map, hk, Option.map_some] at h1
  obtain ⟨il, h2, h3⟩ := Option.map_eq_some_iff.mp h1.symm
  exact ⟨il, h2, h3.symm⟩
end ports

theorem walkDesignated_spec (m : NNet) (w : WF m) : ∀ (fuel n d : Nat), n < m.net.nodes.size →
    walkDesignated m fuel n = some d → d < m.net.nodes.size ∧ ((m.net.node d).isFork = false ∨ d ∈ m.net.io)
  | 0, _, _, _, h => by simp [walkDesignated] at h
  | fuel + 1, n, d, hn, h => by
    unfold walkDesignated at h
    split at h
    · rename_i hc
      split at h
      · rename_i l hl
        have fi := w.fwdIn n hn 0 l (head?_getD hl)
        exact walkDesignated_spec m w fuel _ d (w.back l fi.1).1 h
      · exact absurd h (by simp)
    · rename_i hc
      cases (Option.some.inj h)
      refine ⟨hn, ?_⟩
      simp only [Bool.and_eq_true, Bool.not_eq_true', not_and, Bool.not_eq_false] at hc
      cases hf : (m.net.node n).isFork with
      | false => exact Or.inl rfl
      | true => right; simpa using hc hf

theorem implShape_des' (m : NNet) (w : WF m) (sh : Shape) (dn : Nat) (hs : implShape m = some sh) (hd : sh.des = some dn) :
    dn < m.net.nodes.size ∧ (isSeqKind (m.net.node dn).kind = true ∨ (dn ∉ m.net.io ∧ (m.net.node dn).isFork = false)) := by
  have hs0 := hs
  unfold implShape at hs
  dsimp only at hs
  split at hs
  · exact absurd hs (by simp)
  · split at hs
    · exact absurd hs (by simp)
    · rename_i d0 hd0
      cases hs
      dsimp only at hd hd0
      cases hseq : (List.range m.net.nodes.size).find? (fun j => isSeqKind (m.net.node j).kind) with
      | some j =>
        rw [hseq] at hd
        simp only [Option.isSome_some, if_true] at hd
        cases (Option.some.inj hd)
        have h1 := List.find?_some hseq
        have h2 := List.mem_range.mp (List.mem_of_find?_eq_some hseq)
        exact ⟨h2, Or.inl h1⟩
      | none =>
        rw [hseq] at hd
        simp only [Option.isSome_none, Bool.false_eq_true, if_false] at hd
        subst hd
        split at hd0
        · exact absurd hd0 (by simp)
        · rename_i l0 hl0
          simp only [Option.map_eq_some_iff] at hd0
          obtain ⟨d, hwalk, e⟩ := hd0
          split at e
          · exact absurd e (by simp)
          · rename_i hnio
            cases (Option.some.inj e)
            -- `l0` is the line at pin 0 of the first output port
            obtain ⟨p, hp, e⟩ := outLines_port hs0 0 l0 (by rw [← List.head?_eq_getElem?]; exact hl0)
            have fi := w.fwdIn p (w.io p ((mem_outPorts hs0 p).mp (List.mem_of_getElem? hp)).1) 0 l0 e
            have := walkDesignated_spec m w _ _ dn (w.back l0 fi.1).1 hwalk
            have hnio' : dn ∉ m.net.io := by simpa using hnio
            refine ⟨this.1, Or.inr ⟨hnio', ?_⟩⟩
            rcases this.2 with h1 | h1
            · exact h1
            · exact absurd h1 hnio'

theorem implShape_des (m : NNet) (w : WF m) (sh : Shape) (dn : Nat) (hs : implShape m = some sh) (hd : sh.des = some dn) :
    dn < m.net.nodes.size ∧ (dn ∉ m.net.io → (m.net.node dn).isFork = false) := by
  obtain ⟨h1, h2⟩ := implShape_des' m w sh dn hs hd
  refine ⟨h1, fun _ => ?_⟩
  rcases h2 with h2 | h2
  · cases hf : (m.net.node dn).isFork with
    | false => rfl
    | true =>
      have h1' : (m.net.node dn).isSeq = true := h2
      rw [(fork_not_seq hf).1] at h1'
      cases h1'
  · exact h2.2

theorem implShape_des_notPort (m : NNet) (w : WF m) (sh : Shape) (dn : Nat) (hs : implShape m = some sh) (hd : sh.des = some dn)
    (hps : ∀ p ∈ m.net.io, isSeqKind (m.net.node p).kind = false) : dn ∉ m.net.io := by
  rcases (implShape_des' m w sh dn hs hd).2 with h2 | h2
  · intro hio
    rw [hps dn hio] at h2
    exact absurd h2 (by simp)
  · exact h2.1

theorem portVal_nonInput {α : Type _} {h : NNet} {c : Nat} {sh : Shape} (hlen : (h.net.node c).ins.length ≤ sh.inPorts.length)
    (z : α) (v : Nat → α) (p : Nat) (hp : p ∉ sh.inPorts) : portVal h c sh z v p = z := by
  have hn : instIn h c (sh.inPorts.idxOf p) = none := by
    rw [List.idxOf_eq_length hp]
    simp only [instIn, List.getD_eq_getElem?_getD]
    rw [List.getElem?_eq_none hlen]; rfl
  simp [portVal, hn]

section cert
variable {h : NNet} {c : Nat} {m : NNet} {sh : Shape} {dn : Nat} {map : Array (Option Nat)} {h' : NNet}
variable (ct : SubstPre h c m sh dn map h')
include ct

theorem SubstPre.outLine_facts (k il : Nat) (hk : sh.outLines[k]? = some il) :
    ∃ rd, sh.outPorts[k]? = some rd ∧ (m.net.node rd).inPin 0 = some il ∧ il < m.net.lines.size ∧
      (m.net.line il).reader = rd ∧ rd ∈ m.net.io ∧ (m.net.node rd).ins.length ≠ 0 := by
  obtain ⟨rd, hrd, hpin⟩ := outLines_port ct.shape k il hk
  obtain ⟨hrio, hrins⟩ := (mem_outPorts ct.shape rd).mp (List.mem_of_getElem? hrd)
  obtain ⟨hil, hr, _⟩ := ct.mwf.fwdIn rd (ct.mwf.io rd hrio) 0 il hpin
  exact ⟨rd, hrd, hpin, hil, hr, hrio, hrins⟩

theorem SubstPre.unmapped (j : Nat) (hj : j < m.net.nodes.size) (hn : map.getD j none = none) :
    j ∈ m.net.io ∧ ¬ (0 < (m.net.node j).ins.length ∧ 0 < (m.net.node j).outs.length) ∧
    ¬ ((m.net.node j).ins.length = 0 ∧ 1 < (m.net.node j).outs.length) := by
  have hd := ct.mapDom j hj
  rw [hn] at hd
  have hno : ¬ _ := fun hc => absurd (hd.mpr hc) (by simp)
  exact ⟨Classical.byContradiction fun hc => hno (Or.inl hc), fun hc => hno (Or.inr (Or.inl hc)), fun hc => hno (Or.inr (Or.inr hc))⟩

theorem SubstPre.mapped_of (j : Nat) (hj : j < m.net.nodes.size)
    (hd : j ∉ m.net.io ∨ (0 < (m.net.node j).ins.length ∧ 0 < (m.net.node j).outs.length) ∨
      ((m.net.node j).ins.length = 0 ∧ 1 < (m.net.node j).outs.length)) : ∃ x, map.getD j none = some x := by
  have := (ct.mapDom j hj).mpr hd
  exact Option.isSome_iff_exists.mp this

theorem SubstPre.unmapped_driver (i : Nat) (hi : i < m.net.lines.size) (hn : map.getD (m.net.line i).driver none = none) :
    (m.net.line i).driver ∈ sh.inPorts ∧ (m.net.node (m.net.line i).driver).outs.length = 1 ∧
    (m.net.node (m.net.line i).driver).outs.head? = some (some i) := by
  obtain ⟨hd, _, ho, _⟩ := ct.mwf.back i hi
  obtain ⟨hio, h1, h2⟩ := ct.unmapped _ hd hn
  have hpos := lt_of_getD_some ho
  have hins : (m.net.node (m.net.line i).driver).ins.length = 0 := by omega
  have hlen : (m.net.node (m.net.line i).driver).outs.length = 1 := by omega
  refine ⟨(mem_inPorts ct.shape _).mpr ⟨hio, hins⟩, hlen, ?_⟩
  have : (m.net.line i).dpin = 0 := by omega
  rw [this] at ho
  rw [List.head?_eq_getElem?]
  exact getD_eq_some_iff.mp ho

theorem SubstPre.unmapped_reader (i : Nat) (hi : i < m.net.lines.size) (hn : map.getD (m.net.line i).reader none = none) :
    (m.net.line i).reader ∈ sh.outPorts ∧ (m.net.node (m.net.line i).reader).outs.length = 0 := by
  obtain ⟨_, hr, _, hin⟩ := ct.mwf.back i hi
  obtain ⟨hio, h1, h2⟩ := ct.unmapped _ hr hn
  have hpos := lt_of_getD_some hin
  refine ⟨(mem_outPorts ct.shape _).mpr ⟨hio, by omega⟩, by omega⟩

theorem SubstPre.inPort_mapped (inn x : Nat) (hin : inn ∈ sh.inPorts) (hm : map.getD inn none = some x) :
    1 < (m.net.node inn).outs.length := by
  obtain ⟨hio, hins⟩ := (mem_inPorts ct.shape inn).mp hin
  have hj := ct.mapM inn x hm
  have := (ct.mapDom inn hj).mp (by rw [hm]; rfl)
  rcases this with h1 | h1 | h1
  · exact absurd hio h1
  · omega
  · exact h1.2

theorem SubstPre.single_not_copied (inn i0 : Nat) (hin : inn ∈ sh.inPorts) (hlen : (m.net.node inn).outs.length = 1)
    (hh : (m.net.node inn).outs.head? = some (some i0)) :
    i0 < m.net.lines.size ∧ (m.net.line i0).driver = inn ∧ map.getD inn none = none := by
  obtain ⟨hio, hins⟩ := (mem_inPorts ct.shape inn).mp hin
  have hlt := ct.mwf.io inn hio
  have fo := ct.mwf.fwdOut inn hlt 0 i0 (head?_getD hh)
  refine ⟨fo.1, fo.2.1, ?_⟩
  cases hm : map.getD inn none with
  | none => rfl
  | some x => have := ct.inPort_mapped inn x hin hm; omega

theorem SubstPre.new_split (l : Nat) (h1 : h.net.lines.size ≤ l) (h2 : l < h'.net.lines.size) :
    ∃ t, ∃ _ : t < (copiedLines m map).length, l = h.net.lines.size + t := by
  rw [ct.lsize] at h2
  exact ⟨l - h.net.lines.size, by omega, by omega⟩

theorem SubstPre.line_split (l : Nat) (hl : l < h'.net.lines.size) :
    l < h.net.lines.size ∨ ∃ t, ∃ _ : t < (copiedLines m map).length, l = h.net.lines.size + t :=
  (Nat.lt_or_ge l h.net.lines.size).imp_right fun h1 => ct.new_split l h1 hl

omit ct in
theorem copiedLines_mem (i : Nat) : i ∈ copiedLines m map ↔ i < m.net.lines.size ∧ copiedB m map i = true := by
  simp [copiedLines, List.mem_filter]

omit ct in
theorem copiedLines_nodup : (copiedLines m map).Nodup := (List.nodup_range).filter _

omit ct in
theorem copiedB_iff (i : Nat) : copiedB m map i = true ↔
    ∃ xd xr, map.getD (m.net.line i).driver none = some xd ∧ map.getD (m.net.line i).reader none = some xr := by
  simp only [copiedB, Bool.and_eq_true, Option.isSome_iff_exists]
  constructor
  · rintro ⟨⟨a, ha⟩, ⟨b, hb⟩⟩; exact ⟨a, b, ha, hb⟩
  · rintro ⟨a, b, ha, hb⟩; exact ⟨⟨a, ha⟩, ⟨b, hb⟩⟩

theorem SubstPre.new_fields (t : Nat) (ht : t < (copiedLines m map).length) :
    (copiedLines m map)[t] < m.net.lines.size ∧
    ∃ xd xr, map.getD (m.net.line (copiedLines m map)[t]).driver none = some xd ∧
      map.getD (m.net.line (copiedLines m map)[t]).reader none = some xr ∧
      h'.net.line (h.net.lines.size + t) =
        ⟨xd, (m.net.line (copiedLines m map)[t]).dpin, xr, (m.net.line (copiedLines m map)[t]).rpin⟩ := by
  have hmem := (copiedLines_mem (m := m) (map := map) _).mp (List.getElem_mem ht)
  obtain ⟨xd, xr, h1, h2⟩ := (copiedB_iff _).mp hmem.2
  refine ⟨hmem.1, xd, xr, h1, h2, ?_⟩
  rw [ct.newLine t ht]
  simp [mkLine, h1, h2]

theorem SubstPre.copy_of (i : Nat) (hi : i < m.net.lines.size) (xd xr : Nat)
    (h1 : map.getD (m.net.line i).driver none = some xd) (h2 : map.getD (m.net.line i).reader none = some xr) :
    ∃ t, ∃ ht : t < (copiedLines m map).length, (copiedLines m map)[t] = i ∧
      h'.net.line (h.net.lines.size + t) = ⟨xd, (m.net.line i).dpin, xr, (m.net.line i).rpin⟩ := by
  have hmem : i ∈ copiedLines m map := (copiedLines_mem i).mpr ⟨hi, (copiedB_iff i).mpr ⟨xd, xr, h1, h2⟩⟩
  obtain ⟨t, ht, e⟩ := List.getElem_of_mem hmem
  refine ⟨t, ht, e, ?_⟩
  rw [ct.newLine t ht, e]
  simp [mkLine, h1, h2]

theorem SubstPre.host_reader_own (l x : Nat) (hl : l < h.net.lines.size) (hp : PtsBack h l) (hr : (h'.net.line l).reader = x)
    (hx : x = c ∨ h.net.nodes.size ≤ x) : ∃ k, instIn h c k = some l := by
  by_cases e : (h.net.line l).reader = c
  · refine ⟨(h.net.line l).rpin, ?_⟩
    have : (h.net.node (h.net.line l).reader).ins.getD (h.net.line l).rpin none = some l := hp
    rw [e] at this; exact this
  · have f := (ct.rdrFrame l hl e).1
    have b := (ct.hwf.back l hl).2.1
    rw [hr] at f
    rcases hx with hx | hx
    · exact absurd (f.symm.trans hx) e
    · omega

theorem SubstPre.host_driver_own (l x : Nat) (hl : l < h.net.lines.size) (hr : (h'.net.line l).driver = x)
    (hx : x = c ∨ h.net.nodes.size ≤ x) : ∃ k, instOut h c k = some l := by
  by_cases e : (h.net.line l).driver = c
  · refine ⟨(h.net.line l).dpin, ?_⟩
    have := (ct.hwf.back l hl).2.2
    rw [e] at this; exact this
  · have f := (ct.drvFrame l hl e).1
    have b := (ct.hwf.back l hl).1
    rw [hr] at f
    rcases hx with hx | hx
    · exact absurd (f.symm.trans hx) e
    · omega

end cert

end KV.Transform
