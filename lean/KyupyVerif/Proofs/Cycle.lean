import KyupyVerif.Proofs.Basics
import KyupyVerif.Model.Cycle
import KyupyVerif.Proofs.Solve
import KyupyVerif.Proofs.CycleRel
/-! `LogicSim.cycle(k)` (model `cycleK`, Model/Cycle.lean) in closed form: one cycle stores the labelling computed by the op
program at the captured signals (`captureRow`) and the next assignment (`nextRow`); k cycles iterate the next-state
function; the memory left behind by earlier cycles is irrelevant. -/
namespace KV.Cycle
open KV KV.Sig

/-! ### sequential writes seen pointwise (function-update folds here, `List.set` folds: `foldl_set_length`, `foldl_set_getElem?` of Basics):
what `s_to_c`, `c_to_s` and `s_ppo_to_ppi` leave at one position -/

/-- the same for function updates `m[idx b] := v b`, over any index type (signals: `Nat`, memory rows: `Int`) -/
theorem foldl_upd_apply {ι : Type} {α : Type _} {β : Type _} [DecidableEq ι] (l : List β) (idx : β → ι) (v : β → α) (x : ι) (w : α)
    (h : ∀ b ∈ l, idx b = x → v b = w) (m : ι → α) :
    (l.foldl (fun m b => fun a => if a = idx b then v b else m a) m) x = if x ∈ l.map idx then w else m x :=
  foldl_pointwise_const (fun (m : ι → α) => m) (fun m b a => if a = idx b then v b else m a) idx (fun b _ => v b) (fun _ _ _ => rfl) l m x
    (fun _ => w) (fun b hb e => funext fun _ => h b hb e) (fun _ => rfl)


theorem io_le_sNodes (net : Net) : net.io.length ≤ net.sNodes.length := by
  simp only [Net.sNodes, List.length_append]; omega

theorem mem_ppioS (net : Net) (i : Nat) : i ∈ ppioS net ↔ net.io.length ≤ i ∧ i < net.sNodes.length := by
  have := io_le_sNodes net
  simp only [ppioS, List.mem_range'_1]; omega

theorem mem_ppiUsedS (net : Net) (i : Nat) :
    i ∈ ppiUsedS net ↔ (net.io.length ≤ i ∧ i < net.sNodes.length) ∧ 0 < (sNodeAt net i).outs.length := by
  unfold ppiUsedS
  rw [List.mem_filter, mem_ppioS]
  simp

theorem mem_poS (net : Net) (i : Nat) : i ∈ poS net ↔ i < net.io.length ∧ ((sNodeAt net i).inPin 0).isSome = true := by
  simp [poS]

theorem mem_piS (net : Net) (i : Nat) : i ∈ piS net ↔ i < net.io.length ∧ 0 < (sNodeAt net i).outs.length := by
  simp [piS]

theorem isPoppo_iff (net : Net) (i : Nat) : isPoppo net i = true ↔ i ∈ poS net ∨ i ∈ ppioS net := by
  rw [mem_poS, mem_ppioS]
  unfold isPoppo
  split
  · rename_i h; constructor
    · intro hh; exact Or.inl ⟨h, hh⟩
    · rintro (⟨_, hh⟩ | ⟨hh, _⟩)
      · exact hh
      · omega
  · rename_i h; simp only [decide_eq_true_eq]; constructor
    · intro hh; exact Or.inr ⟨by omega, hh⟩
    · rintro (⟨hh, _⟩ | ⟨_, hh⟩)
      · omega
      · exact hh

theorem poppo_pos (net : Net) (strip : Bool) :
    (tabsOf net strip).poppo.map (·.1) = poS net ++ ppioS net := by
  simp [tabsOf, List.map_map, Function.comp_def]

theorem poppo_sig (net : Net) (strip : Bool) (px : Nat × Nat) (h : px ∈ (tabsOf net strip).poppo) :
    px.2 = capSig net strip px.1 := by
  simp only [tabsOf, List.mem_map] at h
  obtain ⟨p, _, rfl⟩ := h
  rfl

/-- the input table: the positions of `s_nodes` with a connected output, each with its input slot -/
theorem mem_pippi (net : Net) (strip : Bool) (px : Nat × Nat) :
    px ∈ (tabsOf net strip).pippi ↔
      (px.1 < net.sNodes.length ∧ 0 < (sNodeAt net px.1).outs.length) ∧ px.2 = net.idx.ppi + px.1 := by
  have := io_le_sNodes net
  simp only [tabsOf, List.mem_map, List.mem_append, mem_piS, mem_ppiUsedS]
  constructor
  · rintro ⟨p, hp, rfl⟩
    exact ⟨by rcases hp with h | h <;> exact ⟨by omega, h.2⟩, rfl⟩
  · rintro ⟨⟨h1, h2⟩, h3⟩
    refine ⟨px.1, ?_, by rw [← h3]⟩
    by_cases hio : px.1 < net.io.length
    · exact Or.inl ⟨hio, h2⟩
    · exact Or.inr ⟨⟨by omega, h1⟩, h2⟩

theorem pippi_sig (net : Net) (strip : Bool) (px : Nat × Nat) (h : px ∈ (tabsOf net strip).pippi) :
    px.2 = net.idx.ppi + px.1 := ((mem_pippi net strip px).1 h).2

/-- a `c_to_s`-shaped loop: writing `g position signal` at every captured position -/
theorem poppo_foldl_set {γ} (net : Net) (strip : Bool) (g : Nat → Nat → γ) (s1 : List γ) :
    (tabsOf net strip).poppo.foldl (fun s px => s.set px.1 (g px.1 px.2)) s1 =
      s1.mapIdx fun q r => if isPoppo net q then g q (capSig net strip q) else r := by
  apply List.ext_getElem?
  intro i
  rw [foldl_set_getElem? _ (fun px : Nat × Nat => px.1) (fun px => g px.1 px.2) i (g i (capSig net strip i))
    (fun px hpx hi => by rw [poppo_sig net strip px hpx, hi])]
  rw [poppo_pos, List.getElem?_mapIdx]
  by_cases hp : isPoppo net i = true
  · rw [if_pos (List.mem_append.2 ((isPoppo_iff net i).1 hp))]
    simp [hp]
  · rw [if_neg (fun hm => hp ((isPoppo_iff net i).2 (List.mem_append.1 hm)))]
    simp [hp]

theorem cToS_eq {α} (net : Net) (strip : Bool) (env : Nat → α) (s1 : List α) :
    cToS (tabsOf net strip) env s1 = captureRow net strip env s1 :=
  poppo_foldl_set net strip (fun _ sig => env sig) s1

theorem cToS_length {α} (T : Tabs) (env : Nat → α) (s1 : List α) : (cToS T env s1).length = s1.length :=
  foldl_set_length _ _ _ _

theorem ppoToPpi_length {α} (T : Tabs) (merge : α → α → α) (d : α) (s0 s1 : List α) :
    (ppoToPpi T merge d s0 s1).length = s0.length :=
  foldl_set_length _ _ _ _

theorem ppoToPpi_getElem? {α} (T : Tabs) (merge : α → α → α) (d : α) (s0 s1 : List α) (i : Nat) :
    (ppoToPpi T merge d s0 s1)[i]? =
      if i ∈ T.ppio then (s0[i]?).map (fun _ => merge (s0.getD i d) (s1.getD i d)) else s0[i]? := by
  unfold ppoToPpi
  rw [foldl_set_getElem? _ (fun p : Nat => p) (fun p => merge (s0.getD p d) (s1.getD p d)) i
    (merge (s0.getD i d) (s1.getD i d)) (fun p _ hp => by rw [hp])]
  simp

theorem captureRow_at {α} (net : Net) (strip : Bool) (sol : Nat → α) (s1 : List α) (p : Nat) (hp : p < s1.length)
    (hc : isPoppo net p = true) : (captureRow net strip sol s1)[p]? = some (sol (capSig net strip p)) := by
  unfold captureRow
  rw [List.getElem?_mapIdx, List.getElem?_eq_getElem hp]
  simp [hc]

theorem ppoToPpi_capture {α} (net : Net) (strip : Bool) (merge : α → α → α) (d : α) (sol : Nat → α) (s0 s1 : List α)
    (h0 : s0.length = net.sNodes.length) (h1 : s1.length = net.sNodes.length) :
    ppoToPpi (tabsOf net strip) merge d s0 (captureRow net strip sol s1) = nextRow net strip merge sol s0 := by
  apply List.ext_getElem?
  intro i
  rw [ppoToPpi_getElem?]
  unfold nextRow
  rw [List.getElem?_mapIdx]
  have hpp : (tabsOf net strip).ppio = ppioS net := rfl
  rw [hpp]
  by_cases hi : i < s0.length
  · have hs : s0[i]? = some s0[i] := List.getElem?_eq_getElem hi
    have hg : s0.getD i d = s0[i] := by rw [List.getD_eq_getElem?_getD, hs]; rfl
    rw [hs, hg]
    by_cases hio : net.io.length ≤ i
    · have hm := (mem_ppioS net i).2 ⟨hio, by omega⟩
      rw [if_pos hm]
      simp [hio, captureRow_at net strip sol s1 i (by omega) ((isPoppo_iff net i).2 (Or.inr hm))]
    · rw [if_neg (fun h => hio ((mem_ppioS net i).1 h).1)]
      simp [hio]
  · have hs : s0[i]? = none := by simp; omega
    simp [hs]


/-- the labelling one cycle computes from the assignment `a` when the memory holds `env` beforehand -/
def solOf {α} (sem : Op → List α → α) (ops : List Op) (T : Tabs) (d : α) (env : Nat → α) (a : List α) : Nat → α :=
  execG sem ops (sToC T d a env)

/-- one cycle on the `s` array alone, memory contents `env` as a parameter -/
def stepS {α} (sem : Op → List α → α) (ops : List Op) (net : Net) (strip : Bool) (merge : α → α → α) (d : α)
    (env : Nat → α) (s : S α) : S α :=
  ⟨nextRow net strip merge (solOf sem ops (tabsOf net strip) d env s.s0) s.s0,
   captureRow net strip (solOf sem ops (tabsOf net strip) d env s.s0) s.s1⟩

def nextState {α} (sem : Op → List α → α) (ops : List Op) (net : Net) (strip : Bool) (merge : α → α → α) (d : α)
    (env : Nat → α) (a : List α) : List α :=
  nextRow net strip merge (solOf sem ops (tabsOf net strip) d env a) a

theorem cycle1_s {α} (sem : Op → List α → α) (ops : List Op) (net : Net) (strip : Bool) (merge : α → α → α) (d : α)
    (st : St α) (h0 : st.s.s0.length = net.sNodes.length) (h1 : st.s.s1.length = net.sNodes.length) :
    (cycle1 sem ops (tabsOf net strip) merge d st).s = stepS sem ops net strip merge d st.env st.s := by
  unfold cycle1 stepS solOf
  simp only
  rw [cToS_eq, ppoToPpi_capture net strip merge d _ _ _ h0 h1]

theorem cycle1_env {α} (sem : Op → List α → α) (ops : List Op) (T : Tabs) (merge : α → α → α) (d : α) (st : St α) :
    (cycle1 sem ops T merge d st).env = solOf sem ops T d st.env st.s.s0 := rfl

theorem nextRow_length {α} (net : Net) (strip : Bool) (merge : α → α → α) (sol : Nat → α) (a : List α) :
    (nextRow net strip merge sol a).length = a.length := by simp [nextRow]
theorem captureRow_length {α} (net : Net) (strip : Bool) (sol : Nat → α) (a : List α) :
    (captureRow net strip sol a).length = a.length := by simp [captureRow]

/-- the rows depend on the labelling only at the captured signals of their positions (the two sides may differ in
    `strip_forks`) -/
theorem nextRow_congr {α} (net : Net) (s1 s2 : Bool) (merge : α → α → α) (sol sol' : Nat → α) (a : List α)
    (h : ∀ p, p < a.length → sol (capSig net s1 p) = sol' (capSig net s2 p)) :
    nextRow net s1 merge sol a = nextRow net s2 merge sol' a := by
  unfold nextRow
  rw [List.mapIdx_eq_mapIdx_iff]
  intro i hi
  rw [h i hi]

theorem captureRow_congr {α} (net : Net) (s1 s2 : Bool) (sol sol' : Nat → α) (a : List α)
    (h : ∀ p, p < a.length → sol (capSig net s1 p) = sol' (capSig net s2 p)) :
    captureRow net s1 sol a = captureRow net s2 sol' a := by
  unfold captureRow
  rw [List.mapIdx_eq_mapIdx_iff]
  intro i hi
  rw [h i hi]


theorem sToC_apply {α} (net : Net) (strip : Bool) (d : α) (a : List α) (env : Nat → α) (x : Nat) :
    sToC (tabsOf net strip) d a env x =
      if x ∈ (tabsOf net strip).pippi.map (·.2) then a.getD (x - net.idx.ppi) d else env x := by
  unfold sToC
  exact foldl_upd_apply _ (fun px : Nat × Nat => px.2) (fun px => a.getD px.1 d) x (a.getD (x - net.idx.ppi) d)
    (fun px hpx hx => by
      have := pippi_sig net strip px hpx
      have : x - net.idx.ppi = px.1 := by omega
      rw [this]) env

theorem execG_congr_inputs {α} (J : Nat → Bool) (sem : Op → List α → α) (ops : List Op) (hw : WOJ J ops)
    (e e' : Nat → α) (h : ∀ x, J x = false → (∀ o ∈ ops, o.out ≠ x) → e x = e' x) :
    ∀ x, J x = false → execG sem ops e x = execG sem ops e' x := by
  intro x hx
  have hs : SolvesJ J sem ops e' (execG sem ops e) :=
    ⟨fun y hj hy => by rw [execG_frame sem ops e y hy]; exact h y hj hy, execG_solvesJ J sem ops hw e⟩
  exact solution_uniqueJ J sem ops hw e' _ hs x hx

def Agree (ops : List Op) (T : Tabs) {α} (e e' : Nat → α) : Prop :=
  ∀ x, (∀ o ∈ ops, o.out ≠ x) → x ∉ T.pippi.map (·.2) → e x = e' x

theorem Agree.refl {α} (ops : List Op) (T : Tabs) (e : Nat → α) : Agree ops T e e := fun _ _ _ => rfl

theorem agree_after {α} (sem : Op → List α → α) (ops : List Op) (net : Net) (strip : Bool) (d : α) (a : List α)
    (e e' : Nat → α) (h : Agree ops (tabsOf net strip) e e') :
    Agree ops (tabsOf net strip) (solOf sem ops (tabsOf net strip) d e a) e' := by
  intro x hx hp
  unfold solOf
  rw [execG_frame sem ops _ x hx, sToC_apply, if_neg hp]
  exact h x hx hp

theorem solOf_agree {α} (J : Nat → Bool) (sem : Op → List α → α) (ops : List Op) (hw : WOJ J ops)
    (net : Net) (strip : Bool) (d : α) (a : List α) (e e' : Nat → α) (h : Agree ops (tabsOf net strip) e e') :
    ∀ x, J x = false → solOf sem ops (tabsOf net strip) d e a x = solOf sem ops (tabsOf net strip) d e' a x := by
  apply execG_congr_inputs J sem ops hw
  intro x _ hx
  rw [sToC_apply, sToC_apply]
  split
  · rfl
  · rename_i hp; exact h x hx hp

theorem stepS_agree {α} (J : Nat → Bool) (sem : Op → List α → α) (ops : List Op) (hw : WOJ J ops)
    (net : Net) (strip : Bool) (hJ : ∀ p, J (capSig net strip p) = false) (merge : α → α → α) (d : α) (s : S α)
    (e e' : Nat → α) (h : Agree ops (tabsOf net strip) e e') :
    stepS sem ops net strip merge d e s = stepS sem ops net strip merge d e' s := by
  unfold stepS
  have := fun p => solOf_agree J sem ops hw net strip d s.s0 e e' h (capSig net strip p) (hJ p)
  rw [nextRow_congr net strip strip merge _ _ s.s0 fun p _ => this p, captureRow_congr net strip strip _ _ s.s1 fun p _ => this p]


theorem iter_succ' {β} (f : β → β) (k : Nat) (a : β) : iter f (k + 1) a = f (iter f k a) :=
  iter_rel (R := fun a b => b = f a) (fun _ _ h => congrArg f h) k a (f a) rfl

/-- what is carried through the cycles: the state `st` of the loop has the `s` array `s`, of the netlist's two lengths, and a memory
    equal to `e` off the signals a cycle writes -/
def Tracks {α} (ops : List Op) (net : Net) (strip : Bool) (st : St α) (s : S α) (e : Nat → α) : Prop :=
  st.s = s ∧ s.s0.length = net.sNodes.length ∧ s.s1.length = net.sNodes.length ∧ Agree ops (tabsOf net strip) st.env e

theorem cycle1_tracks {α} (J : Nat → Bool) (sem : Op → List α → α) (ops : List Op) (hw : WOJ J ops)
    (net : Net) (strip : Bool) (hJ : ∀ p, J (capSig net strip p) = false) (merge : α → α → α) (d : α) (env0 : Nat → α)
    (st : St α) (s : S α) (h : Tracks ops net strip st s env0) :
    Tracks ops net strip (cycle1 sem ops (tabsOf net strip) merge d st) (stepS sem ops net strip merge d env0 s) env0 := by
  obtain ⟨rfl, h0, h1, ha⟩ := h
  refine ⟨?_, by simp [stepS, nextRow_length, h0], by simp [stepS, captureRow_length, h1], ?_⟩
  · rw [cycle1_s sem ops net strip merge d st h0 h1, stepS_agree J sem ops hw net strip hJ merge d st.s _ _ ha]
  · rw [cycle1_env]; exact agree_after sem ops net strip d _ _ _ ha

/-- **`cycle(k)` iterates the one-cycle map on `s`**; whatever the memory held before the call (beyond the constant slot and
    other never-written signals) plays no role -/
theorem cycleK_s {α} (J : Nat → Bool) (sem : Op → List α → α) (ops : List Op) (hw : WOJ J ops)
    (net : Net) (strip : Bool) (hJ : ∀ p, J (capSig net strip p) = false) (merge : α → α → α) (d : α) (env0 : Nat → α) :
    ∀ (k : Nat) (st : St α), st.s.s0.length = net.sNodes.length → st.s.s1.length = net.sNodes.length →
      Agree ops (tabsOf net strip) st.env env0 →
      (cycleK sem ops (tabsOf net strip) merge d k st).s = iter (stepS sem ops net strip merge d env0) k st.s := by
  intro k st h0 h1 ha
  rw [cycleK_eq_iter]
  exact (iter_rel (cycle1_tracks J sem ops hw net strip hJ merge d env0) k st st.s ⟨rfl, h0, h1, ha⟩).1

theorem iter_stepS_s0 {α} (sem : Op → List α → α) (ops : List Op) (net : Net) (strip : Bool) (merge : α → α → α) (d : α)
    (env : Nat → α) (k : Nat) (s : S α) :
    (iter (stepS sem ops net strip merge d env) k s).s0 = iter (nextState sem ops net strip merge d env) k s.s0 :=
  iter_rel (R := fun (s : S α) (a : List α) => s.s0 = a) (fun _ _ h => by subst h; rfl) k s s.s0 rfl

theorem nextRow_port {α} (net : Net) (strip : Bool) (merge : α → α → α) (sol : Nat → α) (a : List α) (p : Nat)
    (hp : p < net.io.length) : (nextRow net strip merge sol a)[p]? = a[p]? := by
  unfold nextRow
  rw [List.getElem?_mapIdx]
  have : ¬ net.io.length ≤ p := by omega
  simp [this]

theorem iter_nextState_port {α} (sem : Op → List α → α) (ops : List Op) (net : Net) (strip : Bool) (merge : α → α → α) (d : α)
    (env : Nat → α) (k : Nat) (a : List α) (p : Nat) (hp : p < net.io.length) :
    (iter (nextState sem ops net strip merge d env) k a)[p]? = a[p]? :=
  iter_inv (P := fun a' => a'[p]? = a[p]?) (fun a' h => (nextRow_port net strip merge _ a' p hp).trans h) k a rfl

end KV.Cycle
