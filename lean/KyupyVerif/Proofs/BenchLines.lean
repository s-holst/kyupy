import KyupyVerif.Proofs.BenchCirc
/-! Which flat lines a bench description has (`mem_benchL`), who reads what (`any_reader_fork`, `any_reader_cell`,
`reader_fork_line`, `reader_cell_line`), and that every reader end point has exactly one line (`benchL_readers_nodup`) — for
descriptions whose gate names are pairwise different. -/
namespace KV.Netlist
open KV

theorem mem_gateLines (g : BGate) (p : Ep × Ep) :
    p ∈ gateLines g ↔ p = (.cell g.name 0, .fork g.name) ∨ ∃ k, ∃ hk : k < g.drv.length, p = (.fork g.drv[k], .cell g.name k) := by
  unfold gateLines
  rw [List.mem_cons, List.mem_map]
  constructor
  · rintro (h | ⟨q, hq, rfl⟩)
    · exact Or.inl h
    · right
      have := List.mem_zipIdx_iff_getElem?.mp hq
      obtain ⟨hk, hv⟩ := List.getElem?_eq_some_iff.mp this
      exact ⟨q.2, hk, by rw [hv]⟩
  · rintro (h | ⟨k, hk, rfl⟩)
    · exact Or.inl h
    · right
      exact ⟨(g.drv[k], k), List.mem_zipIdx_iff_getElem?.mpr (by simp [List.getElem?_eq_getElem hk]), rfl⟩

theorem mem_benchL (stmts : List BStmt) (p : Ep × Ep) :
    p ∈ benchL stmts ↔ ∃ g ∈ benchGates stmts,
      p = (.cell g.name 0, .fork g.name) ∨ ∃ k, ∃ hk : k < g.drv.length, p = (.fork g.drv[k], .cell g.name k) := by
  unfold benchL
  rw [List.mem_flatMap]
  constructor
  · rintro ⟨g, hg, hp⟩; exact ⟨g, hg, (mem_gateLines g p).mp hp⟩
  · rintro ⟨g, hg, hp⟩; exact ⟨g, hg, (mem_gateLines g p).mpr hp⟩


theorem nodup_map_of_imp {β γ δ} (f : β → γ) (g : β → δ) (hfg : ∀ x y, g x = g y → f x = f y) (l : List β)
    (h : (l.map f).Nodup) : (l.map g).Nodup :=
  nodup_map_of_inj g (fun _ hx _ hy e => inj_of_nodup_map f h hx hy (hfg _ _ e))
    ((List.pairwise_map.mp h).imp fun hne e => hne (congrArg f e))

/-- the hypotheses `benchOKB` packs -/
structure BenchOK (stmts : List BStmt) : Prop where
  nd : ((benchGates stmts).map (·.name)).Nodup
  kinds : ((benchGates stmts).all fun g => g.kind != forkKind) = true

theorem benchOK_of (stmts : List BStmt) (h : benchOKB stmts = true) : BenchOK stmts := by
  unfold benchOKB at h
  rw [Bool.and_eq_true] at h
  exact ⟨(nodupB_iff nodupS rfl (fun _ _ => rfl) _).mp h.1, h.2⟩

theorem BenchOK.gate_eq {stmts : List BStmt} (h : BenchOK stmts) {g g' : BGate} (hg : g ∈ benchGates stmts)
    (hg' : g' ∈ benchGates stmts) (hn : g.name = g'.name) : g = g' :=
  inj_of_nodup_map (·.name) h.nd hg hg' hn

theorem isGateName_iff (stmts : List BStmt) (s : String) : isGateName stmts s = true ↔ ∃ g ∈ benchGates stmts, g.name = s := by
  unfold isGateName
  rw [List.any_eq_true]
  constructor
  · rintro ⟨g, hg, h⟩; exact ⟨g, hg, by simpa using h⟩
  · rintro ⟨g, hg, h⟩; exact ⟨g, hg, by simpa using h⟩

theorem reader_fork_line (stmts : List BStmt) (p : Ep × Ep) (s : String) (hp : p ∈ benchL stmts) (hr : p.2 = .fork s) :
    p = (.cell s 0, .fork s) ∧ isGateName stmts s = true := by
  obtain ⟨g, hg, h | ⟨k, hk, h⟩⟩ := (mem_benchL stmts p).mp hp
  · subst h
    simp only [Ep.fork.injEq] at hr
    subst hr
    exact ⟨rfl, (isGateName_iff _ _).mpr ⟨g, hg, rfl⟩⟩
  · subst h; cases hr

theorem any_reader_fork (stmts : List BStmt) (s : String) :
    ((benchL stmts).any fun p => p.2 == Ep.fork s) = isGateName stmts s := by
  cases hg : isGateName stmts s with
  | true =>
    obtain ⟨g, hg1, hg2⟩ := (isGateName_iff _ _).mp hg
    rw [List.any_eq_true]
    refine ⟨(.cell g.name 0, .fork g.name), (mem_benchL _ _).mpr ⟨g, hg1, Or.inl rfl⟩, by simp [hg2]⟩
  | false =>
    rw [List.any_eq_false]
    intro p hp hr
    have := (reader_fork_line stmts p s hp (by simpa using hr)).2
    rw [hg] at this; cases this

theorem reader_cell_line (stmts : List BStmt) (hok : BenchOK stmts) (g : BGate) (hg : g ∈ benchGates stmts) (p : Ep × Ep) (k : Nat)
    (hp : p ∈ benchL stmts) (hr : p.2 = .cell g.name k) : ∃ hk : k < g.drv.length, p = (.fork g.drv[k], .cell g.name k) := by
  obtain ⟨g', hg', h | ⟨k', hk', h⟩⟩ := (mem_benchL stmts p).mp hp
  · subst h; cases hr
  · subst h
    simp only [Ep.cell.injEq] at hr
    have := hok.gate_eq hg' hg hr.1
    subst this
    obtain ⟨_, rfl⟩ := hr
    exact ⟨hk', rfl⟩

theorem any_reader_cell (stmts : List BStmt) (hok : BenchOK stmts) (g : BGate) (hg : g ∈ benchGates stmts) (k : Nat) :
    ((benchL stmts).any fun p => p.2 == Ep.cell g.name k) = decide (k < g.drv.length) := by
  by_cases hk : k < g.drv.length
  · simp only [hk, decide_true]
    rw [List.any_eq_true]
    exact ⟨(.fork g.drv[k], .cell g.name k), (mem_benchL _ _).mpr ⟨g, hg, Or.inr ⟨k, hk, rfl⟩⟩, by simp⟩
  · simp only [hk, decide_false]
    rw [List.any_eq_false]
    intro p hp hr
    obtain ⟨hk', _⟩ := reader_cell_line stmts hok g hg p k hp (by simpa using hr)
    exact hk hk'

theorem gateLines_readers (g : BGate) :
    ((gateLines g).map (·.2)).Nodup ∧ ∀ e ∈ (gateLines g).map (·.2), e = .fork g.name ∨ ∃ j, e = .cell g.name j := by
  have h1 : (g.drv.zipIdx.map fun p => Ep.cell g.name p.2).Nodup := by
    have : (g.drv.zipIdx.map fun p => Ep.cell g.name p.2) = (List.range' 0 g.drv.length).map (Ep.cell g.name) := by
      rw [← List.zipIdx_map_snd, List.map_map]; rfl
    rw [this]
    exact nodup_map_of_inj _ (fun _ _ _ _ e => by simpa using e) List.nodup_range'
  have h2 : ∀ e ∈ g.drv.zipIdx.map (fun p => Ep.cell g.name p.2), ∃ j, e = .cell g.name j := fun e he => by
    obtain ⟨p, _, rfl⟩ := List.mem_map.mp he
    exact ⟨p.2, rfl⟩
  simp only [gateLines, List.map_cons, List.map_map, Function.comp_def]
  refine ⟨List.nodup_cons.mpr ⟨?_, h1⟩, ?_⟩
  · intro hm
    obtain ⟨j, he⟩ := h2 _ hm
    cases he
  · intro e he
    rcases List.mem_cons.mp he with rfl | he
    · exact Or.inl rfl
    · exact Or.inr (h2 e he)

theorem flatMap_readers_nodup : ∀ (G : List BGate), (G.map (·.name)).Nodup → ((G.flatMap gateLines).map (·.2)).Nodup
  | [], _ => List.nodup_nil
  | g :: r, h => by
    simp only [List.map_cons, List.nodup_cons] at h
    simp only [List.flatMap_cons, List.map_append]
    rw [List.nodup_append]
    refine ⟨(gateLines_readers g).1, flatMap_readers_nodup r h.2, ?_⟩
    intro a ha b hb hab
    subst hab
    obtain ⟨q, hq, hqa⟩ := List.mem_map.mp hb
    obtain ⟨g', hg', hq'⟩ := List.mem_flatMap.mp hq
    have hb' := (gateLines_readers g').2 a (List.mem_map.mpr ⟨q, hq', hqa⟩)
    have ha' := (gateLines_readers g).2 a ha
    have hne : g.name ≠ g'.name := fun e => h.1 (e ▸ List.mem_map.mpr ⟨g', hg', rfl⟩)
    rcases ha' with rfl | ⟨j, rfl⟩
    · rcases hb' with e | ⟨j', e⟩
      · simp only [Ep.fork.injEq] at e; exact hne e
      · cases e
    · rcases hb' with e | ⟨j', e⟩
      · cases e
      · simp only [Ep.cell.injEq] at e; exact hne e.1

theorem benchL_readers_nodup (stmts : List BStmt) (hok : BenchOK stmts) : ((benchL stmts).map (·.2)).Nodup :=
  flatMap_readers_nodup _ hok.nd

end KV.Netlist
