import KyupyVerif.Proofs.SelectSpec
import KyupyVerif.Model.BenchSem
/-! Inside the arity domain (`benchArityB`: at most four operands per combinational gate
statement) the four-operand reading `gateVal` of the specification evaluator — which is what the real simulator computes — IS the
n-ary reading `gateFunN` (the family's operator over ALL operands). -/
namespace KV.Netlist
open KV

def lists4 : List (List Bool) :=
  [[]] ++ (bools.map fun a => [a]) ++ (bools.flatMap fun a => bools.map fun b => [a, b]) ++
  (bools.flatMap fun a => bools.flatMap fun b => bools.map fun c => [a, b, c]) ++
  (bools.flatMap fun a => bools.flatMap fun b => bools.flatMap fun c => bools.map fun d => [a, b, c, d])

theorem mem_lists4 (xs : List Bool) (h : xs.length ≤ 4) : xs ∈ lists4 := by
  match xs, h with
  | [], _ => decide
  | [a], _ => cases a <;> decide
  | [a, b], _ => cases a <;> cases b <;> decide
  | [a, b, c], _ => cases a <;> cases b <;> cases c <;> decide
  | [a, b, c, d], _ => cases a <;> cases b <;> cases c <;> cases d <;> decide
  | _ :: _ :: _ :: _ :: _ :: _, h => simp at h

def famFunN (z : Bool) (f : String × String × String × String) (xs : List Bool) : Bool :=
  if f.1 == "and" then (padTwo z xs).all id
  else if f.1 == "nand" then !(padTwo z xs).all id
  else if f.1 == "or" then (padTwo z xs).any id
  else if f.1 == "nor" then !(padTwo z xs).any id
  else if f.1 == "xor" then (padTwo z xs).foldl Bool.xor false
  else if f.1 == "xnor" then !(padTwo z xs).foldl Bool.xor false
  else prim2 f.2.2.2 (xs.getD 0 z) (xs.getD 1 z) (xs.getD 2 z) (xs.getD 3 z)

def famFun4 (z : Bool) (f : String × String × String × String) (xs : List Bool) : Bool :=
  prim2 (if 3 < xs.length then f.2.1 else if 2 < xs.length then f.2.2.1 else f.2.2.2)
    (xs.getD 0 z) (xs.getD 1 z) (xs.getD 2 z) (xs.getD 3 z)

theorem fam_check : (specFamilies.all fun f => bools.all fun z => lists4.all fun xs => famFunN z f xs == famFun4 z f xs) = true := by
  decide +kernel

theorem gateFunN_def (z : Bool) (lk : String) (xs : List Bool) :
    gateFunN z lk xs = match specFamily lk with | none => z | some f => famFunN z f xs := by
  unfold gateFunN famFunN
  cases specFamily lk <;> rfl

theorem gateFunN_eq (z : Bool) (lk : String) (xs : List Bool) (h : xs.length ≤ 4) :
    gateFunN z lk xs = match specPrimName lk (decide (2 < xs.length)) (decide (3 < xs.length)) with
      | some name => prim2 name (xs.getD 0 z) (xs.getD 1 z) (xs.getD 2 z) (xs.getD 3 z)
      | none => z := by
  rw [gateFunN_def]
  unfold specPrimName
  cases hf : specFamily lk with
  | none => rfl
  | some f =>
    have hmem : f ∈ specFamilies := by
      rw [specFamily_eq_find] at hf
      exact List.mem_of_find?_eq_some hf
    have hz : z ∈ bools := by cases z <;> decide
    have := List.all_eq_true.mp (List.all_eq_true.mp (List.all_eq_true.mp fam_check f hmem) z hz) xs (mem_lists4 xs h)
    simp only [beq_iff_eq] at this
    simp only [Option.map_some]
    rw [this]
    simp only [famFun4]
    by_cases h3 : 3 < xs.length
    · simp [h3]
    · by_cases h2 : 2 < xs.length <;> simp [h3, h2]

theorem getD_map_sigma (σ : String → Bool) (z : Bool) (drv : List String) (i : Nat) :
    (drv.map σ).getD i z = (match drv[i]? with | some d => σ d | none => z) := by
  simp only [List.getD, List.getElem?_map]
  cases drv[i]? <;> rfl

theorem gateVal_eq_nary (z : Bool) (kind : String) (drv : List String) (σ : String → Bool) (h : drv.length ≤ 4) :
    gateVal z prim2 kind drv σ = gateFunN z kind.toLower (drv.map σ) := by
  rw [gateFunN_eq z _ _ (by simpa using h)]
  unfold gateVal
  simp only [List.length_map, getD_map_sigma]
  rfl

/-- the four-operand reading is the one of `C11.bench_parsed_sem` / `C11.bench_end_to_end`: what the simulator computes -/
theorem benchModelN_iff (stmts : List BStmt) (har : benchArityB stmts = true) (z : Bool) (a : Nat → Bool) (σ : String → Bool) :
    BenchModelN stmts z a σ ↔ BenchModel stmts z prim2 a σ := by
  have hg : ∀ g ∈ benchGates stmts, stmtValN stmts z a g σ = stmtVal stmts z prim2 a g σ := by
    intro g hg
    unfold stmtValN stmtVal
    have := List.all_eq_true.mp har g hg
    by_cases hs : isSeqKind g.kind = true
    · simp [hs]
    · simp only [hs, Bool.false_or, decide_eq_true_eq] at this
      simp only [hs, Bool.false_eq_true, if_false]
      exact (gateVal_eq_nary z g.kind g.drv σ this).symm
  unfold BenchModelN BenchModel
  constructor
  · intro ⟨h1, h2⟩; exact ⟨fun g hm => by rw [h1 g hm, hg g hm], h2⟩
  · intro ⟨h1, h2⟩; exact ⟨fun g hm => by rw [h1 g hm, hg g hm], h2⟩

end KV.Netlist
