import KyupyVerif.Proofs.GridLanes
/-! CPU vs GPU-kernel code path of the propagation (`level_eval_cpu` vs `wave_eval_gpu`, `c_prop` of both classes):
thread = loop body, level = level, `c_prop` = `c_prop`, for every evaluator function, op table, level table, lane count
and block shape. -/
namespace KV.WaveIO
open KV.Grid

def evalWork (ev : Ev) (ops : List AOp) (opStart : Nat) (x y : Nat) : LaneSt → LaneSt :=
  cpuBody ev (ops.getD (opStart + y) default) x

theorem gpuEvalThread_eq (ev : Ev) (ops : List AOp) (opStart opStop simStart simStop x y : Nat) (S : Nat → LaneSt) :
    gpuEvalThread ev ops opStart opStop simStart simStop x y S =
      if simStart + x < simStop ∧ opStart + y < opStop then
        onLane S (simStart + x) (cpuBody ev (ops.getD (opStart + y) default) (simStart + x))
      else S := by
  unfold gpuEvalThread
  by_cases h1 : simStart + x ≥ simStop
  · have : ¬ (simStart + x < simStop ∧ opStart + y < opStop) := by omega
    simp only [h1, if_true, this, if_false]
  · by_cases h2 : opStart + y ≥ opStop
    · have : ¬ (simStart + x < simStop ∧ opStart + y < opStop) := by omega
      simp only [h1, h2, if_true, if_false, this]
    · have : simStart + x < simStop ∧ opStart + y < opStop := by omega
      simp only [h1, h2, if_false, this, and_self, if_true]
      rfl

theorem foldl_range'_shift {β} (f : β → Nat → β) (a n : Nat) (s : β) :
    (List.range' a n).foldl f s = (List.range n).foldl (fun s y => f s (a + y)) s := by
  rw [List.range'_eq_map_range, List.foldl_map]

/-- the two nested loops of `level_eval_cpu` (with `sim_start = 0`) visit the work items in the order `Grid.cpuLoop` -/
theorem cpuLevel_eq_runLanes (ev : Ev) (ops : List AOp) (opStart opStop sims : Nat) (S : Nat → LaneSt) :
    cpuLevel ev ops opStart opStop 0 sims S = runLanes (evalWork ev ops opStart) (cpuLoop sims (opStop - opStart)) S := by
  unfold cpuLevel runLanes cpuLoop
  rw [List.foldl_flatMap, foldl_range'_shift]
  congr 1
  funext S y
  rw [List.foldl_map, Nat.sub_zero, ← List.range_eq_range']
  rfl

theorem cpuLevel_lane (ev : Ev) (ops : List AOp) (opStart opStop sims : Nat) (S : Nat → LaneSt) (k : Nat) :
    cpuLevel ev ops opStart opStop 0 sims S k =
      if k < sims then (List.range (opStop - opStart)).foldl (fun st y => evalWork ev ops opStart k y st) (S k) else S k := by
  rw [cpuLevel_eq_runLanes, runLanes_cpuLoop]

/-- **a whole level.** The kernel launch (every block shape) leaves the same `c` and `abuf` as the CPU loops — all lanes,
    all cells, stale ones included — for every evaluator, every op table and every level range, without any
    assumption on the ops of the level (the mock launcher keeps the op order within each lane). -/
theorem gpuLevel_eq_cpuLevel (ev : Ev) (ops : List AOp) (opStart opStop sims bx by_ : Nat) (hbx : 0 < bx) (hby : 0 < by_)
    (S : Nat → LaneSt) : gpuLevel ev ops opStart opStop sims bx by_ S = cpuLevel ev ops opStart opStop 0 sims S := by
  funext k
  rw [cpuLevel_lane]
  refine launch_lanes (gpuEvalThread ev ops opStart opStop 0 sims) (evalWork ev ops opStart) sims (opStop - opStart) bx by_
    hbx hby ?_ ?_ S k
  · intro x y S hx hy
    rw [gpuEvalThread_eq, Nat.zero_add, if_pos ⟨hx, by omega⟩]
    rfl
  · intro x y S h
    rw [gpuEvalThread_eq, Nat.zero_add, if_neg (by omega)]

theorem gpuCProp_eq_cpuCProp (ev : Ev) (ops : List AOp) (levels : List (Nat × Nat)) (sims bx by_ : Nat)
    (hbx : 0 < bx) (hby : 0 < by_) (S : Nat → LaneSt) :
    gpuCProp ev ops levels sims bx by_ S = cpuCProp ev ops levels sims S := by
  unfold gpuCProp cpuCProp
  induction levels generalizing S with
  | nil => rfl
  | cons lv r ih =>
    simp only [List.foldl_cons]
    rw [gpuLevel_eq_cpuLevel ev ops lv.1 lv.2 sims bx by_ hbx hby]
    exact ih _

/-- the op rows in the order `c_prop` runs them on a lane: the levels in order, within a level `op_start … op_stop - 1` -/
def sched (ops : List AOp) (levels : List (Nat × Nat)) : List AOp :=
  levels.flatMap fun lv => (List.range (lv.2 - lv.1)).map fun y => ops.getD (lv.1 + y) default

def laneRun (ev : Ev) (sim : Nat) (rows : List AOp) (st : LaneSt) : LaneSt :=
  rows.foldl (fun st o => cpuBody ev o sim st) st

/-- **a whole `c_prop` seen from one lane**: lane `k < sims` (the `k` of `c_prop(sims=k)`) gets the rows of all levels in schedule
    order, applied to that lane's state alone; the other lanes are not touched. Lane position, lane count, lane permutation and data
    sets (C06), accumulated activity (C13) and the memory-level soundness of a propagation (C03) are read off this form. -/
theorem cpuCProp_lane (ev : Ev) (ops : List AOp) (levels : List (Nat × Nat)) (sims : Nat) (S : Nat → LaneSt) (k : Nat) :
    cpuCProp ev ops levels sims S k = if k < sims then laneRun ev k (sched ops levels) (S k) else S k := by
  unfold cpuCProp sched laneRun
  induction levels generalizing S with
  | nil => simp
  | cons lv r ih =>
    simp only [List.foldl_cons, List.flatMap_cons, List.foldl_append]
    rw [ih, cpuLevel_lane]
    split
    · rw [List.foldl_map]; rfl
    · rfl

theorem laneRun_congr (ev ev' : Ev) (j j' : Nat) (hev : ∀ o c, ev o j c = ev' o j' c) (rows : List AOp) (st : LaneSt) :
    laneRun ev j rows st = laneRun ev' j' rows st := by
  unfold laneRun
  congr 1
  funext st o
  simp only [cpuBody, hev]

end KV.WaveIO
