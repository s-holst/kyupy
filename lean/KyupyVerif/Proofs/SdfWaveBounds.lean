import KyupyVerif.Model.SdfWave
import KyupyVerif.Proofs.Sdf
/-! Timing data path, bounds on the annotated arrays: those of a file without negative numbers are non-negative (hypothesis
`delays ≥ 0` of the waveform theorems); a line outside a table's range is not written. -/
namespace KV.SdfWave
open KV.Sdf

def TripleNN (t : Triple) : Prop := ∀ v ∈ t, 0 ≤ v
def EntryNN (e : Entry) : Prop := TripleNN e.r ∧ TripleNN e.f
def WNN (w : W) : Prop := TripleNN w.r ∧ TripleNN w.f

theorem getD_nonneg (t : Triple) (h : TripleNN t) (d : Nat) : 0 ≤ t.getD d 0 := by
  rw [List.getD_eq_getElem?_getD]
  cases hx : t[d]? with
  | none => exact Int.le_refl 0
  | some v => exact h v (List.mem_of_getElem? hx)

theorem norm_nonneg (t : Triple) (h : TripleNN t) : TripleNN (norm t) := by
  unfold norm
  split
  · exact h
  · intro v hv
    simp only [List.mem_cons, List.not_mem_nil, or_false] at hv
    rcases hv with rfl | rfl | rfl <;> exact Int.le_refl 0

theorem W.val_nonneg (w : W) (h : WNN w) (op : Bool) (d : Nat) : 0 ≤ w.val op d := by
  unfold W.val
  cases op
  · exact getD_nonneg _ h.1 d
  · exact getD_nonneg _ h.2 d

theorem writes_nonneg {α : Type} (write : α → Option W) (items : List α) (d l : Nat) (ip op : Bool)
    (h : ∀ p ∈ items, ∀ w, write p = some w → WNN w) : 0 ≤ applyAll (items.filterMap write) d l ip op := by
  rw [applyAll_eq]
  split
  · cases hf : (items.filterMap write).reverse.find? (·.covers l ip) with
    | none => exact Int.le_refl 0
    | some w =>
      obtain ⟨p, hp, hpw⟩ := List.mem_filterMap.mp (List.mem_reverse.mp (List.mem_of_find?_eq_some hf))
      exact W.val_nonneg w (h p hp w hpw) op d
  · exact Int.le_refl 0

def RawEntryNN (x : RawEntry) : Prop := ∀ t ∈ x.vals, ∀ o ∈ t, 0 ≤ o.getD 0

theorem triple_nonneg (t : RawTriple) (h : ∀ o ∈ t, 0 ≤ o.getD 0) : TripleNN (triple t) := by
  intro v hv
  obtain ⟨o, ho, rfl⟩ := List.mem_map.mp hv
  exact h o ho

theorem sanitize_nonneg (x : RawEntry) (h : RawEntryNN x) : EntryNN (sanitize x) := by
  unfold sanitize
  have hm : ∀ u ∈ x.vals.map triple, TripleNN u := by
    intro u hu
    obtain ⟨t, ht, rfl⟩ := List.mem_map.mp hu
    exact triple_nonneg t (h t ht)
  split
  · rename_i t heq
    have := hm t (by rw [heq]; exact List.mem_cons_self)
    exact ⟨this, this⟩
  · rename_i r f rest heq
    exact ⟨hm r (by rw [heq]; exact List.mem_cons_self),
      hm f (by rw [heq]; exact List.mem_cons_of_mem _ List.mem_cons_self)⟩
  · exact ⟨fun v hv => absurd hv List.not_mem_nil, fun v hv => absurd hv List.not_mem_nil⟩

theorem rawNonneg_spec (B : List RawCell) (h : rawNonneg B = true) :
    ∀ c ∈ B, ∀ x ∈ c.delays.flatten, RawEntryNN x := by
  intro c hc x hx t ht o ho
  simp only [rawNonneg, List.all_eq_true, decide_eq_true_eq] at h
  exact h c hc x hx t ht o ho

theorem iopaths_nonneg (m : Mode) (pinLine : PinTable) (B : List RawCell) (h : rawNonneg B = true)
    (d l : Nat) (ip op : Bool) : 0 ≤ iopaths pinLine (parse m B) d l ip op := by
  have hs := rawNonneg_spec B h
  refine writes_nonneg _ _ d l ip op fun p hmem w hwe => ?_
  obtain ⟨c, hc, _, x, hx, hxe⟩ := mem_namedEntries_origin m B p.1 p.2 hmem
  obtain ⟨_, _, rfl⟩ := ioWrite_eq_some.mp hwe
  have := hxe ▸ sanitize_nonneg x (hs c hc x hx)
  exact ⟨norm_nonneg _ this.1, norm_nonneg _ this.2⟩

theorem interconnects_nonneg (m : Mode) (icLine : IcTable) (B : List RawCell) (h : rawNonneg B = true)
    (ic : Arr) (hic : interconnects icLine (parse m B) = some ic) (d l : Nat) (ip op : Bool) : 0 ≤ ic d l ip op := by
  have hs := rawNonneg_spec B h
  obtain ⟨es, hes, rfl⟩ := Option.map_eq_some_iff.mp hic
  refine writes_nonneg _ _ d l ip op fun e hmem w hwe => ?_
  obtain ⟨c, hc, x, hx, rfl⟩ := icEntries_origin m B es hes e hmem
  have hnn := sanitize_nonneg x (hs c hc x hx)
  obtain ⟨_, _, _, rfl⟩ := icWrite_eq_some.mp hwe
  exact ⟨norm_nonneg _ hnn.1, norm_nonneg _ hnn.2⟩

theorem sdfDelay_nonneg (m : Mode) (pinLine : PinTable) (icLine : IcTable) (B : List RawCell) (h : rawNonneg B = true)
    (d : Nat) (del : Nat → Bool → Bool → Int) (hdel : sdfDelay pinLine icLine (parse m B) d = some del) :
    ∀ l ip op, 0 ≤ del l ip op := by
  obtain ⟨ic, hic, rfl⟩ := Option.map_eq_some_iff.mp hdel
  intro l ip op
  have h1 := iopaths_nonneg m pinLine B h d l ip op
  have h2 := interconnects_nonneg m icLine B h ic hic d l ip op
  exact Int.add_nonneg h1 h2

theorem interconnects_zero_of_table (icLine : IcTable) (df : DelayFile) (ic : Arr)
    (hic : interconnects icLine df = some ic) (l d : Nat) (ip op : Bool)
    (h : ∀ c1 p1 c2 p2, icLine c1 p1 c2 p2 ≠ some l) : ic d l ip op = 0 := by
  obtain ⟨es, _, rfl⟩ := Option.map_eq_some_iff.mp hic
  refine writes_zero _ _ d l ip op fun e _ w hw => Bool.eq_false_iff.mpr fun hc => ?_
  obtain ⟨_, l', hl', rfl⟩ := icWrite_eq_some.mp hw
  have hl : l' = l := (icWrite_covers hw l ip).mp hc
  exact h _ _ _ _ (hl ▸ hl')

theorem iopaths_zero_of_table (pinLine : PinTable) (df : DelayFile) (l d : Nat) (ip op : Bool)
    (h : ∀ c p, pinLine c p ≠ some l) : iopaths pinLine df d l ip op = 0 :=
  writes_zero _ _ d l ip op fun _ _ _ hw => Bool.eq_false_iff.mpr fun hc => h _ _ ((ioWrite_covers hw l ip).mp hc).1

end KV.SdfWave
