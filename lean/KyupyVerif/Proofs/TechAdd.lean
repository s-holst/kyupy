import KyupyVerif.Proofs.TechCells
/-! kernel evaluation of the C19 function checker on the half and full adders of all chunks -/
namespace KV.Tech
open KV.TL KV.DS

theorem adders_lanes : ∀ ch ∈ Gen.techChunks, ch.all (funOKL (·.isAdder)) = true := by decide +kernel

theorem adders : ∀ ch ∈ Gen.techChunks, ch.all (funOK (·.isAdder)) = true := fun ch hch =>
  List.all_eq_true.mpr fun c hc => funOK_of_lanes (List.all_eq_true.mp (adders_lanes ch hch) c hc)

end KV.Tech
