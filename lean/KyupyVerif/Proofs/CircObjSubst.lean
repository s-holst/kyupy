import KyupyVerif.Proofs.CircObjCalls
/-! C09: `substitute` preserves `WFc0` under `substPre0` (kinds, no self loop, the run-time pin guards), and `WFc` when in
addition the fork outputs of the result are gap-free (`substPre`); `resolve_tlib_cells`.  After the loop over the
implementation nodes `substitute` runs the static list of calls `substCalls` (Proofs/CircObjCalls.lean): the bodies of its next
three loops are `callLine`, `callIn`, `callOut`, their three folds are `foldO Call.run c2 (substCalls …)` (`substCalls_run`) and
the three guarded folds of `substGuards` are `foldG Call.run Call.guard c2 (substCalls …)` (`substCalls_guards`). -/
namespace KV.CircObj
open Call

theorem nmFind_mem {m : Circ} {nm : NMap} {n v : Nat} (h : nmFind m nm n = some v) : ∃ e ∈ nm, e.2 = v := by
  unfold nmFind at h
  simp only [Option.map_eq_some_iff] at h
  obtain ⟨e, he, rfl⟩ := h
  exact ⟨e, List.mem_of_find?_eq_some he, rfl⟩

theorem nmSet_mem {m : Circ} {nm : NMap} {n v : Nat} {e : Nat × Nat} (h : e ∈ nmSet m nm n v) : e ∈ nm ∨ e.2 = v := by
  unfold nmSet at h
  split at h
  · simp only [List.mem_map] at h
    obtain ⟨e0, he0, rfl⟩ := h
    split
    · exact Or.inr rfl
    · exact Or.inl he0
  · simp only [List.mem_append, List.mem_singleton] at h
    rcases h with h | h
    · exact Or.inl h
    · exact Or.inr (by rw [h])

theorem zip_padTo_filterMap {A : List Nat} {L : Pins} (hlen : L.length ≤ A.length) :
    (A.zip (padTo L A.length)).filterMap (·.2) = L.filterMap id := by
  rw [zip_snd_filterMap _ _ (by simp [padTo]; omega)]
  simp [padTo, List.filterMap_append]

/-- state of the loop `for n in impl.nodes`: the circuit with the pending lines of the substituted node, and every
value of `node_map` is a node of the circuit -/
structure CopyInv (PI PO : Nat → Prop) (c : Circ) (nm : NMap) : Prop where
  s : SInv c PI PO
  nm : ∀ e ∈ nm, e.2 ∈ c.nodes

theorem addImplNode_cases {m : Circ} {hostName : String} {des : Option Nat} {st st' : Circ × NMap} {n : Nat}
    (h : addImplNode m hostName des st n = some st') :
    st' = st ∨ ∃ kind, nameFree st.1 (hostName ++ "~" ++ (m.nobj n).name) kind = true ∧
      st' = (addNode st.1 (hostName ++ "~" ++ (m.nobj n).name) kind, nmSet m st.2 n st.1.nextN) ∧
      (inIos m n = true → forkCond m n = true) ∧
      (inIos m n = false → ∀ dn, des = some dn → sameNode (m.nobj n) (m.nobj dn) = false) := by
  have key : ∀ kind, (if nameFree st.1 (hostName ++ "~" ++ (m.nobj n).name) kind = true then
        some (addNode st.1 (hostName ++ "~" ++ (m.nobj n).name) kind, nmSet m st.2 n st.1.nextN) else none) = some st' →
      nameFree st.1 (hostName ++ "~" ++ (m.nobj n).name) kind = true ∧
      st' = (addNode st.1 (hostName ++ "~" ++ (m.nobj n).name) kind, nmSet m st.2 n st.1.nextN) := by
    intro kind hk
    split at hk
    · rename_i hf; cases hk; exact ⟨hf, rfl⟩
    · cases hk
  unfold addImplNode at h
  simp only at h
  by_cases hio : inIos m n = true
  · simp only [hio, Bool.not_true, Bool.false_eq_true, if_false] at h
    split at h
    · rename_i hc
      exact Or.inr ⟨_, (key _ h).1, (key _ h).2, fun _ => by unfold forkCond; simp only [hc, Bool.true_or], fun h' => by simp [hio] at h'⟩
    · split at h
      · rename_i hc
        exact Or.inr ⟨_, (key _ h).1, (key _ h).2, fun _ => by unfold forkCond; simp only [hc, Bool.or_true], fun h' => by simp [hio] at h'⟩
      · cases h; exact Or.inl rfl
  · simp only [hio, Bool.not_false, if_true] at h
    cases des with
    | none =>
      simp only [if_true] at h
      exact Or.inr ⟨_, (key _ h).1, (key _ h).2, fun h' => absurd h' hio, fun _ dn hd => by cases hd⟩
    | some dn =>
      simp only at h
      split at h
      · rename_i hs
        refine Or.inr ⟨_, (key _ h).1, (key _ h).2, fun h' => absurd h' hio, fun _ dn' hd => ?_⟩
        cases hd
        simpa using hs
      · cases h; exact Or.inl rfl

theorem addImplNode_inv {PI PO} {m : Circ} {hostName : String} {des : Option Nat} {st st' : Circ × NMap} {n : Nat}
    (inv : CopyInv PI PO st.1 st.2) (h : addImplNode m hostName des st n = some st') : CopyInv PI PO st'.1 st'.2 := by
  rcases addImplNode_cases h with rfl | ⟨kind, hfree, rfl, _, _⟩
  · exact inv
  · refine ⟨addNode_sinv inv.s hfree, ?_⟩
    intro e he
    show e.2 ∈ st.1.nodes ++ [st.1.nextN]
    rcases nmSet_mem he with h1 | h1
    · exact List.mem_append_left _ (inv.nm e h1)
    · rw [h1]; simp

theorem implLineEnds_some {m : Circ} {nm : NMap} {l D dp R rp : Nat} (h : implLineEnds m nm l = some (D, dp, R, rp)) :
    ∃ d r, (m.lobj l).driver = some d ∧ (m.lobj l).reader = some r ∧ nmFind m nm d = some D ∧ nmFind m nm r = some R ∧
      dp = (m.lobj l).driverPin ∧ rp = (m.lobj l).readerPin := by
  unfold implLineEnds at h
  cases hr : (m.lobj l).reader with
  | none => simp [hr] at h
  | some r =>
    cases hd : (m.lobj l).driver with
    | none => simp [hr, hd] at h
    | some d =>
      simp only [hr, hd] at h
      cases h1 : nmFind m nm r with
      | none => simp [h1] at h
      | some R' =>
        cases h2 : nmFind m nm d with
        | none => simp [h1, h2] at h
        | some D' =>
          simp only [h1, h2, Option.some.injEq, Prod.mk.injEq] at h
          obtain ⟨rfl, e2, rfl, e4⟩ := h
          exact ⟨d, r, rfl, rfl, h2, h1, e2.symm, e4.symm⟩

theorem inTarget_mem {m : Circ} {nm : NMap} {inn R rp : Nat} (h : inTarget m nm inn = some (R, rp)) : ∃ e ∈ nm, e.2 = R := by
  unfold inTarget at h
  simp only at h
  split at h
  · split at h
    · split at h
      · simp only [Option.map_eq_some_iff, Prod.mk.injEq] at h
        obtain ⟨a, ha, rfl, _⟩ := h
        exact nmFind_mem ha
      · cases h
    · cases h
  · simp only [Option.map_eq_some_iff, Prod.mk.injEq] at h
    obtain ⟨a, ha, rfl, _⟩ := h
    exact nmFind_mem ha

theorem outTarget_mem {m : Circ} {nm : NMap} {l D dp : Nat} (h : outTarget m nm l = some (D, dp)) : ∃ e ∈ nm, e.2 = D := by
  unfold outTarget at h
  split at h
  · cases h
  · split at h
    · simp only [Option.map_eq_some_iff, Prod.mk.injEq] at h
      obtain ⟨a, ha, rfl, _⟩ := h
      exact nmFind_mem ha
    · split at h
      · simp only [Option.map_eq_some_iff, Prod.mk.injEq] at h
        obtain ⟨a, ha, rfl, _⟩ := h
        exact nmFind_mem ha
      · cases h


/-! ## the bodies of the loops over the implementation lines and the instance pins, as calls -/
def callLine (m : Circ) (nm : NMap) (l : Nat) : Call :=
  match implLineEnds m nm l with
  | some (D, dp, R, rp) => .addLine D dp R rp
  | none => .skip

def callIn (m : Circ) (nm : NMap) (p : Nat × Option Nat) : Call :=
  match p.2 with
  | none => .skip
  | some ll =>
    if (m.nobj p.1).outs.length == 0 then .dropInput ll
    else match inTarget m nm p.1 with
      | none => .raise (some ll) none
      | some (R, rp) => .setReader ll R rp

def callOut (m : Circ) (nm : NMap) (p : Nat × Option Nat) : Call :=
  match p.2 with
  | none => .skip
  | some ll =>
    match outTarget m nm p.1 with
    | none => .raise none (some ll)
    | some (D, dp) => .setDriver ll D dp

section
variable (m : Circ) (nm : NMap)

theorem callLine_run (c : Circ) (l : Nat) : addImplLine m nm c l = (callLine m nm l).run c := by
  unfold addImplLine callLine; split <;> simp_all [Call.run]
theorem callLine_guard (c : Circ) (l : Nat) : gImplLine m nm c l = (callLine m nm l).guard c := by
  unfold gImplLine callLine; split <;> simp_all [Call.guard, outWrite, inWrite]
theorem callIn_run (c : Circ) (p : Nat × Option Nat) : connectIn m nm c p = (callIn m nm p).run c := by
  unfold connectIn callIn; repeat' split
  all_goals simp_all [Call.run]
theorem callIn_guard (c : Circ) (p : Nat × Option Nat) : gConnectIn m nm c p = (callIn m nm p).guard c := by
  unfold gConnectIn callIn; repeat' split
  all_goals simp_all [Call.guard, outWrite, inWrite]
theorem callOut_run (st : Circ × List Nat) (p : Nat × Option Nat) :
    (connectOut m nm st p).map Prod.fst = (callOut m nm p).run st.1 := by
  unfold connectOut callOut; repeat' split
  all_goals simp_all [Call.run]
theorem callOut_guard (st : Circ × List Nat) (p : Nat × Option Nat) : gConnectOut m nm st p = (callOut m nm p).guard st.1 := by
  unfold gConnectOut callOut; repeat' split
  all_goals simp_all [Call.guard, outWrite, inWrite]

theorem callLine_lines (l : Nat) : (callLine m nm l).inLine = none ∧ (callLine m nm l).outLine = none := by
  unfold callLine; split <;> exact ⟨rfl, rfl⟩
theorem callIn_lines (p : Nat × Option Nat) : (callIn m nm p).inLine = p.2 ∧ (callIn m nm p).outLine = none := by
  unfold callIn; repeat' split
  all_goals simp_all [inLine, outLine]
theorem callOut_lines (p : Nat × Option Nat) : (callOut m nm p).inLine = none ∧ (callOut m nm p).outLine = p.2 := by
  unfold callOut; repeat' split
  all_goals simp_all [inLine, outLine]
theorem callIn_outWrite (p : Nat × Option Nat) : (callIn m nm p).outWrite = none := by
  unfold callIn; repeat' split
  all_goals rfl
theorem callOut_inWrite (p : Nat × Option Nat) : (callOut m nm p).inWrite = none := by
  unfold callOut; repeat' split
  all_goals rfl
end

section
variable {m : Circ} {nm : NMap}

theorem callLine_outWrite {l D dp : Nat} (h : (callLine m nm l).outWrite = some (D, dp)) :
    ∃ R rp, implLineEnds m nm l = some (D, dp, R, rp) := by
  unfold callLine at h; split at h <;> simp_all [outWrite]
theorem callLine_inWrite {l R rp : Nat} (h : (callLine m nm l).inWrite = some (R, rp)) :
    ∃ D dp, implLineEnds m nm l = some (D, dp, R, rp) := by
  unfold callLine at h; split at h <;> simp_all [inWrite]
theorem callIn_inWrite {p : Nat × Option Nat} {w : Nat × Nat} (h : (callIn m nm p).inWrite = some w) :
    inTarget m nm p.1 = some w := by
  unfold callIn at h; repeat' split at h
  all_goals simp_all [inWrite]
theorem callOut_outWrite {p : Nat × Option Nat} {w : Nat × Nat} (h : (callOut m nm p).outWrite = some w) :
    outTarget m nm p.1 = some w := by
  unfold callOut at h; repeat' split at h
  all_goals simp_all [outWrite]
end

/-- everything `substitute` does between the loop over the implementation nodes and the densifying loop -/
def substCalls (m : Circ) (nm : NMap) (ins outs : List (Nat × Option Nat)) : List Call :=
  m.lines.map (callLine m nm) ++ (ins.map (callIn m nm) ++ outs.map (callOut m nm))

theorem substCalls_lines (m : Circ) (nm : NMap) (ins outs : List (Nat × Option Nat)) :
    (substCalls m nm ins outs).filterMap inLine = ins.filterMap (·.2) ∧
    (substCalls m nm ins outs).filterMap outLine = outs.filterMap (·.2) := by
  simp [substCalls, List.filterMap_append, List.filterMap_map, Function.comp_def, callLine_lines, callIn_lines, callOut_lines,
    filterMap_none]

theorem substCalls_img {m : Circ} {nm : NMap} {ins outs : List (Nat × Option Nat)} {k : Call} (hk : k ∈ substCalls m nm ins outs)
    {w : Nat × Nat} (hw : k.outWrite = some w ∨ k.inWrite = some w) : ∃ e ∈ nm, e.2 = w.1 := by
  obtain ⟨v, p⟩ := w
  simp only [substCalls, List.mem_append, List.mem_map] at hk
  rcases hk with ⟨l, _, rfl⟩ | ⟨q, _, rfl⟩ | ⟨q, _, rfl⟩
  · rcases hw with hw | hw
    · obtain ⟨R, rp, he⟩ := callLine_outWrite hw
      obtain ⟨_, _, _, _, hD, _⟩ := implLineEnds_some he; exact nmFind_mem hD
    · obtain ⟨D, dp, he⟩ := callLine_inWrite hw
      obtain ⟨_, _, _, _, _, hR, _⟩ := implLineEnds_some he; exact nmFind_mem hR
  · rcases hw with hw | hw
    · rw [callIn_outWrite] at hw; cases hw
    · exact inTarget_mem (callIn_inWrite hw)
  · rcases hw with hw | hw
    · exact outTarget_mem (callOut_outWrite hw)
    · rw [callOut_inWrite] at hw; cases hw

section
variable (m : Circ) (nm : NMap) (ins outs : List (Nat × Option Nat))

theorem lines_calls (c : Circ) : foldO (addImplLine m nm) c m.lines = foldO Call.run c (m.lines.map (callLine m nm)) := by
  simpa using foldO_calls id (addImplLine m nm) (callLine m nm) (fun s a => by simp [callLine_run]) m.lines c
theorem ins_calls (c : Circ) : foldO (connectIn m nm) c ins = foldO Call.run c (ins.map (callIn m nm)) := by
  simpa using foldO_calls id (connectIn m nm) (callIn m nm) (fun s a => by simp [callIn_run]) ins c

theorem substCalls_run {c2 c3 c4 : Circ} {st5 : Circ × List Nat} (h3 : foldO (addImplLine m nm) c2 m.lines = some c3)
    (h4 : foldO (connectIn m nm) c3 ins = some c4) (h5 : foldO (connectOut m nm) (c4, []) outs = some st5) :
    foldO Call.run c2 (substCalls m nm ins outs) = some st5.1 := by
  have e5 := foldO_calls Prod.fst (connectOut m nm) (callOut m nm) (callOut_run m nm) outs (c4, [])
  rw [h5] at e5
  simp only [substCalls, foldO_append, ← lines_calls, ← ins_calls, h3, h4, ← e5, Option.map_some]

/-- The pin guards of the three loops are the guards of the calls `substCalls`.  The left side is the expression of `substGuards`; there it
is built with another auxiliary matcher of the same printed form, so `rw` / `simp` do not find it: use `Eq.trans`, which unfolds. -/
theorem substCalls_guards (c2 : Circ) :
    (foldG (addImplLine m nm) (gImplLine m nm) c2 m.lines &&
      match foldO (addImplLine m nm) c2 m.lines with
      | none => true
      | some c3 =>
        foldG (connectIn m nm) (gConnectIn m nm) c3 ins &&
        match foldO (connectIn m nm) c3 ins with
        | none => true
        | some c4 => foldG (connectOut m nm) (gConnectOut m nm) (c4, []) outs) =
    foldG Call.run Call.guard c2 (substCalls m nm ins outs) := by
  simp only [substCalls, foldG_append, lines_calls, ins_calls,
    foldG_calls id (addImplLine m nm) (gImplLine m nm) (callLine m nm) (fun s a => by simp [callLine_run]) (callLine_guard m nm),
    foldG_calls id (connectIn m nm) (gConnectIn m nm) (callIn m nm) (fun s a => by simp [callIn_run]) (callIn_guard m nm),
    foldG_calls Prod.fst (connectOut m nm) (gConnectOut m nm) (callOut m nm) (callOut_run m nm) (callOut_guard m nm), id]
  cases foldO Call.run c2 (m.lines.map (callLine m nm)) with
  | none => rfl
  | some c3 => dsimp only; cases foldO Call.run c3 (ins.map (callIn m nm)) <;> rfl
end

theorem connectOut_dang {m : Circ} {nm : NMap} {ps : List (Nat × Option Nat)} {c c' : Circ} {dang : List Nat}
    (h : foldO (connectOut m nm) (c, []) ps = some (c', dang)) : ∀ n ∈ dang, ∃ e ∈ nm, e.2 = n :=
  foldO_inv (connectOut m nm) (fun st _ => ∀ n ∈ st.2, ∃ e ∈ nm, e.2 = n)
    (fun st p _ st' inv hf n hn => by
      unfold connectOut at hf
      repeat' split at hf
      all_goals cases hf
      · rename_i x hx
        rcases List.mem_append.1 hn with h1 | h1
        · exact inv n h1
        · rw [List.mem_singleton.1 h1]; exact nmFind_mem hx
      all_goals exact inv n hn) ps _ _ (by simp) h

theorem densifyNode_keeps (c : Circ) (v j : Nat) :
    (densifyNode c v).nodes = c.nodes ∧ ((densifyNode c v).nobj j).kind = (c.nobj j).kind ∧
    (j ≠ v → ((densifyNode c v).nobj j).outs = (c.nobj j).outs) := by
  unfold densifyNode
  simp only
  split
  · by_cases hj : j = v <;> simp [hj]
  · exact ⟨rfl, rfl, fun _ => rfl⟩

theorem densifyNode_full (c : Circ) (v : Nat) (hk : (c.nobj v).kind = FORK) : none ∉ ((densifyNode c v).nobj v).outs := by
  unfold densifyNode
  simp only
  split
  · simp
  · rename_i hc
    simp only [hk, beq_self_eq_true, Bool.true_and, Bool.not_eq_true] at hc
    intro hm
    have : (c.nobj v).outs.any (·.isNone) = true := List.any_eq_true.2 ⟨none, hm, rfl⟩
    rw [this] at hc; cases hc

/-- The output list of node `v` is replaced by a list `L2` that holds the same lines, each once, and the driver pins are
renumbered along `L2` (the squeeze of a fork's outputs); `hc'`, `hN`, `hL` hold by `rfl`. -/
theorem renumber_wf0 {c c' : Circ} {v : Nat} {L2 : Pins} (wf : WFc0 c) (hv : v ∈ c.nodes)
    (hc' : c' = { c with nobj := c'.nobj, lobj := c'.lobj })
    (hN : c'.nobj = upd c.nobj v { c.nobj v with outs := L2 }) (hL : c'.lobj = renumber c.lobj L2 0)
    (hinj2 : ∀ p q y, pin L2 p = some y → pin L2 q = some y → p = q)
    (hsub : ∀ p y, pin L2 p = some y → ∃ q, pin (c.nobj v).outs q = some y)
    (hsup : ∀ q y, pin (c.nobj v).outs q = some y → ∃ p, pin L2 p = some y) : WFc0 c' := by
  have s := SInv.of_wfc0 wf
  have hn : c'.nodes = c.nodes := by rw [hc']
  have hl : c'.lines = c.lines := by rw [hc']
  have hf : ∀ x, _ := fun x => renumber_fields c.lobj L2 0 x
  rw [← hL] at hf
  have hin : ∀ x p, pin L2 p = some x → (c'.lobj x).driverPin = p := fun x p hp => by
    rw [hL, renumber_in _ _ 0 x p hinj2 hp]; omega
  have hout : ∀ x, (c.lobj x).driver ≠ some v → c'.lobj x = c.lobj x := by
    intro x hx
    rw [hL]
    apply renumber_notin
    intro p hp
    obtain ⟨q, hq⟩ := hsub p x hp
    exact hx (wf.outsBack v hv q x hq).2.1
  have hnv : ∀ j, j ≠ v → c'.nobj j = c.nobj j := fun j hj => by simp [hN, hj]
  have hv' : c'.nobj v = { c.nobj v with outs := L2 } := by simp [hN]
  have so := s.outSide.rearrange (c' := c') (gone := fun _ => False) hn (fun x => by simp [hl]) (fun x _ => (hf x).driver)
    (by
      intro j hj q x hq _
      obtain ⟨_, b2, b3⟩ := wf.outsBack j hj q x hq
      by_cases hjv : j = v
      · subst hjv
        obtain ⟨p, hp⟩ := hsup q x hq
        rw [hv', hin x p hp]; exact hp
      · rw [hnv j hjv, hout x (by rw [b2]; exact fun h => hjv (Option.some.inj h)), b3]; exact hq)
    (by
      intro j hj p x hp
      by_cases hjv : j = v
      · subst hjv
        rw [hv'] at hp
        exact ⟨id, hsub p x hp, hin x p hp⟩
      · rw [hnv j hjv] at hp
        obtain ⟨_, b2, b3⟩ := wf.outsBack j hj p x hp
        exact ⟨id, ⟨p, hp⟩, by rw [hout x (by rw [b2]; exact fun h => hjv (Option.some.inj h))]; exact b3⟩)
  have si := s.inSide.keep (c' := c') hn hl (fun j _ => by by_cases hj : j = v <;> simp [hN, hj])
    (fun x _ _ => ⟨(hf x).reader, (hf x).readerPin⟩)
  exact (s.frame hc' (fun j => by by_cases hj : j = v <;> simp [hN, hj]) (fun x => ⟨(hf x).index, (hf x).alive⟩) so si).to_wfc0
    (fun _ _ h => h) (fun _ _ h => h.1)

theorem densifyNode_wf0 {c : Circ} {v : Nat} (wf : WFc0 c) (hv : v ∈ c.nodes) : WFc0 (densifyNode c v) := by
  unfold densifyNode
  simp only
  split
  · exact renumber_wf0 wf hv rfl rfl rfl (dense_pinNodup _ ((SInv.of_wfc0 wf).outs_inj hv))
      (fun p y a => (dense_getD_iff _ y).1 ⟨p, a⟩) (fun q y hq => (dense_getD_iff _ y).2 ⟨q, hq⟩)
  · exact wf

/-- one walk of the loop `for n in node_map.values()` that squeezes the output lists of the copied forks -/
theorem densify_spec (vs : List Nat) : ∀ (c : Circ),
    (vs.foldl densifyNode c).nodes = c.nodes ∧
    ∀ x, ((vs.foldl densifyNode c).nobj x).kind = (c.nobj x).kind ∧
      (x ∉ vs → ((vs.foldl densifyNode c).nobj x).outs = (c.nobj x).outs) ∧
      ((c.nobj x).kind = FORK → x ∈ vs ∨ none ∉ (c.nobj x).outs → none ∉ ((vs.foldl densifyNode c).nobj x).outs) := by
  induction vs with
  | nil => exact fun c => ⟨rfl, fun x => ⟨rfl, fun _ => rfl, fun _ h => h.resolve_left (by simp)⟩⟩
  | cons v vs ih =>
    intro c
    obtain ⟨hn, hx⟩ := ih (densifyNode c v)
    refine ⟨hn.trans (densifyNode_keeps c v 0).1, fun x => ?_⟩
    obtain ⟨k1, k2, k3⟩ := hx x
    obtain ⟨_, d1, d2⟩ := densifyNode_keeps c v x
    refine ⟨k1.trans d1, fun h => ?_, fun hk h => k3 (d1.trans hk) ?_⟩
    · rw [List.mem_cons, not_or] at h
      exact (k2 h.2).trans (d2 h.1)
    · by_cases e : x = v
      · exact Or.inr (e ▸ densifyNode_full c x hk)
      · rcases h with h | h
        · exact Or.inl ((List.mem_cons.1 h).resolve_left e)
        · exact Or.inr (by rw [d2 e]; exact h)

theorem densify_wf0 (vs : List Nat) (c : Circ) (wf : WFc0 c) (hv : ∀ v ∈ vs, v ∈ c.nodes) : WFc0 (vs.foldl densifyNode c) :=
  (foldl_inv densifyNode (l := vs) (fun s => WFc0 s ∧ s.nodes = c.nodes)
    (fun s a ha h => ⟨densifyNode_wf0 h.1 (h.2 ▸ hv a ha), by rw [(densifyNode_keeps s a 0).1]; exact h.2⟩) ⟨wf, rfl⟩).1

theorem dangling_inv {own dang : List Nat} {c c' : Circ} (wf : WFc0 c)
    (hd : ∀ n ∈ dang, n ∈ c.nodes ∨ (c.nobj n).alive = false) (h : foldO (danglingStep own) c dang = some c') :
    WFc0 c' ∧ (FFull c → FFull c') := by
  have := foldO_inv (danglingStep own)
    (fun s rest => WFc0 s ∧ (FFull c → FFull s) ∧ ∀ n ∈ rest, n ∈ s.nodes ∨ (s.nobj n).alive = false)
    (fun s n rest s' ⟨wfs, ffs, hds⟩ hs => by
      unfold danglingStep at hs
      split at hs
      · rename_i hal
        have hn : n ∈ s.nodes := (hds n (by simp)).resolve_right (by simp [hal])
        obtain ⟨wf1, ff1, keeps⟩ := removeDanglingFrom_wf0 wfs hn hs
        exact ⟨wf1, fun ff => ff1 (ffs ff), fun x hx => keeps x (hds x (by simp [hx]))⟩
      · cases hs; exact ⟨wfs, ffs, fun x hx => hds x (by simp [hx])⟩)
    dang c c' ⟨wf, id, hd⟩ h
  exact ⟨this.1, this.2.1⟩

theorem substTail_inv {c5 c' : Circ} {nm : NMap} {dang : List Nat} (wf5 : WFc0 c5) (hnm : ∀ e ∈ nm, e.2 ∈ c5.nodes)
    (hdang : ∀ n ∈ dang, n ∈ c5.nodes) (h : foldO (danglingStep (nm.map (·.2))) (densify c5 nm) dang = some c') :
    WFc0 c' ∧ (FFull (densify c5 nm) → FFull c') := by
  have hvals : ∀ v ∈ nm.map (·.2), v ∈ c5.nodes := by
    intro v hv
    obtain ⟨e, he, rfl⟩ := List.mem_map.1 hv
    exact hnm e he
  refine dangling_inv (densify_wf0 _ c5 wf5 hvals) (fun n hn => Or.inl ?_) h
  show n ∈ (densify c5 nm).nodes
  unfold densify
  rw [(densify_spec _ _).1]; exact hdang n hn

theorem substKinds_des {c : Circ} {i : Nat} {m : Circ} {sh : Shape} (hk : substKinds c i m = true) (hs : implShape m = some sh) :
    (c.nobj i).kind ≠ FORK ∧ (∀ dn, sh.des = some dn → (m.nobj dn).kind ≠ FORK) ∧ (sh.des = none → i ∉ c.io) := by
  unfold substKinds at hk
  simp only [hs, Bool.and_eq_true, bne_iff_ne, ne_eq] at hk
  refine ⟨hk.1, ?_, ?_⟩
  · intro dn hd; have := hk.2; simp only [hd, bne_iff_ne, ne_eq] at this; exact this
  · intro hd; have := hk.2; simp only [hd, Bool.not_eq_true', List.contains_eq_mem, decide_eq_false_iff_not] at this; exact this

theorem noSelfLoop_disj {c : Circ} {i : Nat} (wf : WFc0 c) (hi : i ∈ c.nodes) (h : noSelfLoop c i = true) (l : Nat) :
    InL c i l → ¬ OutL c i l := by
  rintro ⟨p, hp⟩ ⟨q, hq⟩
  have hd := (wf.outsBack i hi q l hq).2.1
  unfold noSelfLoop at h
  have hlt := pin_eq_some_lt hp
  have hmem : some l ∈ (c.nobj i).ins := by
    rw [pin_eq_getElem?, List.getElem?_eq_getElem hlt] at hp
    have : (c.nobj i).ins[p] = some l := by simpa using hp
    rw [← this]; exact List.getElem_mem hlt
  have := List.all_eq_true.1 h _ hmem
  simp only [hd, bne_self_eq_false] at this
  cases this

theorem phase1_inv {c : Circ} {i : Nat} {m : Circ} {sh : Shape} (wf : WFc0 c) (hi : i ∈ c.nodes)
    (hk : substKinds c i m = true) (hs : implShape m = some sh) :
    CopyInv (InL c i) (OutL c i) (phase1 c i m sh.des).1 (phase1 c i m sh.des).2 := by
  obtain ⟨k1, k2, k3⟩ := substKinds_des hk hs
  unfold phase1
  cases hd : sh.des with
  | some dn =>
    refine ⟨clearPins_sinv wf hi k1 (k2 dn hd) rfl rfl rfl, ?_⟩
    intro e he
    simp only [List.mem_singleton] at he
    subst he; exact hi
  | none =>
    exact ⟨removeNode_sinv wf hi (k3 hd), fun e he => by simp at he⟩

theorem substituteObj_some {c c' : Circ} {i : Nat} {m : Circ} (h : substituteObj c i m = some c') :
    ∃ sh c2 nm c3 c4 c5 dang, implShape m = some sh ∧ arityOK c i sh = true ∧
      foldO (addImplNode m (c.nobj i).name sh.des) (phase1 c i m sh.des) m.nodes = some (c2, nm) ∧
      foldO (addImplLine m nm) c2 m.lines = some c3 ∧
      foldO (connectIn m nm) c3 (sh.inPorts.zip (padTo (c.nobj i).ins sh.inPorts.length)) = some c4 ∧
      foldO (connectOut m nm) (c4, []) (sh.outLines.zip (padTo (c.nobj i).outs sh.outLines.length)) = some (c5, dang) ∧
      foldO (danglingStep (nm.map (·.2))) (densify c5 nm) dang = some c' := by
  unfold substituteObj at h
  cases hs : implShape m with
  | none => simp [hs] at h
  | some sh =>
    simp only [hs] at h
    split at h
    · cases h
    rename_i har
    unfold substCopy at h
    cases h2 : foldO (addImplNode m (c.nobj i).name sh.des) (phase1 c i m sh.des) m.nodes with
    | none => simp [h2] at h
    | some st2 =>
      simp only [h2] at h
      cases h3 : foldO (addImplLine m st2.2) st2.1 m.lines with
      | none => simp [h3] at h
      | some c3 =>
        simp only [h3, Option.map_some] at h
        unfold substConnect at h
        cases h4 : foldO (connectIn m st2.2) c3 (sh.inPorts.zip (padTo (c.nobj i).ins sh.inPorts.length)) with
        | none => simp [h4] at h
        | some c4 =>
          simp only [h4] at h
          cases h5 : foldO (connectOut m st2.2) (c4, []) (sh.outLines.zip (padTo (c.nobj i).outs sh.outLines.length)) with
          | none => simp [h5] at h
          | some st5 =>
            simp only [h5] at h
            exact ⟨sh, st2.1, st2.2, c3, c4, st5.1, st5.2, rfl, by simpa using har, h2, h3, h4, h5, h⟩


/-- the state of `substCalls` after the loop over the implementation nodes: the lines of the instance are pending -/
theorem substCalls_runInv {c : Circ} {i : Nat} {m : Circ} {c2 : Circ} {nm : NMap} {A B : List Nat} (wf : WFc0 c) (hi : i ∈ c.nodes)
    (hloop : noSelfLoop c i = true) (hA : (c.nobj i).ins.length ≤ A.length) (hB : (c.nobj i).outs.length ≤ B.length)
    (inv : CopyInv (InL c i) (OutL c i) c2 nm) :
    RunInv c2 c2 (substCalls m nm (A.zip (padTo (c.nobj i).ins A.length)) (B.zip (padTo (c.nobj i).outs B.length))) := by
  obtain ⟨eI, eO⟩ := substCalls_lines m nm (A.zip (padTo (c.nobj i).ins A.length)) (B.zip (padTo (c.nobj i).outs B.length))
  rw [zip_padTo_filterMap hA] at eI; rw [zip_padTo_filterMap hB] at eO
  have hI : ∀ l, PendI (substCalls m nm (A.zip (padTo (c.nobj i).ins A.length)) (B.zip (padTo (c.nobj i).outs B.length))) l ↔
      InL c i l := fun l => by unfold PendI; rw [eI]; exact mem_filterMap_pin
  have hO : ∀ l, PendO (substCalls m nm (A.zip (padTo (c.nobj i).ins A.length)) (B.zip (padTo (c.nobj i).outs B.length))) l ↔
      OutL c i l := fun l => by unfold PendO; rw [eO]; exact mem_filterMap_pin
  exact ⟨inv.s.congr_pred hI hO, eI ▸ filterMap_pin_nodup ((SInv.of_wfc0 wf).ins_inj hi),
    eO ▸ filterMap_pin_nodup ((SInv.of_wfc0 wf).outs_inj hi),
    fun l hl hl' => noSelfLoop_disj wf hi hloop l ((hI l).1 hl) ((hO l).1 hl'),
    fun k hk w hw => by obtain ⟨e, he, h⟩ := substCalls_img hk (Or.inl hw); exact h ▸ inv.nm e he,
    fun k hk w hw => by obtain ⟨e, he, h⟩ := substCalls_img hk (Or.inr hw); exact h ▸ inv.nm e he, rfl⟩

theorem substituteObj_wf0 {c c' : Circ} {i : Nat} {m : Circ} (wf : WFc0 c) (hpre : substPre0 c i m = true)
    (h : substituteObj c i m = some c') : WFc0 c' := by
  unfold substPre0 at hpre
  simp only [Bool.and_eq_true, List.contains_eq_mem, decide_eq_true_eq] at hpre
  obtain ⟨⟨⟨hi, hk⟩, hloop⟩, hguard⟩ := hpre
  obtain ⟨sh, c2, nm, c3, c4, c5, dang, hs, har', h2, h3, h4, h5, h⟩ := substituteObj_some h
  unfold substGuards at hguard
  simp only [hs, har', h2, Bool.not_true, Bool.false_eq_true, if_false] at hguard
  unfold arityOK at har'
  simp only [Bool.and_eq_true, decide_eq_true_eq] at har'
  have i2 := foldO_inv (addImplNode m (c.nobj i).name sh.des)
    (fun st _ => CopyInv (InL c i) (OutL c i) st.1 st.2)
    (fun s a rest s' hinv hf => addImplNode_inv hinv hf) m.nodes _ _ (phase1_inv wf hi hk hs) h2
  have r5 := foldO_inv_guard Call.run Call.guard (RunInv c2) (fun _ _ _ _ r g e => r.step g e) _ c2 c5
    (substCalls_runInv wf hi hloop har'.1 har'.2 i2) ((substCalls_guards m nm _ _ c2).symm.trans hguard)
    (substCalls_run m nm _ _ h3 h4 h5)
  exact (substTail_inv r5.wf0 (fun e he => r5.nn ▸ i2.nm e he)
    (fun n hn => by obtain ⟨e, he, rfl⟩ := connectOut_dang h5 n hn; exact r5.nn ▸ i2.nm e he) h).1


theorem forksFull_iff {c : Circ} : forksFull c = true ↔ FFull c := by
  unfold forksFull FFull
  rw [List.all_eq_true]
  constructor
  · intro h i hi hk
    have := h i hi
    rw [hk, bne_self_eq_false, Bool.false_or] at this
    exact (allSome_iff _).1 this
  · intro h i hi
    by_cases hk : (c.nobj i).kind = FORK
    · rw [(allSome_iff _).2 (h i hi hk), Bool.or_true]
    · simp [hk]

theorem substituteObj_wf {c c' : Circ} {i : Nat} {m : Circ} (wf : WFc c) (hpre : substPre c i m = true)
    (h : substituteObj c i m = some c') : WFc c' := by
  unfold substPre at hpre
  simp only [Bool.and_eq_true, h] at hpre
  exact ⟨substituteObj_wf0 wf.toWFc0 hpre.1 h, forksFull_iff.1 hpre.2⟩

theorem resolveObj_wf {lib : Lib} {c c' : Circ} (wf : WFc c) (hpre : resolvePre lib c = true) (h : resolveObj lib c = some c') :
    WFc c' := by
  unfold resolvePre at hpre
  unfold resolveObj at h
  exact foldO_inv_guard (resolveStep lib)
    (fun c n => match lib.find (c.nobj n).kind with | some m => substPre c n m | none => true)
    (fun cc _ => WFc cc)
    (fun s a rest s' hinv hg hf => by
      unfold resolveStep at hf
      cases hl : lib.find (s.nobj a).kind with
      | none => simp only [hl, Option.some.injEq] at hf; exact hf ▸ hinv
      | some mm =>
        simp only [hl] at hf hg
        exact substituteObj_wf hinv hg hf)
    c.nodes c c' wf hpre h

end KV.CircObj
