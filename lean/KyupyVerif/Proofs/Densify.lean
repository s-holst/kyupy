import KyupyVerif.Proofs.SubstituteObs
import KyupyVerif.Proofs.RemoveDangling
/-! C10 (`substitute`; known finding D30): the loop that makes the outputs of the copied forks dense again (`densify`,
Model/Substitute.lean).  On a well-formed circuit it keeps the circuit well-formed, changes nothing but the output lists of the
visited forks (same lines, `None`s squeezed out) and the driver pins of the lines those forks drive: this is the relation `Dens`,
which one iteration establishes (`densifyNode_densM`) and from which alone the rest follows — the circuit before embeds into the
circuit after with the identity maps (`Emb`, which tolerates a different driver pin at a fork), and the consistent labellings are
literally the same (`Dens.consOff_iff`).  At the end: the tail of `substitute` (`densify`, then `remove_dangling_nodes`) as one
statement, `substitute_tail`. -/
namespace KV.Transform
open KV

def densNN (nn : NNet) (vs : List Nat) : NNet := { nn with net := vs.foldl densifyNode nn.net }

theorem densNN_nil (nn : NNet) : densNN nn [] = nn := rfl
theorem densNN_cons (nn : NNet) (v : Nat) (vs : List Nat) : densNN nn (v :: vs) = densNN (densNN nn [v]) vs := rfl

/-- `b` is `a` with the output lists of forks in `V` squeezed: every node shows the same lines at its outputs, at other pins
    perhaps (`outsMem`), and a line driven by a fork may have another `dpin`.  That this `dpin` is the line's position in the list of
    `b` is not part of `Dens` (`hp` of `Dens.wfm`). -/
structure Dens (a b : NNet) (V : Nat → Prop) : Prop where
  names : b.names = a.names
  nsize : b.net.nodes.size = a.net.nodes.size
  lsize : b.net.lines.size = a.net.lines.size
  io : b.net.io = a.net.io
  kind : ∀ x, (b.net.node x).kind = (a.net.node x).kind
  ins : ∀ x, (b.net.node x).ins = (a.net.node x).ins
  outsMem : ∀ x l, (∃ k, (b.net.node x).outs.getD k none = some l) ↔ (∃ k, (a.net.node x).outs.getD k none = some l)
  frame : ∀ x, ¬ V x → b.net.node x = a.net.node x
  frameCell : ∀ x, (a.net.node x).isFork = false → b.net.node x = a.net.node x
  line : ∀ l, (b.net.line l).driver = (a.net.line l).driver ∧ (b.net.line l).reader = (a.net.line l).reader ∧
    (b.net.line l).rpin = (a.net.line l).rpin
  dpin : ∀ l, l < a.net.lines.size →
    (b.net.line l).dpin = (a.net.line l).dpin ∨ (a.net.node (a.net.line l).driver).isFork = true

theorem Dens.refl (a : NNet) (V : Nat → Prop) : Dens a a V :=
  ⟨rfl, rfl, rfl, rfl, fun _ => rfl, fun _ => rfl, fun _ _ => Iff.rfl, fun _ _ => rfl, fun _ _ => rfl,
   fun _ => ⟨rfl, rfl, rfl⟩, fun _ _ => Or.inl rfl⟩

theorem Dens.trans {a b c : NNet} {V1 V2 : Nat → Prop} (h1 : Dens a b V1) (h2 : Dens b c V2) :
    Dens a c (fun x => V1 x ∨ V2 x) := by
  refine ⟨h2.names.trans h1.names, h2.nsize.trans h1.nsize, h2.lsize.trans h1.lsize, h2.io.trans h1.io,
    fun x => (h2.kind x).trans (h1.kind x), fun x => (h2.ins x).trans (h1.ins x),
    fun x l => (h2.outsMem x l).trans (h1.outsMem x l), ?_, ?_, ?_, ?_⟩
  · intro x hx
    rw [h2.frame x (fun h => hx (Or.inr h)), h1.frame x (fun h => hx (Or.inl h))]
  · intro x hx
    have e1 := h1.frameCell x hx
    rw [h2.frameCell x (by rw [e1]; exact hx), e1]
  · intro l
    obtain ⟨a1, a2, a3⟩ := h1.line l
    obtain ⟨b1, b2, b3⟩ := h2.line l
    exact ⟨b1.trans a1, b2.trans a2, b3.trans a3⟩
  · intro l hl
    rcases h2.dpin l (by rw [h1.lsize]; exact hl) with e2 | e2
    · rcases h1.dpin l hl with e1 | e1
      · exact Or.inl (e2.trans e1)
      · exact Or.inr e1
    · right
      rw [(h1.line l).1] at e2
      simpa [NodeD.isFork, h1.kind] using e2

theorem Dens.weaken {a b : NNet} {V V' : Nat → Prop} (h : Dens a b V) (hVV : ∀ x, V x → V' x) : Dens a b V' :=
  { h with frame := fun x hx => h.frame x (fun hv => hx (hVV x hv)) }

/-- the well-formedness that `Dens` leaves open: the output lists of `b` agree with the driver pins of its lines -/
theorem Dens.wfm {a b : NNet} {V : Nat → Prop} (d : Dens a b V) (w : WFm a)
    (hp : ∀ x, x < a.net.nodes.size → ∀ k l, (b.net.node x).outs.getD k none = some l → (b.net.line l).dpin = k) : WFm b := by
  refine ⟨by rw [d.names, d.nsize]; exact w.names, by rw [keys_congr a b d.names d.nsize d.kind]; exact w.nodup,
    fun i hi => by rw [d.nsize]; exact w.io i (by rw [← d.io]; exact hi), ?_, ?_, ?_⟩
  · intro l hl
    rw [d.lsize] at hl
    obtain ⟨bd, br, bo, bi⟩ := w.back l hl
    obtain ⟨f1, f2, f3⟩ := d.line l
    obtain ⟨k, hk⟩ := (d.outsMem _ l).mpr ⟨_, bo⟩
    rw [d.nsize, f1, f2, f3, d.ins, hp _ bd k l hk]
    exact ⟨bd, br, hk, bi⟩
  · intro i hi p l hi'
    rw [d.nsize] at hi
    rw [d.ins] at hi'
    obtain ⟨a1, a2, a3⟩ := w.fwdIn i hi p l hi'
    obtain ⟨_, f2, f3⟩ := d.line l
    exact ⟨by rw [d.lsize]; exact a1, f2.trans a2, f3.trans a3⟩
  · intro i hi p l ho
    rw [d.nsize] at hi
    obtain ⟨k', hk'⟩ := (d.outsMem i l).mp ⟨p, ho⟩
    obtain ⟨a1, a2, _⟩ := w.fwdOut i hi k' l hk'
    exact ⟨by rw [d.lsize]; exact a1, (d.line l).1.trans a2, hp i hi p l ho⟩

theorem dense_noTrail (L : List Nat) : noTrail (L.map some) = true := by
  simp only [noTrail, bne_iff_ne, ne_eq]
  intro h
  rw [List.getLast?_map] at h
  cases hl : L.getLast? with
  | none => rw [hl] at h; simp at h
  | some y => rw [hl] at h; simp at h

theorem default_not_fork : (default : NodeD).isFork = false := by decide +kernel

theorem densifyNode_densM (nn : NNet) (w : WFm nn) (v : Nat) : Dens nn (densNN nn [v]) (fun x => x = v) ∧ WFm (densNN nn [v]) ∧
    (∀ i, noTrail (nn.net.node i).ins = true ∧ noTrail (nn.net.node i).outs = true →
      noTrail ((densNN nn [v]).net.node i).ins = true ∧ noTrail ((densNN nn [v]).net.node i).outs = true) := by
  by_cases hcond : ((nn.net.node v).isFork && (nn.net.node v).outs.any (·.isNone)) = true
  rotate_left
  · have e : densNN nn [v] = nn := by
      simp only [densNN, List.foldl_cons, List.foldl_nil, densifyNode, hcond]
      rfl
    rw [e]; exact ⟨Dens.refl _ _, w, fun _ h => h⟩
  · have hF : (nn.net.node v).isFork = true := by
      simp only [Bool.and_eq_true] at hcond; exact hcond.1
    have hv : v < nn.net.nodes.size := by
      apply Classical.byContradiction; intro hn
      have : nn.net.node v = default := getD_ge_size _ _ (by omega)
      rw [this, default_not_fork] at hF
      exact absurd hF (by simp)
    -- along the squeezed list `O`, `renumberDpins` makes `dpin` the position (`hat`) and touches no line of another driver (`hother`)
    let O : List (Option Nat) := ((nn.net.node v).outs.filterMap id).map some
    have e : densNN nn [v] = { nn with net := { nn.net with
        nodes := nn.net.nodes.modify v fun n => { n with outs := O }
        lines := renumberDpins nn.net.lines O 0 } } := by
      simp only [densNN, List.foldl_cons, List.foldl_nil, densifyNode, hcond, if_true]
      rfl
    have hnode : ∀ x, (densNN nn [v]).net.node x = if x = v then { nn.net.node x with outs := O } else nn.net.node x := by
      intro x
      rw [e]
      show ({ nn.net with nodes := nn.net.nodes.modify v fun n => { n with outs := O } } : Net).node x = _
      rw [node_modify nn.net]
      by_cases ex : x = v
      · simp [ex, hv]
      · simp [ex]
    have hline : ∀ y, (densNN nn [v]).net.line y = lineA (renumberDpins nn.net.lines O 0) y := by
      intro y; rw [e]; rfl
    have hOin : ∀ k l, O.getD k none = some l → ∃ k', (nn.net.node v).outs.getD k' none = some l :=
      fun k l hk => (dense_getD_iff _ l).mp ⟨k, hk⟩
    have hOnd : PinNodup O := dense_pinNodup _ (w.drvAt hv).outs_nodup
    have hother : ∀ y, (nn.net.line y).driver ≠ v → (densNN nn [v]).net.line y = nn.net.line y := by
      intro y hy
      rw [hline]
      apply renumberDpins_other
      intro k hk
      obtain ⟨k', hk'⟩ := hOin k y hk
      exact hy (w.fwdOut v hv k' y hk').2.1
    have hat : ∀ k y, O.getD k none = some y → ((densNN nn [v]).net.line y).dpin = k := by
      intro k y hk
      obtain ⟨k', hk'⟩ := hOin k y hk
      rw [hline, renumberDpins_at O nn.net.lines 0 k y hOnd hk (w.fwdOut v hv k' y hk').1]
      omega
    have hD : Dens nn (densNN nn [v]) (fun x => x = v) := by
      refine ⟨by rw [e], by rw [e]; simp, by rw [e]; exact renumberDpins_size _ _ _, by rw [e], ?_, ?_, ?_, ?_, ?_, ?_, ?_⟩
      · intro x; rw [hnode]; split <;> rfl
      · intro x; rw [hnode]; split <;> rfl
      · intro x l
        rw [hnode]
        by_cases ex : x = v
        · subst ex; simp only [if_true]; exact dense_getD_iff _ l
        · simp [ex]
      · intro x hx; rw [hnode, if_neg hx]
      · intro x hx
        rw [hnode]
        by_cases ex : x = v
        · subst ex; rw [hF] at hx; exact absurd hx (by simp)
        · simp [ex]
      · intro l; rw [hline]; exact renumberDpins_fields O nn.net.lines 0 l
      · intro l hl
        by_cases hd : (nn.net.line l).driver = v
        · right; rw [hd]; exact hF
        · left; rw [hother l hd]
    refine ⟨hD, hD.wfm w fun x hx k l ho => ?_, fun i hi => ?_⟩
    · rw [hnode] at ho
      by_cases ex : x = v
      · rw [if_pos ex] at ho; exact hat k l ho
      · rw [if_neg ex] at ho
        obtain ⟨_, a2, a3⟩ := w.fwdOut x hx k l ho
        rw [hother l (by rw [a2]; exact ex)]; exact a3
    · rw [hnode]
      by_cases ei : i = v
      · rw [if_pos ei]; exact ⟨hi.1, dense_noTrail _⟩
      · rw [if_neg ei]; exact hi

theorem densNN_densM : ∀ (vs : List Nat) (nn : NNet), WFm nn → Dens nn (densNN nn vs) (fun x => x ∈ vs) ∧ WFm (densNN nn vs) ∧
    (∀ i, noTrail (nn.net.node i).ins = true ∧ noTrail (nn.net.node i).outs = true →
      noTrail ((densNN nn vs).net.node i).ins = true ∧ noTrail ((densNN nn vs).net.node i).outs = true)
  | [], nn, w => ⟨Dens.refl _ _, w, fun _ h => h⟩
  | v :: vs, nn, w => by
    obtain ⟨d1, w1, t1⟩ := densifyNode_densM nn w v
    obtain ⟨d2, w2, t2⟩ := densNN_densM vs (densNN nn [v]) w1
    rw [densNN_cons]
    exact ⟨(d1.trans d2).weaken (fun x hx => by rcases hx with hx | hx <;> simp [hx]), w2, fun i hi => t2 i (t1 i hi)⟩

theorem densNN_dens (vs : List Nat) (nn : NNet) (w : WF nn) : Dens nn (densNN nn vs) (fun x => x ∈ vs) ∧ WF (densNN nn vs) := by
  obtain ⟨d, wm, t⟩ := densNN_densM vs nn w.toWFm
  exact ⟨d, { wm with trail := fun i hi => t i (w.trail i (by rw [← d.nsize]; exact hi)) }⟩

section cons
variable {a b : NNet} {V : Nat → Prop} (d : Dens a b V) (w : WFm a)
include d w

theorem Dens.emb : Emb a b Ren.id := by
  refine ⟨fun _ h => by rw [← d.nsize]; exact h, fun _ h => by rw [← d.lsize]; exact h, fun _ _ _ _ h => h, fun _ _ _ _ h => h,
    fun j _ => d.kind j, fun j _ => by rw [d.names]; rfl, by rw [d.io]; exact List.map_id' _,
    fun j hj => by rw [d.nsize]; exact w.io j (by rw [← d.io]; exact hj), ?_, ?_⟩
  · intro j _ _ k
    show ((b.net.node j).inPin k).map (fun l => l) = (a.net.node j).inPin k
    simp [NodeD.inPin, d.ins]
  · intro l hl
    rw [d.lsize] at hl
    obtain ⟨f1, _, _⟩ := d.line l
    refine ⟨by rw [d.nsize, f1]; exact (w.back l hl).1, f1.symm, ?_⟩
    rcases d.dpin l hl with e | e
    · exact Or.inl e.symm
    · right
      rw [f1]
      simpa [NodeD.isFork, d.kind] using e

theorem Dens.emb' : Emb b a Ren.id := by
  refine ⟨fun _ h => by rw [d.nsize]; exact h, fun _ h => by rw [d.lsize]; exact h, fun _ _ _ _ h => h, fun _ _ _ _ h => h,
    fun j _ => (d.kind j).symm, fun j _ => by rw [d.names]; rfl, by rw [d.io]; exact List.map_id' _, w.io, ?_, ?_⟩
  · intro j _ _ k
    show ((a.net.node j).inPin k).map (fun l => l) = (b.net.node j).inPin k
    simp [NodeD.inPin, d.ins]
  · intro l hl
    obtain ⟨f1, _, _⟩ := d.line l
    refine ⟨(w.back l hl).1, f1, ?_⟩
    rcases d.dpin l hl with e | e
    · exact Or.inl e
    · exact Or.inr e

theorem Dens.consOff_iff {α : Type _} (S : Nat → Prop) (z : α) (neg : α → α) (prim : String → α → α → α → α → α) (an v : Nat → α) :
    ConsOff b S z neg prim an v ↔ ConsOff a S z neg prim an v :=
  ⟨fun hc => (d.emb' w).restrict S z neg prim an v hc, fun hc => (d.emb w).restrict S z neg prim an v hc⟩

theorem Dens.extP {α : Type _} (z : α) (neg : α → α) (prim : String → α → α → α → α → α) : ExtP z neg prim a b Ren.id :=
  fun S _ an' v' hc => ⟨an', v', (d.consOff_iff w S z neg prim an' v').mp hc, fun _ _ => rfl, fun _ _ => rfl,
    fun l hl hn _ => absurd ⟨l, by rw [d.lsize]; exact hl, rfl⟩ hn⟩

omit w in
theorem Dens.any_isSome (x : Nat) : (b.net.node x).outs.any (·.isSome) = (a.net.node x).outs.any (·.isSome) := by
  have key : ∀ (l : List (Option Nat)), l.any (·.isSome) = true ↔ ∃ y k, l.getD k none = some y := by
    intro l
    simp only [← mem_filterMap_id, List.any_eq_true, List.mem_filterMap, id, Option.isSome_iff_exists]
    exact ⟨fun ⟨o, ho, y, e⟩ => ⟨y, o, ho, e⟩, fun ⟨y, o, ho, e⟩ => ⟨o, ho, y, e⟩⟩
  have : (b.net.node x).outs.any (·.isSome) = true ↔ (a.net.node x).outs.any (·.isSome) = true := by
    rw [key, key]
    exact exists_congr fun y => d.outsMem x y
  exact Bool.eq_iff_iff.mpr this

end cons

theorem densify_eq_densNN (nn : NNet) (map : Array (Option Nat)) :
    ({ nn with net := densify nn.net map } : NNet) = densNN nn (map.toList.filterMap id) := rfl

theorem keptRoot_dens {a b : NNet} {V : Nat → Prop} (d : Dens a b V) (own : List Nat) (root : Nat) :
    keptRoot b own root = keptRoot a own root := by
  simp only [keptRoot, d.any_isSome, d.io, d.kind]

/-- **the tail of `substitute`** (`densify`, then `remove_dangling_nodes` from `dangling` with `only` = the values of `node_map`): the
    result `h'` embeds into the circuit `h5` that `substituteCore` built; a node that is no value of the map (no copy, and not the
    cell standing for the designated cell) survives, every flip-flop / latch survives, labellings extend -/
theorem substitute_tail {α : Type _} (z : α) (neg : α → α) (prim : String → α → α → α → α → α)
    {h m h5 h' : NNet} {c : Nat} {map : Array (Option Nat)} {dang : List (Option Nat)}
    (hcore : substituteCore h c m = some (h5, map, dang)) (he : substitute h c m = some h') (w5 : WFm h5)
    (hmapLt : ∀ j x, map.getD j none = some x → x < h5.net.nodes.size) :
    WFm h' ∧ ∃ r, Emb h5 h' r ∧
      (∀ j, j < h5.net.nodes.size → j ∉ map.toList.filterMap id → ∃ j', j' < h'.net.nodes.size ∧ r.node j' = j) ∧
      (∀ j, j < h5.net.nodes.size → isSeqKind (h5.net.node j).kind = true → ∃ j', j' < h'.net.nodes.size ∧ r.node j' = j) ∧
      ExtP z neg prim h5 h' r := by
  unfold substitute at he
  rw [hcore] at he
  obtain ⟨dd, wd, _⟩ := densNN_densM (map.toList.filterMap id) h5 w5
  have he' : removeDangling (dang.length + h5.net.lines.size + 1) (densNN h5 (map.toList.filterMap id))
      (map.toList.filterMap id) dang = some h' := he
  have ho : ∀ x ∈ map.toList.filterMap id, x < (densNN h5 (map.toList.filterMap id)).net.nodes.size := by
    intro x hx
    obtain ⟨k, hk⟩ := (mem_map_values map x).1 hx
    rw [dd.nsize]
    exact hmapLt k x hk
  obtain ⟨w', r, e, t, sq, xr⟩ := removeDangling_extP z neg prim _ _ _ dang h' wd ho he'
  exact ⟨w', r, ((dd.emb w5).trans e).weaken (X' := fun _ => False) (fun j _ hx => by rcases hx with hx | hx <;> exact hx),
    fun j hj hn => t j (by rw [dd.nsize]; exact hj) hn, fun j hj hs => sq j (by rw [dd.nsize]; exact hj) (by rw [dd.kind]; exact hs),
    ExtP.trans (dd.emb w5) e (dd.extP w5 z neg prim) xr⟩

theorem densNN_of_denseB (h : NNet) (c : Nat) (m h5 : NNet) (map : Array (Option Nat)) (dang : List (Option Nat))
    (hcore : substituteCore h c m = some (h5, map, dang)) (hdn : denseB h c m = true) :
    densNN h5 (map.toList.filterMap id) = h5 := by
  unfold denseB at hdn
  simp only [hcore, Bool.not_eq_true'] at hdn
  show ({ h5 with net := densify h5.net map } : NNet) = h5
  rw [densify_of_dense h5.net map hdn]

end KV.Transform
