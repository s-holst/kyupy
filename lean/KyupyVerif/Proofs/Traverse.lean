import KyupyVerif.Model.Traverse
import KyupyVerif.Proofs.Kahn
/-! The traversals of Model/Traverse.lean.  The reversed order is Kahn's algorithm on the transposed graph (`revKahn_eq`); `levels`
assigns the longest distance from a source (`IsLongest`); `fanin` yields reachable nodes only (`fanin_sound_any`), every node of
`CombReachNS` in its single pass, and with `late = true` every node of `CombReach` (`fanin_complete_late`).  `RevOK` collects what
the completeness statements assume; `rankOKB_sound` / `rrankOKB_sound` obtain the rank hypotheses from the array checks of `GA`. -/
namespace KV.Trav
open KV.Kahn

/-! ### the reversed order is `kahn` on the transposed graph -/

theorem processPreds_eq (g : G) (ps : List Nat) (st : (Nat → Nat) × List Nat) :
    processPreds g ps st = processSuccs g.transpose ps st := by
  induction ps generalizing st with
  | nil => rfl
  | cons p ps ih =>
    obtain ⟨cnt, q⟩ := st
    simp only [processPreds, processSuccs]
    rw [ih]
    rfl

theorem rstep_eq (g : G) (s : KS) : rstep g s = kstep g.transpose s := by
  unfold rstep kstep
  cases s.queue with
  | nil => rfl
  | cons v q => simp only [processPreds_eq]; rfl

theorem rloop_eq (g : G) (fuel : Nat) (s : KS) : rloop g fuel s = kloop g.transpose fuel s := by
  induction fuel generalizing s with
  | zero => rfl
  | succ n ih =>
    unfold rloop kloop
    rw [rstep_eq]
    cases kstep g.transpose s with
    | none => rfl
    | some s' => exact ih s'

theorem revKahn_eq (g : G) : revKahn g = kahn g.transpose := by
  unfold revKahn kahn
  rw [rloop_eq]
  rfl

theorem transpose_consistent (g : G) (h : g.Consistent) : g.transpose.Consistent := by
  intro v r
  exact (h r v).symm

/-! ### shape of `kahn g` -/

/-- `topological_order()` = all sources in index order, then only non-sources -/
theorem kahn_sources_first (g : G) (hc : g.Consistent) (hb : ∀ v r, r ∈ g.succs v → r < g.n) :
    ∃ X, kahn g = (List.range g.n).filter g.isSrc ++ X ∧ ∀ x ∈ X, g.isSrc x = false := by
  obtain ⟨X, hX, hXs⟩ := kloop_front g hb (g.n + 1)
  rw [kahn_queue_empty g hc hb] at hX
  exact ⟨X, by simpa [kahn] using hX, fun x hx => (hXs x hx).1⟩

theorem kahn_bound (g : G) (hb : ∀ v r, r ∈ g.succs v → r < g.n) : ∀ r ∈ kahn g, r < g.n :=
  fun r hr => (kloop_front g hb (g.n + 1)).bound r (List.mem_append_left _ hr)

/-! ### `levels`: the longest distance from a source -/

theorem lmax_spec (xs : List Int) (h : xs ≠ []) : lmax xs ∈ xs ∧ ∀ y ∈ xs, y ≤ lmax xs := by
  cases xs with
  | nil => exact absurd rfl h
  | cons x xs =>
    exact ⟨List.max?_mem (xs := x :: xs) rfl, (List.max?_le_iff (xs := x :: xs) rfl).1 (Int.le_refl _)⟩

def IsLongest (g : G) (v : Nat) (l : Int) : Prop :=
  ∃ k : Nat, l = (k : Int) ∧ SrcPath g v k ∧ ∀ k', SrcPath g v k' → k' ≤ k

theorem srcPath_src (g : G) (v k : Nat) (hs : g.isSrc v = true) (h : SrcPath g v k) : k = 0 := by
  cases h with
  | src _ _ => rfl
  | step u _ k hns _ _ => rw [hs] at hns; exact absurd hns (by simp)

theorem levelOf_longest (g : G) (lvl : Nat → Int) (v : Nat)
    (hp : ∀ p ∈ g.preds v, g.isSrc v = false → IsLongest g p (lvl p)) : IsLongest g v (levelOf g lvl v) := by
  unfold levelOf
  cases hs : g.isSrc v with
  | true =>
    refine ⟨0, by simp, SrcPath.src v hs, ?_⟩
    intro k' hk'; have := srcPath_src g v k' hs hk'; omega
  | false =>
    simp only [Bool.false_eq_true, if_false]
    have hne : (g.preds v).map lvl ≠ [] := by
      intro h
      have : g.preds v = [] := by simpa using h
      unfold G.isSrc G.indeg at hs
      simp [this] at hs
    obtain ⟨hmem, hmax⟩ := lmax_spec _ hne
    obtain ⟨p, hpm, hpl⟩ := List.mem_map.mp hmem
    obtain ⟨k, hk, hpath, hbest⟩ := hp p hpm hs
    refine ⟨k + 1, by rw [← hpl, hk]; simp, SrcPath.step p v k hs hpm hpath, ?_⟩
    intro k' hk'
    cases hk' with
    | src _ h0 => omega
    | step u _ k'' _ hu hpu =>
      obtain ⟨ku, hku, _, hbu⟩ := hp u hu hs
      have h1 := hbu k'' hpu
      have h2 := hmax (lvl u) (List.mem_map.mpr ⟨u, hu, rfl⟩)
      rw [← hpl, hk, hku] at h2
      omega

theorem levelsLoop_fst (g : G) (vs : List Nat) (lvl : Nat → Int) : (levelsLoop g vs lvl).map Prod.fst = vs := by
  induction vs generalizing lvl with
  | nil => rfl
  | cons v vs ih => simp [levelsLoop, ih]

theorem levelsLoop_longest (g : G) (pre vs : List Nat) (lvl : Nat → Int)
    (hnd : (pre ++ vs).Nodup) (hord : Ordered g (pre ++ vs))
    (hinv : ∀ j ∈ pre, IsLongest g j (lvl j)) :
    ∀ x ∈ levelsLoop g vs lvl, IsLongest g x.1 x.2 := by
  induction vs generalizing pre lvl with
  | nil => intro x hx; simp [levelsLoop] at hx
  | cons v vs ih =>
    have hv : IsLongest g v (levelOf g lvl v) := by
      apply levelOf_longest
      intro p hp hs
      exact hinv p (hord pre v vs rfl hs p hp)
    have hvpre : v ∉ pre := by
      intro h
      have := (List.nodup_append.mp hnd).2.2 v h v (by simp)
      exact this rfl
    intro x hx
    simp only [levelsLoop, List.mem_cons] at hx
    rcases hx with rfl | hx
    · exact hv
    · refine ih (pre ++ [v]) (setAt lvl v (levelOf g lvl v)) (by simpa using hnd) (by simpa using hord) ?_ x hx
      intro j hj
      rcases List.mem_append.mp hj with h | h
      · have : j ≠ v := fun e => hvpre (e ▸ h)
        simp only [setAt, this, if_false]; exact hinv j h
      · have : j = v := by simpa using h
        subst this; simp only [setAt, if_true]; exact hv

/-! ### `fanin`: what is yielded is reachable; the single pass is complete on `CombReachNS` -/

theorem markOf_mono (g : G) (m : Nat → Bool) (v : Nat) (h : m v = true) : markOf g m v = true := by
  simp [markOf, h]

theorem setAt_mark_mono (g : G) (m : Nat → Bool) (v j : Nat) (h : m j = true) :
    setAt m v (markOf g m v) j = true := by
  unfold setAt
  by_cases hj : j = v
  · subst hj; simp [markOf_mono g m j h]
  · simp [hj, h]

theorem anyReach_of_mark (g : G) (O : List Nat) (m : Nat → Bool) (v : Nat)
    (hm : ∀ j, m j = true → AnyReach g O j) (h : markOf g m v = true) : AnyReach g O v := by
  unfold markOf at h
  rcases Bool.or_eq_true _ _ |>.mp h with h | h
  · exact hm v h
  · obtain ⟨r, hr, hmr⟩ := List.any_eq_true.mp h
    exact AnyReach.step v r hr (hm r hmr)

theorem setAt_sound (g : G) (O : List Nat) (m : Nat → Bool) (v : Nat)
    (hm : ∀ j, m j = true → AnyReach g O j) : ∀ j, setAt m v (markOf g m v) j = true → AnyReach g O j := by
  intro j hj
  unfold setAt at hj
  by_cases h : j = v
  · subst h; simp only [if_true] at hj; exact anyReach_of_mark g O m j hm hj
  · simp only [h, if_false] at hj; exact hm j hj

theorem faninYield_sound (g : G) (O : List Nat) (vs : List Nat) (m : Nat → Bool)
    (hm : ∀ j, m j = true → AnyReach g O j) : ∀ x ∈ faninYield g vs m, AnyReach g O x := by
  induction vs generalizing m with
  | nil => intro x hx; simp [faninYield] at hx
  | cons v vs ih =>
    intro x hx
    simp only [faninYield] at hx
    have hm' := setAt_sound g O m v hm
    split at hx
    · rename_i hmv
      rcases List.mem_cons.mp hx with rfl | hx
      · exact anyReach_of_mark g O m x hm hmv
      · exact ih _ hm' x hx
    · exact ih _ hm' x hx

theorem faninMarks_sound (g : G) (O : List Nat) (vs : List Nat) (m : Nat → Bool)
    (hm : ∀ j, m j = true → AnyReach g O j) : ∀ j, faninMarks g vs m j = true → AnyReach g O j := by
  induction vs generalizing m with
  | nil => exact hm
  | cons v vs ih => exact ih _ (setAt_sound g O m v hm)

theorem faninMarks_mono (g : G) (vs : List Nat) (m : Nat → Bool) (j : Nat) (h : m j = true) :
    faninMarks g vs m j = true := by
  induction vs generalizing m with
  | nil => exact h
  | cons v vs ih => exact ih _ (setAt_mark_mono g m v j h)

/-- nodes to which the single pass is complete: those with a combinational path that are not state elements
(or are origins themselves) -/
def CombReachNS (g : G) (O : List Nat) (v : Nat) : Prop := CombReach g O v ∧ (g.seq v = false ∨ v ∈ O)

theorem fanin_pass_complete (g : G) (O : List Nat) (pre vs : List Nat) (m : Nat → Bool)
    (hord : Ordered g.transpose (pre ++ vs))
    (hO : ∀ j ∈ O, m j = true)
    (hpre : ∀ j ∈ pre, CombReachNS g O j → m j = true) :
    (∀ x ∈ vs, CombReachNS g O x → x ∈ faninYield g vs m) ∧
    (∀ x ∈ pre ++ vs, CombReachNS g O x → faninMarks g vs m x = true) := by
  induction vs generalizing pre m with
  | nil =>
    refine ⟨by intro x hx; simp at hx, ?_⟩
    intro x hx hr
    simp only [List.append_nil] at hx
    exact hpre x hx hr
  | cons v vs ih =>
    have hv : CombReachNS g O v → markOf g m v = true := by
      rintro ⟨hr, hns⟩
      cases hr with
      | orig _ hvO => exact markOf_mono g m v (hO v hvO)
      | step _ r hrs hrns hrr =>
        by_cases hvO : v ∈ O
        · exact markOf_mono g m v (hO v hvO)
        · have hseq : g.seq v = false := hns.resolve_right hvO
          have hmr : m r = true := by
            by_cases hrO : r ∈ O
            · exact hO r hrO
            · have hrseq : g.seq r = false := hrns.resolve_right hrO
              -- v is not a sink of the transposed order, so its readers have been visited
              have hnsrc : g.transpose.isSrc v = false := by
                unfold G.isSrc G.indeg G.transpose
                simp only [hseq, Bool.or_false, beq_eq_false_iff_ne, ne_eq]
                intro h0
                have : g.succs v = [] := List.eq_nil_of_length_eq_zero h0
                rw [this] at hrs; simp at hrs
              have hrpre : r ∈ pre := hord pre v vs rfl hnsrc r hrs
              exact hpre r hrpre ⟨hrr, Or.inl hrseq⟩
          unfold markOf
          simp only [Bool.or_eq_true]
          right
          exact List.any_eq_true.mpr ⟨r, hrs, hmr⟩
    have hO' : ∀ j ∈ O, setAt m v (markOf g m v) j = true := fun j hj => setAt_mark_mono g m v j (hO j hj)
    have hpre' : ∀ j ∈ pre ++ [v], CombReachNS g O j → setAt m v (markOf g m v) j = true := by
      intro j hj hr
      rcases List.mem_append.mp hj with h | h
      · exact setAt_mark_mono g m v j (hpre j h hr)
      · have : j = v := by simpa using h
        subst this; simp only [setAt, if_true]; exact hv hr
    obtain ⟨ih1, ih2⟩ := ih (pre ++ [v]) (setAt m v (markOf g m v)) (by simpa using hord) hO' hpre'
    constructor
    · intro x hx hr
      simp only [faninYield]
      rcases List.mem_cons.mp hx with rfl | hx
      · rw [hv hr]; simp
      · have := ih1 x hx hr
        split
        · exact List.mem_cons_of_mem _ this
        · exact this
    · intro x hx hr
      simp only [faninMarks]
      exact ih2 x (by simpa using hx) hr

theorem combReach_any (g : G) (O : List Nat) (v : Nat) (h : CombReach g O v) : AnyReach g O v := by
  induction h with
  | orig v hv => exact AnyReach.orig v hv
  | step v r hr _ _ ih => exact AnyReach.step v r hr ih

theorem anyReach_comb (g : G) (O : List Nat) (hseq : ∀ v, g.seq v = false) (v : Nat) (h : AnyReach g O v) :
    CombReach g O v := by
  induction h with
  | orig v hv => exact CombReach.orig v hv
  | step v r hr _ ih => exact CombReach.step v r hr (Or.inl (hseq r)) ih

theorem yield_late_perm (g : G) (vs : List Nat) (m : Nat → Bool) :
    (faninYield g vs m ++ faninLate g vs m).Perm vs := by
  induction vs generalizing m with
  | nil => simp [faninYield, faninLate]
  | cons v vs ih =>
    simp only [faninYield, faninLate]
    split
    · exact (ih _).cons v
    · exact List.perm_middle.trans ((ih _).cons v)

theorem fanin_sublist (late : Bool) (g : G) (O : List Nat) :
    (fanin late g O).Sublist (faninYield g (revKahn g) (originMarks O) ++ faninLate g (revKahn g) (originMarks O)) := by
  refine List.Sublist.append (List.Sublist.refl _) ?_
  cases late
  · exact List.nil_sublist _
  · exact List.filter_sublist

theorem fanin_sub (late : Bool) (g : G) (O : List Nat) : ∀ x ∈ fanin late g O, x ∈ revKahn g :=
  fun _ hx => (yield_late_perm g _ _).subset ((fanin_sublist late g O).subset hx)

theorem originMarks_true (O : List Nat) (j : Nat) : originMarks O j = true ↔ j ∈ O := by
  simp [originMarks]

theorem fanin_sound_any (late : Bool) (g : G) (O : List Nat) : ∀ x ∈ fanin late g O, AnyReach g O x := by
  have h0 : ∀ j, originMarks O j = true → AnyReach g O j :=
    fun j hj => AnyReach.orig j ((originMarks_true O j).mp hj)
  intro x hx
  simp only [fanin, List.mem_append] at hx
  rcases hx with h | h
  · exact faninYield_sound g O _ _ h0 x h
  · cases late with
    | false => simp at h
    | true =>
      simp only [if_true, List.mem_filter] at h
      obtain ⟨r, hr, hm⟩ := List.any_eq_true.mp h.2
      exact AnyReach.step x r hr (faninMarks_sound g O _ _ h0 r hm)

/-! ### completeness of the reversed order and of `fanin` -/

/-- hypotheses under which the reversed traversal visits every node; `g.transpose.isSrc v` is `g.isSink v` by `rfl` -/
structure RevOK (g : G) (rank : Nat → Nat) : Prop where
  cons : g.Consistent
  sb : ∀ v r, r ∈ g.succs v → r < g.n
  pb : ∀ r v, v ∈ g.preds r → v < g.n
  rank : ∀ v r, g.transpose.isSrc v = false → r ∈ g.succs v → rank r < rank v

theorem revKahn_complete (g : G) (rank : Nat → Nat) (h : RevOK g rank) : ∀ r, r < g.n → r ∈ revKahn g := by
  rw [revKahn_eq]
  exact kahn_complete g.transpose (transpose_consistent g h.cons) (fun v r hr => h.pb v r hr)
    (fun r v hv => h.sb r v hv) rank h.rank

theorem revKahn_ordered (g : G) (hc : g.Consistent) : (revKahn g).Nodup ∧ Ordered g.transpose (revKahn g) := by
  rw [revKahn_eq]
  exact kahn_sound g.transpose (transpose_consistent g hc)

theorem fanin_pass (g : G) (O : List Nat) (rank : Nat → Nat) (h : RevOK g rank) (x : Nat) (hx : x < g.n)
    (hr : CombReachNS g O x) :
    x ∈ faninYield g (revKahn g) (originMarks O) ∧ faninMarks g (revKahn g) (originMarks O) x = true := by
  have pass := fanin_pass_complete g O [] (revKahn g) (originMarks O) (by simpa using (revKahn_ordered g h.cons).2)
    (fun j hj => (originMarks_true O j).mpr hj) (by intro j hj; simp at hj)
  have hm := revKahn_complete g rank h x hx
  exact ⟨pass.1 x hm hr, pass.2 x (by simpa using hm) hr⟩

theorem fanin_complete_ns (late : Bool) (g : G) (O : List Nat) (rank : Nat → Nat) (h : RevOK g rank)
    (x : Nat) (hx : x < g.n) (hr : CombReachNS g O x) : x ∈ fanin late g O :=
  List.mem_append_left _ (fanin_pass g O rank h x hx hr).1

/-- with the `late` list every node with a combinational path is yielded -/
theorem fanin_complete_late (g : G) (O : List Nat) (rank : Nat → Nat) (h : RevOK g rank)
    (x : Nat) (hx : x < g.n) (hr : CombReach g O x) : x ∈ fanin true g O := by
  by_cases hns : g.seq x = false ∨ x ∈ O
  · exact fanin_complete_ns true g O rank h x hx ⟨hr, hns⟩
  · cases hr with
    | orig _ hxO => exact absurd (Or.inr hxO) hns
    | step _ r hrs hrns hrr =>
      have hmr := (fanin_pass g O rank h r (h.sb x r hrs) ⟨hrr, hrns⟩).2
      simp only [fanin, List.mem_append, if_true, List.mem_filter]
      rcases List.mem_append.1 ((yield_late_perm g (revKahn g) (originMarks O)).symm.subset
        (revKahn_complete g rank h x hx)) with hy | hl
      · exact Or.inl hy
      · exact Or.inr ⟨hl, List.any_eq_true.mpr ⟨r, hrs, hmr⟩⟩

/-! ### the array checks of `GA` give the rank hypotheses -/

theorem getD_nil_of_ge (a : Array (List Nat)) (v : Nat) (h : a.size ≤ v) : a.getD v [] = [] := by
  simp [Array.getD, Nat.not_lt.mpr h]

theorem lt_size_of_mem_getD {a : Array (List Nat)} {v x : Nat} (h : x ∈ a.getD v []) : v < a.size :=
  Nat.lt_of_not_le fun hge => by rw [getD_nil_of_ge a v hge] at h; cases h

theorem rankOKB_sound (a : GA) (hp : a.preds.size = a.n) (rank : Nat → Nat) (h : a.rankOKB rank = true) :
    ∀ r v, a.toG.isSrc r = false → v ∈ a.toG.preds r → rank v < rank r := by
  intro r v hs hv
  simp only [GA.rankOKB, List.all_eq_true, List.mem_range, Bool.or_eq_true, decide_eq_true_eq] at h
  rcases h r (hp ▸ lt_size_of_mem_getD hv) with h1 | h1
  · rw [hs] at h1; exact absurd h1 (by simp)
  · exact h1 v hv

theorem rrankOKB_sound (a : GA) (rank : Nat → Nat) (h : a.rrankOKB rank = true) :
    ∀ v r, a.toG.transpose.isSrc v = false → r ∈ a.toG.transpose.preds v → rank r < rank v := by
  intro v r hs hr
  simp only [GA.rrankOKB, List.all_eq_true, List.mem_range, Bool.or_eq_true, decide_eq_true_eq] at h
  rcases h v (lt_size_of_mem_getD hr) with h1 | h1
  · have : a.toG.transpose.isSrc v = a.toG.isSink v := rfl
    rw [this, h1] at hs; exact absurd hs (by simp)
  · exact h1 r hr

theorem perm_range_of_nodup_complete (l : List Nat) (n : Nat) (hnd : l.Nodup) (hb : ∀ x ∈ l, x < n)
    (hc : ∀ x, x < n → x ∈ l) : l.Perm (List.range n) := by
  apply (List.perm_ext_iff_of_nodup hnd List.nodup_range).mpr
  intro x
  simp only [List.mem_range]
  exact ⟨hb x, hc x⟩

end KV.Trav
