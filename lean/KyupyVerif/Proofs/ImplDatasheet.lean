import KyupyVerif.Proofs.SubstVocab
import KyupyVerif.Proofs.NetLabelling
/-! Glue for the composition C19 → C10 (netlist level, any acyclic implementation): the node-indexed consistency of C10
(`ConsN` / `ConsOff`: `lineEq` with `spN`, assignment per node) is the position-indexed one of C11 (`NetLabelling(Off)`, assignment per
`s_nodes` position) when the two assignments describe the same stimulus (`consOff_iff_labellingOff`, `consN_iff_labelling`). Hence, for a
well-formed netlist with a topological order in which every line is written by a row, the `ConsN` labellings are exactly the simulation
result of the `SimOps` program — existence (`consN_exec`) and uniqueness (`consN_unique`) from `sim_is_the_labelling`
(Proofs/NetLabelling.lean). The stimulus is ANY `env` that holds the assignment of the `p`-th `s_nodes` element in input slot `ppi + p`
and 0 in the constant-0 slot. -/
namespace KV.Transform
open KV KV.Sig KV.Netlist

theorem pos_node_lineEq {α : Type _} (net : Net) (z : α) (neg : α → α) (prim : String → α → α → α → α → α) (a an : Nat → α)
    (h : ∀ n ∈ net.sNodes, an n = a (net.sNodes.idxOf n)) (v : Nat → α) (l : Nat) :
    lineEq net net.sPos z neg prim a v l = lineEq net (spN net) z neg prim an v l := by
  apply Transform.lineEq_congr
  · rfl
  · rfl
  · simp only [spN, Net.sPos, sPosIn, List.contains_iff_mem]
    by_cases hm : (net.line l).driver ∈ net.sNodes
    · have hlt := List.idxOf_lt_length_iff.mpr hm
      simp only [hm, hlt, if_true, Option.map_some, h _ hm]
    · have : ¬ List.idxOf (net.line l).driver net.sNodes < net.sNodes.length := fun x => hm (List.idxOf_lt_length_iff.mp x)
      simp [hm, this]
  · intro k; rfl

theorem consOff_iff_labellingOff {α : Type _} (nn : NNet) (S : Nat → Prop) (z : α) (neg : α → α) (prim : String → α → α → α → α → α)
    (a an : Nat → α) (h : ∀ n ∈ nn.net.sNodes, an n = a (nn.net.sNodes.idxOf n)) (v : Nat → α) :
    ConsOff nn S z neg prim an v ↔ NetLabellingOff nn.net S z neg prim a v := by
  simp only [ConsOff, NetLabellingOff, pos_node_lineEq nn.net z neg prim a an h]

theorem consN_iff_labelling {α : Type _} (nn : NNet) (z : α) (neg : α → α) (prim : String → α → α → α → α → α)
    (a an : Nat → α) (h : ∀ n ∈ nn.net.sNodes, an n = a (nn.net.sNodes.idxOf n)) (v : Nat → α) :
    ConsN nn z neg prim an v ↔ NetLabelling nn.net z neg prim a v := by
  rw [← consOff_false, ← netLabellingOff_false]
  exact consOff_iff_labellingOff nn _ z neg prim a an h v

theorem sameAssign_of_getD {α : Type _} {net : Net} {an a : Nat → α}
    (h : ∀ p, p < net.sNodes.length → a p = an (net.sNodes.getD p 0)) : ∀ n ∈ net.sNodes, an n = a (net.sNodes.idxOf n) := by
  intro n hn
  have hlt := List.idxOf_lt_length_iff.mpr hn
  rw [h _ hlt, List.getD_eq_getElem?_getD, List.getElem?_eq_getElem hlt]
  simp

variable (m : NNet) (order : List Nat)

theorem consN_unique (hwf : m.net.wfB = true) (ho : orderOKB m.net order = true) (hfk : forksOKB m.net order = true)
    (hall : linesDrivenB Gen.kindPrefixes m.net order = true) (env an v : Nat → Bool)
    (hz : env m.net.idx.zero = false)
    (henv : ∀ p, p < m.net.sNodes.length → env (m.net.idx.ppi + p) = an (m.net.sNodes.getD p 0))
    (hc : ConsN m false (!·) prim2 an v) :
    ∀ l, l < m.net.lines.size →
      v l = exec specL2 ((genOps Gen.kindPrefixes m.net order false).map OpRow.toOp) env l := by
  have s := (sim_is_the_labelling specL2 specL2 (fun _ _ _ => rfl) (!·) prim2 semSpec2 m.net order hwf ho hfk hall env).2 v
  rw [hz] at s
  exact s ((consN_iff_labelling m false (!·) prim2 _ an (sameAssign_of_getD henv) v).mp hc)

theorem consN_exec (hwf : m.net.wfB = true) (ho : orderOKB m.net order = true) (hfk : forksOKB m.net order = true)
    (hall : linesDrivenB Gen.kindPrefixes m.net order = true) (env an : Nat → Bool)
    (hz : env m.net.idx.zero = false)
    (henv : ∀ p, p < m.net.sNodes.length → env (m.net.idx.ppi + p) = an (m.net.sNodes.getD p 0)) :
    ConsN m false (!·) prim2 an (exec specL2 ((genOps Gen.kindPrefixes m.net order false).map OpRow.toOp) env) := by
  have s := (sim_is_the_labelling specL2 specL2 (fun _ _ _ => rfl) (!·) prim2 semSpec2 m.net order hwf ho hfk hall env).1
  rw [hz] at s
  exact (consN_iff_labelling m false (!·) prim2 _ an (sameAssign_of_getD henv) _).mpr s

end KV.Transform
