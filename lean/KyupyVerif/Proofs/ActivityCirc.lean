import KyupyVerif.Proofs.WaveBridge
/-! Accumulated switching activity on the real memory layout, in terms of SIGNAL-LEVEL waveforms (C13 `activity_all_circuits`).

`MapSound.memTrace` / `sigTrace`: what a function `cnt` of a row and its operand values yields along the deterministic memory run /
along signal-level execution; under an accepted map record they coincide (`trace_eq`: the operands a row reads from memory are the
signal-level values of its sources at that point — `args_eq` — although regions are shared by stripped branches and re-used).
With `cnt` = the evaluator's transition counts and the bridge of Proofs/WaveBridge.lean the trace of a lane of the code-path model
(`WaveIO.laneTrace`) is the signal-level trace (`laneTrace_eq_sigTrace`), whose counts are the transitions of the waveform the row
produces at signal level (`sigTrace_counts`). -/
namespace KV.MapSound
open KV

variable {α C β : Type}

def memTrace (p : MapIn) (R : RW α C) (sem : OpRow → List α → α) (cnt : OpRow → List α → β) :
    List OpRow → (Int → C) → List (OpRow × β)
  | [], _ => []
  | o :: r, m => (o, cnt o (o.ins.map fun i => rdS p R i m)) :: memTrace p R sem cnt r (memStep p R sem m o)

def sigTrace (p : MapIn) (sem : OpRow → List α → α) (cnt : OpRow → List α → β) :
    List OpRow → (Nat → α) → List (OpRow × β)
  | [], _ => []
  | o :: r, env => (o, cnt o (o.ins.map fun i => env (p.src i))) :: sigTrace p sem cnt r (sigStep p sem env o)

/-- **the trace on memory = the trace at signal level** (accepted map record, level-respecting schedule, results fit) -/
theorem trace_eq (p : MapIn) (hc : p.check = none) (R : RW α C) (sem : OpRow → List α → α) (cnt : OpRow → List α → β)
    (sched : List Nat) (hs : Sched p sched) (Q : α → Prop)
    (hQsem : ∀ o ∈ p.ops, ∀ args, (∀ a ∈ args, Q a) → Q (sem o args))
    (hfit : ∀ o ∈ p.ops, ∀ args m, (∀ a ∈ args, Q a) →
      R.rd (p.loc o.out) (p.cap o.out) (R.wr (p.loc o.out) (p.cap o.out) (sem o args) m) = sem o args)
    (m0 : Int → C) (env0 : Nat → α) (hQ0 : ∀ x, Q (env0 x))
    (h0 : ∀ x ∈ p.tracked, (∀ o ∈ p.ops, o.out ≠ x) → rdS p R x m0 = env0 x) :
    memTrace p R sem cnt (schedOps p sched) m0 = sigTrace p sem cnt (schedOps p sched) env0 :=
  lockstep (good_of_check p hc) R sem sched hs Q hQsem hfit (fun rows m env => memTrace p R sem cnt rows m = sigTrace p sem cnt rows env)
    (fun _ _ => rfl) (fun _ _ _ _ hargs _ ih => by simp only [memTrace, sigTrace]; rw [hargs, ih]) sched [] m0 env0 (by simp)
    (inv0 p R sched m0 env0 h0) hQ0

theorem sigTrace_forall (p : MapIn) (sem : OpRow → List α → α) (cnt : OpRow → List α → β) (Q : α → Prop)
    (P : OpRow → β → Prop) (rows : List OpRow)
    (hQsem : ∀ o ∈ rows, ∀ args, (∀ a ∈ args, Q a) → Q (sem o args))
    (hP : ∀ o ∈ rows, ∀ args, (∀ a ∈ args, Q a) → P o (cnt o args)) (env : Nat → α) (hQ : ∀ x, Q (env x)) :
    ∀ e ∈ sigTrace p sem cnt rows env, P e.1 e.2 := by
  induction rows generalizing env with
  | nil => intro e he; simp [sigTrace] at he
  | cons o r ih =>
    intro e he
    simp only [sigTrace, List.mem_cons] at he
    rcases he with rfl | he
    · apply hP o List.mem_cons_self
      intro a ha
      obtain ⟨i, _, rfl⟩ := List.mem_map.1 ha
      exact hQ _
    · exact ih (fun o' ho' => hQsem o' (List.mem_cons_of_mem _ ho')) (fun o' ho' => hP o' (List.mem_cons_of_mem _ ho'))
        _ (sigStep_inv p sem Q o env hQ (hQsem o List.mem_cons_self)) e he

theorem sigTrace_rows (p : MapIn) (sem : OpRow → List α → α) (cnt : OpRow → List α → β) (rows : List OpRow) (env : Nat → α) :
    (sigTrace p sem cnt rows env).map (·.1) = rows := by
  induction rows generalizing env with
  | nil => rfl
  | cons o r ih => simp only [sigTrace, List.map_cons, ih]

end KV.MapSound

namespace KV.WaveIO
open KV KV.Sig KV.Wave KV.MapSound

def rowCounts (cfg : WCfg) (p : MapIn) (o : OpRow) (args : List Wv) : Nat × Nat := waveCounts cfg (wvOp p o) args

theorem laneTrace_eq_memTrace (p : MapIn) (delay : Nat → Bool → Bool → Int) (sim : Nat) (rows : List AOp) (c : Col)
    (hcap : ∀ o ∈ rows, 2 ≤ p.cap o.op.out) :
    (laneTrace (evWave (fun _ => wcfg p delay) p.loc) sim rows c).map (fun e => (e.1.op, (e.2.1, e.2.2))) =
      memTrace p (waveRW keepJunk) (waveRow (wcfg p delay) p) (rowCounts (wcfg p delay) p) (rows.map (·.op)) c := by
  induction rows generalizing c with
  | nil => rfl
  | cons o r ih =>
    simp only [laneTrace, List.map_cons, memTrace]
    rw [evWave_rows p delay o.op sim c (hcap o List.mem_cons_self), ih _ (fun o' ho' => hcap o' (List.mem_cons_of_mem _ ho'))]
    rfl

/-- **a lane's trace = the signal-level trace** (accepted map record with `c_caps_min ≥ 4`, delays ≥ 0, the rows in any
    level-respecting order, well-formed stimulus): the counts of every row are those of its evaluation on the SIGNAL-LEVEL waveforms
    of its source signals -/
theorem laneTrace_eq_sigTrace (p : MapIn) (hc : p.check = none) (h4 : 4 ≤ p.capsMin) (delay : Nat → Bool → Bool → Int)
    (hd : ∀ l a b, 0 ≤ delay l a b) (sim : Nat) (rows : List AOp) (order : List Nat) (hs : Sched p order)
    (hrows : rows.map (·.op) = schedOps p order) (c : Col)
    (env0 : Nat → Wv) (henv : ∀ x, (env0 x).ok) (h0 : Stimulus p c env0) :
    (laneTrace (evWave (fun _ => wcfg p delay) p.loc) sim rows c).map (fun e => (e.1.op, (e.2.1, e.2.2))) =
      sigTrace p (waveRow (wcfg p delay) p) (rowCounts (wcfg p delay) p) (schedOps p order) env0 := by
  have hcapge := cap_ge_of_check p hc
  have hcap : ∀ o ∈ rows, 2 ≤ p.cap o.op.out := by
    intro o ho
    have hmem : o.op ∈ schedOps p order := by rw [← hrows]; exact List.mem_map_of_mem ho
    have := hcapge o.op (mem_schedOps hmem)
    omega
  rw [laneTrace_eq_memTrace p delay sim rows c hcap, hrows]
  exact trace_eq p hc (waveRW keepJunk) (waveRow (wcfg p delay) p) (rowCounts (wcfg p delay) p) order hs Wv.ok
    (fun o ho args hargs => waveSem_ok (wcfg_opOK p hc h4 delay hd ho hargs))
    (fun o ho args m hargs => waveRW_fit keepJunk _ _ _ m
      (wcfg_opOK p hc h4 delay hd ho hargs).fits)
    c env0 henv h0

theorem sigTrace_counts (p : MapIn) (hc : p.check = none) (h4 : 4 ≤ p.capsMin) (delay : Nat → Bool → Bool → Int)
    (hd : ∀ l a b, 0 ≤ delay l a b) (rows : List OpRow) (hin : ∀ o ∈ rows, o ∈ p.ops) (env : Nat → Wv) (hok : ∀ x, (env x).ok) :
    sigTrace p (waveRow (wcfg p delay) p) (rowCounts (wcfg p delay) p) rows env =
      sigTrace p (waveRow (wcfg p delay) p)
        (fun o args => countTrans false (waveRow (wcfg p delay) p o args).ents) rows env := by
  induction rows generalizing env with
  | nil => rfl
  | cons o r ih =>
    have ho := hin o List.mem_cons_self
    have hargs : ∀ a ∈ (o.ins.map fun i => env (p.src i)), a.ok := by
      intro a ha
      obtain ⟨i, _, rfl⟩ := List.mem_map.1 ha
      exact hok _
    simp only [sigTrace]
    rw [ih (fun o' ho' => hin o' (List.mem_cons_of_mem _ ho')) _
      (sigStep_inv p _ Wv.ok o env hok (fun args ha => waveSem_ok (wcfg_opOK p hc h4 delay hd ho ha)))]
    congr 2
    exact waveCounts_eq_countTrans (wcfg_opOK p hc h4 delay hd ho hargs)

theorem laneTrace_rows (ev : Ev) (sim : Nat) (rows : List AOp) (c : Col) : (laneTrace ev sim rows c).map (·.1) = rows := by
  induction rows generalizing c with
  | nil => rfl
  | cons o r ih => simp only [laneTrace, List.map_cons, ih]

theorem contribs_zip (l : List (AOp × Nat × Nat)) (rows : List AOp) (h : l.map (·.1) = rows) :
    l.map contribOf =
      List.zipWith (fun (o : AOp) (e : OpRow × Nat × Nat) => contribOf (o, e.2.1, e.2.2)) rows
        (l.map fun e => (e.1.op, (e.2.1, e.2.2))) := by
  induction l generalizing rows with
  | nil => subst h; rfl
  | cons e r ih =>
    subst h
    simp only [List.map_cons, List.zipWith_cons_cons]
    rw [ih _ rfl]

end KV.WaveIO
