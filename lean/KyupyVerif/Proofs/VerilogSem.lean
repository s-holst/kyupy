import KyupyVerif.Proofs.VerilogNodes
import KyupyVerif.Proofs.CircLabel
import KyupyVerif.Proofs.GateVal
/-! `parsed_sem` for the Verilog fragment `verilogOKB`: the labellings of `verilogNet …` consistent with the netlist are exactly
the labellings induced by the models of the module (`VModel`, Model/VerilogSem.lean), one model per labelling.  Every statement is
proved for a set of instances left open (`HI`, `VModelOff`, `holeEp`); the hole-free statements are the case of the empty set.
No statement here needs `(module …).err = false`. -/
namespace KV.Netlist
open KV

universe u
variable {cfg : Cfg} {tl : TL} {ports : List String} {stmts : List Stmt}

def vL (cfg : Cfg) (tl : TL) (stmts : List Stmt) : List (Ep × Ep) := (vFlat cfg tl (sigDecls stmts) stmts).map vl

theorem any_vL (e : Ep) : ((vL cfg tl stmts).any fun p => p.2 == e) = (vFlat cfg tl (sigDecls stmts) stmts).any fun t => t.r == e := by
  unfold vL
  rw [List.any_map]
  rfl

theorem inVal_cell_eq {α : Type u} (L : List (Ep × Ep)) (w : Ep → α) (nm : String) (p k : Nat) :
    inVal L w (.cell nm p) k = if L.any (fun q => q.2 == Ep.cell nm k) then some (w (.cell nm k)) else none := rfl

theorem inVal_fork_eq {α : Type u} (L : List (Ep × Ep)) (w : Ep → α) (s : String) :
    inVal L w (.fork s) 0 = if L.any (fun q => q.2 == Ep.fork s) then some (w (.fork s)) else none := rfl

theorem inVal_vL {α : Type u} (w : Ep → α) {d e : Ep} {k : Nat} (he : d.inEp k = some e) :
    inVal (vL cfg tl stmts) w d k =
      if ∃ t ∈ vFlat cfg tl (sigDecls stmts) stmts, t.r = e then some (w e) else none := by
  unfold inVal
  simp only [he, any_vL, List.any_eq_true, beq_iff_eq]

theorem inVal_inst {α : Type u} (hok : VOK cfg tl ports stmts) (i : VInst) (hi : i ∈ vInsts stmts) (z : α)
    (prim : String → α → α → α → α → α) (w : Ep → α) (σ : String → α)
    (hw : ∀ t ∈ vFlat cfg tl (sigDecls stmts) stmts, (∃ k, t.r = .cell i.name k) → w t.r = sigVal z prim σ t.sig) (p k : Nat) :
    inVal (vL cfg tl stmts) w (.cell i.name p) k = (inSig tl i k).map (sigVal z prim σ) := by
  rw [inVal_vL w (e := .cell i.name k) rfl]
  cases hs : inSig tl i k with
  | none =>
    exact if_neg fun ⟨t, ht, hr⟩ => by
      have := reader_cell_inst hok i hi k t ht hr
      rw [hs] at this; cases this
  | some s =>
    obtain ⟨c, hc, hk, hcs⟩ := (inSig_iff hok i hi k s).mp hs
    obtain ⟨t, ht, hr, hsig⟩ := inst_pin_line (cfg := cfg) i hi (sigDecls stmts) c hc
    rw [hk] at hr
    rw [if_pos ⟨t, ht, hr⟩, ← hr, hw t ht ⟨k, hr⟩, hsig, hcs]
    rfl

theorem v_drive_inst {α : Type u} (hok : VOK cfg tl ports stmts) (i : VInst) (hi : i ∈ vInsts stmts) (idx : Nat) (z : α) (neg : α → α)
    (prim : String → α → α → α → α → α) (a : Nat → α) (w : Ep → α) (σ : String → α)
    (hw : ∀ t ∈ vFlat cfg tl (sigDecls stmts) stmts, (∃ k, t.r = .cell i.name k) → w t.r = sigVal z prim σ t.sig) :
    driveVal (vL cfg tl stmts) ((module cfg tl ports stmts).kindOf (.cell i.name idx))
      ((verilogNet cfg tl ports stmts).sPos ((module cfg tl ports stmts).nodeIdx (.cell i.name idx))) z neg prim a w (.cell i.name idx) =
    instVal tl z neg prim a (vSPos ports stmts (.cell i.name 0)) i idx σ := by
  rw [v_kindOf_inst hok i hi, verilogNet_sPos_inst hok i hi]
  by_cases hs : isSeqKind i.ty = true
  · have hs' : (hasSub "dff" i.ty.toLower || hasSub "latch" i.ty.toLower) = true := hs
    unfold driveVal instVal
    simp only [hs, if_true, hs', Ep.cpin]
    rfl
  · have hk : (i.ty == "__fork__") = false := by simp [show i.ty ≠ "__fork__" from hok.kinds i hi]
    have hs' : isSeqKind i.ty = false := by simpa using hs
    simp only [hs', Bool.false_eq_true, if_false]
    rw [driveVal_comb _ _ _ _ _ _ _ _ hk, instVal_comb tl z neg prim a _ i idx σ hs']
    exact primVal_congr _ _ _ _ _ fun k _ => inVal_inst hok i hi z prim w σ hw idx k

theorem v_drive_input {α : Type u} (hok : VOK cfg tl ports stmts) (n : String) (hn : n ∈ inputNames (sigDecls stmts)) (z : α)
    (neg : α → α) (prim : String → α → α → α → α → α) (a : Nat → α) (w : Ep → α) :
    driveVal (vL cfg tl stmts) ((module cfg tl ports stmts).kindOf (.cell n 0))
      ((verilogNet cfg tl ports stmts).sPos ((module cfg tl ports stmts).nodeIdx (.cell n 0))) z neg prim a w (.cell n 0) =
    a (vSPos ports stmts (.cell n 0)) := by
  have h1 : (hasSub "dff" "input".toLower || hasSub "latch" "input".toLower) = false := by decide +kernel
  have h2 : ("input" == forkKind) = false := by decide +kernel
  rw [v_kindOf_input hok n hn, verilogNet_sPos_input hok n hn]
  unfold driveVal
  simp only [h1, Bool.false_eq_true, if_false, h2]
  cases inVal (vL cfg tl stmts) w (.cell n 0) 0 <;> rfl

theorem v_drive_const {α : Type u} (hok : VOK cfg tl ports stmts) (s : String) (k : Nat) (hs : isConstLit s = true)
    (hn : (⟨constKind s, constName s k, false⟩ : NodeM) ∈ (module cfg tl ports stmts).nodes)
    (hcn : constName s k ∈ constNames tl (sigDecls stmts) stmts) (z : α) (neg : α → α) (prim : String → α → α → α → α → α) (a : Nat → α)
    (w : Ep → α) :
    driveVal (vL cfg tl stmts) ((module cfg tl ports stmts).kindOf (.cell (constName s k) 0))
      ((verilogNet cfg tl ports stmts).sPos ((module cfg tl ports stmts).nodeIdx (.cell (constName s k) 0))) z neg prim a w
      (.cell (constName s k) 0) = constVal z prim s := by
  obtain ⟨hr, hk⟩ := v_const_cell hok s k hs hn 0
  have hnone : ∀ j, inVal (vL cfg tl stmts) w (.cell (constName s k) 0) j = none := fun j => by
    rw [inVal_vL w (e := .cell (constName s k) j) rfl, if_neg fun ⟨t, ht, hr⟩ => no_line_into_const hok _ hcn j t ht hr]
  have hkf : (constKind s == "__fork__") = false := by simp [show constKind s ≠ "__fork__" from constKind_ne_fork s hs]
  rw [hk, verilogNet_sPos hok _ hr rfl, const_not_sname hok _ hcn]
  show driveVal (vL cfg tl stmts) (constKind s) none z neg prim a w (.cell (constName s k) 0) = constVal z prim s
  rw [driveVal_comb _ _ _ _ _ _ _ _ hkf, constVal_eq]
  exact primVal_congr _ _ _ _ _ fun j _ => hnone j

def vLabel {α : Type u} (cfg : Cfg) (tl : TL) (stmts : List Stmt) (z : α) (prim : String → α → α → α → α → α) (σ : String → α) : Nat → α :=
  fun i => sigVal z prim σ ((vSigs cfg tl stmts).getD i "")

/-- end-point values of an environment: what the line ending at `e` carries; the default `z` is never read, no line ends there -/
def wOfV {α : Type u} (cfg : Cfg) (tl : TL) (stmts : List Stmt) (z : α) (prim : String → α → α → α → α → α) (σ : String → α) (e : Ep) : α :=
  match (vFlat cfg tl (sigDecls stmts) stmts).find? (fun t => t.r == e) with
  | some t => sigVal z prim σ t.sig
  | none => z

theorem wOfV_line {α : Type u} (hok : VOK cfg tl ports stmts) (z : α) (prim : String → α → α → α → α → α) (σ : String → α) (t : VLine)
    (ht : t ∈ vFlat cfg tl (sigDecls stmts) stmts) : wOfV cfg tl stmts z prim σ t.r = sigVal z prim σ t.sig := by
  unfold wOfV
  cases hf : (vFlat cfg tl (sigDecls stmts) stmts).find? (fun t' => t'.r == t.r) with
  | none =>
    rw [List.find?_eq_none] at hf
    have := hf t ht
    simp at this
  | some t' =>
    have h1 := List.mem_of_find?_eq_some hf
    have h2 : t'.r = t.r := by simpa using List.find?_some hf
    rw [inj_of_nodup_map (·.r) hok.readers h1 ht h2]

theorem vL_length : (vL cfg tl stmts).length = (vFlat cfg tl (sigDecls stmts) stmts).length := by simp [vL]

theorem vL_get (j : Nat) (hj : j < (vL cfg tl stmts).length) :
    (vL cfg tl stmts)[j] = vl ((vFlat cfg tl (sigDecls stmts) stmts)[j]'(by rw [← vL_length]; exact hj)) := by
  simp [vL]

theorem vLabel_eq {α : Type u} (z : α) (prim : String → α → α → α → α → α) (σ : String → α) (j : Nat)
    (hj : j < (vFlat cfg tl (sigDecls stmts) stmts).length) :
    vLabel cfg tl stmts z prim σ j = sigVal z prim σ (vFlat cfg tl (sigDecls stmts) stmts)[j].sig := by
  unfold vLabel vSigs
  rw [List.getD_eq_getElem?_getD, List.getElem?_map, List.getElem?_eq_getElem hj]
  rfl

theorem module_flat' (hok : VOK cfg tl ports stmts) : flatLines (module cfg tl ports stmts) = vL cfg tl stmts := module_flat hok

theorem verilogNet_idx_lt {e : Ep} (h : (module cfg tl ports stmts).resolved e) :
    (module cfg tl ports stmts).nodeIdx e < (verilogNet cfg tl ports stmts).nodes.size := by
  unfold verilogNet
  rw [toNet_nodes_size]
  exact h

theorem verilogNet_lines_size (hok : VOK cfg tl ports stmts) :
    (verilogNet cfg tl ports stmts).lines.size = (vFlat cfg tl (sigDecls stmts) stmts).length := by
  unfold verilogNet
  rw [toNet_lines_size, module_flat' hok, vL_length]

theorem v_resolved_all (hok : VOK cfg tl ports stmts) : ∀ p ∈ flatLines (module cfg tl ports stmts), (module cfg tl ports stmts).resolved p.1 := by
  intro p hp
  rw [module_flat' hok] at hp
  obtain ⟨t, ht, rfl⟩ := List.mem_map.mp hp
  exact v_resolved_driver hok t ht

theorem sigVal_driven {α : Type u} (hok : VOK cfg tl ports stmts) (z : α) (prim : String → α → α → α → α → α) (σ : String → α) (s : String)
    (hs : s ∈ drivenSigs tl (sigDecls stmts) stmts) : sigVal z prim σ s = σ s := by
  unfold sigVal
  rw [isConstLit_of_not_bit s (hok.noConst s hs)]
  rfl

theorem sigVal_lit {α : Type u} (z : α) (prim : String → α → α → α → α → α) (σ : String → α) (s : String) (hs : isConstLit s = true) :
    sigVal z prim σ s = constVal z prim s := by
  unfold sigVal
  rw [hs]
  rfl

/-- the end-point values `w` are those of environment `σ`: every line delivers the value of its signal, every driven fork shows `σ` -/
structure Agree {α : Type u} (cfg : Cfg) (tl : TL) (stmts : List Stmt) (z : α) (prim : String → α → α → α → α → α) (w : Ep → α)
    (σ : String → α) : Prop where
  lines : ∀ t ∈ vFlat cfg tl (sigDecls stmts) stmts, w t.r = sigVal z prim σ t.sig
  forks : ∀ s ∈ drivenSigs tl (sigDecls stmts) stmts, w (.fork s) = σ s

theorem conn_const_line (k : Nat) (i : VInst) (c : String × Nat × String) (st : ConnStep cfg tl ports stmts k i c)
    (hl : isConstLit c.2.2 = true) :
    (⟨.cell (constName c.2.2 k) 0, .fork (constName c.2.2 k), c.2.2⟩ : VLine) ∈ vFlat cfg tl (sigDecls stmts) stmts :=
  st.lines _ (by rw [mem_connLines]; exact Or.inl ⟨hl, rfl⟩)

theorem agree_src {α : Type u} (hok : VOK cfg tl ports stmts) (z : α) (prim : String → α → α → α → α → α) (w : Ep → α) (σ : String → α)
    (hf : ∀ s ∈ drivenSigs tl (sigDecls stmts) stmts, w (.fork s) = σ s) (k : Nat) (i : VInst) (c : String × Nat × String)
    (hst : ConnStep cfg tl ports stmts k i c)
    (hl : isConstLit c.2.2 = true → w (.fork (constName c.2.2 k)) = sigVal z prim σ c.2.2) :
    w (.fork (srcFork k c)) = sigVal z prim σ c.2.2 := by
  unfold srcFork
  rcases inConn_ok hok i hst.memI c hst.memC with hc | ⟨hc, hd⟩
  · simp only [hc, if_true]
    exact hl hc
  · simp only [hc, Bool.false_eq_true, if_false]
    rw [hf _ hd, sigVal_driven hok z prim σ _ hd]

theorem conn_src_has_line (hok : VOK cfg tl ports stmts) (k : Nat) (i : VInst) (c : String × Nat × String)
    (st : ConnStep cfg tl ports stmts k i c) : ∃ t0 ∈ vFlat cfg tl (sigDecls stmts) stmts, t0.r = .fork (srcFork k c) := by
  unfold srcFork
  rcases inConn_ok hok i st.memI c st.memC with hl | ⟨hl, hdr⟩
  · simp only [hl, if_true]
    exact ⟨_, conn_const_line k i c st hl, rfl⟩
  · simp only [hl, Bool.false_eq_true, if_false]
    exact driven_has_line _ _ hdr

theorem conn_stem_line (hb : cfg.bf = true) (k : Nat) (i : VInst) (c : String × Nat × String) (st : ConnStep cfg tl ports stmts k i c) :
    (⟨.fork (srcFork k c), .fork (branchName (srcFork k c) i.name c.1), c.2.2⟩ : VLine) ∈ vFlat cfg tl (sigDecls stmts) stmts :=
  st.lines _ (by rw [mem_connLines]; exact Or.inr (Or.inl ⟨hb, Or.inl rfl⟩))

theorem fork_driver_has_source (hok : VOK cfg tl ports stmts) (t : VLine) (ht : t ∈ vFlat cfg tl (sigDecls stmts) stmts) (f : String)
    (hd : t.d = .fork f) : ∃ t0 ∈ vFlat cfg tl (sigDecls stmts) stmts, t0.r = .fork f := by
  cases vFlat_cases hok t ht with
  | pairFork k ts st hc =>
    cases hd
    exact driven_has_line _ _ (by rw [drivenSigs_eq]; exact assignsOK_src _ _ hok.assigns ts st.mem hc)
  | connStem k i c st hb => cases hd; exact conn_src_has_line hok k i c st
  | connPlain k i c st hb => cases hd; exact conn_src_has_line hok k i c st
  | connBranch k i c st hb => cases hd; exact ⟨_, conn_stem_line hb k i c st, rfl⟩
  | output n hn => cases hd; exact driven_has_line _ _ (hok.outs _ hn)
  | _ => cases hd

theorem v_drive_fork {α : Type u} (hok : VOK cfg tl ports stmts) (t : VLine) (ht : t ∈ vFlat cfg tl (sigDecls stmts) stmts) (f : String)
    (hd : t.d = .fork f) (z : α) (neg : α → α) (prim : String → α → α → α → α → α) (a : Nat → α) (w : Ep → α) :
    driveVal (vL cfg tl stmts) ((module cfg tl ports stmts).kindOf t.d)
      ((verilogNet cfg tl ports stmts).sPos ((module cfg tl ports stmts).nodeIdx t.d)) z neg prim a w t.d = w (.fork f) := by
  have hr := v_resolved_driver hok t ht
  rw [hd] at hr ⊢
  rw [kindOf_fork _ f hr, verilogNet_sPos_fork hok f hr]
  unfold driveVal
  simp only [beq_self_eq_true, if_true, inVal_vL w (d := .fork f) (k := 0) rfl, if_pos (fork_driver_has_source hok t ht f hd),
    Option.getD_some]

/-- the driver end points of the lines of the instances selected by `HI` (the "holes"); any pin `p`: `nodeIdx` ignores the pin of a
cell end point (`nodeIdx_cell_pin`), so these are the end points of the instance's node -/
def holeEp (stmts : List Stmt) (HI : VInst → Prop) (e : Ep) : Prop := ∃ i ∈ vInsts stmts, HI i ∧ ∃ p, e = .cell i.name p

theorem vModel_iff_off {α : Type u} (z : α) (neg : α → α) (prim : String → α → α → α → α → α) (a : Nat → α) (σ : String → α) :
    VModel tl ports stmts z neg prim a σ ↔ VModelOff (fun _ => False) tl ports stmts z neg prim a σ :=
  ⟨fun h => ⟨fun i hi _ => h.1 i hi, h.2⟩, fun h => ⟨fun i hi => h.1 i hi (fun x => x), h.2⟩⟩

theorem v_pairs_agree {α : Type u} (hok : VOK cfg tl ports stmts) (z : α) (prim : String → α → α → α → α → α)
    (σ : String → α) (hp : ∀ ts ∈ vPairs stmts, σ ts.1 = sigVal z prim σ ts.2) :
    Agree cfg tl stmts z prim (wOfV cfg tl stmts z prim σ) σ := by
  refine ⟨fun t ht => wOfV_line hok z prim σ t ht, fun s hs => ?_⟩
  rcases (mem_drivenSigs (sigDecls stmts) s).mp hs with ⟨i, hi, o, ho, rfl⟩ | hn | ⟨ts, hts, rfl⟩
  · have := wOfV_line hok z prim σ _ (vFlat_inst_out (cfg := cfg) (sigDecls stmts) i hi o ho)
    simp only at this
    rw [this, sigVal_driven hok z prim σ _ hs]
  · have := wOfV_line hok z prim σ _ (vFlat_input (cfg := cfg) (tl := tl) (stmts := stmts) (sigDecls stmts) s hn)
    simp only at this
    rw [this, sigVal_driven hok z prim σ _ hs]
  · obtain ⟨t, ht, hr, hs⟩ := vFlat_pair (cfg := cfg) (tl := tl) (sigDecls stmts) ts hts
    rw [← hr, wOfV_line hok z prim σ t ht, hs, hp ts hts]

theorem v_model_forks {α : Type u} (hok : VOK cfg tl ports stmts) (z : α) (neg : α → α) (prim : String → α → α → α → α → α) (a : Nat → α)
    (σ : String → α) (hm : VModel tl ports stmts z neg prim a σ) :
    Agree cfg tl stmts z prim (wOfV cfg tl stmts z prim σ) σ := v_pairs_agree hok z prim σ hm.2.2.1

/-- a model outside the instances `HI` gives end-point values (`wOfV`) that satisfy `driveVal` on every line not driven by a hole -/
theorem v_model_circ_off {α : Type u} (hok : VOK cfg tl ports stmts) (HI : VInst → Prop) (z : α) (neg : α → α)
    (prim : String → α → α → α → α → α) (a : Nat → α) (σ : String → α) (hm : VModelOff HI tl ports stmts z neg prim a σ) :
    CircModelOff (module cfg tl ports stmts) (module cfg tl ports stmts).ioVerilog (holeEp stmts HI) z neg prim a
      (wOfV cfg tl stmts z prim σ) := by
  have hag := v_pairs_agree (cfg := cfg) hok z prim σ hm.2.2.1
  intro p hp hH
  rw [module_flat' hok] at hp ⊢
  obtain ⟨t, ht, rfl⟩ := List.mem_map.mp hp
  show wOfV cfg tl stmts z prim σ t.r = driveVal (vL cfg tl stmts) ((module cfg tl ports stmts).kindOf t.d)
    ((verilogNet cfg tl ports stmts).sPos ((module cfg tl ports stmts).nodeIdx t.d)) z neg prim a (wOfV cfg tl stmts z prim σ) t.d
  rw [hag.lines t ht]
  cases vFlat_cases hok t ht with
  | instOut i hi o ho =>
    rw [v_drive_inst hok i hi o.1 z neg prim a _ σ (fun t ht _ => hag.lines t ht),
      sigVal_driven hok z prim σ _ (driven_of_out _ i hi o ho)]
    exact hm.1 i hi (fun h => hH ⟨i, hi, h, o.1, rfl⟩) o ho
  | input n hn =>
    rw [v_drive_input hok n hn, sigVal_driven hok z prim σ _ (driven_of_input _ n hn)]
    exact hm.2.1 n hn
  | pairConst k ts st hc =>
    rw [v_drive_const hok ts.2 k hc (st.nodes _ (by unfold pairNodes; simp [hc])) (st.cname hc), sigVal_lit z prim σ _ hc]
  | pairFork k ts st hc =>
    have hsd : ts.2 ∈ drivenSigs tl (sigDecls stmts) stmts := by
      rw [drivenSigs_eq]; exact assignsOK_src _ _ hok.assigns ts st.mem hc
    rw [v_drive_fork hok _ ht _ rfl, hag.forks _ hsd, sigVal_driven hok z prim σ _ hsd]
  | connConst k i c st hc =>
    rw [v_drive_const hok c.2.2 k hc (st.nodes _ (by unfold connNodes; simp [hc])) (st.cname hc), sigVal_lit z prim σ _ hc]
  | connStem k i c st hb =>
    rw [v_drive_fork hok _ ht _ rfl, agree_src hok z prim _ σ hag.forks k i c st fun hl => hag.lines _ (conn_const_line k i c st hl)]
  | connBranch k i c st hb =>
    rw [v_drive_fork hok _ ht _ rfl]
    exact (hag.lines _ (conn_stem_line hb k i c st)).symm
  | connPlain k i c st hb =>
    rw [v_drive_fork hok _ ht _ rfl, agree_src hok z prim _ σ hag.forks k i c st fun hl => hag.lines _ (conn_const_line k i c st hl)]
  | output n hn =>
    have hd := hok.outs n hn
    rw [v_drive_fork hok _ ht _ rfl, hag.forks _ hd, sigVal_driven hok z prim σ _ hd]

theorem v_label_agrees {α : Type u} (hok : VOK cfg tl ports stmts) (z : α) (prim : String → α → α → α → α → α) (σ : String → α) :
    ∀ j (hj : j < (flatLines (module cfg tl ports stmts)).length),
      vLabel cfg tl stmts z prim σ j = wOfV cfg tl stmts z prim σ (flatLines (module cfg tl ports stmts))[j].2 := by
  intro j hj
  have hj' : j < (vL cfg tl stmts).length := by rw [← module_flat' hok]; exact hj
  have hj'' : j < (vFlat cfg tl (sigDecls stmts) stmts).length := by rw [← vL_length]; exact hj'
  simp only [module_flat' hok]
  rw [vLabel_eq z prim σ j hj'', vL_get j hj']
  exact (wOfV_line hok z prim σ _ (List.getElem_mem hj'')).symm

theorem v_model_labelling_off {α : Type u} (hok : VOK cfg tl ports stmts) (HI : VInst → Prop) (S : Nat → Prop)
    (hSH : ∀ i ∈ vInsts stmts, HI i → S ((module cfg tl ports stmts).nodeIdx (.cell i.name 0)))
    (z : α) (neg : α → α) (prim : String → α → α → α → α → α)
    (a : Nat → α) (σ : String → α) (hm : VModelOff HI tl ports stmts z neg prim a σ) :
    NetLabellingOff (verilogNet cfg tl ports stmts) S z neg prim a (vLabel cfg tl stmts z prim σ) := by
  apply circ_model_labelling_off _ _ (v_resolved_all hok) S (holeEp stmts HI) ?_ z neg prim a (wOfV cfg tl stmts z prim σ) _
    (v_label_agrees hok z prim σ) (v_model_circ_off hok HI z neg prim a σ hm)
  rintro p _ ⟨i, hi, hH, q, hq⟩
  rw [hq]
  exact hSH i hi hH

theorem v_model_labelling {α : Type u} (hok : VOK cfg tl ports stmts) (z : α) (neg : α → α) (prim : String → α → α → α → α → α)
    (a : Nat → α) (σ : String → α) (hm : VModel tl ports stmts z neg prim a σ) :
    NetLabelling (verilogNet cfg tl ports stmts) z neg prim a (vLabel cfg tl stmts z prim σ) :=
  (netLabellingOff_false _ z neg prim a _).mp
    (v_model_labelling_off hok (fun _ => False) (fun _ => False) (fun _ _ h => h) z neg prim a σ ((vModel_iff_off z neg prim a σ).mp hm))

/-- environment of end-point values: a driven signal has the value at its fork, any other `z` -/
def envOfW {α : Type u} (tl : TL) (stmts : List Stmt) (z : α) (w : Ep → α) (s : String) : α :=
  if (drivenSigs tl (sigDecls stmts) stmts).contains s then w (.fork s) else z

theorem not_hole_fork (HI : VInst → Prop) (f : String) : ¬ holeEp stmts HI (.fork f) := by
  rintro ⟨_, _, _, _, h⟩; cases h

theorem not_hole_input (hok : VOK cfg tl ports stmts) (HI : VInst → Prop) (n : String) (hn : n ∈ inputNames (sigDecls stmts)) (p : Nat) :
    ¬ holeEp stmts HI (.cell n p) := by
  rintro ⟨i, hi, _, q, h⟩
  simp only [Ep.cell.injEq] at h
  exact inst_not_port hok hi n (mem_portBitNames_of_input _ n hn) h.1.symm

theorem not_hole_const (hok : VOK cfg tl ports stmts) (HI : VInst → Prop) (cn : String)
    (hcn : cn ∈ constNames tl (sigDecls stmts) stmts) (p : Nat) : ¬ holeEp stmts HI (.cell cn p) := by
  rintro ⟨i, hi, _, q, h⟩
  simp only [Ep.cell.injEq] at h
  exact (List.nodup_append.mp hok.cells).2.2 i.name (List.mem_append_left _ (List.mem_map.mpr ⟨i, hi, rfl⟩)) cn hcn h.1.symm

theorem hole_inst_iff (hok : VOK cfg tl ports stmts) (HI : VInst → Prop) (i : VInst) (hi : i ∈ vInsts stmts) (p : Nat) :
    holeEp stmts HI (.cell i.name p) ↔ HI i := by
  constructor
  · rintro ⟨j, hj, hH, q, h⟩
    simp only [Ep.cell.injEq] at h
    rw [inst_eq hok hi hj h.1]; exact hH
  · intro h; exact ⟨i, hi, h, p, rfl⟩

/-- conversely: end-point values that satisfy `driveVal` outside the holes give a model outside `HI` — the environment read off the
forks (`envOfW`) — and every line carries `sigVal` of its signal (`Agree`) -/
theorem v_circ_model_off {α : Type u} (hok : VOK cfg tl ports stmts) (HI : VInst → Prop) (z : α) (neg : α → α)
    (prim : String → α → α → α → α → α) (a : Nat → α) (w : Ep → α)
    (hc : CircModelOff (module cfg tl ports stmts) (module cfg tl ports stmts).ioVerilog (holeEp stmts HI) z neg prim a w) :
    VModelOff HI tl ports stmts z neg prim a (envOfW tl stmts z w) ∧ Agree cfg tl stmts z prim w (envOfW tl stmts z w) := by
  have hD : ∀ s, s ∈ drivenSigs tl (sigDecls stmts) stmts → w (.fork s) = envOfW tl stmts z w s := by
    intro s hs
    unfold envOfW
    simp [hs]
  have hc' : ∀ t ∈ vFlat cfg tl (sigDecls stmts) stmts, ¬ holeEp stmts HI t.d → w t.r = driveVal (vL cfg tl stmts) ((module cfg tl ports stmts).kindOf t.d)
      ((verilogNet cfg tl ports stmts).sPos ((module cfg tl ports stmts).nodeIdx t.d)) z neg prim a w t.d := by
    intro t ht hH
    have := hc (vl t) (by rw [module_flat' hok]; exact List.mem_map.mpr ⟨t, ht, rfl⟩) hH
    rw [module_flat' hok] at this
    exact this
  have hsv := fun s hs => sigVal_driven hok z prim (envOfW tl stmts z w) s hs
  -- a fork driver passes on what arrives
  have hfk : ∀ t ∈ vFlat cfg tl (sigDecls stmts) stmts, ∀ f, t.d = .fork f → w t.r = w (.fork f) := fun t ht f hd => by
    rw [hc' t ht (by rw [hd]; exact not_hole_fork HI f), v_drive_fork hok t ht f hd]
  -- every line carries the value of its signal
  have hall : ∀ t ∈ vFlat cfg tl (sigDecls stmts) stmts, w t.r = sigVal z prim (envOfW tl stmts z w) t.sig := by
    intro t ht
    -- the fork a pin reads carries the signal or the constant
    have hcst : ∀ k i c, ConnStep cfg tl ports stmts k i c → isConstLit c.2.2 = true →
        w (.fork (constName c.2.2 k)) = sigVal z prim (envOfW tl stmts z w) c.2.2 := fun k i c st hl => by
      have := hc' _ (conn_const_line k i c st hl) (not_hole_const hok HI _ (st.cname hl) 0)
      simp only at this
      rw [this, v_drive_const hok c.2.2 k hl (st.nodes _ (by unfold connNodes; simp [hl])) (st.cname hl), sigVal_lit z prim _ _ hl]
    have hsrc := fun k i c st => agree_src hok z prim w _ hD k i c st (hcst k i c st)
    cases vFlat_cases hok t ht with
    | instOut i hi o ho =>
      have hd := driven_of_out (sigDecls stmts) i hi o ho
      rw [hsv _ hd]; exact hD _ hd
    | input n hn =>
      have hd := driven_of_input (tl := tl) (stmts := stmts) (sigDecls stmts) n hn
      rw [hsv _ hd]; exact hD _ hd
    | pairConst k ts st hc =>
      rw [hc' _ ht (not_hole_const hok HI _ (st.cname hc) 0),
        v_drive_const hok ts.2 k hc (st.nodes _ (by unfold pairNodes; simp [hc])) (st.cname hc), sigVal_lit z prim _ _ hc]
    | pairFork k ts st hc =>
      have hsd : ts.2 ∈ drivenSigs tl (sigDecls stmts) stmts := by
        rw [drivenSigs_eq]; exact assignsOK_src _ _ hok.assigns ts st.mem hc
      rw [hfk _ ht ts.2 rfl, hD _ hsd, hsv _ hsd]
    | connConst k i c st hc => exact hcst k i c st hc
    | connStem k i c st hb => rw [hfk _ ht _ rfl]; exact hsrc k i c st
    | connBranch k i c st hb =>
      rw [hfk _ ht _ rfl]
      have := hfk _ (conn_stem_line hb k i c st) _ rfl
      simp only at this
      rw [this]; exact hsrc k i c st
    | connPlain k i c st hb => rw [hfk _ ht _ rfl]; exact hsrc k i c st
    | output n hn =>
      have hd := hok.outs n hn
      rw [hfk _ ht n rfl, hD _ hd, hsv _ hd]
  refine ⟨⟨?_, ?_, ?_, ?_⟩, ⟨hall, fun s hs => hD s hs⟩⟩
  · intro i hi hnH o ho
    have hmem := vFlat_inst_out (cfg := cfg) (sigDecls stmts) i hi o ho
    have hd := driven_of_out (sigDecls stmts) i hi o ho
    rw [← hD _ hd]
    have := hc' _ hmem (fun h => hnH ((hole_inst_iff hok HI i hi o.1).mp h))
    simp only at this
    rw [this]
    exact v_drive_inst hok i hi o.1 z neg prim a w _ (fun t ht _ => hall t ht)
  · intro n hn
    have hmem := vFlat_input (cfg := cfg) (tl := tl) (stmts := stmts) (sigDecls stmts) n hn
    have hd := driven_of_input (tl := tl) (stmts := stmts) (sigDecls stmts) n hn
    rw [← hD _ hd]
    have := hc' _ hmem (not_hole_input hok HI n hn 0)
    simp only at this
    rw [this]
    exact v_drive_input hok n hn z neg prim a w
  · intro ts hts
    have hd := (mem_drivenSigs (tl := tl) (stmts := stmts) (sigDecls stmts) ts.1).mpr (Or.inr (Or.inr ⟨ts, hts, rfl⟩))
    rw [← hD _ hd]
    obtain ⟨t, ht, hr, hs⟩ := vFlat_pair (cfg := cfg) (tl := tl) (sigDecls stmts) ts hts
    rw [← hr, hall t ht, hs]
  · intro s hs
    unfold envOfW
    rw [hs]
    rfl

theorem v_labelling_model_off {α : Type u} (hok : VOK cfg tl ports stmts) (HI : VInst → Prop) (S : Nat → Prop)
    (hSH : ∀ t ∈ vFlat cfg tl (sigDecls stmts) stmts, S ((module cfg tl ports stmts).nodeIdx t.d) → holeEp stmts HI t.d)
    (z : α) (neg : α → α) (prim : String → α → α → α → α → α)
    (a : Nat → α) (v : Nat → α) (hv : NetLabellingOff (verilogNet cfg tl ports stmts) S z neg prim a v) :
    ∃ σ, VModelOff HI tl ports stmts z neg prim a σ ∧
      ∀ i, i < (verilogNet cfg tl ports stmts).lines.size → v i = vLabel cfg tl stmts z prim σ i := by
  have hnd : ((flatLines (module cfg tl ports stmts)).map (·.2)).Nodup := by
    rw [module_flat' hok]
    unfold vL
    rw [List.map_map]
    exact hok.readers
  have hSH' : ∀ p ∈ flatLines (module cfg tl ports stmts), S ((module cfg tl ports stmts).nodeIdx p.1) → holeEp stmts HI p.1 := by
    intro p hp
    rw [module_flat' hok] at hp
    obtain ⟨t, ht, rfl⟩ := List.mem_map.mp hp
    exact hSH t ht
  obtain ⟨hcm, hvw⟩ := circ_labelling_model_off _ _ (v_resolved_all hok) hnd S (holeEp stmts HI) hSH' z neg prim a v hv
  obtain ⟨hm, hag⟩ := v_circ_model_off hok HI z neg prim a _ hcm
  refine ⟨_, hm, ?_⟩
  intro i hi
  rw [verilogNet_lines_size hok] at hi
  have hi' : i < (flatLines (module cfg tl ports stmts)).length := by rw [module_flat' hok, vL_length]; exact hi
  rw [hvw i hi', vLabel_eq _ _ _ i hi]
  have hget : (flatLines (module cfg tl ports stmts))[i].2 = ((vFlat cfg tl (sigDecls stmts) stmts)[i]).r := by
    have := vL_get (cfg := cfg) (tl := tl) (stmts := stmts) i (by rw [vL_length]; exact hi)
    simp only [module_flat' hok, this]
    rfl
  simp only [hget]
  exact hag.lines _ (List.getElem_mem hi)

theorem v_labelling_model {α : Type u} (hok : VOK cfg tl ports stmts) (z : α) (neg : α → α) (prim : String → α → α → α → α → α)
    (a : Nat → α) (v : Nat → α) (hv : NetLabelling (verilogNet cfg tl ports stmts) z neg prim a v) :
    ∃ σ, VModel tl ports stmts z neg prim a σ ∧
      ∀ i, i < (verilogNet cfg tl ports stmts).lines.size → v i = vLabel cfg tl stmts z prim σ i := by
  obtain ⟨σ, hm, hl⟩ := v_labelling_model_off hok (fun _ => False) (fun _ => False) (fun _ _ h => h.elim) z neg prim a v
    ((netLabellingOff_false _ z neg prim a v).mpr hv)
  exact ⟨σ, (vModel_iff_off z neg prim a σ).mpr hm, hl⟩

/-- hole sets and inputs may differ: `σ` is `z` off the driven signals and is read off the labels on them -/
theorem v_model_unique_off {α : Type u} (hok : VOK cfg tl ports stmts) (HI HI' : VInst → Prop) (z : α) (neg : α → α)
    (prim : String → α → α → α → α → α)
    (a a' : Nat → α) (σ σ' : String → α) (hm : VModelOff HI tl ports stmts z neg prim a σ) (hm' : VModelOff HI' tl ports stmts z neg prim a' σ')
    (h : ∀ i, i < (verilogNet cfg tl ports stmts).lines.size → vLabel cfg tl stmts z prim σ i = vLabel cfg tl stmts z prim σ' i) :
    σ = σ' := by
  have hag := v_pairs_agree (cfg := cfg) hok z prim σ hm.2.2.1
  have hag' := v_pairs_agree (cfg := cfg) hok z prim σ' hm'.2.2.1
  funext s
  by_cases hs : s ∈ drivenSigs tl (sigDecls stmts) stmts
  · obtain ⟨t, ht, hr⟩ := driven_has_line (cfg := cfg) (sigDecls stmts) s hs
    obtain ⟨j, hj, hjt⟩ := List.getElem_of_mem ht
    have := h j (by rw [verilogNet_lines_size hok]; exact hj)
    rw [vLabel_eq z prim σ j hj, vLabel_eq z prim σ' j hj, hjt, ← hag.lines t ht, ← hag'.lines t ht, hr, hag.forks s hs, hag'.forks s hs] at this
    exact this
  · rw [hm.2.2.2 s (by simpa using hs), hm'.2.2.2 s (by simpa using hs)]

theorem v_model_unique {α : Type u} (hok : VOK cfg tl ports stmts) (z : α) (neg : α → α) (prim : String → α → α → α → α → α)
    (a : Nat → α) (σ σ' : String → α) (hm : VModel tl ports stmts z neg prim a σ) (hm' : VModel tl ports stmts z neg prim a σ')
    (h : ∀ i, i < (verilogNet cfg tl ports stmts).lines.size → vLabel cfg tl stmts z prim σ i = vLabel cfg tl stmts z prim σ' i) :
    σ = σ' :=
  v_model_unique_off hok _ _ z neg prim a a σ σ' ((vModel_iff_off z neg prim a σ).mp hm) ((vModel_iff_off z neg prim a σ').mp hm') h

end KV.Netlist
