import KyupyVerif.Proofs.PrimExpr
import KyupyVerif.Props.C12Algebra
/-! Specification-level facts about the 33 primitives (independent of the code): X-soundness of the 8- and
4-valued compositions against the Boolean formula (C02), and on the waveform values {0,1,P,R,F,N} the
component homomorphism and the hazard abstraction (C05).

Each is a relation between a multi-valued operand and a Boolean one that NOT and the two-operand AND / OR / XOR
preserve (complete tables over the 64 operand pairs, evaluated); `fam_rel` extends it to operand lists of any length because every
operator is the fold of its two-operand form (`C12.spec*_cons`), and `PExpr.eval_rel` to every composition: `refines8_rel`,
`refines4_rel`, `plane_rel`, `inactive_rel`. The rows of the real dispatch inherit them (`semL8_rel`, `semL4_rel`, Proofs/SemL.lean). -/
namespace KV

theorem comp_expr : ∀ p : String × PExpr, p ∈ primExpr → comp8 p.1 = some (p.2.eval spec8) ∧ comp4 p.1 = some (p.2.eval spec4) := by
  simp only [primExpr, List.forall_mem_cons, List.not_mem_nil, false_imp_iff, implies_true, and_true]
  and_intros <;> rfl

theorem formula_expr : ∀ p : String × PExpr, p ∈ primExpr → ∀ a b c d : Bool, formula p.1 a b c d = some (p.2.eval specB a b c d) := by
  decide +kernel

theorem primExpr_spec {name : String} (hn : name ∈ primNames) :
    ∃ (e : PExpr) (g : Bool → Bool → Bool → Bool → Bool),
    comp8 name = some (e.eval spec8) ∧ comp4 name = some (e.eval spec4) ∧ formulaF name = some g ∧
      ∀ a b c d, g a b c d = e.eval specB a b c d := by
  rw [← primExpr_names] at hn
  obtain ⟨⟨n, e⟩, hp, rfl⟩ := List.mem_map.mp hn
  have hf := formula_expr _ hp
  simp only [formula] at hf
  cases hg : formulaF n with
  | none => simp [hg] at hf
  | some g =>
    refine ⟨e, g, (comp_expr _ hp).1, (comp_expr _ hp).2, rfl, fun a b c d => ?_⟩
    simpa [hg] using hf a b c d

theorem formulaF_total : ∀ n ∈ primNames, (formulaF n).isSome = true := fun _ hn => by
  obtain ⟨_, _, _, _, hg, _⟩ := primExpr_spec hn; simp [hg]
theorem comp8_total : ∀ n ∈ primNames, (comp8 n).isSome = true := fun _ hn => by
  obtain ⟨_, _, h8, _⟩ := primExpr_spec hn; simp [h8]
theorem comp4_total : ∀ n ∈ primNames, (comp4 n).isSome = true := fun _ hn => by
  obtain ⟨_, _, _, h4, _⟩ := primExpr_spec hn; simp [h4]

theorem fam8_cons (f : Conn) (x : V3) (xs : List V3) : fam8 f (x :: xs) = fam8 f [x, fam8 f xs] := by
  cases f
  · exact C12.specAnd_cons x xs
  · exact C12.specOr_cons x xs
  · exact C12.specXor_cons x xs

theorem famB_cons (f : Conn) (b : Bool) (bs : List Bool) : famB f (b :: bs) = famB f [b, famB f bs] := by
  cases f
  · simp [famB]
  · simp [famB]
  · exact C12.foldl_xor_acc id bs (false ^^ b)

section
variable {R : V3 → Bool → Prop} (hnil : ∀ f, R (fam8 f []) (famB f []))
  (h2 : ∀ f x y b c, R x b → R y c → R (fam8 f [x, y]) (famB f [b, c]))
include hnil h2

theorem fam_rel (f : Conn) (ps : List (V3 × Bool)) (h : ∀ p ∈ ps, R p.1 p.2) :
    R (fam8 f (ps.map (·.1))) (famB f (ps.map (·.2))) := by
  induction ps with
  | nil => exact hnil f
  | cons p ps ih =>
    rw [List.map_cons, List.map_cons, fam8_cons, famB_cons]
    exact h2 f _ _ _ _ (h p (List.mem_cons_self ..)) (ih fun q hq => h q (List.mem_cons_of_mem _ hq))

theorem spec_rel (hnot : ∀ x b, R x b → R (specNot x) (!b)) : Alg.Rel R spec8 specB where
  not := hnot _ _
  op2 f {x₁ y₁ x₂ y₂} h₁ h₂ := fam_rel hnil h2 f [(x₁, y₁), (x₂, y₂)] (by simp [h₁, h₂])
  op3 f {x₁ y₁ x₂ y₂ x₃ y₃} h₁ h₂ h₃ := fam_rel hnil h2 f [(x₁, y₁), (x₂, y₂), (x₃, y₃)] (by simp [h₁, h₂, h₃])
  op4 f {x₁ y₁ x₂ y₂ x₃ y₃ x₄ y₄} h₁ h₂ h₃ h₄ :=
    fam_rel hnil h2 f [(x₁, y₁), (x₂, y₂), (x₃, y₃), (x₄, y₄)] (by simp [h₁, h₂, h₃, h₄])
end

def refinesB (x : V3) (b : Bool) : Bool := x.unk || (x.p0 == b)
def refines4B (x : V2) (b : Bool) : Bool := x.unk || (x.p0 == b)
theorem refinesB_iff (x : V3) (b : Bool) : refinesB x b = true ↔ x.refines b := by
  unfold refinesB V3.refines; cases x.unk <;> simp
theorem refines4B_iff (x : V2) (b : Bool) : refines4B x b = true ↔ x.refines b := by
  unfold refines4B V2.refines; cases x.unk <;> simp

theorem refines_rel : Alg.Rel (fun x b => refinesB x b = true) spec8 specB := by
  refine spec_rel (fun f => by cases f <;> decide) (fun f => ?_) (by decide +kernel)
  cases f <;> decide +kernel

/-- X-soundness of the documented operators: `⊑` between an 8-valued and a Boolean operand is preserved by every composition -/
theorem refines8_rel : Alg.Rel V3.refines spec8 specB :=
  (funext fun x => funext fun b => propext (refinesB_iff x b) : (fun x b => refinesB x b = true) = V3.refines) ▸ refines_rel

/-- the 4-valued algebra is the 8-valued one on values without activity: results of the 8-valued operators on such values
have no activity, so `ofV3` loses nothing (operand lists of any length) -/
theorem fam4_toV3 (f : Conn) (xs : List V2) : (fam4 f xs).toV3 = fam8 f (xs.map V2.toV3) := by
  cases f
  · exact C12.toV3_ofV3_of_p2 _ (C12.specAnd_p2_toV3 xs)
  · exact C12.toV3_ofV3_of_p2 _ (C12.specOr_p2_toV3 xs)
  · exact C12.toV3_ofV3_of_p2 _ (C12.specXor_p2_toV3 xs)

theorem spec4_rel : Alg.Rel (fun (x : V2) (y : V3) => x.toV3 = y) spec4 spec8 :=
  .of_map _ (by decide) (fun f x y => fam4_toV3 f [x, y]) (fun f x y z => fam4_toV3 f [x, y, z])
    (fun f w x y z => fam4_toV3 f [w, x, y, z])

/-- the same for the 4-valued operators: through the 8-valued ones (`spec4_rel`) -/
theorem refines4_rel : Alg.Rel V2.refines spec4 specB := by
  have e : (fun (x : V2) (b : Bool) => ∃ y, x.toV3 = y ∧ y.refines b) = V2.refines := by
    funext x b
    simp [V3.refines, V2.refines, V3.unk, V2.unk, V2.toV3]
  exact e ▸ spec4_rel.comp refines8_rel

/-- `v` is a waveform value and plane `k` of it (final for `k = false`, initial for `k = true`) is `b` -/
def planeIs (k : Bool) (v : V3) (b : Bool) : Bool := v.isWave && ((if k then v.p1 else v.p0) == b)

/-- component homomorphism: on waveform values the final (initial) plane of every composition is the Boolean composition of the
    final (initial) planes, and the result is a waveform value again -/
theorem plane_rel (k : Bool) : Alg.Rel (fun v b => planeIs k v b = true) spec8 specB := by
  refine spec_rel (fun f => by cases f <;> cases k <;> decide) (fun f => ?_) (by cases k <;> decide +kernel)
  cases f <;> cases k <;> decide +kernel

def agreesInactive (v : V3) (b : Bool) : Bool := v.p2 || (b == v.p0)

/-- hazard abstraction: `b` agrees with the final value of `v` wherever `v` has no activity. Preserved by every composition, so
    when the result has no activity the Boolean composition has its final value on EVERY vector that agrees with the final values
    of the operands without activity -/
theorem inactive_rel : Alg.Rel (fun v b => (v.isWave && agreesInactive v b) = true) spec8 specB := by
  refine spec_rel (fun f => by cases f <;> decide) (fun f => ?_) (by decide +kernel)
  cases f <;> decide +kernel

end KV
