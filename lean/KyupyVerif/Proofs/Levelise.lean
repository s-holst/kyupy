import KyupyVerif.Proofs.MemMapSpec
/-! The greedy levelisation of `sim.py:239-259`.  First as a fold on signal-level ops with a level per signal as a function (`lstep`,
`lrun`): a writer is placed in a strictly earlier level than a later reader (`levelise_valid`), levels never decrease
(`levelise_mono`); C07 `writer_before_reader`, `levels_contiguous` re-export the two facts.  `Model/SimOps.lean` `levStep` / `levelise`
(arrays, stems, `level_starts`) is the model tied to the code; it refines this fold (`absL_levelise`: levels array read as a function,
operands through the stems).

Then the facts about the model needed by `ProgOK`: the reference counts are the operand occurrence counts (`levelise_refc`), the level
starts are a well-formed `level_starts` list (`levelise_startsOK`) and the last writer of a signal sits in a strictly earlier level than
a reader (`levelise_writer_before_reader`, which is `levelise_valid` transported).  Method: `levelise n st (ops ++ [o]) = levStep st
(levelise n st ops) (ops.length, o)` (`levelise_snoc`), an invariant `LevInv` of `starts` after a prefix, induction over prefixes
(`snoc_ind`, `List.take`). -/
namespace KV.Sig

abbrev LSt := (Nat → Nat) × Nat      -- (levels per signal, current level)

def lstep (st : LSt) (o : Op) : LSt :=
  let cur' := if o.ins.any (fun x => decide (st.2 ≤ st.1 x)) then st.2 + 1 else st.2
  (upd st.1 o.out cur', cur')

def lrun (st : LSt) (ops : List Op) : LSt := ops.foldl lstep st

def levelOf (st0 : LSt) (pre : List Op) (o : Op) : Nat := (lstep (lrun st0 pre) o).2

def LInv (st : LSt) : Prop := ∀ x, st.1 x ≤ st.2

theorem lstep_spec (st : LSt) (o : Op) (h : LInv st) :
    LInv (lstep st o) ∧ st.2 ≤ (lstep st o).2 ∧ ∀ x ∈ o.ins, st.1 x < (lstep st o).2 := by
  unfold lstep
  simp only []
  by_cases hany : o.ins.any (fun x => decide (st.2 ≤ st.1 x)) = true
  · simp only [hany, if_true]
    refine ⟨?_, by omega, ?_⟩
    · intro x; simp only [upd]; split
      · omega
      · have := h x; omega
    · intro x _; have := h x; omega
  · have hany' : o.ins.any (fun x => decide (st.2 ≤ st.1 x)) = false := by simpa using hany
    simp only [hany', Bool.false_eq_true, if_false]
    refine ⟨?_, Nat.le_refl _, ?_⟩
    · intro x; simp only [upd]; split
      · omega
      · exact h x
    · intro x hx
      have := List.any_eq_false.mp hany' x hx
      simp at this; omega

theorem lrun_inv (st : LSt) (ops : List Op) (h : LInv st) : LInv (lrun st ops) ∧ st.2 ≤ (lrun st ops).2 := by
  induction ops generalizing st with
  | nil => exact ⟨h, Nat.le_refl _⟩
  | cons o os ih =>
    simp only [lrun, List.foldl_cons]
    have hs := lstep_spec st o h
    have := ih (lstep st o) hs.1
    exact ⟨this.1, Nat.le_trans hs.2.1 this.2⟩

theorem lrun_frame (st : LSt) (ops : List Op) (x : Nat) (h : ∀ o ∈ ops, o.out ≠ x) : (lrun st ops).1 x = st.1 x :=
  foldl_inv _ (fun s : LSt => s.1 x = st.1 x) (fun s o ho hs => by simp [lstep, upd, (h o ho).symm, hs]) rfl

/-- C07 (signal-level half): if `w` writes a signal that the later op `o` reads, and nothing between them
rewrites it, then `w` is placed in a strictly earlier level than `o` — for every op list -/
theorem levelise_valid (st0 : LSt) (h0 : LInv st0) (a b : List Op) (w o : Op)
    (hread : w.out ∈ o.ins) (hnowrite : ∀ p ∈ b, p.out ≠ w.out) :
    levelOf st0 a w < levelOf st0 (a ++ w :: b) o := by
  unfold levelOf
  have hrun : lrun st0 (a ++ w :: b) = lrun (lstep (lrun st0 a) w) b := by
    simp [lrun, List.foldl_append]
  rw [hrun]
  have hinvA := (lrun_inv st0 a h0).1
  have hsw := lstep_spec (lrun st0 a) w hinvA
  have hinvB := (lrun_inv (lstep (lrun st0 a) w) b hsw.1).1
  have hso := lstep_spec (lrun (lstep (lrun st0 a) w) b) o hinvB
  have hlv : (lrun (lstep (lrun st0 a) w) b).1 w.out = (lstep (lrun st0 a) w).2 := by
    rw [lrun_frame _ b w.out hnowrite]
    simp [lstep, upd]
  have := hso.2.2 w.out hread
  rw [hlv] at this
  exact this

/-- levels never decrease along the op list (so each level is a contiguous index range, as `level_starts` records) -/
theorem levelise_mono (st0 : LSt) (h0 : LInv st0) (a b : List Op) (w o : Op) :
    levelOf st0 a w ≤ levelOf st0 (a ++ w :: b) o := by
  unfold levelOf
  have hrun : lrun st0 (a ++ w :: b) = lrun (lstep (lrun st0 a) w) b := by
    simp [lrun, List.foldl_append]
  rw [hrun]
  have hinvA := (lrun_inv st0 a h0).1
  have hsw := lstep_spec (lrun st0 a) w hinvA
  have hB := lrun_inv (lstep (lrun st0 a) w) b hsw.1
  have hso := lstep_spec (lrun (lstep (lrun st0 a) w) b) o hB.1
  omega

end KV.Sig

namespace KV

theorem occ_snoc (st : Array (Option Nat)) (x : Nat) (ops : List OpRow) (o : OpRow) :
    occ st x (ops ++ [o]) = occ st x ops + (opSrcs st o).count x := by
  simp [occ]

/-- the bump test of `levStep`: some operand already sits in the current level -/
def bumpB (st : Array (Option Nat)) (s : LevSt) (op : OpRow) : Bool :=
  (opSrcs st op).any fun x => decide (s.cur ≤ s.levels.getD x 0)

def curNext (st : Array (Option Nat)) (s : LevSt) (op : OpRow) : Nat :=
  if bumpB st s op then s.cur + 1 else s.cur

theorem levStep_eq (st : Array (Option Nat)) (s : LevSt) (i : Nat) (op : OpRow) :
    levStep st s (i, op) =
      { levels := s.levels.setIfInBounds op.out (curNext st s op)
        refc := incs s.refc (opSrcs st op)
        cur := curNext st s op
        starts := if bumpB st s op then i :: s.starts else s.starts } := by
  simp [levStep, curNext, bumpB, opSrcs, incs, Bool.or_assoc]

theorem levelise_nil (n : Nat) (st : Array (Option Nat)) :
    levelise n st [] = { levels := Array.replicate n 0, refc := Array.replicate n 0, cur := 1, starts := [0] } := by
  simp [levelise]

theorem levelise_snoc (n : Nat) (st : Array (Option Nat)) (ops : List OpRow) (o : OpRow) :
    levelise n st (ops ++ [o]) = levStep st (levelise n st ops) (ops.length, o) := by
  simp [levelise, List.zipIdx_append, List.foldl_append]

structure LevInv (n m : Nat) (s : LevSt) : Prop where
  lsz : s.levels.size = n
  rsz : s.refc.size = n
  /-- before the first row no level has reached `cur`: row 0 never bumps, so `starts` keeps its single 0 -/
  lt0 : m = 0 → ∀ x, s.levels.getD x 0 < s.cur
  cur_len : s.cur = s.starts.length
  pw : s.starts.Pairwise (· > ·)
  head0 : s.starts.reverse.head? = some 0
  bound : ∀ t ∈ s.starts, t = 0 ∨ t < m

theorem levInv_init (n : Nat) :
    LevInv n 0 { levels := Array.replicate n 0, refc := Array.replicate n 0, cur := 1, starts := [0] } := by
  have h : ∀ x, (Array.replicate n 0).getD x 0 = 0 := by
    intro x
    simp only [Array.getD_eq_getD_getElem?, Array.getElem?_replicate]
    split <;> rfl
  constructor <;> simp [h]

theorem bumpB_true_pos (st : Array (Option Nat)) (s : LevSt) (op : OpRow) (n m : Nat) (hI : LevInv n m s)
    (h : bumpB st s op = true) : 0 < m := by
  unfold bumpB at h
  rw [List.any_eq_true] at h
  obtain ⟨x, _, hx⟩ := h
  have hx : s.cur ≤ s.levels.getD x 0 := by simpa using hx
  cases m with
  | zero => have := hI.lt0 rfl x; omega
  | succ m => omega

theorem levInv_step (st : Array (Option Nat)) (s : LevSt) (op : OpRow) (n m : Nat) (hI : LevInv n m s) :
    LevInv n (m + 1) (levStep st s (m, op)) := by
  rw [levStep_eq]
  have hge : s.cur ≤ curNext st s op := by unfold curNext; split <;> omega
  constructor
  · simp [hI.lsz]
  · simp [incs_size, hI.rsz]
  · intro h; omega
  · cases hb : bumpB st s op with
    | true => simp [curNext, hb, hI.cur_len]
    | false => simp [curNext, hb, hI.cur_len]
  · cases hb : bumpB st s op with
    | true =>
      have hpos := bumpB_true_pos st s op n m hI hb
      simp only [if_true, List.pairwise_cons]
      refine ⟨?_, hI.pw⟩
      intro t ht
      have := hI.bound t ht
      omega
    | false => simpa using hI.pw
  · cases hb : bumpB st s op with
    | true =>
      have := hI.head0
      simp only [if_true, List.reverse_cons, List.head?_append, this]
      rfl
    | false => simpa using hI.head0
  · intro t ht
    cases hb : bumpB st s op with
    | true =>
      rw [hb] at ht
      simp only [if_true, List.mem_cons] at ht
      rcases ht with rfl | ht
      · omega
      · have := hI.bound t ht; omega
    | false =>
      rw [hb] at ht
      have := hI.bound t (by simpa using ht); omega

theorem levelise_inv (n : Nat) (st : Array (Option Nat)) (ops : List OpRow) :
    LevInv n ops.length (levelise n st ops) := by
  induction ops using snoc_ind with
  | h0 => rw [levelise_nil]; exact levInv_init n
  | hs l a ih =>
    rw [levelise_snoc, List.length_append]
    exact levInv_step st _ a n l.length ih

theorem levelise_refc (n : Nat) (st : Array (Option Nat)) (ops : List OpRow) (x : Nat) (hx : x < n) :
    (levelise n st ops).refc.getD x 0 = (occ st x ops : Int) := by
  induction ops using snoc_ind with
  | h0 =>
    rw [levelise_nil]
    simp [occ, hx]
  | hs l a ih =>
    rw [levelise_snoc, levStep_eq]
    simp only
    rw [incs_getD _ _ _ (by rw [(levelise_inv n st l).rsz]; exact hx), ih, occ_snoc]
    omega

theorem levelise_startsOK (n : Nat) (st : Array (Option Nat)) (ops : List OpRow) :
    StartsOK (levelise n st ops).starts.reverse ops.length := by
  have hI := levelise_inv n st ops
  refine ⟨hI.head0, ?_, ?_⟩
  · rw [List.pairwise_reverse]; exact hI.pw
  · intro t ht
    have := hI.bound t (by simpa using ht)
    omega

/-- level of op number `i` read off the (reversed) starts of the run over `ops` -/
def lvl (n : Nat) (st : Array (Option Nat)) (ops : List OpRow) (i : Nat) : Nat :=
  ((levelise n st ops).starts.filter (· ≤ i)).length

theorem levelOfS_levelise (n : Nat) (st : Array (Option Nat)) (ops : List OpRow) (i : Nat) :
    levelOfS (levelise n st ops).starts.reverse i = lvl n st ops i := by
  simp [levelOfS, lvl, List.filter_reverse]

theorem lvl_snoc_lt (n : Nat) (st : Array (Option Nat)) (ops : List OpRow) (o : OpRow) (i : Nat)
    (hi : i < ops.length) : lvl n st (ops ++ [o]) i = lvl n st ops i := by
  unfold lvl
  rw [levelise_snoc, levStep_eq]
  simp only
  split
  · have : ¬ ops.length ≤ i := by omega
    simp [this]
  · rfl

theorem lvl_append_lt (n : Nat) (st : Array (Option Nat)) (ops ext : List OpRow) (i : Nat)
    (hi : i < ops.length) : lvl n st (ops ++ ext) i = lvl n st ops i := by
  induction ext using snoc_ind with
  | h0 => simp
  | hs l a ih =>
    rw [← List.append_assoc, lvl_snoc_lt _ _ _ _ _ (by rw [List.length_append]; omega), ih]

theorem lvl_snoc_self (n : Nat) (st : Array (Option Nat)) (ops : List OpRow) (o : OpRow) :
    lvl n st (ops ++ [o]) ops.length = (levelise n st (ops ++ [o])).cur := by
  have hI := levelise_inv n st (ops ++ [o])
  unfold lvl
  rw [hI.cur_len]
  congr 1
  rw [List.filter_eq_self]
  intro t ht
  have := hI.bound t ht
  rw [List.length_append, List.length_singleton] at this
  simp only [decide_eq_true_eq]
  omega

theorem lvl_eq_cur (n : Nat) (st : Array (Option Nat)) (ops : List OpRow) (k : Nat) (o : OpRow)
    (h : ops[k]? = some o) : lvl n st ops k = (levelise n st (ops.take (k + 1))).cur := by
  have hk : k < ops.length := by
    rcases List.getElem?_eq_some_iff.mp h with ⟨hk, _⟩; exact hk
  have hlen : (ops.take k).length = k := List.length_take_of_le (by omega)
  have e1 : lvl n st ops k = lvl n st (ops.take (k + 1) ++ ops.drop (k + 1)) k := by
    rw [List.take_append_drop]
  rw [e1, lvl_append_lt _ _ _ _ _ (by rw [List.length_take_of_le (by omega)]; omega)]
  rw [List.take_add_one, h, Option.toList_some]
  have := lvl_snoc_self n st (ops.take k) o
  rw [hlen] at this
  exact this

/-! ### the model refines the abstract fold (`lstep`, `lrun` above)
Levels array read as a function, operands through the stems; an output index outside the table is ignored by `setIfInBounds` and
recorded by `upd`, hence `o.out < n`. -/
section
open KV.Sig
def absL (s : LevSt) : LSt := (fun x => s.levels.getD x 0, s.cur)
def lOp (st : Array (Option Nat)) (o : OpRow) : Op := ⟨o.lut, o.out, opSrcs st o⟩

theorem absL_step (st : Array (Option Nat)) (s : LevSt) (i : Nat) (o : OpRow) (h : o.out < s.levels.size) :
    absL (levStep st s (i, o)) = lstep (absL s) (lOp st o) := by
  rw [levStep_eq]
  unfold absL lstep lOp curNext bumpB
  simp only [Prod.mk.injEq, and_true]
  funext x
  rw [getD_setIfInBounds]
  by_cases hx : x = o.out
  · subst hx; simp [upd, h]
  · have : ¬ o.out = x := fun e => hx e.symm
    simp [upd, hx, this]

theorem absL_levelise (n : Nat) (st : Array (Option Nat)) (ops : List OpRow) (h : ∀ o ∈ ops, o.out < n) :
    absL (levelise n st ops) = lrun (fun _ => 0, 1) (ops.map (lOp st)) := by
  induction ops using snoc_ind with
  | h0 =>
    rw [levelise_nil]
    unfold absL
    simp only [lrun, List.map_nil, List.foldl_nil, Prod.mk.injEq, and_true]
    funext x
    simp only [Array.getD_eq_getD_getElem?, Array.getElem?_replicate]
    split <;> rfl
  | hs l a ih =>
    rw [levelise_snoc, absL_step _ _ _ _ (by rw [(levelise_inv n st l).lsz]; exact h a (by simp)),
      ih (fun o ho => h o (List.mem_append_left _ ho))]
    simp [lrun, List.foldl_append]

theorem lvl_eq_levelOf (n : Nat) (st : Array (Option Nat)) (ops : List OpRow) (h : ∀ o ∈ ops, o.out < n) (k : Nat) (o : OpRow)
    (hk : ops[k]? = some o) :
    levelOfS (levelise n st ops).starts.reverse k = Sig.levelOf (fun _ => 0, 1) ((ops.take k).map (lOp st)) (lOp st o) := by
  rw [levelOfS_levelise, lvl_eq_cur n st ops k o hk]
  have := absL_levelise n st (ops.take (k + 1)) (fun o ho => h o (List.mem_of_mem_take ho))
  rw [List.take_add_one, hk, Option.toList_some] at this ⊢
  have e : (levelise n st (ops.take k ++ [o])).cur = (absL (levelise n st (ops.take k ++ [o]))).2 := rfl
  rw [e, this]
  simp [Sig.levelOf, lrun, List.foldl_append]

theorem levelise_writer_before_reader (n : Nat) (st : Array (Option Nat)) (ops : List OpRow) (hall : ∀ o ∈ ops, o.out < n)
    (k' k : Nat) (o' o : OpRow) (hk : k' < k) (h1 : ops[k']? = some o') (h2 : ops[k]? = some o)
    (hread : o'.out ∈ opSrcs st o)
    (hnow : ∀ j oj, k' < j → j < k → ops[j]? = some oj → oj.out ≠ o'.out) :
    levelOfS (levelise n st ops).starts.reverse k' < levelOfS (levelise n st ops).starts.reverse k := by
  rw [lvl_eq_levelOf n st ops hall k' o' h1, lvl_eq_levelOf n st ops hall k o h2]
  -- rows 0 … k-1 = rows before k', row k', the rows strictly between
  have hsplit : ops.take k = ops.take k' ++ o' :: (ops.drop (k' + 1)).take (k - (k' + 1)) := by
    have : k = k' + 1 + (k - (k' + 1)) := by omega
    conv => lhs; rw [this, List.take_add, List.take_add_one, h1, Option.toList_some]
    simp
  rw [hsplit, List.map_append, List.map_cons]
  apply levelise_valid _ (fun _ => Nat.zero_le _) _ _ _ _ hread
  intro q hq
  obtain ⟨oj, hoj, rfl⟩ := List.mem_map.1 hq
  obtain ⟨j, hj, he⟩ := List.getElem_of_mem hoj
  rw [List.length_take] at hj
  rw [List.getElem_take, List.getElem_drop] at he
  exact hnow (k' + 1 + j) oj (by omega) (by omega) (by rw [← he]; exact List.getElem?_eq_getElem _)

end
end KV
