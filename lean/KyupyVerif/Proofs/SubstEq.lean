import KyupyVerif.Proofs.SubstituteWire
import KyupyVerif.Proofs.SubstCert
/-! C10 (`substitute_sem`): the equations of the result, under the certificate.  `imgLine` is the line of the result that carries a
line of the implementation (its copy, the host line at the instance pin of a single-reader input port, or none); the input pins of a
copy are the original's pins through it (`ins_copy`; `pin_src` for the fork of an input port), so a copy reads, pin by pin, what its
original reads (`reads_eq`) for labellings that agree along `imgLine` (`Agree`).  `Link` bundles that with the agreement of the
assignments.  The equation of an implementation line driven by a port in closed form (`lineEq_port`); hence the equation of a line
driven by a copy is that of the implementation line (`eq_line`; fork copies of ports: `lineEq_portCopy`), the lines at the instance's
output pins carry what the output lines of the implementation carry (`eq_outline`), and the lines of the host that the cell does not
drive keep their equation (`eq_hostline`). -/
namespace KV.Transform
open KV

theorem deadLine_iff (h : NNet) (c : Nat) (m : NNet) (sh : Shape) (l : Nat) : deadLine h c m sh l = true ↔
    (m.net.line l).driver ∈ m.net.io ∧ (m.net.node (m.net.line l).driver).ins.length = 0 ∧
    (m.net.node (m.net.line l).driver).outs.length = 1 ∧ instIn h c (sh.inPorts.idxOf (m.net.line l).driver) = none := by
  simp [deadLine, and_assoc]

/-- the line of the result that carries line `i` of the implementation: its copy; for the only line of an input port (the port is not
    in `node_map`) the host line at that pin of the instance; none for a line into an output port that nobody reads inside -/
def imgLine (h : NNet) (c : Nat) (m : NNet) (sh : Shape) (map : Array (Option Nat)) (i : Nat) : Option Nat :=
  if copiedB m map i then some (newOf h m map i)
  else if (map.getD (m.net.line i).driver none).isSome then none
  else instIn h c (sh.inPorts.idxOf (m.net.line i).driver)

theorem imgLine_copied {h : NNet} {c : Nat} {m : NNet} {sh : Shape} {map : Array (Option Nat)} {t : Nat}
    (ht : t < (copiedLines m map).length) : imgLine h c m sh map (copiedLines m map)[t] = some (h.net.lines.size + t) := by
  have hmem := (copiedLines_mem (m := m) (map := map) _).mp (List.getElem_mem ht)
  rw [imgLine, if_pos hmem.2, newOf, copiedLines_nodup.idxOf_getElem t ht]

theorem imgLine_unmapped {h : NNet} {c : Nat} {m : NNet} {sh : Shape} {map : Array (Option Nat)} {i : Nat}
    (hn : map.getD (m.net.line i).driver none = none) :
    imgLine h c m sh map i = instIn h c (sh.inPorts.idxOf (m.net.line i).driver) := by
  simp [imgLine, copiedB, hn]

section cert
variable {h : NNet} {c : Nat} {m : NNet} {sh : Shape} {dn : Nat} {map : Array (Option Nat)} {h' : NNet}
variable (ct : SubstCert h c m sh dn map h')
include ct

/-- the two labellings agree along `imgLine`; `_ct` is there only to fix `h c m sh map`, so that `Agree ct v' vm` can be written -/
def Agree {α : Type _} (_ct : SubstCert h c m sh dn map h') (v' vm : Nat → α) : Prop :=
  ∀ i l, i < m.net.lines.size → imgLine h c m sh map i = some l → v' l = vm i

theorem SubstCert.pin_src (j x k l' : Nat) (hm : map.getD j none = some x)
    (hp : (h'.net.node x).ins.getD k none = some l') :
    (∃ i, (m.net.node j).ins.getD k none = some i ∧ imgLine h c m sh map i = some l') ∨
    (j ∈ sh.inPorts ∧ k = 0 ∧ instIn h c (sh.inPorts.idxOf j) = some l') := by
  obtain ⟨hl', hr', hk'⟩ := ct.wf'.fwdIn x (ct.mapLt j x hm) k l' hp
  rcases ct.line_split l' hl' with hlt | ⟨t, ht, e⟩
  · obtain ⟨k0, hk0⟩ := ct.ownIns x k l' (ct.mapGe j x hm) hp hlt
    obtain ⟨inn, r, rp, hinn, htg, e1, e2⟩ := ct.inWire k0 l' hk0
    have er : r = x := e1.symm.trans hr'
    have ep : rp = k := e2.symm.trans hk'
    subst er; subst ep
    have hin : inn ∈ sh.inPorts := List.mem_of_getElem? hinn
    have hidx := inPorts_idxOf ct.shape ct.ioNodup k0 inn hinn
    rcases inTarget_cases htg with ⟨hlen, i0, hh, hmr, hrp⟩ | ⟨_, hmi, hrp⟩
    · left
      obtain ⟨hlt0, hdrv, hnone⟩ := ct.single_not_copied inn i0 hin hlen hh
      have b := (ct.mwf.back _ hlt0).2.2.2
      rw [ct.mapInj _ _ _ hmr hm, ← hrp] at b
      exact ⟨i0, b, by rw [imgLine_unmapped (by rw [hdrv]; exact hnone), hdrv, hidx, hk0]⟩
    · right
      cases ct.mapInj _ _ _ hmi hm
      exact ⟨hin, hrp, by rw [hidx, hk0]⟩
  · left
    obtain ⟨hi, xd, xr, h1, h2, hline⟩ := ct.new_fields t ht
    rw [e, hline] at hr' hk'
    dsimp only at hr' hk'
    subst hr'
    have b := (ct.mwf.back _ hi).2.2.2
    rw [ct.mapInj _ _ _ h2 hm, hk'] at b
    exact ⟨_, b, by rw [imgLine_copied ht, e]⟩

theorem SubstCert.pin_of_copied (i xd xr : Nat) (hi : i < m.net.lines.size)
    (h1 : map.getD (m.net.line i).driver none = some xd) (h2 : map.getD (m.net.line i).reader none = some xr) :
    ∃ t, ∃ ht : t < (copiedLines m map).length, (copiedLines m map)[t] = i ∧
      (h'.net.node xr).ins.getD (m.net.line i).rpin none = some (h.net.lines.size + t) := by
  obtain ⟨t, ht, e, hline⟩ := ct.copy_of i hi xd xr h1 h2
  refine ⟨t, ht, e, ?_⟩
  have hlt : h.net.lines.size + t < h'.net.lines.size := by rw [ct.lsize]; omega
  have b : (h'.net.node (h'.net.line (h.net.lines.size + t)).reader).ins.getD (h'.net.line (h.net.lines.size + t)).rpin none =
      some (h.net.lines.size + t) := ct.backR _ hlt (Or.inl (Nat.le_add_right _ _))
  rw [hline] at b
  exact b

theorem SubstCert.inWire_pin (inn ll : Nat) (hin : inn ∈ sh.inPorts) (hll : instIn h c (sh.inPorts.idxOf inn) = some ll) :
    ∃ r rp, inTarget m map inn = some (r, rp) ∧ (h'.net.node r).ins.getD rp none = some ll := by
  obtain ⟨inn', r, rp, hinn', htg, e1, e2⟩ := ct.inWire _ ll hll
  rw [getElem?_idxOf hin] at hinn'
  cases hinn'
  have hlt : ll < h'.net.lines.size := by
    have := (ct.hwf.fwdIn c ct.hc _ ll hll).1
    rw [ct.lsize]; omega
  have b : (h'.net.node (h'.net.line ll).reader).ins.getD (h'.net.line ll).rpin none = some ll :=
    ct.backR ll hlt (Or.inr (ct.hwf.ptsBack_of_pin c _ ll ct.hc hll))
  rw [e1, e2] at b
  exact ⟨r, rp, htg, b⟩

theorem SubstCert.imgLine_dead (i x : Nat) (hi : i < m.net.lines.size) (hr : map.getD (m.net.line i).reader none = some x) :
    imgLine h c m sh map i = none ↔ deadLine h c m sh i = true := by
  rw [deadLine_iff]
  cases hmd : map.getD (m.net.line i).driver none with
  | some xd =>
    have hcp : copiedB m map i = true := (copiedB_iff i).mpr ⟨xd, x, hmd, hr⟩
    simp only [imgLine, hcp, if_true, reduceCtorEq, false_iff]
    rintro ⟨dio, dins, dlen, _⟩
    have := ct.inPort_mapped _ xd ((mem_inPorts ct.shape _).mpr ⟨dio, dins⟩) hmd
    omega
  | none =>
    obtain ⟨dinp, dlen, _⟩ := ct.unmapped_driver i hi hmd
    obtain ⟨dio, dins⟩ := (mem_inPorts ct.shape _).mp dinp
    rw [imgLine_unmapped hmd]
    exact ⟨fun e => ⟨dio, dins, dlen, e⟩, fun e => e.2.2.2⟩

/-- what a pin of the copy holds comes from the original's pin by `pin_src`; that the image of the original's line does sit at the
    copy's pin is where the back pointers of the certificate (`backR`, through `pin_of_copied` and `inWire_pin`) are used -/
theorem SubstCert.ins_copy (j x : Nat) (hm : map.getD j none = some x) (hnp : j ∉ sh.inPorts) (k : Nat) :
    (h'.net.node x).inPin k = ((m.net.node j).inPin k).bind (imgLine h c m sh map) := by
  have hj := ct.mapM j x hm
  simp only [NodeD.inPin]
  apply Option.ext
  intro l'
  constructor
  · intro hx
    rcases ct.pin_src j x k l' hm hx with ⟨i, hmk, himg⟩ | ⟨hin, _, _⟩
    · rw [hmk]; exact himg
    · exact absurd hin hnp
  · intro hx
    obtain ⟨i, hmk, himg⟩ := Option.bind_eq_some_iff.mp hx
    obtain ⟨hi, hri, hpi⟩ := ct.mwf.fwdIn j hj k i hmk
    have hxr : map.getD (m.net.line i).reader none = some x := by rw [hri]; exact hm
    cases hmd : map.getD (m.net.line i).driver none with
    | some xd =>
      obtain ⟨t, ht, e, hpin⟩ := ct.pin_of_copied i xd x hi hmd hxr
      rw [← e, imgLine_copied ht] at himg
      rw [← hpi, ← e, ← Option.some.inj himg]
      rw [e]; exact hpin
    | none =>
      obtain ⟨dinp, dlen, dhead⟩ := ct.unmapped_driver i hi hmd
      rw [imgLine_unmapped hmd] at himg
      obtain ⟨r, rp, htg, b⟩ := ct.inWire_pin _ l' dinp himg
      rcases inTarget_cases htg with ⟨_, i0', hh', hmr, hrp⟩ | ⟨hne, _, _⟩
      · rw [dhead] at hh'
        cases hh'
        rw [hxr] at hmr
        cases hmr
        rw [← hpi, ← hrp]; exact b
      · exact absurd dlen hne

theorem SubstCert.reads_eq {α : Type _} (j x : Nat) (hm : map.getD j none = some x) (hnp : j ∉ sh.inPorts)
    (v' vm : Nat → α) (ag : Agree ct v' vm) (k : Nat) :
    ((h'.net.node x).inPin k).map v' = (((cutIns m (deadLine h c m sh)).net.node j).inPin k).map vm := by
  rw [ct.ins_copy j x hm hnp, cutIns_inPin]
  cases hmk : (m.net.node j).inPin k with
  | none => rfl
  | some i =>
    obtain ⟨hi, hri, _⟩ := ct.mwf.fwdIn j (ct.mapM j x hm) k i hmk
    have hd := ct.imgLine_dead i x hi (by rw [hri]; exact hm)
    simp only [Option.bind_some]
    cases himg : imgLine h c m sh map i with
    | none => rw [if_pos (hd.mp himg)]; rfl
    | some l =>
      rw [if_neg (fun e => by rw [hd.mpr e] at himg; cases himg)]
      exact congrArg some (ag i l hi himg)

theorem SubstCert.own_not_io (j x : Nat) (hm : map.getD j none = some x) : x ∉ h'.net.io := by
  rw [ct.io']
  intro hx
  have h1 := ct.hwf.io x hx
  rcases ct.mapGe j x hm with e | e
  · subst e; exact ct.hio hx
  · omega

theorem SubstCert.inPort_pin (j x : Nat) (hin : j ∈ sh.inPorts) (hm : map.getD j none = some x) :
    (h'.net.node x).ins.getD 0 none = instIn h c (sh.inPorts.idxOf j) := by
  have hlen := ct.inPort_mapped j x hin hm
  cases hll : instIn h c (sh.inPorts.idxOf j) with
  | some ll =>
    obtain ⟨r, rp, htg, b⟩ := ct.inWire_pin j ll hin hll
    rcases inTarget_cases htg with ⟨h1, _⟩ | ⟨_, hmr, hrp⟩
    · omega
    · rw [hm] at hmr
      cases hmr
      rw [hrp] at b
      exact b
  | none =>
    cases hx : (h'.net.node x).ins.getD 0 none with
    | none => rfl
    | some l' =>
      exfalso
      rcases ct.pin_src j x 0 l' hm hx with ⟨i, hmk, _⟩ | ⟨_, _, e⟩
      · have := lt_of_getD_some hmk
        have := ((mem_inPorts ct.shape j).mp hin).2
        omega
      · rw [hll] at e; cases e

theorem SubstCert.lineEq_portCopy {α : Type _} (z : α) (neg : α → α) (prim : String → α → α → α → α → α) (an' v' : Nat → α)
    (p x l' : Nat) (hp : p ∈ m.net.io) (hm : map.getD p none = some x) (hd : (h'.net.line l').driver = x) :
    lineEq h'.net (spN h'.net) z neg prim an' v' l' = (((h'.net.node x).inPin 0).map v').getD z := by
  have hfork : (h'.net.node x).isFork = true := by simp [NodeD.isFork, ct.kind' p x hm, if_pos hp]
  rw [← hd] at hfork
  rw [lineEq_of_fork _ _ z neg prim an' v' l' hfork
    (Or.inl (spN_none _ _ (by rw [hd]; simpa using ct.own_not_io p x hm) hfork)), hd]

theorem SubstCert.mem_sNodes_copy (j x : Nat) (hj : j ∉ m.net.io) (hm : map.getD j none = some x) :
    x ∈ h'.net.sNodes ↔ j ∈ (cutIns m (deadLine h c m sh)).net.sNodes := by
  have hk := ct.kind' j x hm
  rw [if_neg hj] at hk
  have := isDff_of_kind hk
  rw [cutIns_mem_sNodes, mem_sNodes, mem_sNodes, this.1, this.2]
  simp only [ct.own_not_io j x hm, hj, ct.mapLt j x hm, ct.mapM j x hm]

/-- the labelling `(an', v')` of the result and the labelling `(anm, vm)` of the implementation correspond: lines along `imgLine`,
    internal nodes along `node_map`, ports through the instance pins -/
structure Link {α : Type _} (ct : SubstCert h c m sh dn map h') (z : α) (an' v' anm vm : Nat → α) : Prop where
  line : Agree ct v' vm
  asg : ∀ j x, j ∉ m.net.io → map.getD j none = some x → anm j = an' x
  port : ∀ p ∈ m.net.io, anm p = portVal h c sh z v' p

variable {α : Type _} {z : α} {neg : α → α} {prim : String → α → α → α → α → α} {an' v' anm vm : Nat → α}

theorem SubstCert.lineEq_port (i : Nat) (hio : (m.net.line i).driver ∈ m.net.io) :
    lineEq (cutIns m (deadLine h c m sh)).net (spN (cutIns m (deadLine h c m sh)).net) z neg prim anm vm i =
      match ((cutIns m (deadLine h c m sh)).net.node (m.net.line i).driver).inPin 0 with
      | some l0 => if (m.net.node (m.net.line i).driver).isFork then vm l0 else anm (m.net.line i).driver
      | none => anm (m.net.line i).driver := by
  have hq : ((cutIns m (deadLine h c m sh)).net.node (m.net.line i).driver).isSeq = false := by
    rw [isSeq_eq, cutIns_kind]; exact ct.portNotSeq _ hio
  simp only [lineEq, cutIns_line, cutIns_spN, spN_io _ _ hio, hq,
    isFork_of_kind_eq (cutIns_kind m (deadLine h c m sh) (m.net.line i).driver)]
  rfl

theorem SubstCert.lineEq_inPort (i : Nat) (hin : (m.net.line i).driver ∈ sh.inPorts) :
    lineEq (cutIns m (deadLine h c m sh)).net (spN (cutIns m (deadLine h c m sh)).net) z neg prim anm vm i =
      anm (m.net.line i).driver := by
  obtain ⟨hio, hins⟩ := (mem_inPorts ct.shape _).mp hin
  rw [ct.lineEq_port i hio, cutIns_inPin]
  have : (m.net.node (m.net.line i).driver).inPin 0 = none := by
    simp only [NodeD.inPin, List.getD_eq_getElem?_getD]
    rw [List.getElem?_eq_none (by omega)]; rfl
  rw [this]; rfl

theorem SubstCert.eq_line (lk : Link ct z an' v' anm vm)
    (l' i x : Nat) (hm : map.getD (m.net.line i).driver none = some x)
    (hd' : (h'.net.line l').driver = x) (hp : (h'.net.line l').dpin = (m.net.line i).dpin) :
    lineEq h'.net (spN h'.net) z neg prim an' v' l' =
      lineEq (cutIns m (deadLine h c m sh)).net (spN (cutIns m (deadLine h c m sh)).net) z neg prim anm vm i := by
  have hj := ct.mapM _ x hm
  have hkind := ct.kind' _ x hm
  by_cases hio : (m.net.line i).driver ∈ m.net.io
  · -- a port: a fork in the result
    rw [ct.lineEq_portCopy z neg prim an' v' _ x l' hio hm hd']
    by_cases hin : (m.net.line i).driver ∈ sh.inPorts
    · -- input port with several readers
      rw [ct.lineEq_inPort i hin, lk.port _ hio]
      simp only [NodeD.inPin]
      rw [ct.inPort_pin _ x hin hm]
      simp only [portVal]
      cases instIn h c (sh.inPorts.idxOf (m.net.line i).driver) <;> rfl
    · -- output port read inside the implementation
      have hins : (m.net.node (m.net.line i).driver).ins.length ≠ 0 := fun e => hin ((mem_inPorts ct.shape _).mpr ⟨hio, e⟩)
      have houts : 0 < (m.net.node (m.net.line i).driver).outs.length := by
        have := (ct.mapDom _ hj).mp (by rw [hm]; rfl)
        rcases this with h1 | h1 | h1
        · exact absurd hio h1
        · exact h1.2
        · omega
      rw [ct.reads_eq _ x hm hin v' vm lk.line 0, ct.lineEq_port i hio, ct.portFork _ hio (by omega) houts]
      cases ((cutIns m (deadLine h c m sh)).net.node (m.net.line i).driver).inPin 0 with
      | none => rw [lk.port _ hio, portVal_nonInput ct.insLen z v' _ hin]; rfl
      | some l0 => rfl
  · -- an internal node: copied with its kind
    rw [if_neg hio] at hkind
    apply lineEq_congr
    · rw [hd', cutIns_line, cutIns_kind]; exact hkind
    · rw [cutIns_line]; exact hp
    · rw [hd', cutIns_line]
      exact spN_map_congr (ct.mem_sNodes_copy _ x hio hm) anm an' fun _ => (lk.asg _ x hio hm).symm
    · intro k
      rw [hd', cutIns_line]
      exact ct.reads_eq _ x hm (fun hc => hio ((mem_inPorts ct.shape _).mp hc).1) v' vm lk.line k

theorem SubstCert.eq_outline (lk : Link ct z an' v' anm vm)
    (hcons : ConsN (cutIns m (deadLine h c m sh)) z neg prim anm vm)
    (k il ll : Nat) (hk : sh.outLines[k]? = some il) (hll : instOut h c k = some ll) :
    lineEq h'.net (spN h'.net) z neg prim an' v' ll = vm il := by
  obtain ⟨il', d, dp, hk', htg, hd, hdp⟩ := ct.outWire k ll hll
  have : il' = il := by rw [hk] at hk'; exact (Option.some.inj hk').symm
  subst this
  obtain ⟨rd, _, hpin, hil, hr, hrio, hrins⟩ := ct.outLine_facts k il' hk
  have hc := hcons il' (by rw [cutIns_lsize]; exact hil)
  rcases outTarget_cases htg with ⟨hpos, hmr, hdpe⟩ | ⟨_, hmd, hdpe⟩
  · -- the output port is read inside the implementation: a fork in the result
    rw [hr] at hmr hpos
    rw [ct.lineEq_portCopy z neg prim an' v' rd d ll hrio hmr hd]
    rw [ct.reads_eq rd d hmr (fun hcc => hrins ((mem_inPorts ct.shape _).mp hcc).2) v' vm lk.line 0, cutIns_inPin, hpin]
    by_cases hdead : deadLine h c m sh il' = true
    · simp only [Option.bind_some, hdead, if_true, Option.map_none, Option.getD_none]
      obtain ⟨dio, dins, _, dpin⟩ := (deadLine_iff h c m sh il').mp hdead
      have dinp : (m.net.line il').driver ∈ sh.inPorts := (mem_inPorts ct.shape _).mpr ⟨dio, dins⟩
      rw [hc, ct.lineEq_inPort il' dinp, lk.port _ dio]
      simp [portVal, dpin]
    · simp [hdead]
  · rw [hc]
    exact ct.eq_line lk ll il' d hmd hd (hdp.trans hdpe)

theorem SubstCert.eq_hostline {α : Type _} (z : α) (neg : α → α) (prim : String → α → α → α → α → α)
    (an an' v v' : Nat → α) (hv : ∀ l, l < h.net.lines.size → v' l = v l)
    (ha : ∀ d, d < h.net.nodes.size → d ≠ c → an' d = an d)
    (l : Nat) (hl : l < h.net.lines.size) (hd : (h.net.line l).driver ≠ c) :
    lineEq h'.net (spN h'.net) z neg prim an' v' l = lineEq h.net (spN h.net) z neg prim an v l := by
  obtain ⟨f1, f2⟩ := ct.drvFrame l hl hd
  have hlt := (ct.hwf.back l hl).1
  have hn := ct.frameNode _ hlt hd
  apply lineEq_congr
  · rw [f1, hn]
  · exact f2
  · rw [f1]
    refine spN_map_congr ?_ an an' fun _ => ha _ hlt hd
    rw [mem_sNodes, mem_sNodes, ct.io', hn]
    simp only [hlt, Nat.lt_of_lt_of_le hlt ct.nsize]
  · intro k
    rw [f1, hn]
    cases hp : (h.net.node (h.net.line l).driver).inPin k with
    | none => rfl
    | some l0 =>
      simp only [Option.map_some]
      rw [hv l0 (ct.hwf.fwdIn _ hlt k l0 hp).1]

end cert

end KV.Transform
