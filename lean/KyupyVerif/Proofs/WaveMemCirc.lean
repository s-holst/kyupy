import KyupyVerif.Proofs.WaveMemSound
import KyupyVerif.Proofs.AllCircMem
/-! The map records the `SimOps` model builds (`simopsMap`), for ALL circuits: the value a code-indexed logic semantics
computes for the signal an output slot captures is the value THE solution of the netlist's gate equations (the
un-stripped program in any topological order) gives to the captured line — with and without fork stripping. -/
namespace KV.Wave
open KV KV.Sig KV.MapSound

theorem lutSem_buf1 (xs : List Bool) : lutSem BUF1 xs = xs.getD 0 false := by
  unfold lutSem
  generalize xs.getD 0 false = a
  generalize xs.getD 1 false = b
  generalize xs.getD 2 false = c
  generalize xs.getD 3 false = d
  cases a <;> cases b <;> cases c <;> cases d <;> decide

theorem simopsMap_src (tbl : List PrefixRow) (net : Net) (order : List Nat) (strip : Bool) (capsIn : Nat → Nat)
    (capsMin : Nat) (reuse : Bool) (x : Nat) :
    (simopsMap tbl net order strip capsIn capsMin reuse).src x = viaStem (stemsOf net strip) x := rfl

/-- **the captured signal carries the netlist's value of the captured line.** `f`: any code-indexed semantics in which
    `BUF1` returns its first operand; `val`: ANY solution of the gate equations of the netlist (rows of the un-stripped
    program). For the interface node `n` at position `i` whose data pin reads line `l`, the signal-level program of the
    map record (operands resolved through the stems) computes `val l` on the signal `src l` that output slot `i` captures. -/
theorem captured_logic {α} {tbl : List PrefixRow} {net : Net} {order : List Nat} {strip : Bool} {capsIn : Nat → Nat}
    {capsMin : Nat} {reuse : Bool} (hwf : net.wfB = true) (ho : orderOKB net order = true)
    (hf : strip = true → forksOKB net order = true) (hr : readsDrivenB tbl net order = true)
    (f : Nat → List α → α) (dflt : α) (hbuf : ∀ xs, f BUF1 xs = xs.getD 0 dflt) {env val : Nat → α}
    (hval : SolvesJ (Jt net) (fun op => f op.code) ((genOps tbl net order false).map OpRow.toOp) env val)
    {n i l : Nat} (hn : (n, i) ∈ net.sNodes.zipIdx) (hp : (net.node n).inPin 0 = some l) :
    exec f ((simopsMap tbl net order strip capsIn capsMin reuse).ops.map
        (sigOp (simopsMap tbl net order strip capsIn capsMin reuse))) env
      ((simopsMap tbl net order strip capsIn capsMin reuse).src l) = val l := by
  rw [simops_captured tbl net order strip capsIn capsMin reuse hwf ho hf hr f dflt (fun _ => hbuf) env n i l hn hp, exec_eq_execG]
  exact (solution_uniqueJ (Jt net) (fun op => f op.code) _ (genOps_WOJ tbl net order false hwf ho) env val hval l
    (captured_not_junk hwf hp)).symm

end KV.Wave
