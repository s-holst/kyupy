import KyupyVerif.Proofs.Basics
import KyupyVerif.Model.Stil
/-! Lemmas for C18: one pass over a chain (`invScan_append`, `scanNames_at`, `scanInInv_at`, `scanOutInv_at`), consecutive array stores
(`applyWrites_get_unique`, `_get_of_not_mem`), name → row by role (`cellPos_get`, `portPos_get`, `lastIdx_nodup`), the write lists of the
three assembly loops, the columns (`loadCol_*`, `launchCol_*`), what a returned result implies (`tests_ok`, `responses_ok`, `testsLoc_ok`).
Defined here and used in the statements of Props/C18: `Circ.stateNames`, `Maps.scanRows` (the target rows of the scan cells, `hnd`). -/
-- core has no `DecidableEq (Except ε α)`; the examples of Props/C18 decide equations between results of `tests` / `responses`
deriving instance DecidableEq for Except

namespace KV.Stil
open KV

theorem odd_succ (k : Nat) : odd (k + 1) = !odd k := by
  unfold odd
  rcases Nat.mod_two_eq_zero_or_one k with h | h <;> simp [Nat.add_mod, h]

theorem cellsOf_append (a b : List String) : cellsOf (a ++ b) = cellsOf a ++ cellsOf b := by
  simp [cellsOf]
theorem markers_append (a b : List String) : markers (a ++ b) = markers a + markers b := by
  simp [markers]
theorem cellsOf_reverse (l : List String) : cellsOf l.reverse = (cellsOf l).reverse := by
  simp [cellsOf, List.filter_reverse]
theorem markers_reverse (l : List String) : markers l.reverse = markers l := by
  simp [markers, List.filter_reverse]
theorem cellsOf_cons_cell {x : String} (hx : isMark x = false) (l : List String) : cellsOf (x :: l) = x :: cellsOf l := by
  simp [cellsOf, hx]
theorem markers_cons_cell {x : String} (hx : isMark x = false) (l : List String) : markers (x :: l) = markers l := by
  simp [markers, hx]

theorem invScan_length (b : Bool) (l : List String) : (invScan b l).length = (cellsOf l).length := by
  induction l generalizing b with
  | nil => rfl
  | cons n r ih =>
    unfold invScan
    by_cases h : isMark n = true
    · simp [h, cellsOf, ih]
    · have h' : isMark n = false := by simpa using h
      simp [h', cellsOf, ih]

theorem invScan_append (b : Bool) (pre rest : List String) :
    invScan b (pre ++ rest) = invScan b pre ++ invScan (b ^^ odd (markers pre)) rest := by
  induction pre generalizing b with
  | nil => simp [invScan, markers, odd]
  | cons n r ih =>
    by_cases h : isMark n = true
    · have hm : markers (n :: r) = markers r + 1 := by simp [markers, h]
      simp only [List.cons_append, invScan, h, if_true, hm, odd_succ]
      rw [ih]
      cases b <;> cases odd (markers r) <;> rfl
    · have h' : isMark n = false := by simpa using h
      simp only [List.cons_append, invScan, h', markers_cons_cell h']
      simp [ih]

theorem invScan_cell (b : Bool) {x : String} (hx : isMark x = false) (post : List String) :
    invScan b (x :: post) = b :: invScan b post := by
  simp [invScan, hx]

theorem scanNames_at (pre post : List String) {x : String} (hx : isMark x = false) :
    (scanNames (pre ++ x :: post))[(cellsOf post).length]? = some x := by
  unfold scanNames
  rw [List.reverse_append, List.reverse_cons, List.append_assoc, cellsOf_append, cellsOf_append]
  have : (cellsOf post.reverse).length = (cellsOf post).length := by simp [cellsOf_reverse]
  rw [List.getElem?_append_right (by omega), this]
  simp [cellsOf, hx]

theorem scanInInv_at (pre post : List String) {x : String} (hx : isMark x = false) :
    (scanInInv (pre ++ x :: post))[(cellsOf post).length]? = some (odd (markers pre)) := by
  unfold scanInInv
  rw [invScan_append, invScan_cell _ hx, List.reverse_append, List.reverse_cons, List.append_assoc]
  have : (invScan (false ^^ odd (markers pre)) post).reverse.length = (cellsOf post).length := by
    simp [invScan_length]
  rw [List.getElem?_append_right (by omega), this]
  simp

theorem scanOutInv_at (pre post : List String) {x : String} (hx : isMark x = false) :
    (scanOutInv (pre ++ x :: post))[(cellsOf post).length]? = some (odd (markers post)) := by
  unfold scanOutInv
  rw [List.reverse_append, List.reverse_cons, List.append_assoc, invScan_append]
  have : (invScan false post.reverse).length = (cellsOf post).length := by
    simp [invScan_length, cellsOf_reverse]
  rw [List.getElem?_append_right (by omega), this]
  simp [invScan_cell _ hx, markers_reverse]

theorem scanNames_length (mid : List String) : (scanNames mid).length = (cellsOf mid).length := by
  simp [scanNames, cellsOf_reverse]
theorem scanInInv_length (mid : List String) : (scanInInv mid).length = (cellsOf mid).length := by
  simp [scanInInv, invScan_length]
theorem scanOutInv_length (mid : List String) : (scanOutInv mid).length = (cellsOf mid).length := by
  simp [scanOutInv, invScan_length, cellsOf_reverse]

theorem applyWrites_length (col : List V3) (ws : List (Nat × V3)) : (applyWrites col ws).length = col.length :=
  foldl_set_length ws Prod.fst Prod.snd col

theorem applyWrites_get_of_not_mem (col : List V3) (ws : List (Nat × V3)) (r : Nat)
    (h : r ∉ ws.map Prod.fst) : (applyWrites col ws)[r]? = col[r]? :=
  (foldl_set_getElem? ws Prod.fst Prod.snd r V3.unassigned (fun _ hx e => absurd (e ▸ List.mem_map_of_mem hx) h) col).trans
    (if_neg h)

theorem applyWrites_get_unique (col : List V3) (ws : List (Nat × V3)) (r : Nat) (v : V3)
    (hnd : (ws.map Prod.fst).Nodup) (hm : (r, v) ∈ ws) (hr : r < col.length) :
    (applyWrites col ws)[r]? = some v := by
  rw [applyWrites, foldl_set_getElem? ws Prod.fst Prod.snd r v
    (fun x hx e => congrArg Prod.snd (inj_of_nodup_map Prod.fst hnd hx hm e)) col,
    if_pos (List.mem_map_of_mem hm), List.getElem?_eq_getElem hr]
  rfl

theorem flatMap_sublist {α β : Type} (l : List α) (f g : α → List β) (h : ∀ a, (f a).Sublist (g a)) :
    (l.flatMap f).Sublist (l.flatMap g) := by
  induction l with
  | nil => simp
  | cons a r ih => simp only [List.flatMap_cons]; exact (h a).append ih

theorem loadWrites_targets (f : Bool → V3 → V3) (cms : List ChainMap) (p : Pat) :
    ((loadWrites f cms p).map Prod.fst).Sublist (cms.flatMap (·.map)) := by
  unfold loadWrites
  rw [List.map_flatMap]
  exact flatMap_sublist _ _ _ fun cm => zip_fst_sublist _ _

theorem unloadWrites_targets (cms : List ChainMap) (p : Pat) :
    ((unloadWrites cms p).map Prod.fst).Sublist (cms.flatMap (·.map)) := by
  unfold unloadWrites
  rw [List.map_flatMap]
  exact flatMap_sublist _ _ _ fun cm => zip_fst_sublist _ _

theorem str_of_lookup {d : Dict} {k : String} {s : List Char} (h : d.lookup k = some s) : str d k = s := by
  simp [str, h]

theorem lastIdx_get {l : List String} {x : String} (h : x ∈ l) : l[lastIdx l x]? = some x ∧ lastIdx l x < l.length := by
  have hr : x ∈ l.reverse := List.mem_reverse.2 h
  have hl : l.reverse.idxOf x < l.reverse.length := List.idxOf_lt_length_iff.2 hr
  have hl' : l.reverse.idxOf x < l.length := by simpa using hl
  have hg : l.reverse[l.reverse.idxOf x]? = some x := getElem?_idxOf hr
  unfold lastIdx
  refine ⟨?_, by omega⟩
  rw [List.getElem?_reverse hl'] at hg
  exact hg

theorem mem_take_or_drop {l : List String} {x : String} (n : Nat) (h : x ∈ l) : x ∈ l.take n ∨ x ∈ l.drop n := by
  rw [← List.take_append_drop n l] at h
  exact List.mem_append.1 h

theorem take_get {l : List String} {n i : Nat} {x : String} (h : (l.take n)[i]? = some x) : l[i]? = some x ∧ i < l.length := by
  have hi : i < (l.take n).length := (List.getElem?_eq_some_iff.1 h).1
  rw [List.getElem?_take] at h
  split at h
  · exact ⟨h, (List.getElem?_eq_some_iff.1 h).1⟩
  · cases h

theorem drop_get {l : List String} {n i : Nat} {x : String} (h : (l.drop n)[i]? = some x) : l[n + i]? = some x ∧ n + i < l.length := by
  rw [List.getElem?_drop] at h
  exact ⟨h, (List.getElem?_eq_some_iff.1 h).1⟩

theorem cellPos_get {nio : Nat} {l : List String} {x : String} (h : x ∈ l) : l[cellPos nio l x]? = some x ∧ cellPos nio l x < l.length := by
  unfold cellPos
  split
  · rename_i hd
    exact drop_get (lastIdx_get (by simpa using hd)).1
  · rename_i hd
    exact take_get (lastIdx_get ((mem_take_or_drop nio h).resolve_right (by simpa using hd))).1

theorem portPos_get {nio : Nat} {l : List String} {x : String} (h : x ∈ l) : l[portPos nio l x]? = some x ∧ portPos nio l x < l.length := by
  unfold portPos
  split
  · rename_i hd
    exact take_get (lastIdx_get (by simpa using hd)).1
  · rename_i hd
    exact drop_get (lastIdx_get ((mem_take_or_drop nio h).resolve_left (by simpa using hd))).1

theorem cellRow_get {c : Circ} {x : String} (h : x ∈ c.sNodes) : c.sNodes[c.cellRow x]? = some x := (cellPos_get h).1
theorem cellRow_lt {c : Circ} {x : String} (h : x ∈ c.sNodes) : c.cellRow x < c.sNodes.length := (cellPos_get h).2
theorem portRow_get {c : Circ} {x : String} (h : x ∈ c.sNodes) : c.sNodes[c.portRow x]? = some x := (portPos_get h).1
theorem portRow_lt {c : Circ} {x : String} (h : x ∈ c.sNodes) : c.portRow x < c.sNodes.length := (portPos_get h).2

/-- the state-element part of `s_nodes` -/
def Circ.stateNames (c : Circ) : List String :=
  (c.nodes.filter fun n => Stil.hasSub "dff".toList (lowerOf n.2)).map (·.1) ++
  (c.nodes.filter fun n => Stil.hasSub "latch".toList (lowerOf n.2)).map (·.1)

theorem sNodes_split (c : Circ) : c.sNodes = c.io ++ c.stateNames := by simp [Circ.sNodes, Circ.stateNames]
theorem sNodes_take (c : Circ) : c.sNodes.take c.io.length = c.io := by rw [sNodes_split]; simp
theorem sNodes_drop (c : Circ) : c.sNodes.drop c.io.length = c.stateNames := by rw [sNodes_split]; simp

/-- **by role**: a scan cell that IS a state element gets a state row (at or behind `io.length`) — also when a port has its name -/
theorem cellRow_state {c : Circ} {x : String} (h : x ∈ c.stateNames) :
    c.io.length ≤ c.cellRow x ∧ c.stateNames[c.cellRow x - c.io.length]? = some x := by
  unfold Circ.cellRow cellPos
  have hd : c.stateNames.contains x = true := by simpa using h
  simp only [sNodes_drop, hd, if_true]
  exact ⟨by omega, by rw [Nat.add_sub_cancel_left]; exact (lastIdx_get h).1⟩

/-- **by role**: a `_pi`/`_po` member that IS a port gets a port row (in front of `io.length`) — also when a flip-flop has its name -/
theorem portRow_port {c : Circ} {x : String} (h : x ∈ c.io) : c.portRow x < c.io.length ∧ c.io[c.portRow x]? = some x := by
  unfold Circ.portRow portPos
  have hd : c.io.contains x = true := by simpa using h
  simp only [sNodes_take, hd, if_true]
  exact ⟨(lastIdx_get h).2, (lastIdx_get h).1⟩

theorem lastIdx_nodup {l : List String} {x : String} (hnd : l.Nodup) (h : x ∈ l) : lastIdx l x = l.idxOf x := by
  have h1 := lastIdx_get h
  have h2 : l[l.idxOf x]? = some x := getElem?_idxOf h
  exact (List.getElem?_inj h1.2 hnd).1 (h1.1.trans h2.symm)

def Maps.scanRows (m : Maps) : List Nat := m.chains.flatMap (·.map)

section cell
variable (c : Circ) (fl : File) (p : Pat) (ch : Chain) (pre post : List String) (x : String)

theorem chainMap_mem (hch : ch ∈ fl.chains) :
    chainMap .spec c.io.length c.sNodes ch ∈ (mapsPure .spec c fl).chains := by
  simp only [mapsPure, Mode.spec, Circ.intf]
  exact List.mem_map_of_mem hch

theorem chainMap_row (hmid : ch.mid = pre ++ x :: post) (hx : isMark x = false) :
    (chainMap .spec c.io.length c.sNodes ch).map[(cellsOf post).length]? = some (c.cellRow x) := by
  simp only [chainMap, List.getElem?_map, hmid, scanNames_at pre post hx, Option.map_some]
  rfl

theorem row_mem_scanRows (hch : ch ∈ fl.chains) (hmid : ch.mid = pre ++ x :: post) (hx : isMark x = false) :
    c.cellRow x ∈ (mapsPure .spec c fl).scanRows := by
  unfold Maps.scanRows
  exact List.mem_flatMap.2 ⟨_, chainMap_mem c fl ch hch, List.mem_of_getElem? (chainMap_row c ch pre post x hmid hx)⟩

theorem loadWrites_mem (f : Bool → V3 → V3) (hch : ch ∈ fl.chains) (hmid : ch.mid = pre ++ x :: post)
    (hx : isMark x = false) {s : List Char} (hs : p.load.lookup ch.si = some s) {cj : Char}
    (hcj : s[(cellsOf post).length]? = some cj) :
    (c.cellRow x, f (odd (markers pre)) (interp cj)) ∈ loadWrites f (mapsPure .spec c fl).chains p := by
  unfold loadWrites
  refine List.mem_flatMap.2 ⟨_, chainMap_mem c fl ch hch, ?_⟩
  refine mem_zip_of_getElem? (chainMap_row c ch pre post x hmid hx) ?_
  rw [List.getElem?_zipWith_eq_some]
  refine ⟨odd (markers pre), interp cj, ?_, ?_, rfl⟩
  · simp only [chainMap, Mode.spec, invVec, hmid]; exact scanInInv_at pre post hx
  · simp only [chainMap, str_of_lookup hs, mvarray, List.getElem?_map, hcj, Option.map_some]

theorem unloadWrites_mem (hch : ch ∈ fl.chains) (hmid : ch.mid = pre ++ x :: post)
    (hx : isMark x = false) {s : List Char} (hs : p.unload.lookup ch.so = some s) {cj : Char}
    (hcj : s[(cellsOf post).length]? = some cj) :
    (c.cellRow x, xorInv (odd (markers post)) (interp cj)) ∈ unloadWrites (mapsPure .spec c fl).chains p := by
  unfold unloadWrites
  refine List.mem_flatMap.2 ⟨_, chainMap_mem c fl ch hch, ?_⟩
  refine mem_zip_of_getElem? (chainMap_row c ch pre post x hmid hx) ?_
  rw [List.getElem?_zipWith_eq_some]
  refine ⟨odd (markers post), interp cj, ?_, ?_, rfl⟩
  · simp only [chainMap, Mode.spec, invVec, hmid]; exact scanOutInv_at pre post hx
  · simp only [chainMap, str_of_lookup hs, mvarray, List.getElem?_map, hcj, Option.map_some]

end cell

theorem blank_length (m : Maps) : (blank m).length = m.n := by simp [blank]
theorem mapsPure_n (c : Circ) (fl : File) : (mapsPure .spec c fl).n = c.sNodes.length := rfl

theorem group_write_mem (c : Circ) (names : List String) (s : List Char) (k : Nat) (x : String) (ck : Char)
    (hk : names[k]? = some x) (hs : s[k]? = some ck) :
    (c.portRow x, interp ck) ∈ (names.map fun n => portLook .spec c.io.length c.sNodes n).zip (mvarray s) := by
  refine mem_zip_of_getElem? (j := k) ?_ ?_
  · simp only [List.getElem?_map, hk, Option.map_some]; rfl
  · simp [mvarray, hs]

/-! ## the load column: `tests` (`s` = the capture call's `_pi` string) and `init` of `tests_loc` (`s` = `initPiStr p`) -/
theorem loadCol_targets (c : Circ) (fl : File) (p : Pat) (s : List Char) :
    ((loadWrites invLoad (mapsPure .spec c fl).chains p ++ (mapsPure .spec c fl).pi.zip (mvarray s)).map Prod.fst).Sublist
      ((mapsPure .spec c fl).scanRows ++ (mapsPure .spec c fl).pi) := by
  rw [List.map_append]
  exact (loadWrites_targets _ _ _).append (zip_fst_sublist _ _)

theorem loadCol_cell (c : Circ) (fl : File) (p : Pat) (ch : Chain) (pre post : List String) (x : String) (s : List Char)
    (hch : ch ∈ fl.chains) (hmid : ch.mid = pre ++ x :: post) (hx : isMark x = false) (hxin : x ∈ c.sNodes)
    (hnd : ((mapsPure .spec c fl).scanRows ++ (mapsPure .spec c fl).pi).Nodup)
    {t : List Char} (hs : p.load.lookup ch.si = some t) {cj : Char} (hcj : t[(cellsOf post).length]? = some cj) :
    (applyWrites (blank (mapsPure .spec c fl))
      (loadWrites invLoad (mapsPure .spec c fl).chains p ++ (mapsPure .spec c fl).pi.zip (mvarray s)))[c.cellRow x]? =
      some (invLoad (odd (markers pre)) (interp cj)) :=
  applyWrites_get_unique _ _ _ _ ((loadCol_targets c fl p s).nodup hnd)
    (List.mem_append_left _ (loadWrites_mem c fl p ch pre post x invLoad hch hmid hx hs hcj))
    (by rw [blank_length, mapsPure_n]; exact cellRow_lt hxin)

theorem loadCol_port (c : Circ) (fl : File) (p : Pat) (s : List Char) (k : Nat) (x : String) (ck : Char)
    (hk : (group fl "_pi")[k]? = some x) (hxin : x ∈ c.sNodes)
    (hnd : ((mapsPure .spec c fl).scanRows ++ (mapsPure .spec c fl).pi).Nodup) (hck : s[k]? = some ck) :
    (applyWrites (blank (mapsPure .spec c fl))
      (loadWrites invLoad (mapsPure .spec c fl).chains p ++ (mapsPure .spec c fl).pi.zip (mvarray s)))[c.portRow x]? =
      some (interp ck) :=
  applyWrites_get_unique _ _ _ _ ((loadCol_targets c fl p s).nodup hnd)
    (List.mem_append_right _ (group_write_mem c _ s k x ck hk hck))
    (by rw [blank_length, mapsPure_n]; exact portRow_lt hxin)

theorem ite_sublist {α : Type} (b : Bool) (l : List α) : (if b then l else []).Sublist l := by
  cases b
  · exact List.nil_sublist _
  · exact List.Sublist.refl _

theorem launchCol_targets (m : Maps) (p : Pat) :
    (((if noLaunchPulse p then loadWrites xorInv m.chains p else [])
      ++ (if capturePulse p then m.pi.zip (mvarray (str p.capture "_pi")) else [])
      ++ m.po.map fun i => (i, V3.unassigned)).map Prod.fst).Sublist
    ((if noLaunchPulse p then m.scanRows else []) ++ (if capturePulse p then m.pi else []) ++ m.po) := by
  rw [List.map_append, List.map_append]
  refine (List.Sublist.append ?_ ?_).append ?_
  · cases noLaunchPulse p
    · exact List.Sublist.refl _
    · exact loadWrites_targets _ _ _
  · cases capturePulse p
    · exact List.Sublist.refl _
    · exact zip_fst_sublist _ _
  · simp [List.map_map, Function.comp_def]

theorem launchCol_written (m : Maps) (p : Pat) (nx : List V3) (r : Nat) (v : V3)
    (hnd : (m.scanRows ++ m.pi ++ m.po).Nodup) (hr : r < nx.length)
    (hm : (r, v) ∈ (if noLaunchPulse p then loadWrites xorInv m.chains p else [])
      ++ (if capturePulse p then m.pi.zip (mvarray (str p.capture "_pi")) else [])
      ++ m.po.map fun i => (i, V3.unassigned)) :
    (launchCol m p nx)[r]? = some v :=
  applyWrites_get_unique _ _ _ _
    (((launchCol_targets m p).trans (((ite_sublist _ _).append
      (ite_sublist _ _)).append (List.Sublist.refl _))).nodup hnd) hm hr

theorem launchCol_kept (m : Maps) (p : Pat) (nx : List V3) (r : Nat)
    (h : r ∉ (if noLaunchPulse p then m.scanRows else []) ++ (if capturePulse p then m.pi else []) ++ m.po) :
    (launchCol m p nx)[r]? = nx[r]? :=
  applyWrites_get_of_not_mem _ _ _ fun hm => h ((launchCol_targets m p).subset hm)

theorem tests_ok {mode : Mode} {c : Circ} {fl : File} {M : List (List V3)} (h : tests mode c fl = .ok M) :
    mapsErr mode c fl = none ∧ M = (extract fl).map (testsCol (mapsPure mode c fl)) := by
  unfold tests at h
  split at h
  · cases h
  · simp only at h
    split at h
    · cases h
    · injection h with h; exact ⟨by assumption, h.symm⟩

theorem responses_ok {mode : Mode} {c : Circ} {fl : File} {M : List (List V3)} (h : responses mode c fl = .ok M) :
    mapsErr mode c fl = none ∧ M = (extract fl).map (respCol (mapsPure mode c fl)) := by
  unfold responses at h
  split at h
  · cases h
  · simp only at h
    split at h
    · cases h
    · injection h with h; exact ⟨by assumption, h.symm⟩

theorem firstErr_none {l : List (Option Err)} (h : firstErr l = none) : ∀ e ∈ l, e = none := by
  induction l with
  | nil => intro e he; cases he
  | cons a r ih =>
    cases a with
    | some e => simp [firstErr] at h
    | none =>
      intro e he
      rcases List.mem_cons.1 he with rfl | he
      · rfl
      · exact ih (by simpa [firstErr] using h) e he

theorem testsLoc_ok {mode : Mode} {c : Circ} {fl : File} {nxt M : List (List V3)}
    (h : testsLoc mode c fl nxt = .ok M) :
    mapsErr mode c fl = none ∧ M = zipCols (locCol (mapsPure mode c fl)) (extract fl) nxt ∧
      nxt.length = (extract fl).length ∧ ∀ nx ∈ nxt, nx.length = c.sNodes.length := by
  unfold testsLoc at h
  split at h
  · cases h
  · simp only at h
    split at h
    · cases h
    · rename_i he
      injection h with h
      refine ⟨by assumption, h.symm, ?_⟩
      have := firstErr_none he
        (if (mapsPure mode c fl).n == c.sNodes.length && nxt.length == (extract fl).length &&
            nxt.all (·.length == c.sNodes.length) then none else some .shape)
        (by simp)
      split at this
      · rename_i hc
        simp only [Bool.and_eq_true, beq_iff_eq, List.all_eq_true] at hc
        exact ⟨hc.1.2, hc.2⟩
      · cases this

theorem zipCols_eq (g : Pat → List V3 → List V3) : ∀ (ps : List Pat) (nxt : List (List V3)),
    zipCols g ps nxt = List.zipWith g ps nxt
  | [], _ | _ :: _, [] => by simp [zipCols]
  | p :: ps, nx :: nxs => by simp [zipCols, zipCols_eq g ps nxs]

theorem keyErr_none {intf names : List String} (h : keyErr intf names = none) : ∀ x ∈ names, x ∈ intf := by
  unfold keyErr at h
  split at h
  · rename_i hall
    simpa using hall
  · cases h

theorem mapsErr_none_cells {mode : Mode} {c : Circ} {fl : File} (h : mapsErr mode c fl = none) (ch : Chain)
    (hch : ch ∈ fl.chains) (x : String) (hx : x ∈ cellsOf ch.mid) : x ∈ c.intf mode.intf :=
  keyErr_none (firstErr_none h _ (by
    simp only [List.mem_append, List.mem_flatMap]; right; exact ⟨ch, hch, by simp⟩)) x hx

theorem mapsErr_none_group {mode : Mode} {c : Circ} {fl : File} (h : mapsErr mode c fl = none) (g : String)
    (hg : g = "_pi" ∨ g = "_po") (x : String) (hx : x ∈ group fl g) : x ∈ c.intf mode.intf :=
  keyErr_none (firstErr_none h _ (by rcases hg with rfl | rfl <;> simp)) x hx

end KV.Stil
