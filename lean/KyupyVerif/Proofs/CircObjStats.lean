import KyupyVerif.Proofs.CircObjBase
/-! C09: `stats` — the dictionaries are permutations of the node list split by class; the `defaultdict` computation
returns base value + counts. -/
namespace KV.CircObj

theorem cells_perm {c : Circ} (wf : WFc0 c) :
    (c.cells.map (·.2)).Perm (c.nodes.filter fun i => (c.nobj i).kind != FORK) := by
  rw [List.perm_ext_iff_of_nodup (dictVals_nodup (fun i => (c.nobj i).name) wf.ckeys fun e he => (wf.cellsSound e he).2.2)
    (wf.nodes_nodup.sublist List.filter_sublist)]
  intro i
  simp only [List.mem_map, List.mem_filter, bne_iff_ne]
  constructor
  · rintro ⟨e, he, rfl⟩; exact ⟨(wf.cellsSound e he).1, (wf.cellsSound e he).2.1⟩
  · rintro ⟨hi, hk⟩; exact ⟨_, wf.cellsComplete i hi hk, rfl⟩

theorem forks_perm {c : Circ} (wf : WFc0 c) :
    (c.forks.map (·.2)).Perm (c.nodes.filter fun i => (c.nobj i).kind == FORK) := by
  rw [List.perm_ext_iff_of_nodup (dictVals_nodup (fun i => (c.nobj i).name) wf.fkeys fun e he => (wf.forksSound e he).2.2)
    (wf.nodes_nodup.sublist List.filter_sublist)]
  intro i
  simp only [List.mem_map, List.mem_filter, beq_iff_eq]
  constructor
  · rintro ⟨e, he, rfl⟩; exact ⟨(wf.forksSound e he).1, (wf.forksSound e he).2.1⟩
  · rintro ⟨hi, hk⟩; exact ⟨_, wf.forksComplete i hi hk, rfl⟩

theorem stats_sizes {c : Circ} (wf : WFc0 c) :
    c.cells.length = c.nodes.countP (fun i => (c.nobj i).kind != FORK) ∧
    c.forks.length = c.nodes.countP (fun i => (c.nobj i).kind == FORK) ∧
    c.cells.length + c.forks.length = c.nodes.length := by
  have h1 := (cells_perm wf).length_eq
  have h2 := (forks_perm wf).length_eq
  simp only [List.length_map, ← List.countP_eq_length_filter] at h1 h2
  refine ⟨h1, h2, ?_⟩
  rw [h1, h2]
  have := List.length_eq_countP_add_countP (fun i => (c.nobj i).kind != FORK) (l := c.nodes)
  rw [this]
  congr 1
  apply List.countP_congr
  intro i _
  simp [bne]

theorem stats_kind_count {c : Circ} (wf : WFc0 c) (p : String → Bool) :
    c.cells.countP (fun e => p (c.nobj e.2).kind) =
    c.nodes.countP (fun i => (c.nobj i).kind != FORK && p (c.nobj i).kind) := by
  have h := (cells_perm wf).countP_eq (fun i => p (c.nobj i).kind)
  rw [List.countP_map, List.countP_filter] at h
  have h2 : c.nodes.countP (fun i => (c.nobj i).kind != FORK && p (c.nobj i).kind) =
      c.nodes.countP (fun a => p (c.nobj a).kind && (c.nobj a).kind != FORK) := by
    apply List.countP_congr
    intro i _
    simp [Bool.and_comm]
  rw [h2, ← h]; rfl

/-- `stats.get(k, 0)` -/
def statVal (d : Dict) (k : String) : Nat := (lookup d k).getD 0

/-- the five size entries -/
def statBase (c : Circ) (k : String) : Nat :=
  statVal [("__node__", c.nodes.length), ("__cell__", c.cells.length), ("__fork__", c.forks.length),
           ("__io__", c.io.length), ("__line__", c.lines.length)] k

/-- `stats[n.kind] += 1` contributes to key `k` -/
def countsFor (k kind : String) : Bool := kind == k
/-- the `__dff__` / `__latch__` / `__comb__` classification of a cell kind contributes to key `k` -/
def classFor (k kind : String) : Bool :=
  if hasSub "dff" (lower kind) then "__dff__" == k
  else if hasSub "latch" (lower kind) then "__latch__" == k
  else if !(hasSub "put" (lower kind)) then "__comb__" == k
  else false

theorem lookup_nil (k : String) : lookup [] k = none := rfl
theorem lookup_cons (e : String × Nat) (d : Dict) (k : String) :
    lookup (e :: d) k = if e.1 == k then some e.2 else lookup d k := by
  unfold lookup; rw [List.find?_cons]; split <;> simp_all

theorem lookup_isSome (d : Dict) (k : String) : (lookup d k).isSome = hasKey d k := by
  rw [Bool.eq_iff_iff]
  simp [lookup, hasKey, List.find?_isSome]

theorem lookup_append_single (d : Dict) (k k' : String) (v : Nat) :
    lookup (d ++ [(k, v)]) k' = (lookup d k').or (if k == k' then some v else none) := by
  induction d with
  | nil => simp [lookup_cons, lookup_nil]
  | cons e d ih =>
    simp only [List.cons_append, lookup_cons]
    split
    · simp
    · exact ih

theorem lookup_map_update (d : Dict) (k k' : String) (f : Nat → Nat) :
    lookup (d.map fun e => if e.1 == k then (e.1, f e.2) else e) k' =
      (lookup d k').map fun x => if k == k' then f x else x := by
  induction d with
  | nil => rfl
  | cons e d ih =>
    simp only [List.map_cons, lookup_cons]
    by_cases h1 : e.1 == k
    · simp only [h1, if_true]
      by_cases h2 : e.1 == k'
      · have : (k == k') = true := by simp_all
        simp [h2, this]
      · simp only [h2, Bool.false_eq_true, if_false]; exact ih
    · simp only [h1, Bool.false_eq_true, if_false]
      by_cases h2 : e.1 == k'
      · have : (k == k') = false := by
          simp only [beq_iff_eq] at h1 h2 ⊢; simp only [beq_eq_false_iff_ne]; intro h; exact h1 (h ▸ h2)
        simp [h2, this]
      · simp only [h2, Bool.false_eq_true, if_false]; exact ih

/-- `d[k] = f(d[k])` if the key is present, else `d[k] = v`: the shape of both `bump` and `setKey` -/
theorem statVal_upsert (d : Dict) (k k' : String) (f : Nat → Nat) (v : Nat) :
    statVal (if hasKey d k then d.map (fun e => if e.1 == k then (e.1, f e.2) else e) else d ++ [(k, v)]) k' =
      if k == k' then ((lookup d k).map f).getD v else statVal d k' := by
  unfold statVal
  have hs := lookup_isSome d k
  split
  · rw [lookup_map_update]
    by_cases hkk : (k == k') = true
    · obtain rfl : k = k' := by simpa using hkk
      cases hl : lookup d k <;> simp_all
    · cases lookup d k' <;> simp [hkk]
  · rw [lookup_append_single]
    by_cases hkk : (k == k') = true
    · obtain rfl : k = k' := by simpa using hkk
      cases hl : lookup d k <;> simp_all
    · cases lookup d k' <;> simp [hkk]

theorem statVal_bump (d : Dict) (k k' : String) (v : Nat) :
    statVal (bump d k v) k' = statVal d k' + (if k == k' then v else 0) := by
  unfold bump
  rw [statVal_upsert d k k' (· + v) v]
  split
  · obtain rfl : k = k' := by simpa using ‹(k == k') = true›
    unfold statVal
    cases lookup d k <;> simp
  · rfl

theorem statVal_setKey (d : Dict) (k k' : String) (v : Nat) :
    statVal (setKey d k v) k' = if k == k' then v else statVal d k' := by
  unfold setKey
  rw [statVal_upsert d k k' (fun _ => v) v]
  split
  · cases lookup d k <;> rfl
  · rfl

theorem statVal_statsCell (d : Dict) (kind k : String) :
    statVal (statsCell d kind) k = statVal d k + (if countsFor k kind then 1 else 0) + (if classFor k kind then 1 else 0) := by
  unfold statsCell classFor countsFor
  simp only []
  split
  · rw [statVal_bump, statVal_bump]
  · split
    · rw [statVal_bump, statVal_bump]
    · split
      · rw [statVal_bump, statVal_bump]
      · rw [statVal_bump]; simp

theorem statVal_fold (c : Circ) (cells : Dict) (d : Dict) (k : String) :
    statVal (cells.foldl (fun d e => statsCell d (c.nobj e.2).kind) d) k =
      statVal d k + cells.countP (fun e => countsFor k (c.nobj e.2).kind) +
      cells.countP (fun e => classFor k (c.nobj e.2).kind) := by
  induction cells generalizing d with
  | nil => simp
  | cons e cells ih =>
    simp only [List.foldl_cons]
    rw [ih, statVal_statsCell, List.countP_cons, List.countP_cons]
    omega

theorem stats_value {c : Circ} (wf : WFc0 c) (k : String) (hk : k ≠ "__seq__") :
    statVal (stats c) k = statBase c k + c.nodes.countP (fun i => (c.nobj i).kind != FORK && countsFor k (c.nobj i).kind) +
      c.nodes.countP (fun i => (c.nobj i).kind != FORK && classFor k (c.nobj i).kind) := by
  unfold stats
  simp only []
  have hne : ("__seq__" == k) = false := by simp [beq_eq_false_iff_ne, Ne.symm hk]
  rw [statVal_setKey, hne]
  simp only [Bool.false_eq_true, if_false]
  rw [statVal_bump, statVal_bump, statVal_fold]
  rw [stats_kind_count wf (countsFor k), stats_kind_count wf (classFor k)]
  simp [statBase]

end KV.CircObj
