import KyupyVerif.Proofs.SubstituteWire
/-! C10 (`substitute`), frame and wiring assembled for `substituteCore` when the cell is kept and no connected input is ignored
(`substituteCore_wireP` over the phases, `substituteCore_wire` for a run with designated cell): the host outside the cell is untouched,
the line at every connected pin of the instance ends at its `inTarget` / is driven from its `outTarget`; the node array as one list of
pin writes (`core_nodes`).  Regular use (`regularB`): the result of `substitute` is the built circuit (`substitute_regular_eq'`,
`substitute_regular_eq`), the names of the state elements keep their order (`regular_names`).  `lineEq_frame`: a line keeps its
equation when its driver end and the driving node are untouched. -/
namespace KV.Transform
open KV

theorem padTo_filterMap (l : List (Option Nat)) (n : Nat) : (padTo l n).filterMap id = l.filterMap id := by
  simp [padTo, List.filterMap_append]

theorem padTo_length (l : List (Option Nat)) (n : Nat) (h : l.length ≤ n) : (padTo l n).length = n := by
  simp [padTo]; omega

theorem padTo_getD (l : List (Option Nat)) (n k : Nat) : (padTo l n).getD k none = l.getD k none := by
  simp only [padTo, List.getD_eq_getElem?_getD, List.getElem?_append, List.getElem?_replicate]
  split
  · rfl
  · rw [List.getElem?_eq_none (by omega)]; split <;> rfl

theorem padTo_getElem? (l : List (Option Nat)) (n k x : Nat) (h : l.getD k none = some x) : (padTo l n)[k]? = some (some x) := by
  rw [← padTo_getD l n, List.getD_eq_getElem?_getD] at h
  cases hp : (padTo l n)[k]? <;> simp_all

theorem mem_zip_padTo {as : List Nat} {l : List (Option Nat)} {n a ll : Nat} :
    (a, some ll) ∈ as.zip (padTo l n) ↔ ∃ k, as[k]? = some a ∧ l.getD k none = some ll := by
  refine ⟨fun hm => ?_, fun ⟨k, h1, h2⟩ => mem_zip_of_getElem? h1 (padTo_getElem? _ _ k ll h2)⟩
  obtain ⟨k, hk⟩ := List.mem_iff_getElem?.mp hm
  obtain ⟨h1, h2⟩ := List.getElem?_zip_eq_some.mp hk
  refine ⟨k, h1, ?_⟩
  rw [← padTo_getD l n, List.getD_eq_getElem?_getD, h2]; rfl

/-- the lines a connecting loop visits are the connected pins of the instance -/
theorem zip_padTo_snd (as : List Nat) (l : List (Option Nat)) (hl : l.length ≤ as.length) :
    (as.zip (padTo l as.length)).filterMap (·.2) = l.filterMap id := by
  rw [zip_snd_filterMap _ _ (by rw [padTo_length _ _ hl]; exact Nat.le_refl _), padTo_filterMap]

/-- everything after the node loop is pin writes on its node array `h2`: those of `phase3` (`newWrites`), then those of the two
    connecting loops -/
theorem core_nodes (h : NNet) (c : Nat) (m : NNet) (sh : Shape)
    (hni : NoIgnored m (sh.inPorts.zip (padTo (h.net.node c).ins sh.inPorts.length)))
    (map : Array (Option Nat)) (dang : List (Option Nat)) (h2 : NNet) (net4 net5 : Net) (ren : Option Nat → Option Nat)
    (hci : connectIns m map (sh.inPorts.zip (padTo (h.net.node c).ins sh.inPorts.length)) (phase3 m map h2, id) = some (net4, ren))
    (hco : connectOuts m map (sh.outLines.zip ((padTo (h.net.node c).outs sh.outLines.length).map ren)) (net4, []) = some (net5, dang)) :
    ren = id ∧ net5.nodes = attachAll h2.net.nodes
      (newWrites h2.net.lines.size ((copiedLines m map).map (mkLine m map)) ++
       wireWrites true (inTarget m map) (sh.inPorts.zip (padTo (h.net.node c).ins sh.inPorts.length)) ++
       wireWrites false (outTarget m map) (sh.outLines.zip (padTo (h.net.node c).outs sh.outLines.length))) := by
  obtain ⟨hren, hl4⟩ := connectIns_wireLoop m map _ _ _ hci hni
  have hren : ren = id := hren
  subst hren
  rw [List.map_id] at hco
  refine ⟨rfl, ?_⟩
  rw [wireLoop_nodes drSide _ _ _ _ (connectOuts_wireLoop m map _ _ _ hco), wireLoop_nodes rdSide _ _ _ _ hl4, phase3_eq]
  simp only [attachAll_append]; rfl

/-- every pin write of the three loops goes to an image of `node_map` -/
theorem core_writes_map (m : NNet) (map : Array (Option Nat)) (L : Nat) (pi po : List (Nat × Option Nat)) (w : PinW)
    (hw : w ∈ newWrites L ((copiedLines m map).map (mkLine m map)) ++ wireWrites true (inTarget m map) pi ++
      wireWrites false (outTarget m map) po) : ∃ k, map.getD k none = some w.x := by
  simp only [List.mem_append, mem_newWrites, mem_wireWrites, List.length_map, List.getElem_map] at hw
  rcases hw with (⟨t, ht, b, rfl⟩ | ⟨a, ll, x, p, _, ht, rfl⟩) | ⟨a, ll, x, p, _, ht, rfl⟩
  · have hcp := (List.mem_filter.mp (List.getElem_mem ht)).2
    simp only [copiedB, Bool.and_eq_true, Option.isSome_iff_exists] at hcp
    obtain ⟨⟨xd, hxd⟩, ⟨xr, hxr⟩⟩ := hcp
    cases b
    · exact ⟨(m.net.line (copiedLines m map)[t]).driver, by simp [endOf, mkLine, hxd]⟩
    · exact ⟨(m.net.line (copiedLines m map)[t]).reader, by simp [endOf, mkLine, hxr]⟩
  · exact inTarget_map ht
  · exact outTarget_map ht

/-- frame and wiring of the phases of `substituteCore` run with the cell kept as the copy of node `dn` of the implementation
    (`dn` = the designated cell; for an implementation without designated cell the *virtual* run with `dn` = the number of
    nodes of the implementation, which leaves the cell in the circuit as an isolated node) and no connected input ignored:
    no line is removed, the lines behind the host's are left as `phase3` wrote them -/
theorem substituteCore_wireP (h : NNet) (c : Nat) (m : NNet) (sh : Shape) (w : WFr h)
    (hc : c < h.net.nodes.size) (dn : Nat)
    (hni : NoIgnored m (sh.inPorts.zip (padTo (h.net.node c).ins sh.inPorts.length)))
    (map : Array (Option Nat)) (dang : List (Option Nat))
    (h2 : NNet) (net4 net5 : Net) (ren : Option Nat → Option Nat)
    (hil : (h.net.node c).ins.length ≤ sh.inPorts.length) (hol : (h.net.node c).outs.length ≤ sh.outLines.length)
    (hfold : (List.range m.net.nodes.size).foldlM (addImplNode m (h.names.getD c "") (some dn)) (phase1 h c m (some dn)) = some (h2, map))
    (hci : connectIns m map (sh.inPorts.zip (padTo (h.net.node c).ins sh.inPorts.length)) (phase3 m map h2, id) = some (net4, ren))
    (hco : connectOuts m map (sh.outLines.zip ((padTo (h.net.node c).outs sh.outLines.length).map ren)) (net4, []) = some (net5, dang)) :
    ren = id ∧ net5.lines.size = (phase3 m map h2).lines.size ∧
    FrameA h c ((h.net.node c).ins.filterMap id) ((h.net.node c).outs.filterMap id) net5.nodes net5.lines ∧
    MapGe map c h.net.nodes.size ∧
    (∀ l, h.net.lines.size ≤ l → l < (phase3 m map h2).lines.size → lineA net5.lines l = lineA (phase3 m map h2).lines l) ∧
    (∀ k ll, (h.net.node c).ins.getD k none = some ll → ∃ inn r rp, sh.inPorts[k]? = some inn ∧
      inTarget m map inn = some (r, rp) ∧ (lineA net5.lines ll).reader = r ∧ (lineA net5.lines ll).rpin = rp) ∧
    (∀ k ll, (h.net.node c).outs.getD k none = some ll → ∃ il d dp, sh.outLines[k]? = some il ∧
      outTarget m map il = some (d, dp) ∧ (lineA net5.lines ll).driver = d ∧ (lineA net5.lines ll).dpin = dp) := by
  have f1 := frame_phase1 h c m dn ((h.net.node c).ins.filterMap id) ((h.net.node c).outs.filterMap id)
  have f2 := frame_foldlM m _ (some dn) _ _ _ hfold f1.1 f1.2
  have f3 : FrameA h c ((h.net.node c).ins.filterMap id) ((h.net.node c).outs.filterMap id)
      (phase3 m map h2).nodes (phase3 m map h2).lines := frameA_foldl map f2.2 _ _ f2.1
  obtain ⟨hI, ndI⟩ := w.insPins hc
  obtain ⟨hO, ndO⟩ := w.outsPins hc
  have sI := zip_padTo_snd sh.inPorts _ hil
  obtain ⟨hren, hl4⟩ := connectIns_wireLoop m map _ _ _ hci hni
  have hren : ren = id := hren
  subst hren
  have sO : (sh.outLines.zip ((padTo (h.net.node c).outs sh.outLines.length).map id)).filterMap (·.2) =
      (h.net.node c).outs.filterMap id := by rw [List.map_id]; exact zip_padTo_snd sh.outLines _ hol
  have hl5 := connectOuts_wireLoop m map _ _ _ hco
  have wi := wireLoop_wire rdSide (inTarget m map) _ (phase3 m map h2) net4 hl4 (by rw [sI]; exact ndI)
    (by rw [sI]; intro x hx; exact Nat.lt_of_lt_of_le (hI x hx).1 f3.lsize)
  have wo := wireLoop_wire drSide (outTarget m map) _ net4 net5 hl5
    (by rw [sO]; exact ndO) (by rw [sO]; intro x hx; rw [wi.1]; exact Nat.lt_of_lt_of_le (hO x hx).1 f3.lsize)
  have keepD : ∀ l, (lineA net4.lines l).driver = (lineA (phase3 m map h2).lines l).driver ∧
      (lineA net4.lines l).dpin = (lineA (phase3 m map h2).lines l).dpin := fun l => Prod.mk.inj (wi.2.2.1 l)
  have keepR : ∀ l, (lineA net5.lines l).reader = (lineA net4.lines l).reader ∧
      (lineA net5.lines l).rpin = (lineA net4.lines l).rpin := fun l => Prod.mk.inj (wo.2.2.1 l)
  have hnodes := (core_nodes h c m sh hni map dang h2 net4 net5 id hci hco).2
  refine ⟨rfl, wo.1.trans wi.1, ⟨by rw [hnodes, attachAll_size]; exact f2.1.nsize, by rw [wo.1, wi.1]; exact f3.lsize,
    fun d hd hne => ?_, fun l hl ho => ?_, fun l hl hi => ?_⟩, f2.2, fun l h1 _ => ?_, fun k ll hk => ?_, fun k ll hk => ?_⟩
  · -- the three loops write to the cell and the new nodes only
    rw [hnodes, attachAll_node_ne _ _ _ (fun w hw e => by
      obtain ⟨k, hk⟩ := core_writes_map m map _ _ _ w hw; have := f2.2 k _ hk; omega)]
    exact f2.1.node d hd hne
  · rw [wo.2.1 l (by rw [sO]; exact ho)]
    exact ⟨(keepD l).1.trans (f3.drv l hl ho).1, (keepD l).2.trans (f3.drv l hl ho).2⟩
  · rw [(keepR l).1, (keepR l).2, wi.2.1 l (by rw [sI]; exact hi)]
    exact f3.rdr l hl hi
  · rw [wo.2.1 l (by rw [sO]; intro hx; have := (hO l hx).1; omega), wi.2.1 l (by rw [sI]; intro hx; have := (hI l hx).1; omega)]
  · have hklt : k < sh.inPorts.length := Nat.lt_of_lt_of_le (lt_of_getD_some hk) hil
    obtain ⟨r, rp, ht, h1⟩ := wi.2.2.2 _ ll
      (mem_zip_padTo.mpr ⟨k, List.getElem?_eq_getElem hklt, hk⟩)
    have h1' := Prod.mk.inj h1
    exact ⟨sh.inPorts[k], r, rp, List.getElem?_eq_getElem hklt, ht, (keepR ll).1.trans h1'.1, (keepR ll).2.trans h1'.2⟩
  · have hklt : k < sh.outLines.length := Nat.lt_of_lt_of_le (lt_of_getD_some hk) hol
    obtain ⟨d, dp, ht, h1⟩ := wo.2.2.2 _ ll (by
      rw [List.map_id]
      exact mem_zip_padTo.mpr ⟨k, List.getElem?_eq_getElem hklt, hk⟩)
    have h1' := Prod.mk.inj h1
    exact ⟨sh.outLines[k], d, dp, List.getElem?_eq_getElem hklt, ht, h1'.1, h1'.2⟩

theorem substituteCore_wire (h : NNet) (c : Nat) (m : NNet) (sh : Shape) (hs : implShape m = some sh) (w : WFr h)
    (hc : c < h.net.nodes.size) (dn : Nat) (hd : sh.des = some dn)
    (hni : NoIgnored m (sh.inPorts.zip (padTo (h.net.node c).ins sh.inPorts.length)))
    (h5 : NNet) (map : Array (Option Nat)) (dang : List (Option Nat)) (he : substituteCore h c m = some (h5, map, dang)) :
    Frame h c ((h.net.node c).ins.filterMap id) ((h.net.node c).outs.filterMap id) h5 ∧ MapGe map c h.net.nodes.size ∧
    (∀ k ll, (h.net.node c).ins.getD k none = some ll → ∃ inn r rp, sh.inPorts[k]? = some inn ∧
      inTarget m map inn = some (r, rp) ∧ (h5.net.line ll).reader = r ∧ (h5.net.line ll).rpin = rp) ∧
    (∀ k ll, (h.net.node c).outs.getD k none = some ll → ∃ il d dp, sh.outLines[k]? = some il ∧
      outTarget m map il = some (d, dp) ∧ (h5.net.line ll).driver = d ∧ (h5.net.line ll).dpin = dp) := by
  obtain ⟨h2, net4, ren, net5, hil, hol, hfold, hci, hco, e⟩ := substituteCore_inv h c m sh hs h5 map dang he
  rw [hd] at hfold
  subst e
  obtain ⟨_, _, fr, hm, _, win, wout⟩ := substituteCore_wireP h c m sh w hc dn hni map dang h2 net4 net5 ren hil hol hfold hci hco
  exact ⟨fr, hm, win, wout⟩



theorem regularB_spec (h : NNet) (c : Nat) (m : NNet) (hr : regularB h c m = true) :
    ∃ sh dn, implShape m = some sh ∧ sh.des = some dn ∧
      NoIgnored m (sh.inPorts.zip (padTo (h.net.node c).ins sh.inPorts.length)) ∧
      (h.net.node c).outs.length = sh.outLines.length ∧ (h.net.node c).outs.all (·.isSome) = true := by
  unfold regularB at hr
  split at hr
  · exact absurd hr (by simp)
  · rename_i sh hs
    simp only [Bool.and_eq_true, beq_iff_eq] at hr
    obtain ⟨⟨⟨h1, h2⟩, h3⟩, h4⟩ := hr
    cases hd : sh.des with
    | none => rw [hd] at h1; simp at h1
    | some dn =>
      refine ⟨sh, dn, hs, hd, ?_, h3, h4⟩
      intro p hp hsome
      have := List.all_eq_true.mp h2 p hp
      simpa [hsome] using this

theorem substitute_regular_eq' (h : NNet) (c : Nat) (m h' : NNet) (hr : regularB h c m = true) (he : substitute h c m = some h') :
    ∃ sh dn map h5, implShape m = some sh ∧ sh.des = some dn ∧ substituteCore h c m = some (h5, map, []) ∧
      h' = { h5 with net := densify h5.net map } ∧
      NoIgnored m (sh.inPorts.zip (padTo (h.net.node c).ins sh.inPorts.length)) := by
  obtain ⟨sh, dn, hs, hd, hni, hlen, hall⟩ := regularB_spec h c m hr
  unfold substitute at he
  split at he
  · exact absurd he (by simp)
  · rename_i h5 map dang hcore
    have hnil := substituteCore_dang_nil h c m sh hs h5 map dang hcore hlen hall
    subst hnil
    simp only [removeDangling] at he
    cases he
    exact ⟨sh, dn, map, h5, hs, hd, hcore, rfl, hni⟩

theorem substitute_regular_eq (h : NNet) (c : Nat) (m h' : NNet) (hr : regularB h c m = true) (hdn : denseB h c m = true)
    (he : substitute h c m = some h') :
    ∃ sh dn map, implShape m = some sh ∧ sh.des = some dn ∧ substituteCore h c m = some (h', map, []) ∧
      NoIgnored m (sh.inPorts.zip (padTo (h.net.node c).ins sh.inPorts.length)) := by
  obtain ⟨sh, dn, map, h5, hs, hd, hcore, e, hni⟩ := substitute_regular_eq' h c m h' hr he
  unfold denseB at hdn
  simp only [hcore, Bool.not_eq_true'] at hdn
  rw [densify_of_dense h5.net map hdn] at e
  subst e
  exact ⟨sh, dn, map, hs, hd, hcore, hni⟩

theorem addedKN_noSeq (m : NNet) (hn : String) (dn : Nat)
    (hone : ∀ j, j < m.net.nodes.size → j ≠ dn → isSeqKind (m.net.node j).kind = false) :
    ∀ kn ∈ addedKN m hn (some dn), isSeqKind kn.1 = false := by
  intro kn hkn
  simp only [addedKN, List.mem_filterMap, List.mem_range] at hkn
  obtain ⟨j, hj, e⟩ := hkn
  have hs := (addedOne_isSome m hn (some dn) j).mp (by rw [e]; rfl)
  rw [addedOne_kind e]
  split
  · decide +kernel
  · rename_i hio
    rw [if_neg hio] at hs
    exact hone j hj fun ej => hs (ej ▸ rfl)

/-- names (in index order) of the nodes whose kind satisfies `q`, after the host cell took the designated cell's kind and
    the implementation's other nodes (none of them selected) were appended -/
theorem regular_names (h : NNet) (c : Nat) (hc : c < h.net.nodes.size) (k' : String) (added : List (String × String))
    (q : String → Bool) (hq : q k' = q (h.net.node c).kind) (hadd : ∀ kn ∈ added, q kn.1 = false) :
    (((h.kindNames.set c (k', h.names.getD c "")) ++ added).filter fun kn => q kn.1).map (·.2) =
    (h.kindNames.filter fun kn => q kn.1).map (·.2) := by
  have hnil : added.filter (fun kn => q kn.1) = [] := List.filter_eq_nil_iff.mpr fun x hx => by rw [hadd x hx]; simp
  rw [List.filter_append, hnil, List.append_nil]
  have hlen : c < h.kindNames.length := by simp [kindNames_eq, hc]
  apply filter_set_map _ _ _ c _ hlen
  · rw [kindNames_getElem h c hlen]; exact hq
  · rw [kindNames_getElem h c hlen]; rfl

theorem lineEq_frame {α : Type _} (net net' : Net) (sp : Nat → Option Nat) (z : α) (neg : α → α)
    (prim : String → α → α → α → α → α) (a : Nat → α) (v : Nat → α) (l : Nat)
    (hd : (net'.line l).driver = (net.line l).driver) (hp : (net'.line l).dpin = (net.line l).dpin)
    (hn : net'.node (net.line l).driver = net.node (net.line l).driver) :
    lineEq net' sp z neg prim a v l = lineEq net sp z neg prim a v l := by
  apply lineEq_congr
  · rw [hd, hn]
  · exact hp
  · rw [hd]
  · intro k; rw [hd, hn]

end KV.Transform
