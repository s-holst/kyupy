import KyupyVerif.Proofs.ImplDatasheet
import KyupyVerif.Model.ImplCert
/-! Glue for the composition C19 → C10: what the certificate `describesB` (a row of the generated library tables is the
`dump_techlib.describe` row of an implementation netlist) says in the form the semantic proof uses (`Describes`, `describes_of`) —
where the slot of the `j`-th port is found among the row's input slots (`Cell.env` looks values up by `idxOf?`), which lines the
outputs capture — derived from the port list alone.  `undr m` lists the undriven ports as (node, position in `io_nodes`): the row's
input slots are `ppi +` the positions, the input ports of `implShape` are the nodes, and since the port list has no duplicate both
projections are injective on `undr m`, so a slot's index among the slots is its node's index among the input ports
(`slot_of_ports`). -/
namespace KV.Transform
open KV KV.Sig KV.TL

def undr (m : NNet) : List (Nat × Nat) := m.net.io.zipIdx.filter fun nk => (m.net.node nk.1).ins.length == 0

/-- the `describe` row of the port at position `nk.2` (node `nk.1`): name, direction, and the captured line of an output or the
    input slot of an input (`describesB`, Model/ImplCert.lean) -/
def descRow (m : NNet) (nk : Nat × Nat) : Str × Bool × Nat :=
  ((m.names.getD nk.1 "").toList, decide ((m.net.node nk.1).ins.length > 0),
    if (m.net.node nk.1).ins.length > 0 then ((m.net.node nk.1).inPin 0).getD 0 else m.net.idx.ppi + nk.2)

theorem descRow_dir (m : NNet) (nk : Nat × Nat) : (descRow m nk).2.1 = ((m.net.node nk.1).ins.length != 0) := by
  by_cases h : (m.net.node nk.1).ins.length = 0 <;> simp [descRow, h, Nat.pos_of_ne_zero]

theorem descRow_slot (m : NNet) (nk : Nat × Nat) : (descRow m nk).2.2 =
    if (m.net.node nk.1).ins.length = 0 then m.net.idx.ppi + nk.2 else ((m.net.node nk.1).inPin 0).getD 0 := by
  by_cases h : (m.net.node nk.1).ins.length = 0 <;> simp [descRow, h, Nat.pos_of_ne_zero]

theorem inSlots_eq {cr : Cell} {m : NNet} (hp : cr.ports = m.net.io.zipIdx.map (descRow m)) :
    cr.inSlots = (undr m).map fun nk => m.net.idx.ppi + nk.2 := by
  simp only [Cell.inSlots, hp, List.filter_map, List.map_map, undr, Function.comp_def, descRow_dir, bne, Bool.not_not]
  apply List.map_congr_left
  intro nk hnk
  have := (List.mem_filter.mp hnk).2
  simp only [beq_iff_eq] at this
  simp [descRow_slot, this]

theorem zipIdx_filter_map_fst {α β} (l : List α) (p : α → Bool) (g : α → β) :
    (l.zipIdx.filter fun nk => p nk.1).map (fun nk => g nk.1) = (l.filter p).map g := by
  conv => rhs; rw [← List.zipIdx_map_fst 0 l, List.filter_map, List.map_map]
  rfl

theorem inPorts_eq {m : NNet} {sh : Shape} (hsh : implShape m = some sh) : sh.inPorts = (undr m).map (·.1) := by
  rw [(implShape_spec m sh hsh).1, undr]
  exact ((zipIdx_filter_map_fst _ _ id).trans (List.map_id _)).symm

theorem undr_mem {m : NNet} {nk : Nat × Nat} :
    nk ∈ undr m ↔ m.net.io[nk.2]? = some nk.1 ∧ (m.net.node nk.1).ins.length = 0 := by
  simp only [undr, List.mem_filter, beq_iff_eq]
  rw [List.mem_zipIdx_iff_getElem?]

theorem idxOf?_of_mem {α} [BEq α] [LawfulBEq α] {l : List α} {a : α} (h : a ∈ l) : l.idxOf? a = some (l.idxOf a) :=
  List.findIdx?_eq_some_of_exists ⟨a, h, by simp⟩

theorem slot_of_ports {m : NNet} (hn : m.net.io.Nodup) (j n : Nat) (hj : m.net.io[j]? = some n) :
    ((undr m).map fun nk => m.net.idx.ppi + nk.2).idxOf? (m.net.idx.ppi + j) =
      if (m.net.node n).ins.length = 0 then some (((undr m).map (·.1)).idxOf n) else none := by
  by_cases h0 : (m.net.node n).ins.length = 0
  · have hm : (n, j) ∈ undr m := undr_mem.mpr ⟨hj, h0⟩
    rw [if_pos h0, idxOf?_of_mem (List.mem_map_of_mem (f := fun nk => m.net.idx.ppi + nk.2) hm),
      idxOf_map_inj (fun nk : Nat × Nat => m.net.idx.ppi + nk.2) _ (n, j), idxOf_map_inj (·.1) _ (n, j)]
    · intro y hy e
      obtain ⟨h1, _⟩ := undr_mem.mp hy
      have hlt := (List.getElem?_eq_some_iff.mp h1).1
      have e1 : y.1 = n := e
      rw [e1, ← hj] at h1
      exact Prod.ext e1 ((List.getElem?_inj hlt hn).mp h1)
    · intro y hy e
      obtain ⟨h1, _⟩ := undr_mem.mp hy
      have e2 : y.2 = j := Nat.add_left_cancel e
      rw [e2, hj] at h1
      exact Prod.ext (Option.some.inj h1).symm e2
  · simp only [h0, if_false]
    rw [List.idxOf?_eq_none_iff]
    intro hmem
    obtain ⟨nk, hnk, he⟩ := List.mem_map.mp hmem
    obtain ⟨h1, h2⟩ := undr_mem.mp hnk
    have : nk.2 = j := by omega
    rw [this, hj] at h1
    exact h0 (Option.some.inj h1 ▸ h2)

theorem outLines_eq {cr : Cell} {m : NNet} {sh : Shape} (hsh : implShape m = some sh)
    (hp : cr.ports = m.net.io.zipIdx.map (descRow m)) : cr.outLines.map (·.2) = sh.outLines := by
  obtain ⟨_, hout, hlines⟩ := implShape_spec m sh hsh
  have h1 : cr.outLines.map (·.2) = sh.outPorts.map fun p => ((m.net.node p).inPin 0).getD 0 := by
    simp only [Cell.outLines, hp, List.filter_map, List.map_map, Function.comp_def, descRow_dir]
    rw [hout, ← zipIdx_filter_map_fst m.net.io (fun p => (m.net.node p).ins.length != 0) fun p => ((m.net.node p).inPin 0).getD 0]
    apply List.map_congr_left
    intro nk hnk
    have := (List.mem_filter.mp hnk).2
    simp only [bne_iff_ne, ne_eq] at this
    simp [descRow_slot, this]
  have := congrArg (List.map fun o : Option Nat => o.getD 0) hlines
  simp only [List.map_map, Function.comp_def, Option.getD_some, List.map_id'] at this
  rw [h1, this]

structure Describes (cr : Cell) (m : NNet) (sh : Shape) (order : List Nat) : Prop where
  prog : cr.prog = (genOps Gen.kindPrefixes m.net order false).map OpRow.toOp
  snodes : m.net.sNodes = m.net.io
  slot : ∀ j n, m.net.io[j]? = some n → cr.inSlots.idxOf? (m.net.idx.ppi + j) =
    if (m.net.node n).ins.length = 0 then some (sh.inPorts.idxOf n) else none
  zero : cr.inSlots.idxOf? m.net.idx.zero = none
  nIn : cr.inNames.length = sh.inPorts.length
  outs : cr.outLines.map (·.2) = sh.outLines

theorem describes_of {cr : Cell} {m : NNet} {sh : Shape} {order : List Nat} (hsh : implShape m = some sh)
    (h : describesB Gen.kindPrefixes cr m order = true) : Describes cr m sh order := by
  simp only [describesB, Bool.and_eq_true, beq_iff_eq, decide_eq_true_eq] at h
  obtain ⟨⟨⟨⟨h1, h2⟩, _⟩, h4⟩, h5⟩ := h
  have hs := inSlots_eq h2
  have hi := inPorts_eq hsh
  refine ⟨?_, ?_, ?_, ?_, ?_, outLines_eq hsh h2⟩
  · simp only [Cell.prog, h1, List.map_map]
    apply List.map_congr_left
    intro r _; rfl
  · unfold Net.sNodes at h4 ⊢
    simp only [List.length_append] at h4
    have ha : ((List.range m.net.nodes.size).filter fun i => (m.net.node i).isDff) = [] :=
      List.eq_nil_of_length_eq_zero (by omega)
    have hb : ((List.range m.net.nodes.size).filter fun i => (m.net.node i).isLatch) = [] :=
      List.eq_nil_of_length_eq_zero (by omega)
    rw [ha, hb]; simp
  · intro j n hj
    rw [hs, hi]; exact slot_of_ports h5 j n hj
  · rw [hs, List.idxOf?_eq_none_iff]
    intro hmem
    obtain ⟨nk, _, he⟩ := List.mem_map.mp hmem
    simp only [Net.idx] at he
    omega
  · have : cr.inNames.length = cr.inSlots.length := by simp [Cell.inNames, Cell.inSlots]
    rw [this, hs, hi]; simp

end KV.Transform
