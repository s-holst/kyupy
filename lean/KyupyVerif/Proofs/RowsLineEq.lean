import KyupyVerif.Proofs.AllCirc
import KyupyVerif.Proofs.SelectSpec
import KyupyVerif.Proofs.StripLinkOps
import KyupyVerif.Proofs.LineEqN
/-! The equations of the rows `SimOps` generates ARE the gate equations of the netlist as the specification evaluator states
them (`lineEq`, Model/Net.lean — written independently of `SimOps`: interface nodes, flip-flop `QN`, forks, prefix families
with the longest match, unconnected pins read constant 0): any labelling that solves the row equations (`SolvesJ`) satisfies
`val l = lineEq … val l` on every line a row writes. Every well-formed netlist, every topological order, any value domain,
any op semantics that agrees with the primitive meanings `prim` (`SemSpec`). Ingredients: the shape of the rows of a node
(`mem_nodeOpsS`) against `lineEq` by the class of the driver (`lineEq_of_src/_fork/_cell`, Proofs/LineEqN.lean), `select_is_spec` (first match in the generated table = longest specified family, every kind string) and
the domain hypothesis `forksOKB` (a node scheduled as a fork — lower-cased kind — is a fork for the specification — exact
kind).  The three documented algebras satisfy `SemSpec` (the specified row semantics `specL2/4/8` is the specification
evaluator's meaning `prim2/4/8` of the primitive names, `INV1` its inversion, `BUF1` the identity). -/
namespace KV
open KV.Sig

structure SemSpec {α} (sem : Nat → List α → α) (neg : α → α) (prim : String → α → α → α → α → α) : Prop where
  prim_eq : ∀ name code, (name, code) ∈ Gen.prims → ∀ a b c d, sem code [a, b, c, d] = prim name a b c d
  buf : ∀ a b c d, sem BUF1 [a, b, c, d] = a
  inv : ∀ a b c d, sem INV1 [a, b, c, d] = neg a

theorem getD_ne_zero {net : Net} (hwf : net.wfB = true) (n i : Nat) :
    (((net.node n).inPin i).getD net.idx.zero != net.idx.zero) = ((net.node n).inPin i).isSome := by
  cases h : (net.node n).inPin i with
  | none => simp
  | some l =>
    have := (inPin_lt hwf h).2
    simp only [Option.getD_some, Option.isSome_some, bne_iff_ne, ne_eq, (idx_vals net).1]
    omega

/-- **the right-hand side of a row IS the right-hand side of the netlist's gate equation** for the line the row writes: for
    ANY labelling `val`, the row's primitive applied to the labels of its operands equals what the specification evaluator's
    `lineEq` computes for that line from the same labelling (stimulus `a p` = label of the `p`-th input slot, unconnected pins
    read the label of the constant-0 slot) -/
theorem row_rhs_lineEq {α} (net : Net) (order : List Nat) (hwf : net.wfB = true) (ho : orderOKB net order = true)
    (hfk : forksOKB net order = true) (sem : Nat → List α → α) (neg : α → α) (prim : String → α → α → α → α → α)
    (hs : SemSpec sem neg prim) (val : Nat → α)
    (r : OpRow) (hr : r ∈ genOps Gen.kindPrefixes net order false) (hl : r.out ≠ net.idx.tmp) :
    sem r.lut [val r.i0, val r.i1, val r.i2, val r.i3] =
      lineEq net net.sPos (val net.idx.zero) neg prim (fun p => val (net.idx.ppi + p)) val r.out := by
  obtain ⟨n, hn, hnlt, hmem, pin, hpin, _, hdrv, hdpin⟩ := genOps_line_row hwf (orderOK_lt ho) hr hl
  have hopv : ∀ i, val (((net.node n).inPin i).getD net.idx.zero) = (((net.node n).inPin i).map val).getD (val net.idx.zero) :=
    fun i => by cases (net.node n).inPin i <;> rfl
  rcases mem_nodeOpsS hmem with ⟨hsrc, p, k, hsp, hk, _, hrow⟩ | ⟨hnsrc, hrow, ⟨hfork, _, elut, _⟩ | ⟨hnf, _, hsel⟩⟩
  · -- interface row
    simp only [isSrcNode, Bool.and_eq_true, Bool.not_eq_true'] at hsrc
    rw [lineEq_of_src _ _ _ _ _ _ _ _ (hdrv ▸ hsp) (hdrv ▸ hsrc.1), hdrv, (wf_out hwf hnlt hk).2.2,
      congrArg OpRow.lut hrow, congrArg OpRow.i0 hrow]
    split
    · rw [hs.inv]
    · rw [hs.buf]
  · -- fork row
    have hisf := (forksOK_spec hfk hn (beq_iff_eq.mpr hfork)).1
    simp only [isSrcNode, hisf, Bool.true_and, Bool.and_eq_false_iff, Bool.not_eq_false', Option.isSome_eq_false_iff,
      Option.isNone_iff_eq_none] at hnsrc
    rw [lineEq_of_fork _ _ _ _ _ _ _ _ (hdrv ▸ hisf) (hdrv ▸ hnsrc.symm), hdrv, elut, hs.buf, congrArg OpRow.i0 hrow, hopv]
  · -- cell row
    have hnotf : (net.node n).isFork = false := by
      cases h : (net.node n).isFork with
      | false => rfl
      | true => exact absurd (fork_not_seq h).2 hnf
    have hsp : net.sPos n = none := by show sPosIn net.sNodes n = none; simpa [isSrcNode, hnotf] using hnsrc
    rw [getD_ne_zero hwf n 2, getD_ne_zero hwf n 3, select_is_spec] at hsel
    rw [lineEq_of_cell _ _ _ _ _ _ _ _ (hdrv ▸ hsp) (hdrv ▸ hnotf), hdrv, primVal]
    simp only [Option.isSome_map]
    cases hname : specPrimName (net.node n).lkind ((net.node n).inPin 2).isSome ((net.node n).inPin 3).isSome with
    | none => rw [hname] at hsel; cases hsel
    | some name =>
      rw [hname] at hsel
      rw [hs.prim_eq name r.lut (primCode_mem hsel), congrArg OpRow.i0 hrow, congrArg OpRow.i1 hrow, congrArg OpRow.i2 hrow,
        congrArg OpRow.i3 hrow, hopv, hopv, hopv, hopv]

def NetConsistent {α} (net : Net) (order : List Nat) (neg : α → α) (prim : String → α → α → α → α → α)
    (env val : Nat → α) : Prop :=
  (∀ x, x ≠ net.idx.tmp → (∀ r ∈ genOps Gen.kindPrefixes net order false, r.out ≠ x) → val x = env x) ∧
  (∀ r ∈ genOps Gen.kindPrefixes net order false, r.out ≠ net.idx.tmp →
    val r.out = lineEq net net.sPos (env net.idx.zero) neg prim (fun p => env (net.idx.ppi + p)) val r.out)

theorem solves_iff_consistent {α} (net : Net) (order : List Nat) (hwf : net.wfB = true) (ho : orderOKB net order = true)
    (hfk : forksOKB net order = true) (sem : Nat → List α → α) (neg : α → α) (prim : String → α → α → α → α → α)
    (hs : SemSpec sem neg prim) (env val : Nat → α) :
    SolvesJ (Jt net) (fun op => sem op.code) ((genOps Gen.kindPrefixes net order false).map OpRow.toOp) env val ↔
      NetConsistent net order neg prim env val := by
  obtain ⟨hz, ht, hpp⟩ := idx_vals net
  have hops := genOps_out_line Gen.kindPrefixes net order false hwf ho
  have hJ : ∀ x, Jt net x = false ↔ x ≠ net.idx.tmp := by intro x; simp [Jt]
  have hframe : ∀ (v : Nat → α), (∀ x, x ≠ net.idx.tmp →
      (∀ r ∈ genOps Gen.kindPrefixes net order false, r.out ≠ x) → v x = env x) →
      v net.idx.zero = env net.idx.zero ∧ ∀ p, v (net.idx.ppi + p) = env (net.idx.ppi + p) := by
    intro v hv
    have key : ∀ x, net.lines.size ≤ x → x ≠ net.idx.tmp → v x = env x := by
      intro x hx hxt
      apply hv x hxt
      intro r hr he
      rcases hops r.toOp (List.mem_map_of_mem hr) with h | h
      · exact hxt (he ▸ h)
      · have : r.toOp.out = x := he
        omega
    exact ⟨key _ (by omega) (by omega), fun p => key _ (by omega) (by omega)⟩
  constructor
  · intro hv
    have h1 : ∀ x, x ≠ net.idx.tmp → (∀ r ∈ genOps Gen.kindPrefixes net order false, r.out ≠ x) → val x = env x := by
      intro x hx hw
      apply hv.1 x ((hJ x).mpr hx)
      intro p hp
      obtain ⟨r, hr, rfl⟩ := List.mem_map.mp hp
      exact hw r hr
    obtain ⟨hzero, hppi⟩ := hframe val h1
    refine ⟨h1, fun r hr hl => ?_⟩
    have heq : val r.out = sem r.lut [val r.i0, val r.i1, val r.i2, val r.i3] :=
      hv.2 r.toOp (List.mem_map_of_mem hr) ((hJ _).mpr hl)
    rw [heq, row_rhs_lineEq net order hwf ho hfk sem neg prim hs val r hr hl, hzero]
    simp only [hppi]
  · intro hc
    obtain ⟨hzero, hppi⟩ := hframe val hc.1
    refine ⟨fun x hx hw => hc.1 x ((hJ x).mp hx) (fun r hr => hw r.toOp (List.mem_map_of_mem hr)), ?_⟩
    intro o ho' hj
    obtain ⟨r, hr, rfl⟩ := List.mem_map.mp ho'
    have hl : r.out ≠ net.idx.tmp := (hJ _).mp hj
    show val r.out = sem r.lut [val r.i0, val r.i1, val r.i2, val r.i3]
    rw [row_rhs_lineEq net order hwf ho hfk sem neg prim hs val r hr hl, hzero]
    simp only [hppi]
    exact hc.2 r hr hl

/-- **the simulation result is THE labelling consistent with the netlist**, any value domain: a dispatch `sem` that agrees on the
    known codes with a semantics `spec` meaning `prim` / `neg` computes a labelling consistent with the netlist in the sense of
    the specification evaluator, and every consistent labelling equals it on every signal except the scratch slot -/
theorem logic_netlist_all_circuits {α} (sem spec : Nat → List α → α)
    (heq : ∀ code, KnownCode code → ∀ xs, sem code xs = spec code xs) (neg : α → α) (prim : String → α → α → α → α → α)
    (hs : SemSpec spec neg prim) (net : Net) (order : List Nat) (hwf : net.wfB = true) (ho : orderOKB net order = true)
    (hfk : forksOKB net order = true) (env : Nat → α) :
    NetConsistent net order neg prim env (exec sem ((genOps Gen.kindPrefixes net order false).map OpRow.toOp) env) ∧
    ∀ val, NetConsistent net order neg prim env val → ∀ x, x ≠ net.idx.tmp →
      val x = exec sem ((genOps Gen.kindPrefixes net order false).map OpRow.toOp) env x := by
  obtain ⟨h1, h2⟩ := logic_all_circuits sem spec heq net order false hwf ho env
  have hiff := solves_iff_consistent net order hwf ho hfk spec neg prim hs env
  exact ⟨(hiff _).mp h1, fun val hc x hx => h2 val ((hiff val).mpr hc) x (by simp [Jt, hx])⟩


theorem semSpec8 : SemSpec specL8 specNot prim8 where
  prim_eq := by
    intro name code hm a b c d
    unfold specL8 prim8
    rw [nameOf_of_mem hm]
    simp only [Option.bind_some]
    cases comp8 name <;> rfl
  buf := by
    intro a b c d
    unfold specL8
    rw [nameOf_of_mem buf1_mem]
    rfl
  inv := by
    intro a b c d
    unfold specL8
    rw [nameOf_of_mem inv1_mem]
    rfl

theorem semSpec4 : SemSpec specL4 spec4Not prim4 where
  prim_eq := by
    intro name code hm a b c d
    unfold specL4 prim4
    rw [nameOf_of_mem hm]
    simp only [Option.bind_some]
    cases comp4 name <;> rfl
  buf := by
    intro a b c d
    unfold specL4
    rw [nameOf_of_mem buf1_mem]
    rfl
  inv := by
    intro a b c d
    unfold specL4
    rw [nameOf_of_mem inv1_mem]
    rfl

theorem semSpec2 : SemSpec specL2 (!·) prim2 where
  prim_eq := by
    intro name code hm a b c d
    unfold prim2
    rw [specL2_formula hm a b c d]
    rfl
  buf := by
    intro a b c d
    show lutBit4 BUF1 a b c d = a
    cases a <;> cases b <;> cases c <;> cases d <;> decide
  inv := by
    intro a b c d
    show lutBit4 INV1 a b c d = !a
    cases a <;> cases b <;> cases c <;> cases d <;> decide

end KV
