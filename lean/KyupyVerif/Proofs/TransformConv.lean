import KyupyVerif.Proofs.TransformSim
/-! C10 (`elim_sem_converse`): the CONVERSE of the semantic step of `eliminate_1to1_forks` — every consistent labelling of the result
is the renaming of a consistent labelling of the circuit before (`SemQ`: the removed line carries the value of the fork's in-line;
`Emb.extA` with `splice_det`), and that labelling is unique (`SemU`; `Emb.unique`) — composed over the visiting order and put in the
terms of Props/C10 (`sim_consistentB_conv`, `sim_consistentB_unique`).  For `elim_wf`: the result is well-formed (`elimForksInM_wf`:
the invariant `SI` of the loop, and every splice keeps the clause on trailing `None`s, `splice_NT`). -/
namespace KV.Transform
open KV
variable {skip : Bool}

/-- converse: every consistent labelling of `nn'` (under the renamed assignment) is the restriction of a consistent
    labelling of `nn` -/
def SemQ {α : Type _} (z : α) (neg : α → α) (prim : String → α → α → α → α → α) (nn nn' : NNet) (r : Ren) : Prop :=
  ∀ (an v' : Nat → α), ConsN nn' z neg prim (fun j => an (r.node j)) v' →
    ∃ v, ConsN nn z neg prim an v ∧ ∀ l', l' < nn'.net.lines.size → v (r.line l') = v' l'

/-- uniqueness: a consistent labelling of `nn` is determined by its restriction to the lines of `nn'` -/
def SemU {α : Type _} (z : α) (neg : α → α) (prim : String → α → α → α → α → α) (nn nn' : NNet) (r : Ren) : Prop :=
  ∀ (an v1 v2 : Nat → α), ConsN nn z neg prim an v1 → ConsN nn z neg prim an v2 →
    (∀ l', l' < nn'.net.lines.size → v1 (r.line l') = v2 (r.line l')) → ∀ l, l < nn.net.lines.size → v1 l = v2 l

theorem SemQ.refl {α : Type _} (z : α) (neg : α → α) (prim : String → α → α → α → α → α) (nn : NNet) :
    SemQ z neg prim nn nn Ren.id := fun _ v' h => ⟨v', h, fun _ _ => rfl⟩

theorem SemU.refl {α : Type _} (z : α) (neg : α → α) (prim : String → α → α → α → α → α) (nn : NNet) :
    SemU z neg prim nn nn Ren.id := fun _ _ _ _ _ h => h

theorem SemQ.trans {α : Type _} {z : α} {neg : α → α} {prim : String → α → α → α → α → α} {a b c : NNet} {r1 r2 : Ren}
    (s2 : Sim b c r2) (h1 : SemQ z neg prim a b r1) (h2 : SemQ z neg prim b c r2) : SemQ z neg prim a c (r1.comp r2) := by
  intro an v'' hc
  obtain ⟨vb, cb, eb⟩ := h2 (fun j => an (r1.node j)) v'' hc
  obtain ⟨v, ca, ea⟩ := h1 an vb cb
  exact ⟨v, ca, fun l' hl => (ea _ (s2.emb.lineLt l' hl)).trans (eb l' hl)⟩

theorem SemU.trans {α : Type _} {z : α} {neg : α → α} {prim : String → α → α → α → α → α} {a b c : NNet} {r1 r2 : Ren}
    (p1 : SemP z neg prim a b r1) (h1 : SemU z neg prim a b r1) (h2 : SemU z neg prim b c r2) :
    SemU z neg prim a c (r1.comp r2) := by
  intro an v1 v2 c1 c2 hag
  apply h1 an v1 v2 c1 c2
  intro l' hl'
  exact h2 (fun j => an (r1.node j)) (fun l => v1 (r1.line l)) (fun l => v2 (r1.line l)) (p1 an v1 c1).1 (p1 an v2 c2).1
    hag l' hl'

section step
variable {nn : NNet} {i a b : Nat} (c : SC nn i a b)
include c

theorem SemQ.splice {α : Type _} (z : α) (neg : α → α) (prim : String → α → α → α → α → α) :
    SemQ z neg prim nn (Transform.splice nn i a b) (stepRen nn i b) := by
  intro an v' hc
  -- no holes: the prescription (the first `v'`) is a dummy
  obtain ⟨v, cv, hv, _⟩ := Emb.extA z neg prim (splice_SI c).toWFm (splice_emb c) (splice_det c) (fun _ => False) v' an v'
    ((consOff_false _ z neg prim _ _).mpr hc)
  exact ⟨v, (consOff_false nn z neg prim an v).mp ((splice_rewire c z neg prim _ (fun x => x) an v).mp cv), hv⟩

theorem SemU.splice {α : Type _} (z : α) (neg : α → α) (prim : String → α → α → α → α → α) :
    SemU z neg prim nn (Transform.splice nn i a b) (stepRen nn i b) := by
  intro an v1 v2 c1 c2 hag l hl
  have r := fun v => (splice_rewire c z neg prim (fun _ => False) (fun x => x) an v).trans (consOff_false nn z neg prim an v)
  exact Emb.unique z neg prim (splice_det c) (fun _ => False) an v1 v2 ((r v1).mpr c1) ((r v2).mpr c2) hag l hl (fun x => x)
end step

theorem elimForksInM_simQ {α : Type _} (z : α) (neg : α → α) (prim : String → α → α → α → α → α)
    (order : List String) (nn nn' : NNet) (r : Ren) (h : SI nn) (he : elimForksInM skip order nn = some (nn', r)) :
    Sim nn nn' r ∧ SemP z neg prim nn nn' r ∧ SemQ z neg prim nn nn' r ∧ SemU z neg prim nn nn' r := by
  obtain ⟨r2, e, p⟩ := elimForksInM_induct
    (P := fun a b r => Sim a b r ∧ SemP z neg prim a b r ∧ SemQ z neg prim a b r ∧ SemU z neg prim a b r)
    (fun h => ⟨Sim.refl h, SemP.refl z neg prim _, SemQ.refl z neg prim _, SemU.refl z neg prim _⟩)
    (fun c => ⟨Sim.splice c, SemP.splice z neg prim c, SemQ.splice c z neg prim, SemU.splice c z neg prim⟩)
    (fun p1 p2 => ⟨p1.1.trans p2.1, SemP.trans p2.1 p1.2.1 p2.2.1, SemQ.trans p2.1 p1.2.2.1 p2.2.2.1,
      SemU.trans p1.2.1 p1.2.2.2 p2.2.2.2⟩) order (nn, Ren.id) nn' r h he
  have : r = r2 := e
  subst this; exact p


def tabulate {α : Type _} (n : Nat) (f : Nat → α) : Array α := (Array.range n).map f

theorem tabulate_getD {α : Type _} (n : Nat) (f : Nat → α) (z : α) (l : Nat) (hl : l < n) : (tabulate n f).getD l z = f l := by
  simp [tabulate, Array.getD_eq_getD_getElem?, hl]

theorem sim_consistentB_conv {α : Type _} [BEq α] [LawfulBEq α] {nn nn' : NNet} {r : Ren} (h : SI nn) (s : Sim nn nn' r)
    (z : α) (neg : α → α) (prim : String → α → α → α → α → α) (semq : SemQ z neg prim nn nn' r)
    (asg : Nat → α) (v' : Array α) (hc : consistentB nn'.net z neg prim (reassign r nn nn' asg) v' = true) :
    ∃ v : Array α, v.size = nn.net.lines.size ∧ consistentB nn.net z neg prim asg v = true ∧
      (∀ l', l' < nn'.net.lines.size → v.getD (r.line l') z = v'.getD l' z) ∧
      (v'.size = nn'.net.lines.size → relabel r nn' v z = v') := by
  have hN := (consistentB_iff s.si.drvLt z neg prim _ v').mp hc
  have hN' : ConsN nn' z neg prim (fun j => (fun n => asg (nn.net.sNodes.idxOf n)) (r.node j)) (fun l => v'.getD l z) := by
    apply consN_congr s.si.toWFm z neg prim _ _ _ _ _ (fun _ _ => rfl) hN
    intro n hn
    simp only [reassign, sigma]
    rw [getD_idxOf hn]
  obtain ⟨vf, cv, ev⟩ := semq (fun n => asg (nn.net.sNodes.idxOf n)) (fun l => v'.getD l z) hN'
  have hag : ∀ l', l' < nn'.net.lines.size → (tabulate nn.net.lines.size vf).getD (r.line l') z = v'.getD l' z := by
    intro l' hl'
    rw [tabulate_getD _ vf z _ (s.emb.lineLt l' hl'), ev l' hl']
  refine ⟨tabulate nn.net.lines.size vf, by simp [tabulate], ?_, hag, ?_⟩
  · rw [consistentB_iff h.drvLt]
    exact consN_congr h.toWFm z neg prim _ _ _ _ (fun _ _ => rfl) (fun l hl => (tabulate_getD _ vf z l hl).symm) cv
  · intro hsz
    apply Array.ext
    · simp [relabel, hsz]
    · intro l h1 h2
      have hl : l < nn'.net.lines.size := by simpa [relabel] using h1
      have e1 := relabel_getD r nn' (tabulate nn.net.lines.size vf) z l hl
      rw [hag l hl] at e1
      simpa [Array.getD_eq_getD_getElem?, h1, h2, Array.getElem?_eq_getElem] using e1

theorem sim_consistentB_unique {α : Type _} [BEq α] [LawfulBEq α] {nn nn' : NNet} {r : Ren} (h : SI nn)
    (z : α) (neg : α → α) (prim : String → α → α → α → α → α) (semu : SemU z neg prim nn nn' r)
    (asg : Nat → α) (v1 v2 : Array α) (c1 : consistentB nn.net z neg prim asg v1 = true)
    (c2 : consistentB nn.net z neg prim asg v2 = true) (he : relabel r nn' v1 z = relabel r nn' v2 z) :
    ∀ l, l < nn.net.lines.size → v1.getD l z = v2.getD l z := by
  have n1 := (consistentB_iff h.drvLt z neg prim asg v1).mp c1
  have n2 := (consistentB_iff h.drvLt z neg prim asg v2).mp c2
  apply semu _ _ _ n1 n2
  intro l' hl'
  rw [← relabel_getD r nn' v1 z l' hl', ← relabel_getD r nn' v2 z l' hl', he]


/-- the clause `trail` of `WF`: no pin list ends in `None` -/
def NT (nn : NNet) : Prop :=
  ∀ j, j < nn.net.nodes.size → noTrail (nn.net.node j).ins = true ∧ noTrail (nn.net.node j).outs = true

theorem splice_NT {nn : NNet} {i a b : Nat} (c : SC nn i a b) (t : NT nn) : NT (splice nn i a b) := by
  intro j' hj
  have hj' : j' < nn.net.nodes.size - 1 := by rw [← (splice_sizes (nn := nn) (i := i) (a := a) (b := b)).1]; exact hj
  obtain ⟨hil, hol, hout⟩ := splice_node_prims c j' hj'
  have told := t _ (nm_facts c.hi hj').1
  constructor
  · rw [noTrail_iff_getD, hil]
    intro hpos he
    -- the last input entry is, renamed, the one of the re-pointed circuit: the old entry, or the in-line
    have hp := (splice_emb c).pins j' hj (fun x => x) ((nn.net.node (nmN nn.net.nodes.size i j')).ins.length - 1)
    rw [rewire_inPin nn _ _ a c.R_facts.1] at hp
    simp only [NodeD.inPin] at hp
    rw [he] at hp
    split at hp
    · exact absurd hp (by simp)
    · exact (noTrail_iff_getD _).mp told.1 hpos hp.symm
  · rw [noTrail_iff_getD, hol]
    intro hpos
    rw [hout]
    exact fun e => (noTrail_iff_getD _).mp told.2 hpos (mvL_eq_none.mp e)

theorem forkIns1_of_SI {nn : NNet} (s : SI nn) : nn.forkIns1 = true := by
  simp only [NNet.forkIns1, List.all_eq_true, List.mem_range]
  intro j hj
  by_cases hf : (nn.net.node j).isFork = true
  · simp [hf, s.fork1 j hj hf]
  · simp [hf]

theorem elimForksInM_wf (order : List String) (nn nn' : NNet) (r : Ren) (w : WF nn) (hf : nn.forkIns1 = true)
    (he : elimForksInM skip order nn = some (nn', r)) : nn'.wf = true ∧ nn'.forkIns1 = true := by
  obtain ⟨r2, e, s, t⟩ := elimForksInM_induct (P := fun a b r => Sim a b r ∧ (NT a → NT b))
    (fun h => ⟨Sim.refl h, id⟩) (fun c => ⟨Sim.splice c, splice_NT c⟩) (fun p1 p2 => ⟨p1.1.trans p2.1, p2.2 ∘ p1.2⟩)
    order (nn, Ren.id) nn' r (SI.of_wf w hf) he
  exact ⟨wf_of_WF ({ s.si.toWFm with trail := t w.trail }), forkIns1_of_SI s.si⟩

end KV.Transform
