import KyupyVerif.Proofs.CircNet
import KyupyVerif.Proofs.LineEqN
/-! Name-level reading of the gate equations of `Circ.toNet`.

A labelling of the lines is re-indexed by READER END POINTS (`w : Ep → α`: the value arriving at a fork / at a cell pin); the
specification evaluator's equation `lineEq` of line `i` of the dump becomes `driveVal` of the line's driver end point: a function
of the kind of the driver's node, its position in `s_nodes`, and the values arriving at the driver node's own input pins — no
line indices, no node indices (`toNet_lineEq`).  What a format-specific proof still has to supply is membership knowledge
about `flatLines` (which lines exist) and the `s_nodes` positions. -/
namespace KV.Netlist
open KV

theorem nodup_filter_map_index {β γ} (q : β → Bool) (f : β → γ) (l : List β) (hnd : ((l.filter q).map f).Nodup)
    (i j : Nat) (x y : β) (hi : l[i]? = some x) (hj : l[j]? = some y) (qx : q x = true) (qy : q y = true) (hf : f x = f y) :
    i = j := by
  rw [List.Nodup, List.pairwise_map, List.pairwise_filter, List.pairwise_iff_getElem] at hnd
  obtain ⟨hil, rfl⟩ := List.getElem?_eq_some_iff.mp hi
  obtain ⟨hjl, rfl⟩ := List.getElem?_eq_some_iff.mp hj
  rcases Nat.lt_trichotomy i j with h | h | h
  · exact absurd hf (hnd i j hil hjl h qx qy)
  · exact h
  · exact absurd hf.symm (hnd j i hjl hil h qy qx)

/-- index (counted from `k`) of the last element with `P`: the dump keeps the last line written to a pin -/
def lastWith {β} (P : β → Bool) (xs : List β) (k : Nat := 0) : Option Nat :=
  (((xs.zipIdx k).filter fun p => P p.1).getLast?).map (·.2)

theorem lastWith_nil {β} (P : β → Bool) (k : Nat) : lastWith P [] k = none := rfl

theorem lastWith_cons {β} (P : β → Bool) (x : β) (xs : List β) (k : Nat) :
    lastWith P (x :: xs) k = if P x then some ((lastWith P xs (k + 1)).getD k) else lastWith P xs (k + 1) := by
  unfold lastWith
  simp only [List.zipIdx_cons, List.filter_cons]
  by_cases h : P x
  · simp only [h, if_true, List.getLast?_cons, Option.map_some]
    cases ((xs.zipIdx (k + 1)).filter fun p => P p.1).getLast? <;> rfl
  · simp only [h, Bool.false_eq_true, if_false]

theorem lastWith_congr {β γ} (P : β → Bool) (Q : γ → Bool) (xs : List β) (ys : List γ) (k : Nat)
    (hlen : xs.length = ys.length) (h : ∀ (j : Nat) x y, xs[j]? = some x → ys[j]? = some y → P x = Q y) :
    lastWith P xs k = lastWith Q ys k := by
  induction xs generalizing ys k with
  | nil =>
    cases ys with
    | nil => rfl
    | cons _ _ => cases hlen
  | cons x xs ih =>
    cases ys with
    | nil => cases hlen
    | cons y ys =>
      rw [lastWith_cons, lastWith_cons, h 0 x y rfl rfl,
        ih ys (k + 1) (by simpa using hlen) (fun j a b ha hb => h (j + 1) a b (by simpa using ha) (by simpa using hb))]

theorem lastWith_some {β} (P : β → Bool) (xs : List β) (k j : Nat) (h : lastWith P xs k = some j) :
    k ≤ j ∧ ∃ x, xs[j - k]? = some x ∧ P x = true := by
  simp only [lastWith, Option.map_eq_some_iff] at h
  obtain ⟨⟨x, j'⟩, hl, rfl⟩ := h
  obtain ⟨hm, hp⟩ := List.mem_filter.mp (List.mem_of_getLast? hl)
  obtain ⟨hk, hx⟩ := List.mk_mem_zipIdx_iff_le_and_getElem?_sub.mp hm
  exact ⟨hk, x, hx, hp⟩

theorem lastWith_isSome {β} (P : β → Bool) (xs : List β) (k : Nat) : (lastWith P xs k).isSome = xs.any P := by
  induction xs generalizing k with
  | nil => rfl
  | cons x xs ih =>
    rw [lastWith_cons, List.any_cons]
    by_cases hp : P x
    · simp [hp]
    · simp [hp, ih]

theorem lastWith_unique {β} (P : β → Bool) (xs : List β) (i : Nat) (x : β) (hx : xs[i]? = some x) (hp : P x = true)
    (hu : ∀ i' x', xs[i']? = some x' → P x' = true → i' = i) : lastWith P xs 0 = some i := by
  have hs : (lastWith P xs 0).isSome = true := by
    rw [lastWith_isSome]
    exact List.any_eq_true.mpr ⟨x, List.mem_of_getElem? hx, hp⟩
  cases hl : lastWith P xs 0 with
  | none => rw [hl] at hs; cases hs
  | some j =>
    obtain ⟨_, y, h2, h3⟩ := lastWith_some P xs 0 j hl
    rw [hu j y (by simpa using h2) h3]

/-- the look-up `forks[name]` / `cells[name]` of the end point finds a node -/
def Circ.resolved (C : Circ) (e : Ep) : Prop := C.nodeIdx e < C.nodes.length

instance (C : Circ) (e : Ep) : Decidable (C.resolved e) := by unfold Circ.resolved; infer_instance

/-- kind of the node an end point belongs to -/
def Circ.kindOf (C : Circ) (e : Ep) : String := (C.nodes.getD (C.nodeIdx e) default).kind

theorem resolved_fork_spec (C : Circ) (n : String) (h : C.resolved (.fork n)) :
    (C.nodes[C.nodeIdx (.fork n)]'h).kind = forkKind ∧ (C.nodes[C.nodeIdx (.fork n)]'h).name = n := by
  have := @List.findIdx_getElem _ (fun x : NodeM => x.kind == forkKind && x.name == n) C.nodes h
  simp only [Bool.and_eq_true, beq_iff_eq] at this
  exact this

theorem resolved_cell_spec (C : Circ) (n : String) (p : Nat) (h : C.resolved (.cell n p)) :
    (C.nodes[C.nodeIdx (.cell n p)]'h).kind ≠ forkKind ∧ (C.nodes[C.nodeIdx (.cell n p)]'h).name = n := by
  have := @List.findIdx_getElem _ (fun x : NodeM => x.kind != forkKind && x.name == n) C.nodes h
  simp only [Bool.and_eq_true, beq_iff_eq, bne_iff_ne] at this
  exact this

theorem forkKind_not_seq : hasSub "dff" forkKind.toLower = false ∧ hasSub "latch" forkKind.toLower = false := by
  decide +kernel

theorem kindOf_fork (C : Circ) (n : String) (h : C.resolved (.fork n)) : C.kindOf (.fork n) = forkKind := by
  unfold Circ.kindOf
  rw [List.getD_eq_getElem?_getD, List.getElem?_eq_getElem h]
  exact (resolved_fork_spec C n h).1

theorem kindOf_cell_ne (C : Circ) (n : String) (p : Nat) (h : C.resolved (.cell n p)) : C.kindOf (.cell n p) ≠ forkKind := by
  unfold Circ.kindOf
  rw [List.getD_eq_getElem?_getD, List.getElem?_eq_getElem h]
  exact (resolved_cell_spec C n p h).1

theorem nodeIdx_cell_pin (C : Circ) (n : String) (p q : Nat) : C.nodeIdx (.cell n p) = C.nodeIdx (.cell n q) := rfl

theorem ep_driver_inj (C : Circ) (d d' : Ep) (hd : C.resolved d) (hi : C.nodeIdx d' = C.nodeIdx d) :
    (∃ f, d = .fork f ∧ d' = .fork f) ∨ (∃ n p p', d = .cell n p ∧ d' = .cell n p') := by
  have hd' : C.resolved d' := by unfold Circ.resolved; rw [hi]; exact hd
  cases d with
  | fork n =>
    cases d' with
    | fork n' =>
      have h1 := (resolved_fork_spec C n hd).2
      have h2 := (resolved_fork_spec C n' hd').2
      simp only [hi] at h2
      exact Or.inl ⟨n, rfl, by rw [h2.symm.trans h1]⟩
    | cell n' p' =>
      have h1 := (resolved_fork_spec C n hd).1
      have h2 := (resolved_cell_spec C n' p' hd').1
      simp only [hi] at h2
      exact absurd h1 h2
  | cell n p =>
    cases d' with
    | fork n' =>
      have h1 := (resolved_cell_spec C n p hd).1
      have h2 := (resolved_fork_spec C n' hd').1
      simp only [hi] at h2
      exact absurd h2 h1
    | cell n' p' =>
      have h1 := (resolved_cell_spec C n p hd).2
      have h2 := (resolved_cell_spec C n' p' hd').2
      simp only [hi] at h2
      exact Or.inr ⟨n, p, p', rfl, by rw [h2.symm.trans h1]⟩

theorem ep_key_inj (C : Circ) (r r' : Ep) (hr : C.resolved r) (hi : C.nodeIdx r' = C.nodeIdx r) (hp : r'.rpin = r.rpin) : r' = r := by
  rcases ep_driver_inj C r r' hr hi with ⟨f, rfl, rfl⟩ | ⟨n, p, p', rfl, rfl⟩
  · rfl
  · have : p' = p := hp
    rw [this]

/-- the line that arrives at reader end point `r`: the last one of the flat line list `L` (driver, reader) ending there -/
def inLineOf (L : List (Ep × Ep)) (r : Ep) : Option Nat := lastWith (fun p => p.2 == r) L 0

theorem inLineOf_some (L : List (Ep × Ep)) (r : Ep) (j : Nat) (h : inLineOf L r = some j) :
    ∃ p, L[j]? = some p ∧ p.2 = r := by
  obtain ⟨_, p, h1, h2⟩ := lastWith_some _ L 0 j h
  exact ⟨p, by simpa using h1, by simpa using h2⟩

theorem inLineOf_isSome (L : List (Ep × Ep)) (r : Ep) : (inLineOf L r).isSome = L.any fun p => p.2 == r :=
  lastWith_isSome _ L 0

theorem map_inLineOf {α} (L : List (Ep × Ep)) (v : Nat → α) (w : Ep → α) (hv : ∀ j (hj : j < L.length), v j = w L[j].2) (e : Ep) :
    (inLineOf L e).map v = if L.any (fun p => p.2 == e) then some (w e) else none := by
  rw [← inLineOf_isSome]
  cases hl : inLineOf L e with
  | none => rfl
  | some j =>
    obtain ⟨p, hp1, hp2⟩ := inLineOf_some _ _ _ hl
    obtain ⟨hj, hpj⟩ := List.getElem?_eq_some_iff.mp hp1
    simp only [Option.map_some, Option.isSome_some, if_true, hv j hj, hpj, hp2]

section
variable (C : Circ) (io : List Nat)

/-- among resolved end points (`nodeIdx`, `rpin`) identifies the end point (`ep_key_inj`), so the dump's "last line written to this
pin of this node" is the last line ending at this end point -/
theorem toNet_inPin_ep (r : Ep) (hr : C.resolved r) :
    ((C.toNet io).node (C.nodeIdx r)).inPin r.rpin = inLineOf (flatLines C) r := by
  rw [toNet_inPin C io _ _ hr]
  show lastWith (fun l : LineD => l.reader == C.nodeIdx r && l.rpin == r.rpin) C.lineDs 0 = _
  apply lastWith_congr
  · exact lineDs_length C
  · intro j x y hx hy
    have hj : j < (flatLines C).length := (List.getElem?_eq_some_iff.mp hy).1
    rw [lineDs_getElem? C j hj] at hx
    have hy' : (flatLines C)[j] = y := by
      have := List.getElem?_eq_getElem hj
      rw [hy] at this
      exact (Option.some.inj this).symm
    simp only [Option.some.injEq] at hx
    subst hx
    simp only [hy']
    by_cases he : y.2 = r
    · simp [he]
    · have : (y.2 == r) = false := by simp [he]
      rw [this]
      simp only [Bool.and_eq_false_iff, beq_eq_false_iff_ne, ne_eq]
      by_cases h1 : C.nodeIdx y.2 = C.nodeIdx r
      · right
        intro h2
        exact he (ep_key_inj C r y.2 hr h1 h2)
      · left; exact h1

theorem toNet_inPin_fork_succ (n : String) (k : Nat) (hr : C.resolved (.fork n)) :
    ((C.toNet io).node (C.nodeIdx (.fork n))).inPin (k + 1) = none := by
  rw [toNet_inPin C io _ _ hr]
  show lastWith (fun l : LineD => l.reader == C.nodeIdx (.fork n) && l.rpin == k + 1) C.lineDs 0 = _
  cases hl : lastWith (fun l : LineD => l.reader == C.nodeIdx (.fork n) && l.rpin == k + 1) C.lineDs 0 with
  | none => rfl
  | some j =>
    exfalso
    obtain ⟨_, ld, h1, h2⟩ := lastWith_some _ _ _ _ hl
    simp only [Nat.sub_zero, Bool.and_eq_true, beq_iff_eq] at h1 h2
    have hj : j < (flatLines C).length := by
      rw [← lineDs_length]; exact (List.getElem?_eq_some_iff.mp h1).1
    rw [lineDs_getElem? C j hj] at h1
    simp only [Option.some.injEq] at h1
    subst h1
    simp only at h2
    cases hq : ((flatLines C)[j]).2 with
    | fork n' => rw [hq] at h2; simp [Ep.rpin] at h2
    | cell n' p' =>
      rcases ep_driver_inj C (.fork n) (.cell n' p') hr (hq ▸ h2.1) with ⟨_, _, h⟩ | ⟨_, _, _, h, _⟩ <;> cases h

end

/-- the reader end point at input pin `k` of the node of this end point (a fork has pin 0 only) -/
def Ep.inEp : Ep → Nat → Option Ep
  | .fork n, 0 => some (.fork n)
  | .fork _, _ + 1 => none
  | .cell n _, k => some (.cell n k)

def Ep.cpin : Ep → Nat
  | .fork _ => 0
  | .cell _ p => p

/-- what arrives at input pin `k` of the node of `d`: the value at that reader end point when a line ends there -/
def inVal {α} (L : List (Ep × Ep)) (w : Ep → α) (d : Ep) (k : Nat) : Option α :=
  match d.inEp k with
  | some e => if L.any (fun p => p.2 == e) then some (w e) else none
  | none => none

/-- what the node of the driver end point `d` puts on a line it drives, by names: `K` the kind of the node, `sp` its position
in `s_nodes`, `w` the values arriving at reader end points -/
def driveVal {α} (L : List (Ep × Ep)) (K : String) (sp : Option Nat) (z : α) (neg : α → α)
    (prim : String → α → α → α → α → α) (a : Nat → α) (w : Ep → α) (d : Ep) : α :=
  match sp with
  | some p =>
    if hasSub "dff" K.toLower || hasSub "latch" K.toLower then
      (if hasSub "dff" K.toLower && d.cpin == 1 then neg (a p) else a p)
    else match inVal L w d 0 with
      | some x => if K == forkKind then x else a p
      | none => a p
  | none =>
    if K == forkKind then (inVal L w d 0).getD z
    else match specPrimName K.toLower (inVal L w d 2).isSome (inVal L w d 3).isSome with
      | some name => prim name ((inVal L w d 0).getD z) ((inVal L w d 1).getD z) ((inVal L w d 2).getD z) ((inVal L w d 3).getD z)
      | none => z

theorem driveVal_eq_N {α} (L : List (Ep × Ep)) (K : String) (sp : Option Nat) (z : α) (neg : α → α)
    (prim : String → α → α → α → α → α) (a : Nat → α) (w : Ep → α) (d : Ep) :
    driveVal L K sp z neg prim a w d = Transform.lineEqN z neg prim K d.cpin (sp.map a) (inVal L w d) := by
  cases sp <;> rfl

theorem driveVal_comb {α} (L : List (Ep × Ep)) (K : String) (z : α) (neg : α → α) (prim : String → α → α → α → α → α) (a : Nat → α)
    (w : Ep → α) (d : Ep) (hK : (K == "__fork__") = false) :
    driveVal L K none z neg prim a w d = primVal z prim K.toLower (inVal L w d) := by
  rw [driveVal_eq_N]
  exact Transform.lineEqN_comb _ _ _ _ _ _ hK

section
variable (C : Circ) (io : List Nat)

theorem resolved_inEp (d e : Ep) (k : Nat) (hd : C.resolved d) (he : d.inEp k = some e) :
    C.resolved e ∧ C.nodeIdx e = C.nodeIdx d ∧ e.rpin = k := by
  cases d with
  | fork n =>
    cases k with
    | zero => simp only [Ep.inEp, Option.some.injEq] at he; subst he; exact ⟨hd, rfl, rfl⟩
    | succ k => cases he
  | cell n p =>
    simp only [Ep.inEp, Option.some.injEq] at he; subst he; exact ⟨hd, rfl, rfl⟩

theorem toNet_pin_inVal {α} (w : Ep → α) (d : Ep) (k : Nat) (hd : C.resolved d) :
    (((C.toNet io).node (C.nodeIdx d)).inPin k).map (fun j => w ((flatLines C).getD j default).2) =
      inVal (flatLines C) w d k := by
  unfold inVal
  cases he : d.inEp k with
  | none =>
    cases d with
    | fork n =>
      cases k with
      | zero => cases he
      | succ k => rw [toNet_inPin_fork_succ C io n k hd]; rfl
    | cell n p => cases he
  | some e =>
    obtain ⟨h1, h2, h3⟩ := resolved_inEp C d e k hd he
    have := toNet_inPin_ep C io e h1
    rw [h2, h3] at this
    rw [this]
    exact map_inLineOf _ _ w (fun j hj => by rw [List.getD_eq_getElem?_getD, List.getElem?_eq_getElem hj]; rfl) e

theorem toNet_kind (e : Ep) (he : C.resolved e) : ((C.toNet io).node (C.nodeIdx e)).kind = C.kindOf e := by
  rw [toNet_node_kind C io _ he]
  unfold Circ.kindOf
  rw [List.getD_eq_getElem?_getD, List.getElem?_eq_getElem he]; rfl

theorem toNet_lineEq {α} (sp : Nat → Option Nat) (z : α) (neg : α → α) (prim : String → α → α → α → α → α) (a : Nat → α)
    (w : Ep → α) (i : Nat) (hi : i < (flatLines C).length) (hd : C.resolved (flatLines C)[i].1) :
    lineEq (C.toNet io) sp z neg prim a (fun j => w ((flatLines C).getD j default).2) i =
      driveVal (flatLines C) (C.kindOf (flatLines C)[i].1) (sp (C.nodeIdx (flatLines C)[i].1)) z neg prim a w (flatLines C)[i].1 := by
  rw [Transform.lineEq_eq_N, driveVal_eq_N, toNet_line C io i hi]
  simp only [toNet_kind C io _ hd, toNet_pin_inVal C io w _ _ hd]
  -- the driver pin matters for flip-flops only; a fork's pin is counted (`dpinOf`), not written, and a fork is no flip-flop
  cases hq : (flatLines C)[i].1 with
  | cell n p => rfl
  | fork n =>
    rw [hq] at hd
    simp only [kindOf_fork C n hd, Transform.lineEqN, NodeD.isDff, NodeD.lkind, forkKind_not_seq.1, Bool.false_and]

end
end KV.Netlist
