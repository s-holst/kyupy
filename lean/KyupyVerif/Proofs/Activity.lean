import KyupyVerif.Proofs.WaveIOOrder
import KyupyVerif.Proofs.Capture
/-! Switching-activity accumulation of a whole `c_prop` (C13 `activity_all_circuits`).

`WaveIO.cpuCProp` / `gpuCProp` (Model/WaveIO.lean) thread the pair (memory column, accumulator column) of every lane through the op
rows of all levels. Here: what that does to ONE lane is the run of the rows in schedule order (`cpuCProp_lane`, Proofs/WaveIOEval.lean); the memory column does
not depend on the accumulators (`laneRun_c`); the accumulator column is `Wave.accumulate` — the function the driver runs for the
correspondence `accum` — of the contributions `a_loc : nrise·a_wr + nfall·a_wf` of the rows in that order (`laneRun_ab`), hence start
value + weighted sum per accumulator (`accumulate_spec`); with the waveform evaluator `evWave` the counts of every row are the numbers
of rising / falling transitions of the waveform the row left in its output region (`C13.activity_counts_are_transitions`). -/
namespace KV.WaveIO
open KV KV.Sig KV.Wave

def laneMem (ev : Ev) (sim : Nat) : List AOp → Col → Col
  | [], c => c
  | o :: r, c => laneMem ev sim r (ev o.op sim c).1

def laneTrace (ev : Ev) (sim : Nat) : List AOp → Col → List (AOp × Nat × Nat)
  | [], _ => []
  | o :: r, c => (o, (ev o.op sim c).2.1, (ev o.op sim c).2.2) :: laneTrace ev sim r (ev o.op sim c).1

/-- the contribution of one evaluated row: `a_loc < 0` = none, amount `nrise·a_wr + nfall·a_wf` -/
def contribOf (e : AOp × Nat × Nat) : Contrib :=
  ⟨if e.1.aLoc < 0 then none else some e.1.aLoc.toNat, (e.2.1 : Int) * e.1.aWr + (e.2.2 : Int) * e.1.aWf⟩

theorem laneRun_cons (ev : Ev) (sim : Nat) (o : AOp) (r : List AOp) (st : LaneSt) :
    laneRun ev sim (o :: r) st = laneRun ev sim r (cpuBody ev o sim st) := rfl

theorem laneRun_c (ev : Ev) (sim : Nat) (rows : List AOp) (st : LaneSt) :
    (laneRun ev sim rows st).c = laneMem ev sim rows st.c := by
  induction rows generalizing st with
  | nil => rfl
  | cons o r ih => rw [laneRun_cons, ih]; rfl

theorem _root_.KV.Wave.accStep_apply (ab : Nat → Int) (c : Contrib) (j : Nat) :
    accStep ab c j = ab j + if c.acc = some j then c.amount else 0 := by
  unfold accStep
  cases hc : c.acc with
  | none => simp
  | some a => by_cases hj : j = a <;> simp [hj, eq_comm]

theorem accAdd_nat (o : AOp) (nr nf : Nat) (ab : Int → Int) (a : Nat) :
    accAdd o nr nf ab (a : Int) = accStep (fun j : Nat => ab (j : Int)) (contribOf (o, nr, nf)) a := by
  rw [accAdd_apply, accStep_apply]
  congr 1
  unfold contribOf
  by_cases h : o.aLoc < 0
  · simp [h]; omega
  · simp only [h, if_false, Option.some.injEq]
    by_cases ha : (a : Int) = o.aLoc
    · rw [if_pos ⟨by omega, ha⟩, if_pos (by omega)]
    · rw [if_neg (fun g => ha g.2), if_neg (by omega)]

theorem accAdd_neg (o : AOp) (nr nf : Nat) (ab : Int → Int) (a : Int) (ha : a < 0) : accAdd o nr nf ab a = ab a := by
  rw [accAdd_apply, if_neg (by omega), Int.add_zero]

/-- **the accumulator column of a lane after the rows** = `Wave.accumulate` of the contributions of the rows, in schedule order,
    on the lane's start values -/
theorem laneRun_ab (ev : Ev) (sim : Nat) (rows : List AOp) (st : LaneSt) (a : Nat) :
    (laneRun ev sim rows st).ab (a : Int) =
      accumulate (fun j : Nat => st.ab (j : Int)) ((laneTrace ev sim rows st.c).map contribOf) a := by
  induction rows generalizing st with
  | nil => rfl
  | cons o r ih =>
    rw [laneRun_cons, ih]
    simp only [laneTrace, List.map_cons, accumulate, List.foldl_cons]
    have hab : (fun j : Nat => (cpuBody ev o sim st).ab (j : Int)) =
        accStep (fun j : Nat => st.ab (j : Int)) (contribOf (o, (ev o.op sim st.c).2.1, (ev o.op sim st.c).2.2)) := by
      funext j
      exact accAdd_nat o _ _ st.ab j
    rw [hab]
    rfl

/-- negative accumulator indices are never written (`if a_loc >= 0`) -/
theorem laneRun_ab_neg (ev : Ev) (sim : Nat) (rows : List AOp) (st : LaneSt) (a : Int) (ha : a < 0) :
    (laneRun ev sim rows st).ab a = st.ab a := by
  induction rows generalizing st with
  | nil => rfl
  | cons o r ih => rw [laneRun_cons, ih]; exact accAdd_neg o _ _ st.ab a ha

theorem laneTrace_length (ev : Ev) (sim : Nat) (rows : List AOp) (c : Col) : (laneTrace ev sim rows c).length = rows.length := by
  induction rows generalizing c with
  | nil => rfl
  | cons o r ih => simp only [laneTrace, List.length_cons, ih]

theorem laneMem_append (ev : Ev) (sim : Nat) (a b : List AOp) (c : Col) :
    laneMem ev sim (a ++ b) c = laneMem ev sim b (laneMem ev sim a c) := by
  induction a generalizing c with
  | nil => rfl
  | cons o r ih => simp only [List.cons_append, laneMem, ih]

/-- level table from boundaries: `[(b₀, b₁), (b₁, b₂), …]` = `zip(level_starts, level_stops)` -/
def levelPairs (a : Nat) (bs : List Nat) : List (Nat × Nat) := List.zip (a :: bs) bs

theorem sched_levelPairs (ops : List AOp) (a : Nat) (bs : List Nat) (h : List.Pairwise (· ≤ ·) (a :: bs)) :
    sched ops (levelPairs a bs) = (List.range' a ((bs.getLast?).getD a - a)).map fun i => ops.getD i default := by
  induction bs generalizing a with
  | nil => simp [sched, levelPairs]
  | cons b r ih =>
    have hab : a ≤ b := (List.pairwise_cons.1 h).1 b List.mem_cons_self
    have hr : List.Pairwise (· ≤ ·) (b :: r) := (List.pairwise_cons.1 h).2
    have hlast : b ≤ (r.getLast?).getD b := by
      cases hl : r.getLast? with
      | none => simp
      | some x => simp only [Option.getD_some]; exact (List.pairwise_cons.1 hr).1 x (List.mem_of_getLast? hl)
    have ih' := ih b hr
    unfold sched levelPairs at ih' ⊢
    simp only [List.zip_cons_cons, List.flatMap_cons]
    rw [ih']
    rw [List.getLast?_cons, Option.getD_some]
    have hsplit : List.range' a ((r.getLast?).getD b - a) = List.range' a (b - a) ++ List.range' b ((r.getLast?).getD b - b) := by
      have : (r.getLast?).getD b - a = (b - a) + ((r.getLast?).getD b - b) := by omega
      rw [this, ← List.range'_append_1]
      congr 2
      omega
    rw [hsplit, List.map_append]
    congr 1
    rw [List.range'_eq_map_range, List.map_map]
    rfl

/-- **contiguous levels from 0 to the table's length** (what the levelisation produces, C07 `levels_contiguous`): the schedule of a
    lane is the op table in program order -/
theorem sched_contiguous (ops : List AOp) (bs : List Nat) (h : List.Pairwise (· ≤ ·) (0 :: bs))
    (hlast : (bs.getLast?).getD 0 = ops.length) : sched ops (levelPairs 0 bs) = ops := by
  rw [sched_levelPairs ops 0 bs h, hlast, Nat.sub_zero, ← List.range_eq_range']
  apply List.ext_getElem
  · simp
  · intro i h1 h2
    simp only [List.getElem_map, List.getElem_range]
    simp [List.getD, h2]

end KV.WaveIO
