import KyupyVerif.Proofs.StilTextLex
/-! Round trip of the STIL text model: the reader on printed token lists, one lemma per reader function, then
`parseStilL (printStilL f) = some f` for every valid tree `f`. -/
namespace KV.StilText
open KV.TextLex

theorem next_enc {s : List Tm} {t : Tm} {x : Txt} (h : Lx s t x) {ts : List Txt} {R : List Char} (hR : WsHead R) :
    next L s (enc (x :: ts) ++ R) = some (.tok t x, enc ts ++ R) := by
  rw [enc_cons]
  exact h _ (wsHead_enc ts R hR)

theorem expect_enc {s : List Tm} {t : Tm} {x : Txt} (h : Lx s t x) {ts : List Txt} {R : List Char} (hR : WsHead R) :
    expect s t (enc (x :: ts) ++ R) = some (x, enc ts ++ R) := by
  simp [expect, next_enc h hR]

theorem Lx_lbrace (s : List Tm) (hs : s = sLbrace ∨ s = sAfterQ ∨ s = sAfterSgQuote ∨ s = sAfterFloat) :
    Lx s (.lit .Lbrace) (K .Lbrace) := by
  rcases hs with rfl | rfl | rfl | rfl <;> exact Lx_lit _ _ (by decide)

theorem next_nob (t : Txt) (h : vNob t = true) (b : Char) (hb : b = '{' ∨ b = '}') (X : List Char) :
    next L sIgA (' ' :: (t ++ b :: X)) = some (.tok .nob t, b :: X) := by
  cases t with
  | nil => simp [vNob] at h
  | cons c0 t' =>
    simp only [vNob, Bool.and_eq_true, List.all_eq_true] at h
    refine Lx_of_check (fun Y => Y = b :: X) (failsHead c0) sIgA .nob c0 t'
      (by simp [check, sIgA, splitAtTm, failsHead, failsAt, h.1]) (fun u hu _ _ => failsHead_sound c0 _ u hu) ?_ rfl _ rfl
    rintro _ rfl
    exact plus_append isNob (c0 :: t') (b :: X) (by simp) h.2 (by intro c r e; cases e; rcases hb with rfl | rfl <;> decide)

theorem next_brace_direct (k : Kw) (hk : k = .Lbrace ∨ k = .Rbrace) (X : List Char) :
    next L sIgB (k.chars ++ X) = some (.tok (.lit k) k.chars, X) := by
  rcases hk with rfl | rfl
  · exact next_tok L _ _ (.lit .Lbrace) _ _
      (by simp [sIgB, first, L, Tm.run, ignM_solid '{' X (by decide), TextLex.lit, stripPrefix, Kw.chars]) rfl (by simp [Kw.chars])
  · exact next_tok L _ _ (.lit .Rbrace) _ _
      (by simp [sIgB, first, L, Tm.run, ignM_solid '}' X (by decide), TextLex.lit, stripPrefix, Kw.chars]) rfl (by simp [Kw.chars])

/-- A text run is glued to the brace behind it, so after a run the next pull starts directly at that brace, with no blank: the
`Bool` of `pIgn` (false = a run has just been read). Hence two statements: entered after a brace (blank in front), and entered
after a run (the first chunk is a brace and comes without blank). -/
theorem pIgn_chunks (ts : List Txt) (R : List Char) (hR : WsHead R) (ig : List IgnTok) :
    ∀ d n, ig.length < n →
      (ignOK d true ig = true → pIgn n d true (enc (ignChunks ig ++ ts) ++ R) = some (ig, enc ts ++ R)) ∧
      (ignOK d false ig = true → ∃ c cs, ignChunks ig = c :: cs ∧ (c = K .Lbrace ∨ c = K .Rbrace) ∧
        pIgn n d false (c ++ (enc (cs ++ ts) ++ R)) = some (ig, enc ts ++ R)) := by
  have hL := Lx_lit sIgA .Lbrace (by decide)
  have hRb := Lx_lit sIgA .Rbrace (by decide)
  induction ig with
  | nil =>
    intro d n hn
    cases n with
    | zero => cases hn
    | succ n =>
      refine ⟨fun h => ?_, fun h => ⟨K .Rbrace, [], rfl, Or.inr rfl, ?_⟩⟩
      · have hd : d = 0 := by simpa [ignOK] using h
        subst hd
        simp [ignChunks, pIgn, next_enc hRb hR]
      · have hd : d = 0 := by simpa [ignOK] using h
        subst hd
        simp [pIgn, next_brace_direct .Rbrace (Or.inr rfl)]
  | cons tk r ih =>
    intro d n hn
    cases n with
    | zero => cases hn
    | succ n =>
      have hn' : r.length < n := by simp only [List.length_cons] at hn; omega
      cases tk with
      | opn =>
        have ih1 := (ih (d + 1) n hn').1
        refine ⟨fun h => ?_, fun h => ⟨K .Lbrace, ignChunks r, rfl, Or.inl rfl, ?_⟩⟩
        · have h' : ignOK (d + 1) true r = true := by simpa [ignOK] using h
          simp only [ignChunks, List.cons_append, pIgn, ↓reduceIte, next_enc hL hR, ih1 h', Option.map_some]
        · have h' : ignOK (d + 1) true r = true := by simpa [ignOK] using h
          simp only [pIgn, Bool.false_eq_true, ↓reduceIte, next_brace_direct .Lbrace (Or.inl rfl), ih1 h', Option.map_some]
      | cls =>
        cases d with
        | zero => exact ⟨fun h => by simp [ignOK] at h, fun h => by simp [ignOK] at h⟩
        | succ d =>
          have ih1 := (ih d n hn').1
          refine ⟨fun h => ?_, fun h => ⟨K .Rbrace, ignChunks r, rfl, Or.inr rfl, ?_⟩⟩
          · have h' : ignOK d true r = true := by simpa [ignOK] using h
            simp only [ignChunks, List.cons_append, pIgn, ↓reduceIte, next_enc hRb hR, ih1 h', Option.map_some]
          · have h' : ignOK d true r = true := by simpa [ignOK] using h
            simp only [pIgn, Bool.false_eq_true, ↓reduceIte, next_brace_direct .Rbrace (Or.inr rfl), ih1 h', Option.map_some]
      | nob t =>
        refine ⟨fun h => ?_, fun h => by simp [ignOK] at h⟩
        simp only [ignOK, Bool.true_and, Bool.and_eq_true] at h
        obtain ⟨c, cs, hc, hb, hp⟩ := (ih d n hn').2 h.2
        have hb' : ∃ b, c = [b] ∧ (b = '{' ∨ b = '}') := by
          rcases hb with rfl | rfl
          · exact ⟨'{', rfl, Or.inl rfl⟩
          · exact ⟨'}', rfl, Or.inr rfl⟩
        obtain ⟨b, rfl, hbb⟩ := hb'
        have e : enc (ignChunks (.nob t :: r) ++ ts) ++ R = ' ' :: (t ++ b :: (enc (cs ++ ts) ++ R)) := by
          simp [ignChunks, hc, enc]
        rw [e]
        simp only [pIgn, ↓reduceIte, next_nob t h.1 b hbb]
        simp only [List.cons_append, List.nil_append] at hp
        simp only [hp, Option.map_some]

/-! ### the printed length of a token list: what the fuel of the readers is compared with
(characters, not tokens as in DEF: a skipped region glues text runs to braces, so it has more `IgnTok`s than printed chunks) -/
def encLen (T : List Txt) : Nat := (enc T).length

theorem encLen_cons (t : Txt) (T : List Txt) : encLen (t :: T) = t.length + 1 + encLen T := by
  simp [encLen, enc]; omega
theorem encLen_append (a b : List Txt) : encLen (a ++ b) = encLen a + encLen b := by simp [encLen, enc]
theorem encLen_pos (t : Txt) (T : List Txt) : 1 ≤ encLen (t :: T) := by rw [encLen_cons]; omega

theorem ignChunks_ne_nil (ig : List IgnTok) : ∃ c cs, ignChunks ig = c :: cs := by
  induction ig with
  | nil => exact ⟨_, _, rfl⟩
  | cons tk r ih =>
    cases tk with
    | opn => exact ⟨_, _, rfl⟩
    | cls => exact ⟨_, _, rfl⟩
    | nob t =>
      obtain ⟨c, cs, h⟩ := ih
      exact ⟨t ++ c, cs, by simp [ignChunks, h]⟩

/-- a skipped region has fewer tokens than its text has characters (text runs are glued to the brace behind them, so the
number of printed chunks is no bound) -/
theorem ign_len (ig : List IgnTok) : ∀ d ok, ignOK d ok ig = true → ig.length + 1 ≤ encLen (ignChunks ig) := by
  induction ig with
  | nil => intro d ok _; exact encLen_pos _ _
  | cons tk r ih =>
    intro d ok h
    cases tk with
    | opn =>
      have := ih (d + 1) true (by simpa [ignOK] using h)
      simp only [ignChunks, encLen_cons, List.length_cons] at this ⊢
      omega
    | cls =>
      cases d with
      | zero => simp [ignOK] at h
      | succ d =>
        have := ih d true (by simpa [ignOK] using h)
        simp only [ignChunks, encLen_cons, List.length_cons] at this ⊢
        omega
    | nob t =>
      simp only [ignOK, Bool.and_eq_true] at h
      have := ih d false h.2
      obtain ⟨c, cs, hc⟩ := ignChunks_ne_nil r
      have ht : 1 ≤ t.length := by
        cases t with
        | nil => simp [vNob] at h
        | cons a b => simp
      simp only [ignChunks, hc, encLen_cons, List.length_cons, List.length_append] at this ⊢
      omega

theorem ignToks_len (ig : List IgnTok) (h : vIgn ig = true) : ig.length < encLen (ignToks ig) := by
  have := ign_len ig 0 true h
  simp only [ignToks, encLen_cons]
  omega

theorem pBraceIgn_enc (N : Nat) (s : List Tm) (hs : s = sLbrace ∨ s = sAfterQ) (ig : List IgnTok) (h : vIgn ig = true)
    (hN : encLen (ignToks ig) < N) {ts : List Txt} {R : List Char} (hR : WsHead R) :
    pBraceIgn N s (enc (ignToks ig ++ ts) ++ R) = some (ig, enc ts ++ R) := by
  have hl := Lx_lbrace s (by rcases hs with h | h <;> simp [h])
  simp only [pBraceIgn, ignToks, List.cons_append, expect_enc hl hR]
  exact (pIgn_chunks ts R hR ig 0 N (by have := ignToks_len ig h; omega)).1 h

def memToks (more : List Txt) : List Txt := more.flatMap fun q => [K .Plus, q]

theorem pMembers_enc (N : Nat) {ts : List Txt} {R : List Char} (hR : WsHead R) (more : List Txt) (h : more.all vQ = true)
    (hN : encLen (memToks more) < N) :
    pMembers N (enc (memToks more ++ K .Quote :: ts) ++ R) = some (more, enc ts ++ R) := by
  refine loop_read pMembers _ (fun q => [K .Plus, q]) enc encLen _ R _ N encLen_append (fun _ _ => encLen_pos _ _)
    (fun n => ?_) (fun n q T v hq _ ih => ?_) more h hN
  · simp [pMembers, next_enc (Lx_lit sAfterQ .Quote (by decide)) hR]
  · simp only [List.cons_append, List.nil_append, pMembers, next_enc (Lx_lit sAfterQ .Plus (by decide)) hR,
      expect_enc (Lx_quoted sQuoted q hq (by decide)) hR, ih, Option.map_some]

/-- "pull in state `st`, then enter `pGroups` with that token": with the pull in front, `pGroups` is an ordinary star loop -/
def pGroupsN (N n : Nat) (st : List Tm) (cs : List Char) : Option (List Group × List Char) :=
  match next L st cs with
  | some (tok, r) => pGroups N n tok r
  | none => none

theorem pGroups_tok {N n : Nat} {tok : Tok Tm} {r : List Char} {v : List Group × List Char} (h : pGroups N n tok r = some v) :
    (∃ q, tok = .tok .quoted q) ∨ ∃ x, tok = .tok (.lit .Rbrace) x := by
  cases n with
  | zero => simp [pGroups] at h
  | succ n =>
    unfold pGroups at h
    split at h
    · exact Or.inr ⟨_, rfl⟩
    · exact Or.inl ⟨_, rfl⟩
    · cases h

/-- what the induction hypothesis of the loop says: the next pull succeeds with a token `pGroups` accepts -/
theorem pGroupsN_inv {N n : Nat} {st : List Tm} {cs : List Char} {v : List Group × List Char} (h : pGroupsN N n st cs = some v) :
    ∃ tok r, next L st cs = some (tok, r) ∧ pGroups N n tok r = some v ∧
      ((∃ q, tok = .tok .quoted q) ∨ ∃ x, tok = .tok (.lit .Rbrace) x) := by
  unfold pGroupsN at h
  split at h
  · next tok r hn => exact ⟨tok, r, hn, h, pGroups_tok h⟩
  · cases h

def GSt (st : List Tm) : Prop := st = sItem ∨ st = sAfterSgQuote ∨ st = sAfterIgn

theorem pGroups_enc (N : Nat) {ts : List Txt} {R : List Char} (hR : WsHead R) (gs : List Group)
    (h : gs.all Group.valid = true) (hN : encLen (gs.flatMap Group.toks) < N) (st : List Tm) (hst : GSt st) :
    pGroupsN N N st (enc (gs.flatMap Group.toks ++ K .Rbrace :: ts) ++ R) = some (gs, enc ts ++ R) := by
  refine loop_read_st (pGroupsN N) GSt _ _ enc encLen _ R _ N encLen_append (fun _ _ => encLen_pos _ _)
    (fun st hst n => ?_) (fun st hst n g T v hv hl ih => ?_) gs h hN st hst
  · have : Lx st (.lit .Rbrace) (K .Rbrace) := by rcases hst with rfl | rfl | rfl <;> exact Lx_lit _ _ (by decide)
    simp [pGroupsN, next_enc this hR, pGroups]
  · obtain ⟨name, first, more, ign, semi⟩ := g
    simp only [Group.valid, Bool.and_eq_true] at hv
    obtain ⟨⟨⟨hname, hfirst⟩, hmore⟩, hign⟩ := hv
    simp only [encLen_append, encLen_cons] at hl
    have hq : Lx st .quoted name := by rcases hst with rfl | rfl | rfl <;> exact Lx_quoted _ _ hname (by decide)
    have hsemi1 := Lx_lit sAfterSgQuote .Semi (by decide)
    have hsemi2 := Lx_lit sAfterIgn .Semi (by decide)
    have hlb := Lx_lbrace sAfterSgQuote (by simp)
    simp only [List.cons_append, List.append_assoc, pGroupsN, next_enc hq hR, pGroups, pSeq,
      expect_enc (Lx_lit sAfterQ .Equal (by decide)) hR, expect_enc (Lx_lit sQuoteCh .Quote (by decide)) hR,
      expect_enc (Lx_quoted sQuoted first hfirst (by decide)) hR]
    have hM := fun ts' => pMembers_enc N (ts := ts') hR more hmore (by simp only [memToks]; omega)
    simp only [memToks] at hM
    -- behind the optional `{..}` / `;` the next pull is the loop's own: take it from the induction hypothesis
    cases ign with
    | none =>
      cases semi with
      | true =>
        obtain ⟨tok, r, hn, hp, _⟩ := pGroupsN_inv (ih sItem (Or.inl rfl))
        simp only [ignOptToks, semiToks, List.nil_append, ↓reduceIte, List.cons_append, next_enc hsemi1 hR, hM, hn, hp,
          Option.map_some]
      | false =>
        obtain ⟨tok, r, hn, hp, ⟨q, rfl⟩ | ⟨x, rfl⟩⟩ := pGroupsN_inv (ih sAfterSgQuote (Or.inr (Or.inl rfl))) <;>
          simp only [ignOptToks, semiToks, List.nil_append, Bool.false_eq_true, ↓reduceIte, hM, hn, hp, Option.map_some]
    | some ig =>
      have hil := ignToks_len ig hign
      simp only [ignOptToks] at hl
      have hI := fun T => (pIgn_chunks T R hR ig 0 N (by omega)).1 hign
      cases semi with
      | true =>
        obtain ⟨tok, r, hn, hp, _⟩ := pGroupsN_inv (ih sItem (Or.inl rfl))
        simp only [ignOptToks, semiToks, ignToks, List.cons_append, List.nil_append, ↓reduceIte,
          next_enc hlb hR, hM, hI, next_enc hsemi2 hR, hn, hp, Option.map_some]
      | false =>
        obtain ⟨tok, r, hn, hp, ⟨q, rfl⟩ | ⟨x, rfl⟩⟩ := pGroupsN_inv (ih sAfterIgn (Or.inr (Or.inr rfl))) <;>
          simp only [ignOptToks, semiToks, ignToks, List.cons_append, List.nil_append, Bool.false_eq_true,
            ↓reduceIte, next_enc hlb hR, hM, hI, hn, hp, Option.map_some]

theorem pCells_enc (N : Nat) {ts : List Txt} {R : List Char} (hR : WsHead R) (cs : List Cell) (h : cs.all Cell.valid = true)
    (hN : encLen (cs.flatMap Cell.toks) < N) (aq : Bool) :
    pCells N aq (enc (cs.flatMap Cell.toks ++ K .Semi :: ts) ++ R) = some (cs, enc ts ++ R) := by
  have hsemi : ∀ aq : Bool, Lx (if aq then sAfterQ else sCells) (.lit .Semi) (K .Semi) := by
    intro aq; cases aq <;> exact Lx_lit _ _ (by decide)
  have hbang : ∀ aq : Bool, Lx (if aq then sAfterQ else sCells) (.lit .Bang) (K .Bang) := by
    intro aq; cases aq <;> exact Lx_lit _ _ (by decide)
  have hq : ∀ (aq : Bool) q, vQ q = true → Lx (if aq then sAfterQ else sCells) .quoted q := by
    intro aq q hv; cases aq <;> exact Lx_quoted _ _ hv (by decide)
  refine loop_read_st pCells (fun _ => True) _ _ enc encLen _ R _ N encLen_append
    (fun c _ => by cases c <;> exact encLen_pos _ _) (fun aq _ n => ?_) (fun aq _ n c T v hc _ ih => ?_) cs h hN aq trivial
  · simp [pCells, next_enc (hsemi aq) hR]
  · cases c with
    | cell q =>
      simp only [Cell.toks, List.cons_append, List.nil_append, pCells, next_enc (hq aq q hc) hR, ih true trivial,
        Option.map_some]
    | bang =>
      simp only [Cell.toks, List.cons_append, List.nil_append, pCells, next_enc (hbang aq) hR, ih false trivial,
        Option.map_some]

theorem Lx_chainitem (k : Kw)
    (hk : k ∈ [Kw.Scanmasterclock, .Scaninversion, .Scanlength, .Scancells, .Scanout, .Scanin, .Rbrace]) :
    Lx sChainItem (.lit k) k.chars := by
  simp only [List.mem_cons, List.not_mem_nil, or_false] at hk
  rcases hk with rfl | rfl | rfl | rfl | rfl | rfl | rfl <;> exact Lx_lit _ _ (by decide)

theorem num_enc (n : Txt) (h : vDigits n = true) {ts : List Txt} {R : List Char} (hR : WsHead R) :
    pSeq [(sDigits, .digits), (sSemi, .lit .Semi)] (enc (n :: K .Semi :: ts) ++ R) = some ([n, K .Semi], enc ts ++ R) := by
  simp only [pSeq, expect_enc (Lx_digits n h) hR, expect_enc (Lx_lit sSemi .Semi (by decide)) hR]

theorem name_enc (q : Txt) (h : vQ q = true) {ts : List Txt} {R : List Char} (hR : WsHead R) :
    pSeq [(sQuoted, .quoted), (sAfterQ, .lit .Semi)] (enc (q :: K .Semi :: ts) ++ R) = some ([q, K .Semi], enc ts ++ R) := by
  simp only [pSeq, expect_enc (Lx_quoted sQuoted q h (by decide)) hR, expect_enc (Lx_lit sAfterQ .Semi (by decide)) hR]

theorem pChainItems_enc (N : Nat) {ts : List Txt} {R : List Char} (hR : WsHead R) (its : List ChainItem)
    (h : its.all ChainItem.valid = true) (hN : encLen (its.flatMap ChainItem.toks) < N) :
    pChainItems N N (enc (its.flatMap ChainItem.toks ++ K .Rbrace :: ts) ++ R) = some (its, enc ts ++ R) := by
  refine loop_read (pChainItems N) _ _ enc encLen _ R _ N encLen_append (fun it _ => by cases it <;> exact encLen_pos _ _)
    (fun n => ?_) (fun n it T v hv hl ih => ?_) its h hN
  · simp [pChainItems, next_enc (Lx_chainitem .Rbrace (by simp)) hR]
  · cases it with
    | length x =>
      simp only [ChainItem.toks, List.cons_append, List.nil_append, pChainItems,
        next_enc (Lx_chainitem .Scanlength (by simp)) hR, num_enc x hv hR, ih, Option.map_some]
    | inv x =>
      simp only [ChainItem.toks, List.cons_append, List.nil_append, pChainItems,
        next_enc (Lx_chainitem .Scaninversion (by simp)) hR, num_enc x hv hR, ih, Option.map_some]
    | scanIn q =>
      simp only [ChainItem.toks, List.cons_append, List.nil_append, pChainItems,
        next_enc (Lx_chainitem .Scanin (by simp)) hR, name_enc q hv hR, ih, Option.map_some]
    | scanOut q =>
      simp only [ChainItem.toks, List.cons_append, List.nil_append, pChainItems,
        next_enc (Lx_chainitem .Scanout (by simp)) hR, name_enc q hv hR, ih, Option.map_some]
    | clock q =>
      simp only [ChainItem.toks, List.cons_append, List.nil_append, pChainItems,
        next_enc (Lx_chainitem .Scanmasterclock (by simp)) hR, name_enc q hv hR, ih, Option.map_some]
    | cells cs =>
      simp only [ChainItem.toks, encLen_cons, encLen_append] at hl
      simp only [ChainItem.toks, List.cons_append, List.append_assoc, List.nil_append, pChainItems,
        next_enc (Lx_chainitem .Scancells (by simp)) hR, pCells_enc N hR cs hv (by omega) false, ih, Option.map_some]

theorem pChains_enc (N : Nat) {ts : List Txt} {R : List Char} (hR : WsHead R) (cs : List Chain)
    (h : cs.all Chain.valid = true) (hN : encLen (cs.flatMap Chain.toks) < N) :
    pChains N N (enc (cs.flatMap Chain.toks ++ K .Rbrace :: ts) ++ R) = some (cs, enc ts ++ R) := by
  refine loop_read (pChains N) _ _ enc encLen _ R _ N encLen_append (fun _ _ => encLen_pos _ _)
    (fun n => ?_) (fun n c T v hv hl ih => ?_) cs h hN
  · simp [pChains, next_enc (Lx_lit sChain .Rbrace (by decide)) hR]
  · obtain ⟨name, items⟩ := c
    simp only [Chain.valid, Bool.and_eq_true] at hv
    simp only [encLen_cons, encLen_append] at hl
    simp only [List.cons_append, List.append_assoc, List.nil_append, pChains,
      next_enc (Lx_lit sChain .Scanchain (by decide)) hR, pSeq, expect_enc (Lx_quoted sQuoted name hv.1 (by decide)) hR,
      expect_enc (Lx_lbrace sAfterQ (by simp)) hR, pChainItems_enc N hR items hv.2 (by omega), ih, Option.map_some]

theorem pParams_enc (N : Nat) {ts : List Txt} {R : List Char} (hR : WsHead R) (ps : List (Txt × Txt))
    (h : ps.all (fun p => vQ p.1 && vValue p.2) = true) (hN : encLen (ps.flatMap paramToks) < N) :
    pParams N (enc (ps.flatMap paramToks ++ K .Rbrace :: ts) ++ R) = some (ps, enc ts ++ R) := by
  refine loop_read pParams _ _ enc encLen _ R _ N encLen_append (fun _ _ => encLen_pos _ _)
    (fun n => ?_) (fun n p T v hv _ ih => ?_) ps h hN
  · simp [pParams, next_enc (Lx_lit sItem .Rbrace (by decide)) hR]
  · obtain ⟨k, x⟩ := p
    simp only [Bool.and_eq_true] at hv
    have hval : ∀ X, enc ((x ++ [';']) :: X) ++ R = ' ' :: (x ++ ';' :: (enc X ++ R)) := by
      intro X; simp [enc]
    simp only [List.cons_append, List.nil_append, pParams,
      next_enc (Lx_quoted sItem k hv.1 (by decide)) hR, pSeq, expect_enc (Lx_lit sAfterQ .Equal (by decide)) hR]
    simp only [expect, hval, next_value x hv.2, next_semi_direct, ↓reduceIte, ih, Option.map_some]

theorem Lx_patitem_lit (st : List Tm) (hst : st = sPatItem ∨ st = sAfterIgn) (k : Kw)
    (hk : k ∈ [Kw.Macro, .Call, .Ann, .C, .Rbrace, .W]) : Lx st (.lit k) k.chars := by
  simp only [List.mem_cons, List.not_mem_nil, or_false] at hk
  rcases hst with rfl | rfl <;> rcases hk with rfl | rfl | rfl | rfl | rfl | rfl <;> exact Lx_lit _ _ (by decide)

theorem Lx_patitem_q (st : List Tm) (hst : st = sPatItem ∨ st = sAfterIgn) (q : Txt) (h : vQ q = true) : Lx st .quoted q := by
  rcases hst with rfl | rfl <;> exact Lx_quoted _ _ h (by decide)

theorem pPatItems_enc (N : Nat) {ts : List Txt} {R : List Char} (hR : WsHead R) (its : List PatItem)
    (h : its.all PatItem.valid = true) (hN : encLen (its.flatMap PatItem.toks) < N) (st : List Tm)
    (hst : st = sPatItem ∨ st = sAfterIgn) :
    pPatItems N N st (enc (its.flatMap PatItem.toks ++ K .Rbrace :: ts) ++ R) = some (its, enc ts ++ R) := by
  refine loop_read_st (pPatItems N) (fun st => st = sPatItem ∨ st = sAfterIgn) _ _ enc encLen _ R _ N encLen_append
    (fun it _ => by cases it <;> exact encLen_pos _ _) (fun st hst n => ?_) (fun st hst n it T v hv hl ih => ?_)
    its h hN st hst
  · simp [pPatItems, next_enc (Lx_patitem_lit st hst .Rbrace (by simp)) hR]
  · have ih1 := ih sPatItem (Or.inl rfl)
    have ih2 := ih sAfterIgn (Or.inr rfl)
    cases it <;> simp only [PatItem.valid, Bool.and_eq_true] at hv <;>
      simp only [PatItem.toks, encLen_cons, encLen_append] at hl
    case label q =>
      simp only [PatItem.toks, List.cons_append, List.nil_append, pPatItems,
        next_enc (Lx_patitem_q st hst q hv) hR, expect_enc (Lx_lit sAfterQ .Colon (by decide)) hR, ih1, Option.map_some]
    case w q =>
      simp only [PatItem.toks, List.cons_append, List.nil_append, pPatItems,
        next_enc (Lx_patitem_lit st hst .W (by simp)) hR, name_enc q hv hR, ih1, Option.map_some]
    case macro_ q =>
      simp only [PatItem.toks, List.cons_append, List.nil_append, pPatItems,
        next_enc (Lx_patitem_lit st hst .Macro (by simp)) hR, name_enc q hv hR, ih1, Option.map_some]
    case c ig =>
      simp only [PatItem.toks, List.cons_append, pPatItems,
        next_enc (Lx_patitem_lit st hst .C (by simp)) hR, pBraceIgn_enc N sLbrace (Or.inl rfl) ig hv (by omega) hR, ih2,
        Option.map_some]
    case ann ig =>
      simp only [PatItem.toks, List.cons_append, pPatItems,
        next_enc (Lx_patitem_lit st hst .Ann (by simp)) hR, pBraceIgn_enc N sLbrace (Or.inl rfl) ig hv (by omega) hR, ih2,
        Option.map_some]
    case call name ps =>
      simp only [PatItem.toks, List.cons_append, List.append_assoc, List.nil_append, pPatItems,
        next_enc (Lx_patitem_lit st hst .Call (by simp)) hR, pSeq, expect_enc (Lx_quoted sQuoted name hv.1 (by decide)) hR,
        expect_enc (Lx_lbrace sAfterQ (by simp)) hR, pParams_enc N hR ps hv.2 (by omega), ih1, Option.map_some]

theorem Lx_block (st : List Tm) (hst : st = sBlock ∨ st = sAfterIgn) (k : Kw)
    (hk : k ∈ [Kw.Scanstructures, .Patternburst, .Signalgroups, .Userkeywords, .Patternexec, .Procedures, .Macrodefs, .Pattern,
      .Signals, .Header, .Timing]) : Lx st (.lit k) k.chars := by
  simp only [List.mem_cons, List.not_mem_nil, or_false] at hk
  rcases hst with rfl | rfl <;> rcases hk with rfl | rfl | rfl | rfl | rfl | rfl | rfl | rfl | rfl | rfl | rfl <;>
    exact Lx_lit _ _ (by decide)

theorem next_end (st : List Tm) (hst : st = sBlock ∨ st = sAfterIgn) : next L st ['\n'] = some (.eof, []) := by
  rcases hst with rfl | rfl <;>
    (rw [next_ign L _ ['\n'] .ign [] [] (by simp [sBlock, sAfterIgn, first, L, Tm.run, ignM, skipIgn]) rfl (by simp)]; rfl)

theorem pBlocks_enc (N : Nat) (bs : List Block) (h : bs.all Block.valid = true) (hN : encLen (bs.flatMap Block.toks) < N)
    (st : List Tm) (hst : st = sBlock ∨ st = sAfterIgn) :
    pBlocks N N st (enc (bs.flatMap Block.toks ++ []) ++ ['\n']) = some (bs, []) := by
  have hR := wsHead_nl
  refine loop_read_st (pBlocks N) (fun st => st = sBlock ∨ st = sAfterIgn) _ _ enc encLen _ _ _ N encLen_append
    (fun b _ => by cases b <;> exact encLen_pos _ _) (fun st hst n => ?_) (fun st hst n b T v hv hl ih => ?_) bs h hN st hst
  · simp [pBlocks, enc, next_end st hst]
  · have ih1 := ih sBlock (Or.inl rfl)
    have ih2 := ih sAfterIgn (Or.inr rfl)
    cases b <;> simp only [Block.valid, Bool.and_eq_true] at hv <;> simp only [Block.toks, encLen_cons, encLen_append] at hl
    case skip k ig =>
      have hk : k ∈ [Kw.Scanstructures, .Patternburst, .Signalgroups, .Userkeywords, .Patternexec, .Procedures, .Macrodefs,
          .Pattern, .Signals, .Header, .Timing] := by
        have := hv.1
        simp only [isSkipKw, Bool.or_eq_true, decide_eq_true_eq] at this
        rcases this with ((((e | e) | e) | e) | e) | e <;> simp [e]
      simp only [Block.toks, List.cons_append, pBlocks, next_enc (Lx_block st hst k hk) hR, hv.1,
        ↓reduceIte, pBraceIgn_enc N sLbrace (Or.inl rfl) ig hv.2 (by omega) hR, ih2, Option.map_some]
    case burst q ig =>
      simp only [Block.toks, List.cons_append, pBlocks,
        next_enc (Lx_block st hst .Patternburst (by simp)) hR, isSkipKw, reduceCtorEq, decide_false, Bool.or_self,
        Bool.false_eq_true, ↓reduceIte, expect_enc (Lx_quoted sQuoted q hv.1 (by decide)) hR,
        pBraceIgn_enc N sAfterQ (Or.inr rfl) ig hv.2 (by omega) hR, ih2, Option.map_some]
    case ukw t =>
      simp only [Block.toks, List.cons_append, List.nil_append, pBlocks,
        next_enc (Lx_block st hst .Userkeywords (by simp)) hR, isSkipKw, reduceCtorEq, decide_false, Bool.or_self,
        Bool.false_eq_true, ↓reduceIte, expect_enc (Lx_ukw t hv) hR, ih1, Option.map_some]
    case groups gs =>
      obtain ⟨tok, r, hn, hp, _⟩ := pGroupsN_inv (pGroups_enc N (ts := T) hR gs hv (by omega) sItem (Or.inl rfl))
      simp only [Block.toks, List.cons_append, List.append_assoc, List.nil_append, pBlocks,
        next_enc (Lx_block st hst .Signalgroups (by simp)) hR, isSkipKw, reduceCtorEq, decide_false, Bool.or_self,
        Bool.false_eq_true, ↓reduceIte, expect_enc (Lx_lbrace sLbrace (by simp)) hR, hn, hp, ih1, Option.map_some]
    case chains cs =>
      simp only [Block.toks, List.cons_append, List.append_assoc, List.nil_append, pBlocks,
        next_enc (Lx_block st hst .Scanstructures (by simp)) hR, isSkipKw, reduceCtorEq, decide_false, Bool.or_self,
        Bool.false_eq_true, ↓reduceIte, expect_enc (Lx_lbrace sLbrace (by simp)) hR, pChains_enc N hR cs hv (by omega),
        ih1, Option.map_some]
    case pattern name its =>
      simp only [Block.toks, List.cons_append, List.append_assoc, List.nil_append, pBlocks,
        next_enc (Lx_block st hst .Pattern (by simp)) hR, isSkipKw, reduceCtorEq, decide_false, Bool.or_self,
        Bool.false_eq_true, ↓reduceIte, pSeq, expect_enc (Lx_quoted sQuoted name hv.1 (by decide)) hR,
        expect_enc (Lx_lbrace sAfterQ (by simp)) hR, pPatItems_enc N hR its hv.2 (by omega) sPatItem (Or.inl rfl), ih1,
        Option.map_some]

theorem parseTree_print (f : StilFile) (h : f.valid = true) : parseTree (printStilL f) = some f := by
  obtain ⟨version, headIgn, blocks⟩ := f
  simp only [StilFile.valid, Bool.and_eq_true] at h
  obtain ⟨⟨⟨hver, hhead⟩, hblocks⟩, _⟩ := h
  have hR := wsHead_nl
  -- the fuel `text length + 1` exceeds the printed length of every part
  have hlen : (printStilL ⟨version, headIgn, blocks⟩).length =
      (K .Stil).length + 1 + (version.length + 1 + (encLen (headToks headIgn) + encLen (blocks.flatMap Block.toks))) + 1 := by
    simp only [printStilL, StilFile.toks, List.length_append, List.length_cons, List.length_nil, ← encLen_append,
      ← encLen_cons]
    rfl
  obtain ⟨n, hn⟩ : ∃ n, (printStilL ⟨version, headIgn, blocks⟩).length = n := ⟨_, rfl⟩
  have hB := fun st hst => pBlocks_enc (n + 1) blocks hblocks (by omega) st hst
  simp only [List.append_nil] at hB
  unfold parseTree
  simp only [hn]
  simp only [printStilL, StilFile.toks, pSeq, expect_enc (Lx_lit sStart .Stil (by decide)) hR,
    expect_enc (Lx_float version hver) hR]
  cases headIgn with
  | none =>
    simp only [headToks, List.cons_append, List.nil_append,
      next_enc (Lx_lit sAfterFloat .Semi (by decide)) hR, hB sBlock (Or.inl rfl), Option.map_some]
  | some ig =>
    have hil := ignToks_len ig hhead
    simp only [headToks] at hlen
    have hI := (pIgn_chunks (blocks.flatMap Block.toks) ['\n'] hR ig 0 (n + 1) (by omega)).1 hhead
    simp only [headToks, ignToks, List.cons_append,
      next_enc (Lx_lbrace sAfterFloat (by simp)) hR, hI, hB sAfterIgn (Or.inr rfl), Option.map_some]

theorem parseStilL_print (f : StilFile) (h : f.valid = true) : parseStilL (printStilL f) = some f := by
  have hok : f.ok = true := by
    simp only [StilFile.valid, Bool.and_eq_true] at h; exact h.2
  simp [parseStilL, parseTree_print f h, hok]

end KV.StilText
