import KyupyVerif.Proofs.WaveIOCheck
import KyupyVerif.Proofs.WaveMem
import KyupyVerif.Model.LevelMem
/-! The waveform evaluator of the code-path model in terms of Proofs/WaveMem, and what a level under an ARBITRARY thread order (a real
GPU gives none) rests on.
The storage discipline of the code-path model (Model/WaveIO.lean: `rdCells`, `readWave`, `writeCells`, `wrWave`) IS the one of
Proofs/WaveMem.lean (`cells`, `scan`, `rdWave`, `Wave.wrWave` keeping the old cells behind the terminator): reading a region
(`readWave_rdCells_eq`), storing a waveform that leaves room for its terminator (`wrWave_eq`). What is known about regions there
(`rd_wr_fit`, `rdWave_dep`, `Wave.wrWave_frame`) is used through these two equations for the read-back law `read_wrWave` and for the
evaluator instance `evWave` (`evWave_eq`); the facts about single reads and stores of the model's own definitions (`readWave_prefix`,
`rdCells_writeCells`: used by C06; `WaveIO.wrWave_frame`) are in Proofs/WaveIOAssign.lean and WaveIOCheck.lean, which the driver imports.
Thread order: accumulation into a shared `abuf` cell commutes because it is an addition (`accAdd_comm`); footprints of an evaluator on a
lane's memory (`EvLocal` for all rows at once, `OpLocal` row by row) and those of the waveform evaluator `evWave`, given by `c_locs` /
`c_caps`. The permutation argument is in Proofs/LevelMem.lean. -/
namespace KV.WaveIO
open KV KV.Wave KV.Grid

theorem isEnd_eq_isTerm (t : T) : isEnd t = t.isTerm := by cases t <;> rfl

theorem readWave_eq_scan (cells : List T) : readWave cells = scan cells := by
  induction cells with
  | nil => rfl
  | cons x r ih =>
    unfold readWave at ih ⊢
    simp only [scan, List.takeWhile_cons, List.dropWhile_cons, isEnd_eq_isTerm]
    cases hx : x.isTerm with
    | true => simp
    | false =>
      simp only [Bool.not_false, if_true, Bool.false_eq_true, if_false]
      rw [← ih]
      simp only [isEnd_eq_isTerm]

theorem readWave_rdCells_eq (c : Col) (loc : Int) (cap : Nat) : readWave (rdCells c loc cap) = rdWave loc cap c := by
  rw [readWave_eq_scan]; rfl

theorem wrWave_eq (c : Col) (loc : Int) (cap : Nat) (w : Wv) (hfit : w.ents.length < cap) :
    WaveIO.wrWave c loc w = Wave.wrWave c loc cap w c := by
  funext a
  simp only [WaveIO.wrWave, writeCells_apply, Wave.wrWave, List.length_append, List.length_singleton]
  by_cases h1 : loc ≤ a ∧ a < loc + ((w.ents.length + 1 : Nat) : Int)
  · have h2 : loc ≤ a ∧ a < loc + (cap : Int) := by omega
    rw [if_pos h1, if_pos h2]
    by_cases h3 : (a - loc).toNat < w.ents.length
    · rw [if_pos h3]
      simp only [List.getD_eq_getElem?_getD, List.getElem?_append_left h3]
    · have h4 : (a - loc).toNat = w.ents.length := by omega
      rw [if_neg h3, if_pos h4, h4]
      simp
  · rw [if_neg h1]
    by_cases h2 : loc ≤ a ∧ a < loc + (cap : Int)
    · rw [if_pos h2, if_neg (by omega), if_neg (by omega)]
    · rw [if_neg h2]

/-- **a stored waveform reads back** from every region large enough to hold it, whatever the memory held before and
    holds behind the terminator (entries are not terminator cells, the terminator is one) -/
theorem read_wrWave (c : Col) (loc : Int) (w : Wv) (cap : Nat) (hfit : w.ents.length + 1 ≤ cap)
    (hents : ∀ x ∈ w.ents, isEnd x = false) (hterm : isEnd w.term = true) :
    readWave (rdCells (WaveIO.wrWave c loc w) loc cap) = w := by
  rw [readWave_rdCells_eq, wrWave_eq c loc cap w (by omega)]
  exact rd_wr_fit _ loc cap w c ⟨by omega, fun e he => isEnd_eq_isTerm e ▸ hents e he, isEnd_eq_isTerm _ ▸ hterm⟩

/-- footprints of an evaluator, for all rows at once: row `o` changes only cells in `wr o` (`frame`), and what it stores there and
    the counts it returns depend only on the cells in `rd o` (`dep`) -/
structure EvLocal (ev : Ev) (rd wr : OpRow → Int → Prop) : Prop where
  frame : ∀ o sim c a, ¬ wr o a → (ev o sim c).1 a = c a
  dep : ∀ o sim c c', (∀ a, rd o a → c a = c' a) →
    (∀ a, wr o a → (ev o sim c).1 a = (ev o sim c').1 a) ∧ (ev o sim c).2 = (ev o sim c').2

/-- two rows are independent: neither writes a cell the other reads or writes -/
def OpsIndep (rd wr : OpRow → Int → Prop) (a b : OpRow) : Prop :=
  (∀ x, wr a x → ¬ rd b x ∧ ¬ wr b x) ∧ (∀ x, wr b x → ¬ rd a x ∧ ¬ wr a x)

theorem accAdd_apply (o : AOp) (nr nf : Nat) (ab : Int → Int) (j : Int) :
    accAdd o nr nf ab j = ab j + if 0 ≤ o.aLoc ∧ j = o.aLoc then (nr : Int) * o.aWr + (nf : Int) * o.aWf else 0 := by
  unfold accAdd updI
  by_cases h : 0 ≤ o.aLoc <;> by_cases hj : j = o.aLoc <;> simp [h, hj]

theorem accAdd_comm (a b : AOp) (n1 n2 m1 m2 : Nat) (ab : Int → Int) :
    accAdd a n1 n2 (accAdd b m1 m2 ab) = accAdd b m1 m2 (accAdd a n1 n2 ab) := by
  funext j
  simp only [accAdd_apply]
  omega

def inRegion (loc : Nat → Int) (cap : Nat → Nat) (i : Nat) (a : Int) : Prop := loc i ≤ a ∧ a < loc i + (cap i : Int)

theorem rdCells_congr (c c' : Col) (loc : Int) (cap : Nat) (h : ∀ a, loc ≤ a → a < loc + (cap : Int) → c a = c' a) :
    rdCells c loc cap = rdCells c' loc cap := cells_congr loc cap c c' h

/-- footprints of ONE row. `dep` is stated for every cell on which the two memories agree before the call, not only for the
    written ones: a cell the row does not write keeps its value in either memory (`frame`), so it agrees after the call too; in
    this form two memories that agree outside the scratch regions are carried through a row in one step (`cpuBody_congJ`,
    Proofs/LevelMem.lean) -/
structure OpLocal (ev : Ev) (rd wr : Int → Prop) (o : OpRow) : Prop where
  frame : ∀ sim c a, ¬ wr a → (ev o sim c).1 a = c a
  dep : ∀ sim c c', (∀ a, rd a → c a = c' a) →
    (∀ a, c a = c' a → (ev o sim c).1 a = (ev o sim c').1 a) ∧ (ev o sim c).2 = (ev o sim c').2

/-- footprints given for all rows at once are footprints row by row: a cell the row does not write keeps, in either memory,
    the value it had -/
theorem EvLocal.opLocal {ev : Ev} {rd wr : OpRow → Int → Prop} (h : EvLocal ev rd wr) (o : OpRow) :
    OpLocal ev (rd o) (wr o) o := by
  refine ⟨h.frame o, fun sim c c' hrd => ?_⟩
  obtain ⟨h1, h2⟩ := h.dep o sim c c' hrd
  refine ⟨fun a ha => ?_, h2⟩
  by_cases hw : wr o a
  · exact h1 a hw
  · rw [h.frame o sim c a hw, h.frame o sim c' a hw]; exact ha

/-- **the evaluator instance in terms of Proofs/WaveMem**: operands read by `rdWave`, the result stored by `Wave.wrWave` keeping the
    old cells behind the terminator. Contract, footprints, read-back and the bridge to `memStep` are read off this equation. -/
theorem evWave_eq (g : WCfg) (loc : Nat → Int) (o : OpRow) (sim : Nat) (c : Col) (hcap : 2 ≤ g.cap o.out) :
    evWave (fun _ => g) loc o sim c =
      (Wave.wrWave c (loc o.out) (g.cap o.out)
          (waveSem g ⟨o.lut, o.out, o.ins⟩ (o.ins.map fun i => rdWave (loc i) (g.cap i) c)) c,
        waveCounts g ⟨o.lut, o.out, o.ins⟩ (o.ins.map fun i => rdWave (loc i) (g.cap i) c)) := by
  show (WaveIO.wrWave c (loc o.out) (waveSem g _ _), (waveCounts g _ _).1, (waveCounts g _ _).2) = _
  simp only [readWave_rdCells_eq]
  rw [wrWave_eq c (loc o.out) (g.cap o.out) _ (waveSem_len g ⟨o.lut, o.out, o.ins⟩ _ hcap)]

/-- `evWave` with one configuration for all lanes, on a row whose output capacity is ≥ 2: it changes only the region of the
    output index; what it stores and the counts it returns depend on the operand regions only (cells of the output region
    behind the stored waveform keep their content) -/
theorem evWave_opLocal (g : WCfg) (loc : Nat → Int) (o : OpRow) (hcap : 2 ≤ g.cap o.out) :
    OpLocal (evWave (fun _ => g) loc) (fun a => ∃ i ∈ o.ins, inRegion loc g.cap i a) (fun a => inRegion loc g.cap o.out a) o := by
  constructor
  · intro sim c a ha
    rw [evWave_eq g loc o sim c hcap]
    exact Wave.wrWave_frame _ _ _ _ _ a ha
  · intro sim c c' h
    have hxs : (o.ins.map fun i => rdWave (loc i) (g.cap i) c) = o.ins.map fun i => rdWave (loc i) (g.cap i) c' :=
      List.map_congr_left fun i hi => rdWave_dep _ _ c c' fun a h1 h2 => h a ⟨i, hi, h1, h2⟩
    rw [evWave_eq g loc o sim c hcap, evWave_eq g loc o sim c' hcap, hxs]
    exact ⟨fun a ha => by simp only [Wave.wrWave, ha], rfl⟩

/-- the same for all rows at once, in the form `EvLocal` (the read set then includes the output region) -/
theorem evWave_local (g : WCfg) (loc : Nat → Int) (hcap : ∀ i, 2 ≤ g.cap i) :
    EvLocal (evWave (fun _ => g) loc)
      (fun o a => inRegion loc g.cap o.out a ∨ ∃ i ∈ o.ins, inRegion loc g.cap i a)
      (fun o a => inRegion loc g.cap o.out a) := by
  refine ⟨fun o sim c a ha => (evWave_opLocal g loc o (hcap o.out)).frame sim c a ha, fun o sim c c' h => ?_⟩
  obtain ⟨h1, h2⟩ := (evWave_opLocal g loc o (hcap o.out)).dep sim c c' (fun a ha => h a (Or.inr ha))
  exact ⟨fun a ha => h1 a (h a (Or.inl ha)), h2⟩

theorem evWave_reads_back (g : WCfg) (loc : Nat → Int) (o : OpRow) (sim : Nat) (c : Col)
    (hd : ∀ l p q, 0 ≤ g.delay l p q) (hc : 4 ≤ g.cap o.out)
    (hx : ∀ i ∈ o.ins, (readWave (rdCells c (loc i) (g.cap i))).ok) :
    readWave (rdCells (evWave (fun _ => g) loc o sim c).1 (loc o.out) (g.cap o.out)) =
      waveSem g ⟨o.lut, o.out, o.ins⟩ (o.ins.map fun i => readWave (rdCells c (loc i) (g.cap i))) ∧
    (evWave (fun _ => g) loc o sim c).2 =
      waveCounts g ⟨o.lut, o.out, o.ins⟩ (o.ins.map fun i => readWave (rdCells c (loc i) (g.cap i))) ∧
    ∀ a, ¬ inRegion loc g.cap o.out a → (evWave (fun _ => g) loc o sim c).1 a = c a := by
  simp only [readWave_rdCells_eq] at hx ⊢
  have hok : ∀ x ∈ (o.ins.map fun i => rdWave (loc i) (g.cap i) c), x.ok := by
    intro x hx'; obtain ⟨i, hi, rfl⟩ := List.mem_map.mp hx'; exact hx i hi
  rw [evWave_eq g loc o sim c (by omega)]
  exact ⟨rd_wr_fit _ _ _ _ c (waveSem_fits g ⟨o.lut, o.out, o.ins⟩ _ hd hc hok), rfl,
    fun a ha => Wave.wrWave_frame _ _ _ _ _ a ha⟩

def opsIndepB (loc : Nat → Int) (cap : Nat → Nat) (a b : OpRow) : Bool :=
  disjointB loc cap a.out b.out && b.ins.all (fun i => disjointB loc cap a.out i) && a.ins.all (fun i => disjointB loc cap b.out i)

theorem disjointB_sound {loc : Nat → Int} {cap : Nat → Nat} {i j : Nat} (h : disjointB loc cap i j = true) (x : Int) :
    inRegion loc cap i x → ¬ inRegion loc cap j x := by
  unfold disjointB at h
  simp only [Bool.or_eq_true, decide_eq_true_eq] at h
  unfold inRegion
  intro h1 h2
  omega

theorem opsIndepB_sound {loc : Nat → Int} {cap : Nat → Nat} {a b : OpRow} (h : opsIndepB loc cap a b = true) :
    OpsIndep (fun o x => inRegion loc cap o.out x ∨ ∃ i ∈ o.ins, inRegion loc cap i x) (fun o x => inRegion loc cap o.out x) a b := by
  unfold opsIndepB at h
  simp only [Bool.and_eq_true, List.all_eq_true] at h
  obtain ⟨⟨h1, h2⟩, h3⟩ := h
  constructor
  · intro x hx
    refine ⟨?_, disjointB_sound h1 x hx⟩
    rintro (hb | ⟨i, hi, hb⟩)
    · exact disjointB_sound h1 x hx hb
    · exact disjointB_sound (h2 i hi) x hx hb
  · intro x hx
    refine ⟨?_, fun ha => disjointB_sound h1 x ha hx⟩
    rintro (ha | ⟨i, hi, ha⟩)
    · exact disjointB_sound h1 x ha hx
    · exact disjointB_sound (h3 i hi) x hx ha

end KV.WaveIO
