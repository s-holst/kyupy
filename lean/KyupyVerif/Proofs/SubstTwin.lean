import KyupyVerif.Proofs.SubstProgress
/-! C10, progress of `resolve_tlib_cells`, transport lemmas.  Pin-list lengths through `remove_dangling_nodes`: every node of the
result is a node of the circuit before (`Twin`: same kind, name, number of input pin slots and — unless a fork — of output pin slots):
`Line.remove()` keeps the lengths (`ls_removeLine`), `Node.remove()` only renumbers.  The (kind, name) pairs of the result of
`substitute` (`substitute_kindNames_mem`), and every node of the result is a host node with the same pin-list lengths, the re-kinded
cell or an added node (`substitute_twin`, `substitute_lenFrame`). -/
namespace KV.Transform
open KV

theorem removeLines_ls (nn : NNet) (x : Nat) : ∀ (rem : List Nat) (cur : Net) (ren : Option Nat → Option Nat) (r : Ren)
    (net' : Net), RLInv nn x cur rem ren r → removeLines ren rem cur = some net' → ∀ j, LS cur net' j
  | [], cur, ren, r, net', _, he => by
    simp only [removeLines] at he
    cases he
    exact fun j => LS.of_eq rfl
  | l0 :: rest, cur, ren, r, net', iv, he => by
    obtain ⟨l', hren, hl', _, _⟩ := iv.pend l0 List.mem_cons_self
    obtain ⟨_, _, bo, bi⟩ := iv.wfm.back l' hl'
    unfold removeLines at he
    rw [hren] at he
    dsimp only at he
    split at he
    · exact absurd he (by simp)
    · rename_i cur' hrm
      have iv' := rlinv_step nn x l0 rest cur cur' ren r l' iv hren hrm
      intro j
      exact LS.trans (ls_removeLine true cur cur' l' hrm (lt_of_getD_some bo) (fun _ => lt_of_getD_some bi) j)
        (removeLines_ls nn x rest cur' _ _ net' iv' he j)

def Twin (a : NNet) (x : Nat) (b : NNet) (y : Nat) : Prop :=
  (b.net.node y).kind = (a.net.node x).kind ∧ b.names.getD y "" = a.names.getD x "" ∧
  (b.net.node y).ins.length = (a.net.node x).ins.length ∧
  ((a.net.node x).isFork = false → (b.net.node y).outs.length = (a.net.node x).outs.length)

theorem Twin.refl (a : NNet) (x : Nat) : Twin a x a x := ⟨rfl, rfl, rfl, fun _ => rfl⟩

theorem Twin.trans {a b c : NNet} {x y z : Nat} (h1 : Twin a x b y) (h2 : Twin b y c z) : Twin a x c z :=
  ⟨h2.1.trans h1.1, h2.2.1.trans h1.2.1, h2.2.2.1.trans h1.2.2.1, fun hf => (h2.2.2.2 ((isFork_of_kind_eq h1.1).trans hf)).trans (h1.2.2.2 hf)⟩

theorem removeDangling_twin : ∀ (fuel : Nat) (nn : NNet) (own : List Nat) (stack : List (Option Nat)) (nn' : NNet),
    WFm nn → (∀ x ∈ own, x < nn.net.nodes.size) → removeDangling fuel nn own stack = some nn' →
    ∀ y, y < nn'.net.nodes.size → ∃ x, x < nn.net.nodes.size ∧ Twin nn x nn' y := by
  intro fuel nn own stack nn' w ho h
  refine (removeDangling_induct (P := fun nn _ nn' => ∀ y, y < nn'.net.nodes.size → ∃ x, x < nn.net.nodes.size ∧ Twin nn x nn' y)
    (fun _ y hy => ⟨y, hy, Twin.refl _ _⟩) ?_ fuel nn own stack nn' w ho h).2
  intro nn own root net' nn' w ho hmem hio _ houts hrl _ ih y hy
  have hroot := ho root hmem
  have hls := removeLines_ls nn root _ nn.net id Ren.id net' (RLInv.init nn w root hroot hio houts) hrl
  have hns : net'.nodes.size = nn.net.nodes.size := (pinsOnly_removeLines _ _ _ _ hrl).1.1
  have hroot' : root < ({ nn with net := net' } : NNet).net.nodes.size := by rw [hns]; exact hroot
  obtain ⟨x2, hx2, t2⟩ := ih y hy
  rw [(delNode_sizes { nn with net := net' } root).1] at hx2
  have li' : LI ({ nn with net := net' } : NNet) :=
    ⟨by show nn.names.size = net'.nodes.size; rw [hns]; exact w.names,
     by show ∀ j ∈ net'.io, j < net'.nodes.size; rw [(pinsOnly_removeLines _ _ _ _ hrl).2, hns]; exact w.io⟩
  have hx2' : nmN nn.net.nodes.size root x2 < nn.net.nodes.size :=
    (nm_facts hroot (by rw [← hns]; exact hx2)).1
  refine ⟨nmN nn.net.nodes.size root x2, hx2', Twin.trans ?_ t2⟩
  have hl := hls (nmN nn.net.nodes.size root x2)
  have hnode : (delNode { nn with net := net' } root).net.node x2 = net'.node (nmN nn.net.nodes.size root x2) := by
    rw [delNode_node _ root x2 hroot' hx2]
    simp only [hns]
  have hname : (delNode { nn with net := net' } root).names.getD x2 "" = nn.names.getD (nmN nn.net.nodes.size root x2) "" := by
    rw [delNode_names_getD _ root x2 li' hroot' hx2]
    simp only [hns]
  exact ⟨by rw [hnode]; exact hl.1, hname, by rw [hnode]; exact hl.2.1, fun hf => by rw [hnode]; exact hl.2.2 hf⟩


theorem mem_kindNames (nn : NNet) (kn : String × String) :
    kn ∈ nn.kindNames ↔ ∃ x, x < nn.net.nodes.size ∧ ((nn.net.node x).kind, nn.names.getD x "") = kn := by
  simp only [NNet.kindNames, List.mem_map, List.mem_range]

/-! every node of the result of `substitute` is (a) a host node
other than the cell with the SAME pin-list lengths (`Twin`), or (b) the re-kinded cell, or (c) an added node.  Hence (`LenFrame`) the
node found in the result under the key of a host node other than the cell has that node's pin-list lengths. -/

theorem kindNames_getElem? (nn : NNet) (x : Nat) (hx : x < nn.net.nodes.size) :
    nn.kindNames[x]? = some ((nn.net.node x).kind, nn.names.getD x "") := by
  simp [NNet.kindNames, hx]

theorem substitute_twin (h m h' : NNet) (c : Nat) (H : SubstHyp h c m) (he : substitute h c m = some h') :
    ∃ sh, implShape m = some sh ∧ ∀ y, y < h'.net.nodes.size →
      (∃ x, x < h.net.nodes.size ∧ x ≠ c ∧ Twin h x h' y) ∨
      (∃ dn, sh.des = some dn ∧ ((h'.net.node y).kind, h'.names.getD y "") = ((m.net.node dn).kind, h.names.getD c "")) ∨
      ((h'.net.node y).kind, h'.names.getD y "") ∈ addedKN m (h.names.getD c "") sh.des := by
  obtain ⟨sh, h5, map, dang, hs, _, o, hls, dd, wd, _, ho, heq⟩ := substitute_parts h m c H
  obtain ⟨w, _, _, hc, hio, _⟩ := H
  have li : LI h := ⟨w.names, w.io⟩
  rw [heq] at he
  have tw := removeDangling_twin _ _ _ _ h' wd ho he
  refine ⟨sh, hs, ?_⟩
  intro y hy
  obtain ⟨x5, hx5, t5⟩ := tw y hy
  rw [dd.nsize] at hx5
  -- `densify` keeps kind, name, input pins, and the outputs of everything that is no fork
  have td : Twin h5 x5 (densNN h5 (map.toList.filterMap id)) x5 :=
    ⟨dd.kind x5, by rw [dd.names], by rw [dd.ins x5], fun hf => by rw [dd.frameCell x5 hf]⟩
  have t : Twin h5 x5 h' y := td.trans t5
  have hlen5 : h5.net.nodes.size = (phase1 h c m sh.des).1.net.nodes.size + (addedKN m (h.names.getD c "") sh.des).length := by
    have := congrArg List.length o
    rw [List.length_append, kindNames_length, kindNames_length] at this
    exact this
  have hk5 := kindNames_getElem? h5 x5 hx5
  rw [o] at hk5
  by_cases hxP : x5 < (phase1 h c m sh.des).1.net.nodes.size
  · -- a node of the circuit after the first statements
    rw [List.getElem?_append_left (by rw [kindNames_length]; exact hxP), kindNames_getElem? _ x5 hxP] at hk5
    have hkn := Prod.mk.inj (Option.some.inj hk5)
    cases hd : sh.des with
    | some dn =>
      rw [hd] at hkn hxP hls
      obtain ⟨_, _, e3, e4⟩ := phase1_rest h c m dn
      rw [e3] at hxP
      by_cases hxc : x5 = c
      · right; left
        refine ⟨dn, rfl, ?_⟩
        rw [t.1, t.2.1, ← hkn.1, ← hkn.2, phase1_some_node h c m dn hc, if_pos hxc, e4, hxc]
      · left
        refine ⟨x5, hxP, hxc, Twin.trans ?_ t⟩
        have l := hls x5 (by rw [e3]; exact hxP) (fun _ => hxc)
        rw [LS, phase1_some_node h c m dn hc, if_neg hxc] at l
        exact ⟨l.1, by rw [← hkn.2, e4], l.2.1, l.2.2⟩
    | none =>
      rw [hd] at hkn hxP hls
      have hsz : (phase1 h c m none).1.net.nodes.size = h.net.nodes.size - 1 := (delNode_sizes h c).1
      rw [hsz] at hxP
      left
      obtain ⟨hlt, hne, _⟩ := nm_facts hc hxP
      refine ⟨_, hlt, hne, Twin.trans ?_ t⟩
      have l := hls x5 (by rw [hsz]; exact hxP) (fun hsome => absurd hsome (by simp))
      have hnode : (phase1 h c m none).1.net.node x5 = h.net.node (nmN h.net.nodes.size c x5) := delNode_node h c x5 hc hxP
      have hname : (phase1 h c m none).1.names.getD x5 "" = h.names.getD (nmN h.net.nodes.size c x5) "" :=
        delNode_names_getD h c x5 li hc hxP
      rw [LS, hnode] at l
      exact ⟨l.1, by rw [← hkn.2, hname], l.2.1, l.2.2⟩
  · -- an added node
    right; right
    have hge : (phase1 h c m sh.des).1.kindNames.length ≤ x5 := by rw [kindNames_length]; omega
    rw [List.getElem?_append_right hge] at hk5
    rw [t.1, t.2.1]
    exact List.mem_of_getElem? hk5

theorem substitute_kindNames_mem (h m h' : NNet) (c : Nat) (H : SubstHyp h c m) (he : substitute h c m = some h') :
    ∃ sh, implShape m = some sh ∧ ∀ kn ∈ h'.kindNames, kn ∈ h.kindNames ∨
      (∃ dn, sh.des = some dn ∧ kn = ((m.net.node dn).kind, h.names.getD c "")) ∨ kn ∈ addedKN m (h.names.getD c "") sh.des := by
  obtain ⟨sh, hs, htw⟩ := substitute_twin h m h' c H he
  refine ⟨sh, hs, fun kn hkn => ?_⟩
  obtain ⟨y, hy, rfl⟩ := (mem_kindNames h' kn).mp hkn
  rcases htw y hy with ⟨x, hx, _, t⟩ | h2 | h2
  · exact Or.inl ((mem_kindNames h _).mpr ⟨x, hx, by rw [t.1, t.2.1]⟩)
  · exact Or.inr (Or.inl h2)
  · exact Or.inr (Or.inr h2)

def LenFrame (h : NNet) (c : Nat) (h' : NNet) : Prop :=
  ∀ d j', d < h.net.nodes.size → d ≠ c → j' < h'.net.nodes.size → h'.key j' = h.key d →
    (h'.net.node j').ins.length = (h.net.node d).ins.length ∧
    ((h.net.node d).isFork = false → (h'.net.node j').outs.length = (h.net.node d).outs.length)

theorem key_of_kn (nn : NNet) (x : Nat) : nn.key x = keyOfKN ((nn.net.node x).kind, nn.names.getD x "") := rfl

theorem phase1_keeps_key (h : NNet) (c : Nat) (m : NNet) (des : Option Nat) (w : WFm h) (hc : c < h.net.nodes.size)
    (hio : h.net.io.contains c = false) (d : Nat) (hd : d < h.net.nodes.size) (hdc : d ≠ c) : h.key d ∈ (phase1 h c m des).1.keys := by
  have li : LI h := ⟨w.names, w.io⟩
  have hkn := kindNames_getElem? h d hd
  rw [keys_eq_kindNames, key_of_kn]
  apply List.mem_map_of_mem
  cases des with
  | some dn =>
    rw [(phase1_some_obs h c m dn li hc).1]
    exact List.mem_of_getElem? ((List.getElem?_set_ne hdc.symm).trans hkn)
  | none =>
    exact (phase1_none_obs h c m li hc hio).1.mem_iff.mpr (List.mem_eraseIdx_iff_getElem?.mpr ⟨d, hdc, hkn⟩)

theorem substitute_lenFrame (h m h' : NNet) (c : Nat) (w : WFm h) (fd : FD h.net) (mw : WF m) (hc : c < h.net.nodes.size)
    (hio : c ∉ h.net.io) (hcf : (h.net.node c).isFork = false) (hok : implGenOKB m = true) (ht : targetsOKB m = true)
    (hns : noSelfIgnB h c m = true) (hfresh : addFreshB h c m = true)
    (har : ∀ sh, implShape m = some sh →
      (h.net.node c).ins.length ≤ sh.inPorts.length ∧ (h.net.node c).outs.length ≤ sh.outLines.length)
    (he : substitute h c m = some h') : LenFrame h c h' := by
  obtain ⟨sh, hs, htw⟩ := substitute_twin h m h' c ⟨w, fd, mw, hc, hio, hcf, hok, ht, hns, hfresh, har⟩ he
  obtain ⟨_, _, _, k3, _⟩ := implGenOKB_spec m hok
  intro d j' hd hdc hj' hkey
  rcases htw j' hj' with ⟨x, hx, _, t⟩ | ⟨dn, hdn, e⟩ | hmem
  · have hkx : h.key x = h.key d := by
      rw [← hkey, key_of_kn, key_of_kn, t.1, t.2.1]
    have : x = d := key_inj h w.nodup x d hx hd hkx
    subst this
    exact ⟨t.2.2.1, t.2.2.2⟩
  · exfalso
    have hnp := implShape_des_notPort m mw sh dn hs hdn k3
    have hnf := (implShape_des m mw sh dn hs hdn).2 hnp
    have hkc : h.key c = h.key d := by
      rw [← hkey, key_of_kn h' j', e]
      simp only [NNet.key, keyOfKN, hcf]
      have : ((m.net.node dn).kind == "__fork__") = false := hnf
      rw [this]
    exact hdc (key_inj h w.nodup c d hc hd hkc).symm
  · exfalso
    unfold addFreshB at hfresh
    rw [hs] at hfresh
    simp only [Bool.and_eq_true, decide_eq_true_eq, List.all_eq_true, Bool.not_eq_true'] at hfresh
    have hk : h'.key j' ∈ addedKeys m (h.names.getD c "") sh.des := by
      rw [key_of_kn]; exact List.mem_map_of_mem hmem
    have := hfresh.2 _ hk
    rw [hkey] at this
    have hin := phase1_keeps_key h c m sh.des w hc (by simpa using hio) d hd hdc
    rw [List.contains_eq_mem, decide_eq_false_iff_not] at this
    exact this hin

end KV.Transform
