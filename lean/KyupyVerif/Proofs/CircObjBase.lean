import KyupyVerif.Proofs.Basics
import KyupyVerif.Model.CircObj
/-! Helper lemmas for C09 (object-level circuit model): pin lists, a node or line object before and after an operation (`NodeStep`:
new pin lists; `NodeMoved`: new position; `LineStep`: new index and driver pin), IndexList deletion, dictionaries, `Nodup` and membership of a `filterMap` at the head of the list. -/
namespace KV.CircObj

@[simp] theorem upd_get {α : Type} (f : Heap α) (i : Nat) (v : α) (j : Nat) :
    (upd f i v).get j = if j = i then v else f.get j := rfl

/-- `a` is the node object `b` after an assignment to its pin lists: everything as in `b`, the pin lists are `outs`, `ins`. -/
structure NodeStep (a b : NodeObj) (outs ins : Pins) : Prop where
  name : a.name = b.name
  kind : a.kind = b.kind
  index : a.index = b.index
  alive : a.alive = b.alive
  outs : a.outs = outs
  ins : a.ins = ins

/-- A node object after `Node.remove()` of some node: only its position may change (`idx`), and its liveness unless `other`. -/
structure NodeMoved (a b : NodeObj) (idx : Nat) (other : Prop) : Prop where
  name : a.name = b.name
  kind : a.kind = b.kind
  ins : a.ins = b.ins
  outs : a.outs = b.outs
  index : a.index = idx
  alive : other → a.alive = b.alive

/-- `a` is the line object `b` after a renumbering: both ends as in `b`, position `idx`, driver pin `dpin`. -/
structure LineStep (a b : LineObj) (idx dpin : Nat) : Prop where
  driver : a.driver = b.driver
  reader : a.reader = b.reader
  readerPin : a.readerPin = b.readerPin
  alive : a.alive = b.alive
  index : a.index = idx
  driverPin : a.driverPin = dpin


theorem pin_eq_some_lt {l : Pins} {j x : Nat} (h : pin l j = some x) : j < l.length := lt_of_getD_some h

theorem pin_growSet (l : Pins) (i : Nat) (v : Option Nat) (j : Nat) :
    pin (growSet l i v) j = if j = i then v else pin l j := getD_growSet l i j v
theorem pin_growSet_at (L : Pins) (j D q p : Nat) (v : Option Nat) :
    pin (if j = D then growSet L p v else L) q = if j = D ∧ q = p then v else pin L q := by
  by_cases h1 : j = D <;> by_cases h2 : q = p <;> simp [h1, h2, pin_growSet]

theorem length_growSet (l : Pins) (i : Nat) (v : Option Nat) :
    (growSet l i v).length = max l.length (i + 1) := by
  unfold growSet; split <;> simp <;> omega

theorem freeIndex_le (l : Pins) : freeIndex l ≤ l.length := by
  unfold freeIndex; exact List.findIdx_le_length

theorem pin_freeIndex (l : Pins) : pin l (freeIndex l) = none := by
  unfold pin freeIndex
  simp only [List.getD_eq_getElem?_getD]
  by_cases h : l.findIdx (·.isNone) < l.length
  · have := List.findIdx_getElem (w := h)
    rw [List.getElem?_eq_getElem h]
    cases hx : l[l.findIdx (·.isNone)] <;> simp_all
  · rw [List.getElem?_eq_none (by omega)]; rfl

@[simp] theorem pin_nil (p : Nat) : pin [] p = none := by simp [pin]
@[simp] theorem pin_cons_zero (a : Option Nat) (l : Pins) : pin (a :: l) 0 = a := by simp [pin]
@[simp] theorem pin_cons_succ (a : Option Nat) (l : Pins) (p : Nat) : pin (a :: l) (p + 1) = pin l p := by simp [pin]

theorem pin_eraseIdx (l : Pins) (k p : Nat) : pin (l.eraseIdx k) p = if p < k then pin l p else pin l (p + 1) := by
  unfold pin
  simp only [List.getD_eq_getElem?_getD, List.getElem?_eraseIdx]
  split <;> rfl

theorem growSet_eq_set {l : Pins} {i : Nat} (h : i < l.length) (v : Option Nat) : growSet l i v = l.set i v := by
  simp [growSet, h]

theorem pin_singleton (x : Option Nat) (p : Nat) : pin [x] p = if p = 0 then x else none := by
  cases p <;> simp [pin]

theorem pin_eq_getElem? (l : Pins) (p : Nat) : pin l p = (l[p]?).join := by
  unfold pin
  rw [List.getD_eq_getElem?_getD]
  cases h : l[p]? <;> simp

theorem mem_filterMap_pin {L : Pins} {x : Nat} : x ∈ L.filterMap id ↔ ∃ p, pin L p = some x := mem_filterMap_id L x

theorem filterMap_pin_nodup {L : Pins} (hinj : ∀ p q y, pin L p = some y → pin L q = some y → p = q) :
    (L.filterMap id).Nodup := nodup_filterMap_id L hinj

theorem pin_eq_none_of_forall {L : Pins} (h : ∀ x ∈ L, x = none) (p : Nat) : pin L p = none := by
  cases hp : pin L p with
  | none => rfl
  | some x =>
    have hlt := pin_eq_some_lt hp
    rw [pin_eq_getElem?, List.getElem?_eq_getElem hlt, h _ (List.getElem_mem hlt)] at hp
    cases hp

theorem pin_none_of_any {L : Pins} (h : L.any (·.isSome) = false) (p : Nat) : pin L p = none :=
  getD_none_of_any_isSome h p

theorem all_isNone_pin {l : Pins} (h : l.all (·.isNone) = true) (p : Nat) : pin l p = none :=
  pin_eq_none_of_forall (fun x hx => by simpa using List.all_eq_true.1 h x hx) p

theorem allSome_iff (l : Pins) : l.all (·.isSome) = true ↔ none ∉ l := by
  simp only [List.all_eq_true]
  constructor
  · intro h hn; have := h _ hn; simp at this
  · intro h x hx
    cases x with
    | none => exact absurd hx h
    | some _ => rfl

theorem growSet_end_full {l : Pins} (h : none ∉ l) (x : Nat) : none ∉ growSet l l.length (some x) := by
  unfold growSet; simp [h]

theorem freeIndex_full {l : Pins} (h : none ∉ l) : freeIndex l = l.length := by
  unfold freeIndex
  rw [List.findIdx_eq_length]
  intro x hx
  cases x with
  | none => exact absurd hx h
  | some _ => rfl


/-! ## IndexList.__delitem__: swap-with-last deletion keeps "index = position" -/

theorem idx_inj {l : List Nat} {idx : Nat → Nat} (hidx : ∀ p (h : p < l.length), idx l[p] = p)
    {p q : Nat} (hp : p < l.length) (hq : q < l.length) (h : l[p] = l[q]) : p = q := by
  have h1 := hidx p hp; have h2 := hidx q hq; rw [h] at h1; omega

theorem nodup_of_idx {l : List Nat} (idx : Nat → Nat) (h : ∀ p (hp : p < l.length), idx l[p] = p) : l.Nodup := by
  show List.Pairwise (· ≠ ·) l
  rw [List.pairwise_iff_getElem]
  intro a b ha hb hab heq
  have := idx_inj h ha hb heq
  omega

theorem WFc0.nodes_nodup {m : Circ} (wf : WFc0 m) : m.nodes.Nodup := nodup_of_idx (fun j => (m.nobj j).index) wf.nidx
theorem WFc0.lines_nodup {m : Circ} (wf : WFc0 m) : m.lines.Nodup := nodup_of_idx (fun j => (m.lobj j).index) wf.lidx

theorem idxDel_concat (init : List Nat) (last k : Nat) :
    idxDel (init ++ [last]) k = if k = init.length then (init, none) else (init.set k last, some last) := by
  unfold idxDel
  simp

theorem idxDel_spec (l : List Nat) (idx : Nat → Nat) (hidx : ∀ p (h : p < l.length), idx l[p] = p)
    (k : Nat) (hk : k < l.length) :
    (∀ p (h : p < (idxDel l k).1.length),
        (if (idxDel l k).2 = some (idxDel l k).1[p] then k else idx (idxDel l k).1[p]) = p) ∧
    (∀ j, j ∈ (idxDel l k).1 ↔ j ∈ l ∧ j ≠ l[k]) ∧
    (∀ m, (idxDel l k).2 = some m → m ∈ l ∧ m ≠ l[k]) := by
  have hne : l ≠ [] := by intro h; simp [h] at hk
  obtain ⟨init, last, rfl⟩ : ∃ init last, l = init ++ [last] :=
    ⟨l.dropLast, l.getLast hne, (List.dropLast_concat_getLast hne).symm⟩
  have hi : ∀ p (h : p < init.length), idx init[p] = p := fun p h => by
    have := hidx p (by simp; omega); rwa [List.getElem_append_left h] at this
  have hlast : idx last = init.length := by simpa using hidx init.length (by simp)
  have hpos : ∀ p (h : p < init.length), init[p] ≠ last := fun p h e => by
    have := hi p h; rw [e, hlast] at this; omega
  have hinj := @idx_inj init idx hi
  simp only [List.length_append, List.length_singleton] at hk
  simp only [idxDel_concat]
  by_cases hkl : k = init.length
  · subst hkl
    simp only [if_true, List.getElem_append_right (Nat.le_refl _), Nat.sub_self, List.getElem_cons_zero]
    refine ⟨fun p h => by simpa using hi p h, fun j => ?_, fun m h => nomatch h⟩
    simp only [List.mem_append, List.mem_singleton]
    constructor
    · intro h
      obtain ⟨p, hp, rfl⟩ := List.mem_iff_getElem.1 h
      exact ⟨Or.inl h, hpos p hp⟩
    · rintro ⟨h | h, hne⟩
      · exact h
      · exact absurd h hne
  · have hk2 : k < init.length := by omega
    simp only [hkl, if_false, List.getElem_append_left hk2]
    refine ⟨?_, ?_, fun m h => Option.some.inj h ▸ ⟨by simp, fun e => hpos k hk2 e.symm⟩⟩
    · intro p hp
      simp only [List.length_set] at hp
      rw [List.getElem_set]
      by_cases hpk : k = p
      · simp [hpk]
      · simp [hpk, (hpos p hp).symm, hi p hp]
    · intro j
      rw [List.mem_append, List.mem_singleton]
      constructor
      · intro h
        obtain ⟨p, hp, rfl⟩ := List.mem_iff_getElem.1 h
        simp only [List.length_set] at hp
        rw [List.getElem_set]
        by_cases hpk : k = p
        · rw [if_pos hpk]
          exact ⟨Or.inr rfl, fun e => hpos k hk2 e.symm⟩
        · rw [if_neg hpk]
          exact ⟨Or.inl (List.getElem_mem hp), fun e => hpk (hinj hk2 hp e.symm)⟩
      · rintro ⟨h | rfl, hne⟩
        · obtain ⟨p, hp, rfl⟩ := List.mem_iff_getElem.1 h
          have hpk : k ≠ p := fun e => hne (by subst e; rfl)
          exact List.mem_iff_getElem.2 ⟨p, by simpa using hp, by simp [hpk]⟩
        · exact List.mem_iff_getElem.2 ⟨k, by simpa using hk2, by simp⟩

theorem idxDel_length (l : List Nat) (k : Nat) (hk : k < l.length) : (idxDel l k).1.length = l.length - 1 := by
  unfold idxDel
  split
  · simp
  · cases h : l.getLast? with
    | none => simp [List.getLast?_eq_none_iff] at h; simp [h] at hk
    | some x => simp


theorem sameNode_self (a : NodeObj) : sameNode a a = true := by simp [sameNode]


theorem mem_eraseKey {d : Dict} {k : String} {e : String × Nat} : e ∈ eraseKey d k ↔ e ∈ d ∧ e.1 ≠ k := by
  unfold eraseKey; simp

theorem keysNodup_eraseKey {d : Dict} (k : String) (h : keysNodup d) : keysNodup (eraseKey d k) := by
  unfold keysNodup eraseKey at *
  exact h.sublist (List.Sublist.map _ List.filter_sublist)

theorem hasKey_iff {d : Dict} {k : String} : hasKey d k = true ↔ ∃ v, (k, v) ∈ d := by
  unfold hasKey
  simp only [List.any_eq_true, beq_iff_eq]
  constructor
  · rintro ⟨⟨a, b⟩, h, rfl⟩; exact ⟨b, h⟩
  · rintro ⟨v, h⟩; exact ⟨(k, v), h, rfl⟩

theorem keysNodup_append {d : Dict} {k : String} {v : Nat} (h : keysNodup d) (hk : hasKey d k = false) :
    keysNodup (d ++ [(k, v)]) := by
  unfold keysNodup at *
  rw [List.map_append, List.nodup_append]
  refine ⟨h, by simp, ?_⟩
  intro a ha b hb
  simp at hb; subst hb
  intro hab; subst hab
  have : hasKey d a = true := by
    obtain ⟨e, he, rfl⟩ := List.mem_map.1 ha
    exact hasKey_iff.2 ⟨e.2, he⟩
  simp [this] at hk

theorem pairwise_ne_unique {α β : Type} (f : α → β) {l : List α} (h : l.Pairwise fun a b => f a ≠ f b) {a b : α}
    (ha : a ∈ l) (hb : b ∈ l) (hab : f a = f b) : a = b := inj_of_nodup_map f (List.pairwise_map.mpr h) ha hb hab

theorem keys_unique {d : Dict} (h : keysNodup d) {k : String} {a b : Nat} (ha : (k, a) ∈ d) (hb : (k, b) ∈ d) : a = b := by
  have hp : d.Pairwise fun x y => x.1 ≠ y.1 := List.pairwise_map.1 (show (d.map (·.1)).Pairwise (· ≠ ·) from h)
  exact (Prod.mk.inj (pairwise_ne_unique (·.1) hp ha hb rfl)).2

theorem lookup_eq_some {d : Dict} (h : keysNodup d) {k : String} {v : Nat} : lookup d k = some v ↔ (k, v) ∈ d := by
  unfold lookup
  constructor
  · intro hl
    simp only [Option.map_eq_some_iff] at hl
    obtain ⟨e, he, rfl⟩ := hl
    have h1 := List.find?_some he
    have h2 := List.mem_of_find?_eq_some he
    simp at h1; subst h1; exact h2
  · intro hm
    cases hf : d.find? (·.1 == k) with
    | none =>
      have := List.find?_eq_none.1 hf _ hm
      simp at this
    | some e =>
      have h1 := List.find?_some hf
      have h2 := List.mem_of_find?_eq_some hf
      simp at h1
      have : (k, e.2) ∈ d := by rw [← h1]; exact h2
      simp [keys_unique h this hm]

theorem dictVals_nodup {d : Dict} (name : Nat → String) (hk : keysNodup d) (hs : ∀ e ∈ d, name e.2 = e.1) :
    (d.map (·.2)).Nodup := by
  rw [List.nodup_iff_pairwise_ne, List.pairwise_map, List.pairwise_iff_getElem]
  intro p q hp hq hpq heq
  have h1 := hs _ (List.getElem_mem hp)
  have h2 := hs _ (List.getElem_mem hq)
  rw [heq] at h1
  have hkeq : d[p].1 = d[q].1 := by rw [← h1, ← h2]
  unfold keysNodup at hk
  exact (List.pairwise_iff_getElem.1 (List.pairwise_map.1 (List.nodup_iff_pairwise_ne.1 hk))) p q hp hq hpq hkeq


theorem nodup_filterMap_cons {α β : Type} {f : α → Option β} {k : α} {rest : List α} (h : ((k :: rest).filterMap f).Nodup) :
    (rest.filterMap f).Nodup ∧ ∀ b, f k = some b → b ∉ rest.filterMap f := by
  cases hk : f k with
  | none => simp only [List.filterMap_cons, hk] at h; exact ⟨h, nofun⟩
  | some x =>
    simp only [List.filterMap_cons, hk] at h
    exact ⟨(List.nodup_cons.1 h).2, fun b e => by cases e; exact (List.nodup_cons.1 h).1⟩

theorem filterMap_none {α β : Type} (l : List α) : l.filterMap (fun _ => (none : Option β)) = [] := by
  induction l <;> simp_all

theorem nodup_filterMap_of_inj {α β : Type} (f : α → Option β) : ∀ (L : List α), L.Nodup →
    (∀ a ∈ L, ∀ b ∈ L, ∀ y, f a = some y → f b = some y → a = b) → (L.filterMap f).Nodup :=
  fun _ hnd hinj => List.pairwise_filterMap.2
    (hnd.imp_of_mem fun ha hb hne y hy _ hy' e => hne (hinj _ ha _ hb y hy (e ▸ hy')))

theorem mem_filterMap_cons {α β : Type} {f : α → Option β} {k : α} {rest : List α} {b : β} :
    b ∈ (k :: rest).filterMap f ↔ f k = some b ∨ b ∈ rest.filterMap f := by
  cases hk : f k <;> simp [hk, eq_comm]

end KV.CircObj
