import KyupyVerif.Proofs.CircOuts
import KyupyVerif.Proofs.BenchForks
import KyupyVerif.Proofs.BenchEnd
/-! The scheduler's domain hypotheses for `benchNet stmts`, from conditions on the DESCRIPTION: for a closed description
(`benchClosedB`) `forksOKB` holds for every order (`bench_forksOK`); if moreover every combinational kind is known to the
simulator's prefix table (`benchKnownB`) and the order covers every node, every line is scheduled (`bench_linesDriven`). -/
namespace KV.Netlist
open KV

variable {stmts : List BStmt}

/-- every combinational gate kind is known to `SimOps` (generated prefix table) in the arity variant its operand count selects -/
def benchKnownB (stmts : List BStmt) : Bool :=
  (benchGates stmts).all fun g => isSeqKind g.kind ||
    (selectPrim Gen.kindPrefixes g.kind.toLower (decide (2 < g.drv.length)) (decide (3 < g.drv.length))).isSome

structure BenchClosed (stmts : List BStmt) : Prop where
  ok : BenchOK stmts
  lkinds : ∀ g ∈ benchGates stmts, g.kind.toLower ≠ forkKind
  drv : ∀ g ∈ benchGates stmts, ∀ d ∈ g.drv, isGateName stmts d = true ∨ d ∈ benchPorts stmts

theorem benchClosed_of (stmts : List BStmt) (h : benchClosedB stmts = true) : BenchClosed stmts := by
  unfold benchClosedB at h
  simp only [Bool.and_eq_true, List.all_eq_true, bne_iff_ne, ne_eq, Bool.or_eq_true, List.contains_eq_mem, decide_eq_true_eq] at h
  exact ⟨benchOK_of stmts h.1, fun g hg => (h.2 g hg).1, fun g hg d hd => (h.2 g hg).2 d hd⟩

theorem gateLines_cell_drivers (g : BGate) : ((gateLines g).map (·.1)).filter isCellEp = [Ep.cell g.name 0] := by
  unfold gateLines
  simp only [List.map_cons, List.filter_cons, isCellEp, if_true, List.map_map]
  congr 1
  exact List.filter_eq_nil_iff.mpr fun a ha => by obtain ⟨_, _, rfl⟩ := List.mem_map.mp ha; simp [isCellEp]

theorem benchL_cell_drivers (hok : BenchOK stmts) : (((benchL stmts).map (·.1)).filter isCellEp).Nodup := by
  have : ((benchL stmts).map (·.1)).filter isCellEp = (benchGates stmts).map fun g => Ep.cell g.name 0 := by
    unfold benchL
    rw [List.map_flatMap, List.filter_flatMap, List.map_eq_flatMap]
    exact flatMap_congr fun g _ => gateLines_cell_drivers g
  rw [this]
  exact nodup_map_of_imp (·.name) (fun g : BGate => Ep.cell g.name 0) (fun x y h => by simpa using h) _ hok.nd

theorem benchNet_outPin (hok : BenchOK stmts) (i : Nat) (hi : i < (benchL stmts).length) :
    ((benchNet stmts).node ((bench stmts).nodeIdx (benchL stmts)[i].1)).outPin
      (dpinOf ((benchL stmts).take i) (benchL stmts)[i].1) = some i := by
  have := toNet_outPin_line (bench stmts) (bench stmts).ioBench (bench_resolved_all hok)
    (by rw [bench_flat]; exact benchL_cell_drivers hok) i (by rw [bench_flat]; exact hi)
  simp only [bench_flat] at this
  exact this

theorem benchNet_line (i : Nat) (hi : i < (benchL stmts).length) :
    (benchNet stmts).line i = ⟨(bench stmts).nodeIdx (benchL stmts)[i].1, dpinOf ((benchL stmts).take i) (benchL stmts)[i].1,
      (bench stmts).nodeIdx (benchL stmts)[i].2, (benchL stmts)[i].2.rpin⟩ := by
  have := toNet_line (bench stmts) (bench stmts).ioBench i (by rw [bench_flat]; exact hi)
  simp only [bench_flat] at this
  exact this

theorem benchNet_inPin (e : Ep) (he : (bench stmts).resolved e) :
    ((benchNet stmts).node ((bench stmts).nodeIdx e)).inPin e.rpin = inLineOf (benchL stmts) e := by
  have := toNet_inPin_ep (bench stmts) (bench stmts).ioBench e he
  rw [bench_flat] at this
  exact this

theorem benchNet_nodes_size : (benchNet stmts).nodes.size = (bench stmts).nodes.length := by
  unfold benchNet; exact toNet_nodes_size _ _

theorem bench_fork_node (hcl : BenchClosed stmts) (n : Nat) (hn : n < (bench stmts).nodes.length)
    (hl : ((benchNet stmts).node n).lkind = "__fork__") :
    ∃ s, (bench stmts).nodeIdx (.fork s) = n ∧ (bench stmts).resolved (.fork s) ∧ ((benchNet stmts).node n).isFork = true ∧
      s ∈ forkNames (bench stmts) := by
  have hk : ((benchNet stmts).node n).kind = ((bench stmts).nodes[n]).kind := by
    unfold benchNet; exact toNet_node_kind _ _ n hn
  have hfork : ((bench stmts).nodes[n]).kind = forkKind := by
    by_cases hf : ((bench stmts).nodes[n]).kind = forkKind
    · exact hf
    · exfalso
      have hmem : (bench stmts).nodes[n] ∈ cellsOf (bench stmts) := by
        unfold cellsOf
        exact List.mem_filter.mpr ⟨List.getElem_mem hn, by simp [hf]⟩
      rw [bench_cells stmts hcl.ok.kinds] at hmem
      obtain ⟨g, hg, hgn⟩ := List.mem_map.mp hmem
      have : g.kind.toLower = forkKind := by
        have h2 : ((bench stmts).nodes[n]).kind = g.kind := by rw [← hgn]; rfl
        unfold NodeD.lkind at hl
        rw [hk, h2] at hl
        exact hl
      exact hcl.lkinds g hg this
  have hidx := nodeIdx_fork_unique (bench stmts) (finv_bench stmts hcl.ok.kinds).1 n _ (List.getElem?_eq_getElem hn) hfork
  refine ⟨((bench stmts).nodes[n]).name, hidx, by unfold Circ.resolved; rw [hidx]; exact hn, ?_, ?_⟩
  · unfold NodeD.isFork; rw [hk, hfork]; rfl
  · unfold forkNames
    exact List.mem_map.mpr ⟨_, List.mem_filter.mpr ⟨List.getElem_mem hn, by simp [hfork]⟩, rfl⟩

theorem bench_forksOK (hcl : BenchClosed stmts) (order : List Nat) : forksOKB (benchNet stmts) order = true := by
  unfold forksOKB
  rw [List.all_eq_true]
  intro n _
  by_cases hn : n < (bench stmts).nodes.length
  · by_cases hl : ((benchNet stmts).node n).lkind = "__fork__"
    · obtain ⟨s, hidx, hres, hfk, hsn⟩ := bench_fork_node hcl n hn hl
      have h123 : ∀ k, ((benchNet stmts).node n).inPin (k + 1) = none := by
        intro k
        rw [← hidx]
        unfold benchNet
        exact toNet_inPin_fork_succ _ _ s k hres
      have h0 : ((benchNet stmts).node n).inPin 0 = inLineOf (benchL stmts) (.fork s) := by
        rw [← hidx]; exact benchNet_inPin (.fork s) hres
      simp only [hl, beq_self_eq_true, Bool.not_true, Bool.false_or, hfk, h123, Option.isNone_none, Bool.and_true, Bool.true_and, h0]
      cases hin : inLineOf (benchL stmts) (.fork s) with
      | some l0 =>
        -- every line is listed at the output pin of its driver
        obtain ⟨p, hp1, _⟩ := inLineOf_some _ _ _ hin
        have hl0 := (List.getElem?_eq_some_iff.mp hp1).1
        have hout := benchNet_outPin hcl.ok l0 hl0
        unfold NodeD.outPin at hout
        simp only [benchNet_line l0 hl0, hout, beq_self_eq_true]
      | none =>
        simp only
        have hng : isGateName stmts s = false := by
          have := inLineOf_isSome (benchL stmts) (.fork s)
          rw [hin, any_reader_fork] at this
          simpa using this.symm
        have hport : s ∈ benchPorts stmts := by
          rcases List.mem_append.mp ((finv_bench stmts hcl.ok.kinds).2 s hsn) with h | h
          · exact h
          · -- a signal is a gate name or an operand, and an operand of a closed description is a gate name or a port
            rw [benchSigs_eq] at h
            obtain ⟨p, hp, rfl⟩ := List.mem_map.mp h
            obtain ⟨g, hg, rfl | ⟨k, hk, rfl⟩⟩ := (mem_benchL stmts p).mp hp
            · exact absurd ((isGateName_iff stmts g.name).mpr ⟨g, hg, rfl⟩) (by simp [show isGateName stmts g.name = false from hng])
            · exact (hcl.drv g hg _ (List.getElem_mem hk)).resolve_left (by simp [show isGateName stmts g.drv[k] = false from hng])
        have := benchNet_sPos_fork hcl.ok s hres
        rw [hidx] at this
        unfold Net.sPos at this
        rw [this]
        simp [hport]
    · have : (((benchNet stmts).node n).lkind == "__fork__") = false := by simpa using hl
      simp [this]
  · rw [Transform.node_ge_size _ (by rw [benchNet_nodes_size]; omega)]
    have hlk : ((default : NodeD).lkind == "__fork__") = false := by decide +kernel
    simp [hlk]

theorem row_of_out {tbl : List PrefixRow} {net : Net} {order : List Nat} {n : Nat} (hn : n ∈ order) {r : OpRow}
    (hr : r ∈ nodeOpsS tbl net net.sNodes net.idx false n) : r ∈ genOps tbl net order false := by
  unfold genOps
  exact List.mem_flatMap.mpr ⟨n, hn, hr⟩

theorem fork_rows (tbl : List PrefixRow) (net : Net) (n l k : Nat) (hfk : (net.node n).isFork = true)
    (hout : (net.node n).outs[k]? = some (some l)) : ∃ r ∈ nodeOpsS tbl net net.sNodes net.idx false n, r.out = l := by
  have hlk := (fork_not_seq hfk).2
  have hdff : (net.node n).isDff = false := by
    unfold NodeD.isDff
    rw [hlk]; decide +kernel
  have hmem : (some l, k) ∈ (net.node n).outs.zipIdx := List.mem_zipIdx_iff_getElem?.mpr (by simpa using hout)
  unfold nodeOpsS
  simp only
  split
  · -- interface node that is an undriven fork: one BUF per output
    rename_i p _
    refine ⟨⟨BUF1, l, net.idx.ppi + p, net.idx.zero, net.idx.zero, net.idx.zero⟩, ?_, rfl⟩
    simp only [hdff, Bool.false_eq_true, if_false, Bool.false_and, List.mem_filterMap]
    exact ⟨(some l, k), hmem, rfl⟩
  · simp only [hlk, beq_self_eq_true, if_true, Bool.false_eq_true, if_false, List.mem_filterMap]
    exact ⟨_, ⟨(some l, k), hmem, rfl⟩, rfl⟩

theorem comb_row (tbl : List PrefixRow) (net : Net) (n sp : Nat) (hnf : (net.node n).isFork = false)
    (hlk : ((net.node n).lkind == "__fork__") = false) (hsp : sPosIn net.sNodes n = none)
    (hsel : selectPrim tbl (net.node n).lkind (((net.node n).inPin 2).getD net.idx.zero != net.idx.zero)
      (((net.node n).inPin 3).getD net.idx.zero != net.idx.zero) = some sp) :
    ∃ r ∈ nodeOpsS tbl net net.sNodes net.idx false n, r.out = ((net.node n).outPin 0).getD net.idx.tmp := by
  unfold nodeOpsS
  simp only [hnf, Bool.false_and, Bool.false_eq_true, if_false, hsp, hlk, hsel]
  exact ⟨_, List.mem_singleton.mpr rfl, rfl⟩

/-- the dumped node of the cell of gate statement `g` -/
abbrev cellNode (stmts : List BStmt) (g : BGate) : NodeD := (benchNet stmts).node ((bench stmts).nodeIdx (.cell g.name 0))

theorem bench_linesDriven (hcl : BenchClosed stmts) (hkn : benchKnownB stmts = true) (order : List Nat)
    (hcov : ∀ n, n < (bench stmts).nodes.length → n ∈ order) :
    linesDrivenB Gen.kindPrefixes (benchNet stmts) order = true := by
  have hok := hcl.ok
  unfold linesDrivenB
  rw [List.all_eq_true]
  intro l hl
  rw [List.mem_range, benchNet_lines_size] at hl
  simp only [List.contains_eq_mem, decide_eq_true_eq, List.mem_map]
  have hres := bench_resolved_driver hok _ (List.getElem_mem hl)
  have hout := outPin_some (benchNet_outPin hok l hl)
  have hnin := hcov _ hres
  obtain ⟨g, hg, h | ⟨k, hk, h⟩⟩ := (mem_benchL stmts _).mp (List.getElem_mem hl)
  · -- the line from the cell of gate `g` to its fork
    rw [h] at hres hout hnin
    simp only [dpinOf] at hout
    have hkind : (cellNode stmts g).kind = g.kind := (toNet_kind _ _ _ hres).trans (bench_kindOf_cell hok g hg 0)
    have hnf : (cellNode stmts g).isFork = false := by
      unfold NodeD.isFork; rw [hkind]
      have := List.all_eq_true.mp hok.kinds g hg
      have h2 : g.kind ≠ "__fork__" := by simpa [forkKind] using this
      simp [h2]
    have hsp := benchNet_sPos_cell hok g hg 0
    unfold Net.sPos at hsp
    have hmem : (some l, 0) ∈ (cellNode stmts g).outs.zipIdx :=
      List.mem_zipIdx_iff_getElem?.mpr (by simpa using hout)
    by_cases hseq : isSeqKind g.kind = true
    · -- a state element: the interface row of `nodeOpsS` (its branch for a node in `s_nodes` with a driven output)
      refine ⟨⟨if (cellNode stmts g).isDff && (0 == 1) then INV1 else BUF1, l,
        (benchNet stmts).idx.ppi + benchSPos stmts (.cell g.name 0), (benchNet stmts).idx.zero, (benchNet stmts).idx.zero,
        (benchNet stmts).idx.zero⟩, row_of_out hnin ?_, rfl⟩
      unfold nodeOpsS
      simp only [hnf, Bool.false_and, Bool.false_eq_true, if_false, hsp, hseq, if_true, List.mem_filterMap]
      refine ⟨(some l, 0), ?_, rfl⟩
      split
      · have : (some l, 0) ∈ ((cellNode stmts g).outs.take 2).zipIdx := by
          apply List.mem_zipIdx_iff_getElem?.mpr
          simp only [List.getElem?_take, Nat.zero_lt_succ, if_true]
          simpa using hout
        exact this
      · exact hmem
    · -- a combinational cell: one row on its first output
      have hseq' : isSeqKind g.kind = false := by simpa using hseq
      have hlk : ((cellNode stmts g).lkind == "__fork__") = false := by
        unfold NodeD.lkind; rw [hkind]
        have h2 : g.kind.toLower ≠ "__fork__" := hcl.lkinds g hg
        simp [h2]
      have hpin : ∀ k, ((cellNode stmts g).inPin k).isSome = decide (k < g.drv.length) := by
        intro k
        have := benchNet_inPin (.cell g.name k) (bench_resolved_cell hok g hg k)
        rw [nodeIdx_cell_pin _ g.name k 0] at this
        simp only [Ep.rpin] at this
        rw [this, inLineOf_isSome, any_reader_cell stmts hok g hg k]
      have hne : ∀ k, (((cellNode stmts g).inPin k).getD (benchNet stmts).idx.zero !=
          (benchNet stmts).idx.zero) = decide (k < g.drv.length) :=
        fun k => (getD_ne_zero (toNet_wf _ _) _ k).trans (hpin k)
      have hsel := List.all_eq_true.mp hkn g hg
      rw [hseq', Bool.false_or] at hsel
      obtain ⟨sp, hsp'⟩ := Option.isSome_iff_exists.mp hsel
      have ho0 : ((cellNode stmts g).outPin 0).getD (benchNet stmts).idx.tmp = l := by
        unfold NodeD.outPin
        rw [List.getD_eq_getElem?_getD, hout]; rfl
      have hsp0 : sPosIn (benchNet stmts).sNodes ((bench stmts).nodeIdx (.cell g.name 0)) = none := by
        rw [hsp, hseq']; rfl
      obtain ⟨r, hr, hro⟩ := comb_row Gen.kindPrefixes (benchNet stmts) _ sp hnf hlk hsp0 (by
        rw [hne 2, hne 3]
        unfold NodeD.lkind
        rw [hkind]
        exact hsp')
      exact ⟨r, row_of_out hnin hr, by rw [hro, ho0]⟩
  · -- a line that leaves a fork
    rw [h] at hres hout hnin
    have hfk : ((benchNet stmts).node ((bench stmts).nodeIdx (.fork g.drv[k]))).isFork = true := by
      unfold NodeD.isFork benchNet
      rw [toNet_node_kind _ _ _ hres, (resolved_fork_spec _ _ hres).1]
      rfl
    obtain ⟨r, hr, hro⟩ := fork_rows Gen.kindPrefixes (benchNet stmts) _ l _ hfk hout
    exact ⟨r, row_of_out hnin hr, hro⟩

end KV.Netlist
