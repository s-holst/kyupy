import KyupyVerif.Proofs.BenchCirc
/-! The forks of the bench circuit: pairwise different names, every fork a port or a signal of a gate statement (the two
halves of `FInv`, established by `finv_bench`). -/
namespace KV.Netlist
open KV

theorem forkNames_getOrAddFork (C : Circ) (n : String) :
    forkNames (getOrAddFork C n) = if C.isFork n then forkNames C else forkNames C ++ [n] := by
  unfold getOrAddFork
  split
  · rfl
  · simp [forkNames, Circ.addFork, List.filter_append]

theorem forkNames_addCell (C : Circ) (k n : String) (hk : k ≠ forkKind) : forkNames (C.addCell k n) = forkNames C := by
  have : (k == forkKind) = false := by simp [hk]
  simp [forkNames, Circ.addCell, List.filter_append, this]

/-- invariant of the construction: fork names pairwise different, all among the names `S` seen so far -/
def FInv (S : List String) (C : Circ) : Prop := (forkNames C).Nodup ∧ ∀ x ∈ forkNames C, x ∈ S

theorem finv_getOrAddFork (S : List String) (C : Circ) (n : String) (h : FInv S C) (hn : n ∈ S) : FInv S (getOrAddFork C n) := by
  rw [FInv, forkNames_getOrAddFork]
  by_cases hf : C.isFork n = true
  · simp only [hf, if_true]; exact h
  · simp only [hf, Bool.false_eq_true, if_false]
    refine ⟨?_, ?_⟩
    · rw [List.nodup_append]
      refine ⟨h.1, by simp, ?_⟩
      intro a ha b hb hab
      simp only [List.mem_singleton] at hb
      subst hb; subst hab
      apply hf
      rw [isFork_eq_contains]
      simpa using ha
    · intro x hx
      rcases List.mem_append.mp hx with hx | hx
      · exact h.2 x hx
      · simp only [List.mem_singleton] at hx; subst hx; exact hn

theorem finv_foldl_getOrAddFork (S : List String) (l : List String) (C : Circ) (h : FInv S C) (hl : ∀ n ∈ l, n ∈ S) :
    FInv S (l.foldl getOrAddFork C) :=
  foldl_inv getOrAddFork (FInv S) (fun C n hn h => finv_getOrAddFork S C n h (hl n hn)) h

theorem finv_mono {S S' : List String} {C : Circ} (h : FInv S C) (hs : ∀ x ∈ S, x ∈ S') : FInv S' C :=
  ⟨h.1, fun x hx => hs x (h.2 x hx)⟩

theorem finv_benchStmt (S : List String) (C : Circ) (s : BStmt) (h : FInv S C) (hs : ∀ x ∈ portsOf s ++ sigsOf s, x ∈ S)
    (hk : ∀ g, gateOf s = some g → g.kind ≠ forkKind) : FInv S (benchStmt C s) := by
  cases s with
  | intf ns =>
    exact finv_foldl_getOrAddFork S ns C h (fun n hn => hs n (by simp [portsOf, hn]))
  | gate n k d =>
    have hk' : k ≠ forkKind := hk ⟨n, k, d⟩ rfl
    have h1 := finv_foldl_getOrAddFork S d C h (fun x hx => hs x (by simp [sigsOf, hx]))
    have h2 : FInv S ((d.foldl getOrAddFork C).addCell k n) := by
      unfold FInv
      rw [forkNames_addCell _ _ _ hk']
      exact h1
    exact finv_getOrAddFork S _ n h2 (hs n (by simp [sigsOf]))

theorem finv_bench (stmts : List BStmt) (hk : ((benchGates stmts).all fun g => g.kind != forkKind) = true) :
    FInv (benchPorts stmts ++ benchSigs stmts) (bench stmts) := by
  refine foldl_inv benchStmt (FInv _) (fun C s hs h => finv_benchStmt _ C s h (fun x hx => ?_) (fun g hg => ?_))
    ⟨by simp [forkNames], by simp [forkNames]⟩
  · rcases List.mem_append.mp hx with hx | hx
    · exact List.mem_append_left _ (List.mem_flatMap.mpr ⟨s, hs, hx⟩)
    · exact List.mem_append_right _ (List.mem_flatMap.mpr ⟨s, hs, hx⟩)
  · simpa using List.all_eq_true.mp hk g (List.mem_filterMap.mpr ⟨s, hs, hg⟩)

end KV.Netlist
