import KyupyVerif.Proofs.DefTextRead
/-! Round trip of the DEF text model: `parseDefL (printDefL f) = some f` for every valid tree `f`; at the end the hand-over to the
routing model: the width token of a wire as `int()` reads it (`intTok?_ofList`, `toWire_widthVal`, used by Props/C20). -/
namespace KV.DefText
open KV.TextLex

theorem Lx_file (st : St) (hst : st = sStart ∨ st = sFile) (k : Kw)
    (hk : k = .Version ∨ k = .Dividerchar ∨ k = .Busbitchars ∨ k = .Design) : Lx st (.lit k) k.chars := by
  rcases hst with rfl | rfl <;> rcases hk with rfl | rfl | rfl | rfl <;> exact Lx_lit _ _ (by decide)

theorem nextD_end (st : St) (hst : st = sStart ∨ st = sFile) : nextD st ['\n'] = some (.eof, []) := by
  have : next L st.1 ['\n'] = some (.eof, []) := by
    rcases hst with rfl | rfl <;>
      (rw [next_ign L _ ['\n'] .ign [] [] (by simp [sStart, sFile, first, L, Tm.run, ignM, isWs]) rfl (by simp)]; rfl)
  simp [nextD, this]

theorem pFile_enc (N : Nat) (fs : List FStmt) (h : fs.all FStmt.valid = true) (hN : (fs.flatMap FStmt.toks).length < N)
    (st : St) (hst : st = sStart ∨ st = sFile) :
    pFile N N st (enc (fs.flatMap FStmt.toks ++ []) ++ ['\n']) = some (fs, []) := by
  have hR := wsHead_nl
  refine loop_read_st (pFile N) (fun st => st = sStart ∨ st = sFile) _ _ enc List.length _ _ _ N
    (fun _ _ => List.length_append) (fun f _ => by cases f <;> simp [FStmt.toks]) (fun st hst n => ?_)
    (fun st hst n f T v hv hl ih => ?_) fs h hN st hst
  · simp [pFile, enc, nextD_end st hst]
  · have ih' := ih sFile (Or.inr rfl)
    cases f with
    | version x =>
      simp only [FStmt.toks, List.cons_append, List.nil_append, pFile,
        nextD_enc (Lx_file st hst .Version (by simp)) hR, pSeq, expect_enc (Lx_id x hv) hR, expect_enc Lx_semi hR,
        ih', Option.map_some]
    | dividerchar x =>
      simp only [FStmt.toks, List.cons_append, List.nil_append, pFile,
        nextD_enc (Lx_file st hst .Dividerchar (by simp)) hR, pSeq, expect_enc (Lx_str x hv) hR, expect_enc Lx_semi hR,
        ih', Option.map_some]
    | busbitchars x =>
      simp only [FStmt.toks, List.cons_append, List.nil_append, pFile,
        nextD_enc (Lx_file st hst .Busbitchars (by simp)) hR, pSeq, expect_enc (Lx_str x hv) hR, expect_enc Lx_semi hR,
        ih', Option.map_some]
    | design name ss =>
      simp only [FStmt.valid, Bool.and_eq_true] at hv
      simp only [FStmt.toks, List.length_cons, List.length_append] at hl
      simp only [FStmt.toks, List.cons_append, List.append_assoc, List.nil_append, pFile,
        nextD_enc (Lx_file st hst .Design (by simp)) hR, pSeq, expect_enc (Lx_id name hv.1) hR, expect_enc Lx_semi hR,
        pDesign_enc N hR ss hv.2 (by omega), expect_enc (Lx_one .Design) hR, ih', Option.map_some]

theorem enc_len (ts : List Txt) : ts.length ≤ (enc ts).length :=
  length_le_flatMap _ ts (by intro t _; simp)

theorem nextD_skip_nl (X : List Char) (hX : WsHead X) : nextD sFile ('\n' :: X) = nextD sFile X := by
  obtain ⟨c, R, rfl, hc⟩ := hX
  have hc' : c ≠ '#' := by intro e; subst e; simp [isWs] at hc
  have : next L sFile.1 ('\n' :: c :: R) = next L sFile.1 (c :: R) :=
    next_ign L _ _ .ign [] (c :: R) (by simp [sFile, first, L, Tm.run, ignM, isWs, hc']) rfl (by simp)
  simp only [nextD, this]

theorem pFile_skip_nl (N n : Nat) (X : List Char) (hX : WsHead X) :
    pFile N (n + 1) sFile ('\n' :: X) = pFile N (n + 1) sFile X := by
  simp only [pFile, nextD_skip_nl X hX]

theorem vHead_spec (h : Txt) (hv : vHead h = true) : ∃ body, h = '#' :: body ∧ ∀ y ∈ body, notNl y = true := by
  cases h with
  | nil => simp [vHead] at hv
  | cons c r =>
    simp only [vHead, Bool.and_eq_true, decide_eq_true_eq, List.all_eq_true] at hv
    exact ⟨r, by rw [hv.1], hv.2⟩

theorem nextD_head (h : Txt) (hv : vHead h = true) (X : List Char) :
    nextD sStart (h ++ '\n' :: X) = some (.tok .headComment h, '\n' :: X) := by
  obtain ⟨body, rfl, hb⟩ := vHead_spec h hv
  have hsp := spanP_append notNl body ('\n' :: X) hb (by intro c r e; cases e; decide)
  have : next L sStart.1 ('#' :: body ++ '\n' :: X) = some (.tok .headComment ('#' :: body), '\n' :: X) :=
    next_tok L _ _ .headComment _ _
      (by simp [sStart, first, L, Tm.run, ignM, isWs, headM, hsp]) rfl (by simp)
  simp only [List.cons_append] at this ⊢
  simp [nextD, this]

theorem parseTree_print (f : DefFile) (h : f.valid = true) : parseTree (printDefL f) = some f := by
  obtain ⟨head, stmts⟩ := f
  simp only [DefFile.valid, Bool.and_eq_true] at h
  obtain ⟨hh, hs⟩ := h
  have hl := enc_len (stmts.flatMap FStmt.toks)
  cases head with
  | none =>
    have hlen : (printDefL ⟨none, stmts⟩).length = (enc (stmts.flatMap FStmt.toks)).length + 1 := by simp [printDefL]
    have hP := pFile_enc ((printDefL ⟨none, stmts⟩).length + 1) stmts hs (by omega) sStart (Or.inl rfl)
    -- not named again: `simp only [hP, …]` below takes it from the context to discharge the side condition of the
    -- catch-all arm of `parseTree`'s match (the first token is no head comment)
    have hnot : ∀ x r, nextD sStart (printDefL ⟨none, stmts⟩) ≠ some (.tok .headComment x, r) := by
      intro x r
      cases stmts with
      | nil => simp [printDefL, enc, nextD_end sStart (Or.inl rfl)]
      | cons s ss =>
        have hk : ∃ k rest, s.toks = K k :: rest ∧ (k = .Version ∨ k = .Dividerchar ∨ k = .Busbitchars ∨ k = .Design) := by
          cases s with
          | version v => exact ⟨.Version, _, rfl, by simp⟩
          | dividerchar v => exact ⟨.Dividerchar, _, rfl, by simp⟩
          | busbitchars v => exact ⟨.Busbitchars, _, rfl, by simp⟩
          | design n ss => exact ⟨.Design, _, rfl, by simp⟩
        obtain ⟨k, rest, e, hk⟩ := hk
        simp only [printDefL, List.nil_append, List.flatMap_cons, e, List.cons_append,
          nextD_enc (Lx_file sStart (Or.inl rfl) k hk) wsHead_nl]
        simp
    unfold parseTree
    simp only
    generalize (printDefL ⟨none, stmts⟩).length = n at hP ⊢
    simp only [printDefL, List.nil_append, List.append_nil] at hP ⊢
    simp only [hP, Option.map_some]
  | some hd =>
    have hlen : (printDefL ⟨some hd, stmts⟩).length = hd.length + 1 + ((enc (stmts.flatMap FStmt.toks)).length + 1) := by
      simp [printDefL]; omega
    have hP := pFile_enc ((printDefL ⟨some hd, stmts⟩).length + 1) stmts hs (by omega) sFile (Or.inr rfl)
    have hX : WsHead (enc (stmts.flatMap FStmt.toks) ++ ['\n']) := wsHead_enc _ _ wsHead_nl
    unfold parseTree
    simp only
    generalize (printDefL ⟨some hd, stmts⟩).length = n at hP ⊢
    simp only [printDefL, List.append_assoc, List.cons_append, List.nil_append, List.append_nil, nextD_head hd hh,
      pFile_skip_nl _ _ _ hX] at hP ⊢
    simp only [hP, Option.map_some]

theorem TItem.ok_of_valid (sp : Bool) (it : TItem) (h : it.valid sp = true) : it.ok = true := by
  cases it with
  | pt p => exact h
  | via v o => rfl
  | arr v d =>
    simp only [TItem.valid, Bool.and_eq_true] at h
    exact h.2

theorem all_imp {α : Type} (p q : α → Bool) (l : List α) (hpq : ∀ x, p x = true → q x = true) (h : l.all p = true) :
    l.all q = true := by
  rw [List.all_eq_true] at h ⊢
  exact fun x hx => hpq x (h x hx)

theorem TWire.ok_of_valid (sp : Bool) (w : TWire) (h : w.valid sp = true) : w.ok = true := by
  simp only [TWire.valid, Bool.and_eq_true] at h
  simp only [TWire.ok, Bool.and_eq_true]
  exact ⟨h.1.1.1.2, all_imp _ _ _ (TItem.ok_of_valid sp) h.1.2⟩

theorem NetPart.ok_of_valid (sp : Bool) (p : NetPart) (h : p.valid sp = true) : p.ok = true := by
  cases p with
  | pin a b => rfl
  | opt k v => rfl
  | wiring k ws =>
    simp only [NetPart.valid, Bool.and_eq_true] at h
    exact all_imp _ _ _ (TWire.ok_of_valid sp) h.2

theorem TNet.ok_of_valid (sp : Bool) (n : TNet) (h : n.valid sp = true) : n.ok = true := by
  simp only [TNet.valid, Bool.and_eq_true] at h
  exact all_imp _ _ _ (NetPart.ok_of_valid sp) h.1.2

theorem TViaOpt.ok_of_valid (o : TViaOpt) (h : o.valid = true) : o.ok = true := by
  obtain ⟨k, args⟩ := o
  cases k
  case Enclosure | Cutsize | Cutspacing | Rowcol => simp only [TViaOpt.valid, Bool.and_eq_true] at h; exact h.2
  case Viarule | Pattern | Layers => rfl
  all_goals (simp [TViaOpt.valid] at h)

theorem PinOpt.ok_of_valid (o : PinOpt) (h : o.valid = true) : o.ok = true := by
  cases o with
  | word k v => rfl
  | flag k => rfl
  | layer l p q =>
    simp only [PinOpt.valid, Bool.and_eq_true] at h
    simp only [PinOpt.ok, Bool.and_eq_true]
    exact ⟨h.1.2, h.2⟩
  | placed p o =>
    simp only [PinOpt.valid, Bool.and_eq_true] at h
    exact h.1

theorem DStmt.ok_of_valid (s : DStmt) (h : s.valid = true) : s.ok = true := by
  cases s <;> simp only [DStmt.valid, Bool.and_eq_true] at h
  case units a b u => exact h.2
  case diearea ps => exact h.2
  case row a b x y o d =>
    simp only [DStmt.ok, Bool.and_eq_true]
    exact ⟨⟨h.1.1.1.2, h.1.1.2⟩, h.2⟩
  case tracks d st c sp l =>
    simp only [DStmt.ok, Bool.and_eq_true]
    exact ⟨⟨h.1.1.1.2, h.1.1.2⟩, h.1.2⟩
  case propdef | nondef | pinprop => rfl
  case vias c vs =>
    exact all_imp _ _ _ (fun v hv => by
      simp only [TVia.valid, Bool.and_eq_true] at hv
      exact all_imp _ _ _ TViaOpt.ok_of_valid hv.2) h.2
  case comps c cs =>
    exact all_imp _ _ _ (fun v hv => by
      simp only [TComp.valid, Bool.and_eq_true] at hv
      exact hv.1.2) h.2
  case pins c ps =>
    exact all_imp _ _ _ (fun v hv => by
      simp only [TPin.valid, Bool.and_eq_true] at hv
      exact all_imp _ _ _ PinOpt.ok_of_valid hv.2) h.2
  case spnets c ns => exact all_imp _ _ _ (TNet.ok_of_valid true) h.2
  case nets c ns => exact all_imp _ _ _ (TNet.ok_of_valid false) h.2

theorem DefFile.ok_of_valid (f : DefFile) (h : f.valid = true) : f.ok = true := by
  simp only [DefFile.valid, Bool.and_eq_true] at h
  refine all_imp _ _ _ (fun s hs => ?_) h.2
  cases s with
  | design n ss =>
    simp only [FStmt.valid, Bool.and_eq_true] at hs
    exact all_imp _ _ _ DStmt.ok_of_valid hs.2
  | version v => rfl
  | dividerchar v => rfl
  | busbitchars v => rfl

theorem parseDefL_print (f : DefFile) (h : f.valid = true) : parseDefL (printDefL f) = some f := by
  simp [parseDefL, parseTree_print f h, DefFile.ok_of_valid f h]

theorem allSome_eq_some {α : Type} (l : List (Option α)) (r : List α) : allSome l = some r ↔ l = r.map some := by
  induction l generalizing r with
  | nil => cases r <;> simp [allSome]
  | cons x xs ih =>
    cases x with
    | none => cases r <;> simp [allSome]
    | some a =>
      cases r with
      | nil => simp [allSome]
      | cons b bs =>
        simp only [allSome, Option.map_eq_some_iff, List.map_cons, List.cons.injEq, Option.some.injEq]
        constructor
        · rintro ⟨r', h1, rfl, rfl⟩; exact ⟨rfl, (ih _).mp h1⟩
        · rintro ⟨rfl, h⟩; exact ⟨bs, (ih _).mpr h, rfl, rfl⟩

/-- `int()` of a width token, on the string the record carries -/
theorem intTok?_ofList (t : Txt) : KV.Def.intTok? (String.ofList t) = if intOK t then some (natOf t) else none := by
  simp only [KV.Def.intTok?, String.toList_ofList, intOK, natOf]
  rfl

theorem toWire_widthVal (sp : Bool) (w : TWire) :
    (w.toWire sp).widthVal =
      match w.width with
      | none => some none
      | some t => if intOK t then some (some (natOf t)) else none := by
  cases hw : w.width with
  | none => simp [TWire.toWire, KV.Def.DWire.widthVal, hw]
  | some t =>
    simp only [TWire.toWire, KV.Def.DWire.widthVal, hw, Option.map_some, intTok?_ofList]
    split <;> rfl

end KV.DefText
