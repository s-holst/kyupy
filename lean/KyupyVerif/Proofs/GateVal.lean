import KyupyVerif.Model.VerilogSem
import KyupyVerif.Proofs.LineEqN
/-! The two statement-level denotations of a combinational node in the terms of `primVal`: a bench gate statement reads its
operand list, a Verilog instance the signals on its input pin indices, a constant cell nothing. -/
namespace KV.Netlist
open KV

theorem getElem?_map_isSome {β γ} (l : List β) (f : β → γ) (k : Nat) : ((l[k]?).map f).isSome = decide (k < l.length) := by
  by_cases h : k < l.length <;> simp [h]

theorem gateVal_eq {α} (z : α) (prim : String → α → α → α → α → α) (K : String) (drv : List String) (σ : String → α) :
    gateVal z prim K drv σ = primVal z prim K.toLower (fun k => (drv[k]?).map σ) := by
  simp only [gateVal, primVal, getElem?_map_isSome]
  cases specPrimName K.toLower (decide (2 < drv.length)) (decide (3 < drv.length)) with
  | none => rfl
  | some n =>
    -- the `match`es of `gateVal` are its own compiled matchers: no general lemma rewrites them to `getD`
    simp only; congr 1 <;> (split <;> rename_i h <;> simp [h])

theorem instVal_comb {α} (tl : TL) (z : α) (neg : α → α) (prim : String → α → α → α → α → α) (a : Nat → α) (pos : Nat) (i : VInst)
    (idx : Nat) (σ : String → α) (hs : isSeqKind i.ty = false) :
    instVal tl z neg prim a pos i idx σ = primVal z prim i.ty.toLower (fun k => (inSig tl i k).map (sigVal z prim σ)) := by
  simp only [instVal, hs, Bool.false_eq_true, if_false, primVal, Option.isSome_map]
  cases specPrimName i.ty.toLower (inSig tl i 2).isSome (inSig tl i 3).isSome with
  | none => rfl
  | some n => simp only; congr 1 <;> (split <;> rename_i h <;> simp [h])

theorem constVal_eq {α} (z : α) (prim : String → α → α → α → α → α) (s : String) :
    constVal z prim s = primVal z prim (constKind s).toLower (fun _ => none) := rfl

end KV.Netlist
