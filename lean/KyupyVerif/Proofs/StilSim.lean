import KyupyVerif.Model.StilSim
import KyupyVerif.Proofs.Stil
import KyupyVerif.Proofs.RowsLineEq
import KyupyVerif.Proofs.AllCircMem
/-! Composition C18 ∘ C02: the simulation inside `tests_loc` (Model/StilSim.lean) instantiated with the real 8-valued dispatch
and the `SimOps` program; bridge `Circ` ↔ `Net`; rows of the stimulus; rows of the result. -/
namespace KV.StilSim
open KV KV.Stil KV.Sig

theorem hasSub_eq (p l : List Char) : Stil.hasSub p l = isInfixChars p l := by
  induction l with
  | nil => rfl
  | cons c r ih => simp only [Stil.hasSub, isInfixChars, ih]

theorem lowerOf_eq (k : String) : lowerOf k = k.toLower.toList := by
  simp [lowerOf, String.toLower]

/-- **bridge.** If `Circ` and `Net` are views of the same circuit, `Circuit.s_nodes` of the STIL model is `s_nodes` of the
    netlist model, node index ↦ name -/
theorem sNodes_bridge {c : Circ} {net : Net} {names : List String} (h : compatB c net names = true) :
    c.sNodes = net.sNodes.map (nameAt names) := by
  simp only [compatB, Bool.and_eq_true, beq_iff_eq] at h
  obtain ⟨⟨_, hio⟩, hn⟩ := h
  unfold Circ.sNodes Net.sNodes
  rw [hio, hn, List.map_append, List.map_append, List.filter_map, List.filter_map, List.map_map, List.map_map]
  have e1 : ((fun n : String × String => Stil.hasSub "dff".toList (lowerOf n.2)) ∘
      fun n => (nameAt names n, (net.node n).kind)) = fun i => (net.node i).isDff := by
    funext n; rw [Function.comp, hasSub_eq, lowerOf_eq]; rfl
  have e2 : ((fun n : String × String => Stil.hasSub "latch".toList (lowerOf n.2)) ∘
      fun n => (nameAt names n, (net.node n).kind)) = fun i => (net.node i).isLatch := by
    funext n; rw [Function.comp, hasSub_eq, lowerOf_eq]; rfl
  rw [e1, e2]
  rfl

/-- the op program `SimOps` builds for the netlist (`strip_forks=False`), as in C01/C02 -/
abbrev ops8 (net : Net) (order : List Nat) : List Op := (genOps Gen.kindPrefixes net order false).map OpRow.toOp

theorem opsOf_eq (net : Net) (order : List Nat) : opsOf Gen.kindPrefixes net order = ops8 net order := rfl

def valOf (net : Net) (order : List Nat) (col : List V3) : Nat → V3 := exec semL8 (ops8 net order) (envOf net col)

/-- the matrix `launch` as `tests_loc` reads it back from its 8-valued simulator, property mode -/
def nxtOf (c : Circ) (fl : File) (net : Net) (order : List Nat) : List (List V3) :=
  nxtOfG semL8 (opsOf Gen.kindPrefixes net order) .spec c fl net

theorem envOf_ppi (net : Net) (col : List V3) (r : Nat) (hr : r < net.sNodes.length) :
    envOf net col (net.idx.ppi + r) = col.getD r V3.zero := by
  have h1 : net.idx.ppi + r < net.idx.ppo := by simp only [Net.idx]; omega
  simp [envOf, h1]

theorem envOf_outside (net : Net) (col : List V3) (x : Nat) (h : x < net.idx.ppi ∨ net.idx.ppo ≤ x) :
    envOf net col x = V3.zero := by
  unfold envOf
  split
  · omega
  · rfl

theorem envOf_zero (net : Net) (col : List V3) : envOf net col net.idx.zero = V3.zero :=
  envOf_outside net col _ (Or.inl (by simp only [Net.idx]; omega))

/-- `execA` is the array executor `Sig.execArrG` of Model/Sig.lean at default value `ZERO` -/
theorem execA_getD (sem : Nat → List V3 → V3) (ops : List Op) (a : Array V3) (h : ∀ op ∈ ops, op.out < a.size) :
    (fun j => (execA sem ops a).getD j V3.zero) = exec sem ops (fun j => a.getD j V3.zero) :=
  funext fun j => execArrG_eq V3.zero (fun op => sem op.code) ops a h j

theorem envOf_vector (net : Net) (col : List V3) :
    (fun j => (((List.range net.idx.len).map (envOf net col)).toArray).getD j V3.zero) = envOf net col := by
  funext j
  simp only [Array.getD_eq_getD_getElem?, List.getElem?_toArray, List.getElem?_map]
  by_cases hj : j < net.idx.len
  · simp [List.getElem?_range hj]
  · have : (List.range net.idx.len)[j]? = none := by simp; omega
    rw [this]
    have h2 : net.idx.ppo ≤ j := by simp only [Net.idx] at hj ⊢; omega
    simp [envOf_outside net col j (Or.inr h2)]

theorem simRowA_eq (sem : Nat → List V3 → V3) (ops : List Op) (net : Net) (col : List V3)
    (h : ∀ op ∈ ops, op.out < net.idx.len) : simRowA sem ops net col = simRow sem ops net col := by
  unfold simRowA simRow
  simp only
  rw [execA_getD sem ops _ (by simpa using h), envOf_vector]

theorem simRow_length (sem : Nat → List V3 → V3) (ops : List Op) (net : Net) (col : List V3) :
    (simRow sem ops net col).length = net.sNodes.length := by simp [simRow]

theorem simRow_getD (sem : Nat → List V3 → V3) (ops : List Op) (net : Net) (col : List V3) (r : Nat) (d : V3)
    (hr : r < net.sNodes.length) :
    (simRow sem ops net col).getD r d = captured net (exec sem ops (envOf net col)) r := by
  simp [simRow, List.getD_eq_getElem?_getD, hr]

theorem captured_pin {net : Net} {val : Nat → V3} {r n l : Nat} (hn : net.sNodes[r]? = some n)
    (hl : (net.node n).inPin 0 = some l) : captured net val r = val l := by
  simp [captured, hn, hl]

theorem captured_open_state {net : Net} {val : Nat → V3} {r n : Nat} (hn : net.sNodes[r]? = some n)
    (hl : (net.node n).inPin 0 = none) (hr : net.io.length ≤ r) : captured net val r = V3.zero := by
  simp [captured, hn, hl, hr]

theorem captured_open_port {net : Net} {val : Nat → V3} {r n : Nat} (hn : net.sNodes[r]? = some n)
    (hl : (net.node n).inPin 0 = none) (hr : r < net.io.length) : captured net val r = V3.unassigned := by
  simp [captured, hn, hl, Nat.not_le.2 hr]

theorem nxtOf_get {c : Circ} {fl : File} {net : Net} {order : List Nat} {i : Nat} {p : Pat}
    (hp : (extract fl)[i]? = some p) :
    (nxtOf c fl net order)[i]? = some (simRow semL8 (ops8 net order) net (initCol (mapsPure .spec c fl) p)) := by
  simp [nxtOf, nxtOfG, List.getElem?_map, hp, opsOf_eq]

theorem row_node_at {c : Circ} {net : Net} {names : List String} (h : compatB c net names = true) {x : String} {r : Nat}
    (hg : c.sNodes[r]? = some x) :
    ∃ n, net.sNodes[r]? = some n ∧ nameAt names n = x ∧ r < net.sNodes.length := by
  have hb := sNodes_bridge h
  have hlt : r < c.sNodes.length := (List.getElem?_eq_some_iff.1 hg).1
  have hlen : c.sNodes.length = net.sNodes.length := by rw [hb, List.length_map]
  rw [hb, List.getElem?_map] at hg
  cases hn : net.sNodes[r]? with
  | none => rw [hn] at hg; cases hg
  | some n =>
    rw [hn] at hg
    exact ⟨n, rfl, by simpa using hg, by omega⟩

/-- **the simulation result is THE labelling consistent with the netlist** for the stimulus of one init column (instance of
    `C02.sim8_netlist_all_circuits`): it is consistent, and every consistent labelling equals it off the scratch slot -/
theorem valOf_spec (net : Net) (order : List Nat) (hwf : net.wfB = true) (ho : orderOKB net order = true)
    (hfk : forksOKB net order = true) (col : List V3) :
    NetConsistent net order specNot prim8 (envOf net col) (valOf net order col) ∧
    ∀ σ, NetConsistent net order specNot prim8 (envOf net col) σ → ∀ y, Jt net y = false → σ y = valOf net order col y := by
  have h1 := solves_iff_consistent net order hwf ho hfk specL8 specNot prim8 semSpec8 (envOf net col)
  have h2 := logic_all_circuits semL8 specL8 (fun _ h xs => semL8_eq_spec h xs) net order false hwf ho (envOf net col)
  exact ⟨(h1 _).mp h2.1, fun σ hσ y hy => h2.2 σ ((h1 σ).mpr hσ) y hy⟩

theorem valOf_of_consistent (net : Net) (order : List Nat) (hwf : net.wfB = true) (ho : orderOKB net order = true)
    (hfk : forksOKB net order = true) (col : List V3) (σ : Nat → V3)
    (hσ : NetConsistent net order specNot prim8 (envOf net col) σ) {n l : Nat} (hl : (net.node n).inPin 0 = some l) :
    valOf net order col l = σ l :=
  ((valOf_spec net order hwf ho hfk col).2 σ hσ l (captured_not_junk hwf hl)).symm

end KV.StilSim
