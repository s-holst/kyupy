import KyupyVerif.Proofs.Basics
import KyupyVerif.Model.Encode
/-! The encodings of Model/Encode.lean, in the sections of that file: bit lists and byte packing up to the round trip of one row
through `mv_to_bp` / `bp_to_mv` (`bpToMvRow_mvToBpRow`), pack / unpack of one item of any width and signedness, what the popcount and
`bit_in` tables have to be, and the closed forms of `mvarray` (flat and nested arguments) and `mv_str`.  Core Lean only. -/
namespace KV.Enc

/-! ## bits -/

@[simp] theorem bitsLE_length (w n : Nat) : (bitsLE w n).length = w := by
  induction w generalizing n with
  | zero => rfl
  | succ w ih => simp [bitsLE, ih]

theorem toNat_beq_mod_two (n : Nat) : (n % 2 == 1).toNat = n % 2 := by
  rcases Nat.mod_two_eq_zero_or_one n with h | h <;> simp [h]

theorem ofBitsLE_bitsLE (w n : Nat) : ofBitsLE (bitsLE w n) = n % 2 ^ w := by
  induction w generalizing n with
  | zero => simp [bitsLE, ofBitsLE, Nat.mod_one]
  | succ w ih =>
    simp only [bitsLE, ofBitsLE, ih, toNat_beq_mod_two]
    rw [Nat.pow_succ, Nat.mul_comm (2 ^ w) 2, Nat.mod_mul]

theorem ofBitsLE_append_false (l : List Bool) (k : Nat) : ofBitsLE (l ++ List.replicate k false) = ofBitsLE l := by
  induction l with
  | nil => induction k with
    | zero => rfl
    | succ k ih =>
      simp only [List.nil_append] at ih
      simp [List.replicate_succ, ofBitsLE, ih]
  | cons b l ih => simp [ofBitsLE, ih]

theorem ofBitsLE_lt (l : List Bool) : ofBitsLE l < 2 ^ l.length := by
  induction l with
  | nil => simp [ofBitsLE]
  | cons b l ih =>
    simp only [ofBitsLE, List.length_cons, Nat.pow_succ]
    cases b <;> simp <;> omega

theorem bitsLE_ofBitsLE (w : Nat) (l : List Bool) (h : l.length ≤ w) :
    bitsLE w (ofBitsLE l) = l ++ List.replicate (w - l.length) false := by
  induction w generalizing l with
  | zero => cases l with
    | nil => rfl
    | cons b l => simp at h
  | succ w ih =>
    cases l with
    | nil =>
      have := ih [] (Nat.zero_le _)
      simp only [ofBitsLE, List.length_nil, Nat.sub_zero, List.nil_append] at this ⊢
      simp [bitsLE, this, List.replicate_succ]
    | cons b l =>
      have hl : l.length ≤ w := by simpa using h
      have e1 : (b.toNat + 2 * ofBitsLE l) % 2 = b.toNat := by cases b <;> simp <;> omega
      have e2 : (b.toNat + 2 * ofBitsLE l) / 2 = ofBitsLE l := by cases b <;> simp <;> omega
      simp only [bitsLE, ofBitsLE, e1, e2, ih l hl, List.length_cons, Nat.succ_sub_succ]
      cases b <;> simp

theorem take_bitsLE (k w n : Nat) (h : k ≤ w) : (bitsLE w n).take k = bitsLE k n := by
  induction k generalizing w n with
  | zero => simp [bitsLE]
  | succ k ih =>
    cases w with
    | zero => omega
    | succ w => simp [bitsLE, ih w (n / 2) (by omega)]

theorem getD_bitsLE (w n i : Nat) : (bitsLE w n).getD i false = (decide (i < w) && (n / 2 ^ i % 2 == 1)) := by
  induction w generalizing n i with
  | zero => simp [bitsLE]
  | succ w ih =>
    cases i with
    | zero => simp [bitsLE]
    | succ i =>
      simp only [bitsLE, List.getD_cons_succ, ih, Nat.pow_succ, Nat.add_lt_add_iff_right]
      rw [Nat.mul_comm (2 ^ i) 2, ← Nat.div_div_eq_div_mul]

/-! ## `List.getD`, `List.range` -/

theorem getD_append_left' {α} (l₁ l₂ : List α) (i : Nat) (d : α) (h : i < l₁.length) :
    (l₁ ++ l₂).getD i d = l₁.getD i d := by
  simp [List.getD_eq_getElem?_getD, List.getElem?_append, h]
theorem getD_append_right' {α} (l₁ l₂ : List α) (i : Nat) (d : α) (h : l₁.length ≤ i) :
    (l₁ ++ l₂).getD i d = l₂.getD (i - l₁.length) d := by
  simp [List.getD_eq_getElem?_getD, List.getElem?_append, Nat.not_lt.mpr h]
theorem getD_take' {α} (l : List α) (n i : Nat) (d : α) (h : i < n) : (l.take n).getD i d = l.getD i d := by
  simp [List.getD_eq_getElem?_getD, h]
theorem getD_drop' {α} (l : List α) (n i : Nat) (d : α) : (l.drop n).getD i d = l.getD (n + i) d := by
  simp [List.getD_eq_getElem?_getD, List.getElem?_drop]
theorem getD_replicate' {α} (n i : Nat) (d : α) : (List.replicate n d).getD i d = d := by
  simp only [List.getD_eq_getElem?_getD, List.getElem?_replicate]; split <;> rfl
theorem getD_ge {α} (l : List α) (i : Nat) (d : α) (h : l.length ≤ i) : l.getD i d = d := by
  simp [List.getD_eq_getElem?_getD, List.getElem?_eq_none h]

theorem getD_range_map {β} (n i : Nat) (f : Nat → β) (d : β) (h : i < n) : ((List.range n).map f).getD i d = f i := by
  simp [List.getD_eq_getElem?_getD, List.getElem?_map, List.getElem?_range h]

theorem range_map_getD {α β} (l : List α) (d : α) (f : α → β) :
    (List.range l.length).map (fun i => f (l.getD i d)) = l.map f := by
  apply List.ext_getElem
  · simp
  · intro i h1 h2
    have hi : i < l.length := by simpa using h1
    simp [List.getD_eq_getElem?_getD, List.getElem?_eq_getElem hi]

theorem range_map_congr {β} (n : Nat) (f g : Nat → β) (h : ∀ i, i < n → f i = g i) :
    (List.range n).map f = (List.range n).map g := by
  apply List.map_congr_left; intro i hi; exact h i (List.mem_range.mp hi)

/-! ## bytes -/

@[simp] theorem packBytes_length (n : Nat) (bs : List Bool) : (packBytes n bs).length = n := by
  induction n generalizing bs with
  | zero => rfl
  | succ n ih => simp [packBytes, ih]

@[simp] theorem unpackBytes_length (bytes : List Nat) : (unpackBytes bytes).length = 8 * bytes.length := by
  induction bytes with
  | nil => rfl
  | cons x xs ih =>
    simp only [unpackBytes, List.flatMap_cons, List.length_append, bitsLE_length, List.length_cons] at ih ⊢
    omega

theorem getD_unpackBytes (bytes : List Nat) (p : Nat) :
    (unpackBytes bytes).getD p false = (bytes.getD (p / 8) 0 / 2 ^ (p % 8) % 2 == 1) := by
  induction bytes generalizing p with
  | nil => simp [unpackBytes]
  | cons x xs ih =>
    simp only [unpackBytes, List.flatMap_cons] at ih ⊢
    by_cases h : p < 8
    · rw [getD_append_left' _ _ _ _ (by simpa using h), getD_bitsLE]
      have : p / 8 = 0 := by omega
      have h' : p % 8 = p := by omega
      simp [this, h', h]
    · have h8 : 8 ≤ p := Nat.not_lt.mp h
      rw [getD_append_right' _ _ _ _ (by simpa using h8), bitsLE_length, ih]
      have e1 : p / 8 = (p - 8) / 8 + 1 := by omega
      have e2 : p % 8 = (p - 8) % 8 := by omega
      simp [e1, e2]

/-- unpacking packed bits gives the bits back below `8 * n` and `false` above -/
theorem getD_unpack_pack (n : Nat) (bs : List Bool) (p : Nat) :
    (unpackBytes (packBytes n bs)).getD p false = (decide (p < 8 * n) && bs.getD p false) := by
  induction n generalizing bs p with
  | zero => simp [packBytes, unpackBytes]
  | succ n ih =>
    simp only [packBytes, unpackBytes, List.flatMap_cons] at ih ⊢
    have hl : (bs.take 8).length ≤ 8 := by simp; omega
    rw [bitsLE_ofBitsLE 8 _ hl]
    by_cases h : p < 8
    · rw [getD_append_left' _ _ _ _ (by simp; omega)]
      have hp : p < 8 * (n + 1) := by omega
      by_cases h2 : p < (bs.take 8).length
      · rw [getD_append_left' _ _ _ _ h2, getD_take' _ _ _ _ h]; simp [hp]
      · rw [getD_append_right' _ _ _ _ (Nat.not_lt.mp h2), getD_replicate']
        have : bs.length ≤ p := by simp at h2; omega
        rw [getD_ge _ _ _ this]; simp
    · have h8 : 8 ≤ p := Nat.not_lt.mp h
      have hlen : (List.take 8 bs ++ List.replicate (8 - (List.take 8 bs).length) false).length = 8 := by
        simp; omega
      rw [getD_append_right' _ _ _ _ (by omega), hlen, ih, getD_drop']
      have e : 8 + (p - 8) = p := by omega
      have e2 : (p - 8 < 8 * n) = (p < 8 * (n + 1)) := by apply propext; omega
      simp [e, e2]

/-! ## arrays -/

@[simp] theorem chunks_length {α} (n k : Nat) (l : List α) : (chunks n k l).length = k := by
  induction k generalizing l with
  | zero => rfl
  | succ k ih => simp [chunks, ih]

theorem chunks_flatMap {α β} (n : Nat) (f : α → List β) (l : List α) (h : ∀ x ∈ l, (f x).length = n) :
    chunks n l.length (l.flatMap f) = l.map f := by
  induction l with
  | nil => rfl
  | cons x xs ih =>
    have hx := h x (List.mem_cons_self)
    simp only [List.length_cons, chunks, List.flatMap_cons, List.map_cons]
    rw [List.take_left' hx, List.drop_left' hx, ih (fun y hy => h y (List.mem_cons_of_mem _ hy))]

theorem chunks_flatten {α} (n : Nat) (l : List (List α)) (h : ∀ x ∈ l, x.length = n) :
    chunks n l.length l.flatten = l := by
  have := chunks_flatMap n (fun x => x) l h
  simpa [List.flatMap_id] using this

/-! ## mv_to_bp / bp_to_mv: one row -/

/-- bit `i` of the column of plane-`b` bits that `mv_to_bp` packs: bit `b` of value `i` of the row (`false` past the end) -/
theorem colBit (row : List Nat) (b i : Nat) (hb : b < 3) :
    ((row.map fun x => (bitsLE 8 x).take 3).map (·.getD b false)).getD i false
      = (decide (i < row.length) && (row.getD i 0 / 2 ^ b % 2 == 1)) := by
  simp only [List.map_map, List.getD_eq_getElem?_getD, List.getElem?_map]
  by_cases h : i < row.length
  · simp only [List.getElem?_eq_getElem h, Option.map_some, Option.getD_some, Function.comp]
    rw [take_bitsLE 3 8 _ (by omega)]
    have := getD_bitsLE 3 row[i] b
    have hb' : b < (bitsLE 3 row[i]).length := by simpa using hb
    simp only [List.getD_eq_getElem?_getD, List.getElem?_eq_getElem hb', Option.getD_some] at this
    simp [this, h, hb]
  · simp [h]

theorem ofBitsLE_three (x : Nat) : ofBitsLE [x / 2 ^ 0 % 2 == 1, x / 2 ^ 1 % 2 == 1, x / 2 ^ 2 % 2 == 1] = x % 8 := by
  have h := ofBitsLE_bitsLE 3 x
  simp only [bitsLE, Nat.div_div_eq_div_mul] at h
  simpa using h

theorem cdiv8_ge (P : Nat) : P ≤ 8 * cdiv P 8 := by unfold cdiv; omega

theorem range3 : List.range 3 = [0, 1, 2] := by decide

/-- entry by entry: `getD_unpack_pack` on each plane, `colBit`, then `ofBitsLE_three` -/
theorem bpToMvRow_mvToBpRow (row : List Nat) :
    bpToMvRow (cdiv row.length 8) (mvToBpRow (cdiv row.length 8) row)
      = row.map (· % 8) ++ List.replicate (8 * cdiv row.length 8 - row.length) 0 := by
  have hge := cdiv8_ge row.length
  apply List.ext_getElem
  · simp [bpToMvRow]; omega
  · intro i h1 h2
    have hi : i < 8 * cdiv row.length 8 := by simpa [bpToMvRow] using h1
    simp only [bpToMvRow, mvToBpRow, range3, List.getElem_map, List.getElem_range, List.map_cons, List.map_nil,
      getD_unpack_pack, colBit _ 0 _ (by omega), colBit _ 1 _ (by omega), colBit _ 2 _ (by omega), hi, decide_true, Bool.true_and]
    by_cases hp : i < row.length
    · rw [List.getElem_append_left (by simpa using hp)]
      simp only [hp, decide_true, Bool.true_and, List.getElem_map]
      have : row.getD i 0 = row[i] := by simp [List.getD_eq_getElem?_getD, List.getElem?_eq_getElem hp]
      rw [this]
      simpa using ofBitsLE_three row[i]
    · rw [List.getElem_append_right (by simpa using Nat.not_lt.mp hp)]
      simp [hp, ofBitsLE]

theorem wf_iff {α} (a : Arr α) : a.wf = true ↔ a.rows.length = a.lead.prod ∧ ∀ r ∈ a.rows, r.length = a.last := by
  simp [Arr.wf, List.all_eq_true]

theorem mvToBpRow_length (nb : Nat) (r : List Nat) : (mvToBpRow nb r).length = 3 := by simp [mvToBpRow]

theorem mvToBpRow_getD (nb : Nat) (row : List Nat) (b : Nat) (hb : b < 3) :
    (mvToBpRow nb row).getD b [] = packBytes nb ((row.map fun x => (bitsLE 8 x).take 3).map (·.getD b false)) := by
  simp only [mvToBpRow, range3]
  match b, hb with
  | 0, _ => rfl
  | 1, _ => rfl
  | 2, _ => rfl

theorem and_seven_eq_mod (x : Nat) : x &&& 7 = x % 8 := Nat.and_two_pow_sub_one_eq_mod x 3

/-! ## unpackbits / packbits of one item -/

theorem two_pow_pred (w : Nat) (hw : 0 < w) : 2 ^ w = 2 * 2 ^ (w - 1) := by
  cases w with
  | zero => omega
  | succ w => simp [Nat.pow_succ, Nat.mul_comm]

theorem toU_natCast (w n : Nat) (h : n < 2 ^ w) : toU w (n : Int) = n := by
  unfold toU
  rw [Int.ofNat_mod_ofNat, Nat.mod_eq_of_lt h]; simp

theorem toU_lt (w : Nat) (x : Int) : toU w x < 2 ^ w := by
  unfold toU
  have hpos : (0 : Int) < ((2 ^ w : Nat) : Int) := by
    have := Nat.two_pow_pos w; omega
  have h1 := Int.emod_nonneg x (Int.ne_of_gt hpos)
  have h2 := Int.emod_lt_of_pos x hpos
  omega

theorem toU_toS (w n : Nat) (h : n < 2 ^ w) : toU w (toS w n) = n := by
  unfold toS
  split
  · exact toU_natCast w n h
  · unfold toU
    rw [Int.sub_emod, Int.emod_self, Int.sub_zero, Int.emod_emod, Int.ofNat_mod_ofNat, Nat.mod_eq_of_lt h]; simp

theorem toS_toU (w : Nat) (x : Int) (hw : 0 < w)
    (hlo : -((2 ^ (w - 1) : Nat) : Int) ≤ x) (hhi : x < ((2 ^ (w - 1) : Nat) : Int)) : toS w (toU w x) = x := by
  have e := two_pow_pred w hw
  have hm := Nat.two_pow_pos (w - 1)
  unfold toS toU
  rw [e]
  generalize 2 ^ (w - 1) = m at *
  by_cases hx : 0 ≤ x
  · have : x % ((2 * m : Nat) : Int) = x := Int.emod_eq_of_lt hx (by omega)
    rw [this]
    have : x.toNat < m := by omega
    simp only [this, if_true]; omega
  · have h1 : x % ((2 * m : Nat) : Int) = x + ((2 * m : Nat) : Int) := by
      rw [← Int.add_emod_right x]
      exact Int.emod_eq_of_lt (by omega) (by omega)
    rw [h1]
    have : ¬ (x + ((2 * m : Nat) : Int)).toNat < m := by omega
    simp only [this, if_false]; omega

theorem padTo_length (w : Nat) (f : Bool) (bs : List Bool) : (padTo w f bs).length = w := by
  simp [padTo]; omega

theorem padTo_self (w : Nat) (f : Bool) (bs : List Bool) (h : bs.length = w) : padTo w f bs = bs := by
  simp [padTo, ← h]

theorem bitsLE_ofBitsLE_self (l : List Bool) : bitsLE l.length (ofBitsLE l) = l := by
  simpa using bitsLE_ofBitsLE l.length l (Nat.le_refl _)

theorem packElem_unpackElem_u (w : Nat) (x : Int) (h0 : 0 ≤ x) (h1 : x < ((2 ^ w : Nat) : Int)) :
    packElem w false (unpackElem w x) = x := by
  simp only [packElem, unpackElem, Bool.false_eq_true, if_false]
  rw [padTo_self _ _ _ (bitsLE_length _ _), ofBitsLE_bitsLE, Nat.mod_eq_of_lt (toU_lt w x)]
  have : toU w x = x.toNat := by
    have := toU_natCast w x.toNat (by omega)
    rwa [Int.toNat_of_nonneg h0] at this
  rw [this]; omega

theorem packElem_unpackElem_s (w : Nat) (x : Int) (hw : 0 < w)
    (hlo : -((2 ^ (w - 1) : Nat) : Int) ≤ x) (hhi : x < ((2 ^ (w - 1) : Nat) : Int)) :
    packElem w true (unpackElem w x) = x := by
  simp only [packElem, unpackElem, if_true]
  rw [padTo_self _ _ _ (bitsLE_length _ _), ofBitsLE_bitsLE, Nat.mod_eq_of_lt (toU_lt w x), toS_toU w x hw hlo hhi]

theorem unpackElem_of_toU (w : Nat) (l : List Bool) (hl : l.length = w) (x : Int) (hx : toU w x = ofBitsLE l) :
    unpackElem w x = l := by
  rw [unpackElem, hx, ← hl]
  exact bitsLE_ofBitsLE_self l

theorem unpackElem_packElem_u (w : Nat) (bs : List Bool) :
    unpackElem w (packElem w false bs) = padTo w false bs := by
  have hl := padTo_length w false bs
  have hlt := ofBitsLE_lt (padTo w false bs)
  rw [hl] at hlt
  exact unpackElem_of_toU w _ hl _ (toU_natCast _ _ hlt)

theorem unpackElem_packElem_s (w : Nat) (bs : List Bool) :
    unpackElem w (packElem w true bs) = padTo w ((bs.take w).getLastD false) bs := by
  have hl := padTo_length w ((bs.take w).getLastD false) bs
  have hlt := ofBitsLE_lt (padTo w ((bs.take w).getLastD false) bs)
  rw [hl] at hlt
  exact unpackElem_of_toU w _ hl _ (toU_toS _ _ hlt)

/-! ## popcount, bit_in -/

/-- what `_pop_count_lut` has to be: entry `i` is the number of one bits of the byte `i` -/
def onesLut : List Nat := (List.range 256).map fun i => (bitsLE 8 i).count true

theorem onesOf_cons (x : Nat) (xs : List Nat) : onesOf (x :: xs) = (bitsLE 8 x).count true + onesOf xs := by
  simp [onesOf, unpackBytes, List.count_append]

theorem popcount_eq_ones (lut : List Nat) (h : lut = onesLut) (a : List Nat) (ha : ∀ x ∈ a, x < 256) :
    popcountWith lut a = onesOf a := by
  subst h
  induction a with
  | nil => rfl
  | cons x xs ih =>
    rw [onesOf_cons, ← ih (fun y hy => ha y (List.mem_cons_of_mem _ hy))]
    simp only [popcountWith, List.map_cons, List.sum_cons, onesLut, getD_range_map _ _ _ _ (ha x List.mem_cons_self)]

theorem popcountInt_spec (lut : List Nat) (h : lut = onesLut) (a : List Int) (ha : ∀ x ∈ a, -256 ≤ x ∧ x < 256) :
    popcountInt lut a = some (onesOf (a.map fun x => (x % 256).toNat)) := by
  have hall : a.all (fun x => decide (-256 ≤ x) && decide (x < 256)) = true := by
    rw [List.all_eq_true]; intro x hx; have := ha x hx; simp [this.1, this.2]
  unfold popcountInt
  rw [if_pos hall]
  congr 1
  have := popcount_eq_ones lut h (a.map fun x => (x % 256).toNat) (by
    intro y hy
    obtain ⟨x, _, rfl⟩ := List.mem_map.1 hy
    omega)
  rw [← this, popcountWith, List.map_map]
  rfl

def bitLutOK (lut : List Nat) : Bool := (List.range 8).all fun k => lut.getD k 0 == 2 ^ (7 - k)

theorem bitIn_eq (lut : List Nat) (h : bitLutOK lut = true) (a : List Nat) (pos : Nat) :
    bitInWith lut a pos = a.getD (pos / 8) 0 &&& 2 ^ (7 - pos % 8) := by
  simp only [bitLutOK, List.all_eq_true, List.mem_range, beq_iff_eq] at h
  have e1 : pos >>> 3 = pos / 8 := by simp [Nat.shiftRight_eq_div_pow]
  have e2 : pos &&& 7 = pos % 8 := Nat.and_two_pow_sub_one_eq_mod pos 3
  simp only [bitInWith, e1, e2, h (pos % 8) (Nat.mod_lt _ (by omega))]

/-! ## mvarray, mv_str -/

theorem any_len_false (ss : List (List Nat)) (S : Nat) (hu : ∀ s ∈ ss, s.length = S) :
    ss.any (·.length != S) = false := by
  rw [List.any_eq_false]; intro s hs; simp [hu s hs]

theorem mvarray_2d (tbl : List (Nat × Nat)) (ss : List (List Nat)) (S : Nat)
    (hu : ∀ s ∈ ss, s.length = S) (hP : 2 ≤ ss.length) (hS : S ≠ 1) :
    mvarray tbl ss = some ⟨[S], ss.length,
      (List.range S).map fun j => (ss.map (·.map (interpretWith tbl))).map (·.getD j 0)⟩ := by
  cases ss with
  | nil => simp at hP
  | cons s0 rest =>
    have h0 : s0.length = S := hu s0 List.mem_cons_self
    have hany := any_len_false (s0 :: rest) S hu
    have hgt : (s0 :: rest).length > 1 := by omega
    simp only [mvarray, h0, hany, Bool.false_eq_true, if_false, beq_iff_eq, hS, hgt, if_true]

theorem mvarray_single (tbl : List (Nat × Nat)) (s : List Nat) :
    mvarray tbl [s] = some ⟨[], s.length, [s.map (interpretWith tbl)]⟩ := by
  simp only [mvarray, List.any_cons, List.any_nil, bne_self_eq_false, Bool.or_false, Bool.false_eq_true, if_false,
    List.length_cons, List.length_nil, Nat.lt_irrefl, List.map_cons, List.map_nil, List.headD_cons, beq_iff_eq]
  split
  · rename_i h
    match s, h with
    | [c], _ => simp
  · simp

/-! ### `mvarray` with nested arguments (depth 2): `stack` of uniform children, one block transposed -/

theorem interpStr_of_ne_one (tbl : List (Nat × Nat)) (s : List Nat) (h : s.length ≠ 1) :
    interpStr tbl s = ⟨[s.length], s.map (interpretWith tbl)⟩ := by
  unfold interpStr
  split
  · simp at h
  · rfl

/-- `np.array` of children that all convert to shape `sh` -/
theorem stack_map {α} (f : α → Option (Flat Nat)) (sh : List Nat) (d : α → List Nat) (l : List α) (hne : l ≠ [])
    (h : ∀ x ∈ l, f x = some ⟨sh, d x⟩) : stack (l.map f) = some ⟨l.length :: sh, l.flatMap d⟩ := by
  rw [List.map_congr_left h]
  cases l with
  | nil => exact absurd rfl hne
  | cons x0 rest => simp [stack, List.flatMap_map]

theorem getD_flatMap_uniform {α} (f : α → List Nat) (g : List α) (S i j : Nat) (hS : ∀ x ∈ g, (f x).length = S)
    (hi : i < g.length) (hj : j < S) :
    (g.flatMap f).getD (i * S + j) 0 = (f (g[i]'hi)).getD j 0 := by
  induction g generalizing i with
  | nil => simp at hi
  | cons x xs ih =>
    have hx := hS x List.mem_cons_self
    rw [List.flatMap_cons]
    cases i with
    | zero =>
      simp only [Nat.zero_mul, Nat.zero_add, List.getElem_cons_zero, List.getD_eq_getElem?_getD]
      rw [List.getElem?_append_left (by omega)]
    | succ i =>
      have hi' : i < xs.length := by simpa using hi
      have e : (i + 1) * S + j = (f x).length + (i * S + j) := by rw [hx, Nat.succ_mul]; omega
      simp only [List.getElem_cons_succ, List.getD_eq_getElem?_getD]
      rw [e, List.getElem?_append_right (by omega), Nat.add_sub_cancel_left]
      have := ih i (fun y hy => hS y (List.mem_cons_of_mem _ hy)) hi'
      simpa [List.getD_eq_getElem?_getD] using this

/-- one `(patterns × signals)` block, transposed: signal-major, exactly the rows of the flat `mvarray` of that group -/
theorem transposeBlock_group (tbl : List (Nat × Nat)) (g : List (List Nat)) (S : Nat) (hS : ∀ s ∈ g, s.length = S) :
    transposeBlock g.length S (g.flatMap fun s => s.map (interpretWith tbl)) =
      (List.range S).flatMap fun sig => g.map fun s => interpretWith tbl (s.getD sig 0) := by
  unfold transposeBlock
  apply flatMap_congr
  intro j hj
  have hj' : j < S := List.mem_range.1 hj
  apply List.ext_getElem
  · simp
  · intro i h1 h2
    have hi : i < g.length := by simpa using h1
    simp only [List.getElem_map, List.getElem_range]
    rw [getD_flatMap_uniform (fun s => s.map (interpretWith tbl)) g S i j (by simpa using hS) hi hj']
    have hlen : (g[i]).length = S := hS _ (List.getElem_mem hi)
    simp only [List.getD_eq_getElem?_getD, List.getElem?_map]
    rw [List.getElem?_eq_getElem (by omega)]
    simp

def tblOK (tbl : List (Nat × Nat)) (chars : List Nat) : Bool := tbl.all (·.2 < chars.length) && 1 < chars.length

theorem interp_lt (tbl : List (Nat × Nat)) (chars : List Nat) (h : tblOK tbl chars = true) (c : Nat) :
    interpretWith tbl c < chars.length := by
  simp only [tblOK, Bool.and_eq_true, List.all_eq_true, decide_eq_true_eq] at h
  unfold interpretWith
  induction tbl with
  | nil => simpa [List.lookup] using h.2
  | cons kv rest ih =>
    obtain ⟨k, v⟩ := kv
    simp only [List.lookup]
    split
    · simpa using h.1 (k, v) List.mem_cons_self
    · exact ih ⟨fun x hx => h.1 x (List.mem_cons_of_mem _ hx), h.2⟩

def canon (tbl : List (Nat × Nat)) (chars : List Nat) (c : Nat) : Nat := chars.getD (interpretWith tbl c) 0

theorem mvStr_2d (tbl : List (Nat × Nat)) (chars delim : List Nat) (hok : tblOK tbl chars = true)
    (ss : List (List Nat)) (S : Nat) (hu : ∀ s ∈ ss, s.length = S) :
    mvStr chars delim ⟨[S], ss.length,
      (List.range S).map fun j => (ss.map (·.map (interpretWith tbl))).map (·.getD j 0)⟩
      = some (delim.intercalate (ss.map (·.map (canon tbl chars)))) := by
  have hlt := interp_lt tbl chars hok
  have h0 : 0 < chars.length := by
    simp only [tblOK, Bool.and_eq_true, decide_eq_true_eq] at hok; omega
  have hany : (((List.range S).map fun j => (ss.map (·.map (interpretWith tbl))).map (·.getD j 0)).any
      (·.any (· ≥ chars.length))) = false := by
    rw [List.any_eq_false]; intro r hr
    rw [Bool.not_eq_true, List.any_eq_false]; intro x hx
    simp only [List.mem_map, List.mem_range] at hr
    obtain ⟨j, _, rfl⟩ := hr
    simp only [List.map_map, List.mem_map, Function.comp] at hx
    obtain ⟨s, _, rfl⟩ := hx
    simp only [ge_iff_le, decide_eq_true_eq, Nat.not_le, List.getD_eq_getElem?_getD, List.getElem?_map]
    cases s[j]? with
    | none => simpa using h0
    | some c => simpa using hlt c
  simp only [mvStr, hany, Bool.false_eq_true, if_false, Option.some.injEq]
  congr 1
  rw [← range_map_getD ss [] (·.map (canon tbl chars))]
  apply range_map_congr
  intro p hp
  have hs : (ss.getD p []).length = S := by
    have : ss.getD p [] ∈ ss := by
      simp [List.getD_eq_getElem?_getD, List.getElem?_eq_getElem hp]
    exact hu _ this
  rw [← range_map_getD (ss.getD p []) 0 (canon tbl chars), hs, List.map_map]
  apply range_map_congr
  intro j hj
  have hj' : j < (ss.getD p []).length := by omega
  simp only [Function.comp, canon, List.getD_eq_getElem?_getD, List.getElem?_map, List.getElem?_eq_getElem hp,
    Option.map_some, Option.getD_some] at hj' ⊢
  simp [List.getElem?_eq_getElem hj']

theorem mvStr_1d (tbl : List (Nat × Nat)) (chars delim : List Nat) (hok : tblOK tbl chars = true) (s : List Nat) :
    mvStr chars delim ⟨[], s.length, [s.map (interpretWith tbl)]⟩ = some (s.map (canon tbl chars)) := by
  have hlt := interp_lt tbl chars hok
  have hany : ([s.map (interpretWith tbl)].any (·.any (· ≥ chars.length))) = false := by
    simp only [List.any_cons, List.any_nil, Bool.or_false]
    rw [List.any_eq_false]; intro x hx
    simp only [List.mem_map] at hx
    obtain ⟨c, _, rfl⟩ := hx
    simpa using hlt c
  simp only [mvStr, hany, Bool.false_eq_true, if_false, List.headD_cons, List.map_map]
  rfl

end KV.Enc
