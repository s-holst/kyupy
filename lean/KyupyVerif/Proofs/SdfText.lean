import KyupyVerif.Model.SdfText
import KyupyVerif.Proofs.TextLex
/-! Round trip of the SDF text model: `parseSdfL (printSdfL f) = some f` for every valid tree `f`.

Structure: (1) scanner facts — how each state's scanner reads the pieces the printer emits (one blank in front of a
token, keywords, names, number fields); (2) one lemma per reader function, the loops as instances of `TextLex.loop_read`;
(3) the file-level theorem and "valid trees pass the transformer". -/
namespace KV.SdfText
open KV KV.TextLex

theorem skip0_other (c : Char) (r : List Char) (h1 : c ≠ '\n') (h2 : c ≠ '/') (h3 : c ≠ '\r') :
    skip0 false (c :: r) = c :: r := by
  cases r <;> simp [skip0, h1, h2, h3]

theorem ign0M_none (c : Char) (r : List Char) (h1 : c ≠ '\n') (h2 : c ≠ '/') (h3 : c ≠ '\r') :
    ign0M (c :: r) = none := by
  simp [ign0M, skip0_other c r h1 h2 h3]

theorem ign0M_nil : ign0M [] = none := by simp [ign0M, skip0]

theorem blankM_one (c : Char) (R : List Char) (hc : isBlank c = false) :
    blankM (' ' :: c :: R) = some ([' '], c :: R) := by
  simp [blankM, plus, spanP, isBlank] at hc ⊢
  simp [hc]

theorem blankM_none (c : Char) (R : List Char) (hc : isBlank c = false) : blankM (c :: R) = none := by
  simp [blankM, plus, spanP, hc]

theorem next_blank (ts : List Tm) (c : Char) (R : List Char) (hc : isBlank c = false) :
    next L (.ign0 :: .ign1 :: ts) (' ' :: c :: R) = next L (.ign0 :: .ign1 :: ts) (c :: R) := by
  apply next_ign L _ _ .ign1 [' '] (c :: R)
  · simp [first, L, Tm.run, ign0M_none, blankM_one c R hc]
  · rfl
  · simp

macro "lex_first" : tactic =>
  `(tactic| simp [first, L, Tm.run, ign0M_none, blankM_none, isBlank, lit, stripPrefix, Kw.chars, chr])

/-- a keyword / punctuation token in a state that scans the ignored terminals first: with one blank in front (skipped by
`next_blank`) or directly; the unfold list names the states this is used for -/
macro "lex_kw" : tactic =>
  `(tactic| (simp only [Kw.chars, List.cons_append, List.nil_append, sTop, sHdr, sDq, sRpar, sCell, sAbs, sEnt, sTr]
             first
               | (rw [next_blank _ _ _ (by simp [isBlank])]
                  exact next_tok L _ _ _ _ _ (by lex_first) rfl (by simp))
               | exact next_tok L _ _ _ _ _ (by lex_first) rfl (by simp)))

theorem sTop_kw (R : List Char) :
    next L sTop (Kw.delayfile.chars ++ R) = some (.tok (.kw .delayfile) Kw.delayfile.chars, R) := by lex_kw
theorem sHdr_design (R : List Char) :
    next L sHdr (' ' :: (Kw.design.chars ++ R)) = some (.tok (.kw .design) Kw.design.chars, R) := by lex_kw
theorem sHdr_cell (R : List Char) :
    next L sHdr (' ' :: (Kw.cell.chars ++ R)) = some (.tok (.kw .cell) Kw.cell.chars, R) := by lex_kw
theorem sHdr_rpar (R : List Char) : next L sHdr (')' :: R) = some (.tok .rpar [')'], R) := by lex_kw
theorem sDq_blank (R : List Char) : next L sDq (' ' :: '"' :: R) = some (.tok .dq ['"'], R) := by lex_kw
theorem sDq_dq (R : List Char) : next L sDq ('"' :: R) = some (.tok .dq ['"'], R) := by lex_kw
theorem sRpar_rpar (R : List Char) : next L sRpar (')' :: R) = some (.tok .rpar [')'], R) := by lex_kw
theorem sCell_instance (R : List Char) :
    next L sCell (' ' :: (Kw.instance.chars ++ R)) = some (.tok (.kw .instance) Kw.instance.chars, R) := by lex_kw
theorem sCell_delay (R : List Char) :
    next L sCell (' ' :: (Kw.delay.chars ++ R)) = some (.tok (.kw .delay) Kw.delay.chars, R) := by lex_kw
theorem sCell_rpar (R : List Char) : next L sCell (')' :: R) = some (.tok .rpar [')'], R) := by lex_kw
theorem sAbs_kw (R : List Char) :
    next L sAbs (' ' :: (Kw.absolute.chars ++ R)) = some (.tok (.kw .absolute) Kw.absolute.chars, R) := by lex_kw
theorem sEnt_iopath (R : List Char) :
    next L sEnt (' ' :: (Kw.iopath.chars ++ R)) = some (.tok (.kw .iopath) Kw.iopath.chars, R) := by lex_kw
theorem sEnt_interconnect (R : List Char) :
    next L sEnt (' ' :: (Kw.interconnect.chars ++ R)) = some (.tok (.kw .interconnect) Kw.interconnect.chars, R) := by
  lex_kw
theorem sEnt_rpar (R : List Char) : next L sEnt (')' :: R) = some (.tok .rpar [')'], R) := by lex_kw
theorem sTr_lpar (R : List Char) : next L sTr (' ' :: '(' :: R) = some (.tok .lpar ['('], R) := by lex_kw
theorem sTr_rpar (R : List Char) : next L sTr (')' :: R) = some (.tok .rpar [')'], R) := by lex_kw

theorem validPlain_spec (p : Char → Bool) (n : List Char) (h : validPlain p n = true) :
    ∃ c n', n = c :: n' ∧ isBlank c = false ∧ p c = true ∧ ∀ x ∈ n, p x = true := by
  cases n with
  | nil => simp [validPlain] at h
  | cons c n' =>
    simp only [validPlain, Bool.and_eq_true, Bool.not_eq_true', List.all_eq_true] at h
    exact ⟨c, n', rfl, h.1, h.2 c (by simp), h.2⟩

theorem validDelim_spec (o c : Char) (n : List Char) (h : validDelim o c n = true) :
    ∃ t, n = o :: (t ++ [c]) ∧ t ≠ [] ∧ ∀ x ∈ t, x ≠ c := by
  cases n with
  | nil => simp [validDelim] at h
  | cons x r =>
    simp only [validDelim, Bool.and_eq_true, beq_iff_eq, Bool.not_eq_true', List.isEmpty_eq_false_iff,
      List.all_eq_true, decide_eq_true_eq] at h
    obtain ⟨⟨⟨rfl, h2⟩, h3⟩, h4⟩ := h
    obtain ⟨t, rfl⟩ := List.getLast?_eq_some_iff.mp h2
    exact ⟨t, rfl, by simpa using h3, by simpa using h4⟩

theorem matcher_plain (p : Char → Bool) (o cl : Char) (n : List Char) (h : validPlain p n = true) (ho : p o = false)
    (c : Char) (R : List Char) (hc : p c = false) :
    orElse (delimited o cl) (plus p) (n ++ c :: R) = some (n, c :: R) := by
  obtain ⟨x, n', rfl, _, hx, hall⟩ := validPlain_spec p n h
  have hxo : x ≠ o := by intro e; rw [e, ho] at hx; cases hx
  simp only [orElse, List.cons_append, delimited_cons_ne o cl x _ hxo]
  have := plus_append p (x :: n') (c :: R) (by simp) hall (by intro y r' e; cases e; exact hc)
  simpa using this

theorem matcher_delim (p : Char → Bool) (o cl : Char) (n : List Char) (h : validDelim o cl n = true) (R : List Char) :
    orElse (delimited o cl) (plus p) (n ++ R) = some (n, R) := by
  obtain ⟨t, rfl, hne, ht⟩ := validDelim_spec o cl n h
  have := delimited_append o cl t R hne ht
  simp only [orElse, List.cons_append, List.append_assoc, List.nil_append, this]

/-- a name terminal `open [^close]+ close | [class]+` that is tried before the ignored terminals: a blank, a valid name and a
character outside the class are read as the name -/
theorem next_name (tm : Tm) (p : Char → Bool) (o cl : Char) (hrun : tm.run = orElse (delimited o cl) (plus p))
    (hign : tm.ign = false) (hb : p ' ' = false) (ho : p o = false) (hob : isBlank o = false) (ts : List Tm)
    (n : List Char) (h : (validPlain p n || validDelim o cl n) = true) (c : Char) (R : List Char) (hc : p c = false) :
    next L (tm :: .ign0 :: .ign1 :: ts) (' ' :: (n ++ c :: R)) = some (.tok tm n, c :: R) := by
  have hos : ' ' ≠ o := by intro e; subst e; simp [isBlank] at hob
  rw [Bool.or_eq_true] at h
  have hhead : ∃ x n', n = x :: n' ∧ isBlank x = false := by
    rcases h with h | h
    · obtain ⟨x, n', e, hx, _⟩ := validPlain_spec p n h; exact ⟨x, n', e, hx⟩
    · obtain ⟨t, e, _⟩ := validDelim_spec o cl n h; exact ⟨o, _, e, hob⟩
  obtain ⟨x, n', rfl, hx⟩ := hhead
  -- the two splits of `Lx.core`: `[tm, .ign0] ++ .ign1 :: ts` for the skip of the blank, `[] ++ tm :: …` for the match
  refine Lx.core L (fun X => X = c :: R) _ [tm, .ign0] ts [] (.ign0 :: .ign1 :: ts) .ign1 tm x n' rfl ?_
    (fun X => ⟨[' '], blankM_one x X hx⟩) rfl rfl (by intro _ _ u hu; cases hu) ?_ hign _ rfl
  · intro u hu X
    simp only [List.mem_cons, List.not_mem_nil, or_false] at hu
    rcases hu with rfl | rfl
    · show u.run _ = none
      rw [hrun]; cases X <;> simp [orElse, delimited, plus, spanP, hb, hos]
    · exact ign0M_none ' ' X (by decide) (by decide) (by decide)
  · rintro _ rfl
    show tm.run _ = _
    rw [hrun]
    rcases h with h | h
    · exact matcher_plain p o cl _ h ho c R hc
    · exact matcher_delim p o cl _ h (c :: R)

theorem next_id (ts : List Tm) (n : List Char) (h : validId n = true) (c : Char) (R : List Char)
    (hc : isIdCh c = false) :
    next L (.id :: .ign0 :: .ign1 :: ts) (' ' :: (n ++ c :: R)) = some (.tok .id n, c :: R) :=
  next_name .id isIdCh '"' '"' rfl rfl (by decide) (by decide) (by decide) ts n h c R hc

theorem next_ioe (ts : List Tm) (n : List Char) (h : validIoe n = true) (c : Char) (R : List Char)
    (hc : isIoeCh c = false) :
    next L (.idOrEdge :: .ign0 :: .ign1 :: ts) (' ' :: (n ++ c :: R)) = some (.tok .idOrEdge n, c :: R) :=
  next_name .idOrEdge isIoeCh '(' ')' rfl rfl (by decide) (by decide) (by decide) ts n h c R hc

theorem sName_name (n : List Char) (h : validDesign n = true) (R : List Char) :
    next L sName (n ++ '"' :: R) = some (.tok .name n, '"' :: R) := by
  cases n with
  | nil => simp [validDesign] at h
  | cons c n' =>
    simp only [validDesign, ne_eq, decide_not, Bool.and_eq_true, Bool.not_eq_true', decide_eq_false_iff_not,
      List.all_eq_true] at h
    obtain ⟨⟨⟨⟨hb, h1⟩, h2⟩, h3⟩, hall⟩ := h
    have hp := plus_append isNameCh (c :: n') ('"' :: R) (by simp)
      hall (by intro y r' e; cases e; simp [isNameCh])
    simp only [List.cons_append] at hp ⊢
    exact next_tok L _ _ _ _ _
      (by simp [sName, first, L, Tm.run, ign0M_none _ _ h1 h3 h2, blankM_none _ _ hb, hp]) rfl (by simp)

theorem numCh_ne (x : Char) (hx : isNumCh x = true) : x ≠ '\n' ∧ x ≠ '/' ∧ x ≠ '\r' ∧ x ≠ ':' ∧ x ≠ ')' := by
  refine ⟨?_, ?_, ?_, ?_, ?_⟩ <;> (intro e; subst e; revert hx; decide)

theorem numM_valid (term : Char) (hterm : isNumCh term = false) (a R : List Char)
    (ha : ∀ x ∈ a, isNumCh x = true) : numM term (a ++ term :: R) = some (a, R) := by
  unfold numM
  rw [spanP_append isNumCh a (term :: R) ha (by intro y r' e; cases e; exact hterm)]
  simp

theorem ign0M_num (term : Char) (h1 : term ≠ '\n') (h2 : term ≠ '/') (h3 : term ≠ '\r') (a R : List Char)
    (ha : ∀ x ∈ a, isNumCh x = true) : ign0M (a ++ term :: R) = none := by
  cases a with
  | nil => exact ign0M_none _ _ h1 h2 h3
  | cons x a =>
    have := numCh_ne x (ha x (by simp))
    exact ign0M_none _ _ this.1 this.2.1 this.2.2.1

theorem validField_chars (s : List Char) (h : validField s = true) : ∀ x ∈ s, isNumCh x = true := by
  simp only [validField, Bool.and_eq_true, List.all_eq_true] at h
  exact h.1

theorem sT1_rpar (R : List Char) : next L sT1 (')' :: R) = some (.tok .rpar [')'], R) := by
  exact next_tok L _ _ _ _ _
    (by simp [sT1, first, L, Tm.run, ign0M_none, blankM_none, isBlank, chr, numM, spanP, isNumCh]) rfl (by simp)

theorem sT1_num (a R : List Char) (ha : ∀ x ∈ a, isNumCh x = true) :
    next L sT1 (a ++ ':' :: R) = some (.tok .numC a, R) := by
  exact next_tok L _ _ _ _ _
    (by simp [sT1, first, L, Tm.run, ign0M_num ':' (by decide) (by decide) (by decide) a R ha,
          numM_valid ':' (by decide) a R ha]) rfl (by simp)

theorem sT2_num (a R : List Char) (ha : ∀ x ∈ a, isNumCh x = true) :
    expect sT2 .numC (a ++ ':' :: R) = some (a, R) := by
  unfold expect
  rw [next_tok L _ _ .numC a R
    (by simp [sT2, first, L, Tm.run, ign0M_num ':' (by decide) (by decide) (by decide) a R ha,
          numM_valid ':' (by decide) a R ha]) rfl (by simp)]
  simp

theorem sT3_num (a R : List Char) (ha : ∀ x ∈ a, isNumCh x = true) :
    expect sT3 .numR (a ++ ')' :: R) = some (a, R) := by
  unfold expect
  rw [next_tok L _ _ .numR a R
    (by simp [sT3, first, L, Tm.run, ign0M_num ')' (by decide) (by decide) (by decide) a R ha,
          numM_valid ')' (by decide) a R ha]) rfl (by simp)]
  simp

def tripleBody : TTriple → List Char
  | none => [')']
  | some (a, b, c) => a ++ ':' :: (b ++ ':' :: (c ++ [')']))

theorem pTripleTxt_eq (t : TTriple) : pTripleTxt t = '(' :: tripleBody t := by
  cases t with
  | none => rfl
  | some x => obtain ⟨a, b, c⟩ := x; rfl

theorem pTriple_print (t : TTriple) (h : t.valid = true) (R : List Char) :
    pTriple (tripleBody t ++ R) = some (t, R) := by
  cases t with
  | none => simp [tripleBody, pTriple, sT1_rpar]
  | some x =>
    obtain ⟨a, b, c⟩ := x
    simp only [TTriple.valid, Bool.and_eq_true] at h
    have ha := validField_chars a h.1.1
    have hb := validField_chars b h.1.2
    have hc := validField_chars c h.2
    simp only [tripleBody, List.append_assoc, List.cons_append, List.nil_append, pTriple]
    rw [sT1_num a _ ha]
    simp only [sT2_num b _ hb, sT3_num c _ hc]

theorem pTriples_print (N : Nat) (vs : List TTriple) (h : vs.all TTriple.valid = true) (hN : (pTriplesTxt vs).length < N)
    (R : List Char) : pTriples N (pTriplesTxt vs ++ ')' :: R) = some (vs, R) := by
  -- `loop_read` speaks of `enc (items ++ closing) ++ R`; here the items are already characters: `enc := id`
  rw [show pTriplesTxt vs ++ ')' :: R = id (vs.flatMap (fun t => ' ' :: pTripleTxt t) ++ [')']) ++ R by simp [pTriplesTxt]]
  refine loop_read pTriples _ _ id List.length _ R _ N (fun _ _ => List.length_append) (fun _ _ => by simp)
    (fun n => ?_) (fun n t T v ht _ ih => ?_) vs h hN
  · simp [pTriples, sTr_rpar]
  · simp only [id, List.append_assoc] at ih ⊢
    rw [pTripleTxt_eq t]
    simp only [List.cons_append, pTriples, sTr_lpar, pTriple_print t ht, ih]

theorem triples_head (vs : List TTriple) (R : List Char) :
    ∃ c R', pTriplesTxt vs ++ ')' :: R = c :: R' ∧ isIoeCh c = false ∧ isIdCh c = false := by
  cases vs with
  | nil => exact ⟨')', R, rfl, by simp [isIoeCh], by simp [isIdCh]⟩
  | cons t vs => exact ⟨' ', _, rfl, by simp [isIoeCh], by simp [isIdCh]⟩

def entryBody (e : TEntry) : List Char := ' ' :: (e.a ++ ' ' :: (e.b ++ (pTriplesTxt e.vals ++ [')'])))

theorem pEntry_print (N : Nat) (e : TEntry) (h : e.valid = true) (hN : (entryBody e).length < N) (R : List Char) :
    pEntry N e.io (entryBody e ++ R) = some (e, R) := by
  obtain ⟨io, a, b, vs⟩ := e
  simp only [TEntry.valid, Bool.and_eq_true, Bool.or_eq_true, beq_iff_eq] at h
  obtain ⟨⟨hn, hv⟩, hl⟩ := h
  obtain ⟨c, R', hc, hc1, hc2⟩ := triples_head vs R
  simp only [entryBody, List.length_cons, List.length_append] at hN
  have hT := pTriples_print N vs hv (by omega) R
  simp only [entryBody, List.cons_append, List.append_assoc, List.nil_append]
  cases io with
  | true =>
    simp only [↓reduceIte, Bool.and_eq_true] at hn
    simp only [pEntry, ↓reduceIte, expect, sIoe]
    rw [next_ioe _ a hn.1 ' ' _ (by simp [isIoeCh])]
    simp only [↓reduceIte]
    rw [hc, next_ioe _ b hn.2 c R' hc1, ← hc]
    simp only [↓reduceIte, hT]
  | false =>
    simp only [Bool.false_eq_true, ↓reduceIte, Bool.and_eq_true] at hn
    simp only [pEntry, Bool.false_eq_true, ↓reduceIte, expect, sId]
    rw [next_id _ a hn.1 ' ' _ (by simp [isIdCh])]
    simp only [↓reduceIte]
    rw [hc, next_id _ b hn.2 c R' hc2, ← hc]
    simp only [↓reduceIte, hT]

theorem pEntryTxt_eq (e : TEntry) :
    pEntryTxt e = (if e.io then Kw.iopath.chars else Kw.interconnect.chars) ++ entryBody e := rfl

theorem pEntries_print (N : Nat) (es : List TEntry) (h : es.all TEntry.valid = true) (hN : (pEntriesTxt es).length < N)
    (R : List Char) : pEntries N N (pEntriesTxt es ++ ')' :: R) = some (es, R) := by
  rw [show pEntriesTxt es ++ ')' :: R = id (es.flatMap (fun e => ' ' :: pEntryTxt e) ++ [')']) ++ R by simp [pEntriesTxt]]
  refine loop_read (pEntries N) _ _ id List.length _ R _ N (fun _ _ => List.length_append) (fun _ _ => by simp)
    (fun n => ?_) (fun n e T v he hl ih => ?_) es h hN
  · simp [pEntries, sEnt_rpar]
  · simp only [id, List.append_assoc] at ih ⊢
    simp only [pEntryTxt_eq, List.length_cons, List.length_append] at hl
    have he' := pEntry_print N e he (by omega) (T ++ R)
    rw [pEntryTxt_eq e]
    cases hio : e.io with
    | true =>
      rw [hio] at he'
      simp only [↓reduceIte, List.cons_append, List.append_assoc, pEntries, sEnt_iopath, beq_self_eq_true, he', ih]
    | false =>
      rw [hio] at he'
      have : (Kw.interconnect == Kw.iopath) = false := by decide
      simp only [Bool.false_eq_true, ↓reduceIte, List.cons_append, List.append_assoc, pEntries, sEnt_interconnect, this,
        he', ih]

theorem pDelay_print (N : Nat) (es : List TEntry) (h : es.all TEntry.valid = true) (hN : (pEntriesTxt es).length < N)
    (R : List Char) :
    pDelay N (' ' :: (Kw.absolute.chars ++ (pEntriesTxt es ++ ')' :: ')' :: R))) = some (es, R) := by
  simp only [pDelay, expect, sAbs_kw, ↓reduceIte, pEntries_print N es h hN (')' :: R), sRpar_rpar]

def delaysTxt (ds : List (List TEntry)) : List Char := ds.flatMap fun es => ' ' :: pDelayTxt es
def instsTxt (ns : List (List Char)) : List Char := ns.flatMap fun n => ' ' :: pInstTxt n

def CItem.txt : CItem → List Char
  | .inst (some x) => ' ' :: pInstTxt x
  | .delay es => ' ' :: pDelayTxt es
  | _ => []
def CItem.valid : CItem → Bool
  | .inst (some x) => validId x
  | .delay es => es.all TEntry.valid
  | _ => false

theorem pCellItems_print (N : Nat) (its : List CItem) (h : its.all CItem.valid = true)
    (hN : (its.flatMap CItem.txt).length < N) (R : List Char) :
    pCellItems N N (its.flatMap CItem.txt ++ ')' :: R) = some (its, R) := by
  rw [show its.flatMap CItem.txt ++ ')' :: R = id (its.flatMap CItem.txt ++ [')']) ++ R by simp]
  refine loop_read (pCellItems N) _ _ id List.length _ R _ N (fun _ _ => List.length_append) (fun it hit => ?_)
    (fun n => ?_) (fun n it T v hit hl ih => ?_) its h hN
  · match it, hit with
    | .inst (some x), _ => simp [CItem.txt]
    | .delay es, _ => simp [CItem.txt]
  · simp [pCellItems, sCell_rpar]
  · simp only [id, List.append_assoc] at ih ⊢
    match it, hit, hl with
    | .inst (some x), hx, _ =>
      simp only [CItem.txt, pInstTxt, List.cons_append, List.append_assoc, List.nil_append, pCellItems, sCell_instance,
        sInst, next_id _ x hx ')' _ (by simp [isIdCh]), expect, sRpar_rpar, ↓reduceIte, ih]
    | .delay es, hes, hl =>
      simp only [CItem.txt, pDelayTxt, List.length_cons, List.length_append, List.length_nil] at hl
      simp only [CItem.txt, pDelayTxt, List.cons_append, List.append_assoc, List.nil_append, pCellItems, sCell_delay,
        pDelay_print N es hes (by omega), ih]

theorem cellOf_items (ns : List (List Char)) (ds : List (List TEntry)) :
    cellOf (ns.map (fun x => .inst (some x)) ++ ds.map .delay) = ⟨ns, ds⟩ := by
  simp only [cellOf, List.filterMap_append]
  rw [filterMap_map_some (G := CItem.instName) (H := id) ns fun _ => rfl, filterMap_map_none (G := CItem.instName) ds fun _ => rfl,
    filterMap_map_none (G := CItem.delayEs) ns fun _ => rfl, filterMap_map_some (G := CItem.delayEs) (H := id) ds fun _ => rfl]
  simp

def cellBody (c : TCell) : List Char := instsTxt c.insts ++ (delaysTxt c.delays ++ [')'])

theorem pCellTxt_eq (c : TCell) : pCellTxt c = Kw.cell.chars ++ cellBody c := rfl

theorem pCell_print (N : Nat) (c : TCell) (h : c.valid = true) (hN : (cellBody c).length < N) (R : List Char) :
    pCellItems N N (cellBody c ++ R) = some (c.insts.map (fun x => .inst (some x)) ++ c.delays.map .delay, R) := by
  have e : ∀ X, cellBody c ++ X =
      (c.insts.map (fun x => CItem.inst (some x)) ++ c.delays.map CItem.delay).flatMap CItem.txt ++ ')' :: X := by
    intro X; simp [cellBody, instsTxt, delaysTxt, List.flatMap_map, CItem.txt]
  have hl := congrArg List.length (e [])
  simp only [List.append_nil, List.length_append, List.length_cons, List.length_nil] at hl
  rw [e]
  refine pCellItems_print N _ ?_ (by omega) R
  simpa [TCell.valid, List.all_append, List.all_map, Function.comp_def, CItem.valid] using h

def HItem.txt : HItem → List Char
  | .design x => ' ' :: pDesignTxt x
  | .cell c => ' ' :: pCellTxt c
  | .other => []
def HItem.valid : HItem → Bool
  | .design x => validDesign x
  | .cell c => c.valid
  | .other => false

theorem pHdr_print (N : Nat) (its : List HItem) (h : its.all HItem.valid = true) (hN : (its.flatMap HItem.txt).length < N)
    (R : List Char) : pHdr N N (its.flatMap HItem.txt ++ ')' :: R) = some (its, R) := by
  rw [show its.flatMap HItem.txt ++ ')' :: R = id (its.flatMap HItem.txt ++ [')']) ++ R by simp]
  refine loop_read (pHdr N) _ _ id List.length _ R _ N (fun _ _ => List.length_append) (fun it hit => ?_)
    (fun n => ?_) (fun n it T v hit hl ih => ?_) its h hN
  · match it, hit with
    | .design x, _ => simp [HItem.txt]
    | .cell c, _ => simp [HItem.txt]
  · simp [pHdr, sHdr_rpar]
  · simp only [id, List.append_assoc] at ih ⊢
    match it, hit, hl with
    | .design x, hx, _ =>
      simp only [HItem.txt, pDesignTxt, List.cons_append, List.append_assoc, List.nil_append, pHdr, sHdr_design, expect,
        sDq_blank, ↓reduceIte, sName_name x hx, sDq_dq, sRpar_rpar, ih]
    | .cell ⟨insts, delays⟩, hc, hl =>
      simp only [HItem.txt, pCellTxt_eq, List.length_cons, List.length_append] at hl
      simp only [HItem.txt, pCellTxt_eq, List.cons_append, List.append_assoc, pHdr, sHdr_cell,
        pCell_print N ⟨insts, delays⟩ hc (by omega), ih, cellOf_items]

theorem fileOf_items (ns : List (List Char)) (cs : List TCell) :
    fileOf (ns.map .design ++ cs.map .cell) = ⟨ns, cs⟩ := by
  simp only [fileOf, List.filterMap_append]
  rw [filterMap_map_some (G := HItem.designName) (H := id) ns fun _ => rfl, filterMap_map_none (G := HItem.designName) cs fun _ => rfl,
    filterMap_map_none (G := HItem.cellOf) ns fun _ => rfl, filterMap_map_some (G := HItem.cellOf) (H := id) cs fun _ => rfl]
  simp

theorem printSdfL_eq (f : SdfFile) : printSdfL f =
    Kw.delayfile.chars ++ ((f.designs.map HItem.design ++ f.cells.map HItem.cell).flatMap HItem.txt ++ [')', '\n']) := by
  simp [printSdfL, List.flatMap_map, HItem.txt]

theorem sEnd_newline : next L sEnd ['\n'] = some (.eof, []) := by
  rw [next_ign L sEnd ['\n'] .ign0 [] [] (by simp [sEnd, first, L, Tm.run, ign0M, skip0]) rfl (by simp)]
  rfl

theorem parseTree_print (f : SdfFile) (h : f.valid = true) : parseTree (printSdfL f) = some f := by
  have hv : (f.designs.map HItem.design ++ f.cells.map HItem.cell).all HItem.valid = true := by
    simpa [SdfFile.valid, List.all_append, List.all_map, Function.comp_def, HItem.valid] using h
  have hlen := congrArg List.length (printSdfL_eq f)
  simp only [List.length_append, List.length_cons, List.length_nil] at hlen
  have hP := pHdr_print ((printSdfL f).length + 1) _ hv (by omega) ['\n']
  unfold parseTree
  simp only [expect]
  rw [printSdfL_eq] at hP ⊢
  rw [sTop_kw]
  simp only [↓reduceIte] at hP ⊢
  rw [hP]
  simp only [sEnd_newline, fileOf_items]

theorem TTriple.ok_of_valid (t : TTriple) (h : t.valid = true) : t.ok = true := by
  cases t with
  | none => rfl
  | some x =>
    obtain ⟨a, b, c⟩ := x
    simp only [TTriple.valid, validField, Bool.and_eq_true] at h
    simp only [TTriple.ok, Bool.and_eq_true]
    exact ⟨⟨h.1.1.2, h.1.2.2⟩, h.2.2⟩

theorem TEntry.ok_of_valid (e : TEntry) (h : e.valid = true) : e.ok = true := by
  simp only [TEntry.valid, Bool.and_eq_true] at h
  simp only [TEntry.ok, Bool.and_eq_true]
  refine ⟨?_, h.2⟩
  rw [List.all_eq_true] at h ⊢
  exact fun t ht => TTriple.ok_of_valid t (h.1.2 t ht)

theorem SdfFile.ok_of_valid (f : SdfFile) (h : f.valid = true) : f.ok = true := by
  simp only [SdfFile.valid, TCell.valid, Bool.and_eq_true, List.all_eq_true] at h
  simp only [SdfFile.ok, List.all_eq_true]
  exact fun c hc es hes e he => TEntry.ok_of_valid e (h.2 c hc |>.2 es hes e he)

theorem parseSdfL_print (f : SdfFile) (h : f.valid = true) : parseSdfL (printSdfL f) = some f := by
  simp [parseSdfL, parseTree_print f h, SdfFile.ok_of_valid f h]

theorem parseSdf_print (f : SdfFile) (h : f.valid = true) : parseSdf (printSdf f) = some f := by
  simp [parseSdf, printSdf, String.toList_ofList, parseSdfL_print f h]

end KV.SdfText
