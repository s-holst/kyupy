import KyupyVerif.Proofs.CircSem
/-! Output pin tables of `Circ.toNet`: when no two lines leave the same cell pin, every line is listed on its driver's output pin
(`toNet_outPin_line`) — the fact the scheduler's domain predicates `forksOKB` / `linesDrivenB` need. -/
namespace KV.Netlist
open KV

theorem countP_take_lt {β} (p : β → Bool) (l : List β) (i j : Nat) (hij : i < j) (x : β) (hx : l[i]? = some x)
    (hp : p x = true) : (l.take i).countP p < (l.take j).countP p := by
  have h1 : (l.take (i + 1)).countP p = (l.take i).countP p + 1 := by
    rw [List.take_add_one, hx, List.countP_append]; simp [hp]
  have h2 := (List.take_sublist_take_left (l := l) (show i + 1 ≤ j by omega)).countP_le (p := p)
  omega

def isCellEp : Ep → Bool
  | .cell _ _ => true
  | .fork _ => false

theorem toNet_outPin_line (C : Circ) (io : List Nat) (hres : ∀ p ∈ flatLines C, C.resolved p.1)
    (hcells : (((flatLines C).map (·.1)).filter isCellEp).Nodup) (i : Nat) (hi : i < (flatLines C).length) :
    ((C.toNet io).node (C.nodeIdx (flatLines C)[i].1)).outPin (dpinOf ((flatLines C).take i) (flatLines C)[i].1) = some i := by
  have hd := hres _ (List.getElem_mem hi)
  rw [toNet_outPin C io _ _ hd]
  show lastWith (fun ld : LineD => ld.driver == C.nodeIdx (flatLines C)[i].1 &&
    ld.dpin == dpinOf ((flatLines C).take i) (flatLines C)[i].1) C.lineDs 0 = some i
  apply lastWith_unique _ _ i _ (lineDs_getElem? C i hi) (by simp)
  intro i' ld hld hp
  have hi' : i' < (flatLines C).length := by rw [← lineDs_length]; exact (List.getElem?_eq_some_iff.mp hld).1
  rw [lineDs_getElem? C i' hi'] at hld
  simp only [Option.some.injEq] at hld
  subst hld
  simp only [Bool.and_eq_true, beq_iff_eq] at hp
  obtain ⟨hp1, hp2⟩ := hp
  rcases ep_driver_inj C _ _ hd hp1 with ⟨f, h1, h2⟩ | ⟨n, p, p', h1, h2⟩
  · -- a fork: its output pin counts the earlier lines it drives
    rw [h1, h2] at hp2
    simp only [dpinOf] at hp2
    rcases Nat.lt_trichotomy i' i with hlt | heq | hgt
    · have := countP_take_lt (fun x : Ep × Ep => x.1 == Ep.fork f) (flatLines C) i' i hlt _
        (List.getElem?_eq_getElem hi') (by simp [h2])
      omega
    · exact heq
    · have := countP_take_lt (fun x : Ep × Ep => x.1 == Ep.fork f) (flatLines C) i i' hgt _
        (List.getElem?_eq_getElem hi) (by simp [h1])
      omega
  · -- a cell pin: at most one line
    rw [h1, h2] at hp2
    simp only [dpinOf] at hp2
    subst hp2
    have heq : (flatLines C)[i'].1 = (flatLines C)[i].1 := by rw [h1, h2]
    exact nodup_filter_map_index isCellEp id ((flatLines C).map (·.1)) (by simpa using hcells) i' i (flatLines C)[i'].1 (flatLines C)[i].1
      (by simp [hi']) (by simp [hi]) (by simp [h2, isCellEp]) (by simp [h1, isCellEp]) heq

end KV.Netlist
