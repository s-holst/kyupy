import KyupyVerif.Proofs.DataPath
/-! The three arities as `LaneView`s: which lane value a pattern entry denotes and which code `bp_to_mv` shows for a captured
lane value; the m = 8 transition builder lane by lane (`ln8_merge`).  The `Arity` records themselves (`ar2`, `ar4`, `ar8`) are built in
Props/C15Sim.lean: their `op_lane` field is `C01.semLw_lane` / `C02.semLw4_lane` / `C02.semLw8_lane`. -/
namespace KV.DP
open KV KV.Sig KV.Cycle KV.Enc

def ln2 (nb : Nat) (p : Nat) (v : BitVec (8 * nb)) : Bool := v.getLsbD p
def ln4 (nb : Nat) (p : Nat) (v : P2 (BitVec (8 * nb))) : V2 := ⟨v.p0.getLsbD p, v.p1.getLsbD p⟩
def ln8 (nb : Nat) (p : Nat) (v : P3 (BitVec (8 * nb))) : V3 := ⟨v.p0.getLsbD p, v.p1.getLsbD p, v.p2.getLsbD p⟩

/-! `ofCode2`, `ofCode4` (m = 8: `V3.ofCode`): the lane value a multi-valued entry denotes: m = 2 reads plane 0 only (`0` ↦ false,
`1` = 0b011 ↦ true), m = 4 planes 0, 1 (`0`, `X`, `-`, `1`), m = 8 all three. -/
def ofCode2 (n : Nat) : Bool := n % 2 == 1
def ofCode4 (n : Nat) : V2 := V2.ofV3 (V3.ofCode n)

/-- the code `bp_to_mv` shows for a value captured by the 2-valued simulator: planes 0 and 1 both carry the bit (`0` or `1`) -/
def code2 (b : Bool) : Nat := if b then 3 else 0

theorem code2_sum (x y : Bool) : b2n x + 2 * b2n x + 4 * b2n y = code2 x + 4 * b2n y := by cases x <;> cases y <;> rfl
theorem code4_sum (x y z : Bool) : b2n x + 2 * b2n y + 4 * b2n z = V2.code ⟨x, y⟩ + 4 * b2n z := by
  cases x <;> cases y <;> cases z <;> rfl
/-- `+ 0 * w` is the `keep * (old plane-2 bit)` term of `LaneView.enc_code` with `keep = 0`: m = 8 overwrites all three planes -/
theorem code8_sum (x y z : Bool) (w : Nat) : b2n x + 2 * b2n y + 4 * b2n z = V3.code ⟨x, y, z⟩ + 0 * w := by
  cases x <;> cases y <;> cases z <;> simp [b2n, V3.code]

theorem lv2 (nb : Nat) : LaneView (codec2 nb) nb (ln2 nb) ofCode2 code2 4 where
  dec_row row p hnb := by
    subst hnb
    simp only [ln2, codec2, plane_mvToBpRow row 0 p (by omega), ofCode2]
    by_cases hp : p < row.length <;> simp [hp]
  dec_nil p := by simp [ln2, codec2, plane, ofCode2]
  enc_code v r p hp := by
    simp only [codec2]
    rw [bpToMvRow_lanes _ _ _ _ _ hp]
    simp only [ofBytes_toBytes, ln2, plane]
    exact code2_sum _ _
  enc_len _ _ := rfl

theorem lv4 (nb : Nat) : LaneView (codec4 nb) nb (ln4 nb) ofCode4 V2.code 4 where
  dec_row row p hnb := by
    subst hnb
    simp only [ln4, codec4, plane_mvToBpRow row 0 p (by omega), plane_mvToBpRow row 1 p (by omega), ofCode4, V2.ofV3, V3.ofCode]
    by_cases hp : p < row.length <;> simp [hp]
  dec_nil p := by simp [ln4, codec4, plane, ofCode4, V2.ofV3, V3.ofCode]
  enc_code v r p hp := by
    simp only [codec4]
    rw [bpToMvRow_lanes _ _ _ _ _ hp]
    simp only [ofBytes_toBytes, ln4, plane]
    exact code4_sum _ _ _
  enc_len _ _ := rfl

theorem lv8 (nb : Nat) : LaneView (codec8 nb) nb (ln8 nb) V3.ofCode V3.code 0 where
  dec_row row p hnb := by
    subst hnb
    simp only [ln8, codec8, plane_mvToBpRow row 0 p (by omega), plane_mvToBpRow row 1 p (by omega),
      plane_mvToBpRow row 2 p (by omega), V3.ofCode]
    by_cases hp : p < row.length <;> simp [hp]
  dec_nil p := by simp [ln8, codec8, plane, V3.ofCode]
  enc_code v r p hp := by
    simp only [codec8]
    rw [bpToMvRow_lanes _ _ _ _ _ hp]
    simp only [ofBytes_toBytes, ln8]
    exact code8_sum _ _ _ _
  enc_len _ _ := rfl

theorem code2_lt (b : Bool) : code2 b < 8 := by cases b <;> decide
theorem code4_lt (v : V2) : v.code < 8 := by rcases v with ⟨a, b⟩; cases a <;> cases b <;> decide

theorem ln8_merge (nb p : Nat) (a b : P3 (BitVec (8 * nb))) : ln8 nb p (merge8W a b) = merge8L (ln8 nb p a) (ln8 nb p b) := by
  simp [ln8, merge8W, merge8L]

end KV.DP
