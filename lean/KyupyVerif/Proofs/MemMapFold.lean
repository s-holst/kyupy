import KyupyVerif.Model.SimOps
import KyupyVerif.Proofs.StripLink
/-! Fold form of `memMap` (the hand model of `sim.py:261-321`): the imperative `Id.run do` block with nested loops is
equal to a composition of pure folds — one step function per loop body. All later proofs about the memory map
(`Proofs/MemMap*.lean`) are about the fold form; `memMap_eq_fold` transfers them to the model the driver runs. -/
namespace KV

def opSrcs (st : Array (Option Nat)) (op : OpRow) : List Nat :=
  [viaStem st op.i0, viaStem st op.i1, viaStem st op.i2, viaStem st op.i3]

def decRef (s : MapSt) (x : Nat) : MapSt := { s with refc := s.refc.setIfInBounds x (s.refc.getD x 0 - 1) }

/-- `if ref_count[x] <= 0: free_set.add(c_locs[x])` -/
def collectStep (s : MapSt) (fs : List Int) (x : Nat) : List Int :=
  if s.refc.getD x 0 ≤ 0 then setAdd fs (s.locs.getD x (-1)) else fs

def mapOpStep (ix : Idx) (st : Array (Option Nat)) (capsIn : Nat → Nat) (capsMin : Nat)
    (sf : MapSt × List Int) (op : OpRow) : MapSt × List Int :=
  let s1 := (opSrcs st op).foldl decRef sf.1
  let fs := (opSrcs st op).foldl (collectStep s1) sf.2
  if op.out != ix.tmp then (allocAt s1 op.out (max capsMin (capsIn op.out)), fs) else (s1, fs)

/-- the rows `ops[a:b]` as the model reads them -/
def levelOps (ops : List OpRow) (ab : Nat × Nat) : List OpRow :=
  (List.range (ab.2 - ab.1)).map fun k => ops.toArray.getD (ab.1 + k) default

def mapLevelStep (ix : Idx) (st : Array (Option Nat)) (capsIn : Nat → Nat) (capsMin : Nat) (reuse : Bool)
    (ops : List OpRow) (s : MapSt) (ab : Nat × Nat) : MapSt :=
  let r := (levelOps ops ab).foldl (mapOpStep ix st capsIn capsMin) (s, [])
  if reuse then { r.1 with heap := freeAll r.1.heap r.2 } else r.1

/-- body of the loop over `s_nodes` before the levels: input slot allocated and pinned, captured signal pinned -/
def mapSnStep (net : Net) (st : Array (Option Nat)) (capsMin : Nat) (s : MapSt) (ni : Nat × Nat) : MapSt :=
  let nd := net.node ni.1
  let s1 := if nd.outs.length > 0 then incRef (allocAt s (net.idx.ppi + ni.2) capsMin) (net.idx.ppi + ni.2) else s
  if nd.ins.length > 0 then
    match nd.inPin 0 with
    | some l => incRef s1 (viaStem st l)
    | none => s1
  else s1

/-- `c_locs[dst], c_caps[dst] = c_locs[src], c_caps[src]` -/
def aliasSet (s : MapSt) (dst src : Nat) : MapSt :=
  { s with locs := s.locs.setIfInBounds dst (s.locs.getD src (-1)), caps := s.caps.setIfInBounds dst (s.caps.getD src 0) }

def stemAliasStep (s : MapSt) (sl : Option Nat × Nat) : MapSt :=
  match sl.1 with
  | some t => aliasSet s sl.2 t
  | none => s

def ppoAliasStep (net : Net) (s : MapSt) (ni : Nat × Nat) : MapSt :=
  match (net.node ni.1).inPin 0 with
  | some l => aliasSet s (net.idx.ppo + ni.2) l
  | none => if net.io.length ≤ ni.2 then aliasSet s (net.idx.ppo + ni.2) net.idx.zero else s

def mapInit (net : Net) (lev : LevSt) : MapSt :=
  { heap := { cs := [], maxSz := 0 }, locs := Array.replicate net.idx.len (-1),
    caps := Array.replicate net.idx.len 0, refc := lev.refc }

def mapPre (net : Net) (st : Array (Option Nat)) (lev : LevSt) (capsMin : Nat) : MapSt :=
  let s1 := [net.idx.zero, net.idx.tmp, net.idx.tmp2].foldl (fun s x => allocAt s x capsMin) (mapInit net lev)
  let s2 := [net.idx.zero, net.idx.tmp, net.idx.tmp2].foldl incRef s1
  net.sNodes.zipIdx.foldl (mapSnStep net st capsMin) s2

def levelPairs (starts : List Nat) (n : Nat) : List (Nat × Nat) := starts.zip (starts.drop 1 ++ [n])

def mapLevels (net : Net) (ops : List OpRow) (st : Array (Option Nat)) (lev : LevSt)
    (capsIn : Nat → Nat) (capsMin : Nat) (reuse : Bool) : MapSt :=
  (levelPairs lev.starts.reverse ops.length).foldl (mapLevelStep net.idx st capsIn capsMin reuse ops)
    (mapPre net st lev capsMin)

/-- alias passes: stems → branches, captured lines → output slots -/
def mapAliases (net : Net) (st : Array (Option Nat)) (s : MapSt) : MapSt :=
  net.sNodes.zipIdx.foldl (ppoAliasStep net) (st.toList.zipIdx.foldl stemAliasStep s)

def memMapF (net : Net) (ops : List OpRow) (st : Array (Option Nat)) (lev : LevSt)
    (capsIn : Nat → Nat) (capsMin : Nat) (reuse : Bool) : MapSt :=
  mapAliases net st (mapLevels net ops st lev capsIn capsMin reuse)

theorem memMap_eq_fold (net : Net) (ops : List OpRow) (st : Array (Option Nat)) (lev : LevSt)
    (capsIn : Nat → Nat) (capsMin : Nat) (reuse : Bool) :
    memMap net ops st lev capsIn capsMin reuse = memMapF net ops st lev capsIn capsMin reuse := by
  unfold memMap
  simp only [Id.run]
  rw [forIn_id_fold _ _ _ (fun s x => allocAt s x capsMin) (fun _ _ => rfl)]
  simp only [pure_bind]
  rw [forIn_id_fold _ _ _ incRef (fun _ _ => rfl)]
  simp only [pure_bind]
  rw [forIn_id_fold _ _ _ (mapSnStep net st capsMin)]
  · simp only [pure_bind]
    rw [forIn_id_fold _ _ _ (mapLevelStep net.idx st capsIn capsMin reuse ops)]
    · simp only [pure_bind]
      rw [forIn_id_fold _ _ _ stemAliasStep]
      · simp only [pure_bind]
        rw [forIn_id_fold _ _ _ (ppoAliasStep net)]
        · rfl
        · intro x s
          unfold ppoAliasStep aliasSet
          cases h : (net.node x.1).inPin 0 with
          | some l => rfl
          | none => simp only; split <;> rfl
      · intro x s
        unfold stemAliasStep aliasSet
        cases h : x.1 <;> rfl
    · intro x s
      rw [forIn_id_fold _ _ _ (fun sf k => mapOpStep net.idx st capsIn capsMin sf (ops.toArray.getD (x.1 + k) default))]
      · simp only [pure_bind]
        unfold mapLevelStep levelOps
        simp only [List.foldl_map]
        cases reuse <;> rfl
      · intro k sf
        rw [forIn_id_fold _ _ _ decRef (by intros; rfl)]
        simp only [pure_bind]
        rw [forIn_id_fold _ _ _ (collectStep ((opSrcs st (ops.toArray.getD (x.1 + k) default)).foldl decRef sf.1))]
        · simp only [pure_bind]
          unfold mapOpStep opSrcs
          simp only
          split <;> rfl
        · intro y fs
          unfold collectStep opSrcs
          by_cases hc : ((List.foldl decRef sf.fst
              [viaStem st (ops.toArray.getD (x.fst + k) default).i0, viaStem st (ops.toArray.getD (x.fst + k) default).i1,
               viaStem st (ops.toArray.getD (x.fst + k) default).i2,
               viaStem st (ops.toArray.getD (x.fst + k) default).i3]).refc.getD y 0 ≤ 0)
          · simp only [hc, if_true]
          · simp only [hc, if_false]
  · intro x s
    unfold mapSnStep
    simp only
    by_cases h1 : (net.node x.1).outs.length > 0 <;> by_cases h2 : (net.node x.1).ins.length > 0 <;>
      cases h3 : (net.node x.1).inPin 0 <;> simp only [h1, h2, if_true, if_false] <;> rfl

end KV
