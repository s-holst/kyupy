/-! Facts about core notions only (`List`, `Array`, `Option`, `Nat`) that several clusters need.  Imports nothing, so that
every proof module can import it.  Lists of optional entries read with `getD · none` are the pin lists of `circuit.py`
(`CircObj.pin`, `NodeD.inPin` / `outPin`, `node_map`); `growSet` is `CircObj.growSet` and `Transform.growSet` by `rfl`.

`memoOn f ks` is `f`, written so that the kernel evaluates `f` at the member of `ks` that its argument equals (where there is
one) and not at the argument.  The kernel shares the value of a closed term between its occurrences; `f t` for different unevaluated `t`
of equal value is evaluated afresh, and a string function on an unevaluated string (a field of an array element, say) costs several
times what it costs on a literal.  With the values that occur listed in `ks`, `f` is evaluated once per value. -/
namespace KV
universe u v w
variable {α : Type u} {β : Type v} {γ : Type w}

theorem flatMap_congr {l : List α} {f g : α → List β} (h : ∀ a ∈ l, f a = g a) : l.flatMap f = l.flatMap g := by
  rw [List.flatMap_def, List.flatMap_def, List.map_congr_left h]

theorem foldl_congr {f g : β → α → β} {l : List α} (h : ∀ a ∈ l, ∀ s, f s a = g s a) (s : β) :
    l.foldl f s = l.foldl g s :=
  List.foldl_rel (r := Eq) rfl fun a ha c _ e => e ▸ h a ha c

theorem foldl_inv {σ : Type w} (f : σ → α → σ) (P : σ → Prop) {l : List α} (step : ∀ s, ∀ a ∈ l, P s → P (f s a))
    {s : σ} (h : P s) : P (l.foldl f s) :=
  List.foldlRecOn l f h fun s hs a ha => step s a ha hs

/-- invariant indexed by the part of the list already visited; the step sees where it stands in the list -/
theorem foldl_inv_done {σ α : Type} (f : σ → α → σ) (Inv : List α → σ → Prop) (todo done : List α) (s : σ) (h : Inv done s)
    (step : ∀ pre a r s, todo = pre ++ a :: r → Inv (done ++ pre) s → Inv (done ++ pre ++ [a]) (f s a)) :
    Inv (done ++ todo) (todo.foldl f s) := by
  induction todo generalizing done s with
  | nil => simpa using h
  | cons x rest ih =>
    have := ih (done ++ [x]) (f s x) (by simpa using step [] x rest s rfl (by simpa using h))
      (fun pre a r s e => by simpa using step (x :: pre) a r s (by simp [e]))
    simpa using this

/-- invariant of a loop that may fail, indexed by the part of the list already visited (`foldl_inv_done` for `foldlM` in `Option`) -/
theorem foldlM_inv {σ ι : Type} (f : σ → ι → Option σ) (P : List ι → σ → Prop)
    (step : ∀ pre s j s', P pre s → f s j = some s' → P (pre ++ [j]) s') :
    ∀ (js pre : List ι) (s s' : σ), P pre s → js.foldlM f s = some s' → P (pre ++ js) s'
  | [], pre, s, s', hP, h => by
    simp only [List.foldlM_nil] at h
    cases Option.some.inj h
    simpa using hP
  | j :: js, pre, s, s', hP, h => by
    simp only [List.foldlM_cons, Option.bind_eq_bind, Option.bind_eq_some_iff] at h
    obtain ⟨s1, h1, h2⟩ := h
    have := foldlM_inv f P step js (pre ++ [j]) s1 s' (step pre s j s1 hP h1) h2
    simpa using this

theorem snoc_ind {P : List α → Prop} (h0 : P [])
    (hs : ∀ (l : List α) (a : α), P l → P (l ++ [a])) : ∀ l, P l := by
  have h : ∀ l : List α, P l.reverse := by
    intro l
    induction l with
    | nil => exact h0
    | cons a l ih => rw [List.reverse_cons]; exact hs _ _ ih
  intro l
  have := h l.reverse
  rwa [List.reverse_reverse] at this

theorem inj_of_nodup_map (f : α → β) {l : List α} (h : (l.map f).Nodup) {x y : α} (hx : x ∈ l) (hy : y ∈ l)
    (e : f x = f y) : x = y :=
  have hp := List.pairwise_map.mp h
  List.Pairwise.forall_of_forall_of_flip (R := fun x y => f x = f y → x = y) (fun _ _ _ => rfl) (hp.imp fun ne e => absurd e ne)
    (hp.imp fun ne e => absurd e.symm ne) hx hy e

theorem nodup_map_of_inj (f : α → β) {l : List α} (hinj : ∀ x ∈ l, ∀ y ∈ l, f x = f y → x = y) (h : l.Nodup) :
    (l.map f).Nodup :=
  List.pairwise_map.mpr (h.imp_of_mem fun hx hy ne e => ne (hinj _ hx _ hy e))

theorem nodup_map_range (n : Nat) (f : Nat → β) (hinj : ∀ a b, a < n → b < n → f a = f b → a = b) :
    ((List.range n).map f).Nodup :=
  nodup_map_of_inj f (fun a ha b hb => hinj a b (List.mem_range.mp ha) (List.mem_range.mp hb)) List.nodup_range

theorem idxOf_map_inj [BEq α] [LawfulBEq α] [BEq β] [LawfulBEq β] (f : α → β) (l : List α) (x : α)
    (hinj : ∀ y ∈ l, f y = f x → y = x) : (l.map f).idxOf (f x) = l.idxOf x := by
  induction l with
  | nil => rfl
  | cons a r ih =>
    simp only [List.map_cons, List.idxOf_cons]
    by_cases h : a = x
    · subst h; simp
    · have h2 : f a ≠ f x := fun e => h (hinj a List.mem_cons_self e)
      have h3 : (a == x) = false := by simp [h]
      have h4 : (f a == f x) = false := by simp [h2]
      rw [h3, h4]
      simp only [cond_false]
      rw [ih (fun y hy => hinj y (List.mem_cons_of_mem _ hy))]

/-- any checker with the equations of the models' `nodupB` / `nodupS` / `nodupN` / `nodupE` decides `List.Nodup` -/
theorem nodupB_iff [BEq α] [LawfulBEq α] (f : List α → Bool) (h0 : f [] = true)
    (hc : ∀ x r, f (x :: r) = (!r.contains x && f r)) : ∀ l, f l = true ↔ l.Nodup
  | [] => by simp [h0]
  | x :: r => by
    rw [hc, List.nodup_cons, ← nodupB_iff f h0 hc r]
    simp

theorem getElem?_idxOf [BEq α] [LawfulBEq α] {l : List α} {a : α} (h : a ∈ l) : l[l.idxOf a]? = some a := by
  rw [List.getElem?_eq_getElem (List.idxOf_lt_length_of_mem h), List.getElem_idxOf]

theorem mem_zip_of_getElem? {l : List α} {l' : List β} {j : Nat} {a : α} {b : β} (h1 : l[j]? = some a)
    (h2 : l'[j]? = some b) : (a, b) ∈ l.zip l' :=
  List.mem_iff_getElem?.mpr ⟨j, List.getElem?_zip_eq_some.mpr ⟨h1, h2⟩⟩

theorem zip_fst_sublist : ∀ (l : List α) (l' : List β), ((l.zip l').map Prod.fst).Sublist l
  | [], _ => by simp
  | _ :: l, [] => by simp
  | a :: l, b :: l' => by simpa using zip_fst_sublist l l'

theorem foldl_max_le_iff (g : β → Nat) (l : List β) (a L : Nat) :
    l.foldl (fun m x => max m (g x)) a ≤ L ↔ a ≤ L ∧ ∀ x ∈ l, g x ≤ L := by
  induction l generalizing a with
  | nil => simp
  | cons y ys ih =>
    simp only [List.foldl_cons, ih, List.mem_cons, forall_eq_or_imp, Nat.max_le]
    exact ⟨fun ⟨⟨h1, h2⟩, h3⟩ => ⟨h1, h2, h3⟩, fun ⟨h1, h2, h3⟩ => ⟨⟨h1, h2⟩, h3⟩⟩

/-- `GrowingList.__setitem__` -/
def growSet (l : List (Option α)) (i : Nat) (v : Option α) : List (Option α) :=
  if i < l.length then l.set i v else l ++ List.replicate (i - l.length) none ++ [v]

theorem getD_eq_some_iff {l : List (Option α)} {p : Nat} {x : α} : l.getD p none = some x ↔ l[p]? = some (some x) := by
  rw [List.getD_eq_getElem?_getD]
  cases l[p]? with
  | none => simp
  | some v => simp

theorem lt_of_getD_some {l : List (Option α)} {p : Nat} {x : α} (h : l.getD p none = some x) : p < l.length :=
  (List.getElem?_eq_some_iff.mp (getD_eq_some_iff.mp h)).1

theorem getD_growSet (l : List (Option α)) (i p : Nat) (v : Option α) :
    (growSet l i v).getD p none = if p = i then v else l.getD p none := by
  unfold growSet
  simp only [List.getD_eq_getElem?_getD]
  split
  · rename_i h
    rw [List.getElem?_set]
    by_cases e : i = p
    · subst e; simp [h]
    · have : ¬ p = i := fun x => e x.symm
      simp [e, this]
  · rename_i h
    simp only [List.getElem?_append, List.getElem?_replicate, List.length_append, List.length_replicate]
    by_cases e : p = i
    · subst e
      have h1 : ¬ p < l.length + (p - l.length) := by omega
      have h2 : p - (l.length + (p - l.length)) = 0 := by omega
      simp [h1, h2]
    · simp only [e, if_false]
      by_cases hp : p < l.length
      · have : p < l.length + (i - l.length) := by omega
        simp [this, hp]
      · rw [List.getElem?_eq_none (by omega : l.length ≤ p)]
        by_cases hq : p < i
        · have h1 : p < l.length + (i - l.length) := by omega
          have h2 : p - l.length < i - l.length := by omega
          simp [h1, hp, h2]
        · have h1 : ¬ p < l.length + (i - l.length) := by omega
          simp only [h1, if_false]
          rw [List.getElem?_eq_none]; simp; omega

theorem mem_filterMap_id (l : List (Option α)) (x : α) : x ∈ l.filterMap id ↔ ∃ k, l.getD k none = some x := by
  rw [List.mem_filterMap]
  simp only [id, exists_eq_right, getD_eq_some_iff, ← List.mem_iff_getElem?]

theorem nodup_filterMap_id : ∀ (l : List (Option α)),
    (∀ (p q : Nat) (x : α), l.getD p none = some x → l.getD q none = some x → p = q) → (l.filterMap id).Nodup
  | [], _ => by simp
  | a :: l, h => by
    have ih := nodup_filterMap_id l (fun p q x h1 h2 => by
      have := h (p + 1) (q + 1) x (by simpa using h1) (by simpa using h2)
      omega)
    cases a with
    | none => simpa [List.filterMap_cons] using ih
    | some x =>
      simp only [List.filterMap_cons, id, List.nodup_cons]
      refine ⟨fun hx => ?_, ih⟩
      obtain ⟨k, hk⟩ := (mem_filterMap_id l x).mp hx
      have := h 0 (k + 1) x (by simp) (by simpa using hk)
      omega

theorem getD_none_of_any_isSome {l : List (Option α)} (h : l.any (·.isSome) = false) (k : Nat) : l.getD k none = none := by
  cases e : l.getD k none with
  | none => rfl
  | some x => exact absurd rfl (List.any_eq_false.mp h _ (List.mem_iff_getElem?.mpr ⟨k, getD_eq_some_iff.mp e⟩))

theorem getD_map' (f : α → β) (a : List α) (i : Nat) (d : α) : (a.map f).getD i (f d) = f (a.getD i d) := by
  simp only [List.getD_eq_getElem?_getD, List.getElem?_map]
  cases a[i]? <;> rfl

theorem getD_map_some (L : List α) (k : Nat) (x : α) : (L.map some).getD k none = some x ↔ L[k]? = some x := by
  simp only [List.getD_eq_getElem?_getD, List.getElem?_map]
  cases L[k]? <;> simp

theorem dense_getD_iff (l : List (Option α)) (x : α) :
    (∃ k, ((l.filterMap id).map some).getD k none = some x) ↔ (∃ k, l.getD k none = some x) := by
  refine Iff.trans ?_ (mem_filterMap_id l x)
  constructor
  · rintro ⟨k, hk⟩
    rw [getD_map_some] at hk
    exact List.mem_of_getElem? hk
  · intro hx
    obtain ⟨k, hk⟩ := List.mem_iff_getElem?.mp hx
    exact ⟨k, (getD_map_some _ k x).mpr hk⟩

theorem dense_pinNodup (l : List (Option α)) (h : ∀ k1 k2 x, l.getD k1 none = some x → l.getD k2 none = some x → k1 = k2)
    (k1 k2 : Nat) (x : α) (h1 : ((l.filterMap id).map some).getD k1 none = some x)
    (h2 : ((l.filterMap id).map some).getD k2 none = some x) : k1 = k2 := by
  rw [getD_map_some] at h1 h2
  obtain ⟨a1, _⟩ := List.getElem?_eq_some_iff.mp h1
  exact (List.getElem?_inj a1 (nodup_filterMap_id l h)).mp (h1.trans h2.symm)

theorem zip_snd_filterMap {β : Type _} (as : List β) (bs : List (Option α)) (h : bs.length ≤ as.length) :
    (as.zip bs).filterMap (·.2) = bs.filterMap id := by
  have : (as.zip bs).filterMap (·.2) = ((as.zip bs).map Prod.snd).filterMap id := by
    rw [List.filterMap_map]; rfl
  rw [this, List.map_snd_zip h]

theorem getD_setIfInBounds (a : Array α) (i x : Nat) (v d : α) :
    (a.setIfInBounds i v).getD x d = if i = x ∧ i < a.size then v else a.getD x d := by
  simp only [Array.getD_eq_getD_getElem?, Array.getElem?_setIfInBounds]
  by_cases e : i = x
  · subst e
    by_cases hi : i < a.size
    · simp [hi]
    · simp [hi]
  · simp [e]

theorem getD_modify (a : Array α) (k x : Nat) (f : α → α) (d : α) :
    (a.modify k f).getD x d = if x = k ∧ k < a.size then f (a.getD x d) else a.getD x d := by
  simp only [Array.getD_eq_getD_getElem?, Array.getElem?_modify]
  by_cases e : k = x
  · subst e
    by_cases hk : k < a.size
    · simp [hk]
    · simp [hk]
  · have : ¬ x = k := fun h => e h.symm
    simp [e, this]

theorem getD_ge_size (a : Array α) (d : α) {x : Nat} (h : a.size ≤ x) : a.getD x d = d := by
  rw [Array.getD_eq_getD_getElem?, Array.getElem?_eq_none h]; rfl

theorem getD_push (a : Array α) (v : α) (x : Nat) (d : α) :
    (a.push v).getD x d = if x < a.size then a.getD x d else if x = a.size then v else d := by
  simp only [Array.getD_eq_getD_getElem?, Array.getElem?_push]
  by_cases h1 : x < a.size
  · have : ¬ x = a.size := by omega
    simp [h1, this]
  · by_cases h2 : x = a.size
    · simp [h2]
    · simp [h1, h2]

/-! ## sequential writes seen pointwise

A state `s : σ` is read through `rd s : ι → ρ`; a write `wr s b` changes the reading at `idx b` only, by `g b`.  The reading at
`x` after a run of writes is then the fold of the writes addressed to `x`.  `rd` is the identity for function states,
`fun s i => s[i]?` for lists under `set` and arrays under `setIfInBounds`. -/

section pointwise
universe u1 u2 u3 u4
variable {β : Type u1} {σ : Type u2} {ι : Type u3} {ρ : Type u4}

theorem foldl_pointwise [DecidableEq ι] (rd : σ → ι → ρ) (wr : σ → β → σ) (idx : β → ι) (g : β → ρ → ρ)
    (h : ∀ s b a, rd (wr s b) a = if a = idx b then g b (rd s a) else rd s a) (l : List β) (s : σ) (x : ι) :
    rd (l.foldl wr s) x = (l.filter fun b => idx b = x).foldl (fun r b => g b r) (rd s x) := by
  induction l generalizing s with
  | nil => rfl
  | cons b l ih =>
    rw [List.foldl_cons, ih, h, List.filter_cons]
    by_cases e : idx b = x
    · simp [e]
    · have : ¬ x = idx b := fun h => e h.symm
      simp [e, this]

theorem foldl_pointwise_const [DecidableEq ι] (rd : σ → ι → ρ) (wr : σ → β → σ) (idx : β → ι) (g : β → ρ → ρ)
    (h : ∀ s b a, rd (wr s b) a = if a = idx b then g b (rd s a) else rd s a) (l : List β) (s : σ) (x : ι) (c : ρ → ρ)
    (hc : ∀ b ∈ l, idx b = x → g b = c) (idem : ∀ r, c (c r) = c r) :
    rd (l.foldl wr s) x = if x ∈ l.map idx then c (rd s x) else rd s x := by
  rw [foldl_pointwise rd wr idx g h]
  generalize rd s x = r
  induction l generalizing r with
  | nil => rfl
  | cons b l ih =>
    have ih := ih fun b hb => hc b (List.mem_cons_of_mem _ hb)
    rw [List.filter_cons]
    by_cases e : idx b = x
    · simp only [e, decide_true, if_true, List.foldl_cons, List.map_cons, List.mem_cons, true_or]
      rw [ih, hc b List.mem_cons_self e]
      split <;> simp [idem]
    · have : ¬ x = idx b := fun h => e h.symm
      simp only [e, decide_false, Bool.false_eq_true, if_false, List.map_cons, List.mem_cons, this, false_or]
      exact ih r

/-- one array write in the shape `foldl_pointwise` wants -/
theorem getElem?_setIfInBounds' {α : Type u1} (a : Array α) (i x : Nat) (v : α) :
    (a.setIfInBounds i v)[x]? = if x = i then (a[x]?).map (fun _ => v) else a[x]? := by
  rw [Array.getElem?_setIfInBounds]
  by_cases e : i = x
  · subst e; by_cases hl : i < a.size <;> simp [hl]
  · have : ¬ x = i := fun h => e h.symm
    simp [e, this]

theorem foldl_set_length {α β} (l : List β) (pos : β → Nat) (v : β → α) (s : List α) :
    (l.foldl (fun s x => s.set (pos x) (v x)) s).length = s.length := by
  induction l generalizing s with
  | nil => rfl
  | cons x r ih => simp only [List.foldl_cons]; rw [ih]; simp

/-- after the writes `s[pos x] := v x` (in list order), position `i` holds `w` if some write hits it and all writes that hit
    it carry `w`; otherwise its old content -/
theorem foldl_set_getElem? {α β} (l : List β) (pos : β → Nat) (v : β → α) (i : Nat) (w : α)
    (h : ∀ x ∈ l, pos x = i → v x = w) (s : List α) :
    (l.foldl (fun s x => s.set (pos x) (v x)) s)[i]? = if i ∈ l.map pos then (s[i]?).map (fun _ => w) else s[i]? :=
  foldl_pointwise_const (fun (s : List α) (i : Nat) => s[i]?) (fun s x => s.set (pos x) (v x)) pos (fun b => Option.map fun _ => v b)
    (fun s b a => by
      rw [List.getElem?_set]
      by_cases e : pos b = a
      · subst e; by_cases hl : pos b < s.length <;> simp [hl]
      · have : ¬ a = pos b := fun h => e h.symm
        simp [e, this])
    l s i (Option.map fun _ => w) (fun b hb e => by rw [h b hb e]) (fun r => by cases r <;> rfl)

end pointwise


theorem filter_length_le_of_imp {α : Type _} (l : List α) (f g : α → Bool) (h : ∀ t ∈ l, f t = true → g t = true) :
    (l.filter f).length ≤ (l.filter g).length := by
  rw [← List.countP_eq_length_filter, ← List.countP_eq_length_filter]; exact List.countP_mono_left h

theorem filter_length_lt_of_imp {α : Type _} (l : List α) (f g : α → Bool) (h : ∀ t ∈ l, f t = true → g t = true)
    (a : α) (ha : a ∈ l) (hfa : f a = false) (hga : g a = true) :
    (l.filter f).length < (l.filter g).length := by
  induction l with
  | nil => cases ha
  | cons t r ih =>
    have hle := filter_length_le_of_imp r f g (fun u hu => h u (List.mem_cons_of_mem _ hu))
    simp only [List.filter_cons]
    rcases List.mem_cons.mp ha with rfl | har
    · simp [hfa, hga]; omega
    · have ih' := ih (fun u hu => h u (List.mem_cons_of_mem _ hu)) har
      have ht := h t List.mem_cons_self
      cases hf : f t <;> cases hg : g t <;> simp <;> first | omega | (rw [hf] at ht; simp [hg] at ht)

theorem foldl_max_ge {β : Type _} (g : β → Nat) (l : List β) (a : Nat) :
    a ≤ l.foldl (fun m x => Nat.max m (g x)) a ∧ ∀ x ∈ l, g x ≤ l.foldl (fun m x => Nat.max m (g x)) a :=
  (foldl_max_le_iff g l a _).mp (Nat.le_refl _)

theorem filterMap_getElem?_range_take {β : Type _} (l : List β) (n : Nat) :
    (List.range n).filterMap (l[·]?) = l.take n := by
  induction n with
  | zero => rfl
  | succ n ih =>
    rw [List.range_succ, List.filterMap_append, ih, List.take_add_one]
    cases h : l[n]? <;> simp [h]

theorem filterMap_getElem?_range {β : Type _} (l : List β) : (List.range l.length).filterMap (l[·]?) = l := by
  rw [filterMap_getElem?_range_take, List.take_length]

def memoOn {α β} [DecidableEq α] (f : α → β) : List α → α → β
  | [], a => f a
  | k :: ks, a => if a = k then f k else memoOn f ks a

theorem memoOn_eq {α β} [DecidableEq α] (f : α → β) (ks : List α) : memoOn f ks = f := by
  funext a
  induction ks with
  | nil => rfl
  | cons k ks ih => unfold memoOn; split <;> simp [*]

theorem modify_push_last {α : Type _} (ls : Array α) (x : α) (f : α → α) (h : f x = x) : (ls.push x).modify ls.size f = ls.push x := by
  apply Array.ext
  · simp
  · intro i h1 h2
    simp only [Array.getElem_modify]
    split
    · rename_i e; subst e; simp [h]
    · rfl

theorem flatMap_toList_map (f : α → Option β) (g : β → γ) (l : List α) :
    (l.flatMap fun x => (f x).toList.map g) = (l.filterMap f).map g := by
  induction l with
  | nil => rfl
  | cons a r ih =>
    simp only [List.flatMap_cons, List.filterMap_cons, ih]
    cases f a <;> simp

theorem getD_map_lt {γ δ} (f : γ → δ) (l : List γ) (i : Nat) (d : δ) (dg : γ) (h : i < l.length) :
    (l.map f).getD i d = f (l.getD i dg) := by
  simp [List.getD_eq_getElem?_getD, List.getElem?_map, List.getElem?_eq_getElem h]

theorem filterMap_map_some {F : α → β} {G : β → Option γ} {H : α → γ} (l : List α) (h : ∀ x, G (F x) = some (H x)) :
    (l.map F).filterMap G = l.map H := by
  rw [List.filterMap_map, show G ∘ F = some ∘ H from funext h, List.filterMap_eq_map]

theorem filterMap_map_none {F : α → β} {G : β → Option γ} (l : List α) (h : ∀ x, G (F x) = none) :
    (l.map F).filterMap G = [] :=
  List.filterMap_eq_nil_iff.mpr fun y hy => by obtain ⟨x, _, rfl⟩ := List.mem_map.mp hy; exact h x

end KV
