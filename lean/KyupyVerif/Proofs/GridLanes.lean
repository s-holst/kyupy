import KyupyVerif.Proofs.Grid
import KyupyVerif.Model.WaveIO
/-! Lane-local kernels: a kernel whose thread `(x, y)` touches lane `x` only leaves, under the mock launcher, on every lane
`x < n` the result of running the work items `y = 0, …, m-1` in increasing order — the order of the CPU loops — and nothing on
the other lanes. No independence between the work items of one lane is needed (the launch keeps their order); independence
between lanes is structural. -/
namespace KV.Grid
open KV.WaveIO

def runLanes {σ} (work : Nat → Nat → σ → σ) (l : List (Nat × Nat)) (S : Nat → σ) : Nat → σ :=
  l.foldl (fun S p => onLane S p.1 (work p.1 p.2)) S

def laneSeq (l : List (Nat × Nat)) (k : Nat) : List Nat := (l.filter fun p => p.1 == k).map (·.2)

theorem runLanes_lane {σ} (work : Nat → Nat → σ → σ) (l : List (Nat × Nat)) (S : Nat → σ) (k : Nat) :
    runLanes work l S k = (laneSeq l k).foldl (fun st y => work k y st) (S k) := by
  induction l generalizing S with
  | nil => rfl
  | cons p r ih =>
    simp only [runLanes, List.foldl_cons] at ih ⊢
    rw [ih]
    unfold laneSeq
    by_cases h : p.1 = k
    · subst h
      simp [onLane]
    · have h' : (p.1 == k) = false := by simp [h]
      have hk : ¬ k = p.1 := fun e => h e.symm
      simp [onLane, h', hk]

theorem mem_laneSeq {l : List (Nat × Nat)} {k y : Nat} : y ∈ laneSeq l k ↔ (k, y) ∈ l := by
  simp only [laneSeq, List.mem_map, List.mem_filter, beq_iff_eq]
  constructor
  · rintro ⟨⟨a, b⟩, ⟨h, rfl⟩, rfl⟩; exact h
  · intro h; exact ⟨(k, y), ⟨h, rfl⟩, rfl⟩

theorem laneSeq_perm {l l' : List (Nat × Nat)} (h : l.Perm l') (k : Nat) : (laneSeq l k).Perm (laneSeq l' k) :=
  (h.filter _).map _

theorem laneSeq_of_sorted {l : List (Nat × Nat)} {n m : Nat}
    (hs : l.Pairwise (fun p q => p.1 = q.1 → p.2 < q.2)) (hmem : ∀ p, p ∈ l ↔ p.1 < n ∧ p.2 < m) (k : Nat) :
    laneSeq l k = if k < n then List.range m else [] := by
  have hsort : (laneSeq l k).Pairwise (· < ·) := by
    unfold laneSeq
    rw [List.pairwise_map]
    refine List.Pairwise.imp_of_mem ?_ (hs.filter _)
    intro p q hp hq h
    simp only [List.mem_filter, beq_iff_eq] at hp hq
    exact h (hp.2.trans hq.2.symm)
  have hm : ∀ y, y ∈ laneSeq l k ↔ k < n ∧ y < m := fun y => mem_laneSeq.trans (hmem (k, y))
  by_cases hk : k < n
  · rw [if_pos hk]
    refine List.Perm.eq_of_pairwise (le := (· < ·)) ?_ hsort List.pairwise_lt_range ?_
    · intro a b _ _ h1 h2; omega
    · refine (List.perm_ext_iff_of_nodup ?_ List.nodup_range).mpr ?_
      · exact hsort.imp (fun h => Nat.ne_of_lt h)
      · intro y; rw [hm, List.mem_range]; exact ⟨fun h => h.2, fun h => ⟨hk, h⟩⟩
  · rw [if_neg hk]
    exact List.eq_nil_iff_forall_not_mem.mpr fun y hy => hk ((hm y).mp hy).1

theorem runLanes_kernel {σ} (work : Nat → Nat → σ → σ) (n m bx by_ : Nat) (hbx : 0 < bx) (hby : 0 < by_)
    (S : Nat → σ) (k : Nat) :
    runLanes work (kernelThreads n m bx by_) S k =
      if k < n then (List.range m).foldl (fun st y => work k y st) (S k) else S k := by
  rw [runLanes_lane, laneSeq_of_sorted (l := kernelThreads n m bx by_) ((launch_sorted _ _ _ _).filter _) (fun _ => mem_kernelThreads hbx hby)]
  split <;> rfl

theorem runLanes_cpuLoop {σ} (work : Nat → Nat → σ → σ) (n m : Nat) (S : Nat → σ) (k : Nat) :
    runLanes work (cpuLoop n m) S k =
      if k < n then (List.range m).foldl (fun st y => work k y st) (S k) else S k := by
  rw [runLanes_lane, laneSeq_of_sorted (cpuLoop_sorted n m) (fun _ => mem_cpuLoop)]
  split <;> rfl

theorem launch_guarded {β} (F : Nat × Nat → β → β) (n m gx gy bx by_ : Nat) (S : β) :
    (launch gx gy bx by_).foldl (fun S p => if p.1 < n ∧ p.2 < m then F p S else S) S =
      (active n m (launch gx gy bx by_)).foldl (fun S p => F p S) S := by
  unfold active
  rw [List.foldl_filter]
  congr 1
  funext S p
  by_cases h1 : p.1 < n <;> by_cases h2 : p.2 < m <;> simp [h1, h2]

theorem onLane_self {σ} (S : Nat → σ) (k : Nat) : onLane S k (fun st => st) = S := by
  funext j; unfold onLane; split <;> rfl

/-- **a kernel whose thread `(x, y)` tests `x < n`, `y < m` itself and then acts on lane `x` only**: the guarded threads of
    the grid are exactly the work items, each once — lane `k < n` receives the items `0, …, m-1` in this order, the other
    lanes nothing, for every block shape -/
theorem launch_lanes {σ} (thr : Nat → Nat → (Nat → σ) → Nat → σ) (work : Nat → Nat → σ → σ) (n m bx by_ : Nat)
    (hbx : 0 < bx) (hby : 0 < by_)
    (hin : ∀ x y S, x < n → y < m → thr x y S = onLane S x (work x y))
    (hout : ∀ x y S, ¬ (x < n ∧ y < m) → thr x y S = S) (S : Nat → σ) (k : Nat) :
    (launch (cdiv n bx) (cdiv m by_) bx by_).foldl (fun S p => thr p.1 p.2 S) S k =
      if k < n then (List.range m).foldl (fun st y => work k y st) (S k) else S k := by
  have e : (fun (S : Nat → σ) (p : Nat × Nat) => thr p.1 p.2 S) =
      fun S p => if p.1 < n ∧ p.2 < m then onLane S p.1 (work p.1 p.2) else S := by
    funext S p
    split
    · rename_i h; exact hin _ _ S h.1 h.2
    · rename_i h; exact hout _ _ S h
  rw [← runLanes_kernel work n m bx by_ hbx hby, runLanes, kernelThreads,
    ← launch_guarded (fun p S => onLane S p.1 (work p.1 p.2)), e]

end KV.Grid
