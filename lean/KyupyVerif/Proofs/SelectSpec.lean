import KyupyVerif.Model.Net
import KyupyVerif.Gen.Tables
/-! Selection of the simulation primitive for a node kind, **every kind string**: the first match over the generated,
ordered `kind_prefixes` table of `sim.py` (`selectPrim Gen.kindPrefixes`) is the member of the LONGEST matching family of
the hand-written specification (`specPrimName` over `specFamilies`), for all pin-connection flags (`select_is_spec`;
`C01.select_vocab` is its restriction to a listed vocabulary of kinds).

Why first match = longest match: all matching prefixes are prefixes of the same string, so of two matching prefixes the
shorter is a prefix of the longer; the table never lists a prefix before one of its proper extensions (`fam_order_ok`,
kernel-checked on the table), hence no later match is longer than the first one. The generated table is the specified
family table with every primitive name replaced by its code (`table_is_spec`, kernel-checked on the regenerated tables). -/
namespace KV

/-- code of a primitive name in `sim.names` -/
def primCode (name : String) : Option Nat := (Gen.prims.find? (·.1 == name)).map (·.2)

theorem primCode_mem {name : String} {code : Nat} (h : primCode name = some code) : (name, code) ∈ Gen.prims := by
  unfold primCode at h
  cases hf : Gen.prims.find? (·.1 == name) with
  | none => rw [hf] at h; cases h
  | some e =>
    rw [hf] at h
    simp only [Option.map_some, Option.some.injEq] at h
    have hm := List.mem_of_find?_eq_some hf
    have hp := List.find?_some hf
    have hn : e.1 = name := by simpa using hp
    rcases e with ⟨a, b⟩
    simp only at hn h
    subst hn; subst h
    exact hm

abbrev Fam := String × String × String × String

def famStep (best : Option Fam) (f : Fam) : Option Fam :=
  match best with
  | none => some f
  | some b => if b.1.length < f.1.length then some f else some b

theorem foldl_famStep_some (l : List Fam) (b : Fam) (h : ∀ f ∈ l, f.1.length ≤ b.1.length) :
    l.foldl famStep (some b) = some b := by
  induction l with
  | nil => rfl
  | cons f r ih =>
    have hf := h f List.mem_cons_self
    have : famStep (some b) f = some b := by
      simp only [famStep]
      rw [if_neg (by omega)]
    rw [List.foldl_cons, this]
    exact ih (fun g hg => h g (List.mem_cons_of_mem _ hg))

def properPrefixB (p q : String) : Bool := p.toList.isPrefixOf q.toList && decide (p.length < q.length)

theorem fam_order_ok : specFamilies.Pairwise (fun f g => properPrefixB f.1 g.1 = false) := by decide +kernel

theorem specFamily_eq_find (k : String) : specFamily k = specFamilies.find? (fun f => startsWithL k f.1) := by
  show (specFamilies.filter fun f => startsWithL k f.1).foldl famStep none = _
  rw [← List.head?_filter]
  have hpw := fam_order_ok.filter (fun f => startsWithL k f.1)
  have hall : ∀ f ∈ specFamilies.filter (fun f => startsWithL k f.1), startsWithL k f.1 = true :=
    fun f hf => (List.mem_filter.mp hf).2
  generalize specFamilies.filter (fun f => startsWithL k f.1) = l at hpw hall
  cases l with
  | nil => rfl
  | cons b r =>
    rw [List.foldl_cons]
    show r.foldl famStep (some b) = some b
    apply foldl_famStep_some
    intro f hf
    have hrel := (List.pairwise_cons.mp hpw).1 f hf
    have hb : b.1.toList <+: k.toList := by
      have := hall b List.mem_cons_self
      simpa [startsWithL] using this
    have hfk : f.1.toList <+: k.toList := by
      have := hall f (List.mem_cons_of_mem _ hf)
      simpa [startsWithL] using this
    rcases Nat.lt_or_ge b.1.length f.1.length with hlt | hge
    · exfalso
      have hpre : b.1.toList <+: f.1.toList :=
        List.prefix_of_prefix_length_le hb hfk (by rw [String.length_toList, String.length_toList]; omega)
      have : properPrefixB b.1 f.1 = true := by
        simp only [properPrefixB, Bool.and_eq_true, decide_eq_true_eq]
        exact ⟨by simpa using hpre, hlt⟩
      rw [this] at hrel; cases hrel
    · exact hge

/-- the row of `kind_prefixes` a specified family stands for -/
def famRow (f : Fam) : Option (String × Nat × Nat × Nat) :=
  match primCode f.2.1, primCode f.2.2.1, primCode f.2.2.2 with
  | some a, some b, some c => some (f.1, a, b, c)
  | _, _, _ => none

/-- table fact, regenerated from the working tree on every run: `sim.kind_prefixes` (in dictionary order) is the
    specified family table with every primitive name replaced by its code in `sim.names` -/
theorem table_is_spec : specFamilies.map famRow = Gen.kindPrefixes.map (fun r => some (r.pre, r.p4, r.p3, r.p2)) := by
  decide +kernel

theorem find_rows (m : String → Bool) : ∀ (F : List Fam) (T : List PrefixRow),
    F.map famRow = T.map (fun r => some (r.pre, r.p4, r.p3, r.p2)) →
    match F.find? (fun f => m f.1), T.find? (fun r => m r.pre) with
    | some f, some r => famRow f = some (r.pre, r.p4, r.p3, r.p2)
    | none, none => True
    | _, _ => False
  | [], [], _ => trivial
  | [], _ :: _, h => by simp at h
  | _ :: _, [], h => by simp at h
  | f :: F, r :: T, h => by
    simp only [List.map_cons, List.cons.injEq] at h
    obtain ⟨h1, h2⟩ := h
    have hpre : f.1 = r.pre := by
      unfold famRow at h1
      split at h1
      · simp only [Option.some.injEq, Prod.mk.injEq] at h1; exact h1.1
      · cases h1
    simp only [List.find?_cons, hpre]
    cases m r.pre with
    | true => exact h1
    | false => exact find_rows m F T h2

theorem select_is_spec (k : String) (c2 c3 : Bool) :
    selectPrim Gen.kindPrefixes k c2 c3 = (specPrimName k c2 c3).bind primCode := by
  have h := find_rows (fun p => startsWithL k p) specFamilies Gen.kindPrefixes table_is_spec
  unfold selectPrim specPrimName
  rw [specFamily_eq_find]
  cases hF : specFamilies.find? (fun f => startsWithL k f.1) with
  | none =>
    cases hT : Gen.kindPrefixes.find? (fun r => startsWithL k r.pre) with
    | none => rfl
    | some r => rw [hF, hT] at h; exact absurd h id
  | some f =>
    cases hT : Gen.kindPrefixes.find? (fun r => startsWithL k r.pre) with
    | none => rw [hF, hT] at h; exact absurd h id
    | some r =>
      rw [hF, hT] at h
      simp only at h
      unfold famRow at h
      split at h
      · rename_i a b c ha hb hc
        simp only [Option.some.injEq, Prod.mk.injEq] at h
        obtain ⟨_, e4, e3, e2⟩ := h
        simp only [Option.map_some, Option.bind_some]
        cases c3
        · cases c2
          · simp only [Bool.false_eq_true, if_false]; rw [hc, e2]
          · simp only [Bool.false_eq_true, if_false, if_true]; rw [hb, e3]
        · simp only [if_true]; rw [ha, e4]
      · cases h

end KV
