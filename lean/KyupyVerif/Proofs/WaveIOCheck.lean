import KyupyVerif.Proofs.WaveIOCapture
import KyupyVerif.Proofs.WaveIOEval
/-! Boolean forms of the table hypotheses of the path theorems of C06 (evaluated by `decide` in the examples and, in Python,
on the real tables by the harness) with their soundness. The driver imports this module: it stays off Proofs/WaveMem and what that
rests on; the storage lemmas that need it are in Proofs/WaveIOOrder.lean. -/
namespace KV.WaveIO
open KV.Wave KV.Grid

def stateRowsAllocatedB (tb : Tab) : Bool := (List.range' tb.nIo (tb.sLen - tb.nIo)).all fun y => decide (0 ≤ tb.ppiLoc y)
def stateRowsCapturedB (tb : Tab) : Bool := (List.range' tb.nIo (tb.sLen - tb.nIo)).all fun y => decide (0 ≤ tb.ppoLoc y)
/-- the (P)PI regions (three cells each) of different rows are disjoint -/
def regionsDisjointB (tb : Tab) : Bool :=
  (List.range tb.sLen).all fun y => (List.range tb.sLen).all fun y' =>
    y == y' || decide (tb.ppiLoc y < 0) || decide (tb.ppiLoc y' < 0) ||
      decide (tb.ppiLoc y + 3 ≤ tb.ppiLoc y') || decide (tb.ppiLoc y' + 3 ≤ tb.ppiLoc y)
/-- `s_ppo_to_ppi`: the rows the kernel transfers (both slots have memory) are exactly the state-element rows -/
def transferRowsB (tb : Tab) : Bool :=
  (List.range tb.sLen).all fun y => decide (tb.nIo ≤ y) == (decide (0 ≤ tb.ppiLoc y) && decide (0 ≤ tb.ppoLoc y))
def capsPositiveB (tb : Tab) : Bool := (List.range tb.sLen).all fun y => decide (tb.ppoLoc y < 0) || decide (0 < tb.ppoCap y)
/-- logic values of all used rows and lanes are `0` or at least one half -/
def flagsOKB (tb : Tab) (den sims : Nat) (s : Nat → Nat → SRow) : Bool :=
  (List.range sims).all fun x => (List.range tb.sLen).all fun y =>
    decide (tb.ppiLoc y < 0) || (decide (FlagOK den (s x y).ini) && decide (FlagOK den (s x y).fin))

theorem stateRowsAllocatedB_sound {tb : Tab} (h : stateRowsAllocatedB tb = true) : StateRowsAllocated tb := by
  intro y h1 h2
  have := List.all_eq_true.mp h y (List.mem_range'_1.mpr ⟨h1, by omega⟩)
  simpa using this

theorem stateRowsCapturedB_sound {tb : Tab} (h : stateRowsCapturedB tb = true) :
    ∀ y, tb.nIo ≤ y → y < tb.sLen → 0 ≤ tb.ppoLoc y := by
  intro y h1 h2
  have := List.all_eq_true.mp h y (List.mem_range'_1.mpr ⟨h1, by omega⟩)
  simpa using this

theorem regionsDisjointB_sound {tb : Tab} (h : regionsDisjointB tb = true) : RegionsDisjoint tb := by
  intro y y' hy hy' hne h1 h2
  have := List.all_eq_true.mp (List.all_eq_true.mp h y (List.mem_range.mpr hy)) y' (List.mem_range.mpr hy')
  simp only [Bool.or_eq_true, beq_iff_eq, decide_eq_true_eq] at this
  omega

theorem transferRowsB_sound {tb : Tab} (h : transferRowsB tb = true) :
    ∀ y, y < tb.sLen → (tb.nIo ≤ y ↔ (0 ≤ tb.ppiLoc y ∧ 0 ≤ tb.ppoLoc y)) := by
  intro y hy
  have := List.all_eq_true.mp h y (List.mem_range.mpr hy)
  rw [beq_iff_eq] at this
  constructor
  · intro h1
    have h' : (decide (0 ≤ tb.ppiLoc y) && decide (0 ≤ tb.ppoLoc y)) = true := by rw [← this]; simpa using h1
    simpa using h'
  · intro h2
    have h' : decide (tb.nIo ≤ y) = true := by rw [this]; simpa using h2
    simpa using h'

theorem capsPositiveB_sound {tb : Tab} (h : capsPositiveB tb = true) : ∀ y, y < tb.sLen → 0 ≤ tb.ppoLoc y → 0 < tb.ppoCap y := by
  intro y hy h0
  have := List.all_eq_true.mp h y (List.mem_range.mpr hy)
  simp only [Bool.or_eq_true, decide_eq_true_eq] at this
  omega

theorem flagsOKB_sound {tb : Tab} {den sims : Nat} {s : Nat → Nat → SRow} (h : flagsOKB tb den sims s = true) :
    ∀ x y, x < sims → y < tb.sLen → 0 ≤ tb.ppiLoc y → FlagOK den (s x y).ini ∧ FlagOK den (s x y).fin := by
  intro x y hx hy h0
  have := List.all_eq_true.mp (List.all_eq_true.mp h x (List.mem_range.mpr hx)) y (List.mem_range.mpr hy)
  simp only [Bool.or_eq_true, Bool.and_eq_true, decide_eq_true_eq] at this
  rcases this with h' | h'
  · omega
  · exact h'

theorem wrWave_frame (c : Col) (loc : Int) (w : Wv) (a : Int) (h : ¬ (loc ≤ a ∧ a < loc + (w.ents.length + 1 : Nat))) :
    wrWave c loc w a = c a := by
  simp only [wrWave, writeCells_apply, List.length_append, List.length_singleton]
  exact if_neg h

end KV.WaveIO
