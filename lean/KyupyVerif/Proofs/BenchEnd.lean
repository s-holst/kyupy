import KyupyVerif.Proofs.BenchSem
/-! What the interface nodes of `benchNet stmts` capture (`bench_captures`), soundness of the driver's acceptance check
(`benchModelB_sound`), and what the scheduled simulation of `benchNet stmts` computes (`bench_sim_generic`). -/
namespace KV.Netlist
open KV KV.Sig

universe u
variable {stmts : List BStmt}

theorem bench_captures {α : Type u} (hok : BenchOK stmts) (σ : String → α) :
    ((benchNet stmts).sNodes.map fun n => ((benchNet stmts).node n).inPin 0 |>.map (benchLabel stmts σ)) =
      benchCaptures stmts σ := by
  unfold benchNet
  rw [toNet_captures (bench stmts) _ _ (benchNet_sNodes hok) (sNames_resolved hok) _ (wOf stmts σ)
    (by simp only [bench_flat]; exact bench_label_agrees hok σ), bench_flat]
  unfold benchCaptures
  apply List.map_congr_left
  intro e he
  cases e with
  | fork s => rw [any_reader_fork]; rfl
  | cell n p =>
    have hp : p = 0 := (sNames_resolved hok _ he).2
    subst hp
    unfold benchSNames at he
    simp only [List.mem_append, List.mem_map, List.mem_filter] at he
    have hg : ∃ g ∈ benchGates stmts, g.name = n := by
      rcases he with (⟨s, _, h⟩ | ⟨g, ⟨hg, _⟩, h⟩) | ⟨g, ⟨hg, _⟩, h⟩
      · cases h
      · exact ⟨g, hg, by simpa using h⟩
      · exact ⟨g, hg, by simpa using h⟩
    obtain ⟨g, hg, rfl⟩ := hg
    rw [any_reader_cell stmts hok g hg 0]
    simp only [find_gate hok g hg]
    cases hd : g.drv with
    | nil => simp
    | cons d r =>
      have hk : 0 < g.drv.length := by rw [hd]; simp
      have := wOf_cell hok g hg σ 0 hk
      simp only [List.length_cons, Nat.zero_lt_succ, decide_true, if_true, List.head?_cons, Option.map_some,
        Option.some.injEq]
      rw [this]
      simp [hd]

theorem lookupA_eq_none {α : Type u} (tab : List (String × α)) (s : String) (h : ∀ p ∈ tab, p.1 ≠ s) : lookupA tab s = none := by
  unfold lookupA
  rw [List.find?_eq_none.mpr fun p hp => by simpa using h p hp]
  rfl

theorem benchModelB_sound {α : Type u} [BEq α] [LawfulBEq α] (z : α) (prim : String → α → α → α → α → α) (a : Nat → α)
    (tab : List (String × α)) (h : benchModelB stmts z prim a tab = true) :
    BenchModel stmts z prim a (envOf stmts z a tab) := by
  unfold benchModelB at h
  simp only [Bool.and_eq_true, List.all_eq_true, beq_iff_eq] at h
  refine ⟨fun g hg => h.1 g hg, fun s hs => ?_⟩
  unfold envOf
  rw [lookupA_eq_none tab s fun p hp e => by have := h.2 p hp; rw [e, hs] at this; cases this]


theorem bench_sim_generic {α : Type u} (hok : BenchOK stmts) (sem spec : Nat → List α → α)
    (heq : ∀ code, KnownCode code → ∀ xs, sem code xs = spec code xs) (neg : α → α) (prim : String → α → α → α → α → α)
    (hs : SemSpec spec neg prim) (order : List Nat) (ho : orderOKB (benchNet stmts) order = true)
    (hfk : forksOKB (benchNet stmts) order = true) (hall : linesDrivenB Gen.kindPrefixes (benchNet stmts) order = true)
    (env : Nat → α) :
    ∃ σ, BenchModel stmts (env (benchNet stmts).idx.zero) prim (fun p => env ((benchNet stmts).idx.ppi + p)) σ ∧
      (∀ σ', BenchModel stmts (env (benchNet stmts).idx.zero) prim (fun p => env ((benchNet stmts).idx.ppi + p)) σ' → σ' = σ) ∧
      (∀ i, i < (benchNet stmts).lines.size →
        exec sem ((genOps Gen.kindPrefixes (benchNet stmts) order false).map OpRow.toOp) env i = benchLabel stmts σ i) ∧
      ((benchNet stmts).sNodes.map fun n => ((benchNet stmts).node n).inPin 0 |>.map
        (exec sem ((genOps Gen.kindPrefixes (benchNet stmts) order false).map OpRow.toOp) env)) = benchCaptures stmts σ := by
  have hwf : (benchNet stmts).wfB = true := toNet_wf _ _
  obtain ⟨σ, hm, hu, hl⟩ := sim_is_the_model sem spec heq neg prim hs (benchNet stmts) order hwf ho hfk hall env _
    (Nat.le_refl _) _ (benchLabel stmts) (fun σ hm => ⟨_, bench_model_labelling hok _ neg prim _ σ hm, fun _ _ => rfl⟩) (fun v hv => ⟨_, bench_labelling_model hok _ neg prim _ v hv⟩)
    (bench_model_unique _ prim _)
  refine ⟨σ, hm, hu, hl, ?_⟩
  rw [← bench_captures hok, captures_congr hwf hl]
  intro n hn
  rw [benchNet_sNodes hok] at hn
  obtain ⟨e, he, rfl⟩ := List.mem_map.mp hn
  unfold benchNet
  rw [toNet_nodes_size]
  exact (sNames_resolved hok e he).1

end KV.Netlist
