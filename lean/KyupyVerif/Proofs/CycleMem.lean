import KyupyVerif.Proofs.CycleNet
/-! `LogicSim.cycle(k)` ON MEMORY: `s_to_c` writes the rows `c_locs[ppi_offset + p]`, the op rows run on memory
(`MapSound.memRun`, one row per signal), `c_to_s` reads the rows `c_locs[ppo_offset + p]`. With an accepted map certificate
(C08) the `s` array evolves exactly as in the signal-level model `cycleK`. -/
namespace KV.Cycle
open KV KV.Sig KV.MapIn KV.MapSound

variable {α : Type}

/-- `s_to_c` on memory: `c[pippi_c_locs] = s[0, pippi_s_locs]`, `pippi_c_locs[i] = c_locs[ppi_offset + pippi_s_locs[i]]` -/
def sToCM (p : MapIn) (T : Tabs) (d : α) (s0 : List α) (m : Int → α) : Int → α :=
  T.pippi.foldl (fun m px => fun a => if a = p.loc px.2 then s0.getD px.1 d else m a) m

/-- `c_to_s` on memory: `s[1, poppo_s_locs] = c[poppo_c_locs]`, `poppo_c_locs[i] = c_locs[ppo_offset + poppo_s_locs[i]]` -/
def cToSM (p : MapIn) (T : Tabs) (m : Int → α) (s1 : List α) : List α :=
  T.poppo.foldl (fun s px => s.set px.1 (m (p.loc (T.ppo + px.1)))) s1

structure StM (α : Type) where
  mem : Int → α
  s : S α

def cycle1M [Inhabited α] (p : MapIn) (f : Nat → List α → α) (T : Tabs) (merge : α → α → α) (d : α) (st : StM α) : StM α :=
  let m1 := sToCM p T d st.s.s0 st.mem
  let m2 := memRun p (rowRW α) (fun o => f o.lut) p.ops m1
  let s1 := cToSM p T m2 st.s.s1
  ⟨m2, ⟨ppoToPpi T merge d st.s.s0 s1, s1⟩⟩

def cycleKM [Inhabited α] (p : MapIn) (f : Nat → List α → α) (T : Tabs) (merge : α → α → α) (d : α) : Nat → StM α → StM α
  | 0, st => st
  | k + 1, st => cycleKM p f T merge d k (cycle1M p f T merge d st)


theorem mem_ppiSlots (p : MapIn) (x : Nat) :
    x ∈ p.ppiSlots ↔ ∃ i, i < p.net.sNodes.length ∧ 0 < (sNodeAt p.net i).outs.length ∧ x = p.ix.ppi + i := by
  unfold ppiSlots sNodeAt
  simp only [List.mem_map, List.mem_filter, decide_eq_true_eq]
  constructor
  · rintro ⟨⟨n, i⟩, ⟨hm, ho⟩, rfl⟩
    have hn : p.net.sNodes[i]? = some n := List.mem_zipIdx_iff_getElem?.1 hm
    have hi : i < p.net.sNodes.length := (List.getElem?_eq_some_iff.1 hn).1
    refine ⟨i, hi, ?_, rfl⟩
    rw [List.getD_eq_getElem?_getD, hn]
    exact ho
  · rintro ⟨i, hi, ho, rfl⟩
    refine ⟨(p.net.sNodes[i], i), ⟨List.mem_zipIdx_iff_getElem?.2 (by simp [hi]), ?_⟩, rfl⟩
    rw [List.getD_eq_getElem?_getD, List.getElem?_eq_getElem hi] at ho
    exact ho

theorem ppi_pinned (p : MapIn) {x : Nat} (h : x ∈ p.ppiSlots) : p.pinned x = true ∧ x ∈ p.tracked :=
  ⟨pinned_iff.mpr (.inr (.inl h)), mem_tracked.mpr (.inr (.inl h))⟩

theorem zero_pinned (p : MapIn) : p.pinned p.ix.zero = true ∧ p.ix.zero ∈ p.tracked :=
  ⟨pinned_iff.mpr (.inl rfl), mem_tracked.mpr (.inr (.inr rfl))⟩

theorem pinned_loc_ne {p : MapIn} (hg : Good p) (hpos : 0 < p.capsMin) {x y : Nat} (hx : x ∈ p.tracked) (hy : y ∈ p.tracked)
    (px : p.pinned x = true) (py : p.pinned y = true) (hne : x ≠ y) : p.loc x ≠ p.loc y := by
  intro he
  have h := hg.disjoint_of_alive hx hy hne (alive_pinned p px (dfn_le_nLevels p x) (Nat.le_refl _))
    (alive_pinned p py (dfn_le_nLevels p y) (Nat.le_refl _))
  have cx := hg.inb x hx
  have cy := hg.inb y hy
  simp only [overlap, Bool.and_eq_false_iff, decide_eq_false_iff_not] at h
  omega


theorem pippi_ppiSlot (p : MapIn)
    (px : Nat × Nat) (h : px ∈ (tabsOf p.net p.strip).pippi) : px.2 ∈ p.ppiSlots ∧ px.2 = p.ix.ppi + px.1 := by
  obtain ⟨⟨h1, h2⟩, he⟩ := (mem_pippi p.net p.strip px).1 h
  exact ⟨(mem_ppiSlots p _).2 ⟨px.1, h1, h2, he⟩, he⟩

theorem ppiSlot_pippi (p : MapIn) (x : Nat) (h : x ∈ p.ppiSlots) :
    ∃ i, (i, x) ∈ (tabsOf p.net p.strip).pippi ∧ x = p.ix.ppi + i := by
  obtain ⟨i, hi, ho, rfl⟩ := (mem_ppiSlots p x).1 h
  exact ⟨i, (mem_pippi p.net p.strip (i, _)).2 ⟨⟨hi, ho⟩, rfl⟩, rfl⟩

theorem sToCM_agree {p : MapIn} (hg : Good p) (hpos : 0 < p.capsMin) (d : α) (s0 : List α) (m : Int → α) (env : Nat → α)
    (hz : m (p.loc p.ix.zero) = env p.ix.zero) (x : Nat) (hx : x ∈ p.ppiSlots ∨ x = p.ix.zero) :
    sToCM p (tabsOf p.net p.strip) d s0 m (p.loc x) = sToC (tabsOf p.net p.strip) d s0 env x := by
  have hzl : p.ix.zero < p.ix.ppi := by simp [MapIn.ix, Net.idx]
  rw [sToC_apply]
  unfold sToCM
  rcases hx with hx | rfl
  · obtain ⟨i, hi, hxi⟩ := ppiSlot_pippi p x hx
    have hxm : x ∈ (tabsOf p.net p.strip).pippi.map (·.2) := List.mem_map.2 ⟨(i, x), hi, rfl⟩
    have hi' : x - p.net.idx.ppi = i := by show x - p.ix.ppi = i; omega
    rw [if_pos hxm, hi']
    rw [foldl_upd_apply _ (fun px : Nat × Nat => p.loc px.2) (fun px => s0.getD px.1 d) (p.loc x) (s0.getD i d)]
    · rw [if_pos (List.mem_map.2 ⟨(i, x), hi, rfl⟩)]
    · intro px hpx hl
      obtain ⟨hs, he⟩ := pippi_ppiSlot p px hpx
      have : px.2 = x := by
        apply Classical.byContradiction
        intro hne
        exact pinned_loc_ne hg hpos (ppi_pinned p hs).2 (ppi_pinned p hx).2 (ppi_pinned p hs).1 (ppi_pinned p hx).1 hne hl
      have : px.1 = i := by omega
      rw [this]
  · have hnm : p.ix.zero ∉ (tabsOf p.net p.strip).pippi.map (·.2) := by
      intro hm
      obtain ⟨px, hpx, he⟩ := List.mem_map.1 hm
      have := (pippi_ppiSlot p px hpx).2
      omega
    rw [if_neg hnm]
    rw [foldl_upd_apply _ (fun px : Nat × Nat => p.loc px.2) (fun px => s0.getD px.1 d) (p.loc p.ix.zero) (m (p.loc p.ix.zero))]
    · simp [hz]
    · intro px hpx hl
      exfalso
      obtain ⟨hs, he⟩ := pippi_ppiSlot p px hpx
      exact pinned_loc_ne hg hpos (ppi_pinned p hs).2 (zero_pinned p).2 (ppi_pinned p hs).1 (zero_pinned p).1 (by omega) hl


theorem cycle1M_eq [Inhabited α] (p : MapIn) (hc : p.check = none) (hpos : 0 < p.capsMin)
    (hzc : zeroCapB p = true)
    (f : Nat → List α → α) (merge : α → α → α) (d : α) (stm : StM α) (st : St α)
    (h : stm.s = st.s ∧ stm.mem (p.loc p.ix.zero) = st.env p.ix.zero) :
    (cycle1M p f (tabsOf p.net p.strip) merge d stm).s =
      (cycle1 (fun op => f op.code) (p.ops.map (sigOp p)) (tabsOf p.net p.strip) merge d st).s ∧
    (cycle1M p f (tabsOf p.net p.strip) merge d stm).mem (p.loc p.ix.zero) =
      (cycle1 (fun op => f op.code) (p.ops.map (sigOp p)) (tabsOf p.net p.strip) merge d st).env p.ix.zero := by
  obtain ⟨m, s⟩ := stm
  obtain ⟨env, s'⟩ := st
  obtain ⟨hs, hz⟩ := h
  have hs : s = s' := hs
  subst hs
  have hg := good_of_check p hc
  have h0 : ∀ x ∈ p.tracked, (∀ o ∈ p.ops, o.out ≠ x) →
      sToCM p (tabsOf p.net p.strip) d s.s0 m (p.loc x) = sToC (tabsOf p.net p.strip) d s.s0 env x := by
    intro x hx hun
    rcases mem_tracked.mp hx with ⟨⟨o, ho, he⟩, _⟩ | h | h
    · exact absurd he (hun o ho)
    · exact sToCM_agree hg hpos d s.s0 m env hz x (Or.inl h)
    · exact sToCM_agree hg hpos d s.s0 m env hz x (Or.inr h)
  have hA := check_sound_rows p hc hpos f _ _ h0
  have hB := check_sound_rows_pinned p hc hpos f _ _ h0
  have hzero := hB p.ix.zero (zero_pinned p).2 (zero_pinned p).1
  have hs1 : cToSM p (tabsOf p.net p.strip)
        (memRun p (rowRW α) (fun o => f o.lut) p.ops (sToCM p (tabsOf p.net p.strip) d s.s0 m)) s.s1 =
      cToS (tabsOf p.net p.strip)
        (execG (fun op => f op.code) (p.ops.map (sigOp p)) (sToC (tabsOf p.net p.strip) d s.s0 env)) s.s1 := by
    unfold cToSM cToS
    refine foldl_congr (fun px hpx s => congrArg (s.set px.1) ?_) _
    rw [← exec_eq_execG]
    have hsig := poppo_sig p.net p.strip px hpx
    have hpos' : px.1 ∈ poS p.net ++ ppioS p.net := by
      rw [← poppo_pos p.net p.strip]; exact List.mem_map.2 ⟨px, hpx, rfl⟩
    have hlen : px.1 < p.net.sNodes.length := by
      have := io_le_sNodes p.net
      rcases List.mem_append.1 hpos' with h | h
      · have := ((mem_poS p.net px.1).1 h).1; omega
      · exact ((mem_ppioS p.net px.1).1 h).2
    show memRun p (rowRW α) (fun o => f o.lut) p.ops _ (p.loc (p.ix.ppo + px.1)) = _
    rw [hsig]
    unfold capSig capSigW
    cases hpin : (sNodeAt p.net px.1).inPin 0 with
    | some l =>
      have hn : (p.net.sNodes[px.1], px.1) ∈ p.net.sNodes.zipIdx :=
        List.mem_zipIdx_iff_getElem?.2 (by simp [hlen])
      have hnode : (p.net.node p.net.sNodes[px.1]).inPin 0 = some l := by
        unfold sNodeAt at hpin
        rw [List.getD_eq_getElem?_getD, List.getElem?_eq_getElem hlen] at hpin
        exact hpin
      exact hA _ _ (mem_ppoSrcs p hn hnode)
    | none =>
      have hq : px.1 ∈ ppioS p.net := by
        rcases List.mem_append.1 hpos' with h | h
        · have := ((mem_poS p.net px.1).1 h).2; rw [hpin] at this; cases this
        · exact h
      have hl : p.loc (p.ix.ppo + px.1) = p.loc p.ix.zero := by
        unfold zeroCapB at hzc
        have := List.all_eq_true.1 hzc px.1 hq
        rw [hpin] at this
        simpa using this
      rw [hl]; exact hzero
  constructor
  · unfold cycle1M cycle1
    simp only
    rw [hs1]
  · show memRun p (rowRW α) (fun o => f o.lut) p.ops _ (p.loc p.ix.zero) = execG _ _ _ p.ix.zero
    rw [← exec_eq_execG]; exact hzero

/-- **`cycle(k)` on memory = `cycle(k)` on signals**, for every accepted map certificate -/
theorem cycleKM_eq [Inhabited α] (p : MapIn) (hc : p.check = none) (hpos : 0 < p.capsMin)
    (hzc : zeroCapB p = true)
    (f : Nat → List α → α) (merge : α → α → α) (d : α) :
    ∀ (k : Nat) (m : Int → α) (env : Nat → α) (s : S α), m (p.loc p.ix.zero) = env p.ix.zero →
      (cycleKM p f (tabsOf p.net p.strip) merge d k ⟨m, s⟩).s =
        (cycleK (fun op => f op.code) (p.ops.map (sigOp p)) (tabsOf p.net p.strip) merge d k ⟨env, s⟩).s := by
  intro k m env s hz
  rw [eq_iter (cycleKM p f _ merge d) _ (fun _ => rfl) (fun _ _ => rfl) k, cycleK_eq_iter]
  exact (iter_rel (cycle1M_eq p hc hpos hzc f merge d) k ⟨m, s⟩ ⟨env, s⟩ ⟨rfl, hz⟩).1

end KV.Cycle
