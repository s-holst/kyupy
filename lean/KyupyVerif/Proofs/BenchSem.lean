import KyupyVerif.Proofs.BenchLines
import KyupyVerif.Proofs.CircLabel
import KyupyVerif.Proofs.GateVal
/-! `parsed_sem` for the bench format: the labellings of `benchNet stmts` consistent with the netlist (`NetLabelling`, the
specification evaluator's `lineEq` on every line) are exactly the labellings induced by the models of the description
(`BenchModel`, Model/BenchSem.lean), one model per labelling. -/
namespace KV.Netlist
open KV

universe u
variable {stmts : List BStmt}

theorem bench_cells_nodup (hok : BenchOK stmts) : ((cellsOf (bench stmts)).map (·.name)).Nodup := by
  rw [bench_cells stmts hok.kinds, List.map_map]
  exact hok.nd

theorem gateNode_mem (hok : BenchOK stmts) (g : BGate) (hg : g ∈ benchGates stmts) : gateNode g ∈ cellsOf (bench stmts) := by
  rw [bench_cells stmts hok.kinds]
  exact List.mem_map.mpr ⟨g, hg, rfl⟩

theorem bench_resolved_cell (hok : BenchOK stmts) (g : BGate) (hg : g ∈ benchGates stmts) (p : Nat) :
    (bench stmts).resolved (.cell g.name p) :=
  resolved_of_cell _ (gateNode g) (gateNode_mem hok g hg) p

theorem bench_kindOf_cell (hok : BenchOK stmts) (g : BGate) (hg : g ∈ benchGates stmts) (p : Nat) :
    (bench stmts).kindOf (.cell g.name p) = g.kind :=
  kindOf_cell _ (bench_cells_nodup hok) (gateNode g) (gateNode_mem hok g hg) p

theorem bench_resolved_gate_fork (g : BGate) (hg : g ∈ benchGates stmts) : (bench stmts).resolved (.fork g.name) :=
  resolved_of_isFork _ _ (bench_fork_gate stmts g hg).1

theorem bench_resolved_drv (g : BGate) (hg : g ∈ benchGates stmts) (k : Nat) (hk : k < g.drv.length) :
    (bench stmts).resolved (.fork g.drv[k]) :=
  resolved_of_isFork _ _ ((bench_fork_gate stmts g hg).2 _ (List.getElem_mem hk))

theorem bench_resolved_port (s : String) (hs : s ∈ benchPorts stmts) : (bench stmts).resolved (.fork s) :=
  resolved_of_isFork _ _ (bench_fork_port stmts s hs)

theorem bench_resolved_driver (hok : BenchOK stmts) (p : Ep × Ep) (hp : p ∈ benchL stmts) : (bench stmts).resolved p.1 := by
  obtain ⟨g, hg, h | ⟨k, hk, h⟩⟩ := (mem_benchL stmts p).mp hp
  · subst h; exact bench_resolved_cell hok g hg 0
  · subst h; exact bench_resolved_drv g hg k hk

theorem benchNet_sNodes (hok : BenchOK stmts) :
    (benchNet stmts).sNodes = (benchSNames stmts).map (bench stmts).nodeIdx := by
  unfold benchNet
  rw [toNet_sNodes _ _ (bench_cells_nodup hok), bench_cells stmts hok.kinds]
  unfold benchSNames Circ.ioBench
  rw [bench_ioB]
  simp only [List.map_append, List.map_map, List.filter_map]
  rfl

theorem mem_sNames_fork (s : String) : Ep.fork s ∈ benchSNames stmts ↔ s ∈ benchPorts stmts := by
  unfold benchSNames
  simp

theorem mem_sNames_cell (hok : BenchOK stmts) (g : BGate) (hg : g ∈ benchGates stmts) :
    Ep.cell g.name 0 ∈ benchSNames stmts ↔ isSeqKind g.kind = true := by
  unfold benchSNames isSeqKind
  simp only [List.mem_append, List.mem_map, List.mem_filter, Bool.or_eq_true]
  constructor
  · rintro ((⟨s, _, h⟩ | ⟨g', ⟨hg', hd⟩, h⟩) | ⟨g', ⟨hg', hd⟩, h⟩)
    · cases h
    · simp only [Ep.cell.injEq, and_true] at h
      rw [← hok.gate_eq hg' hg h]; exact Or.inl hd
    · simp only [Ep.cell.injEq, and_true] at h
      rw [← hok.gate_eq hg' hg h]; exact Or.inr hd
  · rintro (h | h)
    · exact Or.inl (Or.inr ⟨g, ⟨hg, h⟩, rfl⟩)
    · exact Or.inr ⟨g, ⟨hg, h⟩, rfl⟩

theorem sNames_resolved (hok : BenchOK stmts) : ∀ e ∈ benchSNames stmts, (bench stmts).resolved e ∧ e.rpin = 0 := by
  intro e he
  unfold benchSNames at he
  simp only [List.mem_append, List.mem_map, List.mem_filter] at he
  rcases he with (⟨s, hs, rfl⟩ | ⟨g, ⟨hg, _⟩, rfl⟩) | ⟨g, ⟨hg, _⟩, rfl⟩
  · exact ⟨bench_resolved_port s hs, rfl⟩
  · exact ⟨bench_resolved_cell hok g hg 0, rfl⟩
  · exact ⟨bench_resolved_cell hok g hg 0, rfl⟩

theorem benchNet_sPos (hok : BenchOK stmts) (e : Ep) (he : (bench stmts).resolved e) (h0 : e.rpin = 0) :
    (benchNet stmts).sPos ((bench stmts).nodeIdx e) =
      if (benchSNames stmts).contains e then some (benchSPos stmts e) else none := by
  unfold Net.sPos
  rw [benchNet_sNodes hok]
  exact sPosIn_names _ _ (sNames_resolved hok) e he h0

theorem benchNet_sPos_fork (hok : BenchOK stmts) (s : String) (hs : (bench stmts).resolved (.fork s)) :
    (benchNet stmts).sPos ((bench stmts).nodeIdx (.fork s)) =
      if (benchPorts stmts).contains s then some (benchSPos stmts (.fork s)) else none := by
  rw [benchNet_sPos hok _ hs rfl]
  have : (benchSNames stmts).contains (Ep.fork s) = (benchPorts stmts).contains s := by
    rw [Bool.eq_iff_iff]
    simp only [List.contains_eq_mem, decide_eq_true_eq]
    exact mem_sNames_fork s
  rw [this]

theorem benchNet_sPos_cell (hok : BenchOK stmts) (g : BGate) (hg : g ∈ benchGates stmts) (p : Nat) :
    (benchNet stmts).sPos ((bench stmts).nodeIdx (.cell g.name p)) =
      if isSeqKind g.kind then some (benchSPos stmts (.cell g.name 0)) else none := by
  rw [nodeIdx_cell_pin _ g.name p 0, benchNet_sPos hok _ (bench_resolved_cell hok g hg 0) rfl]
  have : (benchSNames stmts).contains (Ep.cell g.name 0) = isSeqKind g.kind := by
    rw [Bool.eq_iff_iff]
    simp only [List.contains_eq_mem, decide_eq_true_eq]
    exact mem_sNames_cell hok g hg
  rw [this]

theorem inVal_fork {α : Type u} (w : Ep → α) (s : String) :
    inVal (benchL stmts) w (.fork s) 0 = if isGateName stmts s then some (w (.fork s)) else none := by
  unfold inVal
  simp only [Ep.inEp, any_reader_fork]

theorem inVal_cell {α : Type u} (hok : BenchOK stmts) (g : BGate) (hg : g ∈ benchGates stmts) (w : Ep → α) (p k : Nat) :
    inVal (benchL stmts) w (.cell g.name p) k = if k < g.drv.length then some (w (.cell g.name k)) else none := by
  unfold inVal
  simp only [Ep.inEp, any_reader_cell stmts hok g hg k, decide_eq_true_eq]

def benchLabel {α : Type u} (stmts : List BStmt) (σ : String → α) : Nat → α := fun i => σ ((benchSigs stmts).getD i "")

theorem benchLabel_eq {α : Type u} (σ : String → α) (i : Nat) (hi : i < (benchL stmts).length) :
    benchLabel stmts σ i = σ (sigOf (benchL stmts)[i]) := by
  unfold benchLabel
  rw [benchSigs_eq]
  show σ ((List.map sigOf (benchL stmts)).getD i "") = _
  rw [List.getD_eq_getElem?_getD, List.getElem?_map, List.getElem?_eq_getElem hi]
  rfl

theorem find_gate (hok : BenchOK stmts) (g : BGate) (hg : g ∈ benchGates stmts) :
    (benchGates stmts).find? (fun x => x.name == g.name) = some g := by
  cases hf : (benchGates stmts).find? (fun x => x.name == g.name) with
  | none =>
    rw [List.find?_eq_none] at hf
    have := hf g hg
    simp at this
  | some g' =>
    have h1 := List.mem_of_find?_eq_some hf
    have h2 := List.find?_some hf
    rw [hok.gate_eq h1 hg (by simpa using h2)]

/-- values at reader end points induced by an environment: a fork sees its own signal, pin `k` of a gate its `k`-th operand (the
defaults `σ ""` are never read: no line ends there) -/
def wOf {α : Type u} (stmts : List BStmt) (σ : String → α) : Ep → α
  | .fork s => σ s
  | .cell n k => match (benchGates stmts).find? (fun x => x.name == n) with
    | some g => σ (g.drv.getD k "")
    | none => σ ""

theorem wOf_cell {α : Type u} (hok : BenchOK stmts) (g : BGate) (hg : g ∈ benchGates stmts) (σ : String → α) (k : Nat) (hk : k < g.drv.length) :
    wOf stmts σ (.cell g.name k) = σ g.drv[k] := by
  simp only [wOf, find_gate hok g hg, List.getD_eq_getElem?_getD, List.getElem?_eq_getElem hk, Option.getD_some]

theorem wOf_line {α : Type u} (hok : BenchOK stmts) (σ : String → α) (p : Ep × Ep) (hp : p ∈ benchL stmts) : wOf stmts σ p.2 = σ (sigOf p) := by
  obtain ⟨g, hg, h | ⟨k, hk, h⟩⟩ := (mem_benchL stmts p).mp hp
  · subst h; rfl
  · subst h; exact wOf_cell hok g hg σ k hk

theorem bench_drive_fork {α : Type u} (hok : BenchOK stmts) (z : α) (neg : α → α) (prim : String → α → α → α → α → α) (a : Nat → α)
    (w : Ep → α) (s : String) (hd : (bench stmts).resolved (.fork s)) :
    driveVal (flatLines (bench stmts)) ((bench stmts).kindOf (.fork s)) ((benchNet stmts).sPos ((bench stmts).nodeIdx (.fork s)))
      z neg prim a w (.fork s) = if isGateName stmts s then w (.fork s) else freeVal stmts z a s := by
  rw [bench_flat, kindOf_fork _ s hd, benchNet_sPos_fork hok s hd]
  unfold driveVal freeVal
  simp only [forkKind_not_seq.1, forkKind_not_seq.2, Bool.or_self, Bool.false_eq_true, if_false, beq_self_eq_true, if_true, inVal_fork]
  generalize (benchPorts stmts).contains s = b
  generalize isGateName stmts s = c
  cases b <;> cases c <;> rfl

theorem bench_drive_cell {α : Type u} (hok : BenchOK stmts) (z : α) (neg : α → α) (prim : String → α → α → α → α → α) (a : Nat → α)
    (w : Ep → α) (g : BGate) (hg : g ∈ benchGates stmts) (σ : String → α)
    (hw : ∀ k (hk : k < g.drv.length), w (.cell g.name k) = σ g.drv[k]) :
    driveVal (flatLines (bench stmts)) ((bench stmts).kindOf (.cell g.name 0))
      ((benchNet stmts).sPos ((bench stmts).nodeIdx (.cell g.name 0))) z neg prim a w (.cell g.name 0) = stmtVal stmts z prim a g σ := by
  rw [bench_flat, bench_kindOf_cell hok g hg 0, benchNet_sPos_cell hok g hg 0]
  have hk : g.kind ≠ forkKind := by
    have := List.all_eq_true.mp hok.kinds g hg
    simpa using this
  unfold stmtVal
  by_cases hs : isSeqKind g.kind = true
  · have hs' : (hasSub "dff" g.kind.toLower || hasSub "latch" g.kind.toLower) = true := hs
    unfold driveVal
    simp only [hs, if_true, hs', Ep.cpin]
    simp
  · have hkb : (g.kind == "__fork__") = false := by simp [show g.kind ≠ "__fork__" from hk]
    simp only [hs, Bool.false_eq_true, if_false]
    rw [driveVal_comb _ _ _ _ _ _ _ _ hkb, gateVal_eq]
    refine primVal_congr _ _ _ _ _ fun k _ => ?_
    rw [inVal_cell hok g hg]
    by_cases hkl : k < g.drv.length
    · simp [hkl, hw k hkl]
    · simp [hkl]

theorem bench_resolved_all (hok : BenchOK stmts) : ∀ p ∈ flatLines (bench stmts), (bench stmts).resolved p.1 := by
  rw [bench_flat]
  exact bench_resolved_driver hok

theorem benchNet_lines_size : (benchNet stmts).lines.size = (benchL stmts).length := by
  unfold benchNet
  rw [toNet_lines_size, bench_flat]

theorem benchSigs_length : (benchSigs stmts).length = (benchL stmts).length := by
  rw [benchSigs_eq]; simp [benchL]

theorem bench_label_agrees {α : Type u} (hok : BenchOK stmts) (σ : String → α) (j : Nat) (hj : j < (benchL stmts).length) :
    benchLabel stmts σ j = wOf stmts σ (benchL stmts)[j].2 := by
  rw [benchLabel_eq σ j hj, wOf_line hok σ _ (List.getElem_mem hj)]

theorem bench_model_labelling {α : Type u} (hok : BenchOK stmts) (z : α) (neg : α → α) (prim : String → α → α → α → α → α) (a : Nat → α)
    (σ : String → α) (hm : BenchModel stmts z prim a σ) :
    NetLabelling (benchNet stmts) z neg prim a (benchLabel stmts σ) := by
  refine circ_model_labelling (bench stmts) _ (bench_resolved_all hok) z neg prim a (wOf stmts σ) _ ?_ ?_
  · simp only [bench_flat]
    exact bench_label_agrees hok σ
  · intro p hp
    rw [bench_flat] at hp
    rw [wOf_line hok σ p hp]
    obtain ⟨g, hg, rfl | ⟨k, hk, rfl⟩⟩ := (mem_benchL stmts p).mp hp
    · exact (hm.1 g hg).trans (bench_drive_cell hok z neg prim a _ g hg σ (fun k hk => wOf_cell hok g hg σ k hk)).symm
    · refine Eq.trans ?_ (bench_drive_fork hok z neg prim a _ _ (bench_resolved_drv g hg k hk)).symm
      show σ g.drv[k] = _
      by_cases hgn : isGateName stmts g.drv[k] = true
      · simp only [hgn, if_true]; rfl
      · simp only [hgn, Bool.false_eq_true, if_false]
        exact hm.2 _ (by simpa using hgn)

/-- the environment read off a labelling: a gate name carries what the line into its fork carries, any other name its free value -/
def envOfLabel {α : Type u} (stmts : List BStmt) (z : α) (a : Nat → α) (v : Nat → α) (s : String) : α :=
  if isGateName stmts s then v ((inLineOf (benchL stmts) (.fork s)).getD 0) else freeVal stmts z a s

theorem bench_labelling_model {α : Type u} (hok : BenchOK stmts) (z : α) (neg : α → α) (prim : String → α → α → α → α → α) (a : Nat → α)
    (v : Nat → α) (hc : NetLabelling (benchNet stmts) z neg prim a v) :
    BenchModel stmts z prim a (envOfLabel stmts z a v) ∧
    ∀ i, i < (benchNet stmts).lines.size → v i = benchLabel stmts (envOfLabel stmts z a v) i := by
  obtain ⟨hcm, hv⟩ := circ_labelling_model (bench stmts) _ (bench_resolved_all hok)
    (by rw [bench_flat]; exact benchL_readers_nodup stmts hok) z neg prim a v hc
  -- `w e`: what the line into the end point `e` carries
  generalize hw : (fun e => v ((inLineOf (flatLines (bench stmts)) e).getD 0)) = w at hcm hv
  have hgate : ∀ g ∈ benchGates stmts, envOfLabel stmts z a v g.name = w (.fork g.name) := by
    intro g hg
    unfold envOfLabel
    rw [(isGateName_iff _ _).mpr ⟨g, hg, rfl⟩, ← hw, bench_flat]
    rfl
  -- every line carries the value of its signal
  have h1 : ∀ p ∈ benchL stmts, w p.2 = envOfLabel stmts z a v (sigOf p) := by
    intro p hp
    obtain ⟨g, hg, rfl | ⟨k, hk, rfl⟩⟩ := (mem_benchL stmts p).mp hp
    · exact (hgate g hg).symm
    · refine (hcm _ (bench_flat stmts ▸ hp)).trans ((bench_drive_fork hok z neg prim a w _ (bench_resolved_drv g hg k hk)).trans ?_)
      show _ = envOfLabel stmts z a v g.drv[k]
      unfold envOfLabel
      rw [← hw, bench_flat]
  refine ⟨⟨fun g hg => ?_, fun s hs => ?_⟩, fun i hi => ?_⟩
  · rw [hgate g hg]
    exact (hcm _ (bench_flat stmts ▸ (mem_benchL _ _).mpr ⟨g, hg, Or.inl rfl⟩)).trans (bench_drive_cell hok z neg prim a w g hg _
      (fun k hk => h1 _ ((mem_benchL _ _).mpr ⟨g, hg, Or.inr ⟨k, hk, rfl⟩⟩)))
  · unfold envOfLabel
    simp [hs]
  · rw [benchNet_lines_size] at hi
    rw [benchLabel_eq _ i hi, hv i (bench_flat stmts ▸ hi)]
    simp only [bench_flat]
    exact h1 _ (List.getElem_mem hi)

theorem bench_model_unique {α : Type u} (z : α) (prim : String → α → α → α → α → α) (a : Nat → α)
    (σ σ' : String → α) (hm : BenchModel stmts z prim a σ) (hm' : BenchModel stmts z prim a σ')
    (h : ∀ i, i < (benchNet stmts).lines.size → benchLabel stmts σ i = benchLabel stmts σ' i) : σ = σ' := by
  funext s
  by_cases hg : isGateName stmts s = true
  · obtain ⟨g, hg1, rfl⟩ := (isGateName_iff _ _).mp hg
    have hmem : (Ep.cell g.name 0, Ep.fork g.name) ∈ benchL stmts := (mem_benchL _ _).mpr ⟨g, hg1, Or.inl rfl⟩
    obtain ⟨j, hj, hjl⟩ := List.getElem_of_mem hmem
    have := h j (by rw [benchNet_lines_size]; exact hj)
    rw [benchLabel_eq σ j hj, benchLabel_eq σ' j hj, hjl] at this
    exact this
  · rw [hm.2 s (by simpa using hg), hm'.2 s (by simpa using hg)]

end KV.Netlist
