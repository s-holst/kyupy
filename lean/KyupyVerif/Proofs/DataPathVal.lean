import KyupyVerif.Proofs.DataPathArr
import KyupyVerif.Proofs.CycleSpec
/-! The array-level data-path statement against ANY solution of the netlist's gate equations (generic in the arity): given that
the one-lane simulator computes the unique solution (C02 `sim8/4/2_all_circuits`), entry `[q][p]` of the result is the code of
the value the solution for stimulus pattern `p` gives the captured line. -/
namespace KV.DP
open KV KV.Sig KV.Cycle KV.Enc

section
variable {β : Type} (R : Arity β)

/-- **array level against any solution of the gate equations**: entry `[q][p]` of the result is (a) the code of the value the solution
    for pattern `p` gives the line on data pin 0 of `s_nodes[q]`; (b) for a state element with an open data pin the code of the
    value of code 0 (it captures the constant slot); (c) `2` (UNASSIGNED) at a port without data pin, into which nothing is captured -/
theorem simArr_val (tbl : List PrefixRow) (net : Net) (order : List Nat) (hwf : net.wfB = true) (ho : orderOKB net order = true)
    (spec : Nat → List β → β)
    (huniq : ∀ env val : Nat → β, SolvesJ (Jt net) (fun op => spec op.code) ((genOps tbl net order false).map OpRow.toOp) env val →
      ∀ x, Jt net x = false → val x = exec R.semL ((genOps tbl net order false).map OpRow.toOp) env x)
    (a : Arr Nat) (ha : a.wf = true) (hS : a.lead = [net.sNodes.length]) :
    ∃ r, simArr R.C (fun nb op => R.semW nb op.code) tbl net order false a = some r ∧
      r.lead = [net.sNodes.length] ∧ r.last = a.last ∧ r.wf = true ∧
      ∀ p, p < a.last → ∀ val : Nat → β,
        SolvesJ (Jt net) (fun op => spec op.code) ((genOps tbl net order false).map OpRow.toOp)
          (sToC (tabsOf net false) (R.ofCode 0) (column R.ofCode a p) (fun _ => R.ofCode 0)) val →
        (∀ q l, q < net.sNodes.length → (sNodeAt net q).inPin 0 = some l → (r.rows.getD q []).getD p 0 = R.code (val l)) ∧
        (∀ q, net.io.length ≤ q → q < net.sNodes.length → (sNodeAt net q).inPin 0 = none →
          (r.rows.getD q []).getD p 0 = R.code (R.ofCode 0)) ∧
        (∀ q, q < net.io.length → (sNodeAt net q).inPin 0 = none → (r.rows.getD q []).getD p 0 = 2) := by
  obtain ⟨r, hr, hlead, hlast, hrwf, he⟩ := simArr_entries R tbl net order false a ha hS
  refine ⟨r, hr, hlead, hlast, hrwf, fun p hp val hval => ?_⟩
  have hrun : ∀ x, Jt net x = false → laneRun R.ofCode R.semL tbl net order false (column R.ofCode a p) x = val x := by
    intro x hx
    rw [laneRun_false]
    exact (huniq _ val hval x hx).symm
  have hio := io_le_sNodes net
  refine ⟨fun q l hq hl' => ?_, fun q hio' hq hn => ?_, fun q hq hn => ?_⟩
  · rw [he q p hq hp, if_pos (isPoppo_of net q hq (Or.inr (by rw [hl']; rfl))), hrun _ (capSig_notJunk net hwf q),
      capSig_false, hl']
  · rw [he q p hq hp, if_pos (isPoppo_of net q hq (Or.inl hio')), hrun _ (capSig_notJunk net hwf q), capSig_false, hn]
    simp only
    rw [sol_zero_slot tbl net order hwf ho _ _ _ _ val hval]
  · have hnp : isPoppo net q = false := by unfold isPoppo; simp [hq, hn]
    rw [he q p (by omega) hp, hnp]
    simp

theorem arr_ext (r r' : Arr Nat) (hw : r.wf = true) (hw' : r'.wf = true) (hl : r.lead = r'.lead) (hn : r.last = r'.last)
    (he : ∀ q p, q < r.lead.prod → p < r.last → (r.rows.getD q []).getD p 0 = (r'.rows.getD q []).getD p 0) : r = r' := by
  obtain ⟨h1, h2⟩ := (wf_iff r).mp hw
  obtain ⟨h1', h2'⟩ := (wf_iff r').mp hw'
  cases r with
  | mk lead last rows =>
    cases r' with
    | mk lead' last' rows' =>
      simp only at hl hn h1 h2 h1' h2' he
      subst hl hn
      simp only [Arr.mk.injEq, true_and]
      apply List.ext_getElem (by rw [h1, h1'])
      intro i hi hi'
      have hri := h2 _ (List.getElem_mem hi)
      have hri' := h2' _ (List.getElem_mem hi')
      apply List.ext_getElem (by rw [hri, hri'])
      intro j hj hj'
      have := he i j (by omega) (by omega)
      simpa [List.getD_eq_getElem?_getD, List.getElem?_eq_getElem hi, List.getElem?_eq_getElem hi',
        List.getElem?_eq_getElem hj, List.getElem?_eq_getElem hj'] using this

/-- **`strip_forks` does not change the result array**: domain hypotheses `forksOKB` (C06) and `capDriversB` (the order contains the
    driver of every captured line), one-lane op semantics in which `BUF1` returns its first operand -/
theorem simArr_strip (tbl : List PrefixRow) (net : Net) (order : List Nat) (hwf : net.wfB = true) (ho : orderOKB net order = true)
    (hf : forksOKB net order = true) (hcov : capDriversB net order = true)
    (dflt : β) (hbuf : ∀ xs, R.semL BUF1 xs = xs.getD 0 dflt)
    (a : Arr Nat) (ha : a.wf = true) (hS : a.lead = [net.sNodes.length]) :
    simArr R.C (fun nb op => R.semW nb op.code) tbl net order true a = simArr R.C (fun nb op => R.semW nb op.code) tbl net order false a := by
  obtain ⟨r, hr, hlead, hlast, hrwf, he⟩ := simArr_entries R tbl net order true a ha hS
  obtain ⟨r', hr', hlead', hlast', hrwf', he'⟩ := simArr_entries R tbl net order false a ha hS
  rw [hr, hr']
  refine congrArg some (arr_ext r r' hrwf hrwf' (by rw [hlead, hlead']) (by rw [hlast, hlast']) ?_)
  intro q p hq hp
  have hq' : q < net.sNodes.length := by rw [hlead] at hq; simpa using hq
  have hp' : p < a.last := by rw [hlast] at hp; exact hp
  rw [he q p hq' hp', he' q p hq' hp']
  by_cases hcap : isPoppo net q = true
  · simp only [hcap, if_true]
    refine congrArg R.code ?_
    have := captured_strip tbl hwf ho hf hcov R.semL dflt hbuf (R.ofCode 0) (column R.ofCode a p) (fun _ => R.ofCode 0) (fun _ => R.ofCode 0)
      (Agree.refl _ _ _) q hq'
    unfold solOf at this
    unfold laneRun
    rw [exec_eq_execG, exec_eq_execG]
    exact this
  · simp [hcap]

end

end KV.DP
