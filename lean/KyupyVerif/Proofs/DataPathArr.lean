import KyupyVerif.Proofs.DataPath
/-! Array level of the data path (Model/DataPath.lean `simArr`), generic in the arity through `Arity`: `column` (one pattern of an
array as lane values), `laneRun` (the one-lane simulation of one pattern), and `simArr_entries`: entry `[q][p]` of the result array
is the code of `laneRun` on `column … p`. -/
namespace KV.DP
open KV KV.Sig KV.Cycle KV.Enc

theorem sRows_mvToBp (a : Arr Nat) (hl : a.lead ≠ []) (hlen : a.rows.length = a.lead.prod) :
    sRows (mvToBp a) = a.rows.map (mvToBpRow (cdiv a.last 8)) := by
  simp only [sRows, mvToBp, hl, if_false, List.dropLast_concat]
  rw [← hlen, chunks_flatMap 3 _ _ (fun r _ => mvToBpRow_length _ r)]

theorem bpToMv_ofSRows (nb : Nat) (rows : List SRow) (h3 : ∀ r ∈ rows, r.length = 3) :
    bpToMv (ofSRows nb rows) = some ⟨[rows.length], 8 * nb, rows.map (bpToMvRow nb)⟩ := by
  have hl : ([rows.length, 3] : List Nat).getLast? = some 3 := rfl
  have hd : ([rows.length, 3] : List Nat).dropLast = [rows.length] := rfl
  simp only [bpToMv, ofSRows, hl, hd, List.prod_cons, List.prod_nil, Nat.mul_one]
  rw [chunks_flatten 3 rows h3]

section
variable {β : Type} (ofCode : Nat → β) (semL : Nat → List β → β)

/-- pattern `p` of the multi-valued array `a` as lane values: entry `[q][p]` is the value assigned to `s_nodes` position `q` -/
def column (a : Arr Nat) (p : Nat) : List β := a.rows.map fun row => ofCode (row.getD p 0)

/-- the one-lane simulation of one stimulus pattern (`stim[q]` = value at `s_nodes` position `q`): the memory a fresh simulator
    holds (all zero) with the pattern stored into the (P)PI slots, run through the op program -/
def laneRun (tbl : List PrefixRow) (net : Net) (order : List Nat) (strip : Bool) (stim : List β) : Nat → β :=
  exec semL (sigOps tbl net order strip) (sToC (tabsOf net strip) (ofCode 0) stim (fun _ => ofCode 0))

end

theorem laneRun_false {β} (ofCode : Nat → β) (semL : Nat → List β → β) (tbl : List PrefixRow) (net : Net) (order : List Nat)
    (stim : List β) :
    laneRun ofCode semL tbl net order false stim =
      exec semL ((genOps tbl net order false).map OpRow.toOp) (sToC (tabsOf net false) (ofCode 0) stim (fun _ => ofCode 0)) := by
  unfold laneRun
  rw [sigOps_false]

section
variable {β : Type} (R : Arity β)

/-- **array level, every arity**: for an array `a` of shape `(S, P)` (`S = len(s_nodes)`, any `P`), the result
    `bp_to_mv(s[1])[..., :P]` of a fresh simulator has shape `(S, P)`; entry `[q][p]` is the R.code of the one-lane simulation of
    pattern `p` at the signal position `q` captures, and UNASSIGNED (2) at a position nothing is captured into. -/
theorem simArr_entries (tbl : List PrefixRow) (net : Net) (order : List Nat) (strip : Bool) (a : Arr Nat)
    (hwf : a.wf = true) (hS : a.lead = [net.sNodes.length]) :
    ∃ r, simArr R.C (fun nb op => R.semW nb op.code) tbl net order strip a = some r ∧
      r.lead = [net.sNodes.length] ∧ r.last = a.last ∧ r.wf = true ∧
      ∀ q p, q < net.sNodes.length → p < a.last →
        (r.rows.getD q []).getD p 0 =
          if isPoppo net q then R.code (laneRun R.ofCode R.semL tbl net order strip (column R.ofCode a p) (capSig net strip q))
          else 2 := by
  obtain ⟨hlen, hrow⟩ := (wf_iff a).mp hwf
  have hne : a.lead ≠ [] := by rw [hS]; simp
  have hlen' : a.rows.length = net.sNodes.length := by rw [hlen, hS]; simp
  have hpat : patterns a = a.last := by simp [patterns, hne]
  have hb_lead : (mvToBp a).lead = [net.sNodes.length, 3] := by simp [mvToBp, hS]
  have hb_last : (mvToBp a).last = cdiv a.last 8 := by simp [mvToBp, hne]
  generalize hnb : cdiv a.last 8 = nb at hb_last
  have hge : a.last ≤ 8 * nb := by rw [← hnb]; exact cdiv8_ge a.last
  let s1 := captureB (R.C nb) (fun op => R.semW nb op.code) (sigOps tbl net order strip) (tabsOf net strip)
    (fun _ => (R.C nb).dec []) (a.rows.map (mvToBpRow nb)) (List.replicate net.sNodes.length (freshRow nb))
  have hs1len : s1.length = net.sNodes.length := by
    show (cToSB _ _ _ _).length = _
    rw [cToSB_length]; simp
  have hs13 : ∀ r ∈ s1, r.length = 3 :=
    captureB_len3 (R.C nb) (R.semW nb) (R.view nb).enc_len _ net strip _ _ _
      (fun r hr => by rw [List.eq_of_mem_replicate hr]; rfl)
  have hsim : simArr R.C (fun nb op => R.semW nb op.code) tbl net order strip a =
      some ⟨[net.sNodes.length], a.last, s1.map fun r => (bpToMvRow nb r).take a.last⟩ := by
    simp only [simArr]
    rw [if_pos hb_lead, hb_last, hpat, sRows_mvToBp a hne hlen, hnb]
    show (bpToMv (ofSRows nb s1)).map _ = _
    rw [bpToMv_ofSRows nb s1 hs13, hs1len]
    simp [takeLast, List.map_map, Function.comp_def]
  refine ⟨_, hsim, rfl, rfl, ?_, ?_⟩
  · rw [wf_iff]
    refine ⟨by simp [hs1len], ?_⟩
    intro r hr
    obtain ⟨r0, _, rfl⟩ := List.mem_map.1 hr
    simp only [List.length_take, bpToMvRow_length]
    omega
  · intro q p hq hp
    have hp8 : p < 8 * nb := by omega
    simp only
    rw [getD_map_lt _ _ _ _ [] (by omega : q < s1.length), getD_take' _ _ _ _ hp]
    have hfr : (List.replicate net.sNodes.length (freshRow nb)).getD q [] = freshRow nb := by
      simp [List.getD_eq_getElem?_getD, hq]
    by_cases hcap : isPoppo net q = true
    · rw [captureB_lane R nb _ net strip _ _ _ q p hp8
        (by simp [hq]) hcap]
      rw [hfr, plane2_fresh]
      simp only [hcap, if_true, b2n, Bool.false_eq_true, if_false, Nat.mul_zero, Nat.add_zero, laneRun, column, List.map_map]
      congr 3
      · apply List.map_congr_left
        intro row hr
        have hrl := hrow row hr
        simp only [Function.comp]
        rw [(R.view nb).dec_row row p (by rw [hrl]; exact hnb)]
        simp [hrl, hp]
      · funext x; exact (R.view nb).dec_nil p
    · have hcf : isPoppo net q = false := by simpa using hcap
      rw [captureB_skip (R.C nb) (R.semW nb) _ net strip _ _ _ q hcf]
      rw [hfr, bpToMvRow_fresh nb p hp8]
      simp [hcf]

end

end KV.DP
