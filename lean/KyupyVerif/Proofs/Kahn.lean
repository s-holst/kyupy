import KyupyVerif.Model.Kahn
/-! `kahn` (Model/Kahn.lean): the inner loop as a whole (`ps_cnt`, `ps_queue`), one round in relational form (`kstep_spec`; `kstep_none` for the
empty queue) and the loop rule `kloop_ind`; soundness through `KInv` (`kahn_sound`), completeness through the front
invariant `KFront` and the progress count (`kahn_complete`). -/
namespace KV.Kahn

/-! ### the inner loop as a whole -/

theorem ps_cnt (g : G) (rs : List Nat) (cnt : Nat → Nat) (q : List Nat) (r : Nat) :
    (processSuccs g rs (cnt, q)).1 r = cnt r + rs.count r := by
  induction rs generalizing cnt q with
  | nil => simp [processSuccs]
  | cons x xs ih =>
    simp only [processSuccs]
    rw [ih]
    unfold bump
    by_cases h : r = x
    · subst h; simp [List.count_cons_self]; omega
    · have : x ≠ r := fun e => h e.symm
      simp [h, List.count_cons_of_ne this]

/-- one step of the inner loop for the condition under which a reader is queued: its counter becomes full at `x` or later -/
theorem queued_cons (g : G) (cnt : Nat → Nat) (x : Nat) (xs : List Nat) (r : Nat) :
    (g.seq r = false ∧ cnt r < g.indeg r ∧ g.indeg r ≤ cnt r + (x :: xs).count r) ↔
      (r = x ∧ (bump cnt x x == g.indeg x && !g.seq x) = true) ∨
      (g.seq r = false ∧ bump cnt x r < g.indeg r ∧ g.indeg r ≤ bump cnt x r + xs.count r) := by
  by_cases h : r = x
  · subst h
    cases g.seq r
    · simp only [bump, if_true, List.count_cons_self, true_and, Bool.and_eq_true, beq_iff_eq, Bool.not_eq_true', and_true]
      omega
    · simp
  · have : x ≠ r := fun e => h e.symm
    simp [bump, h, List.count_cons_of_ne this]

theorem ps_queue (g : G) (rs : List Nat) (cnt : Nat → Nat) (q : List Nat) :
    ∃ added, (processSuccs g rs (cnt, q)).2 = q ++ added ∧ added.Nodup ∧
      ∀ r, r ∈ added ↔ (g.seq r = false ∧ cnt r < g.indeg r ∧ g.indeg r ≤ cnt r + rs.count r) := by
  induction rs generalizing cnt q with
  | nil =>
    refine ⟨[], by simp [processSuccs], List.nodup_nil, ?_⟩
    intro r; simp only [List.not_mem_nil, List.count_nil, Nat.add_zero, false_iff, not_and]; intro _ h1; omega
  | cons x xs ih =>
    simp only [processSuccs]
    split
    · rename_i hx
      obtain ⟨added, hq, hnd, hiff⟩ := ih (bump cnt x) (q ++ [x])
      refine ⟨x :: added, by rw [hq]; simp, List.nodup_cons.mpr ⟨fun hm => ?_, hnd⟩, fun r => ?_⟩
      · have := (hiff x).mp hm
        simp only [Bool.and_eq_true, beq_iff_eq] at hx
        omega
      · rw [queued_cons, ← hiff, List.mem_cons]; simp [hx]
    · rename_i hx
      obtain ⟨added, hq, hnd, hiff⟩ := ih (bump cnt x) q
      exact ⟨added, hq, hnd, fun r => by rw [queued_cons, ← hiff]; simp [hx]⟩
/-! ### counting lemmas -/

theorem filter_snoc_length (P out : List Nat) (v : Nat) (hv : v ∉ out) :
    (P.filter (fun p => decide (p ∈ out ++ [v]))).length
      = (P.filter (fun p => decide (p ∈ out))).length + P.count v := by
  induction P with
  | nil => simp
  | cons p ps ih =>
    by_cases hp : p = v
    · subst hp
      have h1 : decide (p ∈ out ++ [p]) = true := by simp
      have h2 : decide (p ∈ out) = false := by simpa using hv
      rw [List.filter_cons, List.filter_cons, h1, h2, List.count_cons_self]
      simp only [if_true, Bool.false_eq_true, if_false, List.length_cons]
      rw [ih]; omega
    · have h1 : decide (p ∈ out ++ [v]) = decide (p ∈ out) := by
        simp [List.mem_append, hp]
      have hc : (p :: ps).count v = ps.count v := List.count_cons_of_ne (fun e => hp e)
      rw [hc, List.filter_cons, List.filter_cons, h1]
      split
      · simp only [List.length_cons]; rw [ih]; omega
      · exact ih

theorem filter_length_le (P : List Nat) (f : Nat → Bool) : (P.filter f).length ≤ P.length :=
  List.length_filter_le f P

theorem procLen_le (g : G) (out : List Nat) (r : Nat) : procLen g out r ≤ g.indeg r :=
  List.length_filter_le _ _

theorem nonsrc_of_lt (g : G) (r : Nat) (c : Nat) (hs : g.seq r = false) (h : c < g.indeg r) : g.isSrc r = false := by
  unfold G.isSrc; simp [hs]; omega

theorem snoc_split (out A B : List Nat) (v r : Nat) (h : out ++ [v] = A ++ r :: B) :
    (A = out ∧ r = v ∧ B = []) ∨ (∃ B', out = A ++ r :: B') := by
  induction A generalizing out with
  | nil =>
    cases out with
    | nil => simp at h; exact Or.inl ⟨rfl, h.1.symm, h.2⟩
    | cons o os => simp at h; exact Or.inr ⟨os, by rw [h.1]; simp⟩
  | cons a as ih =>
    cases out with
    | nil =>
      simp at h
    | cons o os =>
      simp at h
      obtain ⟨rfl, h2⟩ := h
      rcases ih os h2 with ⟨h1, h2, h3⟩ | ⟨B', hB⟩
      · exact Or.inl ⟨by rw [h1], h2, h3⟩
      · exact Or.inr ⟨B', by rw [hB]; simp⟩

/-! ### one round of the outer loop; lifting an invariant through the loop -/

/-- what one round of the outer loop does: the head `v` of the queue is yielded, the counters of its readers go up by
their multiplicity, and exactly the non-state nodes whose counter becomes full are appended -/
theorem kstep_spec (g : G) (s s' : KS) (hs : kstep g s = some s') :
    ∃ v q added, s.queue = v :: q ∧
      s' = { queue := q ++ added, cnt := fun r => s.cnt r + (g.succs v).count r, out := s.out ++ [v] } ∧
      added.Nodup ∧
      ∀ r, r ∈ added ↔ (g.seq r = false ∧ s.cnt r < g.indeg r ∧ g.indeg r ≤ s.cnt r + (g.succs v).count r) := by
  unfold kstep at hs
  cases hq : s.queue with
  | nil => rw [hq] at hs; simp at hs
  | cons v q =>
    rw [hq] at hs
    obtain ⟨added, hadd, hnd, hiff⟩ := ps_queue g (g.succs v) s.cnt q
    have hc := ps_cnt g (g.succs v) s.cnt q
    refine ⟨v, q, added, rfl, ?_, hnd, hiff⟩
    rw [← Option.some.inj hs]
    cases hps : processSuccs g (g.succs v) (s.cnt, q) with
    | mk c' q' =>
      rw [hps] at hadd hc
      have : c' = fun r => s.cnt r + (g.succs v).count r := funext hc
      simp only at hadd
      rw [this, hadd]

theorem kstep_none (g : G) (s : KS) (hs : kstep g s = none) : s.queue = [] := by
  unfold kstep at hs
  cases hq : s.queue with
  | nil => rfl
  | cons v q => rw [hq] at hs; simp at hs

theorem kloop_ind (g : G) (P : KS → Prop) (hstep : ∀ s s', P s → kstep g s = some s' → P s')
    (fuel : Nat) (s : KS) (h : P s) : P (kloop g fuel s) := by
  induction fuel generalizing s with
  | zero => exact h
  | succ n ih =>
    unfold kloop
    cases hs : kstep g s with
    | none => exact h
    | some s' => exact ih s' (hstep s s' h hs)

/-! ### soundness -/

structure KInv (g : G) (s : KS) : Prop where
  nodup : (s.out ++ s.queue).Nodup
  cnt : ∀ r, s.cnt r = procLen g s.out r
  mem : ∀ r, g.isSrc r = false → (r ∈ s.out ++ s.queue ↔ g.indeg r ≤ s.cnt r)
  ord : Ordered g s.out

/-- a non-source that has been queued has all its drivers yielded: its counter is full and counts yielded drivers -/
theorem KInv.ready {g : G} {s : KS} (h : KInv g s) (r : Nat) (hr : r ∈ s.out ++ s.queue) (hns : g.isSrc r = false) :
    ∀ v ∈ g.preds r, v ∈ s.out := by
  have hfull : g.indeg r ≤ procLen g s.out r := by rw [← h.cnt r]; exact (h.mem r hns).mp hr
  intro v hv
  simpa using List.length_filter_eq_length_iff.mp (Nat.le_antisymm (List.length_filter_le _ _) hfull) v hv

theorem kstep_inv (g : G) (hc : g.Consistent) (s s' : KS) (h : KInv g s) (hs : kstep g s = some s') :
    KInv g s' := by
  obtain ⟨v, q, added, hq, rfl, hnd, hiff⟩ := kstep_spec g s s' hs
  have hnd0 := h.nodup
  rw [hq] at hnd0
  have hv : v ∉ s.out := fun hv => (List.nodup_append.mp hnd0).2.2 v hv v (by simp) rfl
  have hsh : s.out ++ [v] ++ (q ++ added) = (s.out ++ v :: q) ++ added := by simp
  refine ⟨?_, ?_, ?_, ?_⟩
  · show (s.out ++ [v] ++ (q ++ added)).Nodup
    rw [hsh]
    refine List.nodup_append.mpr ⟨hnd0, hnd, ?_⟩
    rintro a ha _ hb rfl
    -- a freshly appended node had a counter that was not full, so it was in neither list
    obtain ⟨hseq, hlt, _⟩ := (hiff a).mp hb
    have := (h.mem a (nonsrc_of_lt g a _ hseq hlt)).mp (hq ▸ ha)
    omega
  · intro r
    show s.cnt r + (g.succs v).count r = procLen g (s.out ++ [v]) r
    rw [h.cnt r, hc v r, procLen, procLen, filter_snoc_length _ _ _ hv]
  · intro r hns
    show r ∈ s.out ++ [v] ++ (q ++ added) ↔ g.indeg r ≤ s.cnt r + (g.succs v).count r
    have hseq : g.seq r = false := by simpa [G.isSrc] using (Bool.or_eq_false_iff.mp hns).2
    rw [hsh, List.mem_append, ← hq, h.mem r hns, hiff r]
    simp only [hseq, true_and]
    omega
  · intro A r B hsplit hns u hu
    rcases snoc_split s.out A B v r hsplit with ⟨rfl, rfl, _⟩ | ⟨B', hB⟩
    · exact h.ready r (by simp [hq]) hns u hu
    · exact h.ord A r B' hB hns u hu

theorem kinit_inv (g : G) : KInv g (kinit g) := by
  refine ⟨?_, ?_, ?_, ?_⟩
  · simpa [kinit] using (List.nodup_range).sublist List.filter_sublist
  · intro r
    simp only [kinit, procLen]
    rw [List.filter_eq_nil_iff.mpr (by simp)]; rfl
  · intro r hns
    have : g.indeg r ≠ 0 := by simpa [G.isSrc] using (Bool.or_eq_false_iff.mp hns).1
    simp [kinit, hns]; omega
  · intro A r B h; simp [kinit] at h

theorem kloop_inv (g : G) (hc : g.Consistent) (fuel : Nat) : KInv g (kloop g fuel (kinit g)) :=
  kloop_ind g (KInv g) (kstep_inv g hc) fuel _ (kinit_inv g)

/-- C17 soundness: every node at most once, and every non-source node after all drivers of its connected pins -/
theorem kahn_sound (g : G) (hc : g.Consistent) : (kahn g).Nodup ∧ Ordered g (kahn g) := by
  have h := kloop_inv g hc (g.n + 1)
  exact ⟨(List.nodup_append.mp h.nodup).1, h.ord⟩

/-! ### completeness -/

/-- `out ++ queue` = all sources in index order, then non-sources; all are nodes. -/
def KFront (g : G) (s : KS) : Prop :=
  ∃ X, s.out ++ s.queue = (List.range g.n).filter g.isSrc ++ X ∧ ∀ x ∈ X, g.isSrc x = false ∧ x < g.n

theorem KFront.bound {g : G} {s : KS} (h : KFront g s) : ∀ r ∈ s.out ++ s.queue, r < g.n := by
  obtain ⟨X, hX, hXs⟩ := h
  intro r hr
  rw [hX] at hr
  rcases List.mem_append.mp hr with h1 | h1
  · simpa using (List.mem_filter.mp h1).1
  · exact (hXs r h1).2

theorem KFront.srcs {g : G} {s : KS} (h : KFront g s) (r : Nat) (hr : r < g.n) (hs : g.isSrc r = true) :
    r ∈ s.out ++ s.queue := by
  obtain ⟨X, hX, _⟩ := h
  rw [hX]
  exact List.mem_append_left _ (List.mem_filter.mpr ⟨List.mem_range.mpr hr, hs⟩)

theorem kstep_front (g : G) (hb : ∀ v r, r ∈ g.succs v → r < g.n) (s s' : KS) (h : KFront g s)
    (hs : kstep g s = some s') : KFront g s' := by
  obtain ⟨v, q, added, hq, rfl, -, hiff⟩ := kstep_spec g s s' hs
  obtain ⟨X, hX, hXs⟩ := h
  rw [hq] at hX
  refine ⟨X ++ added, ?_, ?_⟩
  · have : s.out ++ [v] ++ (q ++ added) = (s.out ++ v :: q) ++ added := by simp
    rw [this, hX, List.append_assoc]
  · intro x hx
    rcases List.mem_append.mp hx with h1 | h1
    · exact hXs x h1
    · obtain ⟨hseq, hlt, hge⟩ := (hiff x).mp h1
      exact ⟨nonsrc_of_lt g x _ hseq hlt, hb v x (List.count_pos_iff.mp (by omega))⟩

theorem kinit_front (g : G) : KFront g (kinit g) := ⟨[], by simp [kinit], by simp⟩

theorem kloop_front (g : G) (hb : ∀ v r, r ∈ g.succs v → r < g.n) (fuel : Nat) :
    KFront g (kloop g fuel (kinit g)) :=
  kloop_ind g (KFront g) (kstep_front g hb) fuel _ (kinit_front g)

theorem kloop_progress (g : G) (fuel : Nat) (s : KS) :
    (kloop g fuel s).queue = [] ∨ (kloop g fuel s).out.length = s.out.length + fuel := by
  induction fuel generalizing s with
  | zero => exact Or.inr rfl
  | succ n ih =>
    unfold kloop
    cases hs : kstep g s with
    | none => exact Or.inl (kstep_none g s hs)
    | some s' =>
      obtain ⟨v, q, added, -, rfl, -, -⟩ := kstep_spec g s s' hs
      rcases ih { queue := q ++ added, cnt := _, out := s.out ++ [v] } with h | h
      · exact Or.inl h
      · right; rw [h]; simp; omega

theorem kahn_queue_empty (g : G) (hc : g.Consistent) (hb : ∀ v r, r ∈ g.succs v → r < g.n) :
    (kloop g (g.n + 1) (kinit g)).queue = [] := by
  rcases kloop_progress g (g.n + 1) (kinit g) with h | h
  · exact h
  · exfalso
    have hnd := (List.nodup_append.mp (kloop_inv g hc (g.n + 1)).nodup).1
    have hsub : (kloop g (g.n + 1) (kinit g)).out ⊆ List.range g.n := fun x hx =>
      List.mem_range.mpr ((kloop_front g hb (g.n + 1)).bound x (List.mem_append_left _ hx))
    have := hnd.length_le_of_subset hsub
    simp [kinit] at h this
    omega

/-- C17 completeness: if the graph cut at state elements is acyclic (has a rank function that
increases along every edge into a non-source node), every node is yielded -/
theorem kahn_complete (g : G) (hc : g.Consistent) (hb : ∀ v r, r ∈ g.succs v → r < g.n)
    (hpb : ∀ r v, v ∈ g.preds r → v < g.n)
    (rank : Nat → Nat) (hrank : ∀ r v, g.isSrc r = false → v ∈ g.preds r → rank v < rank r) :
    ∀ r, r < g.n → r ∈ kahn g := by
  have h1 := kloop_inv g hc (g.n + 1)
  have h2 := kloop_front g hb (g.n + 1)
  have hq := kahn_queue_empty g hc hb
  have key : ∀ k r, rank r < k → r < g.n → r ∈ kahn g := by
    intro k
    induction k with
    | zero => intro r h; omega
    | succ k ih =>
      intro r hrk hr
      cases hsrc : g.isSrc r with
      | true => simpa [kahn, hq] using h2.srcs r hr hsrc
      | false =>
        have hfull : g.indeg r ≤ (kloop g (g.n + 1) (kinit g)).cnt r := by
          rw [h1.cnt r]
          unfold procLen G.indeg
          rw [List.filter_eq_self.mpr]
          · exact Nat.le_refl _
          · intro v hv
            simpa [kahn] using ih v (by have := hrank r v hsrc hv; omega) (hpb r v hv)
        simpa [kahn, hq] using (h1.mem r hsrc).mpr hfull
  exact fun r hr => key (rank r + 1) r (by omega) hr

end KV.Kahn
