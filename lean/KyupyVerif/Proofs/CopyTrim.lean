import KyupyVerif.Proofs.TransformSplice
/-! C10: `Circuit.copy()` / pickle round trip of a dump that is well-formed only up to trailing `None`s
(`wfNoTrail`, the shape `substitute` / `resolve_tlib_cells` return): the rebuilt circuit is the dump with the trailing `None`s of
every pin list trimmed (`trimNet`, `rebuild_trim` in Proofs/Transform.lean) — same nodes, names, lines, ports; same equations;
well-formed: the facts about `trimNet` are here. -/
namespace KV.Transform
open KV

theorem trimNet_node (nn : NNet) (i : Nat) :
    (trimNet nn).net.node i = { nn.net.node i with ins := trimTrail (nn.net.node i).ins, outs := trimTrail (nn.net.node i).outs } := by
  simp only [trimNet, Net.node, Array.getD_eq_getD_getElem?, Array.getElem?_map]
  cases nn.net.nodes[i]? <;> rfl

theorem trimNet_inPin (nn : NNet) (i k : Nat) : ((trimNet nn).net.node i).inPin k = (nn.net.node i).inPin k := by
  rw [trimNet_node]; exact trimTrail_getD _ k
theorem trimNet_outPin (nn : NNet) (i k : Nat) : ((trimNet nn).net.node i).outPin k = (nn.net.node i).outPin k := by
  rw [trimNet_node]; exact trimTrail_getD _ k
theorem trimNet_kind (nn : NNet) (i : Nat) : ((trimNet nn).net.node i).kind = (nn.net.node i).kind := by
  rw [trimNet_node]

theorem trimNet_WF (nn : NNet) (w : WFm nn) : WF (trimNet nn) := by
  have hsz : (trimNet nn).net.nodes.size = nn.net.nodes.size := by simp [trimNet]
  have hls : (trimNet nn).net.lines = nn.net.lines := rfl
  have hln : ∀ l, (trimNet nn).net.line l = nn.net.line l := fun _ => rfl
  have hk : (trimNet nn).keys = nn.keys := by
    simp only [NNet.keys, hsz]
    exact List.map_congr_left fun i _ => by simp only [NNet.key, NodeD.isFork, trimNet_kind]; rfl
  refine ⟨by rw [hsz]; exact w.names, by rw [hk]; exact w.nodup, fun i hi => by rw [hsz]; exact w.io i hi, ?_, ?_, ?_, ?_⟩
  -- the clauses on pins read the lists through `getD`, which trimming does not change
  · simpa only [hsz, hls, hln, trimNet_node, trimTrail_getD] using w.back
  · simpa only [hsz, hls, hln, trimNet_node, trimTrail_getD] using w.fwdIn
  · simpa only [hsz, hls, hln, trimNet_node, trimTrail_getD] using w.fwdOut
  · intro i _
    rw [trimNet_node]
    exact ⟨trimTrail_noTrail _, trimTrail_noTrail _⟩

theorem trimNet_sNodes (nn : NNet) : (trimNet nn).net.sNodes = nn.net.sNodes := by
  have hsz : (trimNet nn).net.nodes.size = nn.net.nodes.size := by simp [trimNet]
  have hio : (trimNet nn).net.io = nn.net.io := rfl
  simp only [Net.sNodes, hsz, hio]
  have e1 : (fun i => ((trimNet nn).net.node i).isDff) = fun i => (nn.net.node i).isDff :=
    funext fun n => (isDff_of_kind (trimNet_kind nn n)).1
  have e2 : (fun i => ((trimNet nn).net.node i).isLatch) = fun i => (nn.net.node i).isLatch :=
    funext fun n => (isDff_of_kind (trimNet_kind nn n)).2
  rw [e1, e2]

theorem trimNet_consistentB {α : Type _} [BEq α] (nn : NNet) (z : α) (neg : α → α) (prim : String → α → α → α → α → α)
    (asg : Nat → α) (v : Array α) :
    consistentB (trimNet nn).net z neg prim asg v = consistentB nn.net z neg prim asg v := by
  have hls : (trimNet nn).net.lines = nn.net.lines := rfl
  have hsp : (trimNet nn).net.sPosTable = nn.net.sPosTable := by
    have hsz : (trimNet nn).net.nodes.size = nn.net.nodes.size := by simp [trimNet]
    simp only [Net.sPosTable, trimNet_sNodes, hsz]
  simp only [consistentB, hls]
  congr 1
  funext l
  congr 1
  apply lineEq_congr
  · exact trimNet_kind nn _
  · rfl
  · rw [hsp]; rfl
  · intro k; rw [show (trimNet nn).net.line l = nn.net.line l from rfl]
    exact congrArg (Option.map _) (trimNet_inPin nn _ k)

end KV.Transform
