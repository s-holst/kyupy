import KyupyVerif.Proofs.MapSound
/-! Soundness of the map certificate for ANY implementation of the memory steps (relational form of
`MapSound.check_sound_sched`), needed where the stored form of a value is not determined by the value (WaveSim: the
cells behind a waveform's terminator hold left-overs of the evaluation) and where a result fits its region only for the
operands that actually occur (WaveSim: well-formed waveforms).

`lockstep` / `memRun_runOK`: the deterministic run `MapSound.memRun` is a run of steps that honour the contract `MapSound.StepOK`
whenever results fit under an invariant `Q` of the signal values (so `check_sound_rel` is not vacuous, and
`MapSound.check_sound_sched` holds with `hfit` restricted to operands satisfying `Q`: `check_sound_sched_on`). -/
namespace KV.MapSound
open KV KV.MapIn

variable {α C : Type}

/-- **soundness of the certificate for any implementation of the steps**: if `MapIn.check` accepts, then in EVERY memory
`m'` reachable from `m0` by running the rows along a level-respecting schedule — each step changing only the region of
its output and making it read back as the op's result on the operand regions — every observed signal reads as the value
signal-level execution computes, and every output slot reads the value of the signal it captures -/
theorem check_sound_rel (p : MapIn) (hc : p.check = none) (R : RW α C) (sem : OpRow → List α → α)
    (sched : List Nat) (hs : Sched p sched) (m0 m' : Int → C) (env0 : Nat → α)
    (h0 : ∀ x ∈ p.tracked, (∀ o ∈ p.ops, o.out ≠ x) → rdS p R x m0 = env0 x)
    (hrun : RunOK p R sem (schedOps p sched) m0 m') :
    (∀ x ∈ p.tracked, p.pinned x = true → rdS p R x m' = sigRun p sem (schedOps p sched) env0 x) ∧
    (∀ j s, (j, s) ∈ p.ppoSrcs → rdS p R j m' = sigRun p sem (schedOps p sched) env0 s) :=
  observed_of_inv (good_of_check p hc) hs
    (run_inv_rel (good_of_check p hc) R sem sched hs sched [] m0 m' env0 (by simp) hrun (inv0 p R sched m0 env0 h0))

/-- the same with the reference value of PROGRAM order: a duplicate-free level-respecting schedule computes, at signal
level, what program order computes (the op equations have one solution) -/
theorem check_sound_rel_prog (p : MapIn) (hc : p.check = none) (R : RW α C) (sem : OpRow → List α → α)
    (sched : List Nat) (hs : Sched p sched) (hnd : sched.Nodup) (m0 m' : Int → C) (env0 : Nat → α)
    (h0 : ∀ x ∈ p.tracked, (∀ o ∈ p.ops, o.out ≠ x) → rdS p R x m0 = env0 x)
    (hrun : RunOK p R sem (schedOps p sched) m0 m') :
    ∀ j s, (j, s) ∈ p.ppoSrcs → rdS p R j m' = sigRun p sem p.ops env0 s := by
  have hg := good_of_check p hc
  intro j s hjs
  rw [(check_sound_rel p hc R sem sched hs m0 m' env0 h0 hrun).2 j s hjs]
  rw [← schedOps_range p]
  exact sched_any_order hg sem sched _ hs (sched_range p) hnd List.nodup_range env0 s (hg.trNJ s (hg.ppo j s hjs).2.2)


theorem sigStep_inv (p : MapIn) (sem : OpRow → List α → α) (Q : α → Prop) (o : OpRow) (env : Nat → α)
    (hQ : ∀ x, Q (env x)) (hsem : ∀ args, (∀ a ∈ args, Q a) → Q (sem o args)) : ∀ x, Q (sigStep p sem env o x) := by
  intro x
  unfold sigStep
  split
  · apply hsem
    intro a ha
    obtain ⟨i, _, rfl⟩ := List.mem_map.1 ha
    exact hQ _
  · exact hQ x

/-- **the deterministic run in lock-step with signal-level execution, as an induction principle**: under the invariant, every row
    reads from memory the signal-level values of its sources, they satisfy `Q`, and `memStep` honours the contract. Facts about
    the deterministic run (`memRun_runOK`, `trace_eq`) are motives. -/
theorem lockstep {p : MapIn} (hg : Good p) (R : RW α C) (sem : OpRow → List α → α)
    (sched : List Nat) (hs : Sched p sched) (Q : α → Prop)
    (hQsem : ∀ o ∈ p.ops, ∀ args, (∀ a ∈ args, Q a) → Q (sem o args))
    (hfit : ∀ o ∈ p.ops, ∀ args m, (∀ a ∈ args, Q a) →
      R.rd (p.loc o.out) (p.cap o.out) (R.wr (p.loc o.out) (p.cap o.out) (sem o args) m) = sem o args)
    (motive : List OpRow → (Int → C) → (Nat → α) → Prop)
    (nil : ∀ m env, motive [] m env)
    (cons : ∀ o rows m env, (o.ins.map fun i => rdS p R i m) = (o.ins.map fun i => env (p.src i)) →
      StepOK p R sem o m (memStep p R sem m o) →
      motive rows (memStep p R sem m o) (sigStep p sem env o) → motive (o :: rows) m env) :
    ∀ (suf pre : List Nat) (m : Int → C) (env : Nat → α), sched = pre ++ suf → Inv p R sched pre.length m env →
      (∀ x, Q (env x)) → motive (schedOps p suf) m env := by
  intro suf
  induction suf with
  | nil => intro pre m env _ _ _; exact nil m env
  | cons k suf ih =>
    intro pre m env hp h hQ
    have ht : sched[pre.length]? = some k := by rw [hp]; simp
    have hklt := hs.valid _ _ ht
    have hk : p.ops[k]? = some p.ops[k] := List.getElem?_eq_getElem hklt
    have hmem : p.ops[k] ∈ p.ops := List.getElem_mem hklt
    have hso : schedOps p (k :: suf) = p.ops[k] :: schedOps p suf := by simp [schedOps, hk]
    have hargs := args_eq hg R sched hs pre.length k p.ops[k] ht hk m env h
    have hstep : StepOK p R sem p.ops[k] m (memStep p R sem m p.ops[k]) :=
      ⟨fun a ha => R.wr_frame _ _ _ _ a ha, hfit _ hmem _ m (by
        rw [hargs]; intro a ha; obtain ⟨i, _, rfl⟩ := List.mem_map.1 ha; exact hQ _)⟩
    have hI := step_inv_rel hg R sem sched hs pre.length k p.ops[k] ht hk m _ env hstep h
    rw [hso]
    exact cons _ _ m env hargs hstep (ih (pre ++ [k]) _ _ (by rw [hp]; simp) (by simpa using hI)
      (sigStep_inv p sem Q p.ops[k] env hQ (hQsem _ hmem)))

theorem memRun_runOK (p : MapIn) (hc : p.check = none) (R : RW α C) (sem : OpRow → List α → α)
    (sched : List Nat) (hs : Sched p sched) (Q : α → Prop)
    (hQsem : ∀ o ∈ p.ops, ∀ args, (∀ a ∈ args, Q a) → Q (sem o args))
    (hfit : ∀ o ∈ p.ops, ∀ args m, (∀ a ∈ args, Q a) →
      R.rd (p.loc o.out) (p.cap o.out) (R.wr (p.loc o.out) (p.cap o.out) (sem o args) m) = sem o args)
    (m0 : Int → C) (env0 : Nat → α) (hQ0 : ∀ x, Q (env0 x))
    (h0 : ∀ x ∈ p.tracked, (∀ o ∈ p.ops, o.out ≠ x) → rdS p R x m0 = env0 x) :
    RunOK p R sem (schedOps p sched) m0 (memRun p R sem (schedOps p sched) m0) :=
  lockstep (good_of_check p hc) R sem sched hs Q hQsem hfit (fun rows m _ => RunOK p R sem rows m (memRun p R sem rows m))
    (fun m _ => RunOK.nil m) (fun _ _ _ _ _ hstep ih => RunOK.cons hstep ih) sched [] m0 env0 (by simp)
    (inv0 p R sched m0 env0 h0) hQ0

theorem check_sound_sched_on (p : MapIn) (hc : p.check = none) (R : RW α C) (sem : OpRow → List α → α)
    (sched : List Nat) (hs : Sched p sched) (Q : α → Prop)
    (hQsem : ∀ o ∈ p.ops, ∀ args, (∀ a ∈ args, Q a) → Q (sem o args))
    (hfit : ∀ o ∈ p.ops, ∀ args m, (∀ a ∈ args, Q a) →
      R.rd (p.loc o.out) (p.cap o.out) (R.wr (p.loc o.out) (p.cap o.out) (sem o args) m) = sem o args)
    (m0 : Int → C) (env0 : Nat → α) (hQ0 : ∀ x, Q (env0 x))
    (h0 : ∀ x ∈ p.tracked, (∀ o ∈ p.ops, o.out ≠ x) → rdS p R x m0 = env0 x) :
    (∀ x ∈ p.tracked, p.pinned x = true →
      rdS p R x (memRun p R sem (schedOps p sched) m0) = sigRun p sem (schedOps p sched) env0 x) ∧
    (∀ j s, (j, s) ∈ p.ppoSrcs →
      rdS p R j (memRun p R sem (schedOps p sched) m0) = sigRun p sem (schedOps p sched) env0 s) :=
  check_sound_rel p hc R sem sched hs m0 _ env0 h0
    (memRun_runOK p hc R sem sched hs Q hQsem hfit m0 env0 hQ0 h0)

/-- the region an op writes does not overlap the region of any of its operands (so reading all operands and then writing
the result — the step of this model — is what an evaluator that interleaves operand reads with output writes does) -/
theorem operand_output_disjoint {p : MapIn} (hg : Good p) {k : Nat} {o : OpRow} (hk : p.ops[k]? = some o)
    {i : Nat} (hi : i ∈ o.ins) : p.overlap i o.out = false := by
  obtain ⟨hal, hac⟩ := hg.alias k o hk i hi
  have := hg.out_disjoint hk (hg.opnd k o hk i hi).1 (opnd_facts hg hk hi).2.1 (hg.alive_opnd hk hi)
  unfold overlap at this ⊢
  rw [hal, hac]
  exact this

end KV.MapSound
