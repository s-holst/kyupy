import KyupyVerif.Proofs.TransformStable
/-! C10, `Circuit.substitute` (circuit.py; model Model/Substitute.lean) on the observables of a dump — the list of (kind, name) of
the nodes and the port list as such records (`NNet.ioKN`) — one operation of the model at a time.  `Line.remove()`, the two connecting
loops and the loop that closes gaps in fork outputs only re-wire pins (`PinsOnly`: node count, kinds and port list stay); `Node(...)`
appends one record (`addNode_obs`), `Node.remove()` erases one up to order (`delNode_obs`, Proofs/TransformElim.lean); a run of `remove_dangling_nodes` is
reasoned about through the induction principle `removeDangling_rec` and removes no port and no state element (`removeDangling_obs`).
`addedOne_eq` reads off which node one iteration of `for n in impl.nodes` adds; `substituteCore_inv` splits a successful
`substituteCore` into its phases. -/
namespace KV.Transform
open KV

theorem pinsOnly_detachDriver (net net' : Net) (l : Nat) (h : detachDriver net l = some net') : PinsOnly net net' := by
  unfold detachDriver at h
  dsimp only at h
  split at h
  · split at h
    · exact absurd h (by simp)
    · cases h; exact ⟨pinsOnlyN_modify _ _ _ (fun _ => rfl), rfl⟩
  · cases h; exact ⟨pinsOnlyN_modify _ _ _ (fun _ => rfl), rfl⟩

theorem pinsOnly_removeLine (cr : Bool) (net net' : Net) (l : Nat) (h : removeLine cr net l = some net') : PinsOnly net net' := by
  unfold removeLine at h
  simp only [Option.map_eq_some_iff] at h
  obtain ⟨net1, h1, e⟩ := h
  subst e
  refine (pinsOnly_detachDriver net net1 l h1).trans ?_
  refine PinsOnly.trans ?_ (pinsOnly_delLine _ l)
  cases cr
  · exact PinsOnly.refl _
  · exact ⟨pinsOnlyN_modify _ _ _ (fun _ => rfl), rfl⟩

theorem pinsOnly_removeLines : ∀ (ls : List Nat) (ren : Option Nat → Option Nat) (net net' : Net),
    removeLines ren ls net = some net' → PinsOnly net net'
  | [], _, net, net', h => by cases h; exact PinsOnly.refl _
  | l0 :: rest, ren, net, net', h => by
    unfold removeLines at h
    split at h
    · exact absurd h (by simp)
    · split at h
      · exact absurd h (by simp)
      · rename_i net1 h1
        exact (pinsOnly_removeLine true net net1 _ h1).trans (pinsOnly_removeLines rest _ net1 net' h)

theorem pinsOnly_setReader (net : Net) (ll r rp : Nat) : PinsOnly net (setReader net ll r rp) :=
  ⟨pinsOnlyN_modify _ _ _ (fun _ => rfl), rfl⟩
theorem pinsOnly_setDriver (net : Net) (ll d dp : Nat) : PinsOnly net (setDriver net ll d dp) :=
  ⟨pinsOnlyN_modify _ _ _ (fun _ => rfl), rfl⟩

theorem pinsOnly_connectIns (m : NNet) (map : Array (Option Nat)) : ∀ (l : List (Nat × Option Nat))
    (st st' : Net × (Option Nat → Option Nat)), connectIns m map l st = some st' → PinsOnly st.1 st'.1
  | [], st, st', h => by cases h; exact PinsOnly.refl _
  | (inn, o) :: rest, (net, ren), st', h => by
    unfold connectIns at h
    split at h
    · exact pinsOnly_connectIns m map rest _ st' h
    · split at h
      · split at h
        · exact absurd h (by simp)
        · rename_i net1 h1
          exact (pinsOnly_removeLine false net net1 _ h1).trans (pinsOnly_connectIns m map rest _ st' h)
      · split at h
        · exact absurd h (by simp)
        · exact (pinsOnly_setReader net _ _ _).trans (pinsOnly_connectIns m map rest _ st' h)

theorem pinsOnly_connectOuts (m : NNet) (map : Array (Option Nat)) : ∀ (l : List (Nat × Option Nat))
    (st st' : Net × List (Option Nat)), connectOuts m map l st = some st' → PinsOnly st.1 st'.1
  | [], st, st', h => by cases h; exact PinsOnly.refl _
  | (l, none) :: rest, (net, dang), st', h => by
    unfold connectOuts at h
    have := pinsOnly_connectOuts m map rest _ st' h
    exact this
  | (l, some ll) :: rest, (net, dang), st', h => by
    unfold connectOuts at h
    split at h
    · exact absurd h (by simp)
    · exact (pinsOnly_setDriver net _ _ _).trans (pinsOnly_connectOuts m map rest _ st' h)

theorem renumberDpins_size (lines : Array LineD) : ∀ (outs : List (Option Nat)) (k : Nat), (renumberDpins lines outs k).size = lines.size
  | [], _ => rfl
  | none :: rest, k => by simp only [renumberDpins]; exact renumberDpins_size lines rest (k + 1)
  | some l :: rest, k => by simp only [renumberDpins]; rw [renumberDpins_size _ rest (k + 1)]; simp

theorem pinsOnly_densifyNode (net : Net) (v : Nat) : PinsOnly net (densifyNode net v) := by
  unfold densifyNode
  split
  · exact ⟨pinsOnlyN_modify _ _ _ (fun _ => rfl), rfl⟩
  · exact PinsOnly.refl _

theorem densifyNode_lines_size (net : Net) (v : Nat) : (densifyNode net v).lines.size = net.lines.size := by
  unfold densifyNode
  split
  · exact renumberDpins_size _ _ _
  · rfl

theorem pinsOnly_foldl_densifyNode (vs : List Nat) (net : Net) : PinsOnly net (vs.foldl densifyNode net) ∧
    (vs.foldl densifyNode net).lines.size = net.lines.size :=
  foldl_inv densifyNode (fun n => PinsOnly net n ∧ n.lines.size = net.lines.size)
    (fun n v _ hn => ⟨hn.1.trans (pinsOnly_densifyNode n v), (densifyNode_lines_size n v).trans hn.2⟩) ⟨PinsOnly.refl _, rfl⟩

theorem pinsOnly_densify (net : Net) (map : Array (Option Nat)) : PinsOnly net (densify net map) :=
  (pinsOnly_foldl_densifyNode _ net).1
theorem densify_lines_size (net : Net) (map : Array (Option Nat)) : (densify net map).lines.size = net.lines.size :=
  (pinsOnly_foldl_densifyNode _ net).2

theorem densify_of_dense (net : Net) (map : Array (Option Nat)) (h : needsDensify net map = false) : densify net map = net := by
  unfold needsDensify at h
  unfold densify
  refine foldl_inv densifyNode (· = net) (fun n v hv e => ?_) rfl
  subst e
  have := List.any_eq_false.mp h v hv
  unfold densifyNode
  simp [this]

theorem kindAt_push (ns : Array NodeD) (x : NodeD) (j : Nat) :
    kindAt (ns.push x) j = if j < ns.size then kindAt ns j else if j = ns.size then x.kind else (default : NodeD).kind := by
  unfold kindAt
  rw [getD_push]
  split
  · rfl
  · split <;> rfl

theorem addNode_obs (h h' : NNet) (name kind : String) (he : addNode h name kind = some h') (li : LI h) :
    h'.kindNames = h.kindNames ++ [(kind, name)] ∧ h'.ioKN = h.ioKN ∧ LI h' ∧
    h'.net.nodes.size = h.net.nodes.size + 1 ∧ h'.net.io = h.net.io := by
  unfold addNode at he
  split at he
  · exact absurd he (by simp)
  · cases he
    refine ⟨?_, ?_, ⟨by simp [li.1], fun j hj => by have := li.2 j hj; simp; omega⟩, by simp, rfl⟩
    · rw [kindNames_eq, kindNames_eq]
      simp only [Array.size_push, List.range_succ, List.map_append, List.map_singleton]
      congr 1
      · apply List.map_congr_left
        intro j hj
        have hj' := List.mem_range.mp hj
        have hj2 : j < h.names.size := by rw [li.1]; exact hj'
        rw [kindAt_push, getD_push]
        simp only [hj', hj2, if_true]
      · rw [kindAt_push, getD_push, li.1]
        simp
    · simp only [NNet.ioKN]
      apply List.map_congr_left
      intro j hj
      have hj' := li.2 j hj
      rw [kindAt_push, getD_push]
      simp [hj', li.1]

def SeqOnly (p : String × String → Bool) : Prop := ∀ k n, p (k, n) = true → isSeqKind k = true

theorem mvLine_some {s l x : Nat} : mvLine s l (some x) = some (mvN s l x) := mvL_some

theorem mvNode_some (n root x : Nat) : mvNode n root (some x) = if x = root then none else some (mvN n root x) := by
  simp only [mvNode, mvN, beq_iff_eq, Option.some.injEq]
  split
  · rfl
  · split <;> rfl

theorem own_mvNode_lt {own : List Nat} {n root : Nat} (ho : ∀ x ∈ own, x < n) (hr : root < n) :
    ∀ y ∈ own.filterMap (fun x => mvNode n root (some x)), y < n - 1 := by
  intro y hy
  obtain ⟨x, hx, e⟩ := List.mem_filterMap.mp hy
  rw [mvNode_some] at e
  split at e
  · cases e
  · cases e; exact (mv_facts hr (ho x hx) ‹_›).1

/-- the four early `return`s of `remove_dangling_nodes` (nested tests in `removeDangling`) as the one test `keptRoot`, so that a run
    is followed with a single case split (`removeDangling_rec`, `removeDangling_kept`) -/
theorem removeDangling_cons_some (fuel : Nat) (nn : NNet) (own : List Nat) (root : Nat) (rest : List (Option Nat)) :
    removeDangling (fuel + 1) nn own (some root :: rest) =
      if keptRoot nn own root then removeDangling fuel nn own rest else
      match removeLines id ((nn.net.node root).ins.filterMap id) nn.net with
      | none => none
      | some net' =>
        removeDangling fuel (delNode { nn with net := net' } root) (own.filterMap fun x => mvNode nn.net.nodes.size root (some x))
          ((((nn.net.node root).ins.filterMap id).map fun l => some (nn.net.line l).driver).map (mvNode nn.net.nodes.size root) ++
            rest.map (mvNode nn.net.nodes.size root)) := by
  rw [removeDangling]
  unfold keptRoot
  dsimp only
  cases (nn.net.node root).outs.any (·.isSome) <;> cases nn.net.io.contains root <;>
    cases isSeqKind (nn.net.node root).kind <;> cases own.contains root <;> rfl

theorem not_keptRoot {nn : NNet} {own : List Nat} {root : Nat} (h : ¬ keptRoot nn own root = true) :
    (∀ k, (nn.net.node root).outs.getD k none = none) ∧ root ∉ nn.net.io ∧ ¬ isSeqKind (nn.net.node root).kind = true ∧
    root ∈ own := by
  simp only [keptRoot, Bool.or_eq_true, Bool.not_eq_true', not_or, Bool.not_eq_true, Bool.not_eq_false] at h
  obtain ⟨⟨⟨h1, h2⟩, h3⟩, h4⟩ := h
  exact ⟨getD_none_of_any_isSome (by simpa using h1), by simpa using h2, by simp [h3], by simpa using h4⟩

/-- induction over a run of `remove_dangling_nodes`: `J` is what the step needs of the circuit (and gives back for the circuit after
    the removal of a node with its input lines), `P` relates a circuit on the way to the result -/
theorem removeDangling_rec {J : NNet → Prop} {P : NNet → List Nat → NNet → Prop} (refl : ∀ {nn own}, J nn → P nn own nn)
    (step : ∀ {nn : NNet} {own : List Nat} {root : Nat} {net' : Net} {nn' : NNet}, J nn → (∀ x ∈ own, x < nn.net.nodes.size) → root ∈ own →
      root ∉ nn.net.io → ¬ isSeqKind (nn.net.node root).kind = true → (∀ k, (nn.net.node root).outs.getD k none = none) →
      removeLines id ((nn.net.node root).ins.filterMap id) nn.net = some net' →
      J (delNode { nn with net := net' } root) ∧
      (P (delNode { nn with net := net' } root) (own.filterMap fun x => mvNode nn.net.nodes.size root (some x)) nn' → P nn own nn')) :
    ∀ (fuel : Nat) (nn : NNet) (own : List Nat) (stack : List (Option Nat)) (nn' : NNet),
    J nn → (∀ x ∈ own, x < nn.net.nodes.size) → removeDangling fuel nn own stack = some nn' → J nn' ∧ P nn own nn'
  | 0, _, _, _, _, _, _, h => by simp [removeDangling] at h
  | fuel + 1, nn, ow, [], nn', w, _, h => by
    simp only [removeDangling] at h
    cases h
    exact ⟨w, refl w⟩
  | fuel + 1, nn, ow, none :: rest, nn', w, ho, h => by
    simp only [removeDangling] at h
    exact removeDangling_rec (P := P) refl step fuel nn ow rest nn' w ho h
  | fuel + 1, nn, ow, some root :: rest, nn', w, ho, h => by
    rw [removeDangling_cons_some] at h
    split at h
    · exact removeDangling_rec (P := P) refl step fuel nn ow rest nn' w ho h
    · rename_i hk
      obtain ⟨houts, hio', hseq, how'⟩ := not_keptRoot hk
      have hr : root < nn.net.nodes.size := ho root how'
      split at h
      · exact absurd h (by simp)
      · rename_i net1 h1
        obtain ⟨w2, back⟩ := step (nn' := nn') w ho how' hio' hseq houts h1
        have hs : (delNode { nn with net := net1 } root).net.nodes.size = nn.net.nodes.size - 1 := by
          simp [delNode, (pinsOnly_removeLines _ _ _ _ h1).1.1]
        obtain ⟨w3, p3⟩ := removeDangling_rec (P := P) refl step fuel _ _ _ nn' w2 (by rw [hs]; exact own_mvNode_lt ho hr) h
        exact ⟨w3, back p3⟩

theorem removeDangling_obs (fuel : Nat) (nn : NNet) (own : List Nat) (stack : List (Option Nat)) (nn' : NNet)
    (li : LI nn) (ho : ∀ x ∈ own, x < nn.net.nodes.size) (h : removeDangling fuel nn own stack = some nn') :
    LI nn' ∧ nn'.ioKN = nn.ioKN ∧
    ∀ p, SeqOnly p → (nn'.kindNames.filter p).Perm (nn.kindNames.filter p) := by
  refine removeDangling_rec (J := LI)
    (P := fun x _ x' => x'.ioKN = x.ioKN ∧ ∀ p, SeqOnly p → (x'.kindNames.filter p).Perm (x.kindNames.filter p))
    (fun _ => ⟨rfl, fun _ _ => List.Perm.refl _⟩) (fun {x _ root net1 _} li ho how hio hseq _ h1 => ?_) fuel nn own stack nn' li ho h
  have po := pinsOnly_removeLines _ _ _ _ h1
  have ob := obs_of_pinsOnly x { x with net := net1 } po rfl
  have hr1 : root < ({ x with net := net1 } : NNet).net.nodes.size := by rw [po.1.1]; exact ho root how
  have dl := delNode_obs { x with net := net1 } root (ob.2.2 li) hr1 (by rw [po.2]; simpa using hio)
  refine ⟨dl.1, fun hP => ⟨hP.1.trans (dl.2.1.trans ob.2.1), fun p hp => (hP.2 p hp).trans ((dl.2.2.filter p).trans ?_)⟩⟩
  have hlen : root < x.kindNames.length := by simpa [kindNames_eq, po.1.1] using hr1
  rw [ob.1, filter_eraseIdx_of_false p _ root hlen]
  -- the deleted node is no state element, so `p` does not select it
  rw [kindNames_getElem x root hlen]
  cases hpv : p (knAt x root) with
  | false => rfl
  | true => exact absurd (hp _ _ hpv) hseq


def MapLt (map : Array (Option Nat)) (n : Nat) : Prop := ∀ k x, map.getD k none = some x → x < n

theorem mapLt_set (map : Array (Option Nat)) (n j v : Nat) (h : MapLt map n) (hv : v < n) :
    MapLt (map.setIfInBounds j (some v)) n := by
  intro k x hx
  rw [getD_setIfInBounds] at hx
  split at hx
  · cases hx; exact hv
  · exact h k x hx

theorem MapLt.mono {map : Array (Option Nat)} {n n' : Nat} (h : MapLt map n) (hn : n ≤ n') : MapLt map n' :=
  fun k x hx => Nat.lt_of_lt_of_le (h k x hx) hn

/-- in the words of `substitute`: a node for every internal node but the designated cell, a fork for every port that is driven and
    read inside ("output is also read by impl. circuit") or is an input with several readers -/
theorem addedOne_eq (m : NNet) (hn : String) (des : Option Nat) (j : Nat) : addedOne m hn des j =
    if (if j ∈ m.net.io then (0 < (m.net.node j).ins.length ∧ 0 < (m.net.node j).outs.length) ∨
          ((m.net.node j).ins.length = 0 ∧ 1 < (m.net.node j).outs.length) else des ≠ some j)
    then some (if j ∈ m.net.io then "__fork__" else (m.net.node j).kind, hn ++ "~" ++ m.names.getD j "") else none := by
  unfold addedOne
  by_cases hjio : j ∈ m.net.io
  · -- the Boolean tests of the code against their arithmetic reading
    by_cases c1 : 0 < (m.net.node j).ins.length <;> by_cases c2 : 0 < (m.net.node j).outs.length <;>
      by_cases c3 : 1 < (m.net.node j).outs.length <;> simp [hjio, c1, c2, c3] <;> omega
  · by_cases e : des = some j <;> simp [hjio, e]

theorem addedOne_isSome (m : NNet) (hn : String) (des : Option Nat) (j : Nat) : (addedOne m hn des j).isSome ↔
    if j ∈ m.net.io then (0 < (m.net.node j).ins.length ∧ 0 < (m.net.node j).outs.length) ∨
      ((m.net.node j).ins.length = 0 ∧ 1 < (m.net.node j).outs.length) else des ≠ some j := by
  rw [addedOne_eq, Option.isSome_iff_exists]
  simp only [Option.ite_none_right_eq_some]
  exact ⟨fun ⟨_, h, _⟩ => h, fun h => ⟨_, h, rfl⟩⟩

theorem addedOne_kind {m : NNet} {hn : String} {des : Option Nat} {j : Nat} {kn : String × String}
    (ha : addedOne m hn des j = some kn) : kn.1 = if j ∈ m.net.io then "__fork__" else (m.net.node j).kind := by
  rw [addedOne_eq, Option.ite_none_right_eq_some] at ha
  rw [← Option.some.inj ha.2]

theorem addNode_spec (h h' : NNet) (name kind : String) (he : addNode h name kind = some h') :
    h'.net.nodes = h.net.nodes.push ⟨kind, [], []⟩ ∧ h'.net.lines = h.net.lines ∧ h'.net.io = h.net.io ∧
    h'.names = h.names.push name ∧ h.keys.contains (name, kind == "__fork__") = false := by
  unfold addNode at he
  split at he
  · exact absurd he (by simp)
  · rename_i hc
    cases he
    exact ⟨rfl, rfl, rfl, rfl, by simpa using hc⟩

theorem addImplNode_eq (m : NNet) (hn : String) (des : Option Nat) (st : NNet × Array (Option Nat)) (j : Nat) :
    addImplNode m hn des st j = match addedOne m hn des j with
      | none => some st
      | some kn => (addNode st.1 kn.2 kn.1).map fun h' => (h', st.2.setIfInBounds j (some st.1.net.nodes.size)) := by
  unfold addImplNode addedOne
  dsimp only
  split
  · split <;> rfl
  · split
    · rfl
    · split <;> rfl

theorem addImplNode_cases {m : NNet} {hn : String} {des : Option Nat} {st st' : NNet × Array (Option Nat)} {j : Nat}
    (he : addImplNode m hn des st j = some st') :
    (addedOne m hn des j = none ∧ st' = st) ∨
    ∃ kn h', addedOne m hn des j = some kn ∧ addNode st.1 kn.2 kn.1 = some h' ∧
      st' = (h', st.2.setIfInBounds j (some st.1.net.nodes.size)) := by
  rw [addImplNode_eq] at he
  cases ha : addedOne m hn des j with
  | none => rw [ha] at he; exact Or.inl ⟨rfl, (Option.some.inj he).symm⟩
  | some kn =>
    rw [ha] at he
    obtain ⟨h', h1, e⟩ := Option.map_eq_some_iff.mp he
    exact Or.inr ⟨kn, h', rfl, h1, e.symm⟩

theorem addImplNode_obs (m : NNet) (hn : String) (des : Option Nat) (st st' : NNet × Array (Option Nat)) (j : Nat)
    (he : addImplNode m hn des st j = some st') (li : LI st.1) (hm : MapLt st.2 st.1.net.nodes.size) :
    st'.1.kindNames = st.1.kindNames ++ (addedOne m hn des j).toList ∧ st'.1.ioKN = st.1.ioKN ∧ LI st'.1 ∧
    st'.1.net.io = st.1.net.io ∧ st.1.net.nodes.size ≤ st'.1.net.nodes.size ∧ MapLt st'.2 st'.1.net.nodes.size := by
  rcases addImplNode_cases he with ⟨ha, rfl⟩ | ⟨kn, h', ha, h1, rfl⟩
  · rw [ha]; exact ⟨by simp, rfl, li, rfl, Nat.le_refl _, hm⟩
  · have o := addNode_obs st.1 h' kn.2 kn.1 h1 li
    rw [ha]
    refine ⟨o.1, o.2.1, o.2.2.1, o.2.2.2.2, by rw [o.2.2.2.1]; omega, ?_⟩
    show MapLt (st.2.setIfInBounds j (some st.1.net.nodes.size)) h'.net.nodes.size
    rw [o.2.2.2.1]
    exact mapLt_set _ _ _ _ (hm.mono (by omega)) (by omega)

theorem foldlM_addImplNode_obs (m : NNet) (hn : String) (des : Option Nat)
    (js : List Nat) (st st' : NNet × Array (Option Nat)) (h : js.foldlM (addImplNode m hn des) st = some st')
    (li : LI st.1) (hm : MapLt st.2 st.1.net.nodes.size) :
    st'.1.kindNames = st.1.kindNames ++ js.filterMap (addedOne m hn des) ∧ st'.1.ioKN = st.1.ioKN ∧ LI st'.1 ∧
    st'.1.net.io = st.1.net.io ∧ st.1.net.nodes.size ≤ st'.1.net.nodes.size ∧ MapLt st'.2 st'.1.net.nodes.size := by
  refine foldlM_inv (addImplNode m hn des) (fun pre s =>
      s.1.kindNames = st.1.kindNames ++ pre.filterMap (addedOne m hn des) ∧ s.1.ioKN = st.1.ioKN ∧ LI s.1 ∧
      s.1.net.io = st.1.net.io ∧ st.1.net.nodes.size ≤ s.1.net.nodes.size ∧ MapLt s.2 s.1.net.nodes.size)
    (fun pre s j s' hP h1 => ?_) js [] st st' ⟨by simp, rfl, li, rfl, Nat.le_refl _, hm⟩ h
  have o := addImplNode_obs m hn des s s' j h1 hP.2.2.1 hP.2.2.2.2.2
  refine ⟨?_, o.2.1.trans hP.2.1, o.2.2.1, o.2.2.2.1.trans hP.2.2.2.1, Nat.le_trans hP.2.2.2.2.1 o.2.2.2.2.1, o.2.2.2.2.2⟩
  rw [o.1, hP.1, List.filterMap_append, List.append_assoc]
  cases ha : addedOne m hn des j <;> simp [ha]

theorem getD_replicate_none (n k : Nat) : (Array.replicate n (none : Option Nat)).getD k none = none := by
  simp only [Array.getD_eq_getD_getElem?, Array.getElem?_replicate]
  split <;> rfl

theorem kindAt_modify_const (ns : Array NodeD) (c j : Nat) (x : NodeD) :
    kindAt (ns.modify c fun _ => x) j = if j = c ∧ c < ns.size then x.kind else kindAt ns j := by
  unfold kindAt; rw [getD_modify]; split <;> rfl

theorem phase1_some_obs (h : NNet) (c : Nat) (m : NNet) (dn : Nat) (li : LI h) (hc : c < h.net.nodes.size) :
    (phase1 h c m (some dn)).1.kindNames = h.kindNames.set c ((m.net.node dn).kind, h.names.getD c "") ∧
    (phase1 h c m (some dn)).1.ioNames = h.ioNames ∧ LI (phase1 h c m (some dn)).1 ∧
    MapLt (phase1 h c m (some dn)).2 (phase1 h c m (some dn)).1.net.nodes.size := by
  simp only [phase1]
  refine ⟨?_, rfl, ⟨by simpa using li.1, by simpa using li.2⟩, ?_⟩
  · rw [kindNames_eq, kindNames_eq]
    simp only [Array.size_modify]
    apply List.ext_getElem?
    intro x
    rw [List.getElem?_set]
    simp only [List.getElem?_map, List.length_map, List.length_range, hc, if_true]
    by_cases hx : x < h.net.nodes.size
    · rw [List.getElem?_range hx]
      simp only [Option.map_some, kindAt_modify_const]
      by_cases e : c = x
      · subst e; simp [hc]
      · have : ¬ x = c := fun y => e y.symm
        simp [e, this]
    · rw [List.getElem?_eq_none (by simp; omega)]
      have : ¬ c = x := by omega
      simp [this]
  · simp only [Array.size_modify]
    apply mapLt_set _ _ _ _ _ hc
    intro k x hx
    rw [getD_replicate_none] at hx
    exact absurd hx (by simp)

theorem phase1_none_obs (h : NNet) (c : Nat) (m : NNet) (li : LI h) (hc : c < h.net.nodes.size)
    (hio : h.net.io.contains c = false) :
    (phase1 h c m none).1.kindNames.Perm (h.kindNames.eraseIdx c) ∧
    (phase1 h c m none).1.ioNames = h.ioNames ∧ LI (phase1 h c m none).1 ∧
    MapLt (phase1 h c m none).2 (phase1 h c m none).1.net.nodes.size := by
  have d := delNode_obs h c li hc hio
  simp only [phase1]
  refine ⟨d.2.2, ioNames_of_ioKN d.2.1, d.1, ?_⟩
  intro k x hx
  rw [getD_replicate_none] at hx
  exact absurd hx (by simp)

theorem phase1_li (h : NNet) (c : Nat) (m : NNet) (des : Option Nat) (li : LI h) (hc : c < h.net.nodes.size)
    (hio : h.net.io.contains c = false) :
    (phase1 h c m des).1.ioKN = h.ioKN ∧ LI (phase1 h c m des).1 ∧
    MapLt (phase1 h c m des).2 (phase1 h c m des).1.net.nodes.size := by
  cases des with
  | none => exact ⟨(delNode_obs h c li hc hio).2.1, (phase1_none_obs h c m li hc hio).2.2⟩
  | some dn =>
    refine ⟨?_, (phase1_some_obs h c m dn li hc).2.2⟩
    -- the cell, whose kind changes, is no port
    simp only [phase1, NNet.ioKN]
    apply List.map_congr_left
    intro j hj
    rw [kindAt_modify_const]
    simp [ne_of_contains_false hio hj]

theorem substituteCore_inv (h : NNet) (c : Nat) (m : NNet) (sh : Shape) (hs : implShape m = some sh)
    (h5 : NNet) (map : Array (Option Nat)) (dang : List (Option Nat)) (he : substituteCore h c m = some (h5, map, dang)) :
    ∃ h2 net4 ren net5,
      (h.net.node c).ins.length ≤ sh.inPorts.length ∧ (h.net.node c).outs.length ≤ sh.outLines.length ∧
      (List.range m.net.nodes.size).foldlM (addImplNode m (h.names.getD c "") sh.des) (phase1 h c m sh.des) = some (h2, map) ∧
      connectIns m map (sh.inPorts.zip (padTo (h.net.node c).ins sh.inPorts.length)) (phase3 m map h2, id) = some (net4, ren) ∧
      connectOuts m map (sh.outLines.zip ((padTo (h.net.node c).outs sh.outLines.length).map ren)) (net4, []) = some (net5, dang) ∧
      h5 = { h2 with net := net5 } := by
  unfold substituteCore at he
  rw [hs] at he
  dsimp only at he
  split at he
  · exact absurd he (by simp)
  · rename_i hpins
    split at he
    · exact absurd he (by simp)
    · rename_i h2 map' hfold
      split at he
      · exact absurd he (by simp)
      · rename_i net4 ren hci
        split at he
        · exact absurd he (by simp)
        · rename_i net5 dang' hco
          simp only [Option.some.injEq, Prod.mk.injEq] at he
          obtain ⟨e1, e2, e3⟩ := he
          subst e2; subst e3
          simp only [Bool.or_eq_true, decide_eq_true_eq, not_or, Nat.not_lt] at hpins
          exact ⟨h2, net4, ren, net5, hpins.1, hpins.2, hfold, hci, hco, e1.symm⟩

end KV.Transform
