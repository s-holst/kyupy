import KyupyVerif.Proofs.Netlist
import KyupyVerif.Model.VerilogSem
/-! The circuit under construction.  Every operation of the two builders only appends: `Grows C C' Δ` says what
(`Delta`: nodes, lines, `io_nodes` assignments, bench ports, `const_count`; `err` is left out), and each operation gets ONE lemma
`<op>_grows` whose delta is computed from look-ups in the current circuit and reads like the Python; a loop is `Delta.walk`.
What a pass keeps and what a statement contributes is read off the deltas.  The retry loop of pass 1.5 needs no delta of its own:
it is `assignStep` folded over SOME list of pairs (`pass15_steps`).  The import of Model/VerilogSem.lean is for `p1Out` / `p2In` only (what a
pin connection of pass 1 / pass 2 is): builder-side notions that the model keeps in its semantics file. -/
namespace KV.Netlist

section simp_lemmas
variable (C : Circ) (n k : String) (b : Bool) (d r : Ep) (v : Option String)

@[simp] theorem addFork_lines : (C.addFork n b).lines = C.lines := rfl
@[simp] theorem addFork_nodes : (C.addFork n b).nodes = C.nodes ++ [⟨forkKind, n, b⟩] := rfl
@[simp] theorem addFork_io : (C.addFork n b).io = C.io := rfl
@[simp] theorem addFork_ioB : (C.addFork n b).ioB = C.ioB := rfl
@[simp] theorem addFork_cc : (C.addFork n b).cc = C.cc := rfl
@[simp] theorem addCell_lines : (C.addCell k n).lines = C.lines := rfl
@[simp] theorem addCell_nodes : (C.addCell k n).nodes = C.nodes ++ [⟨k, n, false⟩] := rfl
@[simp] theorem addCell_io : (C.addCell k n).io = C.io := rfl
@[simp] theorem addCell_ioB : (C.addCell k n).ioB = C.ioB := rfl
@[simp] theorem addCell_cc : (C.addCell k n).cc = C.cc := rfl
@[simp] theorem addLine_lines : (C.addLine d r v).lines = C.lines ++ [⟨d, r, v⟩] := rfl
@[simp] theorem addLine_nodes : (C.addLine d r v).nodes = C.nodes := rfl
@[simp] theorem addLine_io : (C.addLine d r v).io = C.io := rfl
@[simp] theorem addLine_ioB : (C.addLine d r v).ioB = C.ioB := rfl
@[simp] theorem addLine_cc : (C.addLine d r v).cc = C.cc := rfl
@[simp] theorem failIf_lines : (C.failIf b).lines = C.lines := rfl
@[simp] theorem failIf_nodes : (C.failIf b).nodes = C.nodes := rfl
@[simp] theorem failIf_io : (C.failIf b).io = C.io := rfl
@[simp] theorem failIf_ioB : (C.failIf b).ioB = C.ioB := rfl
@[simp] theorem failIf_cc : (C.failIf b).cc = C.cc := rfl
@[simp] theorem fail_lines : C.fail.lines = C.lines := rfl
@[simp] theorem fail_nodes : C.fail.nodes = C.nodes := rfl
@[simp] theorem fail_io : C.fail.io = C.io := rfl
@[simp] theorem fail_ioB : C.fail.ioB = C.ioB := rfl
@[simp] theorem fail_cc : C.fail.cc = C.cc := rfl
@[simp] theorem addLines_lines (ls : List LineM) : (C.addLines ls).lines = C.lines ++ ls := rfl
@[simp] theorem addLines_nodes (ls : List LineM) : (C.addLines ls).nodes = C.nodes := rfl
@[simp] theorem addLines_io (ls : List LineM) : (C.addLines ls).io = C.io := rfl
@[simp] theorem addLines_ioB (ls : List LineM) : (C.addLines ls).ioB = C.ioB := rfl
@[simp] theorem pushIo_lines (i : Nat) : (C.pushIo i n).lines = C.lines := rfl
@[simp] theorem pushIo_nodes (i : Nat) : (C.pushIo i n).nodes = C.nodes := rfl
@[simp] theorem pushIo_io (i : Nat) : (C.pushIo i n).io = C.io ++ [(i, n)] := rfl
@[simp] theorem pushIo_cc (i : Nat) : (C.pushIo i n).cc = C.cc := rfl
@[simp] theorem pushIoB_lines (ns : List String) : (C.pushIoB ns).lines = C.lines := rfl
@[simp] theorem pushIoB_nodes (ns : List String) : (C.pushIoB ns).nodes = C.nodes := rfl
@[simp] theorem pushIoB_ioB (ns : List String) : (C.pushIoB ns).ioB = C.ioB ++ ns := rfl
@[simp] theorem incCC_lines : C.incCC.lines = C.lines := rfl
@[simp] theorem incCC_nodes : C.incCC.nodes = C.nodes := rfl
@[simp] theorem incCC_io : C.incCC.io = C.io := rfl
@[simp] theorem incCC_cc : C.incCC.cc = C.cc + 1 := rfl
@[simp] theorem incCC_isFork (q : String) : C.incCC.isFork q = C.isFork q := rfl
@[simp] theorem pushIo_isFork (i : Nat) (q : String) : (C.pushIo i n).isFork q = C.isFork q := rfl
@[simp] theorem failIf_isFork (q : String) : (C.failIf b).isFork q = C.isFork q := rfl
@[simp] theorem addLine_isFork (q : String) : (C.addLine d r v).isFork q = C.isFork q := rfl
end simp_lemmas

theorem isFork_iff (C : Circ) (q : String) : C.isFork q = true ↔ ∃ b, (⟨forkKind, q, b⟩ : NodeM) ∈ C.nodes := by
  unfold Circ.isFork
  rw [List.any_eq_true]
  constructor
  · rintro ⟨x, hx, hp⟩
    simp only [Bool.and_eq_true, beq_iff_eq] at hp
    refine ⟨x.branch, ?_⟩
    have : x = ⟨forkKind, q, x.branch⟩ := by cases x; simp_all
    rw [← this]; exact hx
  · rintro ⟨b, hb⟩
    exact ⟨_, hb, by simp⟩

theorem isFork_addFork_self (C : Circ) (n : String) (b : Bool) : (C.addFork n b).isFork n = true := by
  rw [isFork_iff]; exact ⟨b, by simp⟩

structure Sub (C C' : Circ) : Prop where
  lines : ∀ l ∈ C.lines, l ∈ C'.lines
  nodes : ∀ n ∈ C.nodes, n ∈ C'.nodes

theorem Sub.refl (C : Circ) : Sub C C := ⟨fun _ h => h, fun _ h => h⟩
theorem Sub.trans {A B C : Circ} (h1 : Sub A B) (h2 : Sub B C) : Sub A C :=
  ⟨fun l h => h2.lines l (h1.lines l h), fun n h => h2.nodes n (h1.nodes n h)⟩

theorem Sub.isFork {C C' : Circ} (h : Sub C C') {q : String} (hq : C.isFork q = true) : C'.isFork q = true := by
  rw [isFork_iff] at *
  obtain ⟨b, hb⟩ := hq
  exact ⟨b, h.nodes _ hb⟩

theorem sub_of_eq {C C' : Circ} (hl : C'.lines = C.lines) (hn : C'.nodes = C.nodes) : Sub C C' :=
  ⟨fun _ h => hl ▸ h, fun _ h => hn ▸ h⟩

theorem sub_foldl {α} (step : Circ → α → Circ) (hmono : ∀ C x, Sub C (step C x)) (l : List α) (C : Circ) :
    Sub C (l.foldl step C) :=
  foldl_inv step (Sub C) (fun s a _ h => h.trans (hmono s a)) (Sub.refl C)

theorem foldl_reach {α} (step : Circ → α → Circ) (hmono : ∀ C x, Sub C (step C x)) {l : List α} {x : α}
    (hx : x ∈ l) (C0 : Circ) : ∃ C, Sub C0 C ∧ Sub (step C x) (l.foldl step C0) := by
  induction l generalizing C0 with
  | nil => cases hx
  | cons y ys ih =>
    rcases List.mem_cons.mp hx with rfl | h
    · exact ⟨C0, Sub.refl _, sub_foldl step hmono ys _⟩
    · obtain ⟨C, h0, h1⟩ := ih h (step C0 y)
      exact ⟨C, (hmono C0 y).trans h0, h1⟩

@[ext] structure Delta where
  nodes : List NodeM := []
  lines : List LineM := []
  io : List (Nat × String) := []
  ioB : List String := []
  cc : Nat := 0

instance : Append Delta := ⟨fun a b => ⟨a.nodes ++ b.nodes, a.lines ++ b.lines, a.io ++ b.io, a.ioB ++ b.ioB, a.cc + b.cc⟩⟩

@[simp] theorem Delta.app_nodes (a b : Delta) : (a ++ b).nodes = a.nodes ++ b.nodes := rfl
@[simp] theorem Delta.app_lines (a b : Delta) : (a ++ b).lines = a.lines ++ b.lines := rfl
@[simp] theorem Delta.app_io (a b : Delta) : (a ++ b).io = a.io ++ b.io := rfl
@[simp] theorem Delta.app_ioB (a b : Delta) : (a ++ b).ioB = a.ioB ++ b.ioB := rfl
@[simp] theorem Delta.app_cc (a b : Delta) : (a ++ b).cc = a.cc + b.cc := rfl

/-- `C'` is `C` with `Δ` appended (`err` is not described) -/
structure Grows (C C' : Circ) (Δ : Delta) : Prop where
  nodes : C'.nodes = C.nodes ++ Δ.nodes
  lines : C'.lines = C.lines ++ Δ.lines
  io : C'.io = C.io ++ Δ.io
  ioB : C'.ioB = C.ioB ++ Δ.ioB
  cc : C'.cc = C.cc + Δ.cc

namespace Grows
variable {A B C : Circ} {d d1 d2 : Delta}

theorem refl (C : Circ) : Grows C C {} := ⟨by simp, by simp, by simp, by simp, rfl⟩

theorem trans (h1 : Grows A B d1) (h2 : Grows B C d2) : Grows A C (d1 ++ d2) :=
  ⟨by rw [h2.nodes, h1.nodes]; simp, by rw [h2.lines, h1.lines]; simp, by rw [h2.io, h1.io]; simp, by rw [h2.ioB, h1.ioB]; simp,
   by rw [h2.cc, h1.cc]; simp [Nat.add_assoc]⟩

theorem of_eq (h : Grows A B d1) (e : d1 = d2) : Grows A B d2 := e ▸ h

theorem sub (h : Grows A B d) : Sub A B :=
  ⟨fun l hl => by rw [h.lines]; exact List.mem_append_left _ hl, fun n hn => by rw [h.nodes]; exact List.mem_append_left _ hn⟩

theorem mem_lines (h : Grows A B d) {l : LineM} (hl : l ∈ d.lines) : l ∈ B.lines := by rw [h.lines]; exact List.mem_append_right _ hl
theorem mem_nodes (h : Grows A B d) {n : NodeM} (hn : n ∈ d.nodes) : n ∈ B.nodes := by rw [h.nodes]; exact List.mem_append_right _ hn

theorem isFork (h : Grows A B d) (q : String) :
    B.isFork q = (A.isFork q || d.nodes.any fun x => x.kind == forkKind && x.name == q) := by
  unfold Circ.isFork; rw [h.nodes, List.any_append]

end Grows

section prims
variable (C : Circ)
theorem grows_addFork (n : String) (b : Bool) : Grows C (C.addFork n b) { nodes := [⟨forkKind, n, b⟩] } := ⟨rfl, by simp, by simp, by simp, rfl⟩
theorem grows_addCell (k n : String) : Grows C (C.addCell k n) { nodes := [⟨k, n, false⟩] } := ⟨rfl, by simp, by simp, by simp, rfl⟩
theorem grows_addLine (d r : Ep) (v : Option String) : Grows C (C.addLine d r v) { lines := [⟨d, r, v⟩] } := ⟨by simp, rfl, by simp, by simp, rfl⟩
theorem grows_addLines (ls : List LineM) : Grows C (C.addLines ls) { lines := ls } := ⟨by simp, rfl, by simp, by simp, rfl⟩
theorem grows_incCC : Grows C C.incCC { cc := 1 } := ⟨by simp, by simp, by simp, by simp [Circ.incCC], rfl⟩
theorem grows_pushIo (k : Nat) (n : String) : Grows C (C.pushIo k n) { io := [(k, n)] } := ⟨by simp, by simp, rfl, by simp [Circ.pushIo], rfl⟩
theorem grows_pushIoB (ns : List String) : Grows C (C.pushIoB ns) { ioB := ns } := ⟨by simp, by simp, by simp [Circ.pushIoB], rfl, rfl⟩
theorem grows_failIf (b : Bool) : Grows C (C.failIf b) {} := ⟨by simp, by simp, by simp, by simp, rfl⟩
theorem grows_fail : Grows C C.fail {} := ⟨by simp, by simp, by simp, by simp, rfl⟩
end prims

/-- the delta of a fold: the deltas of its steps, each computed in the circuit reached so far, concatenated -/
def Delta.walk {α} (step : Circ → α → Circ) (δ : Circ → α → Delta) : Circ → List α → Delta
  | _, [] => {}
  | C, x :: r => δ C x ++ Delta.walk step δ (step C x) r

theorem Grows.foldl {α} {step : Circ → α → Circ} {δ : Circ → α → Delta} (h : ∀ C x, Grows C (step C x) (δ C x)) (l : List α) (C : Circ) :
    Grows C (l.foldl step C) (Delta.walk step δ C l) := by
  induction l generalizing C with
  | nil => exact Grows.refl C
  | cons x xs ih => exact (h C x).trans (ih _)

theorem Delta.walk_all {α} (P : Delta → Prop) (h0 : P {}) (happ : ∀ a b, P a → P b → P (a ++ b)) {step : Circ → α → Circ}
    {δ : Circ → α → Delta} (l : List α) (hs : ∀ C, ∀ x ∈ l, P (δ C x)) (C : Circ) : P (Delta.walk step δ C l) := by
  induction l generalizing C with
  | nil => exact h0
  | cons x xs ih => exact happ _ _ (hs C x List.mem_cons_self) (ih (fun C y hy => hs C y (List.mem_cons_of_mem _ hy)) _)

theorem Delta.walk_proj {α β} (p : Delta → List β) (h0 : p {} = []) (happ : ∀ a b, p (a ++ b) = p a ++ p b) {step : Circ → α → Circ}
    {δ : Circ → α → Delta} (f : α → List β) (l : List α) (hs : ∀ C, ∀ x ∈ l, p (δ C x) = f x) (C : Circ) :
    p (Delta.walk step δ C l) = l.flatMap f := by
  induction l generalizing C with
  | nil => exact h0
  | cons x xs ih =>
    rw [Delta.walk, happ, hs C x List.mem_cons_self, ih (fun C y hy => hs C y (List.mem_cons_of_mem _ hy)), List.flatMap_cons]

/-- what the passes before pass 2 append: cells, plain forks, lines into forks -/
def Delta.early (d : Delta) : Prop :=
  (∀ n ∈ d.nodes, n.branch = false) ∧ (∀ l ∈ d.lines, l.via = none ∧ ∃ f, l.r = .fork f)

theorem Delta.early_append {a b : Delta} (ha : a.early) (hb : b.early) : (a ++ b).early :=
  ⟨fun n hn => (List.mem_append.mp hn).elim (ha.1 n) (hb.1 n), fun l hl => (List.mem_append.mp hl).elim (ha.2 l) (hb.2 l)⟩

theorem Delta.walk_early {α} {step : Circ → α → Circ} {δ : Circ → α → Delta} (l : List α) (hs : ∀ C x, (δ C x).early) (C : Circ) :
    (Delta.walk step δ C l).early :=
  Delta.walk_all Delta.early ⟨nofun, nofun⟩ (fun _ _ => Delta.early_append) l (fun C x _ => hs C x) C

theorem Delta.walk_io {α} {step : Circ → α → Circ} {δ : Circ → α → Delta} (l : List α) (hs : ∀ C x, (δ C x).io = []) (C : Circ) :
    (Delta.walk step δ C l).io = [] :=
  Delta.walk_all (fun d => d.io = []) rfl (fun a b ha hb => by simp [ha, hb]) l (fun C x _ => hs C x) C

theorem Delta.walk_cc {α} {step : Circ → α → Circ} {δ : Circ → α → Delta} (l : List α) (hs : ∀ C x, (δ C x).cc = 0) (C : Circ) :
    (Delta.walk step δ C l).cc = 0 :=
  Delta.walk_all (fun d => d.cc = 0) rfl (fun a b ha hb => by simp [ha, hb]) l (fun C x _ => hs C x) C

def forkN (f : String) : NodeM := ⟨forkKind, f, false⟩
def branchN (b : String) : NodeM := ⟨forkKind, b, true⟩

/-- pass 1, one pin: an output-pin connection (`p1Out`: pin index, driven signal) gets its fork and the line from the cell -/
def pass1PinΔ (tl : TL) (ds : List Decl) (ty inst : String) (ps : String × SelVal) : Delta :=
  { nodes := (p1Out tl ds ty ps).toList.map fun o => forkN o.2,
    lines := (p1Out tl ds ty ps).toList.map fun o => ⟨.cell inst o.1, .fork o.2, none⟩ }

theorem pass1Pin_grows (tl : TL) (ds : List Decl) (ty inst : String) (C : Circ) (ps : String × SelVal) :
    Grows C (pass1Pin tl ds ty inst C ps) (pass1PinΔ tl ds ty inst ps) := by
  unfold pass1Pin pass1PinΔ p1Out
  cases h : tl ty ps.1 with
  | none => exact grows_fail C
  | some v =>
    obtain ⟨idx, o⟩ := v
    cases o with
    | false => exact Grows.refl C
    | true =>
      cases ps.2 with
      | many _ => exact grows_fail C
      | one s => exact (((grows_addFork C _ _).trans (grows_addLine _ _ _ _)).trans (grows_failIf _ _)).of_eq rfl

def pass1StmtΔ (tl : TL) (ds : List Decl) (C : Circ) : Stmt → Delta
  | .inst ty nm pins =>
    { nodes := [⟨ty, nm, false⟩] } ++ Delta.walk (pass1Pin tl ds ty nm) (fun _ => pass1PinΔ tl ds ty nm) (C.addCell ty nm) pins
  | _ => {}

theorem pass1Stmt_grows (tl : TL) (ds : List Decl) (C : Circ) (s : Stmt) : Grows C (pass1Stmt tl ds C s) (pass1StmtΔ tl ds C s) := by
  cases s with
  | inst ty nm pins => exact (grows_addCell C ty nm).trans (Grows.foldl (pass1Pin_grows tl ds ty nm) pins _)
  | decls _ => exact Grows.refl C
  | assign _ _ => exact Grows.refl C
  | other => exact Grows.refl C

theorem pass1StmtΔ_shape (tl : TL) (ds : List Decl) (C : Circ) (s : Stmt) :
    (pass1StmtΔ tl ds C s).early ∧ (pass1StmtΔ tl ds C s).io = [] ∧ (pass1StmtΔ tl ds C s).cc = 0 := by
  cases s with
  | inst ty nm pins =>
    have hp : ∀ ps, (pass1PinΔ tl ds ty nm ps).early := fun ps => by
      unfold pass1PinΔ; cases p1Out tl ds ty ps <;> simp [Delta.early, forkN]
    have hio := Delta.walk_io (step := pass1Pin tl ds ty nm) (δ := fun _ => pass1PinΔ tl ds ty nm) pins (fun _ _ => rfl) (C.addCell ty nm)
    have hcc := Delta.walk_cc (step := pass1Pin tl ds ty nm) (δ := fun _ => pass1PinΔ tl ds ty nm) pins (fun _ _ => rfl) (C.addCell ty nm)
    exact ⟨Delta.early_append (by simp [Delta.early]) (Delta.walk_early pins (fun _ => hp) _), by simp [pass1StmtΔ, hio],
      by simp [pass1StmtΔ, hcc]⟩
  | decls _ => exact ⟨⟨nofun, nofun⟩, rfl, rfl⟩
  | assign _ _ => exact ⟨⟨nofun, nofun⟩, rfl, rfl⟩
  | other => exact ⟨⟨nofun, nofun⟩, rfl, rfl⟩

/-- `if name in positions: c.io_nodes[positions[name]] = n` -/
def ioOfName (pn : List String) (n : String) : List (Nat × String) :=
  match posOf pn n with
  | some k => [(k, n)]
  | none => []

theorem ioStep_grows (pn : List String) (C : Circ) (n : String) : Grows C (ioStep pn C n) { io := ioOfName pn n } := by
  unfold ioStep ioOfName
  cases posOf pn n with
  | none => exact Grows.refl C
  | some k => exact grows_pushIo C k n

/-- one port bit: its cell, its `io_nodes` entry, and for an input the fork it drives -/
def portNameΔ (pn : List String) (kind : DKind) (n : String) : Delta :=
  { nodes := ⟨kind.str, n, false⟩ :: (if kind == .input then [forkN n] else []),
    lines := if kind == .input then [⟨.cell n 0, .fork n, none⟩] else [],
    io := ioOfName pn n }

theorem portName_grows (pn : List String) (kind : DKind) (C : Circ) (n : String) :
    Grows C (portName pn kind C n) (portNameΔ pn kind n) := by
  unfold portName portNameΔ
  split
  · exact ((((grows_addCell C _ _).trans (ioStep_grows pn _ n)).trans (grows_addFork _ _ _)).trans (grows_addLine _ _ _ _)).of_eq
      (by apply Delta.ext <;> simp [forkN])
  · exact ((grows_addCell C _ _).trans (ioStep_grows pn _ n)).of_eq (by apply Delta.ext <;> simp)

def portDeclΔ (pn : List String) (C : Circ) (d : Decl) : Delta :=
  if d.kind == .wire then {} else Delta.walk (portName pn d.kind) (fun _ => portNameΔ pn d.kind) C d.names

theorem portDecl_grows (pn : List String) (C : Circ) (d : Decl) : Grows C (portDecl pn C d) (portDeclΔ pn C d) := by
  unfold portDecl portDeclΔ
  split
  · exact Grows.refl C
  · exact Grows.foldl (portName_grows pn d.kind) d.names C

theorem portDeclΔ_shape (pn : List String) (C : Circ) (d : Decl) : (portDeclΔ pn C d).early ∧ (portDeclΔ pn C d).cc = 0 := by
  unfold portDeclΔ
  split
  · exact ⟨⟨nofun, nofun⟩, rfl⟩
  · exact ⟨Delta.walk_early _ (fun _ n => by unfold portNameΔ; split <;> simp [Delta.early, forkN]) _, Delta.walk_cc _ (fun _ _ => rfl) _⟩

/-- pass 1.5, one visit of a (target, source) pair: the `if / elif / elif` chain -/
def assignStepΔ (C : Circ) (ts : String × String) : Delta :=
  if C.isFork ts.1 then { nodes := [forkN ts.2], lines := [⟨.fork ts.1, .fork ts.2, none⟩] }
  else if C.isFork ts.2 then { nodes := [forkN ts.1], lines := [⟨.fork ts.2, .fork ts.1, none⟩] }
  else if isConstBit ts.2 then
    { nodes := [⟨constKind ts.2, constName ts.2 C.cc, false⟩, forkN ts.1], lines := [⟨.cell (constName ts.2 C.cc) 0, .fork ts.1, none⟩], cc := 1 }
  else {}

theorem assignStep_grows (C : Circ) (ts : String × String) : Grows C (assignStep C ts) (assignStepΔ C ts) := by
  unfold assignStep assignStepΔ
  split
  · exact (((grows_failIf C _).trans (grows_addFork _ _ _)).trans (grows_addLine _ _ _ _)).of_eq rfl
  · split
    · exact ((grows_addFork C _ _).trans (grows_addLine _ _ _ _)).of_eq rfl
    · split
      · exact ((((grows_addCell C _ _).trans (grows_incCC _)).trans (grows_addFork _ _ _)).trans (grows_addLine _ _ _ _)).of_eq rfl
      · exact Grows.refl C

theorem assignStepΔ_shape (C : Circ) (ts : String × String) : (assignStepΔ C ts).early ∧ (assignStepΔ C ts).io = [] := by
  unfold assignStepΔ
  split
  · simp [Delta.early, forkN]
  · split
    · simp [Delta.early, forkN]
    · split
      · simp [Delta.early, forkN]
      · exact ⟨⟨nofun, nofun⟩, rfl⟩

theorem roundFold_steps (pairs : List (String × String)) (acc : Circ × List (String × String)) :
    ∃ l : List (String × String), (pairs.foldl roundStep acc).1 = l.foldl assignStep acc.1 := by
  induction pairs generalizing acc with
  | nil => exact ⟨[], rfl⟩
  | cons ts rest ih =>
    obtain ⟨l, hl⟩ := ih (roundStep acc ts)
    rw [List.foldl_cons, hl]
    unfold roundStep
    split
    · exact ⟨ts :: l, rfl⟩
    · exact ⟨l, rfl⟩

theorem assignFix_steps (fuel : Nat) (C : Circ) (pairs : List (String × String)) :
    ∃ l : List (String × String), (assignFix fuel C pairs).1 = l.foldl assignStep C := by
  induction fuel generalizing C pairs with
  | zero => exact ⟨[], rfl⟩
  | succ f ih =>
    unfold assignFix
    split
    · exact ⟨[], rfl⟩
    · split
      · exact roundFold_steps pairs (C, [])
      · obtain ⟨l1, h1⟩ := roundFold_steps pairs (C, [])
        obtain ⟨l2, h2⟩ := ih (assignRound C pairs).1 (assignRound C pairs).2
        exact ⟨l1 ++ l2, by rw [h2, List.foldl_append]; congr 1⟩

theorem pass15_steps (cfg : Cfg) (C : Circ) (pairs : List (String × String)) :
    ∃ l : List (String × String), pass15 cfg C pairs = l.foldl assignStep C := by
  unfold pass15
  split
  · exact assignFix_steps _ _ _
  · exact ⟨pairs, rfl⟩

theorem sub_steps {C C' : Circ} (h : ∃ l : List (String × String), C' = l.foldl assignStep C) : Sub C C' := by
  obtain ⟨l, rfl⟩ := h; exact (Grows.foldl assignStep_grows l C).sub

/-- pass 2, the constant part: a constant pin gets a cell and a fork of its own -/
def constPinΔ (C : Circ) (s : String) : Delta :=
  if isConstBit s then
    { nodes := [⟨constKind s, constName s C.cc, false⟩, forkN (constName s C.cc)],
      lines := [⟨.cell (constName s C.cc) 0, .fork (constName s C.cc), none⟩], cc := 1 }
  else {}

theorem constPin_grows (C : Circ) (s : String) : Grows C (constPin C s).1 (constPinΔ C s) := by
  unfold constPin constPinΔ
  split
  · exact ((((grows_addCell C _ _).trans (grows_incCC _)).trans (grows_addFork _ _ _)).trans (grows_addLine _ _ _ _)).of_eq rfl
  · exact Grows.refl C

/-- `Node(c, s)  # generate fork here` -/
def forkForΔ (cfg : Cfg) (ds : List Decl) (C : Circ) (s : String) : Delta :=
  if (resolveRead cfg ds C s).2 then { nodes := [forkN (resolveRead cfg ds C s).1] } else {}

theorem forkFor_grows (cfg : Cfg) (ds : List Decl) (C : Circ) (s : String) : Grows C (forkFor cfg ds C s) (forkForΔ cfg ds C s) := by
  unfold forkFor forkForΔ
  split
  · exact grows_addFork C _ _
  · exact Grows.refl C

/-- the line into the pin, through a branch fork when `branchforks` is set -/
def connΔ (bf : Bool) (inst pin : String) (idx : Nat) (f : String) : Delta :=
  { nodes := if bf then [branchN (branchName f inst pin)] else [],
    lines := [⟨.fork f, .cell inst idx, if bf then some (branchName f inst pin) else none⟩] }

theorem connectPin_grows (bf : Bool) (inst pin : String) (idx : Nat) (C : Circ) (f : String) :
    Grows C (connectPin bf inst pin idx C f) (connΔ bf inst pin idx f) := by
  unfold connectPin connΔ
  cases bf
  · exact grows_addLine C _ _ _
  · exact ((grows_addFork C _ _).trans (grows_addLine _ _ _ _)).of_eq rfl

/-- everything one connected input pin appends: constant cell and fork, a new undriven fork when nothing is found, the line -/
def readerOneΔ (cfg : Cfg) (ds : List Decl) (inst pin : String) (idx : Nat) (C : Circ) (s0 : String) : Delta :=
  constPinΔ C s0 ++ forkForΔ cfg ds (constPin C s0).1 (constPin C s0).2 ++
    connΔ cfg.bf inst pin idx (resolveRead cfg ds (constPin C s0).1 (constPin C s0).2).1

theorem readerOne_grows (cfg : Cfg) (ds : List Decl) (inst pin : String) (idx : Nat) (C : Circ) (s0 : String) :
    Grows C (readerOne cfg ds inst pin idx C s0) (readerOneΔ cfg ds inst pin idx C s0) :=
  ((constPin_grows C s0).trans (forkFor_grows cfg ds _ _)).trans (connectPin_grows cfg.bf inst pin idx _ _)

/-- pass 2, one pin: an input-pin connection (`p2In`: pin name, pin index, signal read) is connected; anything else is skipped or raises -/
def readerPinΔ (cfg : Cfg) (tl : TL) (ds : List Decl) (ty inst : String) (C : Circ) (ps : String × SelVal) : Delta :=
  match p2In tl ty ps with
  | some c => readerOneΔ cfg ds inst c.1 c.2.1 C c.2.2
  | none => {}

theorem readerPin_grows (cfg : Cfg) (tl : TL) (ds : List Decl) (ty inst : String) (C : Circ) (ps : String × SelVal) :
    Grows C (readerPin cfg tl ds ty inst C ps) (readerPinΔ cfg tl ds ty inst C ps) := by
  unfold readerPin readerPinΔ p2In
  cases h : tl ty ps.1 with
  | none => exact grows_fail C
  | some v =>
    obtain ⟨idx, o⟩ := v
    cases o with
    | true => cases ps.2 <;> exact Grows.refl C
    | false =>
      cases ps.2 with
      | many _ => exact grows_fail C
      | one s0 => exact readerOne_grows cfg ds inst ps.1 idx C s0

def pass2StmtΔ (cfg : Cfg) (tl : TL) (ds : List Decl) (C : Circ) : Stmt → Delta
  | .inst ty nm pins => Delta.walk (readerPin cfg tl ds ty nm) (readerPinΔ cfg tl ds ty nm) C pins
  | _ => {}

theorem pass2Stmt_grows (cfg : Cfg) (tl : TL) (ds : List Decl) (C : Circ) (s : Stmt) :
    Grows C (pass2Stmt cfg tl ds C s) (pass2StmtΔ cfg tl ds C s) := by
  cases s with
  | inst ty nm pins => exact Grows.foldl (readerPin_grows cfg tl ds ty nm) pins C
  | decls _ => exact Grows.refl C
  | assign _ _ => exact Grows.refl C
  | other => exact Grows.refl C

/-- the line from the fork of an output port bit (or of its bit 0) to the port cell -/
def outNameΔ (C : Circ) (n : String) : Delta :=
  if C.isFork n then { lines := [⟨.fork n, .cell n 0, none⟩] }
  else if C.isFork (n ++ "[0]") then { lines := [⟨.fork (n ++ "[0]"), .cell (n ++ "[0]") 0, none⟩] }
  else {}

theorem outName_grows (C : Circ) (n : String) : Grows C (outName C n) (outNameΔ C n) := by
  unfold outName outNameΔ
  split
  · exact grows_addLine C _ _ _
  · split
    · exact ((grows_addLine C _ _ _).trans (grows_failIf _ _)).of_eq rfl
    · exact Grows.refl C

def outDeclΔ (C : Circ) (d : Decl) : Delta := if d.kind == .output then Delta.walk outName outNameΔ C d.names else {}

theorem outDecl_grows (C : Circ) (d : Decl) : Grows C (outDecl C d) (outDeclΔ C d) := by
  unfold outDecl outDeclΔ
  split
  · exact Grows.foldl outName_grows _ _
  · exact Grows.refl C

theorem afterPass1_grows (tl : TL) (ports : List String) (stmts : List Stmt) :
    Grows { err := !portsDeclared (sigDecls stmts) ports } (afterPass1 tl ports stmts)
      (Delta.walk (pass1Stmt tl (sigDecls stmts)) (pass1StmtΔ tl (sigDecls stmts)) { err := !portsDeclared (sigDecls stmts) ports } stmts ++
        Delta.walk (portDecl (posNames (sigDecls stmts) ports)) (portDeclΔ (posNames (sigDecls stmts) ports))
          (stmts.foldl (pass1Stmt tl (sigDecls stmts)) { err := !portsDeclared (sigDecls stmts) ports }) (sigDecls stmts)) :=
  (Grows.foldl (pass1Stmt_grows tl _) stmts _).trans (Grows.foldl (portDecl_grows _) _ _)

theorem cc_afterPass1 (tl : TL) (ports : List String) (stmts : List Stmt) : (afterPass1 tl ports stmts).cc = 0 := by
  rw [(afterPass1_grows tl ports stmts).cc, Delta.app_cc, Delta.walk_cc _ (fun C s => (pass1StmtΔ_shape tl _ C s).2.2),
    Delta.walk_cc _ (fun C d => (portDeclΔ_shape _ C d).2)]

theorem afterPass15_early (cfg : Cfg) (tl : TL) (ports : List String) (stmts : List Stmt) :
    (∃ d, Grows { err := !portsDeclared (sigDecls stmts) ports } (afterPass15 cfg tl ports stmts) d ∧ d.early) ∧
    (afterPass15 cfg tl ports stmts).io = (afterPass1 tl ports stmts).io := by
  obtain ⟨l, hl⟩ := pass15_steps cfg (afterPass1 tl ports stmts) (assignPairs (sigDecls stmts) stmts)
  have g := Grows.foldl assignStep_grows l (afterPass1 tl ports stmts)
  unfold afterPass15
  rw [hl]
  refine ⟨⟨_, (afterPass1_grows tl ports stmts).trans g, Delta.early_append (Delta.early_append ?_ ?_) ?_⟩, ?_⟩
  · exact Delta.walk_early _ (fun C s => (pass1StmtΔ_shape tl _ C s).1) _
  · exact Delta.walk_early _ (fun C d => (portDeclΔ_shape _ C d).1) _
  · exact Delta.walk_early _ (fun C ts => (assignStepΔ_shape C ts).1) _
  · rw [g.io, Delta.walk_io _ (fun C ts => (assignStepΔ_shape C ts).2), List.append_nil]

theorem sub_after2_module (cfg : Cfg) (tl : TL) (ports : List String) (stmts : List Stmt) :
    Sub (afterPass2 cfg tl ports stmts) (module cfg tl ports stmts) := (Grows.foldl outDecl_grows _ _).sub

theorem sub_after15_module (cfg : Cfg) (tl : TL) (ports : List String) (stmts : List Stmt) :
    Sub (afterPass15 cfg tl ports stmts) (module cfg tl ports stmts) :=
  (Grows.foldl (pass2Stmt_grows cfg tl _) stmts _).sub.trans (sub_after2_module cfg tl ports stmts)

theorem sub_after1_module (cfg : Cfg) (tl : TL) (ports : List String) (stmts : List Stmt) :
    Sub (afterPass1 tl ports stmts) (module cfg tl ports stmts) :=
  (sub_steps (pass15_steps cfg _ _)).trans (sub_after15_module cfg tl ports stmts)

end KV.Netlist
