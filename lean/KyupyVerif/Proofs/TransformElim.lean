import KyupyVerif.Proofs.Transform
import KyupyVerif.Proofs.SwapLast
import KyupyVerif.Proofs.LineEqN
/-! C10, `eliminate_1to1_forks` (model `elimOne` / `elimForksIn`): the loop keeps the port names and their order and, up to order, the
nodes of every non-fork class (`elimForksIn_obs`).  The means, shared with the files that follow: the one case analysis of the loop
body (`elimSkel`, `elimOne_split`), the notion "only pins re-wired" (`PinsOnly`; an iteration is that followed by `Node.remove()`),
induction over the loop (`elimForksIn_induct`, an instance of `foldlM_inv`), and the local semantic fact behind the splice
(`fork_passes`: under a consistent labelling the out-line of a 1:1 fork carries the value of its in-line). -/
namespace KV.Transform
open KV
variable {skip : Bool}

def kindAt (ns : Array NodeD) (j : Nat) : String := (ns.getD j default).kind

/-! `PinsOnly a b`: `b` is `a` with only pins re-wired, i.e. same node count and kinds (`PinsOnlyN`) and same port list -/

def PinsOnlyN (a b : Array NodeD) : Prop := b.size = a.size ∧ ∀ j, kindAt b j = kindAt a j
def PinsOnly (a b : Net) : Prop := PinsOnlyN a.nodes b.nodes ∧ b.io = a.io

theorem PinsOnlyN.trans {a b c : Array NodeD} (h1 : PinsOnlyN a b) (h2 : PinsOnlyN b c) : PinsOnlyN a c :=
  ⟨h2.1.trans h1.1, fun j => (h2.2 j).trans (h1.2 j)⟩
theorem PinsOnly.refl (a : Net) : PinsOnly a a := ⟨⟨rfl, fun _ => rfl⟩, rfl⟩
theorem PinsOnly.trans {a b c : Net} (h1 : PinsOnly a b) (h2 : PinsOnly b c) : PinsOnly a c :=
  ⟨h1.1.trans h2.1, h2.2.trans h1.2⟩

theorem pinsOnlyN_modify (ns : Array NodeD) (k : Nat) (f : NodeD → NodeD) (hf : ∀ n, (f n).kind = n.kind) :
    PinsOnlyN ns (ns.modify k f) := ⟨by simp, fun j => by
      unfold kindAt; rw [getD_modify]; split
      · exact hf _
      · rfl⟩
theorem pinsOnlyN_map (ns : Array NodeD) (f : NodeD → NodeD) (hf : ∀ n, (f n).kind = n.kind) :
    PinsOnlyN ns (ns.map f) := ⟨by simp, fun j => by
      simp only [kindAt, Array.getD_eq_getD_getElem?, Array.getElem?_map]
      cases ns[j]? <;> simp [hf]⟩

theorem pinsOnly_delLine (net : Net) (b : Nat) : PinsOnly net (delLine net b) :=
  ⟨pinsOnlyN_map _ _ (fun _ => rfl), rfl⟩

/-- the splice of `elimOne` before its last step, the deletion of fork `i` (`n.remove()`) -/
def spliceMid (nn : NNet) (i a b : Nat) : NNet :=
  let R := (nn.net.line b).reader
  let P := (nn.net.line b).rpin
  let nodes := nn.net.nodes.modify i fun n => { n with outs := [] }
  let nodes := nodes.modify R fun n => { n with ins := growSet n.ins P none }
  let net := delLine { nn.net with nodes := nodes } b
  let a' := if a == nn.net.lines.size - 1 then b else a
  let lines := net.lines.modify a' fun ln => { ln with reader := R, rpin := P }
  let nodes := net.nodes.modify R fun n => { n with ins := growSet n.ins P (some a') }
  { nn with net := { net with nodes := nodes, lines := lines } }

def splice (nn : NNet) (i a b : Nat) : NNet := delNode (spliceMid nn i a b) i

/-- the decision of one loop iteration with its outcomes left open: `keep` (nothing happens) and `F a b` (fork `i` with in-line `a` and
    out-line `b` is spliced out). `elimOne` and `elimOneM` are this skeleton at two pairs of leaves (by `rfl`), so the
    case analysis is done on small terms, once -/
def elimSkel {β : Type} (skip : Bool) (nn : NNet) (i : Nat) (keep : β) (F : Nat → Nat → Option β) : Option β :=
  if nn.net.io.contains i then some keep
  else if (nn.net.node i).outs.length != 1 then some keep
  else match (nn.net.node i).ins.head?, (nn.net.node i).outs.head? with
    | some (some a), some (some b) => if a == b then none else F a b
    | some (some _), _ => none
    | _, _ => if skip then some keep else none

/-- which outcome it is does not depend on the leaves: two instances take the same one -/
theorem elimSkel_split {β γ : Type} (nn : NNet) (i : Nat) (k : β) (F : Nat → Nat → Option β) (k' : γ) (F' : Nat → Nat → Option γ) :
    (elimSkel skip nn i k F = none ∧ elimSkel skip nn i k' F' = none) ∨
    (elimSkel skip nn i k F = some k ∧ elimSkel skip nn i k' F' = some k') ∨
    ∃ a b, nn.net.io.contains i = false ∧ (nn.net.node i).outs.length = 1 ∧ (nn.net.node i).ins.head? = some (some a) ∧
      (nn.net.node i).outs.head? = some (some b) ∧ a ≠ b ∧ elimSkel skip nn i k F = F a b ∧ elimSkel skip nn i k' F' = F' a b := by
  unfold elimSkel
  split
  · exact .inr (.inl ⟨rfl, rfl⟩)
  · rename_i hio
    split
    · exact .inr (.inl ⟨rfl, rfl⟩)
    · rename_i hlen
      split
      · rename_i a b hin hout
        split
        · exact .inl ⟨rfl, rfl⟩
        · rename_i hab
          exact .inr (.inr ⟨a, b, by simpa using hio, by simpa using hlen, hin, hout, by simpa using hab, rfl, rfl⟩)
      · exact .inl ⟨rfl, rfl⟩
      · cases skip
        · exact .inl ⟨rfl, rfl⟩
        · exact .inr (.inl ⟨rfl, rfl⟩)

theorem elimOne_split (nn : NNet) (i : Nat) :
    (elimOne skip nn i = none ∧ elimOneM skip nn i = none) ∨
    (elimOne skip nn i = some nn ∧ elimOneM skip nn i = some (nn, Ren.id)) ∨
    ∃ a b, nn.net.io.contains i = false ∧ (nn.net.node i).outs.length = 1 ∧ (nn.net.node i).ins.head? = some (some a) ∧
      (nn.net.node i).outs.head? = some (some b) ∧ a ≠ b ∧
      elimOne skip nn i = some (splice nn i a b) ∧ elimOneM skip nn i = some (splice nn i a b, stepRen nn i b) := by
  rcases elimSkel_split (skip := skip) nn i nn (fun a b => some (splice nn i a b)) (nn, Ren.id)
    (fun _ b => (elimOne skip nn i).map fun r => (r, stepRen nn i b)) with h | h | ⟨a, b, h1, h2, h3, h4, h5, e, e'⟩
  · exact .inl h
  · exact .inr (.inl h)
  · exact .inr (.inr ⟨a, b, h1, h2, h3, h4, h5, e, e'.trans (congrArg (Option.map _) e)⟩)

theorem elimOne_shape (nn nn' : NNet) (i : Nat) (h : elimOne skip nn i = some nn') :
    nn' = nn ∨ (nn.net.io.contains i = false ∧ ∃ mid : NNet, nn' = delNode mid i ∧ mid.names = nn.names ∧ PinsOnly nn.net mid.net) := by
  rcases elimOne_split (skip := skip) nn i with ⟨e, _⟩ | ⟨e, _⟩ | ⟨a, b, hio, _, _, _, _, e, _⟩
  · rw [e] at h; exact absurd h (by simp)
  · rw [e] at h; exact .inl (Option.some.inj h).symm
  · rw [e] at h
    refine .inr ⟨hio, spliceMid nn i a b, (Option.some.inj h).symm, rfl, ?_, rfl⟩
    simp only [spliceMid, delLine]
    refine .trans ?_ (pinsOnlyN_modify _ _ _ fun _ => rfl)
    refine .trans ?_ (pinsOnlyN_map _ _ fun _ => rfl)
    refine .trans ?_ (pinsOnlyN_modify _ _ _ fun _ => rfl)
    exact pinsOnlyN_modify _ _ _ fun _ => rfl

theorem elimOneM_cases (nn nn' : NNet) (r : Ren) (i : Nat) (h : elimOneM skip nn i = some (nn', r)) :
    (nn' = nn ∧ r = Ren.id) ∨
    ∃ a b, nn.net.io.contains i = false ∧ (nn.net.node i).outs.length = 1 ∧ (nn.net.node i).ins.head? = some (some a) ∧
      (nn.net.node i).outs.head? = some (some b) ∧ a ≠ b ∧ nn' = splice nn i a b ∧ r = stepRen nn i b := by
  rcases elimOne_split (skip := skip) nn i with ⟨_, e⟩ | ⟨_, e⟩ | ⟨a, b, hio, hlen, hin, hout, hab, _, e⟩
  · rw [e] at h; exact absurd h (by simp)
  · rw [e] at h; cases h; exact .inl ⟨rfl, rfl⟩
  · rw [e] at h; cases h; exact .inr ⟨a, b, hio, hlen, hin, hout, hab, rfl, rfl⟩

theorem elimOneM_fst (nn : NNet) (i : Nat) : (elimOneM skip nn i).map (·.1) = elimOne skip nn i := by
  rcases elimOne_split (skip := skip) nn i with ⟨e1, e2⟩ | ⟨e1, e2⟩ | ⟨_, _, _, _, _, _, _, e1, e2⟩ <;> rw [e1, e2] <;> rfl

/-- (loop invariant) what the observables need of well-formedness, kept by every iteration: one name per node, every port a node -/
def LI (nn : NNet) : Prop := nn.names.size = nn.net.nodes.size ∧ ∀ j ∈ nn.net.io, j < nn.net.nodes.size

theorem delNode_ioEq (nn : NNet) (i : Nat) : (delNode nn i).net.io = nn.net.io.map (mvN nn.net.nodes.size i) := by
  simp [delNode, mvN]

theorem delNode_names_getD (nn : NNet) (i x : Nat) (h : LI nn) (hi : i < nn.net.nodes.size) (hx : x < nn.net.nodes.size - 1) :
    (delNode nn i).names.getD x "" = nn.names.getD (nmN nn.net.nodes.size i x) "" := by
  have := getD_swapPop nn.names "" i x (by rw [h.1]; exact hi) (by rw [h.1]; exact hx)
  rw [h.1] at this
  exact this

theorem ne_of_contains_false {l : List Nat} {i j : Nat} (h : l.contains i = false) (hj : j ∈ l) : j ≠ i :=
  fun e => by rw [e, ← List.contains_iff_mem, h] at hj; cases hj

/-- idea: the two index lists, `nmN n i` over `range (n - 1)` and `range n` without `i`, are duplicate-free with the same members
    (`nm_facts`, `mv_facts`) -/
theorem swapPop_perm_eraseIdx {α} (g : Nat → α) (n i : Nat) (hi : i < n) :
    ((List.range (n - 1)).map fun j => g (nmN n i j)).Perm (((List.range n).map g).eraseIdx i) := by
  have hp : ((List.range (n - 1)).map (nmN n i)).Perm ((List.range n).eraseIdx i) := by
    refine (List.perm_ext_iff_of_nodup ?_ (List.nodup_range.eraseIdx i)).mpr fun x => ?_
    · refine nodup_map_of_inj _ (fun a ha b hb e => ?_) List.nodup_range
      rw [← (nm_facts hi (List.mem_range.mp ha)).2.2, e, (nm_facts hi (List.mem_range.mp hb)).2.2]
    · simp only [List.mem_map, List.mem_range, List.mem_eraseIdx_iff_getElem, List.getElem_range, List.length_range]
      constructor
      · rintro ⟨j, hj, rfl⟩
        exact ⟨_, (nm_facts hi hj).1, (nm_facts hi hj).2.1, rfl⟩
      · rintro ⟨x, hx, hne, rfl⟩
        exact ⟨_, (mv_facts hi hx hne).1, (mv_facts hi hx hne).2⟩
  have e : ((List.range n).eraseIdx i).map g = ((List.range n).map g).eraseIdx i := by
    rw [List.eraseIdx_eq_take_drop_succ, List.eraseIdx_eq_take_drop_succ, List.map_append, List.map_take, List.map_drop]
  rw [← e]
  simpa only [List.map_map, Function.comp_def] using hp.map g

theorem filter_eraseIdx_of_false {α} (p : α → Bool) (X : List α) (i : Nat) (hi : i < X.length) (hp : p X[i] = false) :
    (X.eraseIdx i).filter p = X.filter p := by
  have hX : X = X.take i ++ X[i] :: X.drop (i + 1) := by rw [List.getElem_cons_drop hi, List.take_append_drop]
  rw [List.eraseIdx_eq_take_drop_succ]
  conv => rhs; rw [hX]
  simp only [List.filter_append, List.filter_cons, hp, Bool.false_eq_true, if_false]

theorem delNode_kindAt (nn : NNet) (i x : Nat) (hi : i < nn.net.nodes.size) (hx : x < nn.net.nodes.size - 1) :
    kindAt (delNode nn i).net.nodes x = kindAt nn.net.nodes (nmN nn.net.nodes.size i x) :=
  congrArg NodeD.kind (getD_swapPop nn.net.nodes default i x hi hx)

theorem kindNames_eq (nn : NNet) : nn.kindNames =
    (List.range nn.net.nodes.size).map fun j => (kindAt nn.net.nodes j, nn.names.getD j "") := rfl

/-- the port list as records: (kind, name) of every port node, in order -/
def NNet.ioKN (nn : NNet) : List (String × String) := nn.net.io.map fun i => (kindAt nn.net.nodes i, nn.names.getD i "")

theorem ioNames_of_ioKN {a b : NNet} (h : b.ioKN = a.ioKN) : b.ioNames = a.ioNames := by
  have := congrArg (List.map (·.2)) h
  simpa only [NNet.ioKN, NNet.ioNames, List.map_map, Function.comp_def] using this

theorem obs_of_pinsOnly (a b : NNet) (hp : PinsOnly a.net b.net) (hn : b.names = a.names) :
    b.kindNames = a.kindNames ∧ b.ioKN = a.ioKN ∧ (LI a → LI b) := by
  refine ⟨?_, ?_, ?_⟩
  · rw [kindNames_eq, kindNames_eq, hp.1.1, hn]
    apply List.map_congr_left; intro j _; rw [hp.1.2 j]
  · simp only [NNet.ioKN, hp.2, hn]
    apply List.map_congr_left; intro j _; rw [hp.1.2 j]
  · intro li
    exact ⟨by rw [hn, hp.1.1]; exact li.1, by rw [hp.2, hp.1.1]; exact li.2⟩

theorem delNode_kindNames (nn : NNet) (i : Nat) (h : LI nn) (hi : i < nn.net.nodes.size) :
    (delNode nn i).kindNames = (List.range (nn.net.nodes.size - 1)).map fun j =>
      (kindAt nn.net.nodes (nmN nn.net.nodes.size i j), nn.names.getD (nmN nn.net.nodes.size i j) "") := by
  rw [kindNames_eq]
  have hs : (delNode nn i).net.nodes.size = nn.net.nodes.size - 1 := by simp [delNode]
  rw [hs]
  apply List.map_congr_left
  intro x hx
  have hx' := List.mem_range.mp hx
  rw [delNode_kindAt nn i x hi hx', delNode_names_getD nn i x h hi hx']

theorem delNode_obs (nn : NNet) (i : Nat) (li : LI nn) (hi : i < nn.net.nodes.size) (hio : nn.net.io.contains i = false) :
    LI (delNode nn i) ∧ (delNode nn i).ioKN = nn.ioKN ∧ (delNode nn i).kindNames.Perm (nn.kindNames.eraseIdx i) := by
  -- a port is not the deleted node; the port that was last is found at `i` with its kind and name
  have hmv := fun j hj => mv_facts hi (li.2 j hj) (ne_of_contains_false hio hj)
  refine ⟨⟨by simp [delNode, li.1], fun j hj => ?_⟩, ?_, ?_⟩
  · rw [delNode_ioEq] at hj
    obtain ⟨j0, hj0, e⟩ := List.mem_map.mp hj
    simp only [delNode, Array.size_pop, Array.size_setIfInBounds]
    rw [← e]; exact (hmv j0 hj0).1
  · simp only [NNet.ioKN]
    rw [delNode_ioEq, List.map_map]
    apply List.map_congr_left
    intro j hj
    simp only [Function.comp]
    rw [delNode_kindAt nn i _ hi (hmv j hj).1, delNode_names_getD nn i _ li hi (hmv j hj).1, (hmv j hj).2]
  · rw [delNode_kindNames nn i li hi, kindNames_eq nn]
    exact swapPop_perm_eraseIdx (fun j => (kindAt nn.net.nodes j, nn.names.getD j "")) nn.net.nodes.size i hi

theorem elimOne_erase (nn nn' : NNet) (i : Nat) (h : LI nn) (hi : i < nn.net.nodes.size) (he : elimOne skip nn i = some nn') :
    LI nn' ∧ nn'.ioNames = nn.ioNames ∧
    (nn' = nn ∨ (nn'.net.nodes.size + 1 = nn.net.nodes.size ∧ nn'.kindNames.Perm (nn.kindNames.eraseIdx i))) := by
  rcases elimOne_shape nn nn' i he with e | ⟨hio, mid, e, hn, hp⟩
  · subst e; exact ⟨h, rfl, Or.inl rfl⟩
  · obtain ⟨hkn, hkio, hli⟩ := obs_of_pinsOnly nn mid hp hn
    have hsz := hp.1.1
    have hd := delNode_obs mid i (hli h) (by rw [hsz]; exact hi) (by rw [hp.2]; exact hio)
    subst e
    exact ⟨hd.1, ioNames_of_ioKN (hd.2.1.trans hkio), Or.inr ⟨by simp [delNode]; omega, hkn ▸ hd.2.2⟩⟩

theorem elimOne_obs (nn nn' : NNet) (i : Nat) (h : LI nn) (hi : i < nn.net.nodes.size)
    (hf : (nn.net.node i).isFork = true) (he : elimOne skip nn i = some nn') :
    LI nn' ∧ nn'.ioNames = nn.ioNames ∧
    ∀ p : String × String → Bool, (∀ name, p ("__fork__", name) = false) →
      (nn'.kindNames.filter p).Perm (nn.kindNames.filter p) := by
  obtain ⟨hli, hio, hcase⟩ := elimOne_erase nn nn' i h hi he
  refine ⟨hli, hio, fun p hp => ?_⟩
  rcases hcase with e | ⟨_, hperm⟩
  · rw [e]
  · have hk : kindAt nn.net.nodes i = "__fork__" := by simpa [NodeD.isFork, kindAt, Net.node] using hf
    have := filter_eraseIdx_of_false p nn.kindNames i (by simpa [kindNames_eq] using hi) (by simp [kindNames_eq, hk, hp])
    rw [← this]; exact hperm.filter p

theorem lookup_isFork (nn : NNet) (name : String) (h : nn.lookup (name, true) < nn.net.nodes.size) :
    (nn.net.node (nn.lookup (name, true))).isFork = true := by
  have hl : nn.keys.idxOf (name, true) < nn.keys.length := by simpa [NNet.keys, NNet.lookup] using h
  have := List.getElem_idxOf hl
  simp only [NNet.keys, List.getElem_map, List.getElem_range, NNet.key] at this
  exact (Prod.mk.inj this).2

theorem elimForksIn_induct {P : NNet → NNet → Prop} (refl : ∀ nn, P nn nn)
    (step : ∀ {nn nn' i}, LI nn → i < nn.net.nodes.size → (nn.net.node i).isFork = true → elimOne skip nn i = some nn' → P nn nn')
    (trans : ∀ {a b c}, P a b → P b c → P a c) (order : List String) (nn nn' : NNet) (h : LI nn)
    (he : elimForksIn skip order nn = some nn') : P nn nn' := by
  refine (foldlM_inv _ (fun _ s => LI s ∧ P nn s) (fun _ s name s' hP hs => ?_) order [] nn nn' ⟨h, refl nn⟩ he).2
  dsimp only at hs
  split at hs
  · rename_i hlt
    have hf := lookup_isFork s name hlt
    exact ⟨(elimOne_obs s s' _ hP.1 hlt hf hs).1, trans hP.2 (step hP.1 hlt hf hs)⟩
  · cases hs
    exact hP

theorem elimForksIn_obs (order : List String) (nn nn' : NNet) (h : LI nn) (he : elimForksIn skip order nn = some nn') :
    LI nn' ∧ nn'.ioNames = nn.ioNames ∧
    ∀ p : String × String → Bool, (∀ name, p ("__fork__", name) = false) →
      (nn'.kindNames.filter p).Perm (nn.kindNames.filter p) :=
  elimForksIn_induct (skip := skip) (P := fun nn nn' => LI nn → LI nn' ∧ nn'.ioNames = nn.ioNames ∧
      ∀ p : String × String → Bool, (∀ name, p ("__fork__", name) = false) → (nn'.kindNames.filter p).Perm (nn.kindNames.filter p))
    (fun _ h => ⟨h, rfl, fun _ _ => List.Perm.refl _⟩) (fun _ hi hf he h => elimOne_obs _ _ _ h hi hf he)
    (fun h1 h2 h => by
      obtain ⟨l1, i1, p1⟩ := h1 h
      obtain ⟨l2, i2, p2⟩ := h2 l1
      exact ⟨l2, i2.trans i1, fun p hp => (p2 p hp).trans (p1 p hp)⟩) order nn nn' h he h

theorem lineEq_fork {α} (net : Net) (sp : Nat → Option Nat) (z : α) (neg : α → α) (prim : String → α → α → α → α → α)
    (a : Nat → α) (v : Nat → α) (b i a0 : Nat) (hb : (net.line b).driver = i) (hf : (net.node i).isFork = true)
    (hs : sp i = none) (hin : (net.node i).inPin 0 = some a0) : lineEq net sp z neg prim a v b = v a0 := by
  simp [lineEq, hb, hs, hf, hin]

theorem mem_sNodes (net : Net) (n : Nat) : n ∈ net.sNodes ↔
    n ∈ net.io ∨ (n < net.nodes.size ∧ (net.node n).isDff = true) ∨ (n < net.nodes.size ∧ (net.node n).isLatch = true) := by
  simp only [Net.sNodes, List.mem_append, List.mem_filter, List.mem_range, or_assoc]

theorem fork_not_sNode (net : Net) (i : Nat) (hio : net.io.contains i = false) (hf : (net.node i).isFork = true) :
    i ∉ net.sNodes := by
  have := (fork_not_seq hf).1
  simp only [NodeD.isSeq, Bool.or_eq_false_iff] at this
  rw [mem_sNodes]
  simp only [not_or]
  refine ⟨?_, ?_, ?_⟩
  · exact fun hc => ne_of_contains_false hio hc rfl
  · simp [this.1]
  · simp [this.2]

theorem sPosTable_none (net : Net) (i : Nat) (hi : i < net.nodes.size) (hio : net.io.contains i = false)
    (hf : (net.node i).isFork = true) : net.sPosTable.getD i none = none := by
  rw [sPosTable_getD net hi]
  have : ¬ List.idxOf i net.sNodes < net.sNodes.length := by
    rw [List.idxOf_eq_length (fork_not_sNode net i hio hf)]; omega
  simp [Net.sPos, sPosIn, this]

theorem head?_getD {l : List (Option Nat)} {x : Nat} (h : l.head? = some (some x)) : l.getD 0 none = some x := by
  cases l with
  | nil => simp at h
  | cons a r => simp at h; simp [h]

theorem fork_passes {α} [BEq α] [LawfulBEq α] (nn : NNet) (w : WF nn) (z : α) (neg : α → α) (prim : String → α → α → α → α → α)
    (asg : Nat → α) (v : Array α) (hc : consistentB nn.net z neg prim asg v = true)
    (i a0 b : Nat) (hi : i < nn.net.nodes.size) (hf : (nn.net.node i).isFork = true) (hio : nn.net.io.contains i = false)
    (hin : (nn.net.node i).ins.head? = some (some a0)) (hout : (nn.net.node i).outs.head? = some (some b)) :
    v.getD b z = v.getD a0 z := by
  obtain ⟨hbL, hdrv, _⟩ := w.fwdOut i hi 0 b (head?_getD hout)
  simp only [consistentB, List.all_eq_true, List.mem_range, beq_iff_eq] at hc
  rw [hc b hbL]
  exact lineEq_fork nn.net _ z neg prim asg _ b i a0 hdrv hf (sPosTable_none nn.net i hi hio hf)
    (by simpa [NodeD.inPin] using head?_getD hin)
end KV.Transform
