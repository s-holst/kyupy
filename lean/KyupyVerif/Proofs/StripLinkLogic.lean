import KyupyVerif.Proofs.StripLinkOps
import KyupyVerif.Proofs.StripProg
import KyupyVerif.Proofs.AllCirc
/-! Fork stripping of LogicSim on the netlist.  The un-stripped schedule of every well-formed netlist (in every topological order) is a
program with fork rows for the branch ↦ stem list of `SimOps` — certificate `stripOkB` — and the stripped schedule, with operands
resolved through the stems, is `stripOps` of it.  Hence, when `BUF1` returns its first operand, the stripped schedule (fork rows
dropped, operands resolved through the stems) and the un-stripped schedule agree on every signal that is not a branch, and a branch of
the un-stripped run carries what the stripped run leaves on its stem (`strip_sig_logic`: `Wave.strip_logic`, Proofs/StripProg.lean, on
the certificate `genOps_stripOk`; in one clause: `strip_sig_read`); `BUF1` in the three logics. -/
namespace KV
open KV.Sig KV.Wave

section
variable (tbl : List PrefixRow) {net : Net} {order : List Nat}
  (hwf : net.wfB = true) (ho : orderOKB net order = true) (hf : forksOKB net order = true)
include hwf ho hf

omit hf in
theorem branch_row_facts {n : Nat} (hn : n ∈ order) {r : OpRow}
    (hr : r ∈ nodeOpsS tbl net net.sNodes net.idx false n) {s : Nat}
    (hs : (stemsOf net true).getD r.out none = some s) :
    drivenFork net n = true ∧ r ∈ forkRows net net.idx n ∧
      ∃ l0, (net.node n).inPin 0 = some l0 ∧ s = stemWalk net net.nodes.size l0 := by
  obtain ⟨_, hlt, _⟩ := orderOK_spec ho
  rcases nodeOps_out tbl net net.sNodes net.idx false n r hr with ht | ⟨pin, hpin⟩
  · rw [stems_none_ge hwf (by rw [ht]; simp [Net.idx])] at hs; cases hs
  · cases hdf : drivenFork net n with
    | false => rw [stems_none_of_out hwf (hlt n hn) hdf hpin] at hs; cases hs
    | true =>
      rw [nodeOps_fork _ _ _ _ _ _ hdf] at hr
      simp only [Bool.false_eq_true, if_false] at hr
      obtain ⟨hfk, l0, hp⟩ := drivenFork_spec hdf
      refine ⟨rfl, hr, l0, hp, ?_⟩
      rw [stems_of_fork hwf (hlt n hn) hfk hp (mem_forkRows hr).1] at hs
      cases hs; rfl

omit hf in
theorem stemWalk_facts {n l0 : Nat} (hn : n ∈ order) (hdf : drivenFork net n = true) (hp : (net.node n).inPin 0 = some l0) :
    order.idxOf (net.line (stemWalk net net.nodes.size l0)).driver < order.idxOf n ∧
    stemWalk net net.nodes.size l0 < net.lines.size ∧
    (stemsOf net true).getD (stemWalk net net.nodes.size l0) none = none ∧
    (net.line l0).driver ∈ order ∧ order.idxOf (net.line l0).driver < net.nodes.size := by
  obtain ⟨_, hlt, hdrv⟩ := orderOK_spec ho
  have hlen := order_length_le ho
  have hlt0 := hdrv n hn (drivenFork_not_src hdf) 0 l0 (inPin_some hp)
  have hidx : order.idxOf n ≤ order.length := List.idxOf_le_length
  obtain ⟨h1, h2, h3, _⟩ := stemWalk_spec hwf ho net.nodes.size l0 (mem_of_idxOf_lt hlt0) (by omega)
  exact ⟨by omega, h3 (wf_in hwf (hlt n hn) (inPin_some hp)).1, stems_none_of_driver hwf h1, mem_of_idxOf_lt hlt0, by omega⟩

theorem stem_facts {n l0 : Nat} (hn : n ∈ order) (hdf : drivenFork net n = true) (hp : (net.node n).inPin 0 = some l0) :
    order.idxOf (net.line (stemWalk net net.nodes.size l0)).driver < order.idxOf n ∧
    stemWalk net net.nodes.size l0 < net.lines.size ∧
    (stemsOf net true).getD (stemWalk net net.nodes.size l0) none = none ∧
    viaStem (stemsOf net true) l0 = stemWalk net net.nodes.size l0 := by
  obtain ⟨f1, f2, f3, hmem0, hfuel⟩ := stemWalk_facts hwf ho hn hdf hp
  refine ⟨f1, f2, f3, ?_⟩
  have hlt := orderOK_lt ho
  obtain ⟨_, _, _, h4⟩ := stemWalk_spec hwf ho net.nodes.size l0 hmem0 hfuel
  have hsz : net.nodes.size = (net.nodes.size - 1) + 1 := by have := hlt n hn; omega
  cases hg : drivenFork net (net.line l0).driver with
  | true =>
    obtain ⟨hfk, l', hp'⟩ := drivenFork_spec hg
    have hk : ((net.node n).lkind == "__fork__") = true := isFork_lkind (drivenFork_spec hdf).1
    obtain ⟨_, _, _, _, h5, _⟩ := forksOK_spec hf hn hk
    have hout : some l0 ∈ (net.node (net.line l0).driver).outs := by
      have := h5 l0 hp
      rw [List.getD_eq_getElem?_getD] at this
      cases hq : (net.node (net.line l0).driver).outs[(net.line l0).dpin]? with
      | none => rw [hq] at this; cases this
      | some v => rw [hq] at this; simp at this; subst this; exact List.mem_of_getElem? hq
    unfold viaStem
    rw [stems_of_fork hwf (hlt _ hmem0) hfk hp' hout, Option.getD_some]
    have e1 := h4 (net.nodes.size + 1) (by omega)
    rw [stemWalk_succ, hg, if_pos rfl, hp', Option.getD_some] at e1
    exact e1
  | false =>
    unfold viaStem
    rw [stems_none_of_driver hwf hg, Option.getD_none]
    show l0 = stemWalk net net.nodes.size l0
    rw [hsz, stemWalk_succ, hg]; rfl

omit ho hf in
/-- a branch whose fork is scheduled is written by a row of the un-stripped program (the fork's `BUF1` row) -/
theorem branch_written {x t : Nat} (hmem : (net.line x).driver ∈ order) (hs : (stemsOf net true).getD x none = some t) :
    ∃ q ∈ genOps tbl net order false, q.out = x := by
  obtain ⟨_, _, _, _, hout, _⟩ := stems_some hwf hs
  obtain ⟨q, hq, hqo⟩ := forkRows_mem (ix := net.idx) hout
  exact ⟨q, mem_genOps.mpr ⟨_, hmem, by rw [nodeOps_fork _ _ _ _ _ _ (stems_some_driven hwf hs)]; exact hq⟩, hqo⟩

omit hf in
theorem branch_operand_written {n : Nat} (hn : n ∈ order) {r : OpRow}
    (hr : r ∈ nodeOpsS tbl net net.sNodes net.idx false n) {x : Nat} (hx : x ∈ r.toOp.ins) {t : Nat}
    (hs : (stemsOf net true).getD x none = some t) :
    ∃ q ∈ genOps tbl net order false, q.out = x := by
  obtain ⟨_, hlt, hdrv⟩ := orderOK_spec ho
  obtain ⟨hz, _, hp⟩ := idx_vals net
  rcases nodeOps_ins tbl net net.sNodes net.idx false n r hr x hx with h | ⟨_, p, _, h⟩ | ⟨hns, pin, hpin⟩
  · rw [stems_none_ge hwf (by omega)] at hs; cases hs
  · rw [stems_none_ge hwf (by omega)] at hs; cases hs
  · exact branch_written tbl hwf (mem_of_idxOf_lt (hdrv n hn hns pin x hpin)) hs

/-- **the un-stripped schedule of every well-formed netlist carries the certificate `stripOkB`** for the branch ↦ stem
    list of `SimOps` (chained forks included: `stemWalk` ends at the first driver that is not a driven fork) -/
theorem genOps_stripOk :
    stripOkB (stemList net) net.idx.zero [] ((genOps tbl net order false).map OpRow.toOp) = true := by
  obtain ⟨hnd, hlt, hdrv⟩ := orderOK_spec ho
  obtain ⟨hz, htmp, _⟩ := idx_vals net
  have hw := genOps_WOJ tbl net order false hwf ho
  -- rows of nodes `n` ≤ `m` (in the order): a row of `m` does not write the stem of a branch written by a row of `n`
  have hstem : ∀ n ∈ order, ∀ m ∈ order, order.idxOf n ≤ order.idxOf m →
      ∀ a ∈ nodeOpsS tbl net net.sNodes net.idx false n, ∀ b ∈ nodeOpsS tbl net net.sNodes net.idx false m,
      ∀ s, (stemList net).lookup a.toOp.out = some s → b.toOp.out ≠ s := by
    intro n hn m hm hnm a ha b hb s hs
    rw [stemList_lookup] at hs
    obtain ⟨hdf, _, l0, hp, rfl⟩ := branch_row_facts tbl hwf ho hn ha hs
    obtain ⟨h1, h2, _, _⟩ := stem_facts hwf ho hf hn hdf hp
    intro he
    have he : b.out = stemWalk net net.nodes.size l0 := he
    obtain ⟨pin, hpin⟩ := (nodeOps_out tbl net net.sNodes net.idx false m b hb).resolve_left (by omega)
    have hd := (wf_out hwf (hlt m hm) hpin).2.1
    rw [he] at hd
    rw [hd] at h1
    omega
  apply stripOkB_of_global
  ·
    apply List.Pairwise.and
    · exact hw.1.imp (fun h => h.2)
    · unfold genOps
      rw [List.pairwise_map, List.pairwise_flatMap]
      constructor
      · intro n hn
        apply List.pairwise_of_forall_mem_list
        intro a ha b hb
        exact hstem n hn n hn (Nat.le_refl _) a ha b hb
      · apply List.Pairwise.imp_of_mem _ (idxOf_pairwise_of_nodup order hnd)
        intro n m hn hm hnm a ha b hb
        exact hstem n hn m hm (Nat.le_of_lt hnm) a ha b hb
  · intro o hom x hx
    exact ((hw.2 o hom) x hx).2
  · intro o hom
    simp only [List.mem_map] at hom
    obtain ⟨r, hr, rfl⟩ := hom
    obtain ⟨n, hn, hrn⟩ := mem_genOps.mp hr
    refine ⟨rfl, ?_, ?_, ?_⟩
    · have := genOps_out tbl net order false hwf hlt r hr
      show r.out ≠ _
      omega
    · intro s hs
      rw [stemList_lookup] at hs
      obtain ⟨hdf, hfr, l0, hp, rfl⟩ := branch_row_facts tbl hwf ho hn hrn hs
      obtain ⟨_, _, h3, h4⟩ := stem_facts hwf ho hf hn hdf hp
      obtain ⟨_, hlut, hi0, hi1, hi2, hi3⟩ := mem_forkRows hfr
      obtain ⟨_, p1, p2, p3, _, _⟩ := forksOK_spec hf hn (isFork_lkind (drivenFork_spec hdf).1)
      rw [p1, Option.getD_none] at hi1
      rw [p2, Option.getD_none] at hi2
      rw [p3, Option.getD_none] at hi3
      rw [hp, Option.getD_some] at hi0
      refine ⟨hlut, ?_, ?_, ?_⟩
      · show [r.i1, r.i2, r.i3] = _
        rw [hi1, hi2, hi3]
      · show Wave.src (stemList net) r.i0 = _
        rw [src_stemList, hi0, h4]
      · rw [stemList_lookup]; exact h3
    · intro x hx
      rw [stemList_lookup]
      cases hs : (stemsOf net true).getD x none with
      | none => exact Or.inl rfl
      | some t =>
        right
        obtain ⟨q, hq, hqo⟩ := branch_operand_written tbl hwf ho hn hrn hx hs
        exact ⟨q.toOp, List.mem_map_of_mem hq, hqo⟩

omit hf in
theorem fork_row_of_branch {op : Op} (hop : op ∈ (genOps tbl net order false).map OpRow.toOp)
    (hb : ((stemList net).lookup op.out).isSome = true) :
    ∃ n ∈ order, drivenFork net n = true ∧ ∃ l0, (net.node n).inPin 0 = some l0 ∧ op.ins.getD 0 0 = l0 ∧
      some op.out ∈ (net.node n).outs := by
  simp only [List.mem_map] at hop
  obtain ⟨r, hr, rfl⟩ := hop
  obtain ⟨n, hn, hrn⟩ := mem_genOps.mp hr
  obtain ⟨s, hs⟩ := Option.isSome_iff_exists.mp hb
  rw [stemList_lookup] at hs
  obtain ⟨hdf, hfr, l0, hp, _⟩ := branch_row_facts tbl hwf ho hn hrn hs
  obtain ⟨hout, _, hi0, _⟩ := mem_forkRows hfr
  rw [hp, Option.getD_some] at hi0
  exact ⟨n, hn, hdf, l0, hp, hi0, hout⟩

theorem genOps_strip_map (g : Op → Op) :
    (genOps tbl net order true).map (fun r => g r.toOp) =
      (((genOps tbl net order false).map OpRow.toOp).filter fun op => ((stemList net).lookup op.out).isNone).map g := by
  rw [genOps_strip_filter tbl net order hwf ho hf, List.filter_map, List.map_map]
  have : (fun r => !isBranchRow net r) =
      ((fun op : Op => ((stemList net).lookup op.out).isNone) ∘ OpRow.toOp) := by
    funext r
    show (!isBranchRow net r) = (((stemList net).lookup r.out).isNone)
    rw [stemList_lookup]
    unfold isBranchRow
    cases (stemsOf net true).getD r.out none <;> rfl
  rw [this]
  rfl

end
end KV

namespace KV
open KV.Sig KV.Wave

theorem genOps_strip_eq_stripOps4 (tbl : List PrefixRow) {net : Net} {order : List Nat}
    (hwf : net.wfB = true) (ho : orderOKB net order = true) (hf : forksOKB net order = true) :
    (genOps tbl net order true).map (fun r => (⟨r.lut, r.out, r.ins.map (viaStem (stemsOf net true))⟩ : Op)) =
      stripOps4 (stemList net) ((genOps tbl net order false).map OpRow.toOp) := by
  have : (fun r : OpRow => (⟨r.lut, r.out, r.ins.map (viaStem (stemsOf net true))⟩ : Op)) =
      fun r => redirect4 (stemList net) r.toOp := by
    funext r
    unfold redirect4
    rw [funext (src_stemList net)]
    rfl
  rw [this]
  exact genOps_strip_map tbl hwf ho hf (redirect4 (stemList net))

/-- LogicSim fork stripping on signals: the stripped schedule (operands through the stems) and the un-stripped one agree on every
    signal that is not a branch, and a written branch carries what the stripped run leaves on its stem -/
theorem strip_sig_logic {α} (tbl : List PrefixRow) (net : Net) (order : List Nat) (hwf : net.wfB = true)
    (ho : orderOKB net order = true) (hf : forksOKB net order = true)
    (f : Nat → List α → α) (dflt : α) (hbuf : ∀ xs, f BUF1 xs = xs.getD 0 dflt) (env : Nat → α) :
    (∀ x, (stemsOf net true).getD x none = none →
      exec f ((genOps tbl net order true).map (fun r => (⟨r.lut, r.out, r.ins.map (viaStem (stemsOf net true))⟩ : Op))) env x =
        exec f ((genOps tbl net order false).map OpRow.toOp) env x) ∧
    (∀ b s, (stemsOf net true).getD b none = some s → (∃ p ∈ (genOps tbl net order false).map OpRow.toOp, p.out = b) →
      exec f ((genOps tbl net order false).map OpRow.toOp) env b =
        exec f ((genOps tbl net order true).map (fun r => (⟨r.lut, r.out, r.ins.map (viaStem (stemsOf net true))⟩ : Op))) env s) := by
  obtain ⟨h1, h2⟩ := strip_logic f dflt hbuf (stemList net) net.idx.zero ((genOps tbl net order false).map OpRow.toOp) env
    (genOps_stripOk tbl hwf ho hf)
  rw [genOps_strip_eq_stripOps4 tbl hwf ho hf]
  refine ⟨fun x hx => h1 x ?_, fun b s hb hw => h2 b s ?_ hw⟩
  · rw [stemList_lookup]; exact hx
  · rw [stemList_lookup]; exact hb


/-- … in one clause: what a reader of line `l` (a row, an output slot, a flip-flop) sees does not depend on `strip_forks` — the
    stripped run on the value source of `l` is the un-stripped run on `l`, for every `l` that is no branch or is written -/
theorem strip_sig_read {α} (tbl : List PrefixRow) (net : Net) (order : List Nat) (hwf : net.wfB = true)
    (ho : orderOKB net order = true) (hf : forksOKB net order = true)
    (f : Nat → List α → α) (dflt : α) (hbuf : ∀ xs, f BUF1 xs = xs.getD 0 dflt) (env : Nat → α) (l : Nat)
    (hw : (stemsOf net true).getD l none = none ∨ ∃ p ∈ (genOps tbl net order false).map OpRow.toOp, p.out = l) :
    exec f ((genOps tbl net order true).map (fun r => (⟨r.lut, r.out, r.ins.map (viaStem (stemsOf net true))⟩ : Op))) env
        (viaStem (stemsOf net true) l) =
      exec f ((genOps tbl net order false).map OpRow.toOp) env l := by
  obtain ⟨g1, g2⟩ := strip_sig_logic tbl net order hwf ho hf f dflt hbuf env
  unfold viaStem
  cases hst : (stemsOf net true).getD l none with
  | none => exact g1 l hst
  | some s => exact (g2 l s hst (hw.resolve_left (by rw [hst]; simp))).symm

theorem buf1_known : KnownCode BUF1 := ⟨"BUF1", buf1_mem⟩

theorem semL2n_buf1 (xs : List Bool) : semL2n BUF1 xs = xs.getD 0 false := by
  rw [semL2n_eq_spec buf1_known]
  have h : ∀ a b c d : Bool, lutBit4 BUF1 a b c d = a := by decide
  exact h _ _ _ _

theorem semL4_buf1 (xs : List V2) : semL4 BUF1 xs = xs.getD 0 default := by
  rw [semL4_eq_spec buf1_known]
  unfold specL4
  have : nameOf BUF1 = some "BUF1" := nameOf_of_mem buf1_mem
  rw [this]
  rfl

theorem semL8_buf1 (xs : List V3) : semL8 BUF1 xs = xs.getD 0 default := by
  rw [semL8_eq_spec buf1_known]
  unfold specL8
  have : nameOf BUF1 = some "BUF1" := nameOf_of_mem buf1_mem
  rw [this]
  rfl

end KV
