import KyupyVerif.Proofs.GridLanes
/-! CPU vs GPU-kernel code path of the stimulus assignment (`WaveSim.s_to_c` vs `wave_assign_gpu`): thresholds, the three
cells of a work item, reading a region back (stale cells behind the terminator are irrelevant), the whole arrays. -/
namespace KV.WaveIO
open KV.Wave KV.Grid

/-- a logic value on which `!= 0` and `>= 0.5` agree: `0`, or at least one half -/
def FlagOK (den : Nat) (v : Int) : Prop := v = 0 ∨ (den : Int) ≤ 2 * v

instance (den : Nat) (v : Int) : Decidable (FlagOK den v) := by unfold FlagOK; exact inferInstance

theorem flags_agree_iff (den : Nat) (hden : 0 < den) (v : Int) : cpuFlag v = gpuFlag den v ↔ FlagOK den v := by
  unfold cpuFlag gpuFlag FlagOK
  by_cases h0 : v = 0
  · subst h0
    have : ¬ den = 0 := by omega
    simp [this]
  · by_cases h : (den : Int) ≤ 2 * v
    · simp [h0, h]
    · simp [h0, h]

theorem cpuCells_eq_gpuCells (i f : Bool) (t : T) : cpuCells i f t = gpuCells i f t := by
  cases i <;> cases f <;> rfl

theorem gpuCells_length (i f : Bool) (t : T) : (gpuCells i f t).length = 3 := by
  cases i <;> cases f <;> rfl

theorem gpuCells_getD (i f : Bool) (t : T) :
    gpuCells i f t = [(gpuCells i f t).getD 0 T.tmax, (gpuCells i f t).getD 1 T.tmax, (gpuCells i f t).getD 2 T.tmax] := by
  cases i <;> cases f <;> rfl

theorem cells_third (i f : Bool) (t : T) : (gpuCells i f t).getD 2 T.tmax = T.tmax := by
  cases i <;> cases f <;> rfl

theorem readWave_end (e : T) (rest : List T) (he : isEnd e = true) : readWave (e :: rest) = ⟨[], e⟩ := by
  simp [readWave, he]

theorem readWave_cons (x : T) (l : List T) (hx : isEnd x = false) :
    readWave (x :: l) = ⟨x :: (readWave l).ents, (readWave l).term⟩ := by
  simp [readWave, hx]

theorem readWave_prefix (pre : List T) (e : T) (rest : List T) (hpre : ∀ x ∈ pre, isEnd x = false)
    (he : isEnd e = true) : readWave (pre ++ e :: rest) = ⟨pre, e⟩ := by
  induction pre with
  | nil => exact readWave_end e rest he
  | cons x pre ih =>
    rw [List.cons_append, readWave_cons x _ (hpre x List.mem_cons_self),
      ih (fun y hy => hpre y (List.mem_cons_of_mem _ hy))]

theorem read_stale_irrelevant (pre : List T) (e : T) (s1 s2 : List T) (hpre : ∀ x ∈ pre, isEnd x = false)
    (he : isEnd e = true) : readWave (pre ++ e :: s1) = readWave (pre ++ e :: s2) := by
  rw [readWave_prefix pre e s1 hpre he, readWave_prefix pre e s2 hpre he]

theorem read_assign_stale (i f : Bool) (t : T) (stale : List T) :
    readWave (gpuCells i f t ++ stale) = readWave (gpuCells i f t) := by
  cases i <;> cases f <;> cases t <;> simp [gpuCells, readWave, isEnd]

theorem updI_comm {α} (m : Int → α) (a b : Int) (v w : α) (h : a ≠ b) :
    updI (updI m a v) b w = updI (updI m b w) a v := by
  funext j
  unfold updI
  by_cases h1 : j = a <;> by_cases h2 : j = b
  · exact absurd (h1.symm.trans h2) h
  · subst h1; simp [h]
  · subst h2; simp [Ne.symm h]
  · simp [h1, h2]

theorem writeCells_apply (c : Col) (loc : Int) (l : List T) (a : Int) :
    writeCells c loc l a = if loc ≤ a ∧ a < loc + (l.length : Int) then l.getD (a - loc).toNat T.tmax else c a := by
  induction l generalizing c loc with
  | nil => simp [writeCells]; omega
  | cons t r ih =>
    simp only [writeCells, ih, List.length_cons, updI]
    by_cases ha : a = loc
    · subst ha
      have : ¬ (a + 1 ≤ a ∧ a < a + 1 + (r.length : Int)) := by omega
      simp [this]; omega
    · by_cases hin : loc + 1 ≤ a ∧ a < loc + 1 + (r.length : Int)
      · have hin' : loc ≤ a ∧ a < loc + ((r.length + 1 : Nat) : Int) := by omega
        have e : (a - loc).toNat = (a - (loc + 1)).toNat + 1 := by omega
        rw [if_pos hin, if_pos hin', e, List.getD_cons_succ]
      · have hin' : ¬ (loc ≤ a ∧ a < loc + ((r.length + 1 : Nat) : Int)) := by omega
        rw [if_neg hin, if_neg hin', if_neg ha]

theorem rdCells_writeCells (c : Col) (loc : Int) (l : List T) (n : Nat) :
    rdCells (writeCells c loc l) loc (l.length + n) = l ++ rdCells c (loc + l.length) n := by
  apply List.ext_getElem?
  intro i
  by_cases hi : i < l.length
  · have h1 : loc ≤ loc + (i : Int) ∧ loc + (i : Int) < loc + (l.length : Int) := by omega
    have h2 : (loc + (i : Int) - loc).toNat = i := by omega
    simp [rdCells, writeCells_apply, hi, h1, h2, List.getD_eq_getElem?_getD, show i < l.length + n by omega]
  · have h1 : ¬ (loc ≤ loc + (i : Int) ∧ loc + (i : Int) < loc + (l.length : Int)) := by omega
    rw [List.getElem?_append_right (by omega)]
    by_cases hn : i < l.length + n
    · have e : loc + (l.length : Int) + ((i - l.length : Nat) : Int) = loc + (i : Int) := by omega
      simp only [rdCells, List.getElem?_map, List.getElem?_range hn, List.getElem?_range (show i - l.length < n by omega),
        Option.map_some, writeCells_apply, if_neg h1, e]
    · rw [List.getElem?_eq_none (by simp [rdCells]; omega), List.getElem?_eq_none (by simp [rdCells]; omega)]

theorem write3_eq (c : Col) (loc : Int) (cells : List T) :
    write3 c loc cells = writeCells c loc [cells.getD 0 T.tmax, cells.getD 1 T.tmax, cells.getD 2 T.tmax] := by
  simp only [write3, writeCells, Int.add_assoc]
  rfl

theorem rdCells_write3 (c : Col) (loc : Int) (v0 v1 v2 : T) (n : Nat) :
    rdCells (write3 c loc [v0, v1, v2]) loc (3 + n) = [v0, v1, v2] ++ rdCells c (loc + 3) n := by
  rw [write3_eq]
  exact rdCells_writeCells c loc [v0, v1, v2] n

end KV.WaveIO
