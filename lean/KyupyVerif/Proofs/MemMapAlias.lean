import KyupyVerif.Proofs.MemMapSpec
/-! The two alias passes at the end of the memory map of `SimOps.__init__` (`mapAliases`, sim.py:309-319): branches get the
location / capacity of their stem, output slots get those of the captured line. Both passes are folds of
`c_locs[dst], c_caps[dst] = c_locs[src], c_caps[src]` over a list of `(dst, src)` pairs with pairwise distinct targets; a
target whose source is not itself a target ends up with the ORIGINAL entry of its source (`aliasFold_reg_set`), an index that
is no target keeps its entry (`aliasFold_reg_keep`); an entry is the pair `MapSt.reg`, and `aliasFold_set` / `aliasFold_keep`
state the two tables separately. -/
namespace KV

def aliasFold (s : MapSt) (ps : List (Nat × Nat)) : MapSt := ps.foldl (fun s p => aliasSet s p.1 p.2) s

theorem aliasFold_cons (s : MapSt) (p : Nat × Nat) (r : List (Nat × Nat)) :
    aliasFold s (p :: r) = aliasFold (aliasSet s p.1 p.2) r := rfl

theorem aliasFold_basic (s : MapSt) (ps : List (Nat × Nat)) :
    (aliasFold s ps).heap = s.heap ∧ (aliasFold s ps).locs.size = s.locs.size ∧
    (aliasFold s ps).caps.size = s.caps.size :=
  foldl_inv _ (fun t : MapSt => t.heap = s.heap ∧ t.locs.size = s.locs.size ∧ t.caps.size = s.caps.size)
    (fun t p _ h => by simpa only [aliasSet, Array.size_setIfInBounds] using h) ⟨rfl, rfl, rfl⟩

/-- the region entry of an index: `(c_locs[x], c_caps[x])` -/
def MapSt.reg (s : MapSt) (x : Nat) : Int × Nat := (s.locs.getD x (-1), s.caps.getD x 0)

theorem aliasSet_keep (s : MapSt) (d t x : Nat) (h : d ≠ x) : (aliasSet s d t).reg x = s.reg x := by
  simp only [MapSt.reg, aliasSet, getD_setIfInBounds, if_neg (fun hc : d = x ∧ _ => h hc.1)]

theorem aliasSet_hit (s : MapSt) (d t : Nat) (hl : d < s.locs.size) (hc : d < s.caps.size) :
    (aliasSet s d t).reg d = s.reg t := by
  simp only [MapSt.reg, aliasSet, getD_setIfInBounds, hl, hc, and_self, if_true]

theorem aliasFold_reg_keep (s : MapSt) (ps : List (Nat × Nat)) (x : Nat) (h : ∀ p ∈ ps, p.1 ≠ x) :
    (aliasFold s ps).reg x = s.reg x := by
  induction ps generalizing s with
  | nil => rfl
  | cons p r ih =>
    rw [aliasFold_cons]
    exact (ih (aliasSet s p.1 p.2) (fun q hq => h q (List.mem_cons_of_mem _ hq))).trans
      (aliasSet_keep s p.1 p.2 x (h p List.mem_cons_self))

theorem aliasFold_reg_set (s : MapSt) (ps : List (Nat × Nat)) (d t : Nat)
    (hpw : ps.Pairwise (fun a b => a.1 ≠ b.1)) (hmem : (d, t) ∈ ps) (hsrc : ∀ p ∈ ps, p.1 ≠ t)
    (hl : d < s.locs.size) (hc : d < s.caps.size) : (aliasFold s ps).reg d = s.reg t := by
  induction ps generalizing s with
  | nil => cases hmem
  | cons p r ih =>
    rw [aliasFold_cons]
    rw [List.pairwise_cons] at hpw
    rcases List.mem_cons.mp hmem with heq | hr
    · subst heq
      exact (aliasFold_reg_keep (aliasSet s d t) r d (fun q hq => (hpw.1 q hq).symm)).trans (aliasSet_hit s d t hl hc)
    · have hl' : d < (aliasSet s p.1 p.2).locs.size := by
        simp only [aliasSet, Array.size_setIfInBounds]; exact hl
      have hc' : d < (aliasSet s p.1 p.2).caps.size := by
        simp only [aliasSet, Array.size_setIfInBounds]; exact hc
      exact (ih (aliasSet s p.1 p.2) hpw.2 hr (fun q hq => hsrc q (List.mem_cons_of_mem _ hq)) hl' hc').trans
        (aliasSet_keep s p.1 p.2 t (hsrc p List.mem_cons_self))

theorem aliasFold_keep (s : MapSt) (ps : List (Nat × Nat)) (x : Nat) (h : ∀ p ∈ ps, p.1 ≠ x) :
    (aliasFold s ps).locs.getD x (-1) = s.locs.getD x (-1) ∧ (aliasFold s ps).caps.getD x 0 = s.caps.getD x 0 :=
  Prod.mk.inj (aliasFold_reg_keep s ps x h)

theorem aliasFold_set (s : MapSt) (ps : List (Nat × Nat)) (d t : Nat)
    (hpw : ps.Pairwise (fun a b => a.1 ≠ b.1)) (hmem : (d, t) ∈ ps) (hsrc : ∀ p ∈ ps, p.1 ≠ t)
    (hl : d < s.locs.size) (hc : d < s.caps.size) :
    (aliasFold s ps).locs.getD d (-1) = s.locs.getD t (-1) ∧ (aliasFold s ps).caps.getD d 0 = s.caps.getD t 0 :=
  Prod.mk.inj (aliasFold_reg_set s ps d t hpw hmem hsrc hl hc)

def stemPairF (ol : Option Nat × Nat) : Option (Nat × Nat) := ol.1.map fun t => (ol.2, t)

def stemPairs (st : Array (Option Nat)) : List (Nat × Nat) := st.toList.zipIdx.filterMap stemPairF

theorem stemFold_eq (s : MapSt) (l : List (Option Nat × Nat)) :
    l.foldl stemAliasStep s = aliasFold s (l.filterMap stemPairF) := by
  unfold aliasFold
  rw [List.foldl_filterMap]
  congr 1
  funext s ⟨o, k⟩
  cases o <;> rfl

theorem mem_stemPairs (st : Array (Option Nat)) (d t : Nat) : (d, t) ∈ stemPairs st ↔ st.getD d none = some t := by
  unfold stemPairs
  rw [List.mem_filterMap, Array.getD_eq_getD_getElem?, ← Array.getElem?_toList, ← List.getD_eq_getElem?_getD, getD_eq_some_iff]
  constructor
  · rintro ⟨⟨o, k⟩, hmem, hf⟩
    have hk := mem_zipIdx_getElem? hmem
    cases o with
    | none => cases hf
    | some t' =>
      obtain ⟨rfl, rfl⟩ := Prod.mk.inj (Option.some.inj hf)
      exact hk
  · intro h
    exact ⟨(some t, d), List.mem_zipIdx_iff_getElem?.mpr h, rfl⟩

theorem stemPairs_pairwise (st : Array (Option Nat)) : (stemPairs st).Pairwise (fun a b => a.1 ≠ b.1) := by
  unfold stemPairs
  refine List.Pairwise.filterMap stemPairF ?_ (zipIdx_pairwise_lt st.toList 0)
  rintro ⟨o, k⟩ ⟨o', k'⟩ hlt b hb b' hb'
  cases o with
  | none => cases hb
  | some t =>
    cases o' with
    | none => cases hb'
    | some t' =>
      simp only [stemPairF, Option.map_some, Option.some.injEq] at hb hb'
      subst hb; subst hb'
      exact Nat.ne_of_lt hlt

theorem stemPass_spec (st : Array (Option Nat)) (s : MapSt) (x : Nat) (hl : x < s.locs.size) (hc : x < s.caps.size)
    (hx : ∀ t, st.getD x none = some t → st.getD t none = none) :
    (aliasFold s (stemPairs st)).reg x = s.reg (viaStem st x) := by
  unfold viaStem
  cases h : st.getD x none with
  | none =>
    simp only [Option.getD_none]
    apply aliasFold_reg_keep
    rintro ⟨d, t⟩ hp heq
    simp only at heq
    subst heq
    rw [mem_stemPairs, h] at hp
    cases hp
  | some t =>
    simp only [Option.getD_some]
    apply aliasFold_reg_set s (stemPairs st) x t (stemPairs_pairwise st) ((mem_stemPairs st x t).mpr h) _ hl hc
    rintro ⟨d, t'⟩ hp heq
    simp only at heq
    rw [heq, mem_stemPairs, hx t h] at hp
    cases hp

def ppoPairF (net : Net) (ni : Nat × Nat) : Option (Nat × Nat) :=
  match (net.node ni.1).inPin 0 with
  | some l => some (net.idx.ppo + ni.2, l)
  | none => if net.io.length ≤ ni.2 then some (net.idx.ppo + ni.2, net.idx.zero) else none

def ppoPairs (net : Net) : List (Nat × Nat) := net.sNodes.zipIdx.filterMap (ppoPairF net)

theorem ppoFold_eq (net : Net) (s : MapSt) (l : List (Nat × Nat)) :
    l.foldl (ppoAliasStep net) s = aliasFold s (l.filterMap (ppoPairF net)) := by
  unfold aliasFold
  rw [List.foldl_filterMap]
  congr 1
  funext s a
  unfold ppoAliasStep ppoPairF
  cases (net.node a.1).inPin 0 with
  | some l => rfl
  | none =>
    dsimp only
    split <;> rfl

theorem ppoPairF_fst {net : Net} {ni b : Nat × Nat} (h : ppoPairF net ni = some b) : b.1 = net.idx.ppo + ni.2 := by
  unfold ppoPairF at h
  split at h
  · cases h; rfl
  · split at h
    · cases h; rfl
    · cases h

theorem ppoPairs_dst (net : Net) (x : Nat) (hx : x < net.idx.ppo) (p : Nat × Nat) (hp : p ∈ ppoPairs net) : p.1 ≠ x := by
  unfold ppoPairs at hp
  rw [List.mem_filterMap] at hp
  obtain ⟨ni, _, hf⟩ := hp
  have := ppoPairF_fst hf
  omega

theorem ppoPairs_mem (net : Net) (n i l : Nat) (hmem : (n, i) ∈ net.sNodes.zipIdx)
    (hp : (net.node n).inPin 0 = some l) : (net.idx.ppo + i, l) ∈ ppoPairs net := by
  unfold ppoPairs
  rw [List.mem_filterMap]
  refine ⟨(n, i), hmem, ?_⟩
  unfold ppoPairF
  simp only [hp]

theorem ppoPairs_pairwise (net : Net) : (ppoPairs net).Pairwise (fun a b => a.1 ≠ b.1) := by
  unfold ppoPairs
  refine List.Pairwise.filterMap (ppoPairF net) ?_ (zipIdx_pairwise_lt net.sNodes 0)
  rintro ⟨n, i⟩ ⟨n', i'⟩ hlt b hb b' hb'
  have h1 : b.1 = net.idx.ppo + i := ppoPairF_fst hb
  have h2 : b'.1 = net.idx.ppo + i' := ppoPairF_fst hb'
  have hlt' : i < i' := hlt
  omega

theorem idx_facts (net : Net) : net.idx.zero < net.idx.ppo ∧ net.idx.len = net.idx.ppo + net.sNodes.length := by
  simp only [Net.idx]
  omega

theorem mapAliases_eq (net : Net) (st : Array (Option Nat)) (s : MapSt) :
    mapAliases net st s = aliasFold (aliasFold s (stemPairs st)) (ppoPairs net) := by
  unfold mapAliases
  rw [stemFold_eq, ppoFold_eq]
  rfl

/-- **the alias passes**: heap and sizes unchanged; an index below the output slots whose stem is not itself a branch
    carries the value its stem had before the passes; an output slot carries the value the captured line's stem had -/
theorem mapAliases_spec (net : Net) (st : Array (Option Nat)) (s : MapSt)
    (hl : s.locs.size = net.idx.len) (hc : s.caps.size = net.idx.len)
    (hcap : ∀ n i l, (n, i) ∈ net.sNodes.zipIdx → (net.node n).inPin 0 = some l → l < net.idx.zero) :
    (mapAliases net st s).heap = s.heap ∧ (mapAliases net st s).locs.size = net.idx.len ∧
    (mapAliases net st s).caps.size = net.idx.len ∧
    (∀ x, x < net.idx.ppo → (∀ t, st.getD x none = some t → st.getD t none = none) →
        (mapAliases net st s).locs.getD x (-1) = s.locs.getD (viaStem st x) (-1) ∧
        (mapAliases net st s).caps.getD x 0 = s.caps.getD (viaStem st x) 0) ∧
    (∀ n i l, (n, i) ∈ net.sNodes.zipIdx → (net.node n).inPin 0 = some l →
        (∀ t, st.getD l none = some t → st.getD t none = none) →
        (mapAliases net st s).locs.getD (net.idx.ppo + i) (-1) = s.locs.getD (viaStem st l) (-1) ∧
        (mapAliases net st s).caps.getD (net.idx.ppo + i) 0 = s.caps.getD (viaStem st l) 0) := by
  rw [mapAliases_eq]
  obtain ⟨hz, hlen⟩ := idx_facts net
  obtain ⟨a1, a2, a3⟩ := aliasFold_basic s (stemPairs st)
  obtain ⟨b1, b2, b3⟩ := aliasFold_basic (aliasFold s (stemPairs st)) (ppoPairs net)
  refine ⟨b1.trans a1, by rw [b2, a2, hl], by rw [b3, a3, hc], ?_, ?_⟩
  · intro x hx hxs
    exact Prod.mk.inj ((aliasFold_reg_keep (aliasFold s (stemPairs st)) (ppoPairs net) x (ppoPairs_dst net x hx)).trans
      (stemPass_spec st s x (by omega) (by omega) hxs))
  · intro n i l hmem hp hls
    have hlz := hcap n i l hmem hp
    have hi : i < net.sNodes.length := by
      have := List.snd_lt_of_mem_zipIdx hmem
      simpa using this
    exact Prod.mk.inj ((aliasFold_reg_set (aliasFold s (stemPairs st)) (ppoPairs net) (net.idx.ppo + i) l
      (ppoPairs_pairwise net) (ppoPairs_mem net n i l hmem hp) (ppoPairs_dst net l (by omega)) (by omega) (by omega)).trans
      (stemPass_spec st s l (by omega) (by omega) hls))

end KV
