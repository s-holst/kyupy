import KyupyVerif.Proofs.NetlistReach
/-! The closed form of a bench statement (`benchStmt_grows`); pass 1.5 with retry (`assignFix_spec`); no branch fork before pass 2 (`NB`)
and the simulation between the runs with and without `branchforks` (`BR`, step rule `BR.grow` over deltas related by `DR`); the reader
pins of all lines in line order (`RC`, read off the deltas, for `C11.readers_exact`); the example module and bench description of
Props/C11.lean (`exTL`, `exStmts`, `exBench`). -/
namespace KV.Netlist

def benchLinesOf : BStmt → List LineM
  | .intf _ => []
  | .gate name _ drv => ⟨.cell name 0, .fork name, none⟩ :: driverLines name drv 0

def benchPortsOf : BStmt → List String
  | .intf names => names
  | .gate _ _ _ => []

/-- `get_or_add_fork` -/
def getOrAddForkΔ (C : Circ) (n : String) : Delta := if C.isFork n then {} else { nodes := [forkN n] }

theorem getOrAddFork_grows (C : Circ) (n : String) : Grows C (getOrAddFork C n) (getOrAddForkΔ C n) := by
  unfold getOrAddFork getOrAddForkΔ
  split
  · exact Grows.refl C
  · exact grows_addFork C n false

/-- the forks `parameters` makes for a list of names -/
abbrev forksΔ (C : Circ) (l : List String) : Delta := Delta.walk getOrAddFork getOrAddForkΔ C l

/-- one bench statement: forks for all names first, then (gate) the cell, its same-named fork and its lines, (interface) the ports -/
def benchStmtΔ (C : Circ) : BStmt → Delta
  | .intf ns => forksΔ C ns ++ { ioB := ns }
  | .gate n k d => forksΔ C d ++ { nodes := [⟨k, n, false⟩] } ++ getOrAddForkΔ ((d.foldl getOrAddFork C).addCell k n) n ++
      { lines := benchLinesOf (.gate n k d) }

theorem benchStmt_grows (C : Circ) (s : BStmt) : Grows C (benchStmt C s) (benchStmtΔ C s) := by
  cases s with
  | intf ns => exact (Grows.foldl getOrAddFork_grows ns C).trans (grows_pushIoB _ ns)
  | gate n k d =>
    exact ((((Grows.foldl getOrAddFork_grows d C).trans (grows_addCell _ k n)).trans (getOrAddFork_grows _ n)).trans
      ((grows_addLine _ _ _ _).trans (grows_addLines _ _))).of_eq rfl

theorem getOrAddForkΔ_shape (C : Circ) (n : String) :
    (getOrAddForkΔ C n).lines = [] ∧ (getOrAddForkΔ C n).ioB = [] ∧ ∀ x ∈ (getOrAddForkΔ C n).nodes, x = forkN n := by
  unfold getOrAddForkΔ; split
  · exact ⟨rfl, rfl, nofun⟩
  · exact ⟨rfl, rfl, fun x hx => by simpa using hx⟩

theorem forksΔ_shape (C : Circ) (l : List String) :
    (forksΔ C l).lines = [] ∧ (forksΔ C l).ioB = [] ∧ ∀ x ∈ (forksΔ C l).nodes, ∃ n ∈ l, x = forkN n := by
  refine Delta.walk_all (fun d => d.lines = [] ∧ d.ioB = [] ∧ ∀ x ∈ d.nodes, ∃ n ∈ l, x = forkN n) ⟨rfl, rfl, nofun⟩
    (fun a b ha hb => ⟨by simp [ha.1, hb.1], by simp [ha.2.1, hb.2.1],
      fun x hx => (List.mem_append.mp hx).elim (ha.2.2 x) (hb.2.2 x)⟩) l (fun C n hn => ?_) C
  obtain ⟨h1, h2, h3⟩ := getOrAddForkΔ_shape C n
  exact ⟨h1, h2, fun x hx => ⟨n, hn, h3 x hx⟩⟩

theorem sub_getOrAddFork (C : Circ) (n : String) : Sub C (getOrAddFork C n) := (getOrAddFork_grows C n).sub

theorem getOrAddFork_isFork (C : Circ) (n : String) : (getOrAddFork C n).isFork n = true := by
  unfold getOrAddFork
  split
  · assumption
  · exact isFork_addFork_self _ _ _

theorem foldl_getOrAddFork_isFork (l : List String) (C : Circ) (d : String) (hd : d ∈ l) :
    (l.foldl getOrAddFork C).isFork d = true := by
  obtain ⟨C', _, h⟩ := foldl_reach getOrAddFork sub_getOrAddFork hd C
  exact h.isFork (getOrAddFork_isFork C' d)

theorem lines_benchStmtΔ (C : Circ) (s : BStmt) : (benchStmtΔ C s).lines = benchLinesOf s := by
  cases s with
  | intf ns => simp [benchStmtΔ, (forksΔ_shape C ns).1, benchLinesOf]
  | gate n k d => simp [benchStmtΔ, (forksΔ_shape C d).1, (getOrAddForkΔ_shape _ n).1]

theorem ioB_benchStmtΔ (C : Circ) (s : BStmt) : (benchStmtΔ C s).ioB = benchPortsOf s := by
  cases s with
  | intf ns => simp [benchStmtΔ, (forksΔ_shape C ns).2.1, benchPortsOf]
  | gate n k d => simp [benchStmtΔ, (forksΔ_shape C d).2.1, (getOrAddForkΔ_shape _ n).2.1, benchPortsOf]

theorem sub_benchStmt (C : Circ) (s : BStmt) : Sub C (benchStmt C s) := (benchStmt_grows C s).sub

theorem length_driverLines (name : String) (drv : List String) (k0 : Nat) : (driverLines name drv k0).length = drv.length := by
  induction drv generalizing k0 with
  | nil => rfl
  | cons d r ih => simp [driverLines, ih]

/-- the pair `(target, source)` of an `assign` is wired: a line between the two forks (either way) or from a constant cell of the source -/
def Linked (ts : String × String) (C : Circ) : Prop :=
  (⟨.fork ts.1, .fork ts.2, none⟩ : LineM) ∈ C.lines ∨ (⟨.fork ts.2, .fork ts.1, none⟩ : LineM) ∈ C.lines ∨
  ∃ k, (⟨.cell (constName ts.2 k) 0, .fork ts.1, none⟩ : LineM) ∈ C.lines

theorem Linked.mono {ts : String × String} {C C' : Circ} (hs : Sub C C') (h : Linked ts C) : Linked ts C' := by
  rcases h with h | h | ⟨k, h⟩
  · exact Or.inl (hs.lines _ h)
  · exact Or.inr (Or.inl (hs.lines _ h))
  · exact Or.inr (Or.inr ⟨k, hs.lines _ h⟩)

theorem assignStep_linked (C : Circ) (ts : String × String) (h : handled C ts = true) : Linked ts (assignStep C ts) := by
  obtain ⟨t, s⟩ := ts
  have sp := assignStep_spec C t s
  by_cases h1 : C.isFork t = true
  · exact Or.inl (sp.1 h1)
  · have h1' : C.isFork t = false := by simpa using h1
    by_cases h2 : C.isFork s = true
    · exact Or.inr (Or.inl (sp.2.1 h1' h2))
    · have h2' : C.isFork s = false := by simpa using h2
      have h3 : isConstBit s = true := by
        unfold handled at h; simp [h1', h2'] at h; exact h
      exact Or.inr (Or.inr ⟨C.cc, (sp.2.2.1 h1' h2' h3).1⟩)

theorem assignStep_unhandled (C : Circ) (ts : String × String) (h : handled C ts = false) : assignStep C ts = C := by
  obtain ⟨t, s⟩ := ts
  unfold handled at h
  simp only [Bool.or_eq_false_iff] at h
  exact (assignStep_spec C t s).2.2.2 h.1.1 h.1.2 h.2

/-- one round of the retry loop: deferred pairs stay deferred; each pair is deferred or `Linked`; at most all are deferred; when all
are, the round changed nothing (the exit test of the loop) -/
theorem roundFold_spec (pairs : List (String × String)) (acc : Circ × List (String × String)) :
    (∀ ts ∈ acc.2, ts ∈ (pairs.foldl roundStep acc).2) ∧
    (∀ ts ∈ pairs, ts ∈ (pairs.foldl roundStep acc).2 ∨ Linked ts (pairs.foldl roundStep acc).1) ∧
    (pairs.foldl roundStep acc).2.length ≤ acc.2.length + pairs.length ∧
    ((pairs.foldl roundStep acc).2.length = acc.2.length + pairs.length →
      (pairs.foldl roundStep acc).1 = acc.1 ∧ (pairs.foldl roundStep acc).2 = acc.2 ++ pairs ∧
      ∀ ts ∈ pairs, handled acc.1 ts = false) := by
  induction pairs generalizing acc with
  | nil => simp
  | cons x xs ih =>
    simp only [List.foldl_cons]
    obtain ⟨i1, i2, i3, i4⟩ := ih (roundStep acc x)
    by_cases hx : handled acc.1 x = true
    · have hr : roundStep acc x = (assignStep acc.1 x, acc.2) := by unfold roundStep; simp [hx]
      rw [hr] at i1 i2 i3 i4 ⊢
      refine ⟨i1, ?_, ?_, ?_⟩
      · intro ts hts
        rcases List.mem_cons.mp hts with rfl | h
        · right
          exact (assignStep_linked acc.1 ts hx).mono (sub_steps (roundFold_steps xs (assignStep acc.1 ts, acc.2)))
        · exact i2 ts h
      · simp only [List.length_cons] at *; omega
      · intro hlen
        simp only [List.length_cons] at *
        omega
    · have hx' : handled acc.1 x = false := by simpa using hx
      have hr : roundStep acc x = (acc.1, acc.2 ++ [x]) := by unfold roundStep; simp [hx']
      rw [hr] at i1 i2 i3 i4 ⊢
      refine ⟨fun ts h => i1 ts (by simp [h]), ?_, ?_, ?_⟩
      · intro ts hts
        rcases List.mem_cons.mp hts with rfl | h
        · left; exact i1 ts (by simp)
        · exact i2 ts h
      · simp only [List.length_cons, List.length_append, List.length_nil] at *; omega
      · intro hlen
        simp only [List.length_cons, List.length_append, List.length_nil] at *
        obtain ⟨j1, j2, j3⟩ := i4 (by omega)
        refine ⟨j1, by simp [j2], ?_⟩
        intro ts hts
        rcases List.mem_cons.mp hts with rfl | h
        · exact hx'
        · exact j3 ts h

theorem assignRound_spec (C : Circ) (pairs : List (String × String)) :
    (∀ ts ∈ pairs, ts ∈ (assignRound C pairs).2 ∨ Linked ts (assignRound C pairs).1) ∧
    (assignRound C pairs).2.length ≤ pairs.length ∧
    ((assignRound C pairs).2.length = pairs.length →
      (assignRound C pairs).1 = C ∧ (assignRound C pairs).2 = pairs ∧ ∀ ts ∈ pairs, handled C ts = false) := by
  obtain ⟨_, h2, h3, h4⟩ := roundFold_spec pairs (C, [])
  unfold assignRound
  refine ⟨h2, by simpa using h3, ?_⟩
  intro h
  have := h4 (by simpa using h)
  simpa using this

theorem assignFix_spec (fuel : Nat) (C : Circ) (pairs : List (String × String)) (hf : pairs.length < fuel) :
    (∀ ts ∈ (assignFix fuel C pairs).2, handled (assignFix fuel C pairs).1 ts = false) ∧
    (∀ ts ∈ pairs, ts ∈ (assignFix fuel C pairs).2 ∨ Linked ts (assignFix fuel C pairs).1) := by
  induction fuel generalizing C pairs with
  | zero => omega
  | succ f ih =>
    obtain ⟨r1, r2, r3⟩ := assignRound_spec C pairs
    unfold assignFix
    by_cases he : pairs.isEmpty = true
    · simp only [he, if_true]
      have : pairs = [] := by simpa using he
      subst this
      simp
    · have he' : pairs.isEmpty = false := by simpa using he
      simp only [he', Bool.false_eq_true, if_false]
      by_cases hst : ((assignRound C pairs).2.length == pairs.length) = true
      · simp only [hst, if_true]
        obtain ⟨e1, e2, e3⟩ := r3 (by simpa using hst)
        rw [e1, e2]
        exact ⟨e3, fun ts h => Or.inl h⟩
      · have hst' : ((assignRound C pairs).2.length == pairs.length) = false := by simpa using hst
        simp only [hst', Bool.false_eq_true, if_false]
        have hlt : (assignRound C pairs).2.length < f := by
          have : (assignRound C pairs).2.length ≠ pairs.length := by simpa using hst
          omega
        obtain ⟨j1, j2⟩ := ih (assignRound C pairs).1 (assignRound C pairs).2 hlt
        refine ⟨j1, ?_⟩
        intro ts hts
        rcases r1 ts hts with h | h
        · exact j2 ts h
        · exact Or.inr (h.mono (sub_steps (assignFix_steps _ _ _)))

/-- no branch fork -/
structure NB (C : Circ) : Prop where
  nodes : ∀ n ∈ C.nodes, n.branch = false
  lines : ∀ l ∈ C.lines, l.via = none

theorem nb_of_eq {C C' : Circ} (h : NB C) (hn : C'.nodes = C.nodes) (hl : C'.lines = C.lines) : NB C' :=
  ⟨fun n hm => h.nodes n (hn ▸ hm), fun l hm => h.lines l (hl ▸ hm)⟩

theorem Grows.nb {A B : Circ} {d : Delta} (h : Grows A B d) (hA : NB A) (hn : ∀ n ∈ d.nodes, n.branch = false)
    (hl : ∀ l ∈ d.lines, l.via = none) : NB B :=
  ⟨fun n hm => by rw [h.nodes] at hm; exact (List.mem_append.mp hm).elim (hA.nodes n) (hn n),
   fun l hm => by rw [h.lines] at hm; exact (List.mem_append.mp hm).elim (hA.lines l) (hl l)⟩

theorem nb_afterPass15 (cfg : Cfg) (tl : TL) (ports : List String) (stmts : List Stmt) : NB (afterPass15 cfg tl ports stmts) := by
  obtain ⟨d, g, e⟩ := (afterPass15_early cfg tl ports stmts).1
  exact g.nb ⟨nofun, nofun⟩ e.1 fun l hl => (e.2 l hl).1

/-- no `~` in the name (an escaped identifier may contain one) -/
def tildeFree (q : String) : Bool := !q.toList.contains '~'

/-- the names pass 2 looks up for a pin naming `s` contain no `~` (constant pins look up nothing of their own) -/
def pinQueriesOK (ds : List Decl) (s : String) : Bool :=
  isConstBit s || (tildeFree s && tildeFree (s ++ "[0]") &&
    (match lookup ds s with
     | some d => d.names.all tildeFree
     | none => true))

def stmtQueriesOK (ds : List Decl) : Stmt → Bool
  | .inst _ _ pins => pins.all fun ps => match ps.2 with
    | .one s => pinQueriesOK ds s
    | .many _ => true
  | _ => true

def outQueriesOK (d : Decl) : Bool := d.kind != .output || d.names.all fun n => tildeFree n && tildeFree (n ++ "[0]")

/-- no name that pass 2 or the output pass looks up contains `~` (the separator of branch-fork names) -/
def noTilde (stmts : List Stmt) : Bool :=
  stmts.all (stmtQueriesOK (sigDecls stmts)) && (sigDecls stmts).all outQueriesOK

/-- `Ct` (built with `branchforks`) and `Cf` (without) differ by the branch forks only.  `tilde`: every branch fork has a `~` in its
name, so the two circuits agree on `isFork` for the `~`-free names the passes look up (`BR.isFork`); `vias`: the branch forks are, in
order, the `via`s of the lines (fourth clause of `C11.branchforks_only_forks`). -/
structure BR (Ct Cf : Circ) : Prop where
  nodes : Cf.nodes = Ct.nodes.filter (!·.branch)
  lines : Cf.lines = Ct.lines.map LineM.unvia
  io : Cf.io = Ct.io
  cc : Cf.cc = Ct.cc
  tilde : ∀ n ∈ Ct.nodes, n.branch = true → tildeFree n.name = false
  vias : (Ct.nodes.filter (·.branch)).map (·.name) = Ct.lines.filterMap (·.via)

theorem BR.isFork {Ct Cf : Circ} (h : BR Ct Cf) (q : String) (hq : tildeFree q = true) : Ct.isFork q = Cf.isFork q := by
  rw [Bool.eq_iff_iff]
  unfold Circ.isFork
  rw [List.any_eq_true, List.any_eq_true, h.nodes]
  constructor
  · rintro ⟨x, hx, hp⟩
    refine ⟨x, List.mem_filter.mpr ⟨hx, ?_⟩, hp⟩
    simp only [Bool.and_eq_true, beq_iff_eq] at hp
    by_cases hb : x.branch = true
    · have := h.tilde x hx hb
      rw [hp.2, hq] at this; cases this
    · simp [hb]
  · rintro ⟨x, hx, hp⟩
    exact ⟨x, (List.mem_filter.mp hx).1, hp⟩

theorem BR.isFork_mem {Ct Cf : Circ} (h : BR Ct Cf) (q : String) (hm : (⟨forkKind, q, false⟩ : NodeM) ∈ Cf.nodes) :
    Ct.isFork q = true ∧ Cf.isFork q = true := by
  constructor
  · rw [isFork_iff]; refine ⟨false, ?_⟩
    rw [h.nodes] at hm; exact (List.mem_filter.mp hm).1
  · rw [isFork_iff]; exact ⟨false, hm⟩

/-- the deltas of the two runs differ by the branch forks only -/
structure DR (dt df : Delta) : Prop where
  nodes : df.nodes = dt.nodes.filter (!·.branch)
  lines : df.lines = dt.lines.map LineM.unvia
  io : df.io = dt.io
  cc : df.cc = dt.cc
  tilde : ∀ n ∈ dt.nodes, n.branch = true → tildeFree n.name = false
  vias : (dt.nodes.filter (·.branch)).map (·.name) = dt.lines.filterMap (·.via)

theorem BR.grow {Ct Cf Ct' Cf' : Circ} {dt df : Delta} (h : BR Ct Cf) (gt : Grows Ct Ct' dt) (gf : Grows Cf Cf' df) (hd : DR dt df) :
    BR Ct' Cf' :=
  ⟨by rw [gf.nodes, gt.nodes, List.filter_append, h.nodes, hd.nodes], by rw [gf.lines, gt.lines, List.map_append, h.lines, hd.lines],
   by rw [gf.io, gt.io, h.io, hd.io], by rw [gf.cc, gt.cc, h.cc, hd.cc],
   fun n hn => by rw [gt.nodes] at hn; exact (List.mem_append.mp hn).elim (h.tilde n) (hd.tilde n),
   by rw [gt.nodes, gt.lines, List.filter_append, List.map_append, List.filterMap_append, h.vias, hd.vias]⟩

theorem DR.append {a b a' b' : Delta} (h1 : DR a a') (h2 : DR b b') : DR (a ++ b) (a' ++ b') :=
  ⟨by simp [h1.nodes, h2.nodes], by simp [h1.lines, h2.lines], by simp [h1.io, h2.io], by simp [h1.cc, h2.cc],
   fun n hn => (List.mem_append.mp hn).elim (h1.tilde n) (h2.tilde n),
   by simp [List.filter_append, List.filterMap_append, h1.vias, h2.vias]⟩

theorem DR.same (d : Delta) (hn : ∀ n ∈ d.nodes, n.branch = false) (hl : ∀ l ∈ d.lines, l.via = none) : DR d d := by
  have h1 : d.nodes.filter (!·.branch) = d.nodes := List.filter_eq_self.mpr fun n h => by simp [hn n h]
  have h2 : d.nodes.filter (·.branch) = [] := List.filter_eq_nil_iff.mpr fun n h => by simp [hn n h]
  have h3 : d.lines.filterMap (·.via) = [] := List.filterMap_eq_nil_iff.mpr fun l h => hl l h
  have h4 : d.lines.map LineM.unvia = d.lines := by
    rw [List.map_congr_left (g := id) fun l h => by have := hl l h; cases l; simp_all [LineM.unvia]]; simp
  exact ⟨h1.symm, h4.symm, rfl, rfl, fun n h hb => (by rw [hn n h] at hb; cases hb), by rw [h2, h3]; rfl⟩

theorem BR.refl_of_nb {C : Circ} (h : NB C) : BR C C :=
  have d := DR.same ⟨C.nodes, C.lines, C.io, C.ioB, C.cc⟩ h.nodes h.lines
  ⟨d.nodes, d.lines, rfl, rfl, d.tilde, d.vias⟩

theorem br_fail {Ct Cf : Circ} (h : BR Ct Cf) : BR Ct.fail Cf.fail := h.grow (grows_fail Ct) (grows_fail Cf) (DR.same {} nofun nofun)

theorem tilde_branchName (f inst pin : String) : tildeFree (branchName f inst pin) = false := by
  unfold tildeFree branchName
  simp [String.toList_append]

theorem forkForΔ_same (cfg : Cfg) (ds : List Decl) (C : Circ) (s : String) : DR (forkForΔ cfg ds C s) (forkForΔ cfg ds C s) := by
  apply DR.same <;> unfold forkForΔ <;> split <;> simp [forkN]

theorem connΔ_dr (inst pin : String) (idx : Nat) (f : String) : DR (connΔ true inst pin idx f) (connΔ false inst pin idx f) :=
  ⟨by simp [connΔ, branchN], by simp [connΔ, LineM.unvia], rfl, rfl,
   fun n hn _ => (by simp [connΔ, branchN] at hn; subst hn; exact tilde_branchName _ _ _), by simp [connΔ, branchN]⟩

theorem declFork_congr {Ct Cf : Circ} (h : BR Ct Cf) (ds : List Decl) (s : String)
    (hq : ∀ d, lookup ds s = some d → d.names.all tildeFree = true) : declFork ds Ct s = declFork ds Cf s := by
  unfold declFork
  cases hl : lookup ds s with
  | none => rfl
  | some d =>
    simp only
    cases hn : d.names with
    | nil => rfl
    | cons x xs =>
      cases xs with
      | nil =>
        have : tildeFree x = true := by
          have := hq d hl; rw [hn] at this; simpa using this
        simp only [h.isFork x this]
      | cons _ _ => rfl

theorem resolveRead_congr {Ct Cf : Circ} (h : BR Ct Cf) (cfgT cfgF : Cfg) (hob : cfgT.onebitDecl = cfgF.onebitDecl)
    (ds : List Decl) (s : String)
    (hs : (⟨forkKind, s, false⟩ : NodeM) ∈ Cf.nodes ∨
      (tildeFree s = true ∧ tildeFree (s ++ "[0]") = true ∧ ∀ d, lookup ds s = some d → d.names.all tildeFree = true)) :
    resolveRead cfgT ds Ct s = resolveRead cfgF ds Cf s := by
  rcases hs with hm | ⟨q1, q2, q3⟩
  · obtain ⟨a, b⟩ := h.isFork_mem s hm
    rw [resolveRead_of_isFork _ _ _ _ a, resolveRead_of_isFork _ _ _ _ b]
  · unfold resolveRead
    rw [h.isFork s q1, h.isFork _ q2, declFork_congr h ds s q3, hob]

theorem constPinΔ_dr {Ct Cf : Circ} (hcc : Cf.cc = Ct.cc) (s : String) : DR (constPinΔ Ct s) (constPinΔ Cf s) := by
  have e : constPinΔ Cf s = constPinΔ Ct s := by unfold constPinΔ; rw [hcc]
  rw [e]
  apply DR.same <;> unfold constPinΔ <;> split <;> simp [forkN]

/-- what one input pin appends with and without branch forks, for ANY circuits `Dt`, `Df` and name `x` in which the look-up of pass 2 agrees;
`a`, `a'`: what was appended before (the constant part) -/
theorem readerΔ_dr {a a' : Delta} (ha : DR a a') (cfgT cfgF : Cfg) (hbt : cfgT.bf = true) (hbf : cfgF.bf = false) (ds : List Decl)
    (inst pin : String) (idx : Nat) (Dt Df : Circ) (x : String) (hr : resolveRead cfgT ds Dt x = resolveRead cfgF ds Df x) :
    DR (a ++ forkForΔ cfgT ds Dt x ++ connΔ cfgT.bf inst pin idx (resolveRead cfgT ds Dt x).1)
      (a' ++ forkForΔ cfgF ds Df x ++ connΔ cfgF.bf inst pin idx (resolveRead cfgF ds Df x).1) := by
  have hfk : forkForΔ cfgT ds Dt x = forkForΔ cfgF ds Df x := by unfold forkForΔ; rw [hr]
  rw [hfk, hr, hbt, hbf]
  exact (ha.append (forkForΔ_same ..)).append (connΔ_dr ..)

theorem br_readerOne {Ct Cf : Circ} (h : BR Ct Cf) (cfgT cfgF : Cfg) (hob : cfgT.onebitDecl = cfgF.onebitDecl)
    (hbt : cfgT.bf = true) (hbf : cfgF.bf = false) (ds : List Decl) (inst pin : String) (idx : Nat) (s : String)
    (hq : pinQueriesOK ds s = true) :
    BR (readerOne cfgT ds inst pin idx Ct s) (readerOne cfgF ds inst pin idx Cf s) := by
  refine h.grow (readerOne_grows ..) (readerOne_grows ..) ?_
  have e2 : (constPin Ct s).2 = (constPin Cf s).2 := by unfold constPin; rw [h.cc]; split <;> rfl
  have c1 : BR (constPin Ct s).1 (constPin Cf s).1 := h.grow (constPin_grows ..) (constPin_grows ..) (constPinΔ_dr h.cc s)
  -- the name pass 2 looks up is the fork of the constant just made, or a `~`-free name
  have hs : (⟨forkKind, (constPin Cf s).2, false⟩ : NodeM) ∈ (constPin Cf s).1.nodes ∨
      (tildeFree (constPin Cf s).2 = true ∧ tildeFree ((constPin Cf s).2 ++ "[0]") = true ∧
        ∀ d, lookup ds (constPin Cf s).2 = some d → d.names.all tildeFree = true) := by
    by_cases hc : isConstBit s = true
    · left
      have : (constPin Cf s).2 = constName s Cf.cc := by unfold constPin; simp [hc]
      rw [this]
      exact (constPin_grows Cf s).mem_nodes (by simp [constPinΔ, hc, forkN])
    · have hc' : isConstBit s = false := by simpa using hc
      right
      have : (constPin Cf s).2 = s := by unfold constPin; simp [hc']
      rw [this]
      unfold pinQueriesOK at hq
      simp only [hc', Bool.false_or, Bool.and_eq_true] at hq
      exact ⟨hq.1.1, hq.1.2, fun d hd => by have := hq.2; rw [hd] at this; exact this⟩
  unfold readerOneΔ
  rw [e2]
  exact readerΔ_dr (constPinΔ_dr h.cc s) cfgT cfgF hbt hbf ds inst pin idx _ _ _ (resolveRead_congr c1 cfgT cfgF hob ds _ hs)

theorem br_readerPin {Ct Cf : Circ} (h : BR Ct Cf) (cfgT cfgF : Cfg) (hob : cfgT.onebitDecl = cfgF.onebitDecl)
    (hbt : cfgT.bf = true) (hbf : cfgF.bf = false) (tl : TL) (ds : List Decl) (ty inst : String) (ps : String × SelVal)
    (hq : (match ps.2 with | .one s => pinQueriesOK ds s | .many _ => true) = true) :
    BR (readerPin cfgT tl ds ty inst Ct ps) (readerPin cfgF tl ds ty inst Cf ps) := by
  unfold readerPin
  split
  · exact br_fail h
  · exact h
  · split
    · exact br_fail h
    · rename_i s0 hs0
      rw [hs0] at hq
      exact br_readerOne h cfgT cfgF hob hbt hbf ds inst ps.1 _ s0 hq

theorem BR.foldl {α} {f g : Circ → α → Circ} (l : List α) (hs : ∀ Ct Cf, BR Ct Cf → ∀ x ∈ l, BR (f Ct x) (g Cf x)) {Ct Cf : Circ}
    (h : BR Ct Cf) : BR (l.foldl f Ct) (l.foldl g Cf) := by
  induction l generalizing Ct Cf with
  | nil => exact h
  | cons x xs ih => exact ih (fun a b hab y hy => hs a b hab y (List.mem_cons_of_mem _ hy)) (hs Ct Cf h x List.mem_cons_self)

theorem br_pass2 {Ct Cf : Circ} (h : BR Ct Cf) (cfgT cfgF : Cfg) (hob : cfgT.onebitDecl = cfgF.onebitDecl)
    (hbt : cfgT.bf = true) (hbf : cfgF.bf = false) (tl : TL) (ds : List Decl) (stmts : List Stmt)
    (hq : ∀ s ∈ stmts, stmtQueriesOK ds s = true) :
    BR (stmts.foldl (pass2Stmt cfgT tl ds) Ct) (stmts.foldl (pass2Stmt cfgF tl ds) Cf) := by
  refine BR.foldl stmts (fun Ct Cf h s hs => ?_) h
  cases s with
  | inst ty nm pins =>
    exact BR.foldl pins (fun Ct Cf h ps hps => br_readerPin h cfgT cfgF hob hbt hbf tl ds ty nm ps
      (List.all_eq_true.mp (hq _ hs) ps hps)) h
  | decls _ => exact h
  | assign _ _ => exact h
  | other => exact h

theorem br_outName {Ct Cf : Circ} (h : BR Ct Cf) (n : String) (h1 : tildeFree n = true) (h2 : tildeFree (n ++ "[0]") = true) :
    BR (outName Ct n) (outName Cf n) := by
  refine h.grow (outName_grows Ct n) (outName_grows Cf n) ?_
  have e : outNameΔ Ct n = outNameΔ Cf n := by unfold outNameΔ; rw [h.isFork n h1, h.isFork _ h2]
  rw [e]
  apply DR.same <;> unfold outNameΔ <;> split <;> (try split) <;> simp

theorem br_outPass {Ct Cf : Circ} (h : BR Ct Cf) (ds : List Decl) (hq : ∀ d ∈ ds, outQueriesOK d = true) :
    BR (outPass ds Ct) (outPass ds Cf) := by
  refine BR.foldl ds (fun Ct Cf h d hd => ?_) h
  unfold outDecl
  by_cases hk : d.kind = .output
  · have hall := hq d hd
    simp only [outQueriesOK, hk, bne_self_eq_false, Bool.false_or, List.all_eq_true, Bool.and_eq_true] at hall
    simp only [hk, beq_self_eq_true, if_true]
    exact BR.foldl d.names (fun Ct Cf h n hn => br_outName h n (hall n hn).1 (hall n hn).2) h
  · have : (d.kind == DKind.output) = false := by simp [hk]
    simp only [this]
    exact h

def readerCell (l : LineM) : Option (String × Nat) :=
  match l.r with
  | .cell n p => some (n, p)
  | .fork _ => none

/-- the (cell, pin) reader end points of the lines, in line order -/
def RC (C : Circ) : List (String × Nat) := C.lines.filterMap readerCell

def pinReaders (tl : TL) (ty inst : String) (ps : String × SelVal) : List (String × Nat) :=
  match tl ty ps.1 with
  | some (idx, false) => (match ps.2 with
    | .one _ => [(inst, idx)]
    | .many _ => [])
  | _ => []

def stmtReaders (tl : TL) : Stmt → List (String × Nat)
  | .inst ty inst pins => pins.flatMap (pinReaders tl ty inst)
  | _ => []

section rc
variable (C : Circ)
@[simp] theorem rc_addFork (n : String) (b : Bool) : RC (C.addFork n b) = RC C := rfl
@[simp] theorem rc_addCell (k n : String) : RC (C.addCell k n) = RC C := rfl
@[simp] theorem rc_failIf (b : Bool) : RC (C.failIf b) = RC C := rfl
@[simp] theorem rc_fail : RC C.fail = RC C := rfl
@[simp] theorem rc_incCC : RC C.incCC = RC C := rfl
@[simp] theorem rc_pushIo (k : Nat) (n : String) : RC (C.pushIo k n) = RC C := rfl
@[simp] theorem rc_addLine_fork (d : Ep) (f : String) (v : Option String) : RC (C.addLine d (.fork f) v) = RC C := by
  simp [RC, readerCell]
@[simp] theorem rc_addLine_cell (d : Ep) (n : String) (p : Nat) (v : Option String) :
    RC (C.addLine d (.cell n p) v) = RC C ++ [(n, p)] := by
  simp [RC, readerCell]
end rc

theorem Grows.rc {A B : Circ} {d : Delta} (h : Grows A B d) : RC B = RC A ++ d.lines.filterMap readerCell := by
  unfold RC; rw [h.lines, List.filterMap_append]

theorem rc_afterPass15 (cfg : Cfg) (tl : TL) (ports : List String) (stmts : List Stmt) : RC (afterPass15 cfg tl ports stmts) = [] := by
  obtain ⟨d, g, e⟩ := (afterPass15_early cfg tl ports stmts).1
  rw [g.rc]
  exact List.filterMap_eq_nil_iff.mpr fun l hl => by
    obtain ⟨f, hf⟩ := (e.2 l hl).2
    unfold readerCell; rw [hf]

def rcOf (d : Delta) : List (String × Nat) := d.lines.filterMap readerCell

theorem readerOneΔ_rc (cfg : Cfg) (ds : List Decl) (inst pin : String) (idx : Nat) (C : Circ) (s0 : String) :
    rcOf (readerOneΔ cfg ds inst pin idx C s0) = [(inst, idx)] := by
  unfold readerOneΔ constPinΔ forkForΔ connΔ
  split <;> split <;> rfl

theorem readerPinΔ_rc (cfg : Cfg) (tl : TL) (ds : List Decl) (ty inst : String) (C : Circ) (ps : String × SelVal) :
    rcOf (readerPinΔ cfg tl ds ty inst C ps) = pinReaders tl ty inst ps := by
  have : pinReaders tl ty inst ps = (p2In tl ty ps).toList.map fun c => (inst, c.2.1) := by
    unfold pinReaders p2In
    cases tl ty ps.1 with
    | none => rfl
    | some v => obtain ⟨idx, o⟩ := v; cases o <;> cases ps.2 <;> rfl
  rw [this]
  unfold readerPinΔ
  cases p2In tl ty ps with
  | none => rfl
  | some c => exact readerOneΔ_rc cfg ds inst c.1 c.2.1 C c.2.2

theorem pass2StmtΔ_rc (cfg : Cfg) (tl : TL) (ds : List Decl) (C : Circ) (s : Stmt) :
    rcOf (pass2StmtΔ cfg tl ds C s) = stmtReaders tl s := by
  cases s with
  | inst ty nm pins =>
    exact Delta.walk_proj rcOf rfl (fun a b => List.filterMap_append ..) _ pins (fun C x _ => readerPinΔ_rc cfg tl ds ty nm C x) C
  | decls _ => rfl
  | assign _ _ => rfl
  | other => rfl

theorem rc_afterPass2 (cfg : Cfg) (tl : TL) (ports : List String) (stmts : List Stmt) :
    RC (afterPass2 cfg tl ports stmts) = stmts.flatMap (stmtReaders tl) := by
  unfold afterPass2
  rw [(Grows.foldl (pass2Stmt_grows cfg tl _) stmts _).rc, rc_afterPass15, List.nil_append]
  exact Delta.walk_proj rcOf rfl (fun a b => List.filterMap_append ..) _ stmts (fun C x _ => pass2StmtΔ_rc cfg tl _ C x) _

/-- what the output pass adds: lines into pin 0 of cells named after output-port bits -/
def OutRC (ds : List Decl) (x : String × Nat) : Prop :=
  x.2 = 0 ∧ ∃ d ∈ ds, d.kind = .output ∧ ∃ n ∈ d.names, x.1 = n ∨ x.1 = n ++ "[0]"

theorem rc_outPass (ds : List Decl) (C : Circ) : ∃ o, RC (outPass ds C) = RC C ++ o ∧ ∀ x ∈ o, OutRC ds x := by
  have happ : ∀ a b : Delta, (∀ x ∈ rcOf a, OutRC ds x) → (∀ x ∈ rcOf b, OutRC ds x) → ∀ x ∈ rcOf (a ++ b), OutRC ds x :=
    fun a b ha hb x hx => by
      rw [rcOf, Delta.app_lines, List.filterMap_append] at hx
      exact (List.mem_append.mp hx).elim (ha x) (hb x)
  refine ⟨_, (Grows.foldl outDecl_grows ds C).rc, ?_⟩
  refine Delta.walk_all (fun dl => ∀ x ∈ rcOf dl, OutRC ds x) nofun happ ds (fun C d hd => ?_) C
  unfold outDeclΔ
  by_cases hk : d.kind = .output
  · simp only [hk, beq_self_eq_true, if_true]
    refine Delta.walk_all (fun dl => ∀ x ∈ rcOf dl, OutRC ds x) nofun happ d.names (fun C n hn x hx => ?_) C
    have hx' : x = (n, 0) ∨ x = (n ++ "[0]", 0) := by
      unfold outNameΔ rcOf at hx
      split at hx
      · left; simpa [readerCell] using hx
      · split at hx
        · right; simpa [readerCell] using hx
        · cases hx
    rcases hx' with rfl | rfl
    · exact ⟨rfl, d, hd, hk, n, hn, .inl rfl⟩
    · exact ⟨rfl, d, hd, hk, n, hn, .inr rfl⟩
  · have : (d.kind == DKind.output) = false := by simp [hk]
    simp only [this]
    exact nofun

def exTL : TL := fun k p =>
  if k == "NAND2_X1" then (if p == "A1" then some (0, false) else if p == "A2" then some (1, false) else if p == "ZN" then some (0, true) else none)
  else if k == "INV_X1" then (if p == "I" then some (0, false) else if p == "ZN" then some (0, true) else none)
  else none

/-- `module m(z, a, e); input [1:0] a; input [0:0] e; output [0:1] z; wire w; wire n;
    NAND2_X1 u1 (.ZN(w), .A2(a[0]), .A1(a[1]));  INV_X1 u2 (.I(e), .ZN(n));  INV_X1 u3 (.I(1'b1), .ZN(k));
    assign z = {w, n}; endmodule` -/
def exStmts : List Stmt := [
  RStmt.decl .input (some (1, some 0)) ["a"], RStmt.decl .input (some (0, some 0)) ["e"],
  RStmt.decl .output (some (0, some 1)) ["z"], RStmt.decl .wire none ["w"], RStmt.decl .wire none ["n"],
  RStmt.inst "NAND2_X1" "u1" [("ZN", some (.name "w")), ("A2", some (.bits "a" 0 none)), ("A1", some (.bits "a" 1 none))],
  RStmt.inst "INV_X1" "u2" [("I", some (.name "e")), ("ZN", some (.name "n"))],
  RStmt.inst "INV_X1" "u3" [("I", some (.const 1 'b' ['1'])), ("ZN", some (.name "k"))],
  RStmt.assign (.name "z") (.concat [.name "w", .name "n"])].map transform

/-- bench: `INPUT(a) INPUT(b) OUTPUT(z) z = NAND(n, a) n = NOT(b)` -/
def exBench : List BStmt := [.intf ["a"], .intf ["b"], .intf ["z"], .gate "z" "NAND" ["n", "a"], .gate "n" "NOT" ["b"]]

end KV.Netlist
