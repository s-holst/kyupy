import KyupyVerif.Proofs.Lanes
/-! What the complete tables of the array operators (`Gen/MvTables.lean`) and the recorded bit-parallel operators
(`Gen/Bp.lean`) are checked with: statements over all values of `V3` / `V2` are decidable by enumeration; an operator
of three or four operands is compared with the nesting of the two-operand one, bit-parallel operators on all operand
tuples at once (`lanes8`), tables block by block. -/
namespace KV

/-- Decided through `List.all` over `V3.all`, so that the kernel evaluates a statement over all values exactly as it
would a hand-written Boolean checker.  This and the next instance are what `revert ..; decide +kernel` in
`Props/C12.lean` resolves to. -/
instance V3.decidableForall {p : V3 → Prop} [DecidablePred p] : Decidable (∀ a, p a) :=
  decidable_of_bool (V3.all.all fun a => decide (p a)) (by
    simp only [List.all_eq_true, decide_eq_true_eq]
    exact ⟨fun h a => h a (V3.all_complete a), fun h a _ => h a⟩)
instance V2.decidableForall {p : V2 → Prop} [DecidablePred p] : Decidable (∀ a, p a) :=
  decidable_of_bool (V2.all.all fun a => decide (p a)) (by
    simp only [List.all_eq_true, decide_eq_true_eq]
    exact ⟨fun h a => h a (V2.all_complete a), fun h a _ => h a⟩)

theorem P3.of_toV3 {p : P3 Bool} {v : V3} (h : p.toV3 = v) : p = .ofV3 v := h ▸ rfl

def tab (tbl i : Nat) : Nat := (tbl >>> (3 * i)) % 8

theorem V3.code_ofCode (v : V3) : V3.ofCode v.code = v := by
  rcases v with ⟨a,b,c⟩; cases a <;> cases b <;> cases c <;> rfl

theorem V2.code_ofV3 (v : V3) : (V2.ofV3 v).code = v.code % 4 := by
  revert v
  decide

def mvAgree2 (tbl : Nat) (f : V3 → V3 → V3) : Bool :=
  V3.all.all fun a => V3.all.all fun b => tab tbl (a.code + 8 * b.code) == (f a b).code

theorem mvAgree2_sound {tbl f} (h : mvAgree2 tbl f = true) (a b : V3) :
    tab tbl (a.code + 8 * b.code) = (f a b).code := by
  simp only [mvAgree2, List.all_eq_true, beq_iff_eq] at h; exact h a (V3.all_complete a) b (V3.all_complete b)

/-! ### tables of three and four operands

Rows `n * j .. n * j + n - 1` of a table are one numeral.  With the last operands `j` fixed, the table of one more
operand must show the rows that the shorter table has for the result `tab t j` of the two-operand table on them.
So the tables nest to the right, `[a, b, c]` as `[a, [b, c]]`, which is `spec*_cons` as it stands. -/

def blk (n tbl j : Nat) : Nat := (tbl >>> (3 * (n * j))) % 2 ^ (3 * n)

theorem tab_blk {n i : Nat} (tbl j : Nat) (hi : i < n) : tab (blk n tbl j) i = tab tbl (i + n * j) := by
  apply Nat.eq_of_testBit_eq
  intro k
  simp only [tab, blk, show 8 = 2 ^ 3 from rfl, Nat.testBit_mod_two_pow, Nat.testBit_shiftRight]
  by_cases hk : k < 3
  · rw [show 3 * (n * j) + (3 * i + k) = 3 * (i + n * j) + k by omega]
    simp [hk, show 3 * i + k < 3 * n by omega]
  · simp [hk]

theorem tab_nest {n m t T U : Nat} (h : ∀ j ∈ List.range m, blk n T j = blk n U (tab t j)) {i j : Nat}
    (hi : i < n) (hj : j < m) : tab T (i + n * j) = tab U (i + n * tab t j) := by
  rw [← tab_blk T j hi, h j (List.mem_range.mpr hj), tab_blk _ _ hi]

theorem V3.code_lt_8 (v : V3) : v.code < 8 := by
  revert v
  decide

theorem mv3_of_mv2 {t2 t3 : Nat} {f : List V3 → V3} (h : ∀ j ∈ List.range 64, blk 8 t3 j = blk 8 t2 (tab t2 j))
    (h2 : ∀ a b : V3, tab t2 (a.code + 8 * b.code) = (f [a, b]).code) (cons : ∀ x xs, f (x :: xs) = f [x, f xs])
    (a b c : V3) : tab t3 (a.code + 8 * b.code + 64 * c.code) = (f [a, b, c]).code := by
  have hb := b.code_lt_8
  have hc := c.code_lt_8
  rw [show a.code + 8 * b.code + 64 * c.code = a.code + 8 * (b.code + 8 * c.code) by omega,
    tab_nest h a.code_lt_8 (by omega), h2 b c, h2, ← cons]

theorem mv4_of_mv3 {t2 t3 t4 : Nat} {f : List V3 → V3} (h : ∀ j ∈ List.range 64, blk 64 t4 j = blk 64 t3 (tab t2 j))
    (h2 : ∀ a b : V3, tab t2 (a.code + 8 * b.code) = (f [a, b]).code)
    (h3 : ∀ a b c : V3, tab t3 (a.code + 8 * b.code + 64 * c.code) = (f [a, b, c]).code)
    (cons : ∀ x xs, f (x :: xs) = f [x, f xs]) (a b c d : V3) :
    tab t4 (a.code + 8 * b.code + 64 * c.code + 512 * d.code) = (f [a, b, c, d]).code := by
  have ha := a.code_lt_8
  have hb := b.code_lt_8
  have hc := c.code_lt_8
  have hd := d.code_lt_8
  rw [show a.code + 8 * b.code + 64 * c.code + 512 * d.code = a.code + 8 * b.code + 64 * (c.code + 8 * d.code) by omega,
    tab_nest h (by omega) (by omega), h2 c d, h3, cons a [b, f [c, d]], ← cons b [c, d], ← cons a [b, c, d]]

/-! ### bit-parallel operators of three and four operands

`nest3` nests to the left and `nest4` in pairs, the shapes in which `bp8_*3_nested` / `bp8_*4_nested` of `Props/C12.lean`
state it; to get from there to `spec*` of the flat operand list takes `spec*_perm` besides `spec*_cons`. -/

theorem nest3 {g2 : ∀ {α : Type} [BAlg α], P3 α → P3 α → P3 α} {g3 : ∀ {α : Type} [BAlg α], P3 α → P3 α → P3 α → P3 α}
    (hom2 : ∀ {α β : Type} [BAlg α] [BAlg β] (h : BHom α β) (a b : P3 α), h.f3 (g2 a b) = g2 (h.f3 a) (h.f3 b))
    (hom3 : ∀ {α β : Type} [BAlg α] [BAlg β] (h : BHom α β) (a b c : P3 α),
      h.f3 (g3 a b c) = g3 (h.f3 a) (h.f3 b) (h.f3 c))
    (h : g3 (col 0) (col 1) (col 2) = g2 (g2 (col 0) (col 1)) (col 2)) (a b c : V3) :
    g3 (.ofV3 a) (.ofV3 b) (.ofV3 c) = g2 (g2 (.ofV3 a) (.ofV3 b)) (.ofV3 c) :=
  lanes8 (g := fun x y z _ => g3 x y z) (g' := fun x y z _ => g2 (g2 x y) z) (fun h x y z _ => hom3 h x y z)
    (fun h x y z _ => by rw [hom2, hom2]) h a b c c

theorem nest4 {g2 : ∀ {α : Type} [BAlg α], P3 α → P3 α → P3 α}
    {g4 : ∀ {α : Type} [BAlg α], P3 α → P3 α → P3 α → P3 α → P3 α}
    (hom2 : ∀ {α β : Type} [BAlg α] [BAlg β] (h : BHom α β) (a b : P3 α), h.f3 (g2 a b) = g2 (h.f3 a) (h.f3 b))
    (hom4 : ∀ {α β : Type} [BAlg α] [BAlg β] (h : BHom α β) (a b c d : P3 α),
      h.f3 (g4 a b c d) = g4 (h.f3 a) (h.f3 b) (h.f3 c) (h.f3 d))
    (h : g4 (col 0) (col 1) (col 2) (col 3) = g2 (g2 (col 0) (col 1)) (g2 (col 2) (col 3))) (a b c d : V3) :
    g4 (.ofV3 a) (.ofV3 b) (.ofV3 c) (.ofV3 d) = g2 (g2 (.ofV3 a) (.ofV3 b)) (g2 (.ofV3 c) (.ofV3 d)) :=
  lanes8 (g' := fun x y z w => g2 (g2 x y) (g2 z w)) hom4 (fun h x y z w => by rw [hom2, hom2, hom2]) h a b c d

end KV
