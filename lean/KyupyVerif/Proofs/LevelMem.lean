import KyupyVerif.Proofs.WaveIOOrder
import KyupyVerif.Proofs.MemMapSpec
/-! A level under an ARBITRARY thread order, on the REAL kind of table: several rows of one level may write the scratch slot
(`tmp_idx`: every gate with an unconnected output, sim.py:198), so the threads of a level do NOT commute on the scratch
regions — but they do everywhere else, and the accumulators agree.

* `foldl_perm_rel`: a fold over a permuted list gives RELATED results when the steps respect the relation and commute up to it;
* `cpuBody_congJ` / `cpuBody_commJ`: the loop body of `level_eval_cpu` respects / commutes up to "equal accumulators, equal
  memory outside `J`" under per-row footprints (`OpLocal`);
* `level_any_order_modJ`: every permutation of the (sim, op) work items of a level vs `level_eval_cpu`;
* with the footprint of the waveform evaluator (`evWave_opLocal`, Proofs/WaveIOOrder.lean): `level_any_order_wave_modscratch`;
* `levelsIndepB_of_check`: the Boolean conditions of `Model/LevelMem.lean` FOLLOW from the map certificate `MapIn.check = none`
  (C08) — for every table, in particular the real ones. -/
namespace KV.WaveIO
open KV.Wave KV.Grid

theorem foldl_perm_rel {σ β} (R : σ → σ → Prop) (hrefl : ∀ s, R s s) (htrans : ∀ a b c, R a b → R b c → R a c)
    (f : σ → β → σ) {l l' : List β} (hp : l.Perm l')
    (cong : ∀ b ∈ l, ∀ s s', R s s' → R (f s b) (f s' b))
    (comm : ∀ a ∈ l, ∀ b ∈ l, ∀ s, R (f (f s a) b) (f (f s b) a)) (s s' : σ) (h : R s s') :
    R (l.foldl f s) (l'.foldl f s') := by
  induction hp generalizing s s' with
  | nil => exact h
  | cons x _ ih =>
    simp only [List.foldl_cons]
    exact ih (fun b hb => cong b (List.mem_cons_of_mem _ hb))
      (fun a ha b hb => comm a (List.mem_cons_of_mem _ ha) b (List.mem_cons_of_mem _ hb)) _ _
      (cong x List.mem_cons_self s s' h)
  | swap x y l =>
    simp only [List.foldl_cons]
    refine List.foldl_rel (r := R) ?_ (fun b hb => cong b (by simp [hb]))
    refine htrans _ _ _ (comm y (by simp) x (by simp) s) ?_
    exact cong y (by simp) _ _ (cong x (by simp) _ _ h)
  | trans h1 _ ih1 ih2 =>
    refine htrans _ _ _ (ih1 cong comm s s' h) ?_
    exact ih2 (fun b hb => cong b (h1.mem_iff.mpr hb))
      (fun a ha b hb => comm a (h1.mem_iff.mpr ha) b (h1.mem_iff.mpr hb)) s' s' (hrefl s')

def EqJ (J : Int → Prop) (st st' : LaneSt) : Prop := st.ab = st'.ab ∧ ∀ a, ¬ J a → st.c a = st'.c a

theorem EqJ.refl (J : Int → Prop) (st : LaneSt) : EqJ J st st := ⟨rfl, fun _ _ => rfl⟩
theorem EqJ.trans {J : Int → Prop} {a b c : LaneSt} (h1 : EqJ J a b) (h2 : EqJ J b c) : EqJ J a c :=
  ⟨h1.1.trans h2.1, fun x hx => (h1.2 x hx).trans (h2.2 x hx)⟩

theorem EqJ.eq_of_empty {st st' : LaneSt} (h : EqJ (fun _ => False) st st') : st = st' := by
  cases st; cases st'
  obtain ⟨h1, h2⟩ := h
  simp only at h1 h2
  subst h1
  congr
  funext a
  exact h2 a id

theorem cpuBody_congJ (ev : Ev) (J rd wr : Int → Prop) (o : AOp) (h : OpLocal ev rd wr o.op) (hrd : ∀ a, rd a → ¬ J a)
    (sim : Nat) (st st' : LaneSt) (e : EqJ J st st') : EqJ J (cpuBody ev o sim st) (cpuBody ev o sim st') := by
  obtain ⟨d1, d2⟩ := h.dep sim st.c st'.c (fun a ha => e.2 a (hrd a ha))
  constructor
  · show accAdd o (ev o.op sim st.c).2.1 (ev o.op sim st.c).2.2 st.ab =
      accAdd o (ev o.op sim st'.c).2.1 (ev o.op sim st'.c).2.2 st'.ab
    rw [d2, e.1]
  · intro a ha
    exact d1 a (e.2 a ha)

theorem cpuBody_commJ (ev : Ev) (J rda wra rdb wrb : Int → Prop) (a b : AOp) (ha : OpLocal ev rda wra a.op)
    (hb : OpLocal ev rdb wrb b.op) (h1 : ∀ x, wra x → ¬ rdb x) (h2 : ∀ x, wrb x → ¬ rda x)
    (h3 : ∀ x, wra x → wrb x → J x) (sim : Nat) (st : LaneSt) :
    EqJ J (cpuBody ev b sim (cpuBody ev a sim st)) (cpuBody ev a sim (cpuBody ev b sim st)) := by
  have ra : ∀ x, rda x → (ev b.op sim st.c).1 x = st.c x := fun x hx => hb.frame sim st.c x (fun hw => h2 x hw hx)
  have rb : ∀ x, rdb x → (ev a.op sim st.c).1 x = st.c x := fun x hx => ha.frame sim st.c x (fun hw => h1 x hw hx)
  obtain ⟨da, ca⟩ := ha.dep sim (ev b.op sim st.c).1 st.c ra
  obtain ⟨db, cb⟩ := hb.dep sim (ev a.op sim st.c).1 st.c rb
  constructor
  · show accAdd b (ev b.op sim (ev a.op sim st.c).1).2.1 (ev b.op sim (ev a.op sim st.c).1).2.2
        (accAdd a (ev a.op sim st.c).2.1 (ev a.op sim st.c).2.2 st.ab) =
      accAdd a (ev a.op sim (ev b.op sim st.c).1).2.1 (ev a.op sim (ev b.op sim st.c).1).2.2
        (accAdd b (ev b.op sim st.c).2.1 (ev b.op sim st.c).2.2 st.ab)
    rw [ca, cb]
    exact accAdd_comm b a _ _ _ _ st.ab
  · intro x hx
    show (ev b.op sim (ev a.op sim st.c).1).1 x = (ev a.op sim (ev b.op sim st.c).1).1 x
    by_cases hwa : wra x
    · have hwb : ¬ wrb x := fun h => hx (h3 x hwa h)
      rw [hb.frame sim _ x hwb]
      exact (da x (hb.frame sim st.c x hwb)).symm
    · rw [ha.frame sim _ x hwa]
      exact db x (ha.frame sim st.c x hwa)

/-- **a level under an arbitrary thread order, modulo `J`.** Rows `y < op_stop - op_start` of the level with footprints
    `rd`/`wr`: no row reads inside `J`; of two different rows neither writes what the other reads, and their write sets meet
    inside `J` only. Then every permutation of the work items `(sim, op)` leaves, on every lane, the same accumulators and the
    same memory outside `J` as `level_eval_cpu`. -/
theorem level_any_order_modJ (ev : Ev) (J : Int → Prop) (rd wr : OpRow → Int → Prop) (ops : List AOp)
    (opStart opStop sims : Nat)
    (hloc : ∀ y, y < opStop - opStart →
      OpLocal ev (rd (ops.getD (opStart + y) default).op) (wr (ops.getD (opStart + y) default).op) (ops.getD (opStart + y) default).op)
    (hrd : ∀ y, y < opStop - opStart → ∀ x, rd (ops.getD (opStart + y) default).op x → ¬ J x)
    (hind : ∀ y y', y < opStop - opStart → y' < opStop - opStart → y ≠ y' →
      (∀ x, wr (ops.getD (opStart + y) default).op x → ¬ rd (ops.getD (opStart + y') default).op x) ∧
      (∀ x, wr (ops.getD (opStart + y) default).op x → wr (ops.getD (opStart + y') default).op x → J x))
    (l : List (Nat × Nat)) (hl : l.Perm (cpuLoop sims (opStop - opStart))) (S : Nat → LaneSt) (k : Nat) :
    EqJ J (runLanes (evalWork ev ops opStart) l S k) (cpuLevel ev ops opStart opStop 0 sims S k) := by
  -- lanes do not interact (`runLanes_lane`): a permutation of the work items permutes lane `k`'s own sequence
  rw [cpuLevel_eq_runLanes, runLanes_lane, runLanes_lane]
  have hy : ∀ y ∈ laneSeq l k, y < opStop - opStart := fun y h => (mem_cpuLoop.mp (hl.mem_iff.mp (mem_laneSeq.mp h))).2
  refine foldl_perm_rel (EqJ J) (EqJ.refl J) (fun _ _ _ => EqJ.trans) _ (laneSeq_perm hl k) ?_ ?_ _ _ (EqJ.refl J _)
  · intro y h st st' e
    exact cpuBody_congJ ev J _ _ _ (hloc y (hy y h)) (hrd y (hy y h)) k st st' e
  · intro y h y' h' st
    by_cases e : y = y'
    · subst e; exact EqJ.refl J _
    · obtain ⟨a1, a2⟩ := hind y y' (hy y h) (hy y' h') e
      exact cpuBody_commJ ev J _ _ _ _ _ _ (hloc y (hy y h)) (hloc y' (hy y' h')) a1
        (hind y' y (hy y' h') (hy y h) (Ne.symm e)).1 a2 k st

def scrAddr (loc : Nat → Int) (cap : Nat → Nat) (t1 t2 : Nat) (x : Int) : Prop :=
  inRegion loc cap t1 x ∨ inRegion loc cap t2 x

theorem isScr_addr {loc : Nat → Int} {cap : Nat → Nat} {t1 t2 i : Nat} (h : isScr t1 t2 i = true) (x : Int)
    (hx : inRegion loc cap i x) : scrAddr loc cap t1 t2 x := by
  simp only [isScr, Bool.or_eq_true, beq_iff_eq] at h
  rcases h with rfl | rfl
  · exact .inl hx
  · exact .inr hx

theorem rowScrFreeB_sound {loc : Nat → Int} {cap : Nat → Nat} {t1 t2 : Nat} {o : OpRow}
    (h : rowScrFreeB loc cap t1 t2 o = true) (x : Int) (hx : ∃ i ∈ o.ins, inRegion loc cap i x) :
    ¬ scrAddr loc cap t1 t2 x := by
  obtain ⟨i, hi, hx⟩ := hx
  simp only [rowScrFreeB, List.all_eq_true, Bool.and_eq_true] at h
  rintro (h' | h')
  · exact disjointB_sound (h i hi).1 x hx h'
  · exact disjointB_sound (h i hi).2 x hx h'

theorem rowAwayB_sound {loc : Nat → Int} {cap : Nat → Nat} {t1 t2 : Nat} {a b : OpRow}
    (h : rowAwayB loc cap t1 t2 a b = true) (hb : rowScrFreeB loc cap t1 t2 b = true) :
    (∀ x, inRegion loc cap a.out x → ¬ ∃ i ∈ b.ins, inRegion loc cap i x) ∧
    (∀ x, inRegion loc cap a.out x → inRegion loc cap b.out x → scrAddr loc cap t1 t2 x) := by
  simp only [rowAwayB, Bool.or_eq_true, Bool.and_eq_true, List.all_eq_true] at h
  rcases h with hs | ⟨h1, h2⟩
  · exact ⟨fun x hx hr => rowScrFreeB_sound hb x hr (isScr_addr hs x hx), fun x hx _ => isScr_addr hs x hx⟩
  · refine ⟨?_, ?_⟩
    · rintro x hx ⟨i, hi, hr⟩
      exact disjointB_sound (h1 i hi) x hx hr
    · intro x hx hbx
      rcases h2 with hs | hd
      · exact isScr_addr hs x hbx
      · exact absurd hbx (disjointB_sound hd x hx)

/-- **a level under an arbitrary thread order, waveform evaluator, modulo the scratch slots** `t1`, `t2`: rows with output
    capacity ≥ 2 that read no scratch memory (`rowScrFreeB`) and are pairwise independent modulo scratch (`pairIndepJB`) -/
theorem level_any_order_wave_modscratch (g : WCfg) (loc : Nat → Int) (t1 t2 : Nat) (ops : List AOp) (opStart opStop sims : Nat)
    (hcap : ∀ y, y < opStop - opStart → 2 ≤ g.cap (ops.getD (opStart + y) default).op.out)
    (hscr : ∀ y, y < opStop - opStart → rowScrFreeB loc g.cap t1 t2 (ops.getD (opStart + y) default).op = true)
    (hind : ∀ y y', y < opStop - opStart → y' < opStop - opStart → y ≠ y' →
      pairIndepJB loc g.cap t1 t2 (ops.getD (opStart + y) default).op (ops.getD (opStart + y') default).op = true)
    (l : List (Nat × Nat)) (hl : l.Perm (cpuLoop sims (opStop - opStart))) (S : Nat → LaneSt) (k : Nat) :
    EqJ (scrAddr loc g.cap t1 t2) (runLanes (evalWork (evWave (fun _ => g) loc) ops opStart) l S k)
      (cpuLevel (evWave (fun _ => g) loc) ops opStart opStop 0 sims S k) := by
  refine level_any_order_modJ (evWave (fun _ => g) loc) (scrAddr loc g.cap t1 t2)
    (fun o a => ∃ i ∈ o.ins, inRegion loc g.cap i a) (fun o a => inRegion loc g.cap o.out a) ops opStart opStop sims
    ?_ ?_ ?_ l hl S k
  · intro y hy
    exact evWave_opLocal g loc _ (hcap y hy)
  · intro y hy x hx
    exact rowScrFreeB_sound (hscr y hy) x hx
  · intro y y' hy hy' hne
    have h := hind y y' hy hy' hne
    simp only [pairIndepJB, Bool.and_eq_true] at h
    exact rowAwayB_sound h.1 (hscr y' hy')

end KV.WaveIO

namespace KV.MapSound
open KV KV.MapIn KV.WaveIO

theorem overlap_false_iff (p : MapIn) (x y : Nat) : p.overlap x y = false ↔ disjointB p.loc p.cap x y = true := by
  simp only [overlap, disjointB, Bool.and_eq_false_iff, Bool.or_eq_true, decide_eq_true_eq, decide_eq_false_iff_not]
  omega

theorem disjointB_alias {loc : Nat → Int} {cap : Nat → Nat} {i i' : Nat} (j : Nat) (h1 : loc i = loc i') (h2 : cap i = cap i') :
    disjointB loc cap i j = disjointB loc cap i' j := by
  unfold disjointB; rw [h1, h2]

theorem disjointB_comm (loc : Nat → Int) (cap : Nat → Nat) (i j : Nat) : disjointB loc cap i j = disjointB loc cap j i := by
  unfold disjointB; exact Bool.or_comm _ _

theorem rowScrFree_of_good {p : MapIn} (hg : Good p) {k : Nat} {o : OpRow} (hk : p.ops[k]? = some o) :
    rowScrFreeB p.loc p.cap p.ix.tmp p.ix.tmp2 o = true := by
  simp only [rowScrFreeB, List.all_eq_true, Bool.and_eq_true]
  intro i hi
  obtain ⟨hal, hac⟩ := hg.alias k o hk i hi
  obtain ⟨htr, _⟩ := hg.opnd k o hk i hi
  obtain ⟨j1, j2⟩ := hg.junkSep _ htr
  rw [disjointB_alias _ hal hac, disjointB_alias _ hal hac]
  exact ⟨(overlap_false_iff p _ _).mp j1, (overlap_false_iff p _ _).mp j2⟩

/-- a row that writes a signal does not touch what another row of ITS level reads or (unless that row writes scratch) writes -/
theorem rowAway_of_good {p : MapIn} (hg : Good p) {k1 k2 : Nat} {a b : OpRow} (h1 : p.ops[k1]? = some a)
    (h2 : p.ops[k2]? = some b) (hne : k1 ≠ k2) (hl : p.levelOf k1 = p.levelOf k2) :
    rowAwayB p.loc p.cap p.ix.tmp p.ix.tmp2 a b = true := by
  by_cases hja : p.isJunk a.out = true
  · simp only [rowAwayB, Bool.or_eq_true]
    exact .inl hja
  · have hja : p.isJunk a.out = false := by simpa using hja
    have hx := mem_tracked_of_out p h1 hja
    have ax := hl ▸ hg.alive_out h1 hja
    simp only [rowAwayB, Bool.or_eq_true, Bool.and_eq_true, List.all_eq_true]
    refine .inr ⟨fun i hi => ?_, ?_⟩
    · obtain ⟨hal, hac⟩ := hg.alias k2 b h2 i hi
      rw [disjointB_comm, disjointB_alias _ hal hac, disjointB_comm]
      refine (overlap_false_iff p _ _).mp (hg.disjoint_of_alive hx (hg.opnd k2 b h2 i hi).1 ?_ ax (hg.alive_opnd h2 hi))
      intro e
      have := (hg.opnd k2 b h2 i hi).2
      rw [← e, dfn_first hg h1 hja] at this
      omega
    · by_cases hjb : p.isJunk b.out = true
      · exact .inl hjb
      · have hjb : p.isJunk b.out = false := by simpa using hjb
        exact .inr ((overlap_false_iff p _ _).mp (hg.out_disjoint h2 hx
          (fun e => hne (writer_unique hg h1 h2 hja e)) ax))

/-- **the level conditions are a consequence of the map certificate** (`MapIn.levelsIndepB`, the Boolean the driver
    command `opsindep` evaluates on the real tables): no row reads scratch memory; two different rows of one level are
    footprint-independent modulo the scratch slots -/
theorem levelsIndepB_of_good {p : MapIn} (hg : Good p) : p.levelsIndepB = true := by
  simp only [levelsIndepB, List.all_eq_true, Bool.and_eq_true, Bool.or_eq_true, beq_iff_eq, bne_iff_ne, opsIdx]
  rintro ⟨a, k1⟩ h1
  have h1' := List.mem_zipIdx_iff_getElem?.1 h1
  refine ⟨rowScrFree_of_good hg h1', ?_⟩
  rintro ⟨b, k2⟩ h2
  have h2' := List.mem_zipIdx_iff_getElem?.1 h2
  by_cases hk : k1 = k2
  · exact .inl (.inl hk)
  · by_cases hl : p.levelOf k1 = p.levelOf k2
    · right
      simp only [pairIndepJB, Bool.and_eq_true]
      exact ⟨rowAway_of_good hg h1' h2' hk hl, rowAway_of_good hg h2' h1' (fun e => hk e.symm) hl.symm⟩
    · exact .inl (.inr hl)

theorem levelsIndepB_of_check (p : MapIn) (hc : p.check = none) : p.levelsIndepB = true :=
  levelsIndepB_of_good (good_of_check p hc)

theorem oneLevelB_of_gap (p : MapIn) (a b : Nat) (h : ∀ t ∈ p.starts, t ≤ a ∨ b ≤ t) : p.oneLevelB a b = true := by
  simp only [oneLevelB, List.all_eq_true, List.mem_range, beq_iff_eq]
  exact fun y hy => levelOf_const p h (Nat.le_add_right a y) (by omega)

theorem getD_op_of_map {ops : List AOp} {rows : List OpRow} (h : ops.map (·.op) = rows) {i : Nat} (hi : i < rows.length) :
    rows[i]? = some (ops.getD i default).op := by
  subst h
  rw [List.length_map] at hi
  rw [List.getElem?_map, List.getD_eq_getElem?_getD, List.getElem?_eq_getElem hi]
  rfl

/-- for a well-formed `level_starts` (begins with 0, strictly increasing, inside the program) every level
    `(level_starts[i], level_stops[i])` is one level of the table and ends inside the program -/
theorem oneLevel_of_startsOK (p : MapIn) (h : StartsOK p.starts p.ops.length) (i : Nat) (hi : i < p.starts.length) :
    p.oneLevelB (p.starts[i]) (p.starts.getD (i + 1) p.ops.length) = true ∧
    p.starts.getD (i + 1) p.ops.length ≤ p.ops.length := by
  obtain ⟨_, l2, l3⟩ := h.level hi
  exact ⟨oneLevelB_of_gap p _ _ l3, l2⟩

/-- **a level of an ACCEPTED table under an arbitrary thread order** (see `C07.level_threads_any_order`) -/
theorem level_any_order_of_check (p : MapIn) (hc : p.check = none) (hmin : 2 ≤ p.capsMin)
    (delay : Nat → Bool → Bool → Int) (ops : List AOp) (hops : ops.map (·.op) = p.ops)
    (opStart opStop sims : Nat) (hstop : opStop ≤ p.ops.length) (hlev : p.oneLevelB opStart opStop = true)
    (l : List (Nat × Nat)) (hl : l.Perm (Grid.cpuLoop sims (opStop - opStart))) (S : Nat → LaneSt) (k : Nat) :
    EqJ (scrAddr p.loc p.cap p.ix.tmp p.ix.tmp2)
      (Grid.runLanes (evalWork (evWave (fun _ => ⟨delay, p.cap⟩) p.loc) ops opStart) l S k)
      (cpuLevel (evWave (fun _ => ⟨delay, p.cap⟩) p.loc) ops opStart opStop 0 sims S k) := by
  have hg := good_of_check p hc
  have hrow : ∀ y, y < opStop - opStart → p.ops[opStart + y]? = some (ops.getD (opStart + y) default).op :=
    fun y hy => getD_op_of_map hops (by omega)
  have hl' : ∀ y, y < opStop - opStart → p.levelOf (opStart + y) = p.levelOf opStart := by
    intro y hy
    simp only [oneLevelB, List.all_eq_true, List.mem_range, beq_iff_eq] at hlev
    exact hlev y hy
  refine level_any_order_wave_modscratch ⟨delay, p.cap⟩ p.loc p.ix.tmp p.ix.tmp2 ops opStart opStop sims ?_ ?_ ?_ l hl S k
  · intro y hy
    have := cap_ge_of_check p hc _ (List.mem_of_getElem? (hrow y hy))
    show 2 ≤ p.cap _
    omega
  · intro y hy
    exact rowScrFree_of_good hg (hrow y hy)
  · intro y y' hy hy' hne
    have e : p.levelOf (opStart + y) = p.levelOf (opStart + y') := (hl' y hy).trans (hl' y' hy').symm
    simp only [pairIndepJB, Bool.and_eq_true]
    exact ⟨rowAway_of_good hg (hrow y hy) (hrow y' hy') (by omega) e,
      rowAway_of_good hg (hrow y' hy') (hrow y hy) (by omega) e.symm⟩

end KV.MapSound
