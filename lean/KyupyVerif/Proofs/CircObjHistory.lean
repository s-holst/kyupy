import KyupyVerif.Proofs.CircObjCopy
import KyupyVerif.Proofs.CircObjElim
import KyupyVerif.Proofs.CircObjSubstFull
/-! C09: every operation preserves `WFc` under its precondition (`step_wf` for the nine basic operations under `pre`,
`step2_wf` for all twelve under `pre2`), hence every history does (`run2_wf`; a history of basic operations is a
history of all twelve, `run2_base`).

Histories under STRUCTURAL preconditions only: `pre2 (.substitute ..)` = `substPre` contains `forksFull` of the RESULT (a
conjunct of the conclusion `WFc`) and the pin guards `substGuards` evaluated along the model's own run.  `pre2s` replaces it
by `substStatic` (host side: the node is a cell and stays one / is not a port when removed, no self loop; implementation
side: `implStatic`), and `resolvePre` by `resolveStatic` (`substStatic` on the circuit as it is when each substitution
starts).  `run2s` replays a history under `pre2s`; on well-formed circuits `pre2s` implies `pre2` (`substPre_of_static`,
`resolvePre_of_static`), hence every `run2s` history is a `run2` history with the same result and ends in a well-formed
circuit. -/
namespace KV.CircObj

theorem step_wf {c : Circ} (wf : WFc c) (op : Op) (hpre : pre c op = true) : WFc (step c op) := by
  cases op with
  | addNode name kind => exact addNode_wf wf hpre
  | addLine di dp ri rp =>
    simp only [pre, step] at hpre ⊢
    cases hd : c.nodes[di]? with
    | none => simp [hd] at hpre
    | some d =>
      cases hr : c.nodes[ri]? with
      | none => simp [hd, hr] at hpre
      | some r =>
        simp only [hd, hr, Bool.and_eq_true] at hpre ⊢
        exact addLine_wf_of_pinOK wf (List.mem_of_getElem? hd) (List.mem_of_getElem? hr) hpre.1 hpre.2
  | removeLine li =>
    simp only [pre, decide_eq_true_eq] at hpre
    simp only [step, List.getElem?_eq_getElem hpre]
    exact removeLine_wf wf (List.getElem_mem hpre)
  | removeNode ni =>
    simp only [pre, step] at hpre ⊢
    cases hi : c.nodes[ni]? with
    | none => simp [hi] at hpre
    | some i =>
      simp only [hi, Bool.and_eq_true, Bool.not_eq_true', List.contains_eq_mem, decide_eq_false_iff_not] at hpre ⊢
      exact removeNode_wf wf (List.mem_of_getElem? hi) (all_isNone_pin hpre.1.1) (all_isNone_pin hpre.1.2) hpre.2
  | ioAppend ni =>
    simp only [pre, decide_eq_true_eq] at hpre
    simp only [step, List.getElem?_eq_getElem hpre]
    exact ioAppend_wf wf (List.getElem_mem hpre)
  | getFork name => exact getOrAddFork_wf wf name
  | elim => exact elim_wf wf hpre
  | copy => exact copy_wf wf
  | pickle => exact pickle_wf wf

theorem step2_wf {c c' : Circ} (wf : WFc c) (op : Op2) (hpre : pre2 c op = true) (h : step2 c op = some c') : WFc c' := by
  cases op with
  | base op =>
    simp only [step2, Option.some.injEq] at h
    exact h ▸ step_wf wf op hpre
  | substitute ni m =>
    simp only [pre2, step2] at hpre h
    cases hi : c.nodes[ni]? with
    | none => simp [hi] at hpre
    | some i => simp only [hi] at hpre h; exact substituteObj_wf wf hpre h
  | removeDangling ni =>
    simp only [pre2, decide_eq_true_eq] at hpre
    simp only [step2, List.getElem?_eq_getElem hpre] at h
    exact removeDanglingObj_wf wf (List.getElem_mem hpre) h
  | resolve lib => exact resolveObj_wf wf hpre h

theorem run2_wf (ops : List Op2) (c c' : Circ) (wf : WFc c) (h : run2 c ops = some c') : WFc c' := by
  induction ops generalizing c with
  | nil => simp only [run2, Option.some.injEq] at h; exact h ▸ wf
  | cons op rest ih =>
    simp only [run2] at h
    split at h
    · rename_i hp
      cases hs : step2 c op with
      | none => simp [hs] at h
      | some c1 => simp only [hs] at h; exact ih c1 (step2_wf wf op hp hs) h
    · cases h

theorem run2_base (ops : List Op) (c : Circ) : run2 c (ops.map .base) = run c ops := by
  induction ops generalizing c with
  | nil => rfl
  | cons op rest ih => simp [run2, run, pre2, step2, ih]

theorem run2_prefix (ops rest : List Op2) (c0 c : Circ) (h : run2 c0 (ops ++ rest) = some c) : ∃ c', run2 c0 ops = some c' := by
  induction ops generalizing c0 with
  | nil => exact ⟨c0, rfl⟩
  | cons op ops ih =>
    simp only [List.cons_append, run2] at h ⊢
    split at h
    · rename_i hp
      simp only [hp, if_true]
      cases hs : step2 c0 op with
      | none => simp [hs] at h
      | some c1 => simp only [hs] at h ⊢; exact ih _ h
    · cases h


/-- structural well-formed use of the twelve operations: nothing about the RESULT of `substitute` is assumed -/
def pre2s (c : Circ) : Op2 → Bool
  | .base op => pre c op
  | .substitute ni m => match c.nodes[ni]? with
    | some i => substStatic c i m
    | none => false
  | .removeDangling ni => ni < c.nodes.length
  | .resolve lib => resolveStatic lib c

def run2s (c : Circ) : List Op2 → Option Circ
  | [] => some c
  | op :: rest =>
    if pre2s c op then
      match step2 c op with
      | some c' => run2s c' rest
      | none => none
    else none

theorem pre2_of_static {c : Circ} (wf : WFc c) (op : Op2) (h : pre2s c op = true) : pre2 c op = true := by
  cases op with
  | base op => exact h
  | substitute ni m =>
    simp only [pre2s, pre2] at h ⊢
    cases hi : c.nodes[ni]? with
    | none => simp [hi] at h
    | some i => simp only [hi] at h ⊢; exact substPre_of_static wf h
  | removeDangling ni => exact h
  | resolve lib => exact resolvePre_of_static wf h

theorem run2_of_run2s (ops : List Op2) (c c' : Circ) (wf : WFc c) (h : run2s c ops = some c') : run2 c ops = some c' := by
  induction ops generalizing c with
  | nil => exact h
  | cons op rest ih =>
    simp only [run2s] at h
    simp only [run2]
    split at h
    · rename_i hp
      have hp2 := pre2_of_static wf op hp
      simp only [hp2, if_true]
      cases hs : step2 c op with
      | none => simp [hs] at h
      | some c1 => simp only [hs] at h ⊢; exact ih c1 (step2_wf wf op hp2 hs) h
    · cases h

theorem run2s_wf (ops : List Op2) (c c' : Circ) (wf : WFc c) (h : run2s c ops = some c') : WFc c' :=
  run2_wf ops c c' wf (run2_of_run2s ops c c' wf h)

end KV.CircObj
