import KyupyVerif.Proofs.SubstituteWire
import KyupyVerif.Proofs.SubstLk
/-! C10, `substitute_sem_general`: the loops of `substitute` (implementation lines, input pins, output pins) in lockstep (`Lk`), and
the loop over the implementation's nodes on the level of `Net`.  The real run (`connectIns` with the renaming of the pending line
references, `connectOuts` on the renamed references) goes against the virtual run in which the pins that the implementation ignores
count as unconnected (`clrIgn`). -/
namespace KV.Transform
open KV

/-- an instance pin that the implementation ignores counts as unconnected -/
def clrIgn (m : NNet) (p : Nat × Option Nat) : Nat × Option Nat := (p.1, if ignoredPort m p.1 then none else p.2)

section loops
variable {Own : Nat → Prop} {π : Nat → Nat} (m : NNet) (mapA mapB : Array (Option Nat))
variable (hmap : ∀ j, mapB.getD j none = (mapA.getD j none).map π)
include hmap

theorem inTarget_π (inn : Nat) : inTarget m mapB inn = (inTarget m mapA inn).map fun p => (π p.1, p.2) := by
  unfold inTarget
  dsimp only
  split
  · split
    · rw [hmap]; cases mapA.getD _ none <;> rfl
    · rfl
  · rw [hmap]; cases mapA.getD inn none <;> rfl

theorem outTarget_π (l : Nat) : outTarget m mapB l = (outTarget m mapA l).map fun p => (π p.1, p.2) := by
  unfold outTarget
  dsimp only
  split
  · rw [hmap]; cases mapA.getD _ none <;> rfl
  · rw [hmap]; cases mapA.getD _ none <;> rfl

/-- the loop `for inn, ll in zip(impl_in_nodes, node_in_lines)`; `T` = the line references that are still needed (the
    lines at the pins of the instance) -/
theorem lk_connectIns (T : Nat → Prop) (N : Nat) (PO : Nat → Prop)
    (hmapLt : ∀ j x, mapA.getD j none = some x → x < N ∧ Own x) :
    ∀ (pins : List (Nat × Option Nat)) (a b : Net) (renA : Option Nat → Option Nat) (ψ : Nat → Nat) (G : Nat → Prop)
      (a' : Net) (renA' : Option Nat → Option Nat),
    Lk Own π ψ G (fun x => G x ∨ x ∈ pins.filterMap (·.2)) PO a b → a.nodes.size = N →
    connectIns m mapA pins (a, renA) = some (a', renA') →
    renA none = none → (pins.filterMap (·.2)).Nodup →
    (∀ ll, T ll → ¬ G ll → ∃ ll', renA (some ll) = some ll' ∧ ll' < a.lines.size ∧ ψ ll' = ll) →
    (∀ ll ∈ pins.filterMap (·.2), T ll ∧ ¬ G ll ∧ ll < b.lines.size) →
    (∀ inn ll, (inn, some ll) ∈ pins → ignoredPort m inn = true → ¬ PO ll ∧ ∀ x, π x = (b.line ll).driver → ¬ Own x) →
    ∃ b' ψ' G', connectIns m mapB (pins.map (clrIgn m)) (b, id) = some (b', id) ∧
      Lk Own π ψ' G' G' PO a' b' ∧ a'.nodes.size = N ∧ renA' none = none ∧
      (∀ ll, T ll → ¬ G' ll → ∃ ll', renA' (some ll) = some ll' ∧ ll' < a'.lines.size ∧ ψ' ll' = ll) ∧
      (∀ ll, G' ll ↔ G ll ∨ ∃ inn, (inn, some ll) ∈ pins ∧ ignoredPort m inn = true)
  | [], a, b, renA, ψ, G, a', renA', lk, hN, he, hr0, _, hT, _, _ => by
    simp only [connectIns] at he
    obtain ⟨e1, e2⟩ := Prod.mk.inj (Option.some.inj he)
    subst e1; subst e2
    refine ⟨b, ψ, G, by simp [connectIns], lk.congrPI (fun x => by simp), hN, hr0, hT, fun ll => by simp⟩
  | (inn, none) :: rest, a, b, renA, ψ, G, a', renA', lk, hN, he, hr0, hnd, hT, hP, hgd => by
    simp only [connectIns, hr0] at he
    obtain ⟨b', ψ', G', q1, q2, q3, q4, q5, q6⟩ := lk_connectIns T N PO hmapLt rest a b renA ψ G a' renA'
      (lk.congrPI (fun x => by simp)) hN he hr0 (by simpa using hnd) hT
      (fun ll hll => hP ll (by simpa using hll))
      (fun inn' ll hm => hgd inn' ll (List.mem_cons_of_mem _ hm))
    refine ⟨b', ψ', G', ?_, q2, q3, q4, q5, ?_⟩
    · simp only [List.map_cons, clrIgn, connectIns, id, ite_self]
      exact q1
    · intro ll
      rw [q6 ll]
      simp
  | (inn, some ll0) :: rest, a, b, renA, ψ, G, a', renA', lk, hN, he, hr0, hnd, hT, hP, hgd => by
    have hnd' : ll0 ∉ rest.filterMap (·.2) ∧ (rest.filterMap (·.2)).Nodup := by
      simpa using hnd
    obtain ⟨t0, g0, lb0⟩ := hP ll0 (by simp)
    obtain ⟨ll', hren, hll', hψ⟩ := hT ll0 t0 g0
    simp only [connectIns, hren] at he
    by_cases hig : ignoredPort m inn = true
    · -- the implementation ignores the pin: the real run removes the line
      have hig' : ((m.net.node inn).outs.length == 0) = true := hig
      simp only [hig', if_true] at he
      split at he
      · exact absurd he (by simp)
      · rename_i a1 hrm
        have po0 : ¬ PO ll0 := (hgd inn ll0 List.mem_cons_self hig).1
        have hdrv := lk.drv ll' hll' (by rw [hψ]; exact po0)
        have hown : ¬ Own (a.line ll').driver := (hgd inn ll0 List.mem_cons_self hig).2 _ (by rw [← hψ]; exact hdrv.2.1)
        have lk1 := lk.stepRemove ll' hll' (by rw [hψ]; exact Or.inr (by simp))
          (by rw [hψ]; exact po0) hown a1 hrm
        rw [hψ] at lk1
        have hsp := removeLineF_spec a (fun y => PO (ψ y)) ll' hll' (by rw [hψ]; exact po0)
          (lk.host _ hdrv.1 hown) a1 hrm
        have lk2 : Lk Own π (fun l => ψ (nmN a.lines.size ll' l)) (fun l' => G l' ∨ l' = ll0)
            (fun x => (G x ∨ x = ll0) ∨ x ∈ rest.filterMap (·.2)) PO a1 b :=
          lk1.congrPI (fun x => by simp only [List.filterMap_cons, List.mem_cons, or_assoc])
        obtain ⟨b', ψ', G', q1, q2, q3, q4, q5, q6⟩ := lk_connectIns T N PO hmapLt rest a1 b
          (fun o => mvLine a.lines.size ll' (renA o)) _ (fun l' => G l' ∨ l' = ll0) a' renA' lk2 (by rw [hsp.nsize]; exact hN) he
          (by simp [hr0, mvLine]) hnd'.2
          (by
            intro ll ht hng
            have hne : ll ≠ ll0 := fun e => hng (Or.inr e)
            obtain ⟨x, hx1, hx2, hx3⟩ := hT ll ht (fun hc => hng (Or.inl hc))
            have hxne : x ≠ ll' := fun e => hne (by rw [← hx3, e, hψ])
            obtain ⟨m1, m2⟩ := mv_facts hll' hx2 hxne
            refine ⟨mvN a.lines.size ll' x, ?_, by rw [hsp.lsize]; exact m1, by show ψ (nmN _ _ (mvN _ _ x)) = ll; rw [m2]; exact hx3⟩
            rw [hx1]
            simp only [mvLine, mvN]
            by_cases e : x = a.lines.size - 1 <;> simp [e])
          (by
            intro ll hll
            obtain ⟨p1, p2, p4⟩ := hP ll (by simp [hll])
            refine ⟨p1, ?_, p4⟩
            rintro (hc | hc)
            · exact p2 hc
            · subst hc; exact hnd'.1 hll)
          (fun inn' ll hm => hgd inn' ll (List.mem_cons_of_mem _ hm))
        refine ⟨b', ψ', G', ?_, q2, q3, q4, q5, ?_⟩
        · simp only [List.map_cons, clrIgn, connectIns, id, hig, if_true]
          exact q1
        · intro ll
          rw [q6 ll]
          simp only [List.mem_cons, Prod.mk.injEq, Option.some.injEq, or_and_right, exists_or, and_assoc, exists_eq_left, hig,
            and_true, or_assoc]
    · -- the pin has a reader in the implementation: both runs connect the line
      have hig' : ((m.net.node inn).outs.length == 0) = false := by simpa [ignoredPort] using hig
      simp only [hig', Bool.false_eq_true, if_false] at he
      split at he
      · exact absurd he (by simp)
      · rename_i r rp htgt
        obtain ⟨k, hk⟩ := inTarget_map htgt
        obtain ⟨hrN, hrOwn⟩ := hmapLt k r hk
        have lk1 := lk.stepReader ll' ll0 r rp hll' hψ (by rw [hN]; exact hrN)
        have lk2 : Lk Own π ψ G (fun x => G x ∨ x ∈ rest.filterMap (·.2)) PO (setReader a ll' r rp) (setReader b ll0 (π r) rp) := by
          refine lk1.congrPI (fun x => ?_)
          simp only [List.filterMap_cons, List.mem_cons]
          constructor
          · rintro ⟨h | h | h, hne⟩
            · exact Or.inl h
            · exact absurd h hne
            · exact Or.inr h
          · rintro (h | h)
            · exact ⟨Or.inl h, fun e => g0 (e ▸ h)⟩
            · exact ⟨Or.inr (Or.inr h), fun e => hnd'.1 (e ▸ h)⟩
        have hsb := setReader_sizes b ll0 (π r) rp
        obtain ⟨b', ψ', G', q1, q2, q3, q4, q5, q6⟩ := lk_connectIns T N PO hmapLt rest (setReader a ll' r rp)
          (setReader b ll0 (π r) rp) renA ψ G a' renA' lk2 (by rw [(setReader_sizes a ll' r rp).1]; exact hN) he hr0 hnd'.2
          (by
            intro ll ht hng
            obtain ⟨x, hx1, hx2, hx3⟩ := hT ll ht hng
            exact ⟨x, hx1, by rw [(setReader_sizes a ll' r rp).2.1]; exact hx2, hx3⟩)
          (by
            intro ll hll
            obtain ⟨p1, p2, p4⟩ := hP ll (by simp [hll])
            exact ⟨p1, p2, by rw [hsb.2.1]; exact p4⟩)
          (by
            intro inn' ll hm hi
            refine ⟨(hgd inn' ll (List.mem_cons_of_mem _ hm) hi).1, fun x hx => ?_⟩
            have hlt : ll < b.lines.size := (hP ll (by
              simp only [List.filterMap_cons, List.mem_cons]
              exact Or.inr (List.mem_filterMap.mpr ⟨(inn', some ll), hm, rfl⟩))).2.2
            rw [setReader_line b _ _ _ _ hlt] at hx
            apply (hgd inn' ll (List.mem_cons_of_mem _ hm) hi).2 x
            rw [hx]; split <;> rfl)
        refine ⟨b', ψ', G', ?_, q2, q3, q4, q5, ?_⟩
        · simp only [List.map_cons, clrIgn, connectIns, id, hig, Bool.false_eq_true, if_false, hig']
          rw [inTarget_π m mapA mapB hmap, htgt]
          exact q1
        · intro ll
          rw [q6 ll]
          simp only [List.mem_cons, Prod.mk.injEq, Option.some.injEq, or_and_right, exists_or, and_assoc, exists_eq_left, hig,
            Bool.false_eq_true, and_false, false_or]

/-- the loop `for l, ll in zip(impl_out_lines, node_out_lines)`: the real run works on the renamed line references -/
theorem lk_connectOuts (N : Nat) (renA : Option Nat → Option Nat) (hr0 : renA none = none) (ψ : Nat → Nat) (G PI : Nat → Prop)
    (hmapLt : ∀ j x, mapA.getD j none = some x → x < N ∧ Own x) :
    ∀ (outs : List (Nat × Option Nat)) (a b : Net) (dangA : List (Option Nat)) (a' : Net) (dangA' : List (Option Nat)),
    Lk Own π ψ G PI (fun x => x ∈ outs.filterMap (·.2)) a b → a.nodes.size = N →
    connectOuts m mapA (outs.map fun p => (p.1, renA p.2)) (a, dangA) = some (a', dangA') →
    (outs.filterMap (·.2)).Nodup →
    (∀ ll ∈ outs.filterMap (·.2), ¬ PI ll ∧ ∃ ll', renA (some ll) = some ll' ∧ ll' < a.lines.size ∧ ψ ll' = ll) →
    ∃ b', connectOuts m mapB outs (b, dangA.map (Option.map π)) = some (b', dangA'.map (Option.map π)) ∧
      Lk Own π ψ G PI (fun _ => False) a' b' ∧ a'.nodes.size = N
  | [], a, b, dangA, a', dangA', lk, hN, he, _, _ => by
    simp only [List.map_nil, connectOuts] at he
    obtain ⟨e1, e2⟩ := Prod.mk.inj (Option.some.inj he)
    subst e1; subst e2
    exact ⟨b, by simp [connectOuts], lk.congrPO (fun x => by simp), hN⟩
  | (il, none) :: rest, a, b, dangA, a', dangA', lk, hN, he, hnd, hP => by
    simp only [List.map_cons, hr0, connectOuts] at he
    obtain ⟨b', q1, q2⟩ := lk_connectOuts N renA hr0 ψ G PI hmapLt rest a b _ a' dangA'
      (lk.congrPO (fun x => by simp)) hN he (by simpa using hnd)
      (fun ll hll => hP ll (by simpa using hll))
    refine ⟨b', ?_, q2⟩
    simp only [connectOuts]
    rw [← q1, hmap]
    cases mapA.getD (m.net.line il).driver none <;> simp
  | (il, some ll0) :: rest, a, b, dangA, a', dangA', lk, hN, he, hnd, hP => by
    have hnd' : ll0 ∉ rest.filterMap (·.2) ∧ (rest.filterMap (·.2)).Nodup := by
      simpa using hnd
    obtain ⟨npi, ll', hren, hll', hψ⟩ := hP ll0 (by simp)
    simp only [List.map_cons, hren, connectOuts] at he
    split at he
    · exact absurd he (by simp)
    · rename_i d dp htgt
      obtain ⟨k, hk⟩ := outTarget_map htgt
      obtain ⟨hdN, hdOwn⟩ := hmapLt k d hk
      have lk1 := lk.stepDriver ll' ll0 d dp hll' hψ (by rw [hN]; exact hdN) hdOwn (by simp) npi
      have lk2 : Lk Own π ψ G PI (fun x => x ∈ rest.filterMap (·.2)) (setDriver a ll' d dp) (setDriver b ll0 (π d) dp) := by
        refine lk1.congrPO (fun x => ?_)
        simp only [List.filterMap_cons, List.mem_cons]
        constructor
        · rintro ⟨h | h, hne⟩
          · exact absurd h hne
          · exact h
        · intro h
          exact ⟨Or.inr h, fun e => hnd'.1 (e ▸ h)⟩
      have hsa := setDriver_sizes a ll' d dp
      have hsb := setDriver_sizes b ll0 (π d) dp
      obtain ⟨b', q1, q2, q3⟩ := lk_connectOuts N renA hr0 ψ G PI hmapLt rest (setDriver a ll' d dp)
        (setDriver b ll0 (π d) dp) dangA a' dangA' lk2 (by rw [hsa.1]; exact hN) he hnd'.2
        (by
          intro ll hll
          obtain ⟨p1, x, hx1, hx2, hx3⟩ := hP ll (by simp [hll])
          exact ⟨p1, x, hx1, by rw [hsa.2.1]; exact hx2, hx3⟩)
      refine ⟨b', ?_, q2, q3⟩
      simp only [connectOuts]
      rw [outTarget_π m mapA mapB hmap, htgt]
      exact q1

end loops


theorem net_eq_of {a b : Net} (h1 : a.nodes = b.nodes) (h2 : a.lines = b.lines) (h3 : a.io = b.io) : a = b := by
  cases a; cases b; simp_all

def addImplLineN (map : Array (Option Nat)) (net : Net) (ln : LineD) : Net :=
  match map.getD ln.driver none, map.getD ln.reader none with
  | some d, some r => addLineNet net d ln.dpin r ln.rpin
  | _, _ => net


theorem addImplLine_eq_N (map : Array (Option Nat)) (net : Net) (ln : LineD) :
    addImplLine map (net.nodes, net.lines) ln = ((addImplLineN map net ln).nodes, (addImplLineN map net ln).lines) := by
  unfold addImplLine addImplLineN
  cases map.getD ln.driver none <;> cases map.getD ln.reader none <;> rfl

theorem foldl_addImplLine_N (map : Array (Option Nat)) : ∀ (lns : List LineD) (net : Net),
    ({ net with nodes := (lns.foldl (addImplLine map) (net.nodes, net.lines)).1,
                lines := (lns.foldl (addImplLine map) (net.nodes, net.lines)).2 } : Net) = lns.foldl (addImplLineN map) net
  | [], net => rfl
  | ln :: lns, net => by
    simp only [List.foldl_cons]
    rw [addImplLine_eq_N, ← foldl_addImplLine_N map lns (addImplLineN map net ln)]
    exact net_eq_of rfl rfl (by unfold addImplLineN; cases map.getD ln.driver none <;> cases map.getD ln.reader none <;> rfl)

theorem phase3_eq_foldl (m : NNet) (map : Array (Option Nat)) (h2 : NNet) :
    phase3 m map h2 = m.net.lines.toList.foldl (addImplLineN map) h2.net := foldl_addImplLine_N map _ h2.net

section loops
variable {Own : Nat → Prop} {π : Nat → Nat} (mapA mapB : Array (Option Nat))
variable (hmap : ∀ j, mapB.getD j none = (mapA.getD j none).map π)
include hmap

/-- the loop `for l in impl.lines: Line(...)` in lockstep (no line has been removed yet: the line map is the identity) -/
theorem lk_phase3 (N : Nat) (PI PO : Nat → Prop) (hmapLt : ∀ j x, mapA.getD j none = some x → x < N ∧ Own x) :
    ∀ (lns : List LineD) (a b : Net), Lk Own π id (fun _ => False) PI PO a b → a.lines.size = b.lines.size → a.nodes.size = N →
    (∀ l, b.lines.size ≤ l → ¬ PI l ∧ ¬ PO l) →
    Lk Own π id (fun _ => False) PI PO (lns.foldl (addImplLineN mapA) a) (lns.foldl (addImplLineN mapB) b) ∧
    (lns.foldl (addImplLineN mapA) a).lines.size = (lns.foldl (addImplLineN mapB) b).lines.size ∧
    (lns.foldl (addImplLineN mapA) a).nodes.size = N ∧ b.lines.size ≤ (lns.foldl (addImplLineN mapB) b).lines.size
  | [], a, b, lk, hL, hN, _ => ⟨lk, hL, hN, Nat.le_refl _⟩
  | ln :: lns, a, b, lk, hL, hN, hPI => by
    simp only [List.foldl_cons]
    have key : Lk Own π id (fun _ => False) PI PO (addImplLineN mapA a ln) (addImplLineN mapB b ln) ∧
        (addImplLineN mapA a ln).lines.size = (addImplLineN mapB b ln).lines.size ∧ (addImplLineN mapA a ln).nodes.size = N ∧
        b.lines.size ≤ (addImplLineN mapB b ln).lines.size := by
      unfold addImplLineN
      rw [hmap, hmap]
      cases hd : mapA.getD ln.driver none with
      | none => exact ⟨lk, hL, hN, Nat.le_refl _⟩
      | some d =>
        cases hr : mapA.getD ln.reader none with
        | none => exact ⟨lk, hL, hN, Nat.le_refl _⟩
        | some r =>
          obtain ⟨d1, d2⟩ := hmapLt _ d hd
          have r1 := (hmapLt _ r hr).1
          simp only [Option.map_some]
          refine ⟨lk.stepAddLine d ln.dpin r ln.rpin (by rw [hN]; exact d1) (by rw [hN]; exact r1) d2 hL (fun x => x)
            (hPI _ (Nat.le_refl _)).1 (hPI _ (Nat.le_refl _)).2, ?_, ?_, ?_⟩
          · rw [(addLineNet_sizes a _ _ _ _).2.1, (addLineNet_sizes b _ _ _ _).2.1, hL]
          · rw [(addLineNet_sizes a _ _ _ _).1]; exact hN
          · rw [(addLineNet_sizes b _ _ _ _).2.1]; omega
    obtain ⟨k1, k2, k3, k4⟩ := key
    obtain ⟨q1, q2, q3, q4⟩ := lk_phase3 N PI PO hmapLt lns _ _ k1 k2 k3 (fun l hl => hPI l (by omega))
    exact ⟨q1, q2, q3, by omega⟩

end loops

theorem lk_same_nodeLoop {Own : Nat → Prop} {ψ : Nat → Nat} {G PI PO : Nat → Prop} (m : NNet) (hn : String) (des : Option Nat)
    (js : List Nat) (st st' : NNet × Array (Option Nat)) (h : js.foldlM (addImplNode m hn des) st = some st')
    (lk : Lk Own id ψ G PI PO st.1.net st.1.net) : Lk Own id ψ G PI PO st'.1.net st'.1.net := by
  refine foldlM_inv (addImplNode m hn des) (fun _ s => Lk Own id ψ G PI PO s.1.net s.1.net)
    (fun _ s j s' hP he => ?_) js [] st st' lk h
  rcases addImplNode_cases he with ⟨_, rfl⟩ | ⟨kn, h', _, hadd, rfl⟩
  · exact hP
  · obtain ⟨e1, e2, e3, _, _⟩ := addNode_spec s.1 h' kn.2 kn.1 hadd
    have : h'.net = pushNode s.1.net kn.1 := net_eq_of e1 e2 e3
    rw [this]
    exact hP.stepAddNode kn.1 rfl

/-- the converse of `substituteCore_inv` -/
theorem substituteCore_of_phases (h : NNet) (c : Nat) (m : NNet) (sh : Shape) (hs : implShape m = some sh)
    (h2 : NNet) (map : Array (Option Nat)) (net4 net5 : Net) (ren : Option Nat → Option Nat) (dang : List (Option Nat))
    (hil : (h.net.node c).ins.length ≤ sh.inPorts.length) (hol : (h.net.node c).outs.length ≤ sh.outLines.length)
    (hfold : (List.range m.net.nodes.size).foldlM (addImplNode m (h.names.getD c "") sh.des) (phase1 h c m sh.des) = some (h2, map))
    (hci : connectIns m map (sh.inPorts.zip (padTo (h.net.node c).ins sh.inPorts.length)) (phase3 m map h2, id) = some (net4, ren))
    (hco : connectOuts m map (sh.outLines.zip ((padTo (h.net.node c).outs sh.outLines.length).map ren)) (net4, []) = some (net5, dang)) :
    substituteCore h c m = some ({ h2 with net := net5 }, map, dang) := by
  unfold substituteCore
  rw [hs]
  dsimp only
  have : ((h.net.node c).ins.length > sh.inPorts.length || (h.net.node c).outs.length > sh.outLines.length) = false := by
    simp only [Bool.or_eq_false_iff, decide_eq_false_iff_not]
    exact ⟨by omega, by omega⟩
  rw [this]
  simp only [Bool.false_eq_true, if_false, hfold, hci, hco]

end KV.Transform
