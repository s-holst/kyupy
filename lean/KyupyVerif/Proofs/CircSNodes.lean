import KyupyVerif.Proofs.CircSem
/-! `s_nodes` of the dump `Circ.toNet`: ports, then the flip-flop cells, then the latch cells in node order — in terms of cell
NAMES when the cell names are pairwise different (`toNet_sNodes`), and the position of a named end point in it (`sPosIn_names`).
Last, facts about any circuit under construction that both formats use: lines without `via`, the look-ups `forks[name]` /
`cells[name]` as list membership. -/
namespace KV.Netlist
open KV

def cellsOf (C : Circ) : List NodeM := C.nodes.filter fun x => x.kind != forkKind

theorem findIdx_name_unique (q : NodeM → Bool) (l : List NodeM) (hnd : ((l.filter q).map (·.name)).Nodup) (i : Nat) (x : NodeM)
    (hi : l[i]? = some x) (hx : q x = true) : l.findIdx (fun y => q y && y.name == x.name) = i := by
  have hlt : i < l.length := (List.getElem?_eq_some_iff.mp hi).1
  have hxi : l[i] = x := (List.getElem?_eq_some_iff.mp hi).2
  rw [List.findIdx_eq hlt]
  refine ⟨by simp [hxi, hx], ?_⟩
  intro j hji
  have hjl : j < l.length := by omega
  cases hq : (q l[j] && l[j].name == x.name) with
  | false => rfl
  | true =>
    exfalso
    simp only [Bool.and_eq_true, beq_iff_eq] at hq
    have := nodup_filter_map_index q (·.name) l hnd j i l[j] x (List.getElem?_eq_getElem hjl) hi hq.1 hx hq.2
    omega

theorem nodeIdx_cell_unique (C : Circ) (hnd : ((cellsOf C).map (·.name)).Nodup) (i : Nat) (x : NodeM) (hi : C.nodes[i]? = some x)
    (hx : x.kind ≠ forkKind) (p : Nat) : C.nodeIdx (.cell x.name p) = i :=
  findIdx_name_unique (fun y => y.kind != forkKind) C.nodes hnd i x hi (by simp [hx])

theorem filter_range'_eq {β} (suf : List β) (k : Nat) (Q : β → Bool) (f : Nat → β)
    (hf : ∀ (j : Nat) x, suf[j]? = some x → f (k + j) = x) :
    (List.range' k suf.length).filter (fun i => Q (f i)) = ((suf.zipIdx k).filter fun p => Q p.1).map (·.2) := by
  rw [← List.zipIdx_map_snd k suf, List.filter_map]
  congr 1
  apply List.filter_congr
  intro p hp
  obtain ⟨h1, h2, h3⟩ := List.mem_zipIdx hp
  have := hf (p.2 - k) p.1 (by rw [h3]; exact List.getElem?_eq_getElem (by omega))
  rw [show k + (p.2 - k) = p.2 by omega] at this
  simp only [Function.comp, this]

section
variable (C : Circ) (io : List Nat)

theorem toNet_range_filter (P : String → Bool) (hP : P forkKind = false) (hnd : ((cellsOf C).map (·.name)).Nodup) :
    (List.range (C.toNet io).nodes.size).filter (fun i => P ((C.toNet io).node i).kind) =
      ((cellsOf C).filter fun x => P x.kind).map fun x => C.nodeIdx (.cell x.name 0) := by
  rw [toNet_nodes_size, List.range_eq_range']
  have h2 : (List.range' 0 C.nodes.length).filter (fun i => P ((C.toNet io).node i).kind) =
      ((C.nodes.zipIdx 0).filter fun p => P p.1.kind).map (·.2) := by
    have := filter_range'_eq C.nodes 0 (fun x : NodeM => P x.kind) (fun i => C.nodes.getD i default) (by
      intro j x hj
      simp only [Nat.zero_add, List.getD_eq_getElem?_getD, hj, Option.getD_some])
    rw [← this]
    apply List.filter_congr
    intro i hi
    have hi' : i < C.nodes.length := by
      have := List.mem_range'.mp hi
      omega
    rw [toNet_node_kind C io i hi', List.getD_eq_getElem?_getD, List.getElem?_eq_getElem hi']
    rfl
  rw [h2]
  have h3 : ((C.nodes.zipIdx 0).filter fun p => P p.1.kind).map (·.2) =
      ((C.nodes.zipIdx 0).filter fun p => P p.1.kind).map fun p => C.nodeIdx (.cell p.1.name 0) := by
    apply List.map_congr_left
    intro p hp
    rw [List.mem_filter] at hp
    have hget := List.mem_zipIdx_iff_getElem?.mp hp.1
    have hk : p.1.kind ≠ forkKind := by
      intro e
      rw [e, hP] at hp
      exact Bool.noConfusion hp.2
    exact (nodeIdx_cell_unique C hnd p.2 p.1 hget hk 0).symm
  rw [h3]
  have h4 : ((C.nodes.zipIdx 0).filter fun p => P p.1.kind).map (fun p => C.nodeIdx (.cell p.1.name 0)) =
      (C.nodes.filter fun x => P x.kind).map fun x => C.nodeIdx (.cell x.name 0) := by
    conv => rhs; rw [← List.zipIdx_map_fst 0 C.nodes, List.filter_map, List.map_map]
    rfl
  rw [h4]
  congr 1
  unfold cellsOf
  rw [List.filter_filter]
  apply List.filter_congr
  intro x _
  cases hpx : P x.kind with
  | false => rfl
  | true =>
    have : x.kind ≠ forkKind := by intro e; rw [e, hP] at hpx; exact Bool.noConfusion hpx
    simp [this]

theorem toNet_sNodes (hnd : ((cellsOf C).map (·.name)).Nodup) :
    (C.toNet io).sNodes = io ++ (((cellsOf C).filter fun x => hasSub "dff" x.kind.toLower).map fun x => C.nodeIdx (.cell x.name 0)) ++
      (((cellsOf C).filter fun x => hasSub "latch" x.kind.toLower).map fun x => C.nodeIdx (.cell x.name 0)) := by
  unfold Net.sNodes
  have h1 := toNet_range_filter C io (fun k => hasSub "dff" k.toLower) forkKind_not_seq.1 hnd
  have h2 := toNet_range_filter C io (fun k => hasSub "latch" k.toLower) forkKind_not_seq.2 hnd
  simp only [NodeD.isDff, NodeD.isLatch, NodeD.lkind]
  rw [h1, h2]
  rfl

end

theorem sPosIn_names (C : Circ) (names : List Ep) (hres : ∀ e ∈ names, C.resolved e ∧ e.rpin = 0) (e : Ep) (he : C.resolved e)
    (h0 : e.rpin = 0) :
    sPosIn (names.map C.nodeIdx) (C.nodeIdx e) = if names.contains e then some (names.idxOf e) else none := by
  unfold sPosIn
  have hidx : (names.map C.nodeIdx).idxOf (C.nodeIdx e) = names.idxOf e := by
    apply idxOf_map_inj
    intro y hy hf
    exact ep_key_inj C e y he hf (by rw [(hres y hy).2, h0])
  simp only [hidx, List.length_map]
  by_cases hm : e ∈ names
  · have : names.idxOf e < names.length := List.idxOf_lt_length_of_mem hm
    simp [hm, this]
  · have : names.idxOf e = names.length := List.idxOf_eq_length hm
    simp [hm, this]

theorem flat_novia (ls : List LineM) (h : ∀ l ∈ ls, l.via = none) : ls.flatMap LineM.flat = ls.map fun l => (l.d, l.r) := by
  rw [List.map_eq_flatMap]
  exact flatMap_congr fun l hl => by simp only [LineM.flat, h l hl]

theorem isCell_eq_any (C : Circ) (x : String) : C.isCell x = (cellsOf C).any (·.name == x) := by
  simp [Circ.isCell, cellsOf, List.any_filter]

def forkNames (C : Circ) : List String := (C.nodes.filter fun x => x.kind == forkKind).map (·.name)

theorem isFork_eq_contains (C : Circ) (n : String) : C.isFork n = (forkNames C).contains n := by
  unfold Circ.isFork forkNames
  rw [Bool.eq_iff_iff]
  simp only [List.any_eq_true, Bool.and_eq_true, beq_iff_eq, List.contains_eq_mem, decide_eq_true_eq, List.mem_map, List.mem_filter]
  constructor
  · rintro ⟨x, hx, hk, hn⟩; exact ⟨x, ⟨hx, hk⟩, hn⟩
  · rintro ⟨x, ⟨hx, hk⟩, hn⟩; exact ⟨x, hx, hk, hn⟩

theorem resolved_of_isFork (C : Circ) (s : String) (h : C.isFork s = true) : C.resolved (.fork s) := by
  unfold Circ.resolved Circ.nodeIdx
  apply List.findIdx_lt_length_of_exists
  unfold Circ.isFork at h
  exact List.any_eq_true.mp h

theorem resolved_of_cell (C : Circ) (x : NodeM) (hx : x ∈ cellsOf C) (p : Nat) : C.resolved (.cell x.name p) := by
  unfold Circ.resolved Circ.nodeIdx
  apply List.findIdx_lt_length_of_exists
  unfold cellsOf at hx
  rw [List.mem_filter] at hx
  exact ⟨x, hx.1, by simp only [hx.2, Bool.true_and, beq_self_eq_true]⟩

theorem kindOf_cell (C : Circ) (hnd : ((cellsOf C).map (·.name)).Nodup) (x : NodeM) (hx : x ∈ cellsOf C) (p : Nat) :
    C.kindOf (.cell x.name p) = x.kind := by
  have hx' := hx
  unfold cellsOf at hx'
  rw [List.mem_filter] at hx'
  obtain ⟨i, hi, hxi⟩ := List.getElem_of_mem hx'.1
  have hget : C.nodes[i]? = some x := by rw [List.getElem?_eq_getElem hi, hxi]
  have := nodeIdx_cell_unique C hnd i x hget (by simpa using hx'.2) p
  unfold Circ.kindOf
  rw [this, List.getD_eq_getElem?_getD, hget]
  rfl

theorem nodeIdx_fork_unique (C : Circ) (hnd : (forkNames C).Nodup) (i : Nat) (x : NodeM) (hi : C.nodes[i]? = some x)
    (hx : x.kind = forkKind) : C.nodeIdx (.fork x.name) = i :=
  findIdx_name_unique (fun y => y.kind == forkKind) C.nodes hnd i x hi (by simp [hx])

end KV.Netlist
