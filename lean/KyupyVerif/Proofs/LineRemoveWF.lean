import KyupyVerif.Proofs.Embed
import KyupyVerif.Proofs.LineRemove
/-! C10, the two removals behind `elim_sem` and the removal of dangling logic: `Line.remove()` (`rl_*`, argued from the description
`RLSpec` alone) and `Node.remove()` (`dn_*`: `delNode` of a node `i` that is no port and that no line records; its own pin lists may
still have entries, `WFx nn i` asks nothing of them) keep the circuit well-formed (`WFm`) and embed the result into the circuit
before (`EmbX`, the reader of a removed line being exempt). -/
namespace KV.Transform
open KV

/-- renaming of a `del c.lines[l]` in a circuit with `size` lines: new index ↦ old index (`stepRen` of the model is
    `lineRen` and `nodeRen` at once) -/
def lineRen (size l : Nat) : Ren := ⟨fun x => nmN size l x, fun j => j⟩
/-- renaming of a `del c.nodes[i]` -/
def nodeRen (size i : Nat) : Ren := ⟨fun l => l, fun j => nmN size i j⟩

theorem keys_congr (a b : NNet) (hn : b.names = a.names) (hs : b.net.nodes.size = a.net.nodes.size)
    (hk : ∀ x, (b.net.node x).kind = (a.net.node x).kind) : b.keys = a.keys := by
  simp only [NNet.keys, hs]
  apply List.map_congr_left
  intro i _
  simp only [NNet.key, hn, NodeD.isFork, hk]

section step
variable {nn : NNet} (w : WFm nn) {l : Nat} (hl : l < nn.net.lines.size) {net' : Net}
  (sp : RLSpec true nn.net (fun _ => False) l net')
include w hl sp

theorem rl_wfm : WFm { nn with net := net' } := by
  obtain ⟨bd, br, bo, bi⟩ := w.back l hl
  have hd : ∀ d, d < nn.net.nodes.size → DrvAt net' (fun _ => False) d := fun d hd => sp.drv d (w.drvAt hd)
  refine ⟨by show nn.names.size = net'.nodes.size; rw [sp.nsize]; exact w.names, ?_, ?_, ?_, ?_, ?_⟩
  · rw [keys_congr nn { nn with net := net' } rfl sp.nsize sp.kind]; exact w.nodup
  · intro i hi
    show i < net'.nodes.size
    rw [sp.nsize]; exact w.io i (by rw [← sp.io]; exact hi)
  · intro l' hl'
    have hl'' : l' < nn.net.lines.size - 1 := by rw [← sp.lsize]; exact hl'
    obtain ⟨hy, hyl, hmv⟩ := nm_facts hl hl''
    obtain ⟨f1, f2, f3, _⟩ := sp.line l' hl''
    obtain ⟨yd, yr, yo, yi⟩ := w.back _ hy
    show (net'.line l').driver < net'.nodes.size ∧ (net'.line l').reader < net'.nodes.size ∧
      (net'.node (net'.line l').driver).outs.getD (net'.line l').dpin none = some l' ∧
      (net'.node (net'.line l').reader).ins.getD (net'.line l').rpin none = some l'
    refine ⟨by rw [sp.nsize, f1]; exact yd, by rw [sp.nsize, f2]; exact yr,
      (hd _ (by rw [f1]; exact yd)).back l' hl' (fun x => x) rfl, ?_⟩
    rw [f2, f3, sp.inPinT]
    have : ¬ ((nn.net.line (nmN nn.net.lines.size l l')).reader = (nn.net.line l).reader ∧
        (nn.net.line (nmN nn.net.lines.size l l')).rpin = (nn.net.line l).rpin) := by
      intro hc
      rw [hc.1, hc.2, bi] at yi
      exact hyl (Option.some.inj yi).symm
    rw [if_neg this, yi, mvL_some, hmv]
  · intro x hx k l'' hp
    have hx' : x < nn.net.nodes.size := by rw [← sp.nsize]; exact hx
    have hp' : (net'.node x).ins.getD k none = some l'' := hp
    rw [sp.inPinT] at hp'
    split at hp'
    · exact absurd hp' (by simp)
    · rename_i hcond
      obtain ⟨y0, hy0, e⟩ := mvL_eq_some hp'
      obtain ⟨a1, a2, a3⟩ := w.fwdIn x hx' k y0 hy0
      have hne : y0 ≠ l := by
        intro e0; subst e0; exact hcond ⟨a2.symm, a3.symm⟩
      obtain ⟨m1, m2⟩ := mv_facts hl a1 hne
      subst e
      obtain ⟨f1, f2, f3, f4⟩ := sp.line _ m1
      show _ < net'.lines.size ∧ (net'.line _).reader = x ∧ (net'.line _).rpin = k
      rw [sp.lsize, f2, f3, m2]
      exact ⟨m1, a2, a3⟩
  · intro x hx k l'' hp
    obtain ⟨a1, a2, a3, _⟩ := (hd x (by rw [← sp.nsize]; exact hx)).fwd k l'' hp
    exact ⟨a1, a2, a3⟩

theorem rl_pins (j k : Nat) (hj : j < nn.net.nodes.size) (h : ¬ (j = (nn.net.line l).reader ∧ k = (nn.net.line l).rpin)) :
    ((net'.node j).ins.getD k none).map (nmN nn.net.lines.size l) = (nn.net.node j).ins.getD k none := by
  rw [sp.inPinT, if_neg h]
  cases hp : (nn.net.node j).ins.getD k none with
  | none => rfl
  | some y0 =>
    obtain ⟨a1, a2, a3⟩ := w.fwdIn j hj k y0 hp
    have hne : y0 ≠ l := by intro e0; subst e0; exact h ⟨a2.symm, a3.symm⟩
    rw [mvL_some, Option.map_some, (mv_facts hl a1 hne).2]

theorem rl_emb : EmbX nn { nn with net := net' } (lineRen nn.net.lines.size l) (fun j => j = (nn.net.line l).reader) := by
  refine ⟨?_, ?_, fun _ _ _ _ e => e, ?_, fun j _ => sp.kind j, fun _ _ => rfl, ?_, ?_, ?_, ?_⟩
  · intro j hj; show j < nn.net.nodes.size; rw [← sp.nsize]; exact hj
  · intro l' hl'
    exact (nm_facts hl (by rw [← sp.lsize]; exact hl')).1
  · intro l1 l2 h1 h2 e
    have a1 := (nm_facts hl (by rw [← sp.lsize]; exact h1)).2.2
    have a2 := (nm_facts hl (by rw [← sp.lsize]; exact h2)).2.2
    have e' : nmN nn.net.lines.size l l1 = nmN nn.net.lines.size l l2 := e
    rw [← a1, ← a2, e']
  · show net'.io.map (fun j => j) = nn.net.io
    rw [sp.io]; simp
  · intro j hj
    show j < net'.nodes.size
    rw [sp.nsize]; exact w.io j (by rw [← sp.io]; exact hj)
  · intro j hj hX k
    exact rl_pins w hl sp j k (by rw [← sp.nsize]; exact hj) (fun hc => hX hc.1)
  · intro l' hl'
    have hl'' : l' < nn.net.lines.size - 1 := by rw [← sp.lsize]; exact hl'
    obtain ⟨f1, _, _, f4⟩ := sp.line l' hl''
    exact ⟨by show _ < net'.nodes.size; rw [sp.nsize, f1]; exact (w.back _ (nm_facts hl hl'').1).1, f1.symm,
      f4.imp Eq.symm fun hc => by rw [isFork_of_kind_eq (sp.kind _), f1, hc.1]; exact hc.2⟩

end step

section step
variable {nn : NNet} {i : Nat} (w : WFx nn i) (hi : i < nn.net.nodes.size) (hio : i ∉ nn.net.io)
  (hd : ∀ l, l < nn.net.lines.size → (nn.net.line l).driver ≠ i ∧ (nn.net.line l).reader ≠ i)
include w hi hio hd

theorem dn_wfm : WFm (delNode nn i) := by
  have hs := delNode_sizes nn i
  have li : LI nn := ⟨w.names, w.io⟩
  refine ⟨?_, ?_, ?_, ?_, ?_, ?_⟩
  · rw [hs.1]; simp [delNode, w.names]
  · have hkeys : (delNode nn i).keys = (List.range (nn.net.nodes.size - 1)).map (fun j => nn.key (nmN nn.net.nodes.size i j)) := by
      simp only [NNet.keys, hs.1]
      apply List.map_congr_left
      intro j hj
      have hj' := List.mem_range.mp hj
      simp only [NNet.key]
      rw [delNode_node nn i j hi hj', delNode_names_getD nn i j li hi hj']
    rw [hkeys]
    apply nodup_map_range
    intro a b ha hb e
    have ia := nm_facts hi ha
    have ib := nm_facts hi hb
    have hinj := key_inj nn w.nodup _ _ ia.1 ib.1 e
    rw [← ia.2.2, ← ib.2.2, hinj]
  · intro j hj
    rw [delNode_ioEq] at hj
    obtain ⟨j0, hj0, e⟩ := List.mem_map.mp hj
    have hne : j0 ≠ i := fun e0 => hio (e0 ▸ hj0)
    rw [hs.1, ← e]
    exact (mv_facts hi (w.io j0 hj0) hne).1
  · intro l hl
    rw [hs.2] at hl
    obtain ⟨b1, b2, b3, b4⟩ := w.back l hl
    obtain ⟨d1, d2⟩ := hd l hl
    have m1 := mv_facts hi b1 d1
    have m2 := mv_facts hi b2 d2
    rw [delNode_line nn i l hl, hs.1]
    dsimp only
    refine ⟨m1.1, m2.1, ?_, ?_⟩
    · rw [delNode_node nn i _ hi m1.1, m1.2]; exact b3
    · rw [delNode_node nn i _ hi m2.1, m2.2]; exact b4
  · intro j hj k l hp
    rw [hs.1] at hj
    rw [delNode_node nn i j hi hj] at hp
    obtain ⟨hn, hni, hmv⟩ := nm_facts hi hj
    obtain ⟨a1, a2, a3⟩ := w.fwdIn _ hn hni k l hp
    rw [hs.2, delNode_line nn i l a1]
    dsimp only
    refine ⟨a1, ?_, a3⟩
    rw [a2]; exact hmv
  · intro j hj k l hp
    rw [hs.1] at hj
    rw [delNode_node nn i j hi hj] at hp
    obtain ⟨hn, hni, hmv⟩ := nm_facts hi hj
    obtain ⟨a1, a2, a3⟩ := w.fwdOut _ hn hni k l hp
    rw [hs.2, delNode_line nn i l a1]
    dsimp only
    refine ⟨a1, ?_, a3⟩
    rw [a2]; exact hmv

theorem dn_emb : Emb nn (delNode nn i) (nodeRen nn.net.nodes.size i) := by
  have hs := delNode_sizes nn i
  have li : LI nn := ⟨w.names, w.io⟩
  refine ⟨?_, ?_, ?_, fun _ _ _ _ e => e, ?_, ?_, ?_, ?_, ?_, ?_⟩
  · intro j hj; rw [hs.1] at hj; exact (nm_facts hi hj).1
  · intro l hl; rw [hs.2] at hl; exact hl
  · intro j1 j2 h1 h2 e
    rw [hs.1] at h1 h2
    have e' : nmN nn.net.nodes.size i j1 = nmN nn.net.nodes.size i j2 := e
    rw [← (nm_facts hi h1).2.2, ← (nm_facts hi h2).2.2, e']
  · intro j hj
    rw [hs.1] at hj
    rw [delNode_node nn i j hi hj]; rfl
  · intro j hj
    rw [hs.1] at hj
    rw [delNode_names_getD nn i j li hi hj]; rfl
  · rw [delNode_ioEq, List.map_map]
    have : nn.net.io.map ((nodeRen nn.net.nodes.size i).node ∘ mvN nn.net.nodes.size i) = nn.net.io.map id :=
      List.map_congr_left fun j hj => (mv_facts hi (w.io j hj) fun e0 => hio (e0 ▸ hj)).2
    rw [this, List.map_id]
  · exact (dn_wfm w hi hio hd).io
  · intro j hj _ k
    rw [hs.1] at hj
    rw [delNode_node nn i j hi hj]
    show Option.map (fun l => l) _ = _
    simp; rfl
  · intro l hl
    rw [hs.2] at hl
    obtain ⟨b1, _, _, _⟩ := w.back l hl
    have m1 := mv_facts hi b1 (hd l hl).1
    rw [delNode_line nn i l hl, hs.1]
    dsimp only
    exact ⟨m1.1, m1.2.symm, Or.inl rfl⟩

end step
end KV.Transform
