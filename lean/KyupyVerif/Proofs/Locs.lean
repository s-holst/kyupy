import KyupyVerif.Model.Locs
/-! `_locs` (Model/Locs.lean) inserts the key paths of the matching names into a nested dictionary and sorts it recursively.  On name
lists whose paths are pairwise prefix-free (`Compat`) both variants of the insertion do the same and add exactly their entry (`Ins`,
`insertPath_spec`, `insertAll_spec`); sorting permutes the entries and orders every level (`entries_sortRec`, `sortRec_sorted`), so
the flat result lists the positions by ascending path (`sorted_entries_pairwise`).  For bus names `p[i]`, `p_i`, `p_i_` (`Style`,
`busName`) the regular expression yields the index vector (`pathOf_suffix`), and the order on paths is core `<` on the vectors
(`pathLt_iff`, `vecLt_iff`). -/
namespace KV.Locs

/-! ### dictionaries: well-formed, entries, keys -/

/-- keys pairwise different at every level, no empty nested dictionary (what Python dictionaries built by the
loop always satisfy) -/
def D.WF : D → Prop
  | .nil => True
  | .ent k v s r => k ∉ r.keys ∧ (v = none → s ≠ .nil ∧ s.WF) ∧ r.WF

/-- `p` can be stored next to the paths of `E`: no path is a prefix of the other one (`CompatP (p, _) e` for every stored `e`;
`VecCompat` is the same relation on index vectors — those two are the forms the statements of C17 use) -/
def Compat (p : List Key) (E : List (List Key × Nat)) : Prop := ∀ e ∈ E, ¬ p <+: e.1 ∧ ¬ e.1 <+: p

theorem entries_ne_nil (d : D) (hw : d.WF) (hn : d ≠ .nil) : d.entries ≠ [] := by
  induction d with
  | nil => exact absurd rfl hn
  | ent k v s r ihs _ =>
    cases v with
    | some i => simp [D.entries]
    | none =>
      have h := hw.2.1 rfl
      have := ihs h.2 h.1
      simp [D.entries, this]

theorem entries_head (d : D) : ∀ e ∈ d.entries, ∃ k ∈ d.keys, ∃ tl, e.1 = k :: tl := by
  induction d with
  | nil => intro e he; simp [D.entries] at he
  | ent k v s r _ ihr =>
    intro e he
    cases v with
    | some i =>
      simp only [D.entries, List.mem_cons] at he
      rcases he with rfl | he
      · exact ⟨k, by simp [D.keys], [], rfl⟩
      · obtain ⟨k', hk', tl, h⟩ := ihr e he
        exact ⟨k', by simp [D.keys, hk'], tl, h⟩
    | none =>
      simp only [D.entries, List.mem_append, List.mem_map] at he
      rcases he with ⟨e', _, rfl⟩ | he
      · exact ⟨k, by simp [D.keys], e'.1, rfl⟩
      · obtain ⟨k', hk', tl, h⟩ := ihr e he
        exact ⟨k', by simp [D.keys, hk'], tl, h⟩

theorem key_has_entry (d : D) (hw : d.WF) (k : Key) (hk : k ∈ d.keys) : ∃ e ∈ d.entries, ∃ tl, e.1 = k :: tl := by
  induction d with
  | nil => simp [D.keys] at hk
  | ent k' v s r _ ihr =>
    simp only [D.keys, List.mem_cons] at hk
    rcases hk with rfl | hk
    · cases v with
      | some i => exact ⟨([k], i), by simp [D.entries], [], rfl⟩
      | none =>
        have h := hw.2.1 rfl
        have hne := entries_ne_nil s h.2 h.1
        obtain ⟨e, he⟩ := List.exists_mem_of_ne_nil _ hne
        exact ⟨(k :: e.1, e.2), by simp only [D.entries, List.mem_append, List.mem_map]; exact Or.inl ⟨e, he, rfl⟩, e.1, rfl⟩
    · obtain ⟨e, he, tl, h⟩ := ihr hw.2.2 hk
      refine ⟨e, ?_, tl, h⟩
      cases v with
      | some i => simp [D.entries, he]
      | none => simp [D.entries, he]

theorem mem_keys_iff (d : D) (hw : d.WF) (x : Key) : x ∈ d.keys ↔ ∃ e ∈ d.entries, [x] <+: e.1 := by
  constructor
  · intro hx
    obtain ⟨e, he, tl, h⟩ := key_has_entry d hw x hx
    exact ⟨e, he, h ▸ ⟨tl, rfl⟩⟩
  · rintro ⟨e, he, tl, h⟩
    obtain ⟨k, hk, tl', h'⟩ := entries_head d e he
    rw [h'] at h
    simp at h
    exact h.1 ▸ hk

theorem compat_leaf_notin (d : D) (k : Key) (hw : d.WF) (hc : Compat [k] d.entries) : k ∉ d.keys := by
  intro hk
  obtain ⟨e, he, tl, h⟩ := key_has_entry d hw k hk
  exact (hc e he).1 (h ▸ ⟨tl, rfl⟩)

theorem compat_rest (p : List Key) (k : Key) (v : Option Nat) (s r : D) (h : Compat p (D.ent k v s r).entries) :
    Compat p r.entries := by
  intro e he
  apply h
  cases v with
  | some i => simp [D.entries, he]
  | none => simp [D.entries, he]

theorem compat_sub (q : List Key) (k : Key) (s r : D) (h : Compat (k :: q) (D.ent k none s r).entries) :
    Compat q s.entries := by
  intro e he
  have := h (k :: e.1, e.2) (by simp only [D.entries, List.mem_append, List.mem_map]; exact Or.inl ⟨e, he, rfl⟩)
  exact ⟨fun hp => this.1 ((List.prefix_cons_inj k).mpr hp), fun hp => this.2 ((List.prefix_cons_inj k).mpr hp)⟩

/-! ### one insertion; the loop over the names -/

/-- what one insertion does, for both variants at once -/
structure Ins (p : List Key) (i : Nat) (d d' : D) : Prop where
  wf : d'.WF
  perm : d'.entries.Perm ((p, i) :: d.entries)

theorem Ins.ne {p i d d'} (h : Ins p i d d') : d' ≠ .nil := by
  rintro rfl
  exact absurd h.perm.length_eq (by simp [D.entries])

theorem Ins.keys {p i d d'} (h : Ins p i d d') (hw : d.WF) (x : Key) : x ∈ d'.keys ↔ x ∈ d.keys ∨ [x] <+: p := by
  rw [mem_keys_iff d' h.wf, mem_keys_iff d hw]
  constructor
  · rintro ⟨e, he, hx⟩
    rcases List.mem_cons.mp (h.perm.subset he) with rfl | he
    · exact Or.inr hx
    · exact Or.inl ⟨e, he, hx⟩
  · rintro (⟨e, he, hx⟩ | hx)
    · exact ⟨e, h.perm.symm.subset (List.mem_cons_of_mem _ he), hx⟩
    · exact ⟨(p, i), h.perm.symm.subset List.mem_cons_self, hx⟩

theorem entries_ent (k : Key) (v : Option Nat) (s r : D) :
    (D.ent k v s r).entries = (D.ent k v s .nil).entries ++ r.entries := by
  cases v <;> simp [D.entries]

theorem ins_rest {p : List Key} {i : Nat} {r r' : D} (k' : Key) (v : Option Nat) (s : D) (hw : (D.ent k' v s r).WF)
    (hk : ¬ [k'] <+: p) (ok : Ins p i r r') : Ins p i (.ent k' v s r) (.ent k' v s r') := by
  refine ⟨⟨fun hm => ?_, hw.2.1, ok.wf⟩, ?_⟩
  · rcases (ok.keys hw.2.2 k').mp hm with h | h
    · exact hw.1 h
    · exact hk h
  · rw [entries_ent k' v s r', entries_ent k' v s r]
    exact (List.Perm.append_left _ ok.perm).trans List.perm_middle

theorem setLeaf_spec (d : D) (k : Key) (i : Nat) (hw : d.WF) (hc : Compat [k] d.entries) :
    d.setLeafF k i = d.setLeaf k i ∧ Ins [k] i d (d.setLeaf k i) := by
  induction d with
  | nil => exact ⟨rfl, by simp [D.setLeaf, D.WF, D.keys], by simp [D.setLeaf, D.entries]⟩
  | ent k' v s r _ ihr =>
    by_cases hk : k' = k
    · exact absurd (by simp [D.keys, hk]) (compat_leaf_notin _ k hw hc)
    · obtain ⟨e, ok⟩ := ihr hw.2.2 (compat_rest _ _ _ _ _ hc)
      simp only [D.setLeafF, D.setLeaf, hk, if_false, e, true_and]
      exact ins_rest k' v s hw (fun h => hk (by simpa using h)) ok

/-- `f` / `fF`: what the two variants do below the key -/
theorem descend_spec (f fF : D → Option D) (q : List Key) (i : Nat)
    (hf : ∀ s, s.WF → Compat q s.entries → ∃ s', f s = some s' ∧ fF s = some s' ∧ Ins q i s s')
    (d : D) (k : Key) (hw : d.WF) (hc : Compat (k :: q) d.entries) :
    ∃ d', D.descend f d k = some d' ∧ D.descendF fF d k = some d' ∧ Ins (k :: q) i d d' := by
  induction d with
  | nil =>
    obtain ⟨s', hs', hsF, ok⟩ := hf .nil trivial (by intro e he; simp [D.entries] at he)
    refine ⟨.ent k none s' .nil, by simp [D.descend, hs'], by simp [D.descendF, hsF], ?_, ?_⟩
    · exact ⟨by simp [D.keys], fun _ => ⟨ok.ne, ok.wf⟩, trivial⟩
    · simpa [D.entries] using ok.perm.map (fun e : List Key × Nat => (k :: e.1, e.2))
  | ent k' v s r _ ihr =>
    by_cases hk : k' = k
    · subst hk
      cases v with
      | some j => exact absurd ⟨q, rfl⟩ (hc ([k'], j) (by simp [D.entries])).2
      | none =>
        obtain ⟨s', hs', hsF, ok⟩ := hf s (hw.2.1 rfl).2 (compat_sub q k' s r hc)
        refine ⟨.ent k' none s' r, by simp [D.descend, hs'], by simp [D.descendF, hsF], ?_, ?_⟩
        · exact ⟨hw.1, fun _ => ⟨ok.ne, ok.wf⟩, hw.2.2⟩
        · simpa [D.entries] using
            List.Perm.append_right r.entries (ok.perm.map (fun e : List Key × Nat => (k' :: e.1, e.2)))
    · obtain ⟨r', hr', hrF, ok⟩ := ihr hw.2.2 (compat_rest _ _ _ _ _ hc)
      exact ⟨.ent k' v s r', by simp [D.descend, hk, hr'], by simp [D.descendF, hk, hrF],
        ins_rest k' v s hw (fun h => hk (by simpa using h)) ok⟩

theorem insertPath_spec (p : List Key) (hp : p ≠ []) (i : Nat) :
    ∀ d : D, d.WF → Compat p d.entries →
      ∃ d', insertPath p i d = some d' ∧ insertPathF p i d = some d' ∧ Ins p i d d' := by
  induction p with
  | nil => exact absurd rfl hp
  | cons k ks ih =>
    intro d hw hc
    cases ks with
    | nil =>
      obtain ⟨e, ok⟩ := setLeaf_spec d k i hw hc
      exact ⟨d.setLeaf k i, rfl, by simp [insertPathF, e], ok⟩
    | cons k2 ks =>
      simp only [insertPath, insertPathF]
      exact descend_spec _ _ (k2 :: ks) i (ih (by simp)) d k hw hc

/-- the names that parse, each with its position (`matchesFrom_eq`: a `filterMap` over `zipIdx`) -/
def matchesFrom (pre : List Char) : List (List Char) → Nat → List (List Key × Nat)
  | [], _ => []
  | nm :: rest, i =>
    match pathOf pre nm with
    | none => matchesFrom pre rest (i + 1)
    | some p => (p, i) :: matchesFrom pre rest (i + 1)

def CompatP (a b : List Key × Nat) : Prop := ¬ a.1 <+: b.1 ∧ ¬ b.1 <+: a.1

instance (a b : List Key × Nat) : Decidable (CompatP a b) := by unfold CompatP; exact inferInstance

theorem insertAll_spec (pre : List Char) (names : List (List Char)) : ∀ (i : Nat) (d : D), d.WF →
    (matchesFrom pre names i).Pairwise CompatP → (∀ e ∈ matchesFrom pre names i, Compat e.1 d.entries) →
    ∃ d', insertAll pre names i d = some d' ∧ insertAllF pre names i d = some d' ∧ d'.WF ∧
      d'.entries.Perm (d.entries ++ matchesFrom pre names i) := by
  induction names with
  | nil => intro i d hw _ _; exact ⟨d, rfl, rfl, hw, by simp [matchesFrom]⟩
  | cons nm rest ih =>
    intro i d hw hpw hd
    simp only [insertAll, insertAllF, matchesFrom] at hpw hd ⊢
    cases hp : pathOf pre nm with
    | none =>
      simp only [hp] at hpw hd ⊢
      exact ih (i + 1) d hw hpw hd
    | some p =>
      simp only [hp] at hpw hd ⊢
      have hne : p ≠ [] := by
        obtain ⟨m, _, hm⟩ := Option.map_eq_some_iff.1 hp
        rw [← hm]; simp
      obtain ⟨d1, h1, h1F, ok⟩ := insertPath_spec p hne i d hw (hd _ List.mem_cons_self)
      have hpw' := List.pairwise_cons.mp hpw
      have hd1 : ∀ e' ∈ matchesFrom pre rest (i + 1), Compat e'.1 d1.entries := by
        intro e' he' x hx
        rcases List.mem_cons.mp (ok.perm.subset hx) with rfl | hx
        · exact ⟨(hpw'.1 e' he').2, (hpw'.1 e' he').1⟩
        · exact hd e' (List.mem_cons_of_mem _ he') x hx
      obtain ⟨d', h2, h2F, hw', hperm⟩ := ih (i + 1) d1 ok.wf hpw'.2 hd1
      rw [h1, h1F]
      refine ⟨d', h2, h2F, hw', ?_⟩
      exact hperm.trans ((List.Perm.append_right _ ok.perm).trans (by simpa using List.perm_middle.symm))

/-! ### recursive sorting -/

theorem lexLe_iff (a b : Key) : lexLe a b = true ↔ a ≤ b := by
  induction a generalizing b with
  | nil => simp [lexLe]
  | cons x xs ih =>
    cases b with
    | nil => simp [lexLe]
    | cons y ys => simp [lexLe, List.cons_le_cons_iff, ih]

theorem lexLe_eq_false_iff (a b : Key) : lexLe a b = false ↔ b < a := by
  rw [← Bool.not_eq_true, lexLe_iff]
  exact List.not_le

def D.Sorted : D → Prop
  | .nil => True
  | .ent k v s r => (∀ k' ∈ r.keys, lexLe k' k = false) ∧ (v = none → s.Sorted) ∧ r.Sorted

theorem insEnt_keys (k : Key) (v : Option Nat) (s r : D) (x : Key) :
    x ∈ (insEnt k v s r).keys ↔ x = k ∨ x ∈ r.keys := by
  induction r with
  | nil => simp [insEnt, D.keys]
  | ent k' v' s' r' _ ih =>
    simp only [insEnt]
    split
    · simp [D.keys]
    · simp only [D.keys, List.mem_cons, ih]
      exact or_left_comm

theorem sortRec_keys (d : D) (x : Key) : x ∈ (sortRec d).keys ↔ x ∈ d.keys := by
  induction d with
  | nil => simp [sortRec]
  | ent k v s r _ ihr => simp [sortRec, insEnt_keys, D.keys, ihr]

theorem insEnt_sorted (k : Key) (v : Option Nat) (s r : D) (hs : v = none → s.Sorted) (hr : r.Sorted)
    (hk : k ∉ r.keys) : (insEnt k v s r).Sorted := by
  induction r with
  | nil => exact ⟨by simp [D.keys], hs, trivial⟩
  | ent k' v' s' r' _ ih =>
    simp only [insEnt]
    split
    · next hle =>
      have hlt : k < k' := (List.le_iff_lt_or_eq.1 ((lexLe_iff _ _).1 hle)).resolve_right (fun e => hk (by simp [D.keys, e]))
      refine ⟨fun x hx => (lexLe_eq_false_iff _ _).2 ?_, hs, hr⟩
      rcases List.mem_cons.mp hx with rfl | hx
      · exact hlt
      · exact List.lt_trans hlt ((lexLe_eq_false_iff _ _).1 (hr.1 x hx))
    · next hle =>
      refine ⟨fun x hx => ?_, hr.2.1, ih hr.2.2 (fun h => hk (by simp [D.keys, h]))⟩
      rcases (insEnt_keys k v s r' x).mp hx with rfl | hx
      · simpa using hle
      · exact hr.1 x hx

theorem sortRec_sorted (d : D) (hw : d.WF) : (sortRec d).Sorted := by
  induction d with
  | nil => trivial
  | ent k v s r ihs ihr =>
    simp only [sortRec]
    apply insEnt_sorted
    · intro hv; exact ihs (hw.2.1 hv).2
    · exact ihr hw.2.2
    · rw [sortRec_keys]; exact hw.1

theorem entries_insEnt (k : Key) (v : Option Nat) (s r : D) :
    (insEnt k v s r).entries.Perm ((D.ent k v s .nil).entries ++ r.entries) := by
  induction r with
  | nil => simp [insEnt, D.entries]
  | ent k' v' s' r' _ ih =>
    simp only [insEnt]
    split
    · rw [entries_ent]
    · rw [entries_ent k' v' s' (insEnt k v s r'), entries_ent k' v' s' r']
      exact (List.Perm.append_left _ ih).trans (by
        rw [← List.append_assoc, ← List.append_assoc]
        exact List.Perm.append_right _ List.perm_append_comm)

theorem entries_sortRec (d : D) : (sortRec d).entries.Perm d.entries := by
  induction d with
  | nil => simp [sortRec]
  | ent k v s r ihs ihr =>
    simp only [sortRec]
    refine (entries_insEnt k v (sortRec s) (sortRec r)).trans ?_
    rw [entries_ent k v s r]
    refine List.Perm.append ?_ ihr
    cases v with
    | some i => simp [D.entries]
    | none =>
      simp only [D.entries, List.append_nil]
      exact ihs.map _

/-- `<` on paths (`pathLt_iff`), as the Boolean function the statements evaluate -/
def pathLt : List Key → List Key → Bool
  | [], [] => false
  | [], _ :: _ => true
  | _ :: _, [] => false
  | a :: as, b :: bs => !(lexLe b a) || (a == b && pathLt as bs)

theorem sorted_entries_pairwise (d : D) (hs : d.Sorted) :
    d.entries.Pairwise (fun a b => pathLt a.1 b.1 = true) := by
  induction d with
  | nil => simp [D.entries]
  | ent k v s r ihs ihr =>
    rw [entries_ent]
    apply List.pairwise_append.mpr
    refine ⟨?_, ihr hs.2.2, ?_⟩
    · cases v with
      | some i => simp [D.entries]
      | none =>
        simp only [D.entries, List.append_nil]
        apply List.pairwise_map.mpr
        refine (ihs (hs.2.1 rfl)).imp ?_
        intro a b hab
        simp [pathLt, hab]
    · intro a ha b hb
      obtain ⟨k'', hk'', tl, hb1⟩ := entries_head r b hb
      have hlt := hs.1 k'' hk''
      have ha1 : ∃ tl', a.1 = k :: tl' := by
        cases v with
        | some i => simp [D.entries] at ha; exact ⟨[], by rw [ha]⟩
        | none =>
          simp only [D.entries, List.append_nil, List.mem_map] at ha
          obtain ⟨e, _, rfl⟩ := ha
          exact ⟨e.1, rfl⟩
      obtain ⟨tl', ha1⟩ := ha1
      rw [ha1, hb1]
      simp [pathLt, hlt]

/-! ### the flat result -/

/-- `.raises` and `.none` both give `[]`: a statement about `.flat` says "does not raise" only through a `Perm` with a non-empty list -/
def Res.flat : Res → List Nat
  | .raises => []
  | .none => []
  | .int i => [i]
  | .list d => d.flat

theorem unwrap_flat (d : D) : (unwrap d).flat = d.flat := by
  induction d with
  | nil => rfl
  | ent k v s r ihs _ =>
    cases r with
    | ent k' v' s' r' => cases v <;> rfl
    | nil =>
      cases v with
      | some i => simp [unwrap, Res.flat, D.flat, D.entries]
      | none =>
        simp only [unwrap]
        rw [ihs]
        simp [D.flat, D.entries]

theorem unwrap_ne_raises (d : D) : unwrap d ≠ .raises := by
  induction d with
  | nil => simp [unwrap]
  | ent k v s r ihs _ =>
    cases r with
    | ent k' v' s' r' => cases v <;> simp [unwrap]
    | nil =>
      cases v with
      | some i => simp [unwrap]
      | none => simpa [unwrap] using ihs

/-! ### the regular expression; names with index suffixes -/

theorem dropPrefix_append (p s : List Char) : dropPrefix? p (p ++ s) = some s := by
  induction p with
  | nil => cases s <;> rfl
  | cons c cs ih => simp [dropPrefix?, ih]

theorem lazyExt_all (s : List Char) (h : s.all isIdxChar = true) : lazyExt s = ([], s) := by
  cases s with
  | nil => rfl
  | cons c cs => simp only [lazyExt, h, if_true]

/-- a name that is the prefix followed by index characters only: `m[1]` is the prefix, `m[2]` the rest -/
theorem reMatch_suffix (p sfx : List Char) (h : sfx.all isIdxChar = true) : reMatch p (p ++ sfx) = some (p, sfx) := by
  simp [reMatch, dropPrefix_append, lazyExt_all sfx h]

theorem digitRuns_digits (cur ds rest : List Char) (h : ds.all Char.isDigit = true) :
    digitRuns cur (ds ++ rest) = digitRuns (cur ++ ds) rest := by
  induction ds generalizing cur with
  | nil => simp
  | cons d ds ih =>
    simp only [List.all_cons, Bool.and_eq_true] at h
    simp only [List.cons_append, digitRuns, h.1, if_true]
    rw [ih (cur ++ [d]) h.2]; simp

theorem digitRuns_sep (cur rest : List Char) (c : Char) (h : c.isDigit = false) :
    digitRuns cur (c :: rest) = (if cur.isEmpty then [] else [cur]) ++ digitRuns [] rest := by
  simp only [digitRuns, h, Bool.false_eq_true, if_false]
  split <;> simp

/-- the three index styles `p[i]`, `p_i`, `p_i_` -/
inductive Style where
  | br | us | ust
deriving DecidableEq, Repr

def fmtIdx : Style → List Char → List Char
  | .br, ds => '[' :: ds ++ [']']
  | .us, ds => '_' :: ds
  | .ust, ds => '_' :: ds ++ ['_']

def suffixOf : List (Style × List Char) → List Char
  | [] => []
  | it :: its => fmtIdx it.1 it.2 ++ suffixOf its

def digitsOK (ds : List Char) : Bool := !ds.isEmpty && ds.all Char.isDigit

theorem fmtIdx_shape (st : Style) (ds : List Char) :
    ∃ o cl, fmtIdx st ds = o :: (ds ++ cl) ∧ o.isDigit = false ∧ (cl = [] ∨ ∃ c, cl = [c] ∧ c.isDigit = false) := by
  cases st
  · exact ⟨'[', [']'], rfl, by decide, Or.inr ⟨_, rfl, by decide⟩⟩
  · exact ⟨'_', [], by simp [fmtIdx], by decide, Or.inl rfl⟩
  · exact ⟨'_', ['_'], rfl, by decide, Or.inr ⟨_, rfl, by decide⟩⟩

theorem digitRuns_suffix (items : List (Style × List Char)) (h : ∀ it ∈ items, digitsOK it.2 = true) (cur : List Char) :
    digitRuns cur (suffixOf items) = (if cur.isEmpty then [] else [cur]) ++ items.map Prod.snd := by
  induction items generalizing cur with
  | nil => simp only [suffixOf, digitRuns]; split <;> simp
  | cons it its ih =>
    obtain ⟨st, ds⟩ := it
    have hd := h (st, ds) (by simp)
    simp only [digitsOK, Bool.and_eq_true, Bool.not_eq_true', List.isEmpty_eq_false_iff] at hd
    have ih' := fun c => ih (fun it hit => h it (List.mem_cons_of_mem _ hit)) c
    obtain ⟨o, cl, hf, ho, hcl⟩ := fmtIdx_shape st ds
    simp only [suffixOf, hf, List.cons_append, List.append_assoc]
    rw [digitRuns_sep cur _ o ho, digitRuns_digits [] ds _ hd.2]
    rcases hcl with rfl | ⟨c, rfl, hc⟩
    · simp [ih', hd.1]
    · rw [List.cons_append, List.nil_append, digitRuns_sep _ _ c hc]
      simp [ih', hd.1]

theorem isIdx_of_digit (c : Char) (h : c.isDigit = true) : isIdxChar c = true := by simp [isIdxChar, h]

theorem suffixOf_idx (items : List (Style × List Char)) (h : ∀ it ∈ items, digitsOK it.2 = true) :
    (suffixOf items).all isIdxChar = true := by
  induction items with
  | nil => rfl
  | cons it its ih =>
    obtain ⟨st, ds⟩ := it
    have hd := h (st, ds) (by simp)
    simp only [digitsOK, Bool.and_eq_true] at hd
    have hall : ds.all isIdxChar = true := by
      apply List.all_eq_true.mpr
      intro c hc
      exact isIdx_of_digit c (List.all_eq_true.mp hd.2 c hc)
    have ih' := ih (fun it hit => h it (List.mem_cons_of_mem _ hit))
    cases st <;> simp [suffixOf, fmtIdx, hall, ih', isIdxChar]

theorem pathOf_suffix (p : List Char) (items : List (Style × List Char)) (h : ∀ it ∈ items, digitsOK it.2 = true) :
    pathOf p (p ++ suffixOf items) = some (stemKey p :: items.map (fun it => idxKey (decVal it.2))) := by
  simp only [pathOf, reMatch_suffix p _ (suffixOf_idx items h), Option.map_some]
  rw [digitRuns_suffix items h []]
  simp [List.map_map, Function.comp_def]

theorem decVal_repr (i : Nat) : decVal (toString i).toList = i := by
  have : decVal (Nat.toDigits 10 i) = Nat.ofDigitChars 10 (Nat.toDigits 10 i) 0 := rfl
  simp only [Nat.toString_eq_repr, Nat.toList_repr, this]
  exact Nat.ofDigitChars_toDigits (by omega) (by omega)

theorem digitsOK_repr (i : Nat) : digitsOK (toString i).toList = true := by
  simp only [Nat.toString_eq_repr, Nat.toList_repr, digitsOK, Bool.and_eq_true, Bool.not_eq_true',
    List.isEmpty_eq_false_iff, List.all_eq_true]
  exact ⟨Nat.toDigits_ne_nil, fun c hc => Nat.isDigit_of_mem_toDigits (by omega) (by omega) hc⟩

/-! ### buses: index vectors instead of key paths -/

def busName (p : List Char) (row : List (Style × List Char)) : List Char := p ++ suffixOf row
def busPath (p : List Char) (v : List Nat) : List Key := stemKey p :: v.map idxKey

theorem prefix_of_map_idxKey (a b : List Nat) (h : a.map idxKey <+: b.map idxKey) : a <+: b := by
  induction a generalizing b with
  | nil => exact List.nil_prefix
  | cons x xs ih =>
    cases b with
    | nil => simp at h
    | cons y ys =>
      simp only [List.map_cons, List.cons_prefix_cons, idxKey] at h
      have hxy : x = y := by simpa using h.1
      rw [hxy]
      exact (List.cons_prefix_cons).mpr ⟨rfl, ih ys h.2⟩

def VecCompat (a b : List Nat) : Prop := ¬ a <+: b ∧ ¬ b <+: a

instance (a b : List Nat) : Decidable (VecCompat a b) := by unfold VecCompat; exact inferInstance

def numRow (row : List (Style × Nat)) : List (Style × List Char) := row.map fun it => (it.1, (toString it.2).toList)
def vecOf (row : List (Style × Nat)) : List Nat := row.map Prod.snd
def vecEntries : List (List (Style × Nat)) → Nat → List (List Nat × Nat)
  | [], _ => []
  | r :: rs, i => (vecOf r, i) :: vecEntries rs (i + 1)
/-- left inverse of `busPath p` (`unkey_busPath`); on other paths (the sentinel key `[]` ↦ 0) it means nothing -/
def unkey (path : List Key) : List Nat := path.tail.map fun k => k.headD 0
def vecLt (a b : List Nat) : Bool := pathLt (a.map idxKey) (b.map idxKey)

theorem unkey_busPath (p : List Char) (v : List Nat) : unkey (busPath p v) = v := by
  simp [unkey, busPath, idxKey, List.map_map, Function.comp_def]


theorem numRow_digits (r : List (Style × Nat)) : ∀ it ∈ numRow r, digitsOK it.2 = true := by
  simp only [numRow, List.mem_map]
  rintro _ ⟨x, _, rfl⟩
  simp only [digitsOK_repr]

theorem pathOf_num (p : List Char) (r : List (Style × Nat)) :
    pathOf p (busName p (numRow r)) = some (busPath p (vecOf r)) := by
  rw [busName, pathOf_suffix p _ (numRow_digits r)]
  simp only [busPath, numRow, vecOf, List.map_map, Function.comp_def, decVal_repr]

theorem matchesFrom_num (p : List Char) (rows : List (List (Style × Nat))) (i : Nat) :
    matchesFrom p (rows.map fun r => busName p (numRow r)) i = (vecEntries rows i).map (fun e => (busPath p e.1, e.2)) := by
  induction rows generalizing i with
  | nil => rfl
  | cons r rs ih => simp only [List.map_cons, matchesFrom, pathOf_num, vecEntries, ih (i + 1)]

theorem vecEntries_fst (rows : List (List (Style × Nat))) (i : Nat) : (vecEntries rows i).map Prod.fst = rows.map vecOf := by
  induction rows generalizing i with
  | nil => rfl
  | cons r rs ih => simp only [vecEntries, List.map_cons, ih (i + 1)]

theorem compat_num (p : List Char) (rows : List (List (Style × Nat))) (i : Nat)
    (h : (rows.map vecOf).Pairwise VecCompat) :
    ((vecEntries rows i).map (fun e => (busPath p e.1, e.2))).Pairwise CompatP := by
  rw [← vecEntries_fst rows i] at h
  refine List.pairwise_map.mpr ((List.pairwise_map.mp h).imp ?_)
  intro a b hv
  simp only [CompatP, busPath, List.cons_prefix_cons, true_and]
  exact ⟨fun hp => hv.1 (prefix_of_map_idxKey _ _ hp), fun hp => hv.2 (prefix_of_map_idxKey _ _ hp)⟩

theorem vecEntries_1d (its : List (Style × Nat)) (i : Nat) :
    vecEntries (its.map fun it => [it]) i = ((its.zipIdx i).map fun x => (x.1.2, x.2)).map fun e => ([e.1], e.2) := by
  induction its generalizing i with
  | nil => rfl
  | cons a as ih => simp [vecEntries, vecOf, List.zipIdx_cons, ih (i + 1)]

theorem perm_map_inv {α β : Type} (f : α → β) (g : β → α) (hg : ∀ a, g (f a) = a) (L : List β) (M : List α)
    (h : L.Perm (M.map f)) : L = (L.map g).map f ∧ (L.map g).Perm M := by
  refine ⟨?_, by simpa [List.map_map, Function.comp_def, hg] using h.map g⟩
  rw [List.map_map]
  refine (List.map_id L).symm.trans (List.map_congr_left fun b hb => ?_)
  obtain ⟨a, _, rfl⟩ := List.mem_map.mp (h.subset hb)
  simp [hg]

/-! ### `matchesFrom` as a `filterMap`; the comparators are core `<` -/

theorem matchesFrom_eq (pre : List Char) (names : List (List Char)) (i : Nat) :
    matchesFrom pre names i = (names.zipIdx i).filterMap fun x => (pathOf pre x.1).map (·, x.2) := by
  induction names generalizing i with
  | nil => rfl
  | cons nm rest ih => cases h : pathOf pre nm <;> simp [matchesFrom, h, ih]

theorem matchesFrom_functional (pre : List Char) (names : List (List Char)) (i : Nat) (a : Nat) (pa pb : List Key)
    (h1 : (pa, a) ∈ matchesFrom pre names i) (h2 : (pb, a) ∈ matchesFrom pre names i) : pa = pb := by
  simp only [matchesFrom_eq, List.mem_filterMap, Option.map_eq_some_iff, Prod.mk.injEq] at h1 h2
  obtain ⟨⟨n1, j1⟩, m1, q1, hq1, rfl, rfl⟩ := h1
  obtain ⟨⟨n2, j2⟩, m2, q2, hq2, rfl, e⟩ := h2
  simp only at e; subst e
  rw [List.mk_mem_zipIdx_iff_le_and_getElem?_sub] at m1 m2
  cases m1.2.symm.trans m2.2
  rw [hq1] at hq2
  exact Option.some.inj hq2

theorem pathLt_iff (a b : List Key) : pathLt a b = true ↔ a < b := by
  induction a generalizing b with
  | nil => cases b <;> simp [pathLt]
  | cons x xs ih =>
    cases b with
    | nil => simp [pathLt]
    | cons y ys => simp [pathLt, List.cons_lt_cons_iff, ih, lexLe_eq_false_iff]

theorem vecLt_iff (a b : List Nat) : vecLt a b = true ↔ a < b := by
  unfold vecLt
  induction a generalizing b with
  | nil => cases b <;> simp [pathLt]
  | cons x xs ih =>
    cases b with
    | nil => simp [pathLt]
    | cons y ys =>
      simp only [List.map_cons, pathLt, Bool.or_eq_true, Bool.not_eq_true', Bool.and_eq_true, beq_iff_eq, ih,
        lexLe_eq_false_iff, List.cons_lt_cons_iff, idxKey]
      simp

theorem pathLt_stem (s : Key) (a b : List Key) : pathLt (s :: a) (s :: b) = pathLt a b := by
  rw [Bool.eq_iff_iff, pathLt_iff, pathLt_iff, List.cons_lt_cons_iff]
  simp [List.lt_irrefl]

theorem pathLt_idx1 (x y : Nat) : pathLt [idxKey x] [idxKey y] = decide (x < y) := by
  rw [Bool.eq_iff_iff, show pathLt [idxKey x] [idxKey y] = vecLt [x] [y] from rfl, vecLt_iff]
  simp [List.cons_lt_cons_iff]

end KV.Locs
