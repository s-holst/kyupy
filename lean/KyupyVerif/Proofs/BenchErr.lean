import KyupyVerif.Proofs.BenchLines
/-! `benchOKB` is exactly "the model does not set `err`": the flag after the statement fold is the accumulated check `okAcc`
(`err_foldl_bench`), and that check is `benchOKB` (`okAcc_eq`).  The model sets `err` where `bench.parse` raises and, as a
domain guard of `Circ.addCell`, on a gate of kind `__fork__`. -/
namespace KV.Netlist
open KV

theorem err_getOrAddFork (C : Circ) (n : String) : (getOrAddFork C n).err = C.err := by
  unfold getOrAddFork
  split
  · rfl
  · rename_i h
    simp [Circ.addFork, h]

theorem err_foldl_getOrAddFork (l : List String) (C : Circ) : (l.foldl getOrAddFork C).err = C.err :=
  foldl_inv getOrAddFork (·.err = C.err) (fun s a _ h => (err_getOrAddFork s a).trans h) rfl

theorem isCell_foldl_getOrAddFork (l : List String) (C : Circ) (x : String) : (l.foldl getOrAddFork C).isCell x = C.isCell x := by
  rw [isCell_eq_any, cells_foldl_getOrAddFork, ← isCell_eq_any]

theorem err_benchStmt_gate (C : Circ) (n k : String) (d : List String) :
    (benchStmt C (.gate n k d)).err = (C.err || C.isCell n || k == forkKind) := by
  show (getOrAddFork ((d.foldl getOrAddFork C).addCell k n) n).err = _
  rw [err_getOrAddFork]
  show ((d.foldl getOrAddFork C).err || (d.foldl getOrAddFork C).isCell n || k == forkKind) = _
  rw [err_foldl_getOrAddFork, isCell_foldl_getOrAddFork]

theorem err_benchStmt_intf (C : Circ) (ns : List String) : (benchStmt C (.intf ns)).err = C.err := by
  show (ns.foldl getOrAddFork C).err = _
  exact err_foldl_getOrAddFork ns C

theorem isCell_benchStmt_intf (C : Circ) (ns : List String) (x : String) : (benchStmt C (.intf ns)).isCell x = C.isCell x := by
  rw [isCell_eq_any, cells_benchStmt C _ (fun _ h => by cases h), isCell_eq_any]; simp [gateOf]

theorem isCell_benchStmt_gate (C : Circ) (n k : String) (d : List String) (hk : k ≠ forkKind) (x : String) :
    (benchStmt C (.gate n k d)).isCell x = (C.isCell x || x == n) := by
  rw [isCell_eq_any, cells_benchStmt C _ (fun g h => by cases h; exact hk), List.any_append, isCell_eq_any]
  simp [gateOf, gateNode, Bool.beq_comm]

def okAcc (seen : List String) : List BStmt → Bool
  | [] => true
  | .intf _ :: r => okAcc seen r
  | .gate n k _ :: r => !seen.contains n && k != forkKind && okAcc (seen ++ [n]) r

theorem err_foldl_true (stmts : List BStmt) (C : Circ) (h : C.err = true) : (stmts.foldl benchStmt C).err = true :=
  foldl_inv benchStmt (·.err = true) (fun C s _ h => by
    cases s with
    | intf ns => rw [err_benchStmt_intf]; exact h
    | gate n k d => rw [err_benchStmt_gate, h]; rfl) h

theorem err_foldl_bench (stmts : List BStmt) (seen : List String) (C : Circ) (hc : C.err = false) (hs : ∀ x, C.isCell x = seen.contains x) :
    (stmts.foldl benchStmt C).err = !okAcc seen stmts := by
  induction stmts generalizing seen C with
  | nil => simp [okAcc, hc]
  | cons s r ih =>
    cases s with
    | intf ns =>
      simp only [List.foldl_cons, okAcc]
      exact ih seen _ (by rw [err_benchStmt_intf]; exact hc) (fun x => by rw [isCell_benchStmt_intf]; exact hs x)
    | gate n k d =>
      simp only [List.foldl_cons, okAcc]
      have he := err_benchStmt_gate C n k d
      rw [hc, hs n, Bool.false_or] at he
      have hbne : (k != forkKind) = !(k == forkKind) := rfl
      rw [hbne]
      cases h1 : seen.contains n with
      | true =>
        rw [h1] at he
        rw [err_foldl_true r _ (by rw [he]; rfl)]
        rfl
      | false =>
        cases h2 : (k == forkKind) with
        | true =>
          rw [h1, h2] at he
          rw [err_foldl_true r _ (by rw [he]; rfl)]
          rfl
        | false =>
          rw [h1, h2] at he
          have hk : k ≠ forkKind := by simpa using h2
          rw [ih (seen ++ [n]) _ he (fun x => by
            rw [isCell_benchStmt_gate C n k d hk, hs x, contains_append_single])]
          rfl

theorem all_split (G : List BGate) (seen : List String) (n : String) :
    (G.all fun g => !(seen ++ [n]).contains g.name && g.kind != forkKind) =
      ((G.all fun g => !seen.contains g.name && g.kind != forkKind) && !(G.map (·.name)).contains n) := by
  induction G with
  | nil => rfl
  | cons g r ih =>
    rw [List.all_cons, ih, List.all_cons, List.map_cons, List.contains_cons, contains_append_single,
      Bool.beq_comm (a := n) (b := g.name)]
    generalize seen.contains g.name = a
    generalize (g.name == n) = b
    generalize (g.kind != forkKind) = c
    generalize (r.all fun g => !seen.contains g.name && g.kind != forkKind) = e
    generalize (r.map (·.name)).contains n = f
    cases a <;> cases b <;> cases c <;> cases e <;> cases f <;> rfl

theorem okAcc_eq (stmts : List BStmt) (seen : List String) :
    okAcc seen stmts = (((benchGates stmts).all fun g => !seen.contains g.name && g.kind != forkKind) && nodupS ((benchGates stmts).map (·.name))) := by
  induction stmts generalizing seen with
  | nil => rfl
  | cons s r ih =>
    cases s with
    | intf ns =>
      simp only [okAcc, benchGates, List.filterMap_cons, gateOf]
      exact ih seen
    | gate n k d =>
      simp only [okAcc, benchGates, List.filterMap_cons, gateOf, List.all_cons, List.map_cons, nodupS]
      rw [ih (seen ++ [n])]
      unfold benchGates
      rw [all_split]
      generalize seen.contains n = a
      generalize (k != forkKind) = c
      generalize ((r.filterMap gateOf).all fun g => !seen.contains g.name && g.kind != forkKind) = e
      generalize ((r.filterMap gateOf).map (·.name)).contains n = f
      generalize nodupS ((r.filterMap gateOf).map (·.name)) = g
      cases a <;> cases c <;> cases e <;> cases f <;> cases g <;> rfl

end KV.Netlist
