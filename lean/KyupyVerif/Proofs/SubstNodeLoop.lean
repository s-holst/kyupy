import KyupyVerif.Proofs.Substitute
/-! C10 (`substitute`): the loop `for n in impl.nodes` in closed form.  The loop only appends: a blank node and a name for every
entry of `addedKN`, and `node_map` sends `k` to number `addedBefore k` of the new nodes; nothing is assumed but that the loop succeeds.
The one fact that is no equation: the guard of `Node(...)` keeps the keys distinct.  `NodeInv`, which the certificate reads, is read
off these equations. -/
namespace KV.Transform
open KV

/-- what `substituteCore_certP` uses about the state after `phase1` and the loop over the implementation's nodes, the cell being
    kept as the copy of `dn` (`nodeInv_closed` reads it off the closed form of the loop) -/
structure NodeInv (h : NNet) (c : Nat) (m : NNet) (dn : Nat) (hn : String) (st : NNet × Array (Option Nat)) : Prop where
  lines : st.1.net.lines = h.net.lines
  io : st.1.net.io = h.net.io
  nsize : h.net.nodes.size ≤ st.1.net.nodes.size
  names : st.1.names.size = st.1.net.nodes.size
  nameHost : ∀ d, d < h.net.nodes.size → st.1.names.getD d "" = h.names.getD d ""
  nodup : st.1.keys.Nodup
  cell : st.1.net.node c = ⟨(m.net.node dn).kind, [], []⟩
  blank : ∀ x, h.net.nodes.size ≤ x → (st.1.net.node x).ins = [] ∧ (st.1.net.node x).outs = []
  mapM : ∀ j x, st.2.getD j none = some x → j < m.net.nodes.size
  mapDn : dn < m.net.nodes.size → st.2.getD dn none = some c
  mapDom : ∀ j, (st.2.getD j none).isSome ↔
    (j = dn ∧ dn < m.net.nodes.size) ∨ (j < m.net.nodes.size ∧ (addedOne m hn (some dn) j).isSome)
  mapLt : ∀ j x, st.2.getD j none = some x → x < st.1.net.nodes.size
  mapInj : ∀ j1 j2 x, st.2.getD j1 none = some x → st.2.getD j2 none = some x → j1 = j2
  kind : ∀ j x, st.2.getD j none = some x → j ≠ dn → ∃ kn, addedOne m hn (some dn) j = some kn ∧ (st.1.net.node x).kind = kn.1

theorem phase1_map_getD (h : NNet) (c : Nat) (m : NNet) (dn k : Nat) :
    (phase1 h c m (some dn)).2.getD k none = if k = dn ∧ dn < m.net.nodes.size then some c else none := by
  show ((Array.replicate m.net.nodes.size (none : Option Nat)).setIfInBounds dn (some c)).getD k none = _
  rw [getD_setIfInBounds, getD_replicate_none]
  by_cases e : dn = k
  · subst e; simp
  · have : ¬ k = dn := fun x => e x.symm
    simp [e, this]

theorem phase1_some_node (h : NNet) (c : Nat) (m : NNet) (dn : Nat) (hc : c < h.net.nodes.size) (d : Nat) :
    (phase1 h c m (some dn)).1.net.node d = if d = c then ⟨(m.net.node dn).kind, [], []⟩ else h.net.node d := by
  simp only [phase1, Net.node, Array.getD_eq_getD_getElem?, Array.getElem?_modify]
  by_cases e : c = d
  · subst e; simp [Array.getElem?_eq_getElem hc]
  · have : ¬ d = c := fun x => e x.symm
    simp [e, this]

/-- the cell takes the kind of a node of its own class, so the keys are as before -/
theorem phase1_some_keys (h : NNet) (c : Nat) (m : NNet) (dn : Nat) (hc : c < h.net.nodes.size)
    (hk : (m.net.node dn).isFork = (h.net.node c).isFork) : (phase1 h c m (some dn)).1.keys = h.keys := by
  simp only [NNet.keys]
  have hs : (phase1 h c m (some dn)).1.net.nodes.size = h.net.nodes.size := by simp [phase1]
  rw [hs]
  apply List.map_congr_left
  intro i _
  simp only [NNet.key]
  rw [phase1_some_node h c m dn hc]
  by_cases e : i = c
  · subst e
    simp only [if_true]
    have : (⟨(m.net.node dn).kind, [], []⟩ : NodeD).isFork = (m.net.node dn).isFork := rfl
    rw [this, hk]; rfl
  · simp only [e, if_false]; rfl

def blankOf (kn : String × String) : NodeD := ⟨kn.1, [], []⟩

theorem nodeLoop_net (m : NNet) (hn : String) (des : Option Nat) (js : List Nat) (st st' : NNet × Array (Option Nat))
    (h : js.foldlM (addImplNode m hn des) st = some st') :
    st'.1.net.nodes = st.1.net.nodes ++ ((js.filterMap (addedOne m hn des)).map blankOf).toArray ∧
    st'.1.net.lines = st.1.net.lines ∧ st'.1.net.io = st.1.net.io ∧
    st'.1.names = st.1.names ++ ((js.filterMap (addedOne m hn des)).map (·.2)).toArray ∧
    ∀ k x, st'.2.getD k none = some x → st.2.getD k none = some x ∨ st.1.net.nodes.size ≤ x := by
  have := foldlM_inv (addImplNode m hn des) (fun pre s =>
      s.1.net.nodes = st.1.net.nodes ++ ((pre.filterMap (addedOne m hn des)).map blankOf).toArray ∧
      s.1.net.lines = st.1.net.lines ∧ s.1.net.io = st.1.net.io ∧
      s.1.names = st.1.names ++ ((pre.filterMap (addedOne m hn des)).map (·.2)).toArray ∧
      ∀ k x, s.2.getD k none = some x → st.2.getD k none = some x ∨ st.1.net.nodes.size ≤ x)
    (fun pre s j s' hP h1 => ?_) js [] st st' ⟨by simp, rfl, rfl, by simp, fun _ _ => Or.inl⟩ h
  · simpa using this
  · rcases addImplNode_cases h1 with ⟨ha, rfl⟩ | ⟨kn, h', ha, hadd, rfl⟩
    · simpa [List.filterMap_append, ha] using hP
    · obtain ⟨e1, e2, e3, e4, _⟩ := addNode_spec s.1 h' kn.2 kn.1 hadd
      refine ⟨?_, e2.trans hP.2.1, e3.trans hP.2.2.1, ?_, fun k x hx => ?_⟩
      · rw [e1, hP.1]; simp [List.filterMap_append, ha, blankOf]
      · rw [e4, hP.2.2.2.1]; simp [List.filterMap_append, ha]
      · rw [getD_setIfInBounds] at hx
        split at hx
        · right; rw [← Option.some.inj hx, hP.1]; simp
        · exact hP.2.2.2.2 k x hx

/-- the one fact about the loop that is no equation: the guard of `Node(...)` keeps the keys distinct -/
theorem nodeLoop_keys (m : NNet) (hn : String) (des : Option Nat) (js : List Nat) (st st' : NNet × Array (Option Nat))
    (h : js.foldlM (addImplNode m hn des) st = some st') (li : LI st.1) (hk : st.1.keys.Nodup) : LI st'.1 ∧ st'.1.keys.Nodup := by
  refine foldlM_inv (addImplNode m hn des) (fun _ s => LI s.1 ∧ s.1.keys.Nodup)
    (fun _ s j s' hP h1 => ?_) js [] st st' ⟨li, hk⟩ h
  rcases addImplNode_cases h1 with ⟨_, rfl⟩ | ⟨kn, h', _, hadd, rfl⟩
  · exact hP
  · have o := addNode_obs s.1 h' kn.2 kn.1 hadd hP.1
    obtain ⟨_, _, _, _, e5⟩ := addNode_spec s.1 h' kn.2 kn.1 hadd
    refine ⟨o.2.2.1, ?_⟩
    rw [keys_eq, o.1, List.map_append, ← keys_eq]
    refine List.nodup_append.mpr ⟨hP.2, by simp, ?_⟩
    intro a ha b hb
    simp only [List.map_cons, List.map_nil, List.mem_singleton] at hb
    subst hb
    intro e; subst e
    have : s.1.keys.contains (keyOfKN kn) = true := by simpa using ha
    simp only [keyOfKN] at this
    rw [e5] at this; exact absurd this (by simp)

/-- number of nodes added for implementation nodes below `k` -/
def addedBefore (m : NNet) (hn : String) (des : Option Nat) (k : Nat) : Nat := ((List.range k).filterMap (addedOne m hn des)).length

/-- `node_map` after the loop over `0 … M-1`: the node added for `k` is number `addedBefore k` of the new nodes (by induction on `M`:
    when the loop comes to `M` there are `addedBefore M` new nodes, `nodeLoop_net`) -/
theorem nodeLoop_map_range (m : NNet) (hn : String) (des : Option Nat) : ∀ (M : Nat) (st st' : NNet × Array (Option Nat)),
    M ≤ st.2.size → (List.range M).foldlM (addImplNode m hn des) st = some st' →
    st'.2.size = st.2.size ∧ ∀ k, st'.2.getD k none =
      if k < M ∧ (addedOne m hn des k).isSome = true then some (st.1.net.nodes.size + addedBefore m hn des k)
      else st.2.getD k none
  | 0, st, st', _, h => by
    cases Option.some.inj h
    exact ⟨rfl, fun k => by simp⟩
  | M + 1, st, st', hM, h => by
    rw [List.range_succ, List.foldlM_append] at h
    simp only [List.foldlM_cons, List.foldlM_nil, Option.bind_eq_bind, Option.bind_eq_some_iff, Option.pure_def,
      Option.some.injEq, exists_eq_right] at h
    obtain ⟨s, h1, h2⟩ := h
    obtain ⟨hs, hk⟩ := nodeLoop_map_range m hn des M st s (Nat.le_of_succ_le hM) h1
    have hn1 : s.1.net.nodes.size = st.1.net.nodes.size + addedBefore m hn des M := by
      rw [(nodeLoop_net m hn des _ st s h1).1]; simp [addedBefore]
    rcases addImplNode_cases h2 with ⟨ha, rfl⟩ | ⟨kn, h', ha, _, rfl⟩
    · refine ⟨hs, fun k => ?_⟩
      rw [hk k]
      by_cases e : k = M
      · simp [e, ha]
      · have : k < M + 1 ↔ k < M := by omega
        simp only [this]
    · refine ⟨by simpa using hs, fun k => ?_⟩
      show (s.2.setIfInBounds M (some s.1.net.nodes.size)).getD k none = _
      rw [getD_setIfInBounds, hs, hn1]
      by_cases e : M = k
      · subst e
        simp [Nat.lt_of_succ_le hM, ha]
      · have : k < M + 1 ↔ k < M := by omega
        rw [if_neg (fun hc => e hc.1), hk k]
        simp only [this]

theorem addedBefore_lt (m : NNet) (hn : String) (des : Option Nat) {j k : Nat} (hjk : j < k) (ha : (addedOne m hn des j).isSome = true) :
    addedBefore m hn des j < addedBefore m hn des k := by
  have h1 : addedBefore m hn des (j + 1) = addedBefore m hn des j + 1 := by
    obtain ⟨kn, hkn⟩ := Option.isSome_iff_exists.mp ha
    simp [addedBefore, List.range_succ, List.filterMap_append, hkn]
  have h2 : addedBefore m hn des (j + 1) ≤ addedBefore m hn des k := by
    have : (List.range (j + 1)).Sublist (List.range k) := List.range_sublist.mpr (by omega)
    exact (this.filterMap _).length_le
  omega

theorem added_getElem (m : NNet) (hn : String) (des : Option Nat) (M j : Nat) (hj : j < M) (kn : String × String)
    (ha : addedOne m hn des j = some kn) :
    ((List.range M).filterMap (addedOne m hn des))[addedBefore m hn des j]? = some kn := by
  have hM : M = (j + 1) + (M - j - 1) := by omega
  rw [hM, List.range_add, List.filterMap_append, List.range_succ, List.filterMap_append]
  simp only [List.filterMap_cons, ha, List.filterMap_nil]
  rw [List.getElem?_append_left (by simp [addedBefore]), List.getElem?_append_right (by simp [addedBefore])]
  simp [addedBefore]

theorem nodeInv_closed (h : NNet) (c : Nat) (m : NNet) (dn : Nat) (hn : String) (w : WFr h) (hc : c < h.net.nodes.size)
    (hk : (m.net.node dn).isFork = (h.net.node c).isFork) (hd : dn ∉ m.net.io) (st' : NNet × Array (Option Nat))
    (he : (List.range m.net.nodes.size).foldlM (addImplNode m hn (some dn)) (phase1 h c m (some dn)) = some st') :
    NodeInv h c m dn hn st' := by
  obtain ⟨e1, e2, e3, e4, _⟩ := nodeLoop_net m hn (some dn) _ _ st' he
  have key : ∀ k, st'.2.getD k none =
      if k < m.net.nodes.size ∧ (addedOne m hn (some dn) k).isSome = true then some (h.net.nodes.size + addedBefore m hn (some dn) k)
      else if k = dn ∧ dn < m.net.nodes.size then some c else none := fun k => by
    rw [(nodeLoop_map_range m hn (some dn) m.net.nodes.size _ st' (by simp [phase1]) he).2 k, phase1_map_getD]
    simp [phase1]
  have hdn : ¬ (addedOne m hn (some dn) dn).isSome = true := fun hs => by
    have := (addedOne_isSome m hn (some dn) dn).mp hs; rw [if_neg hd] at this; exact this rfl
  have hN : (phase1 h c m (some dn)).1.net.nodes.size = h.net.nodes.size := by simp [phase1]
  have hli : LI (phase1 h c m (some dn)).1 := (phase1_some_obs h c m dn ⟨w.names, w.io⟩ hc).2.2.1
  obtain ⟨li', nd'⟩ := nodeLoop_keys m hn (some dn) _ _ st' he hli (by rw [phase1_some_keys h c m dn hc hk]; exact w.nodup)
  have hsz : st'.1.net.nodes.size = h.net.nodes.size + addedBefore m hn (some dn) m.net.nodes.size := by
    rw [e1]; simp [hN, addedBefore]
  have hnew : ∀ t, st'.1.net.node (h.net.nodes.size + t) =
      ((((List.range m.net.nodes.size).filterMap (addedOne m hn (some dn)))[t]?).map blankOf).getD default := fun t => by
    have h1 : ¬ h.net.nodes.size + t < h.net.nodes.size := by omega
    simp only [Net.node, e1, Array.getD_eq_getD_getElem?, Array.getElem?_append, hN, h1, if_false, Nat.add_sub_cancel_left,
      List.getElem?_toArray, List.getElem?_map]
  -- an entry of `node_map` is the cell (for `dn`) or a node behind the host's
  have hval : ∀ j x, st'.2.getD j none = some x →
      (j < m.net.nodes.size ∧ (addedOne m hn (some dn) j).isSome = true ∧ x = h.net.nodes.size + addedBefore m hn (some dn) j) ∨
      (j = dn ∧ dn < m.net.nodes.size ∧ x = c) := by
    intro j x hx
    rw [key] at hx
    split at hx
    · rename_i a; exact Or.inl ⟨a.1, a.2, (Option.some.inj hx).symm⟩
    · split at hx
      · rename_i b; exact Or.inr ⟨b.1, b.2, (Option.some.inj hx).symm⟩
      · exact absurd hx (by simp)
  refine ⟨e2, e3, by rw [hsz]; omega, li'.1, fun d hd' => ?_, nd', ?_, fun x hx => ?_, fun j x hx => ?_, fun hlt => ?_, fun j => ?_,
    fun j x hx => ?_, fun j1 j2 x h1 h2 => ?_, fun j x hx hne => ?_⟩
  · rw [e4]
    have : d < h.names.size := by rw [w.names]; exact hd'
    simp [phase1, Array.getD_eq_getD_getElem?, Array.getElem?_append, this]
  · have : st'.1.net.node c = (phase1 h c m (some dn)).1.net.node c := by
      simp [Net.node, e1, Array.getD_eq_getD_getElem?, Array.getElem?_append, hN, hc]
    rw [this, phase1_some_node h c m dn hc, if_pos rfl]
  · obtain ⟨t, rfl⟩ : ∃ t, x = h.net.nodes.size + t := ⟨x - h.net.nodes.size, by omega⟩
    rw [hnew]
    cases ((List.range m.net.nodes.size).filterMap (addedOne m hn (some dn)))[t]? <;> exact ⟨rfl, rfl⟩
  · rcases hval j x hx with ⟨a, _, _⟩ | ⟨e, a, _⟩
    · exact a
    · exact e ▸ a
  · rw [key, if_neg (fun a => hdn a.2), if_pos ⟨rfl, hlt⟩]
  · rw [key]
    by_cases a : j < m.net.nodes.size ∧ (addedOne m hn (some dn) j).isSome = true
    · simp [a]
    · rw [if_neg a]
      by_cases b : j = dn ∧ dn < m.net.nodes.size
      · simp [b]
      · simp only [if_neg b, Option.isSome_none, Bool.false_eq_true, false_iff]
        rintro (x | x)
        · exact b x
        · exact a x
  · rcases hval j x hx with ⟨a1, a2, e⟩ | ⟨_, _, e⟩
    · have := addedBefore_lt m hn (some dn) a1 a2; rw [hsz]; omega
    · rw [hsz]; omega
  · rcases hval j1 x h1 with ⟨a1, a2, e1'⟩ | ⟨b1, _, e1'⟩ <;> rcases hval j2 x h2 with ⟨a3, a4, e2'⟩ | ⟨b2, _, e2'⟩
    · rcases Nat.lt_trichotomy j1 j2 with hlt | heq | hgt
      · have := addedBefore_lt m hn (some dn) hlt a2; omega
      · exact heq
      · have := addedBefore_lt m hn (some dn) hgt a4; omega
    · omega
    · omega
    · rw [b1, b2]
  · rcases hval j x hx with ⟨a1, a2, e⟩ | ⟨b, _, _⟩
    · obtain ⟨kn, hkn⟩ := Option.isSome_iff_exists.mp a2
      refine ⟨kn, hkn, ?_⟩
      rw [e, hnew, added_getElem m hn (some dn) _ j a1 kn hkn]; rfl
    · exact absurd b hne

end KV.Transform
