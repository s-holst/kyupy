import KyupyVerif.Model.Prim
/-! The 2-valued reading of an op row: its LUT applied to the first four operands (missing operands read 0). -/
namespace KV

def lutSem (code : Nat) (xs : List Bool) : Bool :=
  lutBit4 code (xs.getD 0 false) (xs.getD 1 false) (xs.getD 2 false) (xs.getD 3 false)

end KV
