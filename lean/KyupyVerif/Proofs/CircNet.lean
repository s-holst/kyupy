import KyupyVerif.Model.CircNet
import KyupyVerif.Proofs.GenOpsWO
/-! Structure of the canonical dump `Circ.toNet` (Model/CircNet.lean): sizes, the record of line `i`, the kind of node `n`, and
the pin tables read back as "the last line attached to this pin".  `toNet_wf`: the dump of EVERY model circuit is well formed
(`Net.wfB`: the pin tables point at lines that name the node and pin). -/
namespace KV.Netlist
open KV

theorem pinTable_getD (ls : List LineD) (node pin : LineD → Nat) (n k : Nat) :
    (pinTable ls node pin n).getD k none =
      ((ls.zipIdx.filter fun p => node p.1 == n && pin p.1 == k).getLast?).map (·.2) := by
  unfold pinTable
  by_cases hk : k < ((ls.filter fun l => node l == n).map fun l => pin l + 1).foldl max 0
  · simp [List.getD_eq_getElem?_getD, List.getElem?_map, List.getElem?_range hk]
  · have hnone : (ls.zipIdx.filter fun p => node p.1 == n && pin p.1 == k) = [] := by
      rw [List.filter_eq_nil_iff]
      intro p hp hc
      simp only [Bool.and_eq_true, beq_iff_eq] at hc
      have hmem : p.1 ∈ ls := by
        have := List.mem_zipIdx_iff_getElem?.mp hp
        exact List.mem_of_getElem? this
      apply hk
      have : pin p.1 + 1 ≤ ((ls.filter fun l => node l == n).map fun l => pin l + 1).foldl max 0 :=
        ((foldl_max_le_iff id _ 0 _).mp (Nat.le_refl _)).2 _ (List.mem_map.mpr ⟨p.1, List.mem_filter.mpr ⟨hmem, by simp [hc.1]⟩, rfl⟩)
      omega
    rw [hnone]
    simp only [List.getLast?_nil, Option.map_none]
    rw [List.getD_eq_getElem?_getD, List.getElem?_eq_none]
    · rfl
    · simp only [List.length_map, List.length_range]; omega

theorem pinTable_sound (ls : List LineD) (node pin : LineD → Nat) (n k l : Nat)
    (h : (pinTable ls node pin n).getD k none = some l) :
    ∃ ld, ls[l]? = some ld ∧ node ld = n ∧ pin ld = k := by
  rw [pinTable_getD] at h
  cases hg : (ls.zipIdx.filter fun p => node p.1 == n && pin p.1 == k).getLast? with
  | none => rw [hg] at h; cases h
  | some p =>
    rw [hg] at h
    simp only [Option.map_some, Option.some.injEq] at h
    have hm := List.mem_of_getLast? hg
    rw [List.mem_filter] at hm
    have h1 := List.mem_zipIdx_iff_getElem?.mp hm.1
    simp only [Bool.and_eq_true, beq_iff_eq] at hm
    exact ⟨p.1, by rw [← h]; exact h1, hm.2.1, hm.2.2⟩

section
variable (C : Circ) (io : List Nat)

theorem lineDs_length : C.lineDs.length = (flatLines C).length := by
  simp [Circ.lineDs]

theorem toNet_lines_size : (C.toNet io).lines.size = (flatLines C).length := by
  simp [Circ.toNet, lineDs_length]

theorem toNet_nodes_size : (C.toNet io).nodes.size = C.nodes.length := by
  simp [Circ.toNet]

theorem toNet_io : (C.toNet io).io = io := rfl

theorem lineDs_getElem? (i : Nat) (hi : i < (flatLines C).length) :
    C.lineDs[i]? = some ⟨C.nodeIdx (flatLines C)[i].1, dpinOf ((flatLines C).take i) (flatLines C)[i].1,
      C.nodeIdx (flatLines C)[i].2, (flatLines C)[i].2.rpin⟩ := by
  simp [Circ.lineDs, List.getElem?_map, List.getElem?_zipIdx, List.getElem?_eq_getElem hi]

theorem toNet_line (i : Nat) (hi : i < (flatLines C).length) :
    (C.toNet io).line i = ⟨C.nodeIdx (flatLines C)[i].1, dpinOf ((flatLines C).take i) (flatLines C)[i].1,
      C.nodeIdx (flatLines C)[i].2, (flatLines C)[i].2.rpin⟩ := by
  unfold Net.line Circ.toNet
  simp only [Array.getD_eq_getD_getElem?, List.getElem?_toArray, lineDs_getElem? C i hi, Option.getD_some]

theorem toNet_node (n : Nat) (hn : n < C.nodes.length) :
    (C.toNet io).node n = ⟨C.nodes[n].kind, pinTable C.lineDs (·.reader) (·.rpin) n, pinTable C.lineDs (·.driver) (·.dpin) n⟩ := by
  unfold Net.node Circ.toNet
  simp [Array.getD_eq_getD_getElem?, List.getElem?_map, List.getElem?_zipIdx, List.getElem?_eq_getElem hn]

theorem toNet_node_kind (n : Nat) (hn : n < C.nodes.length) : ((C.toNet io).node n).kind = C.nodes[n].kind := by
  rw [toNet_node C io n hn]

theorem toNet_inPin (n k : Nat) (hn : n < C.nodes.length) :
    ((C.toNet io).node n).inPin k =
      ((C.lineDs.zipIdx.filter fun p => p.1.reader == n && p.1.rpin == k).getLast?).map (·.2) := by
  rw [toNet_node C io n hn]
  exact pinTable_getD C.lineDs (·.reader) (·.rpin) n k

theorem toNet_outPin (n k : Nat) (hn : n < C.nodes.length) :
    ((C.toNet io).node n).outPin k =
      ((C.lineDs.zipIdx.filter fun p => p.1.driver == n && p.1.dpin == k).getLast?).map (·.2) := by
  rw [toNet_node C io n hn]
  exact pinTable_getD C.lineDs (·.driver) (·.dpin) n k

/-- one side of `Net.wfB` for the dump (`node`/`pin` select the driver or the reader side): an entry of a pin table points at a
line that names the node and the pin -/
theorem toNet_pinTable_ok (node pin : LineD → Nat) (n l k : Nat)
    (hmem : (some l, k) ∈ (pinTable C.lineDs node pin n).zipIdx) :
    (l < (C.toNet io).lines.size ∧ node ((C.toNet io).line l) = n) ∧ pin ((C.toNet io).line l) = k := by
  have hD : (pinTable C.lineDs node pin n).getD k none = some l := by
    rw [List.getD_eq_getElem?_getD, show (pinTable C.lineDs node pin n)[k]? = some (some l) by
      simpa using List.mem_zipIdx_iff_getElem?.mp hmem]; rfl
  obtain ⟨ld, h1, h2, h3⟩ := pinTable_sound _ _ _ _ _ _ hD
  have hline : (C.toNet io).line l = ld := by
    unfold Net.line Circ.toNet
    simp only [Array.getD_eq_getD_getElem?, List.getElem?_toArray, h1, Option.getD_some]
  rw [hline, toNet_lines_size, ← lineDs_length]
  exact ⟨⟨(List.getElem?_eq_some_iff.mp h1).1, h2⟩, h3⟩

theorem toNet_wf : (C.toNet io).wfB = true := by
  unfold Net.wfB
  simp only [List.all_eq_true, List.mem_range, Bool.and_eq_true]
  intro n hn
  rw [toNet_nodes_size] at hn
  rw [toNet_node C io n hn]
  constructor
  · rintro ⟨o, k⟩ h
    cases o with
    | none => rfl
    | some l => simpa using toNet_pinTable_ok C io (·.driver) (·.dpin) n l k h
  · rintro ⟨o, k⟩ h
    cases o with
    | none => rfl
    | some l => simpa using toNet_pinTable_ok C io (·.reader) (·.rpin) n l k h

end
end KV.Netlist
