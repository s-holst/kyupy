import KyupyVerif.Proofs.SubstGeneral
import KyupyVerif.Proofs.SubstResolve
/-! C10, `resolve_sem_general` (Props/C10): `resolve_tlib_cells` when substitutions may remove lines, instances and dangling logic.  The
loop invariant `ResRelG` = `ResStr` (no values: `ρ` embeds what survives of the original circuit) + the two semantic directions.
`ρ` = index maps from `cur` to the original circuit `h`: `ρ.node j < h.nodes.size` says that node `j` of `cur` is the (not yet
substituted) original node `ρ.node j`, `ρ.line l < h.lines.size` that line `l` of `cur` is the original line `ρ.line l`; an index out
of range marks what is not original (a copy; the substituted cell, which stands for the designated cell).  One substitution, taken as
the certificate `SubstG` that `substitute_general` gives, turns `ρ` into `stepRho` and keeps the invariant (`resStep_str`, `resStep_fw`,
`resStep_bw`, assembled in `resRelG_step`); the whole loop is `resolve_general_main`, an instance of `resolve_cells_inv`. -/
namespace KV.Transform
open KV

/-- the half of the invariant that no algebra enters: `cur` is the original circuit without the nodes in `D` and what their
    substitutions removed, up to the index maps `ρ`.  A clause about a node or line of `cur` is guarded by `ρ` sending it into
    range.  `pos`: an original node outside `D` is still there.  `outsF` / `outsB`: the output pins of an original node that is no
    fork, from `cur` to `h` and back (a fork's list is squeezed by `Line.remove()`: its pins are not followed).  `drv` holds while
    the original driver is not substituted. -/
structure ResStr (h cur : NNet) (D : Nat → Prop) (ρ : Ren) : Prop where
  wf : WFm cur
  io : cur.net.io.map ρ.node = h.net.io
  nodeInj : ∀ j1 j2, j1 < cur.net.nodes.size → j2 < cur.net.nodes.size → ρ.node j1 < h.net.nodes.size → ρ.node j1 = ρ.node j2 → j1 = j2
  lineInj : ∀ l1 l2, l1 < cur.net.lines.size → l2 < cur.net.lines.size → ρ.line l1 < h.net.lines.size → ρ.line l1 = ρ.line l2 → l1 = l2
  pos : ∀ d, d < h.net.nodes.size → ¬ D d → ∃ j, j < cur.net.nodes.size ∧ ρ.node j = d
  node : ∀ j, j < cur.net.nodes.size → ρ.node j < h.net.nodes.size →
    (cur.net.node j).kind = (h.net.node (ρ.node j)).kind ∧ cur.names.getD j "" = h.names.getD (ρ.node j) "" ∧
    ∀ k, ((cur.net.node j).inPin k).map ρ.line = (h.net.node (ρ.node j)).inPin k
  outsF : ∀ j k l', j < cur.net.nodes.size → ρ.node j < h.net.nodes.size → (cur.net.node j).isFork = false →
    (cur.net.node j).outs.getD k none = some l' → (h.net.node (ρ.node j)).outs.getD k none = some (ρ.line l')
  outsB : ∀ j k l l', j < cur.net.nodes.size → ρ.node j < h.net.nodes.size → (cur.net.node j).isFork = false →
    (h.net.node (ρ.node j)).outs.getD k none = some l → l' < cur.net.lines.size → ρ.line l' = l →
    (cur.net.node j).outs.getD k none = some l'
  drv : ∀ l', l' < cur.net.lines.size → ρ.line l' < h.net.lines.size → ¬ D (h.net.line (ρ.line l')).driver →
    ρ.node (cur.net.line l').driver = (h.net.line (ρ.line l')).driver

/-- `ResStr` and the two directions of `resolve_sem_general` (Props/C10): `fw` = (1), `bw` = (2).  `S` = further holes as in `ResRel`;
    `pre` as in `ExtP`: the value of a removed line whose driver is a hole is prescribed. -/
structure ResRelG {α : Type _} (lib : Lib) (h : NNet) (z : α) (neg : α → α) (prim : String → α → α → α → α → α)
    (cur : NNet) (D : Nat → Prop) (ρ : Ren) : Prop extends ResStr h cur D ρ where
  fw : ∀ (S : Nat → Prop), (∀ s, S s → s < h.net.nodes.size ∧ ¬ D s) → ∀ (pre an' v' : Nat → α),
    ConsOff cur (fun j => S (ρ.node j)) z neg prim an' v' →
    ∃ an v, ConsOff h (fun d => S d ∨ D d) z neg prim an v ∧ (∀ c, D c → CellSem lib h c z neg prim v) ∧
      (∀ l', l' < cur.net.lines.size → ρ.line l' < h.net.lines.size → v (ρ.line l') = v' l') ∧
      (∀ j, j < cur.net.nodes.size → ρ.node j < h.net.nodes.size → an (ρ.node j) = an' j) ∧
      (∀ l, l < h.net.lines.size → (¬ ∃ l', l' < cur.net.lines.size ∧ ρ.line l' = l) → S (h.net.line l).driver → v l = pre l)
  bw : ∀ (S : Nat → Prop), (∀ s, S s → s < h.net.nodes.size ∧ ¬ D s) → ∀ (an v : Nat → α),
    ConsOff h (fun d => S d ∨ D d) z neg prim an v → (∀ c, D c → CellSem lib h c z neg prim v) →
    ∃ an' v', ConsOff cur (fun j => S (ρ.node j)) z neg prim an' v' ∧
      (∀ l', l' < cur.net.lines.size → ρ.line l' < h.net.lines.size → v' l' = v (ρ.line l')) ∧
      (∀ j, j < cur.net.nodes.size → ρ.node j < h.net.nodes.size → an' j = an (ρ.node j))

theorem resRelG_refl {α : Type _} (lib : Lib) (h : NNet) (w : WFm h) (z : α) (neg : α → α) (prim : String → α → α → α → α → α) :
    ResRelG lib h z neg prim h (fun _ => False) Ren.id := by
  refine ⟨⟨w, by simp [Ren.id], fun _ _ _ _ _ e => e, fun _ _ _ _ _ e => e, fun d hd _ => ⟨d, hd, rfl⟩,
    fun j _ _ => ⟨rfl, rfl, fun k => by simp [Ren.id]⟩, fun _ _ _ _ _ _ hp => hp,
    fun _ _ _ _ _ _ _ hp _ e => by cases e; exact hp, fun _ _ _ _ => rfl⟩, ?_, ?_⟩
  · intro S _ pre an' v' hc
    exact ⟨an', v', consOff_congr (fun d => by simp [Ren.id]) hc, fun c hc' => absurd hc' id, fun _ _ _ => rfl, fun _ _ _ => rfl,
      fun l hl hn _ => absurd ⟨l, hl, rfl⟩ hn⟩
  · intro S _ an v hc _
    exact ⟨an, v, consOff_congr (fun d => by simp [Ren.id]) hc, fun _ _ _ => rfl, fun _ _ _ => rfl⟩

/-- `ρ` after the substitution of node `j` of `cur`; `R` = the maps of `SubstG` (index in the result ↦ index in `cur`, or beyond its
    sizes for a copy).  A copy and `j` itself get the sizes of `h`, the index that is out of range. -/
def stepRho (h cur : NNet) (j : Nat) (ρ R : Ren) : Ren :=
  ⟨fun l' => if R.line l' < cur.net.lines.size then ρ.line (R.line l') else h.net.lines.size,
   fun j' => if R.node j' < cur.net.nodes.size ∧ R.node j' ≠ j then ρ.node (R.node j') else h.net.nodes.size⟩

theorem stepRho_node {h cur : NNet} {j : Nat} {ρ R : Ren} {j' : Nat} (hlt : (stepRho h cur j ρ R).node j' < h.net.nodes.size) :
    R.node j' < cur.net.nodes.size ∧ R.node j' ≠ j ∧ (stepRho h cur j ρ R).node j' = ρ.node (R.node j') := by
  simp only [stepRho] at hlt ⊢
  split at hlt
  · rename_i hc; exact ⟨hc.1, hc.2, by rw [if_pos hc]⟩
  · omega

theorem stepRho_line {h cur : NNet} {j : Nat} {ρ R : Ren} {l' : Nat} (hlt : (stepRho h cur j ρ R).line l' < h.net.lines.size) :
    R.line l' < cur.net.lines.size ∧ (stepRho h cur j ρ R).line l' = ρ.line (R.line l') := by
  simp only [stepRho] at hlt ⊢
  split at hlt
  · rename_i hc; exact ⟨hc, by rw [if_pos hc]⟩
  · omega

theorem stepRho_node_eq {h cur : NNet} {j : Nat} {ρ R : Ren} {j' : Nat} (h1 : R.node j' < cur.net.nodes.size) (h2 : R.node j' ≠ j) :
    (stepRho h cur j ρ R).node j' = ρ.node (R.node j') := by simp [stepRho, h1, h2]

theorem stepRho_line_eq {h cur : NNet} {j : Nat} {ρ R : Ren} {l' : Nat} (h1 : R.line l' < cur.net.lines.size) :
    (stepRho h cur j ρ R).line l' = ρ.line (R.line l') := by simp [stepRho, h1]

section step
variable {α : Type _} {lib : Lib} {h : NNet} {z : α} {neg : α → α} {prim : String → α → α → α → α → α}
  {cur : NNet} {D : Nat → Prop} {ρ : Ren} (r : ResRelG lib h z neg prim cur D ρ) (hw : WFm h)
  {j d : Nat} (hj : j < cur.net.nodes.size) (hjd : ρ.node j = d) (hd : d < h.net.nodes.size) (hnD : ¬ D d)
  (hjio : j ∉ cur.net.io) (hcf : (cur.net.node j).isFork = false)
  {impl : NNet} {sh : Shape} {map : Array (Option Nat)} {nxt : NNet} {R : Ren}
  (g : SubstG z neg prim cur j impl sh map nxt R)
  (hfind : lib.find (h.net.node d).kind = some impl) (hs : implShape impl = some sh)
include r hw hj hjd hd hjio g

omit hj hd in
theorem resStep_str : ResStr h nxt (fun x => D x ∨ x = d) (stepRho h cur j ρ R) := by
  refine ⟨g.wf', ?_, ?_, ?_, ?_, ?_, ?_, ?_, ?_⟩
  · rw [← r.io, ← g.io, List.map_map]
    apply List.map_congr_left
    intro i hi
    have hmem : R.node i ∈ cur.net.io := by rw [← g.io]; exact List.mem_map_of_mem hi
    exact stepRho_node_eq (r.wf.io _ hmem) (fun e => hjio (e ▸ hmem))
  · intro j1 j2 h1 h2 hlt e
    obtain ⟨a1, a2, a3⟩ := stepRho_node hlt
    obtain ⟨b1, b2, b3⟩ := stepRho_node (e ▸ hlt)
    rw [a3, b3] at e
    exact g.nodeInj j1 j2 h1 h2 (r.nodeInj _ _ a1 b1 (a3 ▸ hlt) e)
  · intro l1 l2 h1 h2 hlt e
    obtain ⟨a1, a3⟩ := stepRho_line hlt
    obtain ⟨b1, b3⟩ := stepRho_line (e ▸ hlt)
    rw [a3, b3] at e
    exact g.lineInj l1 l2 h1 h2 (r.lineInj _ _ a1 b1 (a3 ▸ hlt) e)
  · intro d' hd' hn
    obtain ⟨x, hx, ex⟩ := r.pos d' hd' (fun hc => hn (Or.inl hc))
    have hne : x ≠ j := fun e => hn (Or.inr (by rw [← ex, e, hjd]))
    obtain ⟨j', hj', ej⟩ := g.hostSurj x hx hne
    exact ⟨j', hj', by rw [stepRho_node_eq (ej ▸ hx) (ej ▸ hne), ej, ex]⟩
  · intro j' hj' hlt
    obtain ⟨a1, a2, a3⟩ := stepRho_node hlt
    obtain ⟨g1, g2, g3⟩ := g.hostNode j' hj' a1 a2
    obtain ⟨r1, r2, r3⟩ := r.node _ a1 (a3 ▸ hlt)
    rw [a3]
    refine ⟨g1.trans r1, g2.trans r2, fun k => ?_⟩
    rw [← r3 k, ← g3 k]
    cases hp : (nxt.net.node j').inPin k with
    | none => rfl
    | some l' =>
      simp only [Option.map_some]
      have hq : (cur.net.node (R.node j')).inPin k = some (R.line l') := by rw [← g3 k, hp]; rfl
      rw [stepRho_line_eq (r.wf.fwdIn _ a1 k _ hq).1]
  · intro j' k l' hj' hlt hnf hp
    obtain ⟨h1, h2, h3⟩ := stepRho_node hlt
    -- the line at the pin is a host line, at the same pin of the same node before the substitution
    obtain ⟨a1, a2, a3⟩ := g.wf'.fwdOut j' hj' k l' hp
    obtain ⟨b1, b2⟩ := g.lineDrvHost l' a1 (by rw [a2]; exact h1) (by rw [a2]; exact h2)
    obtain ⟨c1, c2⟩ := g.hostDrv l' a1 b1 b2
    rw [a2] at c1
    have hnf' : (cur.net.node (R.node j')).isFork = false := by rw [← isFork_of_kind_eq (g.hostNode j' hj' h1 h2).1]; exact hnf
    have hdp : (cur.net.line (R.line l')).dpin = k := by
      rcases c2 with c2 | c2
      · rw [← c2, a3]
      · rw [← c1, hnf'] at c2; exact absurd c2 (by simp)
    have hb := (r.wf.back _ b1).2.2.1
    rw [← c1, hdp] at hb
    rw [h3, stepRho_line_eq b1]
    exact r.outsF _ k _ h1 (h3 ▸ hlt) hnf' hb
  · intro j' k l l'' hj' hlt hnf hp hl'' e
    obtain ⟨a1, a2, a3⟩ := stepRho_node hlt
    have hk := (g.hostNode j' hj' a1 a2).1
    have hnf' : (cur.net.node (R.node j')).isFork = false := by rw [← isFork_of_kind_eq hk]; exact hnf
    have hlL : l < h.net.lines.size := (hw.fwdOut _ hlt k l hp).1
    rw [a3] at hp
    -- a preimage of `l` in the circuit after the substitution is a preimage in the circuit before: there it sits at pin `k`
    obtain ⟨b1, b2⟩ := stepRho_line (e ▸ hlL)
    obtain ⟨q1, q2, q3⟩ := r.wf.fwdOut _ a1 k _ (r.outsB _ k l _ a1 (a3 ▸ hlt) hnf' hp b1 (b2.symm.trans e))
    obtain ⟨c1, c2⟩ := g.hostDrv l'' hl'' q1 (by rw [q2]; exact a2)
    rw [q2] at c1
    have hdr : (nxt.net.line l'').driver = j' := g.nodeInj _ _ (g.wf'.back l'' hl'').1 hj' c1
    have hdp : (nxt.net.line l'').dpin = k := by
      rcases c2 with c2 | c2
      · rw [c2, q3]
      · rw [q2, hnf'] at c2; exact absurd c2 (by simp)
    have hb := (g.wf'.back l'' hl'').2.2.1
    rw [hdr, hdp] at hb
    exact hb
  · intro l' hl' hlt hnD
    obtain ⟨a1, a3⟩ := stepRho_line hlt
    rw [a3] at hnD ⊢
    have hr := r.drv _ a1 (a3 ▸ hlt) (fun hc => hnD (Or.inl hc))
    have hne : (cur.net.line (R.line l')).driver ≠ j := by
      intro e
      rw [e, hjd] at hr
      exact hnD (Or.inr hr.symm)
    obtain ⟨c1, _⟩ := g.hostDrv l' hl' a1 hne
    rw [stepRho_node_eq (c1 ▸ (r.wf.back _ a1).1) (c1 ▸ hne), c1]
    exact hr

include hnD hcf hfind hs

omit r hw hj hjd hd hnD hjio hcf g hfind hs in
theorem resStep_holes (S : Nat → Prop) (hS : ∀ s, S s → s < h.net.nodes.size ∧ ¬ (D s ∨ s = d)) (j' : Nat) :
    S ((stepRho h cur j ρ R).node j') ↔ (R.node j' < cur.net.nodes.size ∧ R.node j' ≠ j ∧ S (ρ.node (R.node j'))) := by
  constructor
  · intro hs'
    obtain ⟨a1, a2, a3⟩ := stepRho_node (hS _ hs').1
    exact ⟨a1, a2, a3 ▸ hs'⟩
  · rintro ⟨a1, a2, a3⟩
    rw [stepRho_node_eq a1 a2]; exact a3

omit hnD hjio hcf g hfind hs in
theorem resStep_pins : (∀ k, (instIn cur j k).isNone = (instIn h d k).isNone) ∧
    (∀ k l1 l2, instIn cur j k = some l1 → instIn h d k = some l2 → l1 < cur.net.lines.size ∧ ρ.line l1 = l2 ∧ l2 < h.net.lines.size) := by
  have hn := (r.node j hj (hjd ▸ hd)).2.2
  rw [hjd] at hn
  constructor
  · intro k
    have := hn k
    simp only [instIn]
    show ((cur.net.node j).inPin k).isNone = ((h.net.node d).inPin k).isNone
    rw [← this]; simp
  · intro k l1 l2 h1 h2
    have := hn k
    have h1' : (cur.net.node j).inPin k = some l1 := h1
    have h2' : (h.net.node d).inPin k = some l2 := h2
    rw [h1', h2'] at this
    simp only [Option.map_some, Option.some.injEq] at this
    exact ⟨(r.wf.fwdIn j hj k l1 h1).1, this, (hw.fwdIn d hd k l2 h2).1⟩

omit hjio in
theorem resStep_fw (S : Nat → Prop) (hS : ∀ s, S s → s < h.net.nodes.size ∧ ¬ (D s ∨ s = d)) (pre an' v' : Nat → α)
    (hc : ConsOff nxt (fun j' => S ((stepRho h cur j ρ R).node j')) z neg prim an' v') :
    ∃ an v, ConsOff h (fun x => S x ∨ (D x ∨ x = d)) z neg prim an v ∧ (∀ c, (D c ∨ c = d) → CellSem lib h c z neg prim v) ∧
      (∀ l', l' < nxt.net.lines.size → (stepRho h cur j ρ R).line l' < h.net.lines.size → v ((stepRho h cur j ρ R).line l') = v' l') ∧
      (∀ j', j' < nxt.net.nodes.size → (stepRho h cur j ρ R).node j' < h.net.nodes.size → an ((stepRho h cur j ρ R).node j') = an' j') ∧
      (∀ l, l < h.net.lines.size → (¬ ∃ l', l' < nxt.net.lines.size ∧ (stepRho h cur j ρ R).line l' = l) →
        S (h.net.line l).driver → v l = pre l) := by
  have hSd : ¬ S d := fun hs' => (hS d hs').2 (Or.inr rfl)
  have hc1 : ConsOff nxt (fun j' => (fun x => x < cur.net.nodes.size ∧ x ≠ j ∧ S (ρ.node x)) (R.node j')) z neg prim an' v' :=
    consOff_congr (fun j' => resStep_holes S hS j') hc
  obtain ⟨anc, vc, anm, vm, f1, f2, f3, f4, _, f6⟩ := g.fw (fun x => x < cur.net.nodes.size ∧ x ≠ j ∧ S (ρ.node x))
    (fun s hs' => ⟨hs'.1, hs'.2.1⟩) (fun lc => pre (ρ.line lc)) an' v' hc1
  -- an output line of the cell `d` that an EARLIER substitution removed (`d` was a hole then) has no equation: `r.fw` is asked to give it
  -- the value of the implementation's output line
  let pre2 : Nat → α := fun l => if (h.net.line l).driver = d then
      (match sh.outLines[(h.net.line l).dpin]? with | some il => vm il | none => pre l) else pre l
  have hS2 := holes_step hS hd hnD
  have hc2 : ConsOff cur (fun x => (fun s => S s ∨ s = d) (ρ.node x)) z neg prim anc vc := by
    intro l hl hnS
    apply f1 l hl
    rintro (⟨_, _, hs'⟩ | hs')
    · exact hnS (Or.inl hs')
    · exact hnS (Or.inr (by rw [hs', hjd]))
  obtain ⟨an, v, i1, i2, i3, i4, i5⟩ := r.fw (fun s => S s ∨ s = d) hS2 pre2 anc vc hc2
  obtain ⟨p1, p2⟩ := resStep_pins r hw hj hjd hd
  have hiff : ∀ x, ((S x ∨ x = d) ∨ D x) ↔ (S x ∨ (D x ∨ x = d)) := fun x => by rw [or_assoc, or_comm (a := x = d)]
  refine ⟨an, v, consOff_congr hiff i1, ?_, ?_, ?_, ?_⟩
  · rintro c' (hc' | hc')
    · exact i2 c' hc'
    · subst hc'
      refine ⟨impl, sh, anm, vm, hfind, hs, ?_⟩
      apply implMatches_move cur h j c' impl sh z neg prim anm vm vc v p1 _ _ f2
      · intro k l1 l2 h1 h2
        obtain ⟨q1, q2, q3⟩ := p2 k l1 l2 h1 h2
        rw [← q2]; exact i3 l1 q1 (q2 ▸ q3)
      · intro k il l2 hk hout
        by_cases hnp : ∃ l', l' < cur.net.lines.size ∧ ρ.line l' = l2
        · obtain ⟨l', hlt', el'⟩ := hnp
          have hl' := r.outsB j k l2 l' hj (hjd ▸ hd) hcf (by rw [hjd]; exact hout) hlt' el'
          rw [f2.2.2 k il l' hk hl', ← el']
          exact (i3 l' (r.wf.fwdOut j hj k l' hl').1 (el' ▸ (hw.fwdOut c' hd k l2 hout).1)).symm
        · obtain ⟨q1, q2, q3⟩ := hw.fwdOut c' hd k l2 hout
          rw [i5 l2 q1 hnp (by rw [q2]; exact Or.inr rfl)]
          show vm il = pre2 l2
          simp only [pre2, q2, q3, hk, if_true]
  · intro l' _ hlt
    obtain ⟨a1, a3⟩ := stepRho_line hlt
    rw [a3, i3 _ a1 (a3 ▸ hlt), f3 l' (by assumption)]
    simp [glueV, a1]
  · intro j' hj' hlt
    obtain ⟨a1, a2, a3⟩ := stepRho_node hlt
    rw [a3, i4 _ a1 (a3 ▸ hlt), f4 j' hj' a1 a2]
  · intro l hl hn hSl
    have hnDd : ¬ D (h.net.line l).driver := fun x => (hS _ hSl).2 (Or.inl x)
    have hned : (h.net.line l).driver ≠ d := fun e => hSd (e ▸ hSl)
    by_cases hcur : ∃ lc, lc < cur.net.lines.size ∧ ρ.line lc = l
    · obtain ⟨lc, hlc, elc⟩ := hcur
      have hlt : ρ.line lc < h.net.lines.size := elc ▸ hl
      rw [← elc, i3 lc hlc hlt]
      apply f6 lc hlc
      · rintro ⟨l'', hl'', e⟩
        exact hn ⟨l'', hl'', by rw [stepRho_line_eq (e ▸ hlc), e, elc]⟩
      · have hdr := r.drv lc hlc hlt (by rw [elc]; exact hnDd)
        rw [elc] at hdr
        refine ⟨(r.wf.back lc hlc).1, ?_, by rw [hdr]; exact hSl⟩
        intro e
        rw [e, hjd] at hdr
        exact hned hdr.symm
    · rw [i5 l hl hcur (Or.inl hSl)]
      show pre2 l = pre l
      simp only [pre2, hned, if_false]

omit hjio in
theorem resStep_bw (S : Nat → Prop) (hS : ∀ s, S s → s < h.net.nodes.size ∧ ¬ (D s ∨ s = d)) (an v : Nat → α)
    (hH : ConsOff h (fun x => S x ∨ (D x ∨ x = d)) z neg prim an v) (hcells : ∀ c, (D c ∨ c = d) → CellSem lib h c z neg prim v) :
    ∃ an' v', ConsOff nxt (fun j' => S ((stepRho h cur j ρ R).node j')) z neg prim an' v' ∧
      (∀ l', l' < nxt.net.lines.size → (stepRho h cur j ρ R).line l' < h.net.lines.size → v' l' = v ((stepRho h cur j ρ R).line l')) ∧
      (∀ j', j' < nxt.net.nodes.size → (stepRho h cur j ρ R).node j' < h.net.nodes.size → an' j' = an ((stepRho h cur j ρ R).node j')) := by
  have hS2 := holes_step hS hd hnD
  have hiff : ∀ x, (S x ∨ (D x ∨ x = d)) ↔ ((S x ∨ x = d) ∨ D x) := fun x => by rw [or_assoc, or_comm (a := x = d)]
  obtain ⟨anc, vc, j1, j2, j3⟩ := r.bw (fun s => S s ∨ s = d) hS2 an v (consOff_congr hiff hH)
    (fun c hc => hcells c (Or.inl hc))
  obtain ⟨impl', sh', anm, vm, hf', hs', hM⟩ := hcells d (Or.inr rfl)
  have : impl' = impl := Option.some.inj (hf'.symm.trans hfind)
  subst this
  have : sh' = sh := Option.some.inj (hs'.symm.trans hs)
  subst this
  obtain ⟨p1, p2⟩ := resStep_pins r hw hj hjd hd
  have hM1 : ImplMatches cur j impl' sh' z neg prim anm vm vc := by
    apply implMatches_move h cur d j impl' sh' z neg prim anm vm v vc (fun k => (p1 k).symm) _ _ hM
    · intro k l1 l2 h1 h2
      obtain ⟨q1, q2, q3⟩ := p2 k l2 l1 h2 h1
      rw [j2 l2 q1 (q2 ▸ q3), q2]
    · intro k il l2 hk hout
      have ho := r.outsF j k l2 hj (hjd ▸ hd) hcf hout
      rw [hjd] at ho
      rw [hM.2.2 k il _ hk ho]
      exact (j2 l2 (r.wf.fwdOut j hj k l2 hout).1 (hw.fwdOut d hd k _ ho).1).symm
  have hcur : ConsOff cur (fun x => (x < cur.net.nodes.size ∧ x ≠ j ∧ S (ρ.node x)) ∨ x = j) z neg prim anc vc := by
    intro l hl hnS
    apply j1 l hl
    rintro (hs'' | hs'')
    · by_cases e : (cur.net.line l).driver = j
      · exact hnS (Or.inr e)
      · exact hnS (Or.inl ⟨(r.wf.back l hl).1, e, hs''⟩)
    · exact hnS (Or.inr (r.nodeInj _ _ (r.wf.back l hl).1 hj (hs'' ▸ hd) (hs''.trans hjd.symm)))
  obtain ⟨an', v', k1, k2, k3, _⟩ := g.bw (fun x => x < cur.net.nodes.size ∧ x ≠ j ∧ S (ρ.node x)) anc vc anm vm hcur hM1
  refine ⟨an', v', consOff_congr (fun j' => (resStep_holes S hS j').symm) k1, ?_, ?_⟩
  · intro l' hl' hlt
    obtain ⟨a1, a3⟩ := stepRho_line hlt
    rw [a3, k2 l' hl', ← j2 _ a1 (a3 ▸ hlt)]
    simp [glueV, a1]
  · intro j' hj' hlt
    obtain ⟨a1, a2, a3⟩ := stepRho_node hlt
    rw [a3, k3 j' hj' a1 a2, j3 _ a1 (a3 ▸ hlt)]

theorem resRelG_step : ResRelG lib h z neg prim nxt (fun x => D x ∨ x = d) (stepRho h cur j ρ R) :=
  ⟨resStep_str r hw hjd hjio g, resStep_fw r hw hj hjd hd hnD hcf g hfind hs, resStep_bw r hw hj hjd hd hnD hcf g hfind hs⟩

end step

theorem resolve_general_main {α : Type _} (lib : Lib) (h h' : NNet) (hw : WFm h) (z : α) (neg : α → α)
    (prim : String → α → α → α → α → α) (hok : resolveGenOKB lib h.keys h = true) (he : resolveCells lib h = some h') :
    ∃ ρ, ResRelG lib h z neg prim h' (fun x => x < h.net.nodes.size ∧ (lib.find (h.net.node x).kind).isSome = true) ρ := by
  refine resolve_cells_inv lib h h' (fun cur D => ∃ ρ, ResRelG lib h z neg prim cur D ρ) (resolveGenOKB lib)
    (fun cur D d ks s1 hd hnD ⟨ρ, r⟩ hok hs1 => ?_) ⟨Ren.id, resRelG_refl lib h hw z neg prim⟩ hok he
  obtain ⟨j, hj, hjd⟩ := r.pos d hd hnD
  obtain ⟨nk, nn, _⟩ := r.node j hj (hjd ▸ hd)
  rw [hjd] at nk nn
  have hkey : cur.key j = h.key d := by simp only [NNet.key, nn, isFork_of_kind_eq nk]
  have hlook : cur.lookup (h.key d) = j := by rw [← hkey]; exact lookup_key_m cur r.wf.nodup j hj
  simp only [resolveGenOKB, hlook, hj, if_true, nk] at hok
  simp only [resolveStep, hlook, hj, if_true, nk] at hs1
  cases hfind : lib.find (h.net.node d).kind with
  | none =>
    rw [hfind] at hok hs1
    cases (Option.some.inj hs1)
    exact ⟨hok, D, fun x => ⟨Or.inl, fun a => a.elim id fun b => by rw [b.1, hfind] at b; simp at b⟩, ρ, r⟩
  | some impl =>
    rw [hfind] at hok hs1
    simp only [Bool.and_eq_true, Bool.not_eq_true'] at hok
    obtain ⟨⟨⟨⟨⟨k1, k2⟩, k3⟩, k4⟩, k5⟩, k6⟩ := hok
    have hs1 : substitute cur j impl = some s1 := hs1
    rw [hs1] at k6
    obtain ⟨sh, map, R, hs, g⟩ := substitute_general z neg prim cur impl s1 j r.wf (WF.of_wf k1) hj (by simpa using k4) k5 k2 k3 hs1
    exact ⟨k6, _, fun x => ⟨fun a => a.imp_right fun b => ⟨b, by rw [b, hfind]; rfl⟩, fun a => a.imp_right (·.1)⟩,
      _, resRelG_step r hw hj hjd hd hnD (by simpa using k4) k5 g hfind hs⟩

end KV.Transform
