import KyupyVerif.Proofs.TechChk
import KyupyVerif.Gen.Techlib
/-! the list of all generated library rows, and `Nodup` of long name lists by sorting numeric codes -/
namespace KV.Tech
open KV.TL KV.DS

def cells : List Cell := Gen.techChunks.flatten

/-- the keys of `TechLib.cells` of library `l` (index in `Gen.libNames`) that the generated table lists, in table order -/
def libKeys (l : Nat) : List Str := (cells.filter (·.lib == l)).flatMap (·.names)
def libRows (l : Nat) : List Cell := cells.filter (·.lib == l)

theorem chunks_eq : Gen.techChunks = [Gen.techChunk0, Gen.techChunk1, Gen.techChunk2, Gen.techChunk3,
    Gen.techChunk4, Gen.techChunk5, Gen.techChunk6, Gen.techChunk7] := rfl

/-! ### `Nodup` of a long list by sorting numeric codes

Deciding `Nodup` compares every pair, and the kernel compares character lists slowly.  Any function into `Nat` whose
values on the list are strictly ascending once sorted (adjacent pairs only) shows the same. -/
/-- merge (fuel: the two lengths together) and merge sort (fuel: log₂ of the length).  With too little fuel the result is not sorted,
but it is always a permutation, and no more is asked of it. -/
def mergeF : Nat → List Nat → List Nat → List Nat
  | f + 1, x :: xs, y :: ys => if x ≤ y then x :: mergeF f xs (y :: ys) else y :: mergeF f (x :: xs) ys
  | _, xs, ys => xs ++ ys

def msort : Nat → List Nat → List Nat
  | 0, l => l
  | f + 1, l => if l.length < 2 then l else
      mergeF l.length (msort f (l.take (l.length / 2))) (msort f (l.drop (l.length / 2)))

def ascending : List Nat → Bool
  | a :: b :: t => a < b && ascending (b :: t)
  | _ => true

theorem mergeF_perm (f : Nat) (xs ys : List Nat) : (mergeF f xs ys).Perm (xs ++ ys) := by
  fun_induction mergeF f xs ys with
  | case1 f x xs y ys h ih => exact ih.cons x
  | case2 f x xs y ys h ih => exact (ih.cons y).trans List.perm_middle.symm
  | case3 => exact .refl _

theorem msort_perm : ∀ f l, (msort f l).Perm l
  | 0, _ => .refl _
  | f + 1, l => by
    unfold msort; split
    · exact .refl _
    · exact (mergeF_perm ..).trans (((msort_perm f _).append (msort_perm f _)).trans (by rw [List.take_append_drop]))

theorem pairwise_of_ascending : ∀ l : List Nat, ascending l = true → l.Pairwise (· < ·)
  | [], _ => .nil
  | [_], _ => List.pairwise_singleton _ _
  | a :: b :: t, h => by
    simp only [ascending, Bool.and_eq_true, decide_eq_true_eq] at h
    have ih := pairwise_of_ascending (b :: t) h.2
    exact List.pairwise_cons.mpr ⟨fun c hc => by
      rcases List.mem_cons.mp hc with rfl | hc
      · exact h.1
      · exact Nat.lt_trans h.1 (List.rel_of_pairwise_cons ih hc), ih⟩

theorem nodup_of_codes {α} (code : α → Nat) (f : Nat) (l : List α) (h : ascending (msort f (l.map code)) = true) : l.Nodup := by
  have hp := msort_perm f (l.map code)
  -- `Nodup (l.map code)` (the sorted codes are strictly ascending), hence `Nodup l`
  exact List.Pairwise.of_map code (fun _ _ hne e => hne (e ▸ rfl)) (hp.nodup_iff.mp ((pairwise_of_ascending _ h).imp Nat.ne_of_lt))

/-- the characters of a name as digits to base 256.  Injectivity is not needed: equal names have equal codes, and
equal codes fail `ascending`. -/
def strCode (s : Str) : Nat := s.foldl (fun n c => n * 256 + c.toNat) 0

end KV.Tech
