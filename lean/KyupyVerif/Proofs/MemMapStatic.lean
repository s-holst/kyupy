import KyupyVerif.Proofs.MemMapSpec
import KyupyVerif.Proofs.MapSound
/-! Static notions for the allocation invariant of `memMap` (which signals are allocated after `k` rows, which are
dead at a level start) and their consequences from `ProgOK`. No mention of the heap. -/
namespace KV

def usedAt (p : MapIn) (k x : Nat) : Prop := ∃ o, p.ops[k]? = some o ∧ x ∈ opSrcs p.stems o

def pinnedM (p : MapIn) (x : Nat) : Bool := p.pinned x || x == p.ix.tmp || x == p.ix.tmp2

/-- with `c_reuse`: an unpinned signal that has readers, all of them before row `a` (a signal without readers never enters the
    free set: only operands of a row are examined for release) -/
def Dead (p : MapIn) (reuse : Bool) (a x : Nat) : Prop :=
  reuse = true ∧ pinnedM p x = false ∧ (∃ k, usedAt p k x) ∧ ∀ k, usedAt p k x → k < a

def AllocAt (p : MapIn) (k x : Nat) : Prop :=
  x = p.ix.zero ∨ x = p.ix.tmp ∨ x = p.ix.tmp2 ∨ x ∈ p.ppiSlots ∨
    ∃ k' o, k' < k ∧ p.ops[k']? = some o ∧ o.out = x ∧ x ≠ p.ix.tmp

def Pre (p : MapIn) (x : Nat) : Prop := x = p.ix.zero ∨ x = p.ix.tmp ∨ x = p.ix.tmp2 ∨ x ∈ p.ppiSlots

theorem allocAt_iff {p : MapIn} {k x : Nat} :
    AllocAt p k x ↔ Pre p x ∨ ∃ k' o, k' < k ∧ p.ops[k']? = some o ∧ o.out = x ∧ x ≠ p.ix.tmp := by
  simp only [AllocAt, Pre, or_assoc]

theorem AllocAt.mono {p : MapIn} {k k' x : Nat} (h : AllocAt p k x) (hk : k ≤ k') : AllocAt p k' x := by
  rw [allocAt_iff] at h ⊢
  exact h.imp_right fun ⟨j, o, hj, ho⟩ => ⟨j, o, Nat.lt_of_lt_of_le hj hk, ho⟩

theorem AllocAt.of_succ {p : MapIn} {k : Nat} {o : OpRow} (hk : p.ops[k]? = some o) {x : Nat}
    (h : AllocAt p (k + 1) x) : AllocAt p k x ∨ (x = o.out ∧ o.out ≠ p.ix.tmp) := by
  rw [allocAt_iff] at h ⊢
  rcases h with h | ⟨j, o', hj, ho', hx, hne⟩
  · exact .inl (.inl h)
  · rcases Nat.lt_or_ge j k with hlt | hge
    · exact .inl (.inr ⟨j, o', hlt, ho', hx, hne⟩)
    · obtain rfl : j = k := by omega
      rw [hk] at ho'
      cases ho'
      exact .inr ⟨hx.symm, hx ▸ hne⟩

theorem Dead.mono {p : MapIn} {reuse : Bool} {a b x : Nat} (h : Dead p reuse a x) (hab : a ≤ b) : Dead p reuse b x :=
  ⟨h.1, h.2.1, h.2.2.1, fun k hk => Nat.lt_of_lt_of_le (h.2.2.2 k hk) hab⟩

theorem not_dead_noreuse (p : MapIn) (a x : Nat) : ¬ Dead p false a x := fun h => by cases h.1

theorem not_dead_zero (p : MapIn) (reuse : Bool) (x : Nat) : ¬ Dead p reuse 0 x := by
  intro h
  obtain ⟨k, hk⟩ := h.2.2.1
  have := h.2.2.2 k hk
  omega

theorem ix_vals (p : MapIn) : p.ix.zero = p.net.lines.size ∧ p.ix.tmp = p.net.lines.size + 1 ∧
    p.ix.tmp2 = p.net.lines.size + 2 ∧ p.ix.ppi = p.net.lines.size + 3 ∧
    p.ix.ppo = p.net.lines.size + 3 + p.net.sNodes.length ∧
    p.ix.len = p.net.lines.size + 3 + 2 * p.net.sNodes.length := by
  simp [MapIn.ix, Net.idx]

theorem ppiSlots_range (p : MapIn) {x : Nat} (h : x ∈ p.ppiSlots) : p.ix.ppi ≤ x ∧ x < p.ix.ppo := by
  obtain ⟨n, i, hm, _, rfl⟩ := MapSound.mem_ppiSlots.mp h
  have hi : i < p.net.sNodes.length := by
    have := mem_zipIdx_getElem? hm
    exact (List.getElem?_eq_some_iff.mp this).1
  obtain ⟨_, _, _, h4, h5, _⟩ := ix_vals p
  omega

theorem Pre.range {p : MapIn} {x : Nat} (h : Pre p x) : p.ix.zero ≤ x ∧ x < p.ix.ppo := by
  obtain ⟨h1, h2, h3, h4, h5, _⟩ := ix_vals p
  rcases h with h | h | h | h
  · omega
  · omega
  · omega
  · have := ppiSlots_range p h; omega

theorem pinnedM_zero (p : MapIn) : pinnedM p p.ix.zero = true := by
  simp [pinnedM, MapSound.pinned_iff.mpr (.inl rfl)]
theorem pinnedM_tmp (p : MapIn) : pinnedM p p.ix.tmp = true := by simp [pinnedM]
theorem pinnedM_tmp2 (p : MapIn) : pinnedM p p.ix.tmp2 = true := by simp [pinnedM]
theorem pinnedM_ppi (p : MapIn) {x : Nat} (h : x ∈ p.ppiSlots) : pinnedM p x = true := by
  simp [pinnedM, MapSound.pinned_iff.mpr (.inr (.inl h))]

theorem foldl_max_lt {β} (g : β → Nat) (l : List β) (a L : Nat) (ha : a < L) (hl : ∀ y ∈ l, g y < L) :
    l.foldl (fun m y => Nat.max m (g y)) a < L := by
  cases L with
  | zero => cases ha
  | succ L => exact Nat.lt_succ_of_le ((foldl_max_le_iff g l a L).mpr ⟨Nat.le_of_lt_succ ha, fun y hy => Nat.le_of_lt_succ (hl y hy)⟩)

theorem ins_map_src (p : MapIn) (o : OpRow) : o.ins.map p.src = opSrcs p.stems o := rfl


theorem occ_cons (st : Array (Option Nat)) (x : Nat) (o : OpRow) (r : List OpRow) :
    occ st x (o :: r) = (opSrcs st o).count x + occ st x r := by
  simp [occ]

theorem occ_drop (st : Array (Option Nat)) (x : Nat) (ops : List OpRow) (k : Nat) (o : OpRow) (hk : ops[k]? = some o) :
    occ st x (ops.drop k) = (opSrcs st o).count x + occ st x (ops.drop (k + 1)) := by
  obtain ⟨hlt, he⟩ := List.getElem?_eq_some_iff.mp hk
  rw [List.drop_eq_getElem_cons hlt, occ_cons, he]

theorem occ_zero_not_mem (st : Array (Option Nat)) (x : Nat) (l : List OpRow) (h : occ st x l = 0) :
    ∀ o ∈ l, x ∉ opSrcs st o := by
  induction l with
  | nil => intro o ho; cases ho
  | cons a r ih =>
    rw [occ_cons] at h
    intro o ho
    rcases List.mem_cons.mp ho with rfl | ho
    · exact List.count_eq_zero.mp (by omega)
    · exact ih (by omega) o ho

theorem occ_zero_no_use (p : MapIn) (x k : Nat) (h : occ p.stems x (p.ops.drop k) = 0) :
    ∀ j, usedAt p j x → j < k := by
  intro j ⟨o, ho, hx⟩
  rcases Nat.lt_or_ge j k with hlt | hge
  · exact hlt
  · exfalso
    obtain ⟨hlt, he⟩ := List.getElem?_eq_some_iff.mp ho
    have hm : o ∈ p.ops.drop k := by
      rw [List.mem_drop_iff_getElem]
      exact ⟨j - k, by omega, by simp only [Nat.add_sub_cancel' hge]; exact he⟩
    exact occ_zero_not_mem _ _ _ h o hm hx


section
variable {p : MapIn} (hp : ProgOK p)
include hp

theorem ProgOK.dfn_out {k : Nat} {o : OpRow} (hk : p.ops[k]? = some o) (ht : o.out ≠ p.ix.tmp) :
    p.dfn o.out = p.levelOf k := by
  unfold MapIn.dfn
  rw [hp.first k o hk ht]

theorem ProgOK.dfn_zero_of_ge {x : Nat} (hx : p.ix.zero ≤ x) (ht : x ≠ p.ix.tmp) : p.dfn x = 0 := by
  unfold MapIn.dfn
  cases hf : p.ops.findIdx? (fun o => o.out == x) with
  | none => rfl
  | some k =>
    exfalso
    obtain ⟨hlt, hpk, _⟩ := List.findIdx?_eq_some_iff_getElem.1 hf
    have hm : p.ops[k] ∈ p.ops := List.getElem_mem hlt
    have he : p.ops[k].out = x := by simpa using hpk
    rcases hp.out_ok _ hm with h | h
    · exact ht (he ▸ h)
    · omega

theorem ProgOK.operand_alloc {k : Nat} {o : OpRow} (hk : p.ops[k]? = some o) {x : Nat} (hx : x ∈ opSrcs p.stems o) :
    AllocAt p k x ∧ x < p.ix.len ∧ x ≠ p.ix.tmp ∧ x ≠ p.ix.tmp2 := by
  obtain ⟨h1, h2, h3, h4, h5, h6⟩ := ix_vals p
  rcases hp.opnd k o hk x hx with h | h | ⟨hz, k', o', hlt, hk', ho'⟩
  · exact ⟨.inl h, by omega⟩
  · have := ppiSlots_range p h
    exact ⟨.inr (.inr (.inr (.inl h))), by omega⟩
  · exact ⟨.inr (.inr (.inr (.inr ⟨k', o', hlt, hk', ho', by omega⟩))), by omega⟩

theorem ProgOK.writer_unique {i j : Nat} {a b : OpRow} (hi : p.ops[i]? = some a) (hj : p.ops[j]? = some b)
    (ha : a.out ≠ p.ix.tmp) (hab : b.out = a.out) : i = j := by
  have e := hp.first j b hj (hab ▸ ha)
  rw [hab, hp.first i a hi ha] at e
  exact Option.some.inj e

theorem ProgOK.out_fresh {k : Nat} {o : OpRow} (hk : p.ops[k]? = some o) (ht : o.out ≠ p.ix.tmp) :
    ¬ AllocAt p k o.out ∧ o.out < p.ix.zero := by
  have hz : o.out < p.ix.zero := (hp.out_ok o (List.mem_of_getElem? hk)).resolve_left ht
  refine ⟨fun h => ?_, hz⟩
  rcases allocAt_iff.mp h with h | ⟨k', o', hlt, hk', ho', _⟩
  · exact absurd h.range.1 (by omega)
  · exact absurd (hp.writer_unique hk hk' ht ho') (by omega)

theorem ProgOK.alloc_stem {k x : Nat} (h : AllocAt p k x) : p.stems.getD x none = none ∧ x < p.ix.ppo := by
  have hz : p.ix.zero < p.ix.ppo := by have := ix_vals p; omega
  rcases allocAt_iff.mp h with h | ⟨k', o, _, hk', ho, hne⟩
  · refine ⟨Option.eq_none_iff_forall_ne_some.mpr fun t hs => ?_, h.range.2⟩
    exact absurd (hp.branch x t hs).1 (Nat.not_lt.mpr h.range.1)
  · have hm := List.mem_of_getElem? hk'
    refine ⟨Option.eq_none_iff_forall_ne_some.mpr fun t hs => (hp.branch x t hs).2 o hm ho, ?_⟩
    have := (hp.out_ok o hm).resolve_left (ho ▸ hne)
    omega

theorem ProgOK.opnd_dfn {k : Nat} {o : OpRow} (hk : p.ops[k]? = some o) {x : Nat} (hx : x ∈ opSrcs p.stems o) :
    p.dfn x < p.levelOf k := by
  obtain ⟨ha, _, ht, _⟩ := hp.operand_alloc hk hx
  rcases allocAt_iff.mp ha with h | ⟨k', o', hlt, hk', ho', _⟩
  · rw [hp.dfn_zero_of_ge h.range.1 ht]
    exact levelOf_pos p (List.mem_of_head? hp.starts.1) k
  · subst ho'
    rw [hp.dfn_out hk' ht]
    exact hp.lev k' k o' o hlt hk' hk ht hx

theorem ProgOK.dead_last {reuse : Bool} {a x : Nat} (ha : a ∈ p.starts) (hd : Dead p reuse a x) :
    p.last x < p.levelOf a := by
  obtain ⟨_, hpin, ⟨k0, hk0⟩, hall⟩ := hd
  have hnp : p.pinned x = false := by
    simp only [pinnedM, Bool.or_eq_false_iff] at hpin
    exact hpin.1.1
  have hk0a := hall k0 hk0
  obtain ⟨o0, ho0, hx0⟩ := hk0
  have hdfn : p.dfn x < p.levelOf a := Nat.lt_trans (hp.opnd_dfn ho0 hx0) (levelOf_lt_start p ha hk0a)
  unfold MapIn.last MapIn.lastW
  rw [hnp]
  simp only [Bool.false_eq_true, if_false]
  apply foldl_max_lt _ _ _ _ hdfn
  intro ok hok
  rw [List.mem_filter] at hok
  obtain ⟨hm, hc⟩ := hok
  have hu : usedAt p ok.2 x := by
    refine ⟨ok.1, mem_zipIdx_getElem? hm, ?_⟩
    rw [ins_map_src] at hc
    simpa using hc
  exact levelOf_lt_start p ha (hall ok.2 hu)

end

end KV
