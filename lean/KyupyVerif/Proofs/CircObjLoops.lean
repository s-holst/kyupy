import KyupyVerif.Model.CircObjSub
/-! C09: invariants of loops.  Beside `KV.foldl_inv` for plain loops and `KV.foldl_inv_done`, indexed by the visited part (Proofs/Basics.lean): `foldl_congr_inv`; for loops that may raise (`foldO`, with guards `foldG`) one lemma,
`foldG_foldO_of_inv`: an invariant that implies the guard gives the guards along the run and the invariant at its end;
the other forms are corollaries.  `foldO_append` / `foldG_append`: a loop over `a ++ b`. -/
namespace KV.CircObj

theorem foldl_congr_inv {σ α : Type} (f g : σ → α → σ) (Inv : List α → σ → Prop) (todo done : List α) (s : σ) (h : Inv done s)
    (step : ∀ pre a r s, todo = pre ++ a :: r → Inv (done ++ pre) s → f s a = g s a ∧ Inv (done ++ pre ++ [a]) (g s a)) :
    todo.foldl f s = todo.foldl g s := by
  induction todo generalizing done s with
  | nil => rfl
  | cons x rest ih =>
    obtain ⟨e, h'⟩ := step [] x rest s rfl (by simpa using h)
    simp only [List.foldl_cons, e]
    exact ih (done ++ [x]) (g s x) (by simpa using h') (fun pre a r s e => by simpa using step (x :: pre) a r s (by simp [e]))

theorem foldG_foldO_of_inv {σ α : Type} (f : σ → α → Option σ) (g : σ → α → Bool) (Inv : σ → List α → Prop)
    (hg : ∀ s a rest, Inv s (a :: rest) → g s a = true)
    (step : ∀ s a rest s', Inv s (a :: rest) → f s a = some s' → Inv s' rest) :
    ∀ (as : List α) (s : σ), Inv s as → foldG f g s as = true ∧ ∀ s', foldO f s as = some s' → Inv s' [] := by
  intro as
  induction as with
  | nil => intro s h; exact ⟨rfl, fun s' e => by simp only [foldO, Option.some.injEq] at e; exact e ▸ h⟩
  | cons a rest ih =>
    intro s h
    simp only [foldG, foldO, Bool.and_eq_true]
    cases hf : f s a with
    | none => exact ⟨⟨hg s a rest h, rfl⟩, fun s' e => by simp at e⟩
    | some s1 =>
      have := ih s1 (step s a rest s1 h hf)
      exact ⟨⟨hg s a rest h, this.1⟩, this.2⟩

theorem foldO_inv {σ α : Type} (f : σ → α → Option σ) (Inv : σ → List α → Prop)
    (step : ∀ s a rest s', Inv s (a :: rest) → f s a = some s' → Inv s' rest)
    (as : List α) (s s' : σ) (h : Inv s as) (e : foldO f s as = some s') : Inv s' [] :=
  (foldG_foldO_of_inv f (fun _ _ => true) Inv (fun _ _ _ _ => rfl) step as s h).2 s' e

theorem foldO_inv_guard {σ α : Type} (f : σ → α → Option σ) (g : σ → α → Bool) (Inv : σ → List α → Prop)
    (step : ∀ s a rest s', Inv s (a :: rest) → g s a = true → f s a = some s' → Inv s' rest)
    (as : List α) (s s' : σ) (h : Inv s as) (hg : foldG f g s as = true) (e : foldO f s as = some s') : Inv s' [] :=
  (foldO_inv f (fun s as => Inv s as ∧ foldG f g s as = true)
    (fun s a rest s1 hi hf => by
      have hg := hi.2
      simp only [foldG, hf, Bool.and_eq_true] at hg
      exact ⟨step s a rest s1 hi.1 hg.1 hf, hg.2⟩) as s s' ⟨h, hg⟩ e).1

theorem foldG_mono {σ α : Type} (f : σ → α → Option σ) (g g' : σ → α → Bool) (Inv : σ → Prop)
    (himp : ∀ s a, Inv s → g s a = true → g' s a = true) (step : ∀ s a s', Inv s → g s a = true → f s a = some s' → Inv s')
    (as : List α) (s : σ) (h : Inv s) (hg : foldG f g s as = true) : foldG f g' s as = true :=
  (foldG_foldO_of_inv f g' (fun s as => Inv s ∧ foldG f g s as = true)
    (fun s a rest hi => by
      have hg := hi.2
      simp only [foldG, Bool.and_eq_true] at hg
      exact himp s a hi.1 hg.1)
    (fun s a rest s1 hi hf => by
      have hg := hi.2
      simp only [foldG, hf, Bool.and_eq_true] at hg
      exact ⟨step s a s1 hi.1 hg.1 hf, hg.2⟩) as s ⟨h, hg⟩).1

section
variable {σ α : Type}

theorem foldO_append (f : σ → α → Option σ) (s : σ) (a b : List α) :
    foldO f s (a ++ b) = match foldO f s a with | some s' => foldO f s' b | none => none := by
  induction a generalizing s with
  | nil => rfl
  | cons x a ih => simp only [List.cons_append, foldO]; cases f s x <;> simp [ih]

theorem foldG_append (f : σ → α → Option σ) (g : σ → α → Bool) (s : σ) (a b : List α) :
    foldG f g s (a ++ b) = (foldG f g s a && match foldO f s a with | some s' => foldG f g s' b | none => true) := by
  induction a generalizing s with
  | nil => simp [foldG, foldO]
  | cons x a ih => simp only [List.cons_append, foldG, foldO]; cases f s x <;> simp [ih, Bool.and_assoc]

end

end KV.CircObj
