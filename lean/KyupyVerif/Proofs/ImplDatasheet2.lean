import KyupyVerif.Proofs.ImplDescribes
import KyupyVerif.Proofs.SubstCert
import KyupyVerif.Props.C19Fun
/-! Glue for the composition C19 → C10: for an instance of a combinational library cell whose implementation is
described by a row of the generated library tables, the RELATIONAL meaning `ImplMatches` of C10 (existence of a consistent
labelling of the implementation with the instance's port values) is the FUNCTIONAL meaning of C19 (every connected output
carries the datasheet function of the values on the input pins): `implMatches_iff_datasheet`.  With all input pins connected no
line of the implementation is cut (`deadLine_false`), and the stimulus `Cell.env` of the row holds the port values
(`env_ports`, from `Describes` of Proofs/ImplDescribes.lean); so the implementation's labelling is the result of the row's program
(`consN_unique` / `consN_exec`, Proofs/ImplDatasheet.lean), which `C19.family_function` identifies with the datasheet function on the
lines the row captures for its outputs.  Then the two definitions under the statements of Props/C10Datasheet.lean — `CellDatasheet`
(the functional meaning of an instance) and `InstCert` (the decidable hypotheses of `implMatches_iff_datasheet` for an instance) —
and the equivalence under a certificate (`cell_datasheet_iff`). -/
namespace KV.Transform
open KV KV.Sig KV.TL KV.DS

section inst
variable {h : NNet} {c : Nat} {m : NNet} {sh : Shape}

theorem deadLine_false (hsh : implShape m = some sh) (hfit : pinsFitB h c sh = true) (l : Nat) :
    deadLine h c m sh l = false := by
  simp only [pinsFitB, Bool.and_eq_true, beq_iff_eq, List.all_eq_true] at hfit
  obtain ⟨hlen, hall⟩ := hfit
  cases hd : deadLine h c m sh l with
  | false => rfl
  | true =>
    exfalso
    simp only [deadLine, Bool.and_eq_true, beq_iff_eq, List.contains_iff_mem, Option.isNone_iff_eq_none] at hd
    obtain ⟨⟨⟨hio, hi0⟩, _⟩, hnone⟩ := hd
    have hmem : (m.net.line l).driver ∈ sh.inPorts := (mem_inPorts hsh _).mpr ⟨hio, hi0⟩
    have hlt : sh.inPorts.idxOf (m.net.line l).driver < (h.net.node c).ins.length := by
      rw [hlen]; exact List.idxOf_lt_length_iff.mpr hmem
    unfold instIn at hnone
    rw [List.getD_eq_getElem?_getD, List.getElem?_eq_getElem hlt] at hnone
    have := hall _ (List.getElem_mem hlt)
    simp only [Option.getD_some] at hnone
    rw [hnone] at this
    cases this

theorem env_ports {cr : Cell} {order : List Nat} (hsh : implShape m = some sh) (hfit : pinsFitB h c sh = true)
    (hd : Describes cr m sh order) (v anm : Nat → Bool)
    (hport : ∀ p ∈ m.net.io, anm p = portVal h c sh false v p) :
    cr.env (instVals h c false v) m.net.idx.zero = false ∧
    ∀ p, p < m.net.sNodes.length →
      cr.env (instVals h c false v) (m.net.idx.ppi + p) = anm (m.net.sNodes.getD p 0) := by
  constructor
  · simp [Cell.env, hd.zero]
  · intro p hp
    rw [hd.snodes] at hp ⊢
    have hg : m.net.io[p]? = some m.net.io[p] := List.getElem?_eq_getElem hp
    rw [List.getD_eq_getElem?_getD, hg, Option.getD_some, hport _ (List.getElem_mem hp)]
    simp only [pinsFitB, Bool.and_eq_true, beq_iff_eq] at hfit
    simp only [Cell.env, hd.slot p _ hg]
    by_cases hi : (m.net.node m.net.io[p]).ins.length = 0
    · simp only [hi, if_true, instVals, portVal, instIn]
      exact getD_map' (fun o : Option Nat => match o with | some l => v l | none => false) _ _ none
    · rw [portVal_nonInput (Nat.le_of_eq hfit.1) false v _ fun hm => hi ((mem_inPorts hsh _).mp hm).2]
      simp only [hi, if_false]
end inst

/-- **relational = functional.** Instance `c` of a library cell in the host `h`, implementation `m` (acyclic: `order`; every
    line written by a row), described by the row `cr` of the C19 tables, which carries the name `name` of the listed family `fam`;
    all input pins connected.  Then there is the datasheet function list `fs` of the row, and for EVERY labelling `v` of the host:
    the cell has the relational meaning of its implementation under `v` iff every connected output pin `k` carries
    `fs[k]` of the values on the input pins. -/
theorem implMatches_iff_datasheet (h : NNet) (c : Nat) (m : NNet) (sh : Shape) (cr : Cell) (order : List Nat)
    (name : Str) (fam : DS.Fam)
    (hsh : implShape m = some sh) (hwf : m.net.wfB = true) (ho : orderOKB m.net order = true)
    (hfk : forksOKB m.net order = true) (hall : linesDrivenB Gen.kindPrefixes m.net order = true)
    (hdesc : describesB Gen.kindPrefixes cr m order = true) (hfit : pinsFitB h c sh = true)
    (hcr : cr ∈ Tech.cells) (hn : name ∈ cr.names) (hf : classify (baseName name) = some fam) :
    ∃ fs, datasheet fam cr.inNames cr.outNames = some fs ∧ fs.length = sh.outLines.length ∧
      ∀ v : Nat → Bool, (∃ anm vm, ImplMatches h c m sh false (!·) prim2 anm vm v) ↔
        ∀ k (hk : k < fs.length) ll, instOut h c k = some ll → v ll = fs[k] (instVals h c false v) := by
  have hd := describes_of hsh hdesc
  have hspec : FamSpec cr fam := C19.family_function hcr hn hf
  obtain ⟨_, fs, hfs, hlen, hcomp⟩ := hspec
  have holen : cr.outLines.length = sh.outLines.length := by
    rw [← hd.outs, List.length_map]
  have hcut : cutIns m (deadLine h c m sh) = m := by simp [cutIns, deadLine_false hsh hfit]
  have hvlen : ∀ v : Nat → Bool, (instVals h c false v).length = cr.inNames.length := by
    intro v
    simp only [pinsFitB, Bool.and_eq_true, beq_iff_eq] at hfit
    rw [hd.nIn, ← hfit.1]; simp [instVals]
  -- C19 speaks of the line the ROW captures for output `k`; `Describes.outs` makes it the `k`-th output line of the implementation
  have hfun : ∀ (v : Nat → Bool) k (hk : k < fs.length) il, sh.outLines[k]? = some il →
      exec specL2 ((genOps Gen.kindPrefixes m.net order false).map OpRow.toOp) (cr.env (instVals h c false v)) il =
        fs[k] (instVals h c false v) := by
    intro v k hk il hil
    have hk' : k < cr.outLines.length := by omega
    have := hcomp k hk' hk (instVals h c false v) (hvlen v)
    rw [← hd.outs, List.getElem?_map, List.getElem?_eq_getElem hk'] at hil
    cases hil
    rw [hd.prog] at this
    exact this
  refine ⟨fs, hfs, by omega, fun v => ⟨?_, ?_⟩⟩
  · rintro ⟨anm, vm, hcons, hport, hout⟩ k hk ll hll
    rw [hcut] at hcons
    obtain ⟨hz, henv⟩ := env_ports hsh hfit hd v anm hport
    have hkl : k < sh.outLines.length := by omega
    have hil : sh.outLines[k]? = some sh.outLines[k] := List.getElem?_eq_getElem hkl
    -- `consN_unique` speaks of lines below `lines.size`: the output line is the input of a port (`outLines_port`, Proofs/SubstCert.lean)
    obtain ⟨rd, _, hpin⟩ := outLines_port hsh k _ hil
    have hlt := (inPin_lt hwf hpin).2
    rw [← hout k _ ll hil hll, consN_unique m order hwf ho hfk hall _ anm vm hz henv hcons _ hlt]
    exact hfun v k hk _ hil
  · intro hds
    let anm : Nat → Bool := fun p => portVal h c sh false v p
    obtain ⟨hz, henv⟩ := env_ports hsh hfit hd v anm (fun _ _ => rfl)
    refine ⟨anm, _, by rw [hcut]; exact consN_exec m order hwf ho hfk hall _ anm hz henv, fun _ _ => rfl, ?_⟩
    intro k il ll hil hll
    have hk : k < fs.length := by
      have := (List.getElem?_eq_some_iff.mp hil).1; omega
    rw [hds k hk ll hll]
    exact hfun v k hk il hil


/-- **datasheet meaning of instance `c`** under the host labelling `v`: the kind of `c` is in a listed family, the pins of its
    table row `row kind` fit the family, and every connected output pin `k` carries the datasheet function `fs[k]` of the
    values on the input pins (pin order) -/
def CellDatasheet (row : String → Cell) (h : NNet) (c : Nat) (v : Nat → Bool) : Prop :=
  ∃ fam fs, classify (baseName (h.net.node c).kind.toList) = some fam ∧
    datasheet fam (row (h.net.node c).kind).inNames (row (h.net.node c).kind).outNames = some fs ∧
    ∀ k (hk : k < fs.length) ll, instOut h c k = some ll → v ll = fs[k] (instVals h c false v)

/-- **certificate for instance `c`** (every clause decidable; evaluated by the driver for every cell of the five libraries):
    its kind has the implementation `impl` in the library, `impl` is well-formed and acyclic (`ord kind` is a topological order,
    every line is written by a row of the `SimOps` program), the row `row kind` of the generated C19 tables carries this kind
    name, is in a listed family and describes `impl` (`describesB`: same op rows, same ports with slots / captured lines, no state
    element, distinct ports), and all input pins of the instance are connected -/
def InstCert (lib : Lib) (row : String → Cell) (ord : String → List Nat) (h : NNet) (c : Nat) : Prop :=
  ∃ impl sh, lib.find (h.net.node c).kind = some impl ∧ implShape impl = some sh ∧
    impl.net.wfB = true ∧ orderOKB impl.net (ord (h.net.node c).kind) = true ∧
    forksOKB impl.net (ord (h.net.node c).kind) = true ∧
    linesDrivenB Gen.kindPrefixes impl.net (ord (h.net.node c).kind) = true ∧
    describesB Gen.kindPrefixes (row (h.net.node c).kind) impl (ord (h.net.node c).kind) = true ∧
    pinsFitB h c sh = true ∧ row (h.net.node c).kind ∈ Tech.cells ∧
    (h.net.node c).kind.toList ∈ (row (h.net.node c).kind).names ∧
    (classify (baseName (h.net.node c).kind.toList)).isSome = true

theorem cell_datasheet_iff {lib : Lib} {row : String → Cell} {ord : String → List Nat} {h : NNet} {c : Nat}
    (cert : InstCert lib row ord h c) (v : Nat → Bool) :
    (∃ impl sh anm vm, lib.find (h.net.node c).kind = some impl ∧ implShape impl = some sh ∧
        ImplMatches h c impl sh false (!·) prim2 anm vm v) ↔ CellDatasheet row h c v := by
  obtain ⟨impl, sh, hfind, hsh, hwf, ho, hfk, hall, hdesc, hfit, hrow, hname, hcl⟩ := cert
  obtain ⟨fam, hfam⟩ := Option.isSome_iff_exists.mp hcl
  obtain ⟨fs, hfs, _, hiff⟩ := implMatches_iff_datasheet h c impl sh _ _ _ fam hsh hwf ho hfk hall hdesc hfit hrow hname hfam
  constructor
  · rintro ⟨impl', sh', anm, vm, hf', hs', hm⟩
    rw [hfind] at hf'; cases hf'
    rw [hsh] at hs'; cases hs'
    exact ⟨fam, fs, hfam, hfs, (hiff v).mp ⟨anm, vm, hm⟩⟩
  · rintro ⟨fam', fs', hfam', hfs', hds⟩
    rw [hfam] at hfam'; cases hfam'
    rw [hfs] at hfs'; cases hfs'
    obtain ⟨anm, vm, hm⟩ := (hiff v).mpr hds
    exact ⟨impl, sh, anm, vm, hfind, hsh, hm⟩

end KV.Transform
