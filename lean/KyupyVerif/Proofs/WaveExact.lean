import KyupyVerif.Proofs.WaveCircuit
/-! Overflow (C13). Gate level: the overflow counter only grows, and a run that ends without overflow is the run of every larger
capacity (`run_cap_irrel`) — not an instance of `run_rel`: the hypothesis speaks about the END of the run, so the two loops are
related only with hindsight. Program level: a waveform whose terminator is not the overflow marker is exactly the waveform
computed with any larger capacities (`clear_means_exact`). -/
namespace KV.Wave
open KV KV.Sig

theorem step_ovf_ge (lut D terms zcap) (s : St) : s.ovf ≤ (step lut D terms zcap s).ovf :=
  step_ind (P := fun s' => s.ovf ≤ s'.ovf) lut D terms zcap s (fun _ => Nat.le_refl _) (fun _ _ _ => Nat.le_refl _)
    (fun _ _ => Nat.le_succ _) (fun _ _ _ _ => Nat.le_refl _)

theorem run_ovf_ge (lut D terms zcap) (fuel : Nat) (s : St) : s.ovf ≤ (run lut D terms zcap fuel s).ovf :=
  run_inv (P := fun s' => s.ovf ≤ s'.ovf) (fun s' h _ => Nat.le_trans h (step_ovf_ge lut D terms zcap s')) fuel s
    (Nat.le_refl _)

theorem step_cap_irrel (lut D terms) (c c' : Nat) (hcc : c ≤ c') (s : St)
    (h : (step lut D terms c s).ovf = s.ovf) : step lut D terms c' s = step lut D terms c s := by
  unfold step at *
  simp only [] at *
  split
  · split
    · rename_i h1 h2
      simp only [h1, h2, if_true] at h
      split at h
      · rename_i hroom
        have : s.z.length < c' - 1 := by omega
        simp [this, hroom]
      · simp at h
    · rfl
  · rfl

theorem run_cap_irrel (lut D terms) (c c' : Nat) (hcc : c ≤ c') (fuel : Nat) (s : St)
    (h : (run lut D terms c fuel s).ovf = s.ovf) : run lut D terms c' fuel s = run lut D terms c fuel s := by
  induction fuel generalizing s with
  | zero => simp [run]
  | succ n ih =>
    unfold run at h ⊢
    split at h
    · rename_i hlt
      have h1 := step_ovf_ge lut D terms c s
      have h2 := run_ovf_ge lut D terms c n (step lut D terms c s)
      have hs : (step lut D terms c s).ovf = s.ovf := by omega
      have hstep := step_cap_irrel lut D terms c c' hcc s hs
      simp only [hlt, if_true]
      rw [hstep]
      exact ih _ (by omega)
    · rename_i hlt
      simp [hlt]

theorem T.max_ne_tovl {a b : T} (h : T.max a b ≠ T.tovl) : a ≠ T.tovl ∧ b ≠ T.tovl := by
  unfold T.max at h
  constructor
  · intro ha; subst ha
    cases b <;> simp [T.lt, T.rank] at h
  · intro hb; subst hb
    cases a <;> simp [T.lt, T.rank] at h

theorem waveSem_clear {cfg : WCfg} {op : Op} {xs : List Wv} (h : OpOK cfg op xs)
    (hclear : (waveSem cfg op xs).term ≠ T.tovl) :
    (opOut cfg op xs).ovf = 0 ∧ ∀ i, (slot xs i).term ≠ T.tovl := by
  rw [waveSem_eq h] at hclear
  simp only [] at hclear
  split at hclear
  · exact absurd rfl hclear
  · have h1 := T.max_ne_tovl hclear
    exact ⟨by omega, forall_fin4.mpr
      ⟨(T.max_ne_tovl h1.1).1, (T.max_ne_tovl h1.1).2, (T.max_ne_tovl h1.2).1, (T.max_ne_tovl h1.2).2⟩⟩

theorem waveSem_slots (cfg : WCfg) (op : Op) (xs ys : List Wv) (h : ∀ i, slot xs i = slot ys i) :
    waveSem cfg op xs = waveSem cfg op ys :=
  (waveRow_congr cfg op.code op.out (ins := op.ins) (fun _ _ _ => rfl) h).1

/-- **every program**: wherever the overflow marker is absent, the waveform equals the one computed
    with any larger capacity vector (same delays, same inputs) — "clear means exact". -/
theorem clear_means_exact (cfg cfg' : WCfg) (hdel : cfg'.delay = cfg.delay) (hcap : ∀ i, cfg.cap i ≤ cfg'.cap i)
    (ops : List Op) (hg : cfg.Good ops) (env : Nat → Wv) (henv : ∀ l, (env l).ok) (l : Nat)
    (hclear : (simWave cfg ops env l).term ≠ T.tovl) :
    simWave cfg' ops env l = simWave cfg ops env l := by
  refine (simWave_ok_rel (fun w w' => w.term ≠ T.tovl → w' = w) cfg (waveSem cfg') ops hg ?_ env env
    (fun x => ⟨henv x, fun _ => rfl⟩) l).2 hclear
  intro op hop xs ys hx hxy hcl
  obtain ⟨hov, hts⟩ := waveSem_clear (hg.opOK hop hx) hcl
  have hslots : ∀ i, slot ys i = slot xs i := by
    intro i
    have := hxy.getD i.val Wv.empty Wv.empty ⟨Wv.empty_ok, fun _ => rfl⟩
    exact this.2 (hts i)
  rw [waveSem_slots cfg' op ys xs hslots]
  unfold waveSem waveEval
  have hD : opDelays cfg' op = opDelays cfg op := by unfold opDelays; rw [hdel]
  rw [hD]
  have hrun := run_cap_irrel op.code (opDelays cfg op) (fun i => (slot xs i).term) (cfg.cap op.out) (cfg'.cap op.out)
    (hcap op.out) (totalLen fun i => (slot xs i).ents) (init op.code fun i => (slot xs i).ents)
    (hov.trans (by simp [init]))
  simp only [hrun]

end KV.Wave
