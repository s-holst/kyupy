import KyupyVerif.Proofs.SubstGeneral
import KyupyVerif.Proofs.DanglingSome
/-! C10, progress of `substitute`: under decidable hypotheses `substitute` returns a circuit, and its result satisfies the
circuit-wide hypotheses again.  What can raise: `Node(...)` on a name clash (excluded by fresh names), a look-up `node_map[…]` of the two
connecting loops (excluded by the static `targetsOKB`), and `Line.remove()` at an ignored pin, which needs the driver side of the line's
driver in order and, at a fork, gap-free (`HostAt`).  `HostOK` is `HostAt` at every node the substitution does not write; that set, `Own`,
is left abstract and instantiated for an implementation with / without designated cell.  Up to the loop over the input pins nothing is
walked: the node loop appends blank nodes, the loop over the implementation's lines writes into values of `node_map` and appends lines
driven from them, and `HostOK` only reads the nodes outside `Own` and the lines they drive (`HostOK.frame`).  In the loop over the input
pins the pending line references are kept under the renumbering of every removed line (`CI`, `connectIns_some`).  `Dn` (gap-free forks)
and `LS` (pin-list lengths, for Proofs/SubstTwin.lean) of the host nodes come along. -/
namespace KV.Transform
open KV

theorem keys_eq_kindNames (nn : NNet) : nn.keys = nn.kindNames.map keyOfKN := by
  exact keys_eq nn

theorem fold_some (m : NNet) (hn : String) (des : Option Nat) : ∀ (js : List Nat) (st : NNet × Array (Option Nat)),
    LI st.1 → MapLt st.2 st.1.net.nodes.size → ((js.filterMap (addedOne m hn des)).map keyOfKN).Nodup →
    (∀ k ∈ (js.filterMap (addedOne m hn des)).map keyOfKN, k ∉ st.1.keys) →
    ∃ st', js.foldlM (addImplNode m hn des) st = some st'
  | [], st, _, _, _, _ => ⟨st, rfl⟩
  | j :: js, st, li, ml, hnd, hfr => by
    simp only [List.foldlM_cons, Option.bind_eq_bind]
    cases ha : addedOne m hn des j with
    | none =>
      have e : addImplNode m hn des st j = some st := by rw [addImplNode_eq, ha]
      rw [e]
      simp only [Option.bind_some]
      simp only [List.filterMap_cons, ha] at hnd hfr
      exact fold_some m hn des js st li ml hnd hfr
    | some kn =>
      simp only [List.filterMap_cons, ha, List.map_cons, List.nodup_cons] at hnd
      simp only [List.filterMap_cons, ha, List.map_cons, List.mem_cons, forall_eq_or_imp] at hfr
      have hk : st.1.keys.contains (kn.2, kn.1 == "__fork__") = false := by
        have := hfr.1
        simpa [keyOfKN] using this
      obtain ⟨h', hadd⟩ : ∃ h', addNode st.1 kn.2 kn.1 = some h' := by
        unfold addNode; rw [hk]; exact ⟨_, rfl⟩
      have e : addImplNode m hn des st j = some (h', st.2.setIfInBounds j (some st.1.net.nodes.size)) := by
        rw [addImplNode_eq, ha]; dsimp only; rw [hadd]; rfl
      rw [e]
      simp only [Option.bind_some]
      have ob := addImplNode_obs m hn des st _ j e li ml
      apply fold_some m hn des js _ ob.2.2.1 ob.2.2.2.2.2 hnd.2
      intro k hk' hmem
      rw [keys_eq_kindNames, ob.1, ha] at hmem
      simp only [Option.toList_some, List.map_append, List.map_cons, List.map_nil, List.mem_append, List.mem_singleton] at hmem
      rcases hmem with hmem | hmem
      · rw [← keys_eq_kindNames] at hmem; exact hfr.2 k hk' hmem
      · exact hnd.1 (hmem ▸ hk')

theorem addedOne_isSome_hn (m : NNet) (hn hn' : String) (des : Option Nat) (j : Nat) :
    (addedOne m hn des j).isSome = (addedOne m hn' des j).isSome := by
  unfold addedOne
  dsimp only
  split
  · split <;> rfl
  · split
    · rfl
    · split <;> rfl

theorem phase1_map (h : NNet) (c : Nat) (m : NNet) (des : Option Nat) :
    (phase1 h c m des).2.size = m.net.nodes.size ∧
    ∀ j, ((phase1 h c m des).2.getD j none).isSome = true ↔ (des = some j ∧ j < m.net.nodes.size) := by
  cases des with
  | none =>
    simp only [phase1]
    refine ⟨by simp, fun j => ?_⟩
    rw [getD_replicate_none]; simp
  | some dn =>
    simp only [phase1]
    refine ⟨by simp, fun j => ?_⟩
    rw [getD_setIfInBounds, getD_replicate_none]
    simp only [Array.size_replicate, Option.some.injEq]
    constructor
    · intro h; split at h
      · rename_i hc; exact ⟨hc.1, hc.1 ▸ hc.2⟩
      · simp at h
    · rintro ⟨e, hlt⟩; rw [if_pos ⟨e, e ▸ hlt⟩]; rfl

theorem fold_mapped (h : NNet) (c : Nat) (m : NNet) (des : Option Nat) (st' : NNet × Array (Option Nat))
    (he : (List.range m.net.nodes.size).foldlM (addImplNode m (h.names.getD c "") des) (phase1 h c m des) = some st') (j : Nat) :
    (st'.2.getD j none).isSome = mappedB m des j := by
  obtain ⟨s0, d0⟩ := phase1_map h c m des
  rw [(nodeLoop_map_range m _ des _ _ st' (Nat.le_of_eq s0.symm) he).2 j, addedOne_isSome_hn m (h.names.getD c "") "" des j,
    Bool.eq_iff_iff]
  simp only [mappedB, Bool.and_eq_true, decide_eq_true_eq, Bool.or_eq_true, beq_iff_eq]
  split
  · rename_i hc; simp [hc.1, hc.2]
  · rename_i hc
    rw [d0 j]
    constructor
    · rintro ⟨h1, h2⟩; exact ⟨h2, Or.inl h1⟩
    · rintro ⟨h1, h2 | h2⟩
      · exact ⟨h2, h1⟩
      · exact absurd ⟨h1, h2⟩ hc

theorem map_isSome {β : Type} {o : Option Nat} (f : Nat → β) (h : o.isSome = true) : ∃ p, o.map f = some p := by
  cases o with
  | none => exact absurd h (by simp)
  | some x => exact ⟨_, rfl⟩

theorem inTarget_some (m : NNet) (sh : Shape) (map : Array (Option Nat)) (hs : implShape m = some sh) (ht : targetsOKB m = true)
    (hmap : ∀ j, (map.getD j none).isSome = mappedB m sh.des j) (inn : Nat) (hin : inn ∈ sh.inPorts)
    (hig : ((m.net.node inn).outs.length == 0) = false) : ∃ p, inTarget m map inn = some p := by
  simp only [targetsOKB, hs, Bool.and_eq_true, List.all_eq_true] at ht
  have := ht.1 inn hin
  rw [hig, Bool.false_or] at this
  unfold inTarget
  dsimp only
  split at this
  · rename_i h1
    rw [if_pos h1]
    split at this
    · rename_i l hl
      rw [hl]
      dsimp only
      exact map_isSome _ ((hmap _).trans this)
    · exact absurd this (by simp)
  · rename_i h1
    rw [if_neg h1]
    exact map_isSome _ ((hmap _).trans this)

theorem outTarget_some (m : NNet) (sh : Shape) (map : Array (Option Nat)) (hs : implShape m = some sh) (ht : targetsOKB m = true)
    (hmap : ∀ j, (map.getD j none).isSome = mappedB m sh.des j) (l : Nat) (hl : l ∈ sh.outLines) :
    ∃ p, outTarget m map l = some p := by
  simp only [targetsOKB, hs, Bool.and_eq_true, List.all_eq_true] at ht
  have := ht.2 l hl
  unfold outTarget
  dsimp only
  split at this
  · rename_i h1
    rw [if_pos h1]
    exact map_isSome _ ((hmap _).trans this)
  · rename_i h1
    rw [if_neg h1]
    exact map_isSome _ ((hmap _).trans this)

theorem connectOuts_some (m : NNet) (map : Array (Option Nat)) : ∀ (pins : List (Nat × Option Nat)) (st : Net × List (Option Nat)),
    (∀ p ∈ pins, ∃ q, outTarget m map p.1 = some q) → ∃ st', connectOuts m map pins st = some st'
  | [], st, _ => ⟨st, rfl⟩
  | (l, none) :: rest, (net, dang), h => by
    rw [connectOuts]
    exact connectOuts_some m map rest _ (fun p hp => h p (List.mem_cons_of_mem _ hp))
  | (l, some ll) :: rest, (net, dang), h => by
    obtain ⟨q, hq⟩ := h (l, some ll) List.mem_cons_self
    rw [connectOuts]
    dsimp only at hq
    rw [hq]
    exact connectOuts_some m map rest _ (fun p hp => h p (List.mem_cons_of_mem _ hp))

/-- what `Line.remove()` of a line driven by `d` needs: the driver side of `d` in order up to the lines in `Ex`, no gap if `d` is a fork -/
structure HostAt (net : Net) (Ex : Nat → Prop) (d : Nat) : Prop where
  drv : DrvAt net Ex d
  dense : (net.node d).isFork = true → ∀ o ∈ (net.node d).outs, o ≠ none

def HostOK (Own : Nat → Prop) (Ex : Nat → Prop) (net : Net) : Prop := ∀ d, d < net.nodes.size → ¬ Own d → HostAt net Ex d

theorem Dn.of_eq {net net' : Net} {j : Nat} (h : net'.node j = net.node j) (d : Dn net j) : Dn net' j := by
  unfold Dn; rw [h]; exact d

theorem dn_setReader {net : Net} {j : Nat} (ll r rp : Nat) (h : Dn net j) : Dn (setReader net ll r rp) j := by
  intro hf o ho
  rw [isFork_of_kind_eq (setReader_kind net ll r rp j)] at hf
  rw [setReader_outs] at ho
  exact h hf o ho

theorem size_pushNodes : ∀ (ks : List String) (n : Net), n.nodes.size ≤ (ks.foldl pushNode n).nodes.size
  | [], _ => Nat.le_refl _
  | k :: ks, n => by
    rw [List.foldl_cons]
    have := size_pushNodes ks (pushNode n k)
    have h2 : (pushNode n k).nodes.size = n.nodes.size + 1 := by simp [pushNode]
    omega

/-- `HostOK` reads the nodes outside `Own` and the lines they drive: it goes over to a circuit that keeps those nodes and the lines
there are, and whose further lines are driven from `Own` -/
theorem HostOK.frame {Own Ex : Nat → Prop} {net net' : Net} (h : HostOK Own Ex net)
    (hn : ∀ d, d < net'.nodes.size → ¬ Own d → d < net.nodes.size ∧ net'.node d = net.node d)
    (hs : net.lines.size ≤ net'.lines.size) (hl : ∀ y, y < net.lines.size → net'.line y = net.line y)
    (hnew : ∀ y, net.lines.size ≤ y → y < net'.lines.size → Own (net'.line y).driver) : HostOK Own Ex net' := by
  intro d hd hno
  obtain ⟨hd0, e⟩ := hn d hd hno
  obtain ⟨dr, dn⟩ := h d hd0 hno
  refine ⟨⟨hd, fun p y hp => ?_, fun y hy hex hdy => ?_⟩, Dn.of_eq e dn⟩
  · rw [e] at hp
    obtain ⟨a1, a2⟩ := dr.fwd p y hp
    rw [hl y a1]
    exact ⟨Nat.lt_of_lt_of_le a1 hs, a2⟩
  · have hy0 : y < net.lines.size := Nat.lt_of_not_le fun hge => hno (hdy ▸ hnew y hge hy)
    rw [hl y hy0] at hdy ⊢
    rw [e]
    exact dr.back y hy0 hex hdy

theorem hostOK_setReader {Own Ex} {net : Net} (ll r rp : Nat) (h : HostOK Own Ex net) : HostOK Own Ex (setReader net ll r rp) := by
  intro x hx hn
  rw [(setReader_sizes net ll r rp).1] at hx
  obtain ⟨dr, dn⟩ := h x hx hn
  exact ⟨drvAt_setReader dr ll r rp, dn_setReader ll r rp dn⟩

theorem removeLineF_some (net : Net) (Ex : Nat → Prop) (l : Nat) (hl : l < net.lines.size) (hex : ¬ Ex l)
    (w : HostAt net Ex (net.line l).driver) : ∃ net', removeLine false net l = some net' := by
  obtain ⟨net1, h1⟩ := detachDriver_some net l (w.drv.back l hl hex rfl) w.dense
  simp only [removeLine, h1, Option.map_some]
  exact ⟨_, rfl⟩

theorem inTarget_val (m : NNet) (map : Array (Option Nat)) (inn r rp : Nat) (h : inTarget m map inn = some (r, rp)) :
    r ∈ map.toList.filterMap id :=
  (inTarget_map h).elim fun k hk => (mem_map_values map r).2 ⟨k, hk⟩

/-- state of the loop over the input pins of the instance (`connectIns`) -/
structure CI (Own : Nat → Prop) (m : NNet) (net : Net) (ren : Option Nat → Option Nat) (Ex : Nat → Prop)
    (pins : List (Nat × Option Nat)) : Prop where
  rnone : ren none = none
  host : HostOK Own Ex net
  pend : ∀ inn l0, (inn, some l0) ∈ pins → ∃ ll, ren (some l0) = some ll ∧ ll < net.lines.size ∧
    (ignoredPort m inn = true → ¬ Ex ll ∧ (net.line ll).driver < net.nodes.size ∧ ¬ Own (net.line ll).driver)
  inj : ∀ i1 l1 i2 l2, (i1, some l1) ∈ pins → (i2, some l2) ∈ pins → ren (some l1) = ren (some l2) → l1 = l2
  nd : (pins.filterMap (·.2)).Nodup

theorem CI.tail {Own m net ren Ex p pins} (ci : CI Own m net ren Ex (p :: pins)) : CI Own m net ren Ex pins :=
  ⟨ci.rnone, ci.host, fun inn l0 hm => ci.pend inn l0 (List.mem_cons_of_mem _ hm),
   fun i1 l1 i2 l2 h1 h2 => ci.inj i1 l1 i2 l2 (List.mem_cons_of_mem _ h1) (List.mem_cons_of_mem _ h2), by
     have := ci.nd
     rw [List.filterMap_cons] at this
     split at this
     · exact this
     · exact (List.nodup_cons.mp this).2⟩

/-- **the loop over the input pins succeeds** (`HostOK` is kept: returned for the loop over the output pins) -/
theorem connectIns_some (Own : Nat → Prop) (m : NNet) (map : Array (Option Nat)) :
    ∀ (pins : List (Nat × Option Nat)) (net : Net) (ren : Option Nat → Option Nat) (Ex : Nat → Prop),
    (∀ inn l0, (inn, some l0) ∈ pins → ignoredPort m inn = false → ∃ p, inTarget m map inn = some p) →
    CI Own m net ren Ex pins →
    ∃ net' ren' Ex', connectIns m map pins (net, ren) = some (net', ren') ∧ HostOK Own Ex' net' ∧ net'.nodes.size = net.nodes.size ∧
      (∀ j, j < net.nodes.size → Dn net j → Dn net' j) ∧ ren' none = none ∧
      (∀ x, x ∉ map.toList.filterMap id → LS net net' x)
  | [], net, ren, Ex, _, ci => ⟨net, ren, Ex, rfl, ci.host, rfl, fun _ _ h => h, ci.rnone, fun x _ => LS.of_eq rfl⟩
  | (inn, none) :: rest, net, ren, Ex, ht, ci => by
    obtain ⟨n', r', e', h1, h2, h3, h4, h5, h6⟩ := connectIns_some Own m map rest net ren Ex
      (fun i l hm => ht i l (List.mem_cons_of_mem _ hm)) ci.tail
    refine ⟨n', r', e', ?_, h2, h3, h4, h5, h6⟩
    simp only [connectIns, ci.rnone]
    exact h1
  | (inn, some l0) :: rest, net, ren, Ex, ht, ci => by
    obtain ⟨ll, hren, hll, hig⟩ := ci.pend inn l0 List.mem_cons_self
    have hnd : l0 ∉ rest.filterMap (·.2) ∧ (rest.filterMap (·.2)).Nodup := by
      have := ci.nd; simpa [List.filterMap_cons] using this
    by_cases hi : ignoredPort m inn = true
    · obtain ⟨hex, hdl, hdo⟩ := hig hi
      have hat := ci.host _ hdl hdo
      obtain ⟨a1, hrm⟩ := removeLineF_some net Ex ll hll hex hat
      have sp := removeLineF_spec net Ex ll hll hex hat.drv a1 hrm
      -- the other pending references are other lines
      have hother : ∀ i2 l2 x, (i2, some l2) ∈ rest → ren (some l2) = some x → x ≠ ll := by
        intro i2 l2 x hm2 hr2 e
        have := ci.inj i2 l2 inn l0 (List.mem_cons_of_mem _ hm2) List.mem_cons_self (by rw [hr2, hren, e])
        subst this
        exact hnd.1 (List.mem_filterMap.mpr ⟨(i2, some l2), hm2, rfl⟩)
      have ci' : CI Own m a1 (fun o => mvLine net.lines.size ll (ren o)) (fun y => Ex (nmN net.lines.size ll y)) rest := by
        refine ⟨by simp [ci.rnone, mvLine], ?_, ?_, ?_, hnd.2⟩
        · intro d hd hno
          rw [sp.nsize] at hd
          have old := ci.host d hd hno
          exact ⟨sp.drv d old.drv, dense_removeLine false net a1 ll hrm d old.dense⟩
        · intro i2 l2 hm2
          obtain ⟨ll2, hr2, hl2, hg2⟩ := ci.pend i2 l2 (List.mem_cons_of_mem _ hm2)
          obtain ⟨m1, m2⟩ := mv_facts hll hl2 (hother i2 l2 ll2 hm2 hr2)
          refine ⟨mvN net.lines.size ll ll2, ?_, by rw [sp.lsize]; exact m1, ?_⟩
          · show mvLine net.lines.size ll (ren (some l2)) = _
            rw [hr2]
            simp only [mvLine, mvN, beq_iff_eq, Option.some.injEq]
            split <;> rfl
          · intro hi2
            obtain ⟨g1, g2, g3⟩ := hg2 hi2
            rw [m2, (sp.line _ m1).1, m2, sp.nsize]
            exact ⟨g1, g2, g3⟩
        · intro i1 l1 i2 l2 hm1 hm2 e
          obtain ⟨x1, hr1, hx1, _⟩ := ci.pend i1 l1 (List.mem_cons_of_mem _ hm1)
          obtain ⟨x2, hr2, hx2, _⟩ := ci.pend i2 l2 (List.mem_cons_of_mem _ hm2)
          have n1 := hother i1 l1 x1 hm1 hr1
          have n2 := hother i2 l2 x2 hm2 hr2
          apply ci.inj i1 l1 i2 l2 (List.mem_cons_of_mem _ hm1) (List.mem_cons_of_mem _ hm2)
          rw [hr1, hr2]
          have e' : mvLine net.lines.size ll (ren (some l1)) = mvLine net.lines.size ll (ren (some l2)) := e
          rw [hr1, hr2] at e'
          simp only [mvLine, beq_iff_eq, Option.some.injEq] at e'
          congr 1
          split at e' <;> split at e' <;> simp only [Option.some.injEq] at e' <;> omega
      obtain ⟨n', r', e', h1, h2, h3, h4, h5, h6⟩ := connectIns_some Own m map rest a1 _ _
        (fun i l hm => ht i l (List.mem_cons_of_mem _ hm)) ci'
      refine ⟨n', r', e', ?_, h2, by rw [h3, sp.nsize], fun j hj hd => h4 j (by rw [sp.nsize]; exact hj)
        (dense_removeLine false net a1 ll hrm j hd), h5, fun x hx => LS.trans
          (ls_removeLine false net a1 ll hrm (lt_of_getD_some (hat.drv.back ll hll hex rfl)) (fun e => absurd e (by simp)) x) (h6 x hx)⟩
      have hi' : ((m.net.node inn).outs.length == 0) = true := hi
      simp only [connectIns, hren, hi', if_true, hrm]
      exact h1
    · have hi0 : ignoredPort m inn = false := by simpa using hi
      obtain ⟨⟨r, rp⟩, hp⟩ := ht inn l0 List.mem_cons_self hi0
      obtain ⟨s1, s2, _⟩ := setReader_sizes net ll r rp
      have ci' : CI Own m (setReader net ll r rp) ren Ex rest := by
        refine ⟨ci.rnone, hostOK_setReader ll r rp ci.host, ?_, ci.tail.inj, ci.tail.nd⟩
        intro i2 l2 hm2
        obtain ⟨ll2, hr2, hl2, hg2⟩ := ci.pend i2 l2 (List.mem_cons_of_mem _ hm2)
        refine ⟨ll2, hr2, by rw [s2]; exact hl2, fun hi2 => ?_⟩
        have hd : ((setReader net ll r rp).line ll2).driver = (net.line ll2).driver := by
          rw [setReader_line net ll r rp ll2 hl2]; split <;> rfl
        rw [hd, s1]; exact hg2 hi2
      obtain ⟨n', r', e', h1, h2, h3, h4, h5, h6⟩ := connectIns_some Own m map rest _ ren Ex
        (fun i l hm => ht i l (List.mem_cons_of_mem _ hm)) ci'
      refine ⟨n', r', e', ?_, h2, by rw [h3, s1], fun j hj hd => h4 j (by rw [s1]; exact hj) (dn_setReader ll r rp hd), h5, fun x hx => LS.trans (LS.of_eq (by
          rw [setReader_node, if_neg (fun hc : x = r ∧ r < net.nodes.size => hx (hc.1 ▸ inTarget_val m map inn r rp hp))])) (h6 x hx)⟩
      have hi' : ((m.net.node inn).outs.length == 0) = false := hi0
      simp only [connectIns, hren, hi', hp]
      exact h1



theorem phase3_node_ne (m : NNet) (map : Array (Option Nat)) (h2 : NNet) (j : Nat) (hj : j ∉ map.toList.filterMap id) :
    (phase3 m map h2).node j = h2.net.node j := by
  show nodeA (phase3 m map h2).nodes j = nodeA h2.net.nodes j
  rw [phase3_eq]
  apply attachAll_node_ne
  intro w hw e
  obtain ⟨t, ht, b, rfl⟩ := mem_newWrites.mp hw
  simp only [List.length_map] at ht
  obtain ⟨xd, xr, h1, h2'⟩ := (copiedB_iff (m := m) (map := map) _).mp ((copiedLines_mem (m := m) (map := map) _).mp (List.getElem_mem ht)).2
  cases b
  · exact hj (e ▸ by simpa [endOf, mkLine, h1] using (mem_map_values map xd).2 ⟨_, h1⟩)
  · exact hj (e ▸ by simpa [endOf, mkLine, h2'] using (mem_map_values map xr).2 ⟨_, h2'⟩)

theorem phase3_line_new (m : NNet) (map : Array (Option Nat)) (h2 : NNet) (y : Nat) (hy : h2.net.lines.size ≤ y)
    (hy' : y < (phase3 m map h2).lines.size) : ((phase3 m map h2).line y).driver ∈ map.toList.filterMap id := by
  have hm : (phase3 m map h2).line y ∈ (copiedLines m map).map (mkLine m map) := by
    show (phase3 m map h2).lines.getD y default ∈ _
    rw [phase3_lines] at hy' ⊢
    have hlt : y - h2.net.lines.size < ((copiedLines m map).map (mkLine m map)).length := by
      rw [Array.size_append] at hy'
      show _ < ((copiedLines m map).map (mkLine m map)).toArray.size
      omega
    rw [Array.getD_eq_getD_getElem?, Array.getElem?_append_right hy, List.getElem?_toArray, List.getElem?_eq_getElem hlt]
    exact List.getElem_mem hlt
  obtain ⟨i, hi, e⟩ := List.mem_map.mp hm
  obtain ⟨xd, _, h1, _⟩ := (copiedB_iff (m := m) (map := map) i).mp ((copiedLines_mem (m := m) (map := map) i).mp hi).2
  rw [← e]
  simpa [mkLine, h1] using (mem_map_values map xd).2 ⟨_, h1⟩

theorem outTarget_val (m : NNet) (map : Array (Option Nat)) (l d dp : Nat) (h : outTarget m map l = some (d, dp)) :
    d ∈ map.toList.filterMap id :=
  (outTarget_map h).elim fun k hk => (mem_map_values map d).2 ⟨k, hk⟩

theorem node_connectOuts (m : NNet) (map : Array (Option Nat)) (pins : List (Nat × Option Nat)) (net : Net) (dang : List (Option Nat))
    (st' : Net × List (Option Nat)) (he : connectOuts m map pins (net, dang) = some st') :
    st'.1.nodes.size = net.nodes.size ∧ ∀ j, j ∉ map.toList.filterMap id → st'.1.node j = net.node j := by
  have hn := wireLoop_nodes drSide _ _ _ _ (connectOuts_wireLoop m map _ _ _ he)
  refine ⟨by rw [hn, attachAll_size], fun j hj => ?_⟩
  show nodeA st'.1.nodes j = nodeA net.nodes j
  rw [hn]
  apply attachAll_node_ne
  intro w hw e
  obtain ⟨a, ll, x, p, _, ht, rfl⟩ := mem_wireWrites.mp hw
  exact hj (e ▸ outTarget_val m map a x p ht)

theorem dn_densifyNode (net : Net) (v j : Nat) (h : j = v ∨ Dn net j) : Dn (densifyNode net v) j := by
  unfold densifyNode
  split
  · show (nodeA (net.nodes.modify v _) j).isFork = true → ∀ o ∈ (nodeA (net.nodes.modify v _) j).outs, o ≠ none
    rw [nodeA_modify]
    intro hf o ho
    split at hf
    · rename_i hc
      rw [if_pos hc] at ho
      obtain ⟨y, _, e⟩ := List.mem_map.mp ho
      rw [← e]; simp
    · rename_i hc hj
      rw [if_neg hj] at ho
      rcases h with e | h
      · subst e
        simp only [Bool.and_eq_true] at hc
        exact absurd ⟨rfl, Classical.byContradiction fun hv => by
          rw [node_ge_size net (Nat.le_of_not_lt hv)] at hc; exact absurd hc.1 (by decide)⟩ hj
      · exact h hf o ho
  · rename_i hc
    rcases h with e | h
    · subst e
      intro hf o ho eo
      exact hc (by rw [hf, Bool.true_and]; exact List.any_eq_true.mpr ⟨o, ho, eo ▸ rfl⟩)
    · exact h

theorem dn_densify : ∀ (vs : List Nat) (net : Net) (j : Nat), (j ∈ vs ∨ Dn net j) → Dn (vs.foldl densifyNode net) j
  | [], _, _, h => by rcases h with h | h; simp at h; exact h
  | v :: vs, net, j, h => by
    rw [List.foldl_cons]
    apply dn_densify vs _ j
    rcases h with h | h
    · rcases List.mem_cons.mp h with e | e
      · exact Or.inr (dn_densifyNode net v j (Or.inl e))
      · exact Or.inl e
    · exact Or.inr (dn_densifyNode net v j (Or.inr h))

theorem size_densify : ∀ (vs : List Nat) (net : Net), (vs.foldl densifyNode net).nodes.size = net.nodes.size :=
  fun vs net => (pinsOnly_foldl_densifyNode vs net).1.1.1

/-- `substituteCore` succeeds, for any set `Own` of written nodes that contains the new nodes and the values of `node_map`: the state after
`phase1` satisfies `HostOK`/`Dn` for the other nodes, and the drivers of the lines at ignored pins are among those -/
theorem core_some_of (h : NNet) (c : Nat) (m : NNet) (sh : Shape) (hs : implShape m = some sh) (w : WFm h)
    (hc : c < h.net.nodes.size)
    (hil : (h.net.node c).ins.length ≤ sh.inPorts.length) (hol : (h.net.node c).outs.length ≤ sh.outLines.length)
    (hfresh : addFreshB h c m = true) (ht : targetsOKB m = true)
    (Own : Nat → Prop)
    (li : LI (phase1 h c m sh.des).1) (ml : MapLt (phase1 h c m sh.des).2 (phase1 h c m sh.des).1.net.nodes.size)
    (h0 : HostOK Own (fun l => l ∈ (h.net.node c).outs.filterMap id) (phase1 h c m sh.des).1.net)
    (d0 : ∀ j, j < (phase1 h c m sh.des).1.net.nodes.size → Dn (phase1 h c m sh.des).1.net j)
    (hown : ∀ y, (phase1 h c m sh.des).1.net.nodes.size ≤ y → Own y)
    (hmap0 : ∀ j x, (phase1 h c m sh.des).2.getD j none = some x → Own x)
    (hlsz : (phase1 h c m sh.des).1.net.lines.size = h.net.lines.size)
    (hpins : ∀ l0, GhostLine h c m sh l0 → l0 ∉ (h.net.node c).outs.filterMap id ∧
      ((phase1 h c m sh.des).1.net.line l0).driver < (phase1 h c m sh.des).1.net.nodes.size ∧
      ¬ Own ((phase1 h c m sh.des).1.net.line l0).driver) :
    ∃ h5 map dang, substituteCore h c m = some (h5, map, dang) ∧
      (∀ j, j < h5.net.nodes.size → j ∉ map.toList.filterMap id → Dn h5.net j) ∧
      (∀ j, j < (phase1 h c m sh.des).1.net.nodes.size → ¬ Own j → LS (phase1 h c m sh.des).1.net h5.net j) := by
  unfold addFreshB at hfresh
  rw [hs] at hfresh
  simp only [Bool.and_eq_true, decide_eq_true_eq, List.all_eq_true, Bool.not_eq_true'] at hfresh
  obtain ⟨⟨h2, map⟩, hfold⟩ := fold_some m (h.names.getD c "") sh.des (List.range m.net.nodes.size) (phase1 h c m sh.des) li ml hfresh.1
    (fun k hk hmem => by
      have := hfresh.2 k hk
      rw [List.contains_eq_mem, decide_eq_false_iff_not] at this
      exact this hmem)
  obtain ⟨e1, e2, _, _, e5⟩ := nodeLoop_net m _ sh.des _ _ _ hfold
  have hmapped := fold_mapped h c m sh.des (h2, map) hfold
  have hvOwn : ∀ x, x ∈ map.toList.filterMap id → Own x := fun x hx =>
    ((mem_map_values map x).1 hx).elim fun k hk => (e5 k x hk).elim (hmap0 k x) (hown x)
  have hsz2 : (phase1 h c m sh.des).1.net.nodes.size ≤ h2.net.nodes.size := by
    show _ ≤ h2.net.nodes.size; rw [e1, Array.size_append]; exact Nat.le_add_right _ _
  -- the loop appends blank nodes; the loop over the implementation's lines writes into values of `node_map` only
  have hnode2 : ∀ j, (j < (phase1 h c m sh.des).1.net.nodes.size → h2.net.node j = (phase1 h c m sh.des).1.net.node j) ∧
      ((phase1 h c m sh.des).1.net.nodes.size ≤ j → (h2.net.node j).outs = []) := by
    intro j
    show (_ → h2.net.nodes.getD j default = (phase1 h c m sh.des).1.net.nodes.getD j default) ∧ (_ → (h2.net.nodes.getD j default).outs = [])
    rw [Array.getD_eq_getD_getElem?, Array.getD_eq_getD_getElem?, e1]
    refine ⟨fun hj => by rw [Array.getElem?_append_left hj], fun hj => ?_⟩
    rw [Array.getElem?_append_right hj, List.getElem?_toArray, List.getElem?_map]
    cases ((List.range m.net.nodes.size).filterMap _)[j - _]? <;> rfl
  have dn2 : ∀ j, Dn h2.net j := by
    intro j
    by_cases hj : j < (phase1 h c m sh.des).1.net.nodes.size
    · exact Dn.of_eq ((hnode2 j).1 hj) (d0 j hj)
    · intro _ o ho
      rw [(hnode2 j).2 (Nat.le_of_not_lt hj)] at ho
      cases ho
  have hn3 : (phase3 m map h2).nodes.size = h2.net.nodes.size := by rw [phase3_eq, attachAll_size]
  have hl3 : h.net.lines.size ≤ (phase3 m map h2).lines.size := by
    rw [phase3_lines, e2, Array.size_append, hlsz]; exact Nat.le_add_right _ _
  have hline3 : ∀ l, l < h.net.lines.size → (phase3 m map h2).line l = (phase1 h c m sh.des).1.net.line l := by
    intro l hl
    show (phase3 m map h2).lines.getD l default = (phase1 h c m sh.des).1.net.lines.getD l default
    rw [phase3_lines, e2, Array.getD_eq_getD_getElem?, Array.getD_eq_getD_getElem?, Array.getElem?_append_left (by rw [hlsz]; exact hl)]
  have ho3 : HostOK Own (fun l => l ∈ (h.net.node c).outs.filterMap id) (phase3 m map h2) :=
    h0.frame (fun d _ hno =>
        have hd := Nat.lt_of_not_le fun hge => hno (hown d hge)
        ⟨hd, (phase3_node_ne m map h2 d fun hm => hno (hvOwn d hm)).trans ((hnode2 d).1 hd)⟩)
      (by rw [hlsz]; exact hl3) (by rw [hlsz]; exact hline3)
      (fun y hy hy' => hvOwn _ (phase3_line_new m map h2 y (by rw [e2]; exact hy) hy'))
  obtain ⟨hI, ndI⟩ := w.toWFr.insPins hc
  have sI := zip_padTo_snd sh.inPorts _ hil
  have ci : CI Own m (phase3 m map h2) id (fun l => l ∈ (h.net.node c).outs.filterMap id)
      (sh.inPorts.zip (padTo (h.net.node c).ins sh.inPorts.length)) := by
    refine ⟨rfl, ho3, ?_, fun _ l1 _ l2 _ _ e => Option.some.inj e, by rw [sI]; exact ndI⟩
    intro inn l0 hm
    obtain ⟨k, hk1, hk2⟩ := mem_zip_padTo.mp hm
    have hl0 : l0 ∈ (h.net.node c).ins.filterMap id := (mem_filterMap_id _ l0).mpr ⟨k, hk2⟩
    refine ⟨l0, rfl, Nat.lt_of_lt_of_le (hI l0 hl0).1 hl3, fun hig => ?_⟩
    obtain ⟨g1, g2, g3⟩ := hpins l0 ⟨k, inn, hk2, hk1, hig⟩
    rw [hline3 l0 (hI l0 hl0).1, hn3]
    exact ⟨g1, Nat.lt_of_lt_of_le g2 hsz2, g3⟩
  obtain ⟨net4, ren, Ex', hci, _, hn4, hd4, hr4, hls4⟩ := connectIns_some Own m map _ (phase3 m map h2) id _
    (fun inn l0 hm hig => inTarget_some m sh map hs ht hmapped inn (List.of_mem_zip hm).1 hig) ci
  obtain ⟨⟨net5, dang⟩, hco⟩ := connectOuts_some m map (sh.outLines.zip ((padTo (h.net.node c).outs sh.outLines.length).map ren)) (net4, [])
    (fun p hp => outTarget_some m sh map hs ht hmapped p.1 (List.of_mem_zip hp).1)
  obtain ⟨hn5, hnode5⟩ := node_connectOuts m map _ _ _ _ hco
  refine ⟨{ h2 with net := net5 }, map, dang,
    substituteCore_of_phases h c m sh hs h2 map net4 net5 ren dang hil hol hfold hci hco, ?_, ?_⟩
  · intro j hj hv
    have hj2 : j < h2.net.nodes.size := by
      have : net5.nodes.size = h2.net.nodes.size := by rw [hn5]; show net4.nodes.size = _; rw [hn4, hn3]
      rw [← this]; exact hj
    exact Dn.of_eq (hnode5 j hv) (hd4 j (by rw [hn3]; exact hj2) (Dn.of_eq (phase3_node_ne m map h2 j hv) (dn2 j)))
  · intro j hj hno
    have hv : j ∉ map.toList.filterMap id := fun hm => hno (hvOwn j hm)
    have l2 : LS (phase1 h c m sh.des).1.net (phase3 m map h2) j :=
      LS.of_eq ((phase3_node_ne m map h2 j hv).trans ((hnode2 j).1 hj))
    exact l2.trans ((hls4 j hv).trans (LS.of_eq (hnode5 j hv)))



theorem ghost_facts (h : NNet) (c : Nat) (m : NNet) (sh : Shape) (w : WFm h) (hc : c < h.net.nodes.size)
    (hself : ∀ ll, GhostLine h c m sh ll → (h.net.line ll).driver ≠ c) (l0 : Nat) (hg : GhostLine h c m sh l0) :
    l0 < h.net.lines.size ∧ l0 ∉ (h.net.node c).outs.filterMap id ∧ (h.net.line l0).driver < h.net.nodes.size ∧
      (h.net.line l0).driver ≠ c := by
  have hg' := hg
  obtain ⟨k, inn, h1, _, _⟩ := hg'
  have hl := (w.fwdIn c hc k l0 h1).1
  refine ⟨hl, ?_, (w.back l0 hl).1, hself l0 hg⟩
  intro hm
  obtain ⟨k', hk'⟩ := (mem_filterMap_id _ l0).mp hm
  exact hself l0 hg (w.fwdOut c hc k' l0 hk').2.1

theorem core_some (h : NNet) (c : Nat) (m : NNet) (sh : Shape) (hs : implShape m = some sh) (w : WFm h) (fd : FD h.net)
    (hc : c < h.net.nodes.size) (hil : (h.net.node c).ins.length ≤ sh.inPorts.length) (hol : (h.net.node c).outs.length ≤ sh.outLines.length)
    (hfresh : addFreshB h c m = true) (ht : targetsOKB m = true)
    (hself : ∀ ll, GhostLine h c m sh ll → (h.net.line ll).driver ≠ c) (hio : c ∉ h.net.io) :
    ∃ h5 map dang, substituteCore h c m = some (h5, map, dang) ∧
      (∀ j, j < h5.net.nodes.size → j ∉ map.toList.filterMap id → Dn h5.net j) ∧
      (∀ j, j < (phase1 h c m sh.des).1.net.nodes.size → (sh.des.isSome = true → j ≠ c) →
        LS (phase1 h c m sh.des).1.net h5.net j) := by
  have li : LI h := ⟨w.names, w.io⟩
  cases hd : sh.des with
  | none =>
    have hioc : h.net.io.contains c = false := by simpa using hio
    obtain ⟨sA1, sA2⟩ := delNode_sizes h c
    have lk := lk_init_none h c m m.net.nodes.size w hc hio
    have fdD := FD_delNode h c hc fd
    have hn : (phase1 h c m none).1.net.nodes.size = h.net.nodes.size - 1 := sA1
    have key := core_some_of h c m sh hs w hc hil hol hfresh ht (fun x => h.net.nodes.size - 1 ≤ x)
    rw [hd] at key
    obtain ⟨h5, map, dang, hcore, hdn, hls⟩ := key (phase1_none_obs h c m li hc hioc).2.2.1 (phase1_none_obs h c m li hc hioc).2.2.2
      (fun d hdl hno => ⟨lk.host d hdl hno, fdD d hdl⟩) fdD (by rw [hn]; exact fun y hy => hy)
      (by
        intro j x hx
        have hx' : (Array.replicate m.net.nodes.size (none : Option Nat)).getD j none = some x := hx
        rw [getD_replicate_none] at hx'
        exact absurd hx' (by simp))
      sA2
      (by
        intro l0 hg
        obtain ⟨g1, g2, g3, g4⟩ := ghost_facts h c m sh w hc hself l0 hg
        have hl : (phase1 h c m none).1.net.line l0 = (delNode h c).net.line l0 := rfl
        rw [hl, hn, delNode_line h c l0 g1]
        have hlt := (piN_mv hc g3 g4).1
        exact ⟨g2, hlt, Nat.not_le.mpr hlt⟩)
    exact ⟨h5, map, dang, hcore, hdn, fun j hj _ => hls j hj (by omega)⟩
  | some dn =>
    have p1 := phase1_some_obs h c m dn li hc
    obtain ⟨e1, e2, e3, _⟩ := phase1_rest h c m dn
    have hnode := phase1_some_node h c m dn hc
    have hline : ∀ l, (phase1 h c m (some dn)).1.net.line l = h.net.line l := by
      intro l; show lineA (phase1 h c m (some dn)).1.net.lines l = _; rw [e1]; rfl
    have lk := lk_init h c m dn w hc
    have key := core_some_of h c m sh hs w hc hil hol hfresh ht (ownN h c)
    rw [hd] at key
    obtain ⟨h5, map, dang, hcore, hdn, hls⟩ := key p1.2.2.1 p1.2.2.2
      (by
        intro d hdl hno
        refine ⟨lk.host d hdl hno, ?_⟩
        have hne : d ≠ c := fun e => hno (Or.inl e)
        rw [hnode, if_neg hne]
        exact fd d (by rw [e3] at hdl; exact hdl))
      (by
        intro j hj hf o ho
        rw [hnode] at hf ho
        split at hf
        · rw [if_pos (by assumption)] at ho; simp at ho
        · rw [if_neg (by assumption)] at ho
          exact fd j (by rw [e3] at hj; exact hj) hf o ho)
      (by rw [e3]; exact fun y hy => Or.inr hy) (frame_phase1 h c m dn [] []).2 (by rw [e1])
      (by
        intro l0 hg
        obtain ⟨g1, g2, g3, g4⟩ := ghost_facts h c m sh w hc hself l0 hg
        rw [hline, e3]
        refine ⟨g2, g3, ?_⟩
        rintro (e | e)
        · exact g4 e
        · omega)
    refine ⟨h5, map, dang, hcore, hdn, fun j hj hne => hls j hj ?_⟩
    rintro (e | e)
    · exact hne rfl e
    · omega

/-- the hypotheses of `substitute_isSome` as propositions (`substSomeHypB` decoded: `substSomeHypB_spec`, Proofs/ResolveStatic.lean) -/
structure SubstHyp (h : NNet) (c : Nat) (m : NNet) : Prop where
  wfm : WFm h
  fd : FD h.net
  mwf : WF m
  lt : c < h.net.nodes.size
  notIo : c ∉ h.net.io
  notFork : (h.net.node c).isFork = false
  implOK : implGenOKB m = true
  targets : targetsOKB m = true
  noSelf : noSelfIgnB h c m = true
  fresh : addFreshB h c m = true
  arity : ∀ sh, implShape m = some sh →
    (h.net.node c).ins.length ≤ sh.inPorts.length ∧ (h.net.node c).outs.length ≤ sh.outLines.length

/-- **the two halves of `substitute`** under the hypotheses of `substitute_some`: `substituteCore` succeeds; the circuit it builds,
    with the copied forks made dense, is well-formed up to trailing `None`s (from the lockstep certificate) with gap-free forks;
    what remains is `remove_dangling_nodes` on that circuit -/
theorem substitute_parts (h m : NNet) (c : Nat) (H : SubstHyp h c m) :
    ∃ sh h5 map dang, implShape m = some sh ∧ substituteCore h c m = some (h5, map, dang) ∧
      h5.kindNames = (phase1 h c m sh.des).1.kindNames ++ addedKN m (h.names.getD c "") sh.des ∧
      (∀ j, j < (phase1 h c m sh.des).1.net.nodes.size → (sh.des.isSome = true → j ≠ c) →
        LS (phase1 h c m sh.des).1.net h5.net j) ∧
      Dens h5 (densNN h5 (map.toList.filterMap id)) (fun x => x ∈ map.toList.filterMap id) ∧
      WFm (densNN h5 (map.toList.filterMap id)) ∧ FD (densNN h5 (map.toList.filterMap id)).net ∧
      (∀ x ∈ map.toList.filterMap id, x < (densNN h5 (map.toList.filterMap id)).net.nodes.size) ∧
      substitute h c m = removeDangling (dang.length + h5.net.lines.size + 1) (densNN h5 (map.toList.filterMap id))
        (map.toList.filterMap id) dang := by
  obtain ⟨w, fd, mw, hc, hio, hcf, hok, ht, hns, hfresh, har⟩ := H
  obtain ⟨sh, hs, k2, k3, k4⟩ := implGenOKB_spec m hok
  have hself := noSelfIgnB_spec h c m sh hs hns
  obtain ⟨hil, hol⟩ := har sh hs
  obtain ⟨h5, map, dang, hcore, hdn, hls⟩ := core_some h c m sh hs w fd hc hil hol hfresh ht hself hio
  -- only the structural half of the lockstep certificate is used: any algebra will do
  obtain ⟨_, _, _, _, _, _, _, _, wfm5, _, hmapLt, _⟩ :=
    lockstep_substV false (!·) (fun _ _ _ _ _ => false) h m c w mw hc hio hcf sh hs k2 k3 k4 hself h5 map dang hcore
  obtain ⟨dd, wd, _⟩ := densNN_densM (map.toList.filterMap id) h5 wfm5
  have li : LI h := ⟨w.names, w.io⟩
  have p1 : LI (phase1 h c m sh.des).1 ∧ MapLt (phase1 h c m sh.des).2 (phase1 h c m sh.des).1.net.nodes.size := by
    cases hd : sh.des with
    | none => exact (phase1_none_obs h c m li hc (by simpa using hio)).2.2
    | some dn => exact (phase1_some_obs h c m dn li hc).2.2
  refine ⟨sh, h5, map, dang, hs, hcore, (substituteCore_obs h c m sh hs h5 map dang hcore p1.1 p1.2).1, hls, dd, wd, ?_, ?_, ?_⟩
  · intro j hj
    show Dn ((map.toList.filterMap id).foldl densifyNode h5.net) j
    apply dn_densify
    by_cases hv : j ∈ map.toList.filterMap id
    · exact Or.inl hv
    · exact Or.inr (hdn j (by rw [dd.nsize] at hj; exact hj) hv)
  · intro x hx
    obtain ⟨k, hk⟩ := (mem_map_values map x).1 hx
    rw [dd.nsize]
    exact hmapLt k x hk
  · unfold substitute
    rw [hcore]
    rfl

/-- **`substitute` returns a circuit.**  Host well-formed up to trailing `None`s with gap-free forks, implementation well-formed
    with `implGenOKB` and `targetsOKB`, cell neither port nor fork with no more pins than the implementation has ports (the two
    `assert`s), fresh names (`addFreshB`), no ignored pin driven by the cell itself (`noSelfIgnB`) -/
theorem substitute_some (h m : NNet) (c : Nat) (H : SubstHyp h c m) : ∃ h', substitute h c m = some h' := by
  obtain ⟨sh, h5, map, dang, _, _, _, _, dd, wd, fdd, ho, heq⟩ := substitute_parts h m c H
  rw [heq]
  exact removeDangling_some _ _ (map.toList.filterMap id) dang wd fdd ho (by rw [dd.lsize]; omega)


/-! the invariants of the PROGRESS theorem `substitute_isSome` are preserved by a substitution, so that the
next substitution of a `resolve_tlib_cells` run finds them again: the result of `substitute` is well-formed up to trailing `None`s
(`WFm`) and its forks are gap-free (`FD`).  `remove_dangling_nodes` keeps the forks gap-free (`removeDangling_fd`: every
`Line.remove()` squeezes the fork it leaves, `Node.remove()` only renumbers). -/

theorem removeDangling_fd (fuel : Nat) (nn : NNet) (own : List Nat) (stack : List (Option Nat)) (nn' : NNet)
    (w : WFm nn) (fd : FD nn.net) (ho : ∀ x ∈ own, x < nn.net.nodes.size) (h : removeDangling fuel nn own stack = some nn') :
    WFm nn' ∧ FD nn'.net := by
  refine (removeDangling_induct (P := fun nn _ nn' => FD nn.net → FD nn'.net) (fun _ fd => fd) ?_ fuel nn own stack nn' w ho h).imp_right (· fd)
  intro nn own root net' nn' w ho hmem hio' _ houts' hrl _ ih fd
  have hroot := ho root hmem
  obtain ⟨net'', hrl', fd', _⟩ := removeLines_some nn root _ nn.net id Ren.id (RLInv.init nn w root hroot hio' houts') fd
  rw [hrl] at hrl'
  cases hrl'
  have hns : net'.nodes.size = nn.net.nodes.size := (pinsOnly_removeLines _ _ _ _ hrl).1.1
  exact ih (FD_delNode { nn with net := net' } root (by rw [hns]; exact hroot) fd')

theorem substitute_inv (h m h' : NNet) (c : Nat) (H : SubstHyp h c m) (he : substitute h c m = some h') : WFm h' ∧ FD h'.net := by
  obtain ⟨sh, h5, map, dang, _, _, _, _, _, wd, fdd, ho, heq⟩ := substitute_parts h m c H
  rw [heq] at he
  exact removeDangling_fd _ _ _ _ h' wd fdd ho he

end KV.Transform
