import KyupyVerif.Proofs.SubstWrites
/-! C10 (`substitute`), observables of the whole run: kinds, names and ports of the circuit `substituteCore` builds
(`substituteCore_obs`) and of the result of `substitute` (`substitute_obs`); nothing dangles when every output pin of the instance is
connected (`substituteCore_dang_nil`; `RenSome`: the renaming `connectIns` carries along sends a line to a line); the loop of
`resolve_tlib_cells` keeps the port records as long as no port has the kind of a library cell (`resolve_fold`). -/
namespace KV.Transform
open KV

theorem substituteCore_obs (h : NNet) (c : Nat) (m : NNet) (sh : Shape) (hs : implShape m = some sh)
    (h5 : NNet) (map : Array (Option Nat)) (dang : List (Option Nat)) (he : substituteCore h c m = some (h5, map, dang))
    (li : LI (phase1 h c m sh.des).1) (hm : MapLt (phase1 h c m sh.des).2 (phase1 h c m sh.des).1.net.nodes.size) :
    h5.kindNames = (phase1 h c m sh.des).1.kindNames ++ addedKN m (h.names.getD c "") sh.des ∧
    h5.ioKN = (phase1 h c m sh.des).1.ioKN ∧ LI h5 ∧ MapLt map h5.net.nodes.size ∧
    h5.net.io = (phase1 h c m sh.des).1.net.io := by
  obtain ⟨h2, net4, ren, net5, _, _, hfold, hci, hco, e⟩ := substituteCore_inv h c m sh hs h5 map dang he
  have o := foldlM_addImplNode_obs m _ sh.des _ _ _ hfold li hm
  have p3 := pinsOnly_phase3 m map h2
  have p4 := pinsOnly_connectIns m map _ _ _ hci
  have p5 := pinsOnly_connectOuts m map _ _ _ hco
  have po : PinsOnly h2.net h5.net := by
    subst e; exact p3.trans (p4.trans p5)
  have hn : h5.names = h2.names := by subst e; rfl
  have ob := obs_of_pinsOnly h2 h5 po hn
  refine ⟨by rw [ob.1, o.1]; rfl, ob.2.1.trans o.2.1, ob.2.2 o.2.2.1, ?_, po.2.trans o.2.2.2.1⟩
  rw [po.1.1]; exact o.2.2.2.2.2

theorem mem_map_values (map : Array (Option Nat)) (x : Nat) :
    x ∈ map.toList.filterMap id ↔ ∃ k, map.getD k none = some x := by
  simpa [List.getD_eq_getElem?_getD, Array.getD_eq_getD_getElem?] using mem_filterMap_id map.toList x

theorem substitute_obs (h : NNet) (c : Nat) (m h' : NNet) (li : LI h) (hc : c < h.net.nodes.size)
    (hio : h.net.io.contains c = false) (he : substitute h c m = some h') :
    ∃ sh, ∃ h5 : NNet, implShape m = some sh ∧ h'.ioKN = h.ioKN ∧ LI h' ∧
      h5.kindNames = (phase1 h c m sh.des).1.kindNames ++ addedKN m (h.names.getD c "") sh.des ∧
      ∀ p, SeqOnly p → (h'.kindNames.filter p).Perm (h5.kindNames.filter p) := by
  unfold substitute at he
  split at he
  · exact absurd he (by simp)
  · rename_i h5 map dang hcore
    obtain ⟨sh, hs⟩ : ∃ sh, implShape m = some sh := by
      cases hs : implShape m with
      | none => simp [substituteCore, hs] at hcore
      | some sh => exact ⟨sh, rfl⟩
    have p1 := phase1_li h c m sh.des li hc hio
    have o := substituteCore_obs h c m sh hs h5 map dang hcore p1.2.1 p1.2.2
    -- the loop that makes the copied forks dense only re-wires pins
    have pd := pinsOnly_densify h5.net map
    have od := obs_of_pinsOnly h5 { h5 with net := densify h5.net map } pd rfl
    have r := removeDangling_obs _ { h5 with net := densify h5.net map } _ dang h' (od.2.2 o.2.2.1)
      (by rw [show ({ h5 with net := densify h5.net map } : NNet).net.nodes.size = h5.net.nodes.size from pd.1.1]
          exact fun x hx => ((mem_map_values map x).1 hx).elim fun k hk => o.2.2.2.1 k x hk) he
    exact ⟨sh, h5, hs, r.2.1.trans (od.2.1.trans (o.2.1.trans p1.1)), r.1, o.1, fun p hp => by rw [← od.1]; exact r.2.2 p hp⟩

def RenSome (ren : Option Nat → Option Nat) : Prop := ∀ x, ∃ y, ren (some x) = some y

theorem connectIns_renSome (m : NNet) (map : Array (Option Nat)) : ∀ (l : List (Nat × Option Nat))
    (st st' : Net × (Option Nat → Option Nat)), connectIns m map l st = some st' → RenSome st.2 → RenSome st'.2
  | [], st, st', h, hr => by cases h; exact hr
  | (inn, o) :: rest, (net, ren), st', h, hr => by
    unfold connectIns at h
    split at h
    · exact connectIns_renSome m map rest _ st' h hr
    · split at h
      · split at h
        · exact absurd h (by simp)
        · refine connectIns_renSome m map rest _ st' h ?_
          intro x
          obtain ⟨y, hy⟩ := hr x
          have hy' : ren (some x) = some y := hy
          show ∃ z, mvLine _ _ (ren (some x)) = some z
          rw [hy']; exact ⟨_, mvLine_some⟩
      · split at h
        · exact absurd h (by simp)
        · exact connectIns_renSome m map rest _ st' h hr

theorem connectOuts_dang (m : NNet) (map : Array (Option Nat)) : ∀ (l : List (Nat × Option Nat))
    (st st' : Net × List (Option Nat)), connectOuts m map l st = some st' → (∀ x ∈ l, x.2.isSome = true) → st'.2 = st.2
  | [], st, st', h, _ => by cases h; rfl
  | (l, none) :: rest, (net, dang), st', _, hs => by
    have := hs (l, none) (List.mem_cons_self)
    simp at this
  | (l, some ll) :: rest, (net, dang), st', h, hs => by
    unfold connectOuts at h
    split at h
    · exact absurd h (by simp)
    · have := connectOuts_dang m map rest _ st' h (fun x hx => hs x (List.mem_cons_of_mem _ hx))
      exact this

theorem substituteCore_dang_nil (h : NNet) (c : Nat) (m : NNet) (sh : Shape) (hs : implShape m = some sh)
    (h5 : NNet) (map : Array (Option Nat)) (dang : List (Option Nat)) (he : substituteCore h c m = some (h5, map, dang))
    (hlen : (h.net.node c).outs.length = sh.outLines.length) (hall : (h.net.node c).outs.all (·.isSome) = true) :
    dang = [] := by
  obtain ⟨h2, net4, ren, net5, _, _, _, hci, hco, _⟩ := substituteCore_inv h c m sh hs h5 map dang he
  have hr := connectIns_renSome m map _ _ _ hci (fun x => ⟨x, rfl⟩)
  refine connectOuts_dang m map _ _ _ hco ?_
  intro x hx
  have h2 := (List.of_mem_zip hx).2
  simp only [padTo, hlen, Nat.sub_self, List.replicate_zero, List.append_nil, List.mem_map] at h2
  obtain ⟨o, ho, e⟩ := h2
  have hsome := List.all_eq_true.mp hall o ho
  cases o with
  | none => simp at hsome
  | some y =>
    obtain ⟨z, hz⟩ := hr y
    have hz' : ren (some y) = some z := hz
    rw [← e, hz']; rfl

theorem filter_set_map {α β} (q : α → Bool) (f : α → β) : ∀ (l : List α) (i : Nat) (y : α) (hi : i < l.length),
    q y = q l[i] → f y = f l[i] → ((l.set i y).filter q).map f = (l.filter q).map f
  | [], i, _, hi, _, _ => by simp at hi
  | a :: l, 0, y, _, hq, hf => by
    simp only [List.getElem_cons_zero] at hq hf
    simp only [List.set_cons_zero, List.filter_cons, hq]
    split <;> simp [hf]
  | a :: l, i + 1, y, hi, hq, hf => by
    simp only [List.getElem_cons_succ] at hq hf
    have hi' : i < l.length := by simpa using hi
    simp only [List.set_cons_succ, List.filter_cons]
    split
    · simp only [List.map_cons]; rw [filter_set_map q f l i y hi' hq hf]
    · exact filter_set_map q f l i y hi' hq hf

theorem resolve_fold (lib : Lib) (keys : List (String × Bool)) (h h' : NNet) (he : keys.foldlM (resolveStep lib) h = some h')
    (li : LI h) (hk : ∀ kn ∈ h.ioKN, lib.find kn.1 = none) : h'.ioKN = h.ioKN ∧ LI h' := by
  refine foldlM_inv (resolveStep lib) (fun _ s => s.ioKN = h.ioKN ∧ LI s)
    (fun _ s key s1 hP h1 => ?_) keys [] h h' ⟨rfl, li⟩ he
  unfold resolveStep at h1
  dsimp only at h1
  split at h1
  · rename_i hlt
    split at h1
    · rename_i impl hf
      -- a port is no library cell
      have hio : s.net.io.contains (s.lookup key) = false := by
        cases hc : s.net.io.contains (s.lookup key) with
        | false => rfl
        | true =>
          have hmem : s.lookup key ∈ s.net.io := by simpa using hc
          have hn := hk _ (by rw [← hP.1]; exact List.mem_map.mpr ⟨_, hmem, rfl⟩)
          simp only [kindAt] at hn
          simp only [Net.node] at hf
          rw [hn] at hf; exact absurd hf (by simp)
      obtain ⟨_, _, _, r, liS, _⟩ := substitute_obs s _ impl s1 hP.2 hlt hio h1
      exact ⟨r.trans hP.1, liS⟩
    · cases h1; exact hP
  · cases h1; exact hP

end KV.Transform
