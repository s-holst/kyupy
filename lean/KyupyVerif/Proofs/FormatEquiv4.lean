import KyupyVerif.Proofs.FormatEquiv3
/-! The Verilog rendering of a closed netlist description builds WITH branch forks (`cfg.bf = true`, `verilog.parse(…,
branchforks=True)`) when the branch-fork names `stem~inst/pin` the reader pass makes are new and pairwise different
(`closedBfNlB`: decidable, about the names of the description only). -/
namespace KV.Netlist
open KV

/-- the input connections of the description in pass-2 order -/
def Nl.conns (nl : Nl) : List (NlGate × (String × Nat × String)) :=
  nl.gates.flatMap fun g => (primInConn g.drv).map fun c => (g, c)

def Nl.branchNames (nl : Nl) : List String := nl.conns.map fun gc => branchName gc.2.2.2 gc.1.inst gc.2.1

def closedBfNlB (nl : Nl) : Bool := closedNlB nl && nodupS (nl.gateNames ++ nl.pis ++ nl.branchNames)

def bfEps (gc : NlGate × (String × Nat × String)) : List Ep :=
  [Ep.fork (branchName gc.2.2.2 gc.1.inst gc.2.1), Ep.cell gc.1.inst gc.2.2.1]

theorem vFlat_readers_bf (cfg : Cfg) (hbf : cfg.bf = true) (nl : Nl)
    (hnc : ∀ g ∈ nl.gates, ∀ d ∈ g.drv, isConstLit d = false) :
    (vFlat cfg primTL (nl.ports.map nlDecl) (verilogOf nl)).map (·.r) =
      nl.gateNames.map Ep.fork ++ nl.pis.map Ep.fork ++ nl.conns.flatMap bfEps ++ nl.pos.map (fun n => Ep.cell n 0) := by
  rw [vFlat_readers_of cfg nl
    (fun ic => [(⟨.fork ic.2.2.2, .fork (branchName ic.2.2.2 ic.1.name ic.2.1), ic.2.2.2⟩ : VLine),
      ⟨.fork (branchName ic.2.2.2 ic.1.name ic.2.1), .cell ic.1.name ic.2.2.1, ic.2.2.2⟩]) (by
      intro k x hx c hc
      have := hnc x hx c.2.2 (mem_primInConn x.drv c hc)
      simp only [connLines, hbf, this, srcFork, Bool.false_eq_true, ↓reduceIte, List.nil_append])]
  rw [Nl.conns, List.flatMap_assoc]
  simp only [List.flatMap_map]
  rfl

theorem nodup_interleave {α β} (A B : α → β) (l : List α) (hA : (l.map A).Nodup) (hB : (l.map B).Nodup)
    (hAB : ∀ x ∈ l, ∀ y ∈ l, A x ≠ B y) : (l.flatMap fun x => [A x, B x]).Nodup := by
  rw [List.Nodup, List.pairwise_flatMap]
  refine ⟨fun a ha => by simp [hAB a ha a ha], ?_⟩
  refine ((List.pairwise_map.mp hA).and (List.pairwise_map.mp hB)).imp_of_mem fun {a b} ha hb h x hx y hy => ?_
  simp only [List.mem_cons, List.not_mem_nil, or_false] at hx hy
  rcases hx with rfl | rfl <;> rcases hy with rfl | rfl
  · exact h.1
  · exact hAB a ha b hb
  · exact (hAB b hb a ha).symm
  · exact h.2

theorem conns_map_cell (nl : Nl) : nl.conns.map (fun gc => Ep.cell gc.1.inst gc.2.2.1) = nl.pinEps := by
  rw [Nl.conns, Nl.pinEps, List.map_flatMap]
  apply flatMap_congr
  intro g _
  rw [List.map_map]
  rfl

theorem mem_conns (nl : Nl) (gc : NlGate × (String × Nat × String)) (h : gc ∈ nl.conns) : gc.1 ∈ nl.gates := by
  obtain ⟨g, hg, hm⟩ := List.mem_flatMap.mp h
  obtain ⟨c, _, rfl⟩ := List.mem_map.mp hm
  exact hg

theorem readers_nodup_bf (nl : Nl) (hc : CommonNl nl) (hbn : (nl.gateNames ++ nl.pis ++ nl.branchNames).Nodup) :
    (nl.gateNames.map Ep.fork ++ nl.pis.map Ep.fork ++ nl.conns.flatMap bfEps ++ nl.pos.map (fun n => Ep.cell n 0)).Nodup := by
  rw [List.nodup_append] at hbn
  obtain ⟨_, hbr, hdis⟩ := hbn
  have hmem : ∀ e ∈ nl.conns.flatMap bfEps, ∃ gc ∈ nl.conns,
      e = Ep.fork (branchName gc.2.2.2 gc.1.inst gc.2.1) ∨ e = Ep.cell gc.1.inst gc.2.2.1 := by
    intro e he
    obtain ⟨y, hy, hm⟩ := List.mem_flatMap.mp he
    simp only [bfEps, List.mem_cons, List.not_mem_nil, or_false] at hm
    exact ⟨y, hy, hm⟩
  refine readers_nodup_of nl hc _ ?_ ?_ ?_
  · apply nodup_interleave (fun gc : NlGate × (String × Nat × String) => Ep.fork (branchName gc.2.2.2 gc.1.inst gc.2.1))
      (fun gc => Ep.cell gc.1.inst gc.2.2.1)
    · have := nodup_map_of_inj Ep.fork (fun _ _ _ _ e => Ep.fork.inj e) hbr
      rw [Nl.branchNames, List.map_map] at this
      exact this
    · rw [conns_map_cell]
      exact pinEps_nodup nl.gates hc.inames
    · intro x _ y _ e
      cases e
  · intro n hn h
    obtain ⟨gc, hgc, e | e⟩ := hmem _ h
    · exact hdis n hn _ (List.mem_map_of_mem (f := fun gc : NlGate × (String × Nat × String) => branchName gc.2.2.2 gc.1.inst gc.2.1) hgc)
        (Ep.fork.inj e)
    · cases e
  · intro n hn h
    obtain ⟨gc, hgc, e | e⟩ := hmem _ h
    · cases e
    · exact hc.idisj gc.1 (mem_conns nl gc hgc) ((Ep.cell.inj e).1 ▸ (mem_portNames nl n).mpr (Or.inr hn))

theorem verilogOK_verilogOf_bf (cfg : Cfg) (hbf : cfg.bf = true) (nl : Nl) (hc : CommonNl nl) (hcl : ClosedNl nl)
    (hbn : (nl.gateNames ++ nl.pis ++ nl.branchNames).Nodup) :
    verilogOKB cfg primTL nl.portNames (verilogOf nl) = true :=
  verilogOK_verilogOf_of_readers cfg nl hc hcl (by
    rw [vFlat_readers_bf cfg hbf nl hc.nc]
    exact (fe_nodupE_iff _).mpr (readers_nodup_bf nl hc hbn))

end KV.Netlist
