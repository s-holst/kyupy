import KyupyVerif.Proofs.TechCells
/-! kernel evaluation of the C19 function checker (all listed families except the adders) on the generated library
tables: one bit-parallel run of a row's program per listed family -/
namespace KV.Tech
open KV.TL KV.DS

theorem gates_lanes : ∀ ch ∈ Gen.techChunks, ch.all (funOKL (!·.isAdder)) = true := by decide +kernel

theorem gates_all : ∀ ch ∈ Gen.techChunks, ch.all (funOK (!·.isAdder)) = true := fun ch hch =>
  List.all_eq_true.mpr fun c hc => funOK_of_lanes (List.all_eq_true.mp (gates_lanes ch hch) c hc)

end KV.Tech
