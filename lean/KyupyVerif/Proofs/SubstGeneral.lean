import KyupyVerif.Proofs.SubstVirtualHost
/-! C10, `substitute_sem_general`: what the lockstep relation gives at the end (embedding, well-formedness), the virtual result `SubstV`,
the general certificate `SubstG` and **`substitute_general`**. -/
namespace KV.Transform
open KV

section fin
variable {Own : Nat → Prop} {π ψ : Nat → Nat} {G : Nat → Prop} {A B : NNet}
variable (lk : Lk Own π ψ G G (fun _ => False) A.net B.net)
variable (hnames : ∀ x, x < A.net.nodes.size → A.names.getD x "" = B.names.getD (π x) "")
variable (hio : ∀ i ∈ A.net.io, i < A.net.nodes.size)
include lk hnames hio

theorem Lk.emb : Emb B A ⟨ψ, π⟩ := by
  refine ⟨lk.nodeLt, fun l hl => (lk.lineLt l hl).1, fun j1 j2 _ _ e => lk.πinj j1 j2 e, lk.lineInj, lk.kind, hnames, lk.io, hio, ?_, ?_⟩
  · intro j hj _ k; exact lk.ins j k hj
  · intro l hl
    obtain ⟨d1, d2, d3⟩ := lk.drv l hl (fun x => x)
    refine ⟨d1, d2.symm, ?_⟩
    rcases d3 with d3 | d3
    · exact Or.inl d3.symm
    · exact Or.inr d3.2

theorem Lk.wfm (wB : WFr B) (hpb : ∀ l', l' < B.net.lines.size → ¬ G l' → PtsBack B l')
    (hsz : A.names.size = A.net.nodes.size) : WFm A := by
  have hkey : ∀ x, x < A.net.nodes.size → A.key x = B.key (π x) := by
    intro x hx
    simp only [NNet.key, hnames x hx, isFork_of_kind_eq (lk.kind x hx)]
  refine ⟨hsz, ?_, hio, ?_, ?_, ?_⟩
  · apply nodup_map_range
    intro x y hx hy e
    rw [hkey x hx, hkey y hy] at e
    exact lk.πinj x y (key_inj B wB.nodup _ _ (lk.nodeLt x hx) (lk.nodeLt y hy) e)
  · intro l hl
    obtain ⟨d1, d2, d3⟩ := lk.drv l hl (fun x => x)
    obtain ⟨q1, q2⟩ := lk.lineLt l hl
    obtain ⟨r1, r2, r3⟩ := lk.rdr l hl q2
    obtain ⟨b1, b2, b3⟩ := wB.back (ψ l) q1
    refine ⟨d1, r1, ?_, ?_⟩
    · by_cases ho : Own (A.net.line l).driver
      · have hdp : (A.net.line l).dpin = (B.net.line (ψ l)).dpin := by
          rcases d3 with d3 | d3
          · exact d3
          · exact absurd ho d3.1
        have := lk.outs _ (A.net.line l).dpin d1 ho
        rw [d2, hdp, b3] at this
        obtain ⟨l', hp, el⟩ := Option.map_eq_some_iff.mp this
        rw [hdp, hp, lk.lineInj l' l (lk.outsLt _ _ l' ho hp).1 hl el]
      · exact (lk.host _ d1 ho).back l hl (fun x => x) rfl
    · have hb : (B.net.node (B.net.line (ψ l)).reader).ins.getD (B.net.line (ψ l)).rpin none = some (ψ l) := hpb (ψ l) q1 q2
      have := lk.ins _ (A.net.line l).rpin r1
      rw [r2, r3, hb] at this
      obtain ⟨l', hp, el⟩ := Option.map_eq_some_iff.mp this
      rw [r3, hp, lk.lineInj l' l (lk.insLt _ _ l' hp).1 hl el]
  · intro x hx k l hp
    obtain ⟨hl, _⟩ := lk.insLt x k l hp
    have := lk.ins x k hx
    rw [hp] at this
    simp only [Option.map_some] at this
    obtain ⟨_, a2, a3⟩ := wB.fwdIn (π x) (lk.nodeLt x hx) k (ψ l) this.symm
    obtain ⟨_, r2, r3⟩ := lk.rdr l hl (lk.lineLt l hl).2
    exact ⟨hl, lk.πinj _ _ (r2.trans a2), r3.trans a3⟩
  · intro x hx k l hp
    by_cases ho : Own x
    · obtain ⟨hl, _⟩ := lk.outsLt x k l ho hp
      have := lk.outs x k hx ho
      rw [hp] at this
      simp only [Option.map_some] at this
      obtain ⟨_, a2, a3⟩ := wB.fwdOut (π x) (lk.nodeLt x hx) k (ψ l) this.symm
      obtain ⟨_, d2, d3⟩ := lk.drv l hl (fun x => x)
      have hdx : (A.net.line l).driver = x := lk.πinj _ _ (d2.trans a2)
      refine ⟨hl, hdx, ?_⟩
      rcases d3 with d3 | d3
      · exact d3.trans a3
      · rw [hdx] at d3; exact absurd ho d3.1
    · obtain ⟨q1, q2, q3, _⟩ := (lk.host x hx ho).fwd k l hp
      exact ⟨q1, q2, q3⟩

end fin

/-- `V` is the result of substituting `m` for cell `c` of `h` *in canonical coordinates*: host nodes and lines keep their
    index, the copy of implementation node `j` is `map[j]` (`c` itself or a new index), the copy of the `t`-th copied line is
    `h.lines.size + t`.  Nothing is removed: the lines at ignored pins are still there, stale on the reader side; `Gh` stands
    for those lines (`GhostLine h c m sh` where `SubstV` is produced): no pin of `V` points at one (`pinNotGh`).  `forward` / `backward` are the two semantic directions
    between `V` and host + implementation (`SubstFw` / `SubstBw` without their clause on the pins of the copies). -/
structure SubstV {α : Type _} (z : α) (neg : α → α) (prim : String → α → α → α → α → α) (h : NNet) (c : Nat) (m : NNet)
    (sh : Shape) (map : Array (Option Nat)) (V : NNet) (Gh : Nat → Prop) : Prop where
  wfr : WFr V
  ptsBack : ∀ l, l < V.net.lines.size → ¬ Gh l → PtsBack V l
  pinNotGh : ∀ x k l, x < V.net.nodes.size → (V.net.node x).ins.getD k none = some l → ¬ Gh l
  lsize : V.net.lines.size = h.net.lines.size + (copiedLines m map).length
  io : V.net.io = h.net.io
  frameNode : ∀ d, d < h.net.nodes.size → d ≠ c → V.net.node d = h.net.node d
  nameFrame : ∀ d, d < h.net.nodes.size → V.names.getD d "" = h.names.getD d ""
  drvFrame : ∀ l, l < h.net.lines.size → (h.net.line l).driver ≠ c →
    (V.net.line l).driver = (h.net.line l).driver ∧ (V.net.line l).dpin = (h.net.line l).dpin
  newDrv : ∀ t, t < (copiedLines m map).length →
    (V.net.line (h.net.lines.size + t)).driver = c ∨ h.net.nodes.size ≤ (V.net.line (h.net.lines.size + t)).driver
  outDrv : ∀ l, l < h.net.lines.size → (h.net.line l).driver = c → (V.net.line l).driver = c ∨ h.net.nodes.size ≤ (V.net.line l).driver
  mapM : ∀ j x, map.getD j none = some x → j < m.net.nodes.size
  mapGe : ∀ j x, map.getD j none = some x → x = c ∨ h.net.nodes.size ≤ x
  mapInj : ∀ j1 j2 x, map.getD j1 none = some x → map.getD j2 none = some x → j1 = j2
  kind' : ∀ j x, map.getD j none = some x → (V.net.node x).kind = if j ∈ m.net.io then "__fork__" else (m.net.node j).kind
  forward : ∀ (S : Nat → Prop), (∀ s, S s → s < h.net.nodes.size ∧ s ≠ c) → ∀ an' v' : Nat → α, ConsOff V S z neg prim an' v' →
    ConsOff h (fun d => S d ∨ d = c) z neg prim an' v' ∧
    ∃ anm vm, ImplMatches h c m sh z neg prim anm vm v' ∧
      (∀ j x, j ∉ m.net.io → map.getD j none = some x → anm j = an' x) ∧
      (∀ t (ht : t < (copiedLines m map).length), vm (copiedLines m map)[t] = v' (h.net.lines.size + t))
  backward : ∀ (S : Nat → Prop) (an v anm vm : Nat → α), ConsOff h (fun d => S d ∨ d = c) z neg prim an v →
    ImplMatches h c m sh z neg prim anm vm v →
    ∃ an' v', ConsOff V S z neg prim an' v' ∧ (∀ l, l < h.net.lines.size → v' l = v l) ∧
      (∀ d, d < h.net.nodes.size → d ≠ c → an' d = an d) ∧
      (∀ j x, j ∉ m.net.io → map.getD j none = some x → an' x = anm j) ∧
      (∀ t (ht : t < (copiedLines m map).length), v' (h.net.lines.size + t) = vm (copiedLines m map)[t])

/-- **the general certificate for `substitute`**: `R.node j'` / `R.line l'` = canonical index of node `j'` / line `l'` of the result
    `h'` (a host node or line: its index in `h`; the copy of implementation node `j`: `map[j]`; the copy of the `t`-th
    copied implementation line: `h.lines.size + t`) -/
structure SubstG {α : Type _} (z : α) (neg : α → α) (prim : String → α → α → α → α → α) (h : NNet) (c : Nat) (m : NNet)
    (sh : Shape) (map : Array (Option Nat)) (h' : NNet) (R : Ren) : Prop where
  wf' : WFm h'
  mapM : ∀ j x, map.getD j none = some x → j < m.net.nodes.size ∧ (x = c ∨ h.net.nodes.size ≤ x)
  mapInj : ∀ j1 j2 x, map.getD j1 none = some x → map.getD j2 none = some x → j1 = j2
  nodeInj : ∀ j1 j2, j1 < h'.net.nodes.size → j2 < h'.net.nodes.size → R.node j1 = R.node j2 → j1 = j2
  lineInj : ∀ l1 l2, l1 < h'.net.lines.size → l2 < h'.net.lines.size → R.line l1 = R.line l2 → l1 = l2
  lineLt : ∀ l', l' < h'.net.lines.size → R.line l' < h.net.lines.size + (copiedLines m map).length
  io : h'.net.io.map R.node = h.net.io
  hostNode : ∀ j', j' < h'.net.nodes.size → R.node j' < h.net.nodes.size → R.node j' ≠ c →
    (h'.net.node j').kind = (h.net.node (R.node j')).kind ∧ h'.names.getD j' "" = h.names.getD (R.node j') "" ∧
    ∀ k, ((h'.net.node j').inPin k).map R.line = (h.net.node (R.node j')).inPin k
  copyNode : ∀ j x j', map.getD j none = some x → j' < h'.net.nodes.size → R.node j' = x →
    (h'.net.node j').kind = if j ∈ m.net.io then "__fork__" else (m.net.node j).kind
  hostSurj : ∀ d, d < h.net.nodes.size → d ≠ c → ∃ j', j' < h'.net.nodes.size ∧ R.node j' = d
  seqSurj : ∀ j x, map.getD j none = some x → isSeqKind (if j ∈ m.net.io then "__fork__" else (m.net.node j).kind) = true →
    ∃ j', j' < h'.net.nodes.size ∧ R.node j' = x
  lineSurj : ∀ l, l < h.net.lines.size → (h.net.line l).reader ≠ c → ∃ l', l' < h'.net.lines.size ∧ R.line l' = l
  hostDrv : ∀ l', l' < h'.net.lines.size → R.line l' < h.net.lines.size → (h.net.line (R.line l')).driver ≠ c →
    R.node (h'.net.line l').driver = (h.net.line (R.line l')).driver ∧
    ((h'.net.line l').dpin = (h.net.line (R.line l')).dpin ∨ (h.net.node (h.net.line (R.line l')).driver).isFork = true)
  lineDrvHost : ∀ l', l' < h'.net.lines.size → R.node (h'.net.line l').driver < h.net.nodes.size → R.node (h'.net.line l').driver ≠ c →
    R.line l' < h.net.lines.size ∧ (h.net.line (R.line l')).driver ≠ c
  fw : ∀ (S : Nat → Prop), (∀ s, S s → s < h.net.nodes.size ∧ s ≠ c) → ∀ (pre an' v' : Nat → α),
    ConsOff h' (fun j' => S (R.node j')) z neg prim an' v' →
    ∃ an v anm vm, ConsOff h (fun d => S d ∨ d = c) z neg prim an v ∧ ImplMatches h c m sh z neg prim anm vm v ∧
      (∀ l', l' < h'.net.lines.size → v' l' = glueV h m map v vm (R.line l')) ∧
      (∀ j', j' < h'.net.nodes.size → R.node j' < h.net.nodes.size → R.node j' ≠ c → an' j' = an (R.node j')) ∧
      (∀ j x j', j ∉ m.net.io → map.getD j none = some x → j' < h'.net.nodes.size → R.node j' = x → an' j' = anm j) ∧
      (∀ l, l < h.net.lines.size → (¬ ∃ l', l' < h'.net.lines.size ∧ R.line l' = l) → S (h.net.line l).driver → v l = pre l)
  bw : ∀ (S : Nat → Prop) (an v anm vm : Nat → α), ConsOff h (fun d => S d ∨ d = c) z neg prim an v →
    ImplMatches h c m sh z neg prim anm vm v →
    ∃ an' v', ConsOff h' (fun j' => S (R.node j')) z neg prim an' v' ∧
      (∀ l', l' < h'.net.lines.size → v' l' = glueV h m map v vm (R.line l')) ∧
      (∀ j', j' < h'.net.nodes.size → R.node j' < h.net.nodes.size → R.node j' ≠ c → an' j' = an (R.node j')) ∧
      (∀ j x j', j ∉ m.net.io → map.getD j none = some x → j' < h'.net.nodes.size → R.node j' = x → an' j' = anm j)

theorem substG_of {α : Type _} {z : α} {neg : α → α} {prim : String → α → α → α → α → α} {h : NNet} {c : Nat} {m : NNet}
    {sh : Shape} {map : Array (Option Nat)} {V : NNet} {Gh : Nat → Prop} {h' : NNet} {R : Ren}
    (sv : SubstV z neg prim h c m sh map V Gh) (hw : WFm h) (e : Emb V h' R) (w' : WFm h') (x : ExtP z neg prim V h' R)
    (hN : ∀ d, d < h.net.nodes.size → d ≠ c → ∃ j', j' < h'.net.nodes.size ∧ R.node j' = d)
    (hQ : ∀ j x, map.getD j none = some x → isSeqKind (V.net.node x).kind = true → ∃ j', j' < h'.net.nodes.size ∧ R.node j' = x) :
    SubstG z neg prim h c m sh map h' R := by
  have hglue : ∀ (vV v vm : Nat → α), (∀ l, l < h.net.lines.size → vV l = v l) →
      (∀ t (ht : t < (copiedLines m map).length), vm (copiedLines m map)[t] = vV (h.net.lines.size + t)) →
      ∀ l, l < V.net.lines.size → vV l = glueV h m map v vm l := by
    intro vV v vm hv hvm l hl
    rw [sv.lsize] at hl
    simp only [glueV]
    split
    · rename_i h1; exact hv l h1
    · rename_i hge
      have ht : l - h.net.lines.size < (copiedLines m map).length := by omega
      rw [List.getD_eq_getElem?_getD, List.getElem?_eq_getElem ht, Option.getD_some, hvm _ ht]
      congr 1; omega
  refine ⟨w', fun j x hx => ⟨sv.mapM j x hx, sv.mapGe j x hx⟩, sv.mapInj, e.nodeInj, e.lineInj,
    fun l' hl' => by rw [← sv.lsize]; exact e.lineLt l' hl', by rw [e.io, sv.io], ?_, ?_, hN, ?_, ?_, ?_, ?_, ?_, ?_⟩
  · intro j' hj' h1 h2
    refine ⟨by rw [e.kind j' hj', sv.frameNode _ h1 h2], by rw [e.name j' hj', sv.nameFrame _ h1], fun k => ?_⟩
    rw [e.pins j' hj' (fun x => x) k, sv.frameNode _ h1 h2]
  · intro j x j' hm hj' ej
    rw [e.kind j' hj', ej]; exact sv.kind' j x hm
  · intro j x hm hs
    exact hQ j x hm (by rw [sv.kind' j x hm]; exact hs)
  · intro l hl hne
    -- the line is at a pin of a surviving host node
    obtain ⟨_, b2, _, b4⟩ := hw.back l hl
    obtain ⟨j', hj', ej⟩ := hN _ b2 hne
    have hp := e.pins j' hj' (fun x => x) (h.net.line l).rpin
    rw [ej, sv.frameNode _ b2 hne] at hp
    obtain ⟨l', hq, el⟩ := Option.map_eq_some_iff.mp (hp.trans b4)
    exact ⟨l', (w'.fwdIn j' hj' _ l' hq).1, el⟩
  · intro l' hl' hlt hne
    obtain ⟨_, d2, d3⟩ := e.drv l' hl'
    obtain ⟨f1, f2⟩ := sv.drvFrame _ hlt hne
    rw [f1] at d2
    refine ⟨d2.symm, ?_⟩
    rcases d3 with d3 | d3
    · left; rw [← d3, f2]
    · right
      have hk := e.kind _ (e.drv l' hl').1
      rw [← d2] at hk
      have hb := (hw.back _ hlt).1
      rw [sv.frameNode _ hb hne] at hk
      rw [← isFork_of_kind_eq hk]; exact d3
  · intro l' hl' h1 h2
    obtain ⟨_, d2, _⟩ := e.drv l' hl'
    have hlt := e.lineLt l' hl'
    rw [sv.lsize] at hlt
    have hnown : ¬ ((V.net.line (R.line l')).driver = c ∨ h.net.nodes.size ≤ (V.net.line (R.line l')).driver) := by
      rw [d2]; rintro (hc' | hc')
      · exact h2 hc'
      · omega
    have hL : R.line l' < h.net.lines.size := by
      apply Classical.byContradiction; intro hge
      have := sv.newDrv (R.line l' - h.net.lines.size) (by omega)
      rw [show h.net.lines.size + (R.line l' - h.net.lines.size) = R.line l' by omega] at this
      exact hnown this
    exact ⟨hL, fun hd => hnown (sv.outDrv _ hL hd)⟩
  · intro S hS pre an' v' hc'
    obtain ⟨anV, vV, cV, a1, a2, a3⟩ := x S pre an' v' hc'
    obtain ⟨f1, anm, vm, f2, f3, f4⟩ := sv.forward S hS anV vV cV
    refine ⟨anV, vV, anm, vm, f1, f2, ?_, ?_, ?_, ?_⟩
    · intro l' hl'
      rw [← a1 l' hl']
      exact hglue vV vV vm (fun _ _ => rfl) f4 _ (e.lineLt l' hl')
    · intro j' hj' _ _
      exact (a2 j' hj').symm
    · intro j x j' hj hm hj' ej
      rw [f3 j x hj hm, ← ej, a2 j' hj']
    · intro l hl hn hs
      apply a3 l (by rw [sv.lsize]; omega) hn
      have hne : (h.net.line l).driver ≠ c := fun e0 => (hS _ hs).2 e0
      rw [(sv.drvFrame l hl hne).1]; exact hs
  · intro S an v anm vm hH hM
    obtain ⟨anV, vV, cV, b1, b2, b3, b4⟩ := sv.backward S an v anm vm hH hM
    refine ⟨fun j => anV (R.node j), fun l => vV (R.line l), e.restrict S z neg prim anV vV cV, ?_, ?_, ?_⟩
    · intro l' hl'
      exact hglue vV v vm b1 (fun t ht => (b4 t ht).symm) _ (e.lineLt l' hl')
    · intro j' _ h1 h2
      exact b2 _ h1 h2
    · intro j x j' hj hm _ ej
      show anV (R.node j') = anm j
      rw [ej]; exact b3 j x hj hm



theorem substV_of_cert {α : Type _} (z : α) (neg : α → α) (prim : String → α → α → α → α → α) (h : NNet) (c : Nat) (m : NNet)
    (sh : Shape) (dn : Nat) (map : Array (Option Nat)) (V : NNet) (w : WFm h) (mw : WF m) (hc : c < h.net.nodes.size)
    (hil : (h.net.node c).ins.length ≤ sh.inPorts.length) (hs : implShape m = some sh)
    (ct : SubstCert (hostClr h c m sh) c m sh dn map V) : SubstV z neg prim h c m sh map V (GhostLine h c m sh) := by
  obtain ⟨s1, s2, s3, s4⟩ := hostClr_sizes h c m sh
  have hgl : ∀ l, GhostLine h c m sh l → l < h.net.lines.size := by
    rintro l ⟨k, inn, h1, _, _⟩
    exact (w.fwdIn c hc k l h1).1
  refine
    { wfr := ct.wf', ptsBack := ?_, pinNotGh := ?_, lsize := by rw [ct.lsize, s2],
      io := ct.io'.trans s3, frameNode := ?_, nameFrame := ?_,
      drvFrame := fun l hl hne => ct.drvFrame l (by rw [s2]; exact hl) hne, newDrv := ?_, outDrv := ?_,
      mapM := ct.mapM, mapGe := fun j x hx => by rw [← s1]; exact ct.mapGe j x hx, mapInj := ct.mapInj,
      kind' := ct.kind', forward := ?_, backward := ?_ }
  · intro l hl hng
    apply ct.backR l hl
    by_cases hlt : l < h.net.lines.size
    · exact Or.inr (hostClr_ptsBack h c m sh w hc hil l hlt hng)
    · left; rw [s2]; omega
  · intro x k l hx hp hg
    have hlt := hgl l hg
    by_cases hown : x = c ∨ (hostClr h c m sh).net.nodes.size ≤ x
    · obtain ⟨k0, hk0⟩ := ct.ownIns x k l hown hp (by rw [s2]; exact hlt)
      exact hostClr_pin_notGhost h c m sh w hc hil c k0 l hc hk0 hg
    · have h1 : x < h.net.nodes.size := by
        rw [s1] at hown
        apply Classical.byContradiction; intro hn
        exact hown (Or.inr (by omega))
      have h2 : x ≠ c := fun e => hown (Or.inl e)
      rw [ct.frameNode x (by rw [s1]; exact h1) h2] at hp
      exact hostClr_pin_notGhost h c m sh w hc hil x k l h1 hp hg
  · intro d hd hne
    rw [ct.frameNode d (by rw [s1]; exact hd) hne, hostClr_node_ne h c m sh d hne]
  · intro d hd
    have := ct.keyFrame d (by rw [s1]; exact hd)
    simp only [NNet.key, Prod.mk.injEq] at this
    rw [this.1, s4]
  · intro t ht
    obtain ⟨_, xd, xr, h1, _, hline⟩ := ct.new_fields t ht
    rw [s2] at hline
    rw [hline]
    have := ct.mapGe _ xd h1
    rw [s1] at this; exact this
  · intro l hl hd
    have hout : instOut (hostClr h c m sh) c (h.net.line l).dpin = some l := by
      have := (ct.hwf.back l (by rw [s2]; exact hl)).2.2
      rw [hostClr_line, hd] at this; exact this
    obtain ⟨il, d, dp, _, htg, e1, _⟩ := ct.outWire _ l hout
    obtain ⟨k', hk'⟩ := outTarget_map htg
    rw [e1]
    have := ct.mapGe k' d hk'
    rw [s1] at this; exact this
  · intro S hS an' v' hc'
    obtain ⟨f1, anm, vm, f2, f3, f4, _⟩ := ct.forward z neg prim S (fun s hs' => by rw [s1]; exact hS s hs') an' v' hc'
    refine ⟨(consOff_hostClr h c m sh S z neg prim an' v').mp f1, _, vm,
      implMatches_of_hostClr h c m sh hc hil hs mw z neg prim anm vm v' f2, ?_, fun t ht => by rw [f4 t ht, s2]⟩
    intro j x hj hm
    simp only [hj, if_false]
    exact f3 j x hj hm
  · intro S an v anm vm hH hM
    obtain ⟨an', v', b0, b1, b2, b3, b4, _⟩ := ct.backward z neg prim S an v _ vm
      ((consOff_hostClr h c m sh S z neg prim an v).mpr hH) (implMatches_to_hostClr h c m sh hc hil hs mw z neg prim anm vm v hM)
    refine ⟨an', v', b0, fun l hl => b1 l (by rw [s2]; exact hl), fun d hd hne => b2 d (by rw [s1]; exact hd) hne, ?_,
      fun t ht => by rw [← b4 t ht, s2]⟩
    intro j x hj hm
    rw [b3 j x hj hm]
    simp [hj]

theorem noIgnored_clr (m : NNet) (pins : List (Nat × Option Nat)) : NoIgnored m (pins.map (clrIgn m)) := by
  intro p hp hsome
  obtain ⟨q, _, e⟩ := List.mem_map.mp hp
  subst e
  simp only [clrIgn] at hsome ⊢
  cases hi : ignoredPort m q.1 with
  | true => rw [hi] at hsome; simp at hsome
  | false => exact hi



theorem lockstep_substV {α : Type _} (z : α) (neg : α → α) (prim : String → α → α → α → α → α) (h m : NNet) (c : Nat)
    (w : WFm h) (mw : WF m) (hc : c < h.net.nodes.size) (hio : c ∉ h.net.io) (hcf : (h.net.node c).isFork = false)
    (sh : Shape) (hs : implShape m = some sh)
    (k2 : m.net.io.Nodup) (k3 : ∀ p ∈ m.net.io, isSeqKind (m.net.node p).kind = false)
    (k4 : ∀ p ∈ m.net.io, 0 < (m.net.node p).ins.length → 0 < (m.net.node p).outs.length → (m.net.node p).isFork = true)
    (hself : ∀ ll, GhostLine h c m sh ll → (h.net.line ll).driver ≠ c)
    (h5 : NNet) (map : Array (Option Nat)) (dang : List (Option Nat)) (he : substituteCore h c m = some (h5, map, dang)) :
    ∃ (Own : Nat → Prop) (π ψ : Nat → Nat) (V : NNet) (mapB : Array (Option Nat)),
      SubstV z neg prim h c m sh mapB V (GhostLine h c m sh) ∧
      Lk Own π ψ (GhostLine h c m sh) (GhostLine h c m sh) (fun _ => False) h5.net V.net ∧
      Emb V h5 ⟨ψ, π⟩ ∧ WFm h5 ∧
      (∀ j, mapB.getD j none = (map.getD j none).map π) ∧
      (∀ j x, map.getD j none = some x → x < h5.net.nodes.size) ∧
      (∀ d, d < h.net.nodes.size → d ≠ c → ∃ x, π x = d ∧ x < h5.net.nodes.size ∧ x ∉ map.toList.filterMap id) := by
  obtain ⟨D, Own, π, ψ, h2v, mapB, b4, b5, dangB, L⟩ := lockstep h c m sh w mw hc hio hs k3 hself h5 map dang he
  have hil := L.insLen
  obtain ⟨s1, s2, s3, s4⟩ := hostClr_sizes h c m sh
  have hcl : (hostClr h c m sh).net.node c = { h.net.node c with ins := clrIns m sh (h.net.node c).ins } := by
    rw [hostClr_node]; simp [hc]
  have hni : NoIgnored m (sh.inPorts.zip (padTo ((hostClr h c m sh).net.node c).ins sh.inPorts.length)) := by
    rw [hcl]
    show NoIgnored m (sh.inPorts.zip (padTo (clrIns m sh (h.net.node c).ins) sh.inPorts.length))
    rw [zip_clrIns m sh _ hil]
    exact noIgnored_clr m _
  -- the virtual run is `substituteCore` on the virtual host
  obtain ⟨ct, _⟩ := substituteCore_certP (hostClr h c m sh) c m sh D (hostClr_wfr h c m sh w hc hil) mw
    (by rw [s1]; exact hc) (by rw [s3]; exact hio) (by rw [isFork_of_kind_eq (hostClr_kind h c m sh c)]; exact hcf) hs
    L.des L.desFork L.desIo k2 k3 k4 hni { h2v with net := b5 } mapB dangB h2v b4 b5 id
    (by rw [hcl]; exact Nat.le_of_eq (clrIns_length m sh _ hil)) (by rw [hcl]; exact L.outsLen)
    (by rw [phase1_hostClr]; exact L.nodes)
    (by
      rw [hcl]
      show connectIns m mapB (sh.inPorts.zip (padTo (clrIns m sh (h.net.node c).ins) sh.inPorts.length)) _ = _
      rw [zip_clrIns m sh _ hil]; exact L.ins)
    (by
      rw [hcl]
      show connectOuts m mapB (sh.outLines.zip ((padTo (h.net.node c).outs sh.outLines.length).map id)) _ = _
      rw [List.map_id]; exact L.outs)
    rfl
  have sv := substV_of_cert z neg prim h c m sh D mapB { h2v with net := b5 } w mw hc hil hs ct
  have hnames : ∀ x, x < h5.net.nodes.size → h5.names.getD x "" = ({ h2v with net := b5 } : NNet).names.getD (π x) "" := L.names
  exact ⟨Own, π, ψ, { h2v with net := b5 }, mapB, sv, L.lk, L.lk.emb hnames L.io, L.lk.wfm hnames L.io ct.wf' sv.ptsBack L.nsz, L.mapπ,
    L.mapLt, L.surv⟩



theorem noSelfIgnB_spec (h : NNet) (c : Nat) (m : NNet) (sh : Shape) (hs : implShape m = some sh) (hns : noSelfIgnB h c m = true) :
    ∀ ll, GhostLine h c m sh ll → (h.net.line ll).driver ≠ c := by
  rintro ll ⟨k, inn, h1, h2, h3⟩
  unfold noSelfIgnB at hns
  rw [hs] at hns
  have hmem : (inn, some ll) ∈ sh.inPorts.zip (padTo (h.net.node c).ins sh.inPorts.length) :=
    mem_zip_padTo.mpr ⟨k, h2, h1⟩
  have := List.all_eq_true.mp hns _ hmem
  simp only [h3, Bool.not_true, Bool.false_or, bne_iff_ne, ne_eq] at this
  exact this

/-- **the general certificate for `substitute`**: every well-formed (up to trailing `None`s) host, every well-formed
    implementation satisfying `implGenOKB` — with or without designated cell, connected input pins may be ignored,
    outputs may be unconnected, dangling logic is removed.  `map` is `node_map` in the canonical coordinates of `SubstG`
    (`(map₀[j]).map π` for the array `map₀` that `substituteCore` returns and the index map `π` of the lockstep relation),
    not the array `map₀` itself. -/
theorem substitute_general {α : Type _} (z : α) (neg : α → α) (prim : String → α → α → α → α → α) (h m h' : NNet) (c : Nat)
    (w : WFm h) (mw : WF m) (hc : c < h.net.nodes.size) (hio : c ∉ h.net.io) (hcf : (h.net.node c).isFork = false)
    (hok : implGenOKB m = true) (hns : noSelfIgnB h c m = true) (he : substitute h c m = some h') :
    ∃ sh map R, implShape m = some sh ∧ SubstG z neg prim h c m sh map h' R := by
  obtain ⟨sh, hs, k2, k3, k4⟩ := implGenOKB_spec m hok
  have hself := noSelfIgnB_spec h c m sh hs hns
  cases hcore : substituteCore h c m with
  | none => simp [substitute, hcore] at he
  | some p =>
    obtain ⟨h5, map, dang⟩ := p
    obtain ⟨Own, π, ψ, V, mapB, sv, lk, emb0, wfm5, hmap, hmapLt, hsurv⟩ :=
      lockstep_substV z neg prim h m c w mw hc hio hcf sh hs k2 k3 k4 hself h5 map dang hcore
    -- the circuit `substituteCore` builds embeds into the virtual result
    have x0 : ExtP z neg prim V h5 ⟨ψ, π⟩ := by
      apply ext_of_embP z neg prim V h5 _ wfm5 emb0
      intro l hl _ k l0 hp
      exact lk.lineSurj l0 (sv.wfr.fwdIn _ (sv.wfr.back l hl).1 k l0 hp).1 (sv.pinNotGh _ k l0 (sv.wfr.back l hl).1 hp)
    obtain ⟨w', r, e5, t, sq, x5⟩ := substitute_tail z neg prim hcore he wfm5 hmapLt
    refine ⟨sh, mapB, _, hs, substG_of sv w
      ((emb0.trans e5).weaken (X' := fun _ => False) (fun j _ hx => by rcases hx with hx | hx <;> exact hx)) w'
      (ExtP.trans emb0 e5 x0 x5) ?_ ?_⟩
    · intro d hd' hne
      obtain ⟨x, hx, hx5, hno⟩ := hsurv d hd' hne
      obtain ⟨j', hj', ej⟩ := t x hx5 hno
      exact ⟨j', hj', by show π (r.node j') = d; rw [ej]; exact hx⟩
    · intro j0 y hm hsq
      rw [hmap j0] at hm
      obtain ⟨x, hx, hm⟩ := Option.map_eq_some_iff.mp hm
      obtain ⟨j', hj', ej⟩ := sq x (hmapLt j0 x hx) (by rw [lk.kind x (hmapLt j0 x hx), hm]; exact hsq)
      exact ⟨j', hj', by show π (r.node j') = y; rw [ej]; exact hm⟩


end KV.Transform
