import KyupyVerif.Props.C04
/-! Sensitised paths over C04 (nothing about SDF in here; beside Props/C04.lean because `sta_path` needs `staSem` / `sta_window_mem`
of that file): window algebra; the static-timing recursion `execG (staSem cfg) (waveProg p) win` of C04 satisfies the window
equation of every row (the program of every circuit is well ordered), hence along a SENSITISED PATH — a sequence of rows in
which each reads the output of the one before and whose other operands carry no transition — the window is the window of the
path's first signal moved by the sums of the smallest / largest delay entries of the lines on the path (`sta_path`); on memory, for
every accepted map record and delay table ≥ 0: `C04.path_window_mem`, `C04.chain_arrival_mem`. -/
namespace KV.SdfWave
open KV KV.Sig KV.Wave KV.C04 KV.MapSound

def lineDmin (delay : Nat → Bool → Bool → Int) (l : Nat) : Int :=
  Min.min (Min.min (delay l false false) (delay l false true)) (Min.min (delay l true false) (delay l true true))
def lineDmax (delay : Nat → Bool → Bool → Int) (l : Nat) : Int :=
  Max.max (Max.max (delay l false false) (delay l false true)) (Max.max (delay l true false) (delay l true true))

/-- **the delays WaveSim uses**: for operand slot `i` of op row `o` the evaluator reads the delay entries of the LINE
`o.ins[i]` (the row's own operand index — the fan-out branch when forks are stripped — not the stem whose waveform it reads) -/
theorem opDelays_wvOp (cfg : WCfg) (p : MapIn) (o : OpRow) (i : Nat) (hi : i < 4) :
    opDelays cfg (wvOp p o) i = cfg.delay (o.ins.getD i 0) := by
  have : i = 0 ∨ i = 1 ∨ i = 2 ∨ i = 3 := by omega
  rcases this with rfl | rfl | rfl | rfl <;> rfl

theorem staSem_wvOp (cfg : WCfg) (p : MapIn) (o : OpRow) (W : Nat → Win) :
    staSem cfg (wvOp p o) ((wvOp p o).ins.map W) =
      Win.hull (Win.hull ((W (p.src o.i0)).shift (lineDmin cfg.delay o.i0) (lineDmax cfg.delay o.i0))
                         ((W (p.src o.i1)).shift (lineDmin cfg.delay o.i1) (lineDmax cfg.delay o.i1)))
               (Win.hull ((W (p.src o.i2)).shift (lineDmin cfg.delay o.i2) (lineDmax cfg.delay o.i2))
                         ((W (p.src o.i3)).shift (lineDmin cfg.delay o.i3) (lineDmax cfg.delay o.i3))) :=
  rfl

/-- **window equations.** For the waveform program of a map record with the program facts `ProgOK` (every `SimOps` model:
`simops_progOK`) the static-timing recursion satisfies the window equation of EVERY row that writes a signal -/
theorem sta_equations (cfg : WCfg) (p : MapIn) (hp : ProgOK p) (win : Nat → Win) :
    ∀ o ∈ p.ops, o.out ≠ p.ix.tmp →
      execG (staSem cfg) (waveProg p) win o.out =
        staSem cfg (wvOp p o) ((wvOp p o).ins.map (execG (staSem cfg) (waveProg p) win)) := by
  have hw := sigOps_WOJ p hp
  have hJ : ∀ x, Jt p.net x = false ↔ x ≠ p.ix.tmp := by
    intro x; simp [Jt, MapIn.ix]
  intro o ho hne
  -- an eight-index row lists four value sources, then the four lines whose delays apply: `staSem` reads the first four only
  have key := execG_solves_read (Jt p.net) (staSem cfg) (fun op => op.ins.take 4) ?_ (waveProg p) ?_ ?_ win
    (wvOp p o) (List.mem_map_of_mem ho) ((hJ _).mpr hne)
  · exact key
  ·
    intro op e e' hee
    unfold staSem
    have hg : ∀ k, k < 4 → (op.ins.map e).getD k none = (op.ins.map e').getD k none := by
      intro k hk
      rw [List.getD_eq_getElem?_getD, List.getD_eq_getElem?_getD, List.getElem?_map, List.getElem?_map]
      cases hx : op.ins[k]? with
      | none => rfl
      | some x =>
        have : x ∈ op.ins.take 4 := by
          rw [List.mem_take_iff_getElem]
          have hlt := (List.getElem?_eq_some_iff.mp hx).1
          exact ⟨k, by omega, (List.getElem?_eq_some_iff.mp hx).2⟩
        simp [hee x this]
    rw [hg 0 (by omega), hg 1 (by omega), hg 2 (by omega), hg 3 (by omega)]
  · unfold waveProg
    rw [List.pairwise_map]
    have h1 := hw.1
    rw [List.pairwise_map] at h1
    exact h1.imp (fun {a b} hab => ⟨hab.1, fun x hx => hab.2 x hx⟩)
  · intro op hop x hx
    obtain ⟨r, hr, rfl⟩ := List.mem_map.mp hop
    exact (hw.2 (sigOp p r) (List.mem_map_of_mem hr) x hx).2

theorem shift_shift (w : Win) (a b c d : Int) : (w.shift a b).shift c d = w.shift (a + c) (b + d) := by
  cases w with
  | none => rfl
  | some q => obtain ⟨l, h⟩ := q; simp [Win.shift, Int.add_assoc]

theorem hull_none_left (w : Win) : Win.hull none w = w := by cases w <;> rfl
theorem hull_none_right (w : Win) : Win.hull w none = w := by cases w <;> rfl
theorem shift_none (a b : Int) : Win.shift none a b = none := rfl

/-- a sensitised path starting at signal `x`: each hop `(o, i)` is a row `o` of the program that writes a signal and reads the
path's current signal in operand slot `i` (through the stem when forks are stripped) while its other three value sources
have the empty window (constant side inputs, unused operand slots = the zero signal); the path continues at `o.out` -/
def PathOK (p : MapIn) (W : Nat → Win) : Nat → List (OpRow × Nat) → Prop
  | _, [] => True
  | x, (o, i) :: rest => o ∈ p.ops ∧ o.out ≠ p.ix.tmp ∧ i < 4 ∧ p.src (o.ins.getD i 0) = x ∧
      (∀ j, j < 4 → j ≠ i → W (p.src (o.ins.getD j 0)) = none) ∧ PathOK p W o.out rest

def pathEnd : Nat → List (OpRow × Nat) → Nat
  | x, [] => x
  | _, (o, _) :: rest => pathEnd o.out rest

def pathLines (path : List (OpRow × Nat)) : List Nat := path.map fun h => h.1.ins.getD h.2 0

theorem sta_hop (cfg : WCfg) (p : MapIn) (o : OpRow) (i : Nat) (W : Nat → Win) (hi : i < 4)
    (hside : ∀ j, j < 4 → j ≠ i → W (p.src (o.ins.getD j 0)) = none) :
    staSem cfg (wvOp p o) ((wvOp p o).ins.map W) =
      (W (p.src (o.ins.getD i 0))).shift (lineDmin cfg.delay (o.ins.getD i 0)) (lineDmax cfg.delay (o.ins.getD i 0)) := by
  rw [staSem_wvOp]
  have : i = 0 ∨ i = 1 ∨ i = 2 ∨ i = 3 := by omega
  have h0 := hside 0
  have h1 := hside 1
  have h2 := hside 2
  have h3 := hside 3
  simp only [OpRow.ins, List.getD_cons_zero, List.getD_cons_succ] at h0 h1 h2 h3
  rcases this with rfl | rfl | rfl | rfl <;>
    simp [OpRow.ins, h0, h1, h2, h3, shift_none, hull_none_left, hull_none_right]

/-- **path theorem**: along a sensitised path the static-timing window of the end signal is the window of the start signal
moved by the sum of the smallest entries (lower end) and the sum of the largest entries (upper end) of the lines on the path -/
theorem sta_path (cfg : WCfg) (p : MapIn) (W : Nat → Win)
    (hEq : ∀ o ∈ p.ops, o.out ≠ p.ix.tmp → W o.out = staSem cfg (wvOp p o) ((wvOp p o).ins.map W))
    (x : Nat) (path : List (OpRow × Nat)) (hpath : PathOK p W x path) :
    W (pathEnd x path) = (W x).shift (((pathLines path).map (lineDmin cfg.delay)).sum)
                                     (((pathLines path).map (lineDmax cfg.delay)).sum) := by
  induction path generalizing x with
  | nil =>
    cases hW : W x with
    | none => simp [pathEnd, pathLines, hW, Win.shift]
    | some q => simp [pathEnd, pathLines, hW, Win.shift]
  | cons h rest ih =>
    obtain ⟨o, i⟩ := h
    obtain ⟨hmem, hnj, hi, hx, hside, hrest⟩ := hpath
    have hout : W o.out = (W x).shift (lineDmin cfg.delay (o.ins.getD i 0)) (lineDmax cfg.delay (o.ins.getD i 0)) := by
      rw [hEq o hmem hnj, sta_hop cfg p o i W hi hside, hx]
    show W (pathEnd o.out rest) = _
    rw [ih o.out hrest, hout, shift_shift]
    simp [pathLines]

def pathOKB (p : MapIn) (W : Nat → Win) : Nat → List (OpRow × Nat) → Bool
  | _, [] => true
  | x, (o, i) :: rest => decide (o ∈ p.ops) && decide (o.out ≠ p.ix.tmp) && decide (i < 4) &&
      decide (p.src (o.ins.getD i 0) = x) &&
      ((List.range 4).all fun j => j == i || decide (W (p.src (o.ins.getD j 0)) = none)) && pathOKB p W o.out rest

theorem pathOKB_sound (p : MapIn) (W : Nat → Win) : ∀ x path, pathOKB p W x path = true → PathOK p W x path
  | _, [], _ => trivial
  | x, (o, i) :: rest, h => by
    simp only [pathOKB, Bool.and_eq_true, decide_eq_true_eq, List.all_eq_true, List.mem_range, Bool.or_eq_true,
      beq_iff_eq] at h
    obtain ⟨⟨⟨⟨⟨h1, h2⟩, h3⟩, h4⟩, h5⟩, h6⟩ := h
    exact ⟨h1, h2, h3, h4, fun j hj hji => (h5 j hj).resolve_left hji, pathOKB_sound p W o.out rest h6⟩

end KV.SdfWave

namespace KV.C04
open KV KV.Sig KV.Wave KV.MapSound KV.SdfWave

/-- `sta_window_mem` along a sensitised path: every transition found in the region of the output slot that captures the end
of the path lies in the window of the path's first signal moved by the sums of the smallest / largest entries of the path lines -/
theorem path_window_mem (p : MapIn) (hc : p.check = none) (hprog : ProgOK p) (h4 : 4 ≤ p.capsMin)
    (delay : Nat → Bool → Bool → Int) (hd : ∀ l a b, 0 ≤ delay l a b) (m0 m1 : Int → T) (env0 : Nat → Wv)
    (hst : Stimulus p m0 env0) (hpr : Propagated p delay m0 m1) (win : Nat → Win) (hw : ∀ l, WRel (env0 l) (win l))
    (x : Nat) (path : List (OpRow × Nat)) (hpath : PathOK p (execG (staSem (wcfg p delay)) (waveProg p) win) x path)
    (j : Nat) (hj : (j, pathEnd x path) ∈ p.ppoSrcs) :
    Within (rdWave (p.loc j) (p.cap j) m1)
      ((execG (staSem (wcfg p delay)) (waveProg p) win x).shift
        ((pathLines path).map (lineDmin delay)).sum ((pathLines path).map (lineDmax delay)).sum) := by
  have key := (sta_window_mem p hc h4 delay hd m0 m1 env0 win hst hpr hw j _ hj T.tmax).1
  rwa [sta_path (wcfg p delay) p _ (sta_equations (wcfg p delay) p hprog win) x path hpath] at key

/-- exact arrival time: the path starts at a signal no row writes whose transitions all happen at `t`, and the path lines have
polarity-independent delays — every transition in the region of the output slot happens at `t + Σ delay` -/
theorem chain_arrival_mem (p : MapIn) (hc : p.check = none) (hprog : ProgOK p) (h4 : 4 ≤ p.capsMin)
    (delay : Nat → Bool → Bool → Int) (hd : ∀ l a b, 0 ≤ delay l a b) (m0 m1 : Int → T) (env0 : Nat → Wv)
    (hst : Stimulus p m0 env0) (hpr : Propagated p delay m0 m1) (win : Nat → Win) (hw : ∀ l, WRel (env0 l) (win l))
    (x : Nat) (path : List (OpRow × Nat)) (hpath : PathOK p (execG (staSem (wcfg p delay)) (waveProg p) win) x path)
    (j : Nat) (hj : (j, pathEnd x path) ∈ p.ppoSrcs)
    (hx : ∀ o ∈ p.ops, o.out ≠ x) (t : Int) (hwx : win x = some (t, t))
    (hpol : ∀ l ∈ pathLines path, ∀ a b, delay l a b = delay l false false) :
    ∀ u, T.fin u ∈ (rdWave (p.loc j) (p.cap j) m1).ents → u = t + ((pathLines path).map fun l => delay l false false).sum := by
  intro u hu
  have key := path_window_mem p hc hprog h4 delay hd m0 m1 env0 hst hpr win hw x path hpath j hj
  have hWx : execG (staSem (wcfg p delay)) (waveProg p) win x = some (t, t) := by
    rw [execG_frame _ _ _ x (fun q hq => by
      obtain ⟨r, hr', rfl⟩ := List.mem_map.mp hq
      exact hx r hr'), hwx]
  have hflat : ∀ l ∈ pathLines path, lineDmin delay l = delay l false false ∧ lineDmax delay l = delay l false false := by
    intro l hl
    have h := hpol l hl
    unfold lineDmin lineDmax
    rw [h false true, h true false, h true true]
    exact ⟨by omega, by omega⟩
  rw [hWx, List.map_congr_left fun l hl => (hflat l hl).1, List.map_congr_left fun l hl => (hflat l hl).2] at key
  obtain ⟨lo, hi, hwin, h1, h2⟩ := key u hu
  simp only [Win.shift, Option.map_some, Option.some.injEq, Prod.mk.injEq] at hwin
  omega

end KV.C04
