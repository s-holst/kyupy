import KyupyVerif.Proofs.Activity
import KyupyVerif.Proofs.WaveMemSound
/-! Bridge between the two memory-level models of a `WaveSim` propagation:

* `WaveIO` (Model/WaveIO.lean): the two code paths as the code has them — `cpuCProp` / `gpuCProp` over lanes, evaluator `evWave`
  reading `rdCells`/`readWave` and writing `wrWave` (entries + terminator, everything else untouched); tied to the real arrays
  (C06 `path-tie`: `s_to_c`, `s_ppo_to_ppi`, capture cell by cell; `path-tie-cprop`, driver `wio-cprop`: after a whole `c_prop` the
  waveform every region reads as and every accumulator);
* `Wave` / `MapSound` (Proofs/WaveMem.lean, WaveMemSound.lean): regions `rdWave`/`wrWave junk`, the evaluator contract `WaveStep`,
  runs `WaveRun`, the deterministic run `memRun`; the theorems C03–C05, C13 (`wave_memory_sound`, …) are about these.

Both read the same waveform from a region and store the same cells when the waveform leaves room for its terminator
(`readWave_rdCells_eq`, `wrWave_eq`), so the evaluator instance is `evWave_eq` (all three in Proofs/WaveIOOrder.lean).
Here: the row semantics agree (`wvOp_congr`), hence an evaluator call is `memStep` (`evWave_rows`) and a lane of the `WaveIO`
propagation with the waveform evaluator IS the deterministic run `memRun … keepJunk` of the rows in schedule order
(`laneMem_eq_memRun`, capacities ≥ 2). -/
namespace KV.WaveIO
open KV KV.Sig KV.Wave KV.MapSound

theorem wvOp_congr (p : MapIn) (cfg : WCfg) (o : OpRow) (xs : List Wv) :
    waveSem cfg (wvOp p o) xs = waveSem cfg ⟨o.lut, o.out, o.ins⟩ xs ∧
    waveCounts cfg (wvOp p o) xs = waveCounts cfg ⟨o.lut, o.out, o.ins⟩ xs :=
  waveRow_congr cfg o.lut o.out (fun i _ _ => by match i with | 0 | 1 | 2 | 3 => rfl) fun _ => rfl

theorem evWave_rows (p : MapIn) (delay : Nat → Bool → Bool → Int) (o : OpRow) (sim : Nat) (c : Col) (hcap : 2 ≤ p.cap o.out) :
    evWave (fun _ => wcfg p delay) p.loc o sim c =
      (memStep p (waveRW keepJunk) (waveRow (wcfg p delay) p) c o,
        waveCounts (wcfg p delay) (wvOp p o) (o.ins.map fun i => rdS p (waveRW keepJunk) i c)) := by
  rw [evWave_eq (wcfg p delay) p.loc o sim c hcap, ← (wvOp_congr p _ o _).1, ← (wvOp_congr p _ o _).2]
  rfl

theorem evWave_eq_memStep (p : MapIn) (delay : Nat → Bool → Bool → Int) (o : OpRow) (sim : Nat) (c : Col)
    (hcap : 2 ≤ p.cap o.out) :
    (evWave (fun _ => wcfg p delay) p.loc o sim c).1 = memStep p (waveRW keepJunk) (waveRow (wcfg p delay) p) c o := by
  rw [evWave_rows p delay o sim c hcap]

/-- **a lane of the code-path model = the deterministic run of the memory-level theorems**: rows in schedule order, every output
    capacity ≥ 2 (WaveSim allocates ≥ 4) -/
theorem laneMem_eq_memRun (p : MapIn) (delay : Nat → Bool → Bool → Int) (sim : Nat) (rows : List AOp) (c : Col)
    (hcap : ∀ o ∈ rows, 2 ≤ p.cap o.op.out) :
    laneMem (evWave (fun _ => wcfg p delay) p.loc) sim rows c =
      memRun p (waveRW keepJunk) (waveRow (wcfg p delay) p) (rows.map (·.op)) c := by
  unfold memRun
  induction rows generalizing c with
  | nil => rfl
  | cons o r ih =>
    simp only [laneMem, List.map_cons, List.foldl_cons]
    rw [evWave_eq_memStep p delay o.op sim c (hcap o List.mem_cons_self)]
    exact ih _ (fun o' ho' => hcap o' (List.mem_cons_of_mem _ ho'))

end KV.WaveIO
