import KyupyVerif.Proofs.SemL
import KyupyVerif.Proofs.GenOpsWO
/-! Lifting program-level theorems to ALL circuits (C02, C05, C16).

Generic part (any value domain): for a well-ordered program (`WOJ`, which `genOps_WOJ` proves for the op program of every
well-formed netlist in every topological order)
* simulating with a dispatch `sem` that agrees with a specification `spec` on the ops of the program yields THE solution of
  the `spec` equation system (`sim_is_spec_solution`);
* a relation preserved by every op relates ANY two solutions of the two equation systems (`solutions_related`) — this is
  how X-soundness, the component homomorphism and the waveform abstraction are stated on the netlist, without mentioning
  an execution order.

Netlist part: every op code `SimOps` can emit for a netlist is one of the 33 primitives (`genOps_known`): interface rows
carry `BUF1`/`INV1`, fork rows `BUF1`, cell rows a code of the generated prefix table `Gen.kindPrefixes`, all of whose codes
are codes of `Gen.prims` (kernel-checked table fact). -/
namespace KV
open KV.Sig


theorem solvesJ_congr_on {α} (J : Nat → Bool) (s1 s2 : Op → List α → α) (ops : List Op)
    (h : ∀ op ∈ ops, ∀ xs, s1 op xs = s2 op xs) (env val : Nat → α) (hs : SolvesJ J s1 ops env val) :
    SolvesJ J s2 ops env val :=
  ⟨hs.1, fun o ho hj => by rw [hs.2 o ho hj, h o ho]⟩

theorem sim_is_spec_solution {α} (J : Nat → Bool) (sem spec : Op → List α → α) (ops : List Op) (hw : WOJ J ops)
    (heq : ∀ op ∈ ops, ∀ xs, sem op xs = spec op xs) (env : Nat → α) :
    SolvesJ J spec ops env (execG sem ops env) ∧
    ∀ val, SolvesJ J spec ops env val → ∀ x, J x = false → val x = execG sem ops env x := by
  rw [execG_congr_on sem spec ops heq env]
  exact ⟨execG_solution J spec ops hw env, fun val hs => solution_uniqueJ J spec ops hw env val hs⟩

theorem solutions_related {α β} (J : Nat → Bool) (R : α → β → Prop) (s1 : Op → List α → α) (s2 : Op → List β → β)
    (ops : List Op) (hw : WOJ J ops)
    (hop : ∀ op ∈ ops, ∀ (xs : List α) (ys : List β), All2 R xs ys → R (s1 op xs) (s2 op ys))
    (e1 : Nat → α) (e2 : Nat → β) (h : ∀ l, R (e1 l) (e2 l)) (v1 : Nat → α) (v2 : Nat → β)
    (h1 : SolvesJ J s1 ops e1 v1) (h2 : SolvesJ J s2 ops e2 v2) :
    ∀ x, J x = false → R (v1 x) (v2 x) := by
  intro x hx
  rw [solution_uniqueJ J s1 ops hw e1 v1 h1 x hx, solution_uniqueJ J s2 ops hw e2 v2 h2 x hx]
  exact execG_rel_on R s1 s2 ops hop e1 e2 h x


theorem selectPrim_mem {tbl : List PrefixRow} {k : String} {c2 c3 : Bool} {sp : Nat}
    (h : selectPrim tbl k c2 c3 = some sp) : ∃ r ∈ tbl, sp = r.p4 ∨ sp = r.p3 ∨ sp = r.p2 := by
  unfold selectPrim at h
  split at h
  · cases h
  · rename_i r hr
    refine ⟨r, List.mem_of_find?_eq_some hr, ?_⟩
    simp only [Option.some.injEq] at h
    subst h
    cases c3
    · cases c2
      · exact Or.inr (Or.inr rfl)
      · exact Or.inr (Or.inl rfl)
    · exact Or.inl rfl

theorem nodeOps_code (tbl : List PrefixRow) (net : Net) (sn : List Nat) (ix : Idx) (strip : Bool) (n : Nat)
    (op : OpRow) (h : op ∈ nodeOpsS tbl net sn ix strip n) :
    op.lut = BUF1 ∨ op.lut = INV1 ∨ ∃ r ∈ tbl, op.lut = r.p4 ∨ op.lut = r.p3 ∨ op.lut = r.p2 := by
  rcases mem_nodeOpsS h with ⟨_, _, _, _, _, _, hr⟩ | ⟨_, _, ⟨_, _, hl, _⟩ | ⟨_, _, hsp⟩⟩
  · rw [hr]
    dsimp only
    split
    · exact .inr (.inl rfl)
    · exact .inl rfl
  · exact .inl hl
  · exact .inr (.inr (selectPrim_mem hsp))

theorem known_of_contains {c : Nat} (h : (Gen.prims.map (·.2)).contains c = true) : KnownCode c := by
  simp only [List.contains_eq_mem, List.mem_map, decide_eq_true_eq] at h
  obtain ⟨⟨name, code⟩, hm, rfl⟩ := h
  exact ⟨name, hm⟩

/-- table fact (kernel-checked on the generated tables): every code of `kind_prefixes` is a code of `sim.names` -/
theorem prefix_codes_in_prims :
    ∀ r ∈ Gen.kindPrefixes, ∀ c ∈ [r.p4, r.p3, r.p2], (Gen.prims.map (·.2)).contains c = true := by
  decide +kernel

theorem buf1_mem : ("BUF1", BUF1) ∈ Gen.prims := by decide +kernel
theorem inv1_mem : ("INV1", INV1) ∈ Gen.prims := by decide +kernel

theorem genOps_known (net : Net) (order : List Nat) (strip : Bool) :
    KnownProg ((genOps Gen.kindPrefixes net order strip).map OpRow.toOp) := by
  intro op hop
  obtain ⟨r, hr, rfl⟩ := List.mem_map.mp hop
  obtain ⟨n, _, hn⟩ := mem_genOps.mp hr
  show KnownCode r.lut
  rcases nodeOps_code _ _ _ _ _ _ _ hn with h | h | ⟨row, hrow, h⟩
  · rw [h]; exact ⟨"BUF1", buf1_mem⟩
  · rw [h]; exact ⟨"INV1", inv1_mem⟩
  · apply known_of_contains
    apply prefix_codes_in_prims row hrow
    simp only [List.mem_cons, List.mem_nil_iff, or_false]
    exact h

/-- the same for the stripped schedule with operands resolved through the stems (codes are unchanged) -/
theorem genOps_known_map (net : Net) (order : List Nat) (strip : Bool) (g : OpRow → Op) (hg : ∀ r, (g r).code = r.lut) :
    KnownProg ((genOps Gen.kindPrefixes net order strip).map g) := by
  intro op hop
  obtain ⟨r, hr, rfl⟩ := List.mem_map.mp hop
  rw [hg]
  exact genOps_known net order strip r.toOp (List.mem_map_of_mem hr)


theorem genOps_out_line (tbl : List PrefixRow) (net : Net) (order : List Nat) (strip : Bool)
    (hwf : net.wfB = true) (ho : orderOKB net order = true) :
    ∀ op ∈ (genOps tbl net order strip).map OpRow.toOp, op.out = net.idx.tmp ∨ op.out < net.lines.size := by
  intro op hop
  obtain ⟨r, hr, rfl⟩ := List.mem_map.mp hop
  exact genOps_out tbl net order strip hwf (orderOK_lt ho) r hr

theorem Jt_line {net : Net} {l : Nat} (h : l < net.lines.size) : Jt net l = false := by
  simp only [Jt, beq_eq_false_iff_ne, (idx_vals net).2.1]
  omega


/-- **every netlist, every topological order**: simulating the generated program with a dispatch that agrees with the
    specification on the known op codes computes THE solution of the netlist's gate equations in the specified algebra -/
theorem logic_all_circuits {α} (sem spec : Nat → List α → α)
    (heq : ∀ code, KnownCode code → ∀ xs, sem code xs = spec code xs)
    (net : Net) (order : List Nat) (strip : Bool) (hwf : net.wfB = true) (ho : orderOKB net order = true) (env : Nat → α) :
    SolvesJ (Jt net) (fun op => spec op.code) ((genOps Gen.kindPrefixes net order strip).map OpRow.toOp) env
      (exec sem ((genOps Gen.kindPrefixes net order strip).map OpRow.toOp) env) ∧
    ∀ val, SolvesJ (Jt net) (fun op => spec op.code) ((genOps Gen.kindPrefixes net order strip).map OpRow.toOp) env val →
      ∀ x, Jt net x = false → val x = exec sem ((genOps Gen.kindPrefixes net order strip).map OpRow.toOp) env x :=
  sim_is_spec_solution (Jt net) (fun op => sem op.code) (fun op => spec op.code) _
    (genOps_WOJ Gen.kindPrefixes net order strip hwf ho)
    (fun op hop xs => heq op.code (genOps_known net order strip op hop) xs) env

theorem logic_related_all_circuits {α β} (R : α → β → Prop) (s1 : Nat → List α → α) (s2 : Nat → List β → β)
    (hop : ∀ code, KnownCode code → ∀ (xs : List α) (ys : List β), All2 R xs ys → R (s1 code xs) (s2 code ys))
    (net : Net) (order : List Nat) (strip : Bool) (hwf : net.wfB = true) (ho : orderOKB net order = true)
    (e1 : Nat → α) (e2 : Nat → β) (h : ∀ l, R (e1 l) (e2 l)) (v1 : Nat → α) (v2 : Nat → β)
    (h1 : SolvesJ (Jt net) (fun op => s1 op.code) ((genOps Gen.kindPrefixes net order strip).map OpRow.toOp) e1 v1)
    (h2 : SolvesJ (Jt net) (fun op => s2 op.code) ((genOps Gen.kindPrefixes net order strip).map OpRow.toOp) e2 v2) :
    ∀ x, Jt net x = false → R (v1 x) (v2 x) :=
  solutions_related (Jt net) R (fun op => s1 op.code) (fun op => s2 op.code) _
    (genOps_WOJ Gen.kindPrefixes net order strip hwf ho)
    (fun op hmem xs ys hxy => hop op.code (genOps_known net order strip op hmem) xs ys hxy) e1 e2 h v1 v2 h1 h2

/-- **refinement on the netlist**: a relation `R` between a value domain and the Booleans that every known primitive preserves
    (against the 2-valued dispatch) relates the simulation result in that domain to the Boolean function of the netlist —
    `val2` is any (= the unique) Boolean solution of the gate equations for the related stimulus -/
theorem logic_refines_all_circuits {α} (R : α → Bool → Prop) (sem : Nat → List α → α)
    (hop : ∀ code, KnownCode code → ∀ (xs : List α) (ys : List Bool), All2 R xs ys → R (sem code xs) (semL2n code ys))
    (net : Net) (order : List Nat) (hwf : net.wfB = true) (ho : orderOKB net order = true)
    (e : Nat → α) (e2 : Nat → Bool) (h : ∀ l, R (e l) (e2 l)) (val2 : Nat → Bool)
    (h2 : SolvesJ (Jt net) (fun op => specL2 op.code) ((genOps Gen.kindPrefixes net order false).map OpRow.toOp) e2 val2)
    (x : Nat) (hx : Jt net x = false) :
    R (exec sem ((genOps Gen.kindPrefixes net order false).map OpRow.toOp) e x) (val2 x) := by
  rw [(logic_all_circuits semL2n specL2 (fun _ h xs => semL2n_eq_spec h xs) net order false hwf ho e2).2 val2 h2 x hx]
  exact exec_rel_on R sem semL2n _ (fun op hmem => hop op.code (genOps_known net order false op hmem)) e e2 h x

end KV
