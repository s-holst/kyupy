import KyupyVerif.Proofs.SubstituteBuilt
import KyupyVerif.Proofs.SubstCert
/-! C10 (`substitute_sem`): the circuit `substituteCore` builds satisfies the certificate.  No two of the lines written to the pins of
the cell and of the new nodes share an end point (`uniq`, for the reader and the driver side at once; `uniqR`, `uniqD`), and a
written line (`Written`) ends at one of those nodes (`wr_own`, `wd_own`); a pin table of those nodes makes the result well-formed
(`SubstPre.cert`); the pin table is read off the write list (`core_opF`, each side by `mem_writes_side`);
`substituteCore_certP` puts it together — for the run with a designated cell and no ignored input, outputs possibly
unconnected (the circuit before dangling logic is removed). -/
namespace KV.Transform
open KV

/-- `x` is the cell or a node the substitution adds (`SubstPre.mapGe`, `SubstCert.ownIns` spell it out) -/
def ownN (h : NNet) (c : Nat) (x : Nat) : Prop := x = c ∨ h.net.nodes.size ≤ x

/-- `l` is a line whose end on one side the substitution writes: a copied line (behind the lines of the host `h` in the result `h'`)
    or the line at a pin of the instance (`w` = `instIn h c` for the reader side, `instOut h c` for the driver side) -/
def Written (w : Nat → Option Nat) (h h' : NNet) (l : Nat) : Prop :=
  (h.net.lines.size ≤ l ∧ l < h'.net.lines.size) ∨ ∃ k, w k = some l

section pre
variable {h : NNet} {c : Nat} {m : NNet} {sh : Shape} {dn : Nat} {map : Array (Option Nat)} {h' : NNet}
variable (ct : SubstPre h c m sh dn map h')
include ct

/-- No two of the lines written on side `b` (`true`: reader pins, `false`: driver pins) end at one pin; the written lines are the
    copied lines and the lines `w k` at the pins of the instance.  `hw` is what `inTarget` / `outTarget` say, in the form the two sides
    share: the line at pin `k` goes where the `b`-end of a line `i` of the implementation is copied to, `i` itself not copied because
    its other end is the port `q = ports[k]`, which has no copy — or it goes to a pin of the fork made for `q` that is beyond the
    pins `q` has on that side in the implementation.  What decides every case: in the implementation a line sits at the pin where it
    ends (`mwf.back`) and `node_map` is injective, so two ends copied to one pin are ends of one line. -/
theorem SubstPre.uniq (b : Bool) (w : Nat → Option Nat) (ports : List Nat) (hnd : ports.Nodup)
    (hw : ∀ k ll, w k = some ll → ∃ q, ports[k]? = some q ∧
      ((∃ i, i < m.net.lines.size ∧ (endOf (!b) (m.net.line i)).1 = q ∧ map.getD q none = none ∧
          map.getD (endOf b (m.net.line i)).1 none = some (endOf b (h'.net.line ll)).1 ∧
          (endOf b (m.net.line i)).2 = (endOf b (h'.net.line ll)).2) ∨
        (map.getD q none = some (endOf b (h'.net.line ll)).1 ∧
          (sidePins b (m.net.node q)).length ≤ (endOf b (h'.net.line ll)).2)))
    (l1 l2 : Nat) (h1 : Written w h h' l1) (h2 : Written w h h' l2)
    (e : endOf b (h'.net.line l1) = endOf b (h'.net.line l2)) : l1 = l2 := by
  have hback : ∀ i, i < m.net.lines.size →
      (sidePins b (m.net.node (endOf b (m.net.line i)).1)).getD (endOf b (m.net.line i)).2 none = some i := by
    intro i hi
    cases b
    · exact (ct.mwf.back i hi).2.2.1
    · exact (ct.mwf.back i hi).2.2.2
  -- two lines of the implementation whose `b`-ends are copied to one pin are one line
  have copyInj : ∀ i1 i2 x, i1 < m.net.lines.size → i2 < m.net.lines.size →
      map.getD (endOf b (m.net.line i1)).1 none = some x → map.getD (endOf b (m.net.line i2)).1 none = some x →
      (endOf b (m.net.line i1)).2 = (endOf b (m.net.line i2)).2 → i1 = i2 := by
    intro i1 i2 x hi1 hi2 hx1 hx2 hp
    have b1 := hback i1 hi1
    rw [ct.mapInj _ _ _ hx1 hx2, hp, hback i2 hi2] at b1
    exact (Option.some.inj b1).symm
  -- the copy of a `b`-end is not a pin of a fork beyond the pins of its port
  have copyFork : ∀ i q x, i < m.net.lines.size → map.getD (endOf b (m.net.line i)).1 none = some x → map.getD q none = some x →
      (sidePins b (m.net.node q)).length ≤ (endOf b (m.net.line i)).2 → False := by
    intro i q x hi hx hq hle
    have := lt_of_getD_some (hback i hi)
    rw [ct.mapInj _ _ _ hx hq] at this
    omega
  -- a copied line goes where both its ends are copied to
  have hnew : ∀ l, h.net.lines.size ≤ l → l < h'.net.lines.size → ∃ i, i < m.net.lines.size ∧
      l = h.net.lines.size + (copiedLines m map).idxOf i ∧ (∃ y, map.getD (endOf (!b) (m.net.line i)).1 none = some y) ∧
      map.getD (endOf b (m.net.line i)).1 none = some (endOf b (h'.net.line l)).1 ∧
      (endOf b (m.net.line i)).2 = (endOf b (h'.net.line l)).2 := by
    intro l a1 a2
    obtain ⟨t, ht, e⟩ := ct.new_split l a1 a2
    obtain ⟨hi, xd, xr, hd, hr, hl⟩ := ct.new_fields t ht
    rw [e, hl]
    refine ⟨_, hi, by rw [copiedLines_nodup.idxOf_getElem t ht], ?_⟩
    cases b
    · exact ⟨⟨xr, hr⟩, hd, rfl⟩
    · exact ⟨⟨xd, hd⟩, hr, rfl⟩
  have newW : ∀ l, h.net.lines.size ≤ l → l < h'.net.lines.size → ∀ k ll, w k = some ll →
      endOf b (h'.net.line l) = endOf b (h'.net.line ll) → False := by
    intro l a1 a2 k ll hll e
    obtain ⟨i, hi, _, ⟨y, hy⟩, hx, hp⟩ := hnew l a1 a2
    rw [e] at hx hp
    obtain ⟨q, _, ⟨i', hi', hq, hnone, hx', hp'⟩ | ⟨hx', hle⟩⟩ := hw k ll hll
    · rw [copyInj _ _ _ hi hi' hx hx' (hp.trans hp'.symm), hq, hnone] at hy
      exact absurd hy (by simp)
    · exact copyFork _ q _ hi hx hx' (hp ▸ hle)
  rcases h1 with h1 | ⟨k1, hk1⟩
  · rcases h2 with h2 | ⟨k2, hk2⟩
    · obtain ⟨i1, hi1, el1, _, hx1, hp1⟩ := hnew l1 h1.1 h1.2
      obtain ⟨i2, hi2, el2, _, hx2, hp2⟩ := hnew l2 h2.1 h2.2
      rw [e] at hx1 hp1
      rw [el1, el2, copyInj _ _ _ hi1 hi2 hx1 hx2 (hp1.trans hp2.symm)]
    · exact (newW l1 h1.1 h1.2 k2 l2 hk2 e).elim
  · rcases h2 with h2 | ⟨k2, hk2⟩
    · exact (newW l2 h2.1 h2.2 k1 l1 hk1 e.symm).elim
    · obtain ⟨q1, hq1, c1⟩ := hw k1 l1 hk1
      obtain ⟨q2, hq2, c2⟩ := hw k2 l2 hk2
      rw [e] at c1
      have key : q1 = q2 := by
        rcases c1 with ⟨i1, hi1, e1, _, hx1, hp1⟩ | ⟨hx1, hle1⟩ <;> rcases c2 with ⟨i2, hi2, e2, _, hx2, hp2⟩ | ⟨hx2, hle2⟩
        · rw [← e1, ← e2, copyInj _ _ _ hi1 hi2 hx1 hx2 (hp1.trans hp2.symm)]
        · exact (copyFork _ q2 _ hi1 hx1 hx2 (hp1 ▸ hle2)).elim
        · exact (copyFork _ q1 _ hi2 hx2 hx1 (hp2 ▸ hle1)).elim
        · exact ct.mapInj _ _ _ hx1 hx2
      subst key
      obtain ⟨a1, b1⟩ := List.getElem?_eq_some_iff.mp hq1
      obtain ⟨a2, b2⟩ := List.getElem?_eq_some_iff.mp hq2
      cases (List.getElem_inj hnd).mp (b1.trans b2.symm)
      rw [hk1] at hk2; exact Option.some.inj hk2

/-- `uniq` on the reader side: the line at an input pin of the instance goes to the reader pin of the port's only
    line (not copied: the port has no fork) or to pin 0 of the port's fork -/
theorem SubstPre.uniqR (l1 l2 : Nat)
    (h1 : Written (instIn h c) h h' l1) (h2 : Written (instIn h c) h h' l2)
    (e : tRof h'.net.lines l1 = tRof h'.net.lines l2) : l1 = l2 := by
  refine ct.uniq true (instIn h c) sh.inPorts (inPorts_nodup ct.shape ct.ioNodup) (fun k ll hk => ?_) l1 l2 h1 h2 e
  obtain ⟨inn, r, rp, hinn, htg, f1, f2⟩ := ct.inWire k ll hk
  have hin : inn ∈ sh.inPorts := List.mem_of_getElem? hinn
  refine ⟨inn, hinn, ?_⟩
  subst f1 f2
  rcases inTarget_cases htg with ⟨hlen, i0, hh, hmr, hrp⟩ | ⟨_, hmi, hrp⟩
  · obtain ⟨hi0, hdrv, hnone⟩ := ct.single_not_copied inn i0 hin hlen hh
    exact Or.inl ⟨i0, hi0, hdrv, hnone, hmr, hrp.symm⟩
  · exact Or.inr ⟨hmi, by show (m.net.node inn).ins.length ≤ _; rw [((mem_inPorts ct.shape inn).mp hin).2]; exact Nat.zero_le _⟩

/-- `uniq` on the driver side: the line at an output pin of the instance goes to the next free output of the fork
    made for an output port that is read inside, or to the driver pin of the port's line (not copied: the port has no fork) -/
theorem SubstPre.uniqD (l1 l2 : Nat)
    (h1 : Written (instOut h c) h h' l1) (h2 : Written (instOut h c) h h' l2)
    (e : tDof h'.net.lines l1 = tDof h'.net.lines l2) : l1 = l2 := by
  refine ct.uniq false (instOut h c) sh.outPorts (outPorts_nodup ct.shape ct.ioNodup) (fun k ll hk => ?_) l1 l2 h1 h2 e
  obtain ⟨il, d, dp, hil, htg, f1, f2⟩ := ct.outWire k ll hk
  obtain ⟨rd, hrd, _, hilt, hr, hrio, hrins⟩ := ct.outLine_facts k il hil
  refine ⟨rd, hrd, ?_⟩
  subst f1 f2 hr
  rcases outTarget_cases htg with ⟨_, hmr, hdp⟩ | ⟨hz, hmd, hdp⟩
  · exact Or.inr ⟨hmr, Nat.le_of_eq hdp.symm⟩
  · refine Or.inl ⟨il, hilt, rfl, ?_, hmd, hdp.symm⟩
    cases hm : map.getD (m.net.line il).reader none with
    | none => rfl
    | some x =>
      rcases (ct.mapDom _ (ct.mwf.io _ hrio)).mp (by rw [hm]; rfl) with h1 | h1 | h1
      · exact absurd hrio h1
      · omega
      · omega

theorem SubstPre.wr_own (l : Nat) (hW : Written (instIn h c) h h' l) :
    l < h'.net.lines.size ∧ ownN h c (h'.net.line l).reader ∧ (h'.net.line l).reader < h'.net.nodes.size := by
  rcases hW with hW | ⟨k, hk⟩
  · obtain ⟨t, ht, e⟩ := ct.new_split l hW.1 hW.2
    obtain ⟨_, xd, xr, _, hr, hl⟩ := ct.new_fields t ht
    rw [e, hl]
    exact ⟨e ▸ hW.2, ct.mapGe _ xr hr, ct.mapLt _ xr hr⟩
  · obtain ⟨inn, r, rp, _, htg, e1, _⟩ := ct.inWire k l hk
    obtain ⟨k', hk'⟩ := inTarget_map htg
    have := (ct.hwf.fwdIn c ct.hc k l hk).1
    rw [e1, ct.lsize]
    exact ⟨by omega, ct.mapGe k' r hk', ct.mapLt k' r hk'⟩

theorem SubstPre.wd_own (l : Nat) (hW : Written (instOut h c) h h' l) :
    l < h'.net.lines.size ∧ ownN h c (h'.net.line l).driver ∧ (h'.net.line l).driver < h'.net.nodes.size := by
  rcases hW with hW | ⟨k, hk⟩
  · obtain ⟨t, ht, e⟩ := ct.new_split l hW.1 hW.2
    obtain ⟨_, xd, xr, hd, _, hl⟩ := ct.new_fields t ht
    rw [e, hl]
    exact ⟨e ▸ hW.2, ct.mapGe _ xd hd, ct.mapLt _ xd hd⟩
  · obtain ⟨il, d, dp, _, htg, e1, _⟩ := ct.outWire k l hk
    obtain ⟨k', hk'⟩ := outTarget_map htg
    have := (ct.hwf.fwdOut c ct.hc k l hk).1
    rw [e1, ct.lsize]
    exact ⟨by omega, ct.mapGe k' d hk', ct.mapLt k' d hk'⟩

end pre

/-- under `SubstPre`, a pin table of the cell and the new nodes — the entry at pin `(x, k)` is line `l` iff `l` is a copied line
    or a line at a pin of the instance and ends (starts) there — makes the result well-formed.  `hrdr` is for the host lines that name
    the cell as reader without sitting at one of its pins (stale on the reader side): `rdrFrame` is silent on them -/
theorem SubstPre.cert {h : NNet} {c : Nat} {m : NNet} {sh : Shape} {dn : Nat} {map : Array (Option Nat)} {h5 : NNet}
    (pre : SubstPre h c m sh dn map h5) (hnames : h5.names.size = h5.net.nodes.size) (hnodup : h5.keys.Nodup)
    (hrdr : ∀ l, l < h.net.lines.size → (¬ ∃ k, instIn h c k = some l) → (h5.net.line l).reader = (h.net.line l).reader)
    (opF : OwnPins (ownN h c) h5.net.nodes
      (Written (instIn h c) h h5) (Written (instOut h c) h h5)
      (tRof h5.net.lines) (tDof h5.net.lines)) :
    SubstCert h c m sh dn map h5 ∧
    (∀ x, x < h5.net.nodes.size → ownN h c x → noTrail (h5.net.node x).ins = true ∧ noTrail (h5.net.node x).outs = true) := by
  -- a written line sits at the pin where it ends (`wr_own`, `wd_own` and the pin table);
  -- the other lines are host lines that do not end at (start from) the cell: frame
  have hbackR : ∀ l, l < h5.net.lines.size → (h.net.lines.size ≤ l ∨ PtsBack h l) → PtsBack h5 l := by
    intro l hl hpb
    by_cases hW : Written (instIn h c) h h5 l
    · exact (opF.ins _ _ l (pre.wr_own l hW).2.1).mpr ⟨hW, rfl⟩
    · have hlt : l < h.net.lines.size := by have := (not_or.mp hW).1; omega
      have hpb : PtsBack h l := hpb.resolve_left (by omega)
      have hrc : (h.net.line l).reader ≠ c := fun e => hW (Or.inr ⟨(h.net.line l).rpin, by rw [← e]; exact hpb⟩)
      obtain ⟨f1, f2⟩ := pre.rdrFrame l hlt hrc
      show (h5.net.node (h5.net.line l).reader).ins.getD (h5.net.line l).rpin none = some l
      rw [f1, f2, pre.frameNode _ (pre.hwf.back l hlt).2.1 hrc]
      exact hpb
  have wf5 : WFr h5 := by
    refine ⟨hnames, hnodup, ?_, ?_, ?_, ?_⟩
    · intro i hi
      rw [pre.io'] at hi
      exact Nat.lt_of_lt_of_le (pre.hwf.io i hi) pre.nsize
    · intro l hl
      have hr : (h5.net.line l).reader < h5.net.nodes.size := by
        by_cases hW : Written (instIn h c) h h5 l
        · exact (pre.wr_own l hW).2.2
        · have hlt : l < h.net.lines.size := by have := (not_or.mp hW).1; omega
          rw [hrdr l hlt (not_or.mp hW).2]
          exact Nat.lt_of_lt_of_le (pre.hwf.back l hlt).2.1 pre.nsize
      by_cases hW : Written (instOut h c) h h5 l
      · exact ⟨(pre.wd_own l hW).2.2, hr, (opF.outs _ _ l (pre.wd_own l hW).2.1).mpr ⟨hW, rfl⟩⟩
      · have hlt : l < h.net.lines.size := by have := (not_or.mp hW).1; omega
        obtain ⟨b1, _, b3⟩ := pre.hwf.back l hlt
        have hdc : (h.net.line l).driver ≠ c := fun e => hW (Or.inr ⟨(h.net.line l).dpin, by rw [← e]; exact b3⟩)
        obtain ⟨f1, f2⟩ := pre.drvFrame l hlt hdc
        rw [f1, f2, pre.frameNode _ b1 hdc]
        exact ⟨Nat.lt_of_lt_of_le b1 pre.nsize, hr, b3⟩
    · intro x hx k l hp
      by_cases hown : ownN h c x
      · obtain ⟨hW, ht⟩ := (opF.ins x k l hown).mp hp
        exact ⟨(pre.wr_own l hW).1, (Prod.mk.inj ht).1, (Prod.mk.inj ht).2⟩
      · obtain ⟨h2', h1⟩ := not_or.mp hown
        rw [pre.frameNode x (by omega) h2'] at hp
        obtain ⟨a1, a2, a3⟩ := pre.hwf.fwdIn x (by omega) k l hp
        obtain ⟨f1, f2⟩ := pre.rdrFrame l a1 (by rw [a2]; exact h2')
        exact ⟨by rw [pre.lsize]; omega, f1.trans a2, f2.trans a3⟩
    · intro x hx k l hp
      by_cases hown : ownN h c x
      · obtain ⟨hW, ht⟩ := (opF.outs x k l hown).mp hp
        exact ⟨(pre.wd_own l hW).1, (Prod.mk.inj ht).1, (Prod.mk.inj ht).2⟩
      · obtain ⟨h2', h1⟩ := not_or.mp hown
        rw [pre.frameNode x (by omega) h2'] at hp
        obtain ⟨a1, a2, a3⟩ := pre.hwf.fwdOut x (by omega) k l hp
        obtain ⟨f1, f2⟩ := pre.drvFrame l a1 (by rw [a2]; exact h2')
        exact ⟨by rw [pre.lsize]; omega, f1.trans a2, f2.trans a3⟩
  refine ⟨⟨pre, wf5, hbackR, fun x k l hown hp hlt => ?_⟩, fun x _ hown => opF.trail x hown⟩
  rcases ((opF.ins x k l hown).mp hp).1 with hW | hW
  · omega
  · exact hW

/-- the writes of side `b` among the writes of `phase3` (new lines `C` behind line `L`), the connecting loop of that side (ports `ports`
    against the instance's pin list `pl`) and writes `Wo` of the other side: a line is written iff it is new or at a pin of the instance,
    at its end `t` — given where the line at pin `k` ends (`hw`: the form of `SubstPre.inWire` / `outWire`) -/
theorem mem_writes_side (b : Bool) (L : Nat) (C : List LineD) (tg : Nat → Option (Nat × Nat)) (ports : List Nat) (pl : List (Option Nat))
    (Wo : List PinW) (hWo : ∀ w ∈ Wo, w.rd = !b) (t : Nat → Nat × Nat)
    (hnew : ∀ i (hi : i < C.length), t (L + i) = endOf b C[i])
    (hw : ∀ k ll, pl.getD k none = some ll → ∃ a x p, ports[k]? = some a ∧ tg a = some (x, p) ∧ t ll = (x, p)) (x p l : Nat) :
    ((⟨b, x, p, l⟩ : PinW) ∈ newWrites L C ∨ (⟨b, x, p, l⟩ : PinW) ∈ wireWrites b tg (ports.zip (padTo pl ports.length)) ∨
        (⟨b, x, p, l⟩ : PinW) ∈ Wo) ↔
      ((L ≤ l ∧ l < L + C.length) ∨ ∃ k, pl.getD k none = some l) ∧ t l = (x, p) := by
  constructor
  · rintro (h | h | h)
    · obtain ⟨i, hi, b', e⟩ := mem_newWrites.mp h
      obtain ⟨rfl, rfl, rfl, rfl⟩ := PinW.mk.inj e
      exact ⟨Or.inl ⟨by omega, by omega⟩, hnew i hi⟩
    · obtain ⟨a, ll, x', p', hm, ht, e⟩ := mem_wireWrites.mp h
      obtain ⟨_, rfl, rfl, rfl⟩ := PinW.mk.inj e
      obtain ⟨k, hk1, hk2⟩ := mem_zip_padTo.mp hm
      obtain ⟨a', x', p', ha, ht', e⟩ := hw k l hk2
      rw [hk1] at ha; cases ha
      rw [ht] at ht'; cases ht'
      exact ⟨Or.inr ⟨k, hk2⟩, e⟩
    · have := hWo _ h; cases b <;> simp at this
  · rintro ⟨h | ⟨k, hk⟩, ht⟩
    · obtain ⟨i, rfl⟩ : ∃ i, l = L + i := ⟨l - L, by omega⟩
      have hi : i < C.length := by omega
      refine Or.inl (mem_newWrites.mpr ⟨i, hi, b, ?_⟩)
      rw [← hnew i hi, ht]
    · obtain ⟨a, x', p', ha, htg, ht'⟩ := hw k l hk
      refine Or.inr (Or.inl (mem_wireWrites.mpr ⟨a, l, x', p', mem_zip_padTo.mpr ⟨k, ha, hk⟩, htg, ?_⟩))
      rw [ht] at ht'; obtain ⟨rfl, rfl⟩ := Prod.mk.inj ht'; rfl

/-- the pin table of the cell and the new nodes: by `core_nodes` the node array is `attachAll` of the writes of the three loops, and
    `SubstPre` says where every written line ends; the cell and the new nodes start blank (`hempty`) and no two writes of a side hit one
    pin (`uniqR`, `uniqD`), so `pinTab_attachAll` reads the table off the write list -/
theorem core_opF (h : NNet) (c : Nat) (m : NNet) (sh : Shape) (dn : Nat)
    (hni : NoIgnored m (sh.inPorts.zip (padTo (h.net.node c).ins sh.inPorts.length)))
    (map : Array (Option Nat)) (dang : List (Option Nat)) (h2 : NNet) (net4 net5 : Net) (ren : Option Nat → Option Nat)
    (hci : connectIns m map (sh.inPorts.zip (padTo (h.net.node c).ins sh.inPorts.length)) (phase3 m map h2, id) = some (net4, ren))
    (hco : connectOuts m map (sh.outLines.zip ((padTo (h.net.node c).outs sh.outLines.length).map ren)) (net4, []) = some (net5, dang))
    (pre : SubstPre h c m sh dn map { h2 with net := net5 })
    (hl2 : h2.net.lines.size = h.net.lines.size) (hn5 : net5.nodes.size = h2.net.nodes.size)
    (hempty : ∀ x, ownN h c x → (h2.net.node x).ins = [] ∧ (h2.net.node x).outs = []) :
    OwnPins (ownN h c) net5.nodes (Written (instIn h c) h { h2 with net := net5 }) (Written (instOut h c) h { h2 with net := net5 })
      (tRof net5.lines) (tDof net5.lines) := by
  obtain ⟨_, hnodes⟩ := core_nodes h c m sh hni map dang h2 net4 net5 ren hci hco
  rw [hnodes]
  have hline : ∀ l, lineA net5.lines l = ({ h2 with net := net5 } : NNet).net.line l := fun _ => rfl
  have hL5 : net5.lines.size = h2.net.lines.size + ((copiedLines m map).map (mkLine m map)).length := by
    rw [hl2, List.length_map]; exact pre.lsize
  have hmapLt : ∀ j x, map.getD j none = some x → x < h2.net.nodes.size := fun j x hx => by rw [← hn5]; exact pre.mapLt j x hx
  have hC : ∀ i (hi : i < ((copiedLines m map).map (mkLine m map)).length),
      lineA net5.lines (h2.net.lines.size + i) = ((copiedLines m map).map (mkLine m map))[i] := fun i hi => by
    rw [hl2, hline, pre.newLine i (by simpa using hi), List.getElem_map]
  have hWI : ∀ w ∈ wireWrites true (inTarget m map) (sh.inPorts.zip (padTo (h.net.node c).ins sh.inPorts.length)), w.rd = true :=
    fun w hw => by obtain ⟨_, _, _, _, _, _, rfl⟩ := mem_wireWrites.mp hw; rfl
  have hWO : ∀ w ∈ wireWrites false (outTarget m map) (sh.outLines.zip (padTo (h.net.node c).outs sh.outLines.length)), w.rd = false :=
    fun w hw => by obtain ⟨_, _, _, _, _, _, rfl⟩ := mem_wireWrites.mp hw; rfl
  -- the writes of each side are those of the new lines and of the lines at the instance's pins of that side
  have sR := mem_writes_side true h2.net.lines.size ((copiedLines m map).map (mkLine m map)) (inTarget m map)
    sh.inPorts (h.net.node c).ins _ hWO (tRof net5.lines) (fun i hi => by simp only [tRof, endOf, cond_true]; rw [hC i hi])
    (fun k ll hk => by
      obtain ⟨inn, r, rp, hinn, htg, e1, e2⟩ := pre.inWire k ll hk
      exact ⟨inn, r, rp, hinn, htg, by simp only [tRof]; rw [hline, e1, e2]⟩)
  have sD := mem_writes_side false h2.net.lines.size ((copiedLines m map).map (mkLine m map)) (outTarget m map)
    sh.outLines (h.net.node c).outs _ hWI (tDof net5.lines) (fun i hi => by simp only [tDof, endOf, cond_false]; rw [hC i hi])
    (fun k ll hk => by
      obtain ⟨il, d, dp, hil, htg, e1, e2⟩ := pre.outWire k ll hk
      exact ⟨il, d, dp, hil, htg, by simp only [tDof]; rw [hline, e1, e2]⟩)
  have hlt := fun w hw => (core_writes_map m map h2.net.lines.size (sh.inPorts.zip (padTo (h.net.node c).ins sh.inPorts.length))
    (sh.outLines.zip (padTo (h.net.node c).outs sh.outLines.length)) w hw).elim fun k hk => hmapLt k _ hk
  refine ⟨pinTab_attachAll true _ _ _ _ _ hlt (fun x hx => (hempty x hx).1) (fun x p l => ?_) pre.uniqR,
    pinTab_attachAll false _ _ _ _ _ hlt (fun x hx => (hempty x hx).2) (fun x p l => ?_) pre.uniqD,
    noTrail_attachAll _ _ _ hempty⟩
  · rw [List.mem_append, List.mem_append, or_assoc, sR x p l, ← hL5, hl2]; exact Iff.rfl
  · rw [List.mem_append, List.mem_append, or_assoc, or_comm (a := _ ∈ wireWrites true _ _), sD x p l, ← hL5, hl2]; exact Iff.rfl

/-- the certificate for the phases of `substituteCore`, run with the cell kept as the copy of node `dn` of the implementation
    (the designated cell; or, for an implementation without designated cell, the *virtual* run with `dn` = the number of nodes
    of the implementation: the cell stays in the circuit as an isolated node of kind `""`, and `hdnf` holds since
    `m.net.node m.net.nodes.size` is the default node, not a fork) -/
theorem substituteCore_certP (h : NNet) (c : Nat) (m : NNet) (sh : Shape) (dn : Nat)
    (hw : WFr h) (mw : WF m) (hc : c < h.net.nodes.size) (hio : c ∉ h.net.io) (hcf : (h.net.node c).isFork = false)
    (hs : implShape m = some sh) (hd : dn < m.net.nodes.size → sh.des = some dn) (hdnf : (m.net.node dn).isFork = false)
    (hdn : dn ∉ m.net.io) (hnd : m.net.io.Nodup) (hps : ∀ p ∈ m.net.io, isSeqKind (m.net.node p).kind = false)
    (hpf : ∀ p ∈ m.net.io, 0 < (m.net.node p).ins.length → 0 < (m.net.node p).outs.length → (m.net.node p).isFork = true)
    (hni : NoIgnored m (sh.inPorts.zip (padTo (h.net.node c).ins sh.inPorts.length)))
    (h5 : NNet) (map : Array (Option Nat)) (dang : List (Option Nat))
    (h2 : NNet) (net4 net5 : Net) (ren : Option Nat → Option Nat)
    (hil : (h.net.node c).ins.length ≤ sh.inPorts.length) (hol : (h.net.node c).outs.length ≤ sh.outLines.length)
    (hfold : (List.range m.net.nodes.size).foldlM (addImplNode m (h.names.getD c "") (some dn)) (phase1 h c m (some dn)) = some (h2, map))
    (hci : connectIns m map (sh.inPorts.zip (padTo (h.net.node c).ins sh.inPorts.length)) (phase3 m map h2, id) = some (net4, ren))
    (hco : connectOuts m map (sh.outLines.zip ((padTo (h.net.node c).outs sh.outLines.length).map ren)) (net4, []) = some (net5, dang))
    (e : h5 = { h2 with net := net5 }) :
    SubstCert h c m sh dn map h5 ∧
    (∀ x, x < h5.net.nodes.size → ownN h c x → noTrail (h5.net.node x).ins = true ∧ noTrail (h5.net.node x).outs = true) := by
  subst e
  have iv : NodeInv h c m dn (h.names.getD c "") (h2, map) :=
    nodeInv_closed h c m dn (h.names.getD c "") hw hc (by rw [hdnf, hcf]) hdn (h2, map) hfold
  obtain ⟨hren, hsz5, fr, hmge, hnew, win0, wout0⟩ :=
    substituteCore_wireP h c m sh hw hc dn hni map dang h2 net4 net5 ren hil hol hfold hci hco
  subst hren
  have hL3 : (phase3 m map h2).lines.size = h.net.lines.size + (copiedLines m map).length := by
    rw [phase3_lines, iv.lines]; simp
  have po : PinsOnly h2.net net5 :=
    (pinsOnly_phase3 m map h2).trans ((pinsOnly_connectIns m map _ _ _ hci).trans (pinsOnly_connectOuts m map _ _ _ hco))
  have hN5 : net5.nodes.size = h2.net.nodes.size := po.1.1
  have hkind5 : ∀ x, (net5.node x).kind = (h2.net.node x).kind := fun x => po.1.2 x
  have hmapM := iv.mapM
  have pre : SubstPre h c m sh dn map { h2 with net := net5 } := by
    refine
      { hwf := hw, mwf := mw, hc := hc, hio := hio, shape := hs, des := hd, dnNotPort := hdn, ioNodup := hnd,
        portNotSeq := hps, portFork := hpf, insLen := hil, noIgn := ?_,
        nsize := by rw [hN5]; exact iv.nsize, frameNode := fr.node, io' := po.2.trans iv.io, keyFrame := ?_,
        mapM := hmapM, mapGe := hmge, mapLt := by rw [hN5]; exact iv.mapLt, mapInj := iv.mapInj, mapDom := ?_,
        mapDn := iv.mapDn, kind' := ?_, lsize := hsz5.trans hL3,
        drvFrame := ?_, rdrFrame := ?_, inWire := win0, outWire := wout0, newLine := ?_ }
    · intro k ll inn hk hinn
      have hmem : (inn, some ll) ∈ sh.inPorts.zip (padTo (h.net.node c).ins sh.inPorts.length) :=
        mem_zip_padTo.mpr ⟨k, hinn, hk⟩
      have := hni (inn, some ll) hmem rfl
      simpa using this
    · intro d hd'
      show (h2.names.getD d "", (net5.node d).isFork) = (h.names.getD d "", (h.net.node d).isFork)
      rw [iv.nameHost d hd']
      by_cases e1 : d = c
      · subst e1
        have : (net5.node d).isFork = (m.net.node dn).isFork := by
          have := hkind5 d
          rw [iv.cell] at this
          simp [NodeD.isFork, this]
        rw [this, hdnf, hcf]
      · have : net5.node d = h.net.node d := fr.node d hd' e1
        rw [this]
    · intro j hj
      rw [iv.mapDom j, addedOne_isSome]
      by_cases hjio : j ∈ m.net.io
      · rw [if_pos hjio]
        exact ⟨fun h => h.elim (fun e => absurd (e.1 ▸ hjio) hdn) fun e => Or.inr e.2,
          fun h => h.elim (fun e => absurd hjio e) fun e => Or.inr ⟨hj, e⟩⟩
      · rw [if_neg hjio]
        refine iff_of_true ?_ (Or.inl hjio)
        by_cases e1 : j = dn
        · exact Or.inl ⟨e1, e1 ▸ hj⟩
        · exact Or.inr ⟨hj, fun e => e1 (Option.some.inj e).symm⟩
    · intro j x hx
      by_cases e1 : j = dn
      · subst e1
        have : x = c := by rw [iv.mapDn (hmapM j x hx)] at hx; exact (Option.some.inj hx).symm
        subst this
        rw [hkind5, iv.cell, if_neg hdn]
      · obtain ⟨kn, ha, hk⟩ := iv.kind j x hx e1
        rw [hkind5, hk, addedOne_kind ha]
    · intro l hl hne
      apply fr.drv l hl
      intro hmem
      obtain ⟨k, hk⟩ := (mem_filterMap_id _ l).mp hmem
      exact hne (hw.fwdOut c hc k l hk).2.1
    · intro l hl hne
      apply fr.rdr l hl
      intro hmem
      obtain ⟨k, hk⟩ := (mem_filterMap_id _ l).mp hmem
      exact hne (hw.fwdIn c hc k l hk).2.1
    · intro t ht
      show lineA net5.lines _ = _
      rw [hnew _ (by omega) (by rw [hL3]; omega), phase3_lines, iv.lines]
      simp [lineA, Array.getD_eq_getD_getElem?, ht]
  have hempty : ∀ x, ownN h c x → (h2.net.node x).ins = [] ∧ (h2.net.node x).outs = [] := by
    rintro x (hx | hx)
    · subst hx; rw [iv.cell]; exact ⟨rfl, rfl⟩
    · exact iv.blank x hx
  exact pre.cert (by show h2.names.size = net5.nodes.size; rw [hN5]; exact iv.names)
    (by rw [keys_eq, (obs_of_pinsOnly h2 { h2 with net := net5 } po rfl).1, ← keys_eq]; exact iv.nodup)
    (fun l hlt hin => (fr.rdr l hlt (fun hm => hin ((mem_filterMap_id _ l).mp hm))).1)
    (core_opF h c m sh dn hni map dang h2 net4 net5 id hci hco pre (by rw [iv.lines]) hN5 hempty)

end KV.Transform
