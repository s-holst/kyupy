import KyupyVerif.Proofs.Basics
import KyupyVerif.Model.Sdf
/-! Lemmas for C14: sequences of array assignments in last-writer form (`applyAll_eq`, `writes_*`); the dictionary `start` builds in
closed form (`start_eq`) — `keys`, `entriesOfKey`, `firstKeys`, `valOf` are defined here and occur in C14's `none_lost*` statements;
`DelayFile.__init__` and what reaches the two loops (`mem_namedEntries_*`, `icEntries_*`); qualifier tokens (`edge_qualified`); the
`rfl` restatements of the value conventions. -/
namespace KV.Sdf

/-- **last writer**, through `foldl_eq_foldr_reverse`: on the reversed list the last writer is the first hit of `find?` -/
theorem applyAll_eq (ws : List W) (d l : Nat) (ip op : Bool) :
    applyAll ws d l ip op = if d < 3 then ((ws.reverse.find? (·.covers l ip)).map (·.val op d)).getD 0 else 0 := by
  rw [applyAll, List.foldl_eq_foldr_reverse]
  induction ws.reverse with
  | nil => simp [zeroArr]
  | cons w rs ih =>
    simp only [List.foldr_cons, List.find?_cons, W.apply]
    cases w.covers l ip <;> by_cases hd : d < 3 <;> simp [hd, ih]

theorem applyAll_high (ws : List W) (d l : Nat) (ip op : Bool) (hd : 3 ≤ d) : applyAll ws d l ip op = 0 := by
  rw [applyAll_eq, if_neg (by omega)]

theorem W.covers_of_line_ne {w : W} {l : Nat} (h : w.line ≠ l) (ip : Bool) : w.covers l ip = false := by
  simp [W.covers, Ne.symm h]

theorem W.val_norm (l : Nat) (ps : List Bool) (e : Entry) (op : Bool) (d : Nat) :
    (W.mk l ps (norm e.r) (norm e.f)).val op d = (norm (if op then e.f else e.r)).getD d 0 := by
  cases op <;> rfl

theorem ioWrite_eq_some {pinLine : PinTable} {n : String} {e : Entry} {w : W} :
    ioWrite pinLine n e = some w ↔
      ∃ l, pinLine (stripBackslash n) (pinOf e.a) = some l ∧ ⟨l, polsOf e.a, norm e.r, norm e.f⟩ = w :=
  Option.map_eq_some_iff

theorem icWrite_eq_some {icLine : IcTable} {e : Entry} {w : W} :
    icWrite icLine e = some w ↔ icSkip (norm e.r) (norm e.f) = false ∧
      ∃ l, icLine (stripBackslash (splitSlash e.a).1) (splitSlash e.a).2
              (stripBackslash (splitSlash e.b).1) (splitSlash e.b).2 = some l ∧
        ⟨l, [false, true], norm e.r, norm e.f⟩ = w := by
  cases h : icSkip (norm e.r) (norm e.f) <;> simp [icWrite, h]

/-! Both annotation loops are `applyAll (items.filterMap write)` for a partial `write`: `iopaths` over the (block name, entry) pairs
with `ioWrite`, `interconnects` over the entries of the top-level blocks with `icWrite` (`iopaths_def`, `interconnects_def`). -/
section writes
variable {α : Type} (write : α → Option W) (items : List α) (d l : Nat) (ip op : Bool)

/-- `hpost`: no later item writes the coordinate -/
theorem writes_lands (pre post : List α) (a : α) (w : W) (hsplit : items = pre ++ a :: post) (hw : write a = some w)
    (hc : w.covers l ip = true) (hd : d < 3)
    (hpost : ∀ p ∈ post, ∀ w', write p = some w' → w'.covers l ip = false) :
    applyAll (items.filterMap write) d l ip op = w.val op d := by
  rw [hsplit, List.filterMap_append, List.filterMap_cons, hw, applyAll_eq, if_pos hd, List.reverse_append, List.reverse_cons,
    List.append_assoc, List.find?_append, List.find?_eq_none.mpr fun w' hw' => by
      obtain ⟨p, hp, hpw⟩ := List.mem_filterMap.mp (List.mem_reverse.mp hw')
      simp [hpost p hp w' hpw]]
  simp [hc]

/-- several items may write a coordinate as long as all that do write the same value (normal for `iopaths`: WaveSim keeps one
delay per line, so every IOPATH of a cell into one input pin writes the same coordinate) -/
theorem writes_agree (a : α) (w : W) (v : Val) (ha : a ∈ items) (hw : write a = some w) (hc : w.covers l ip = true) (hd : d < 3)
    (hall : ∀ p ∈ items, ∀ w', write p = some w' → w'.covers l ip = true → w'.val op d = v) :
    applyAll (items.filterMap write) d l ip op = v := by
  rw [applyAll_eq, if_pos hd]
  cases hf : (items.filterMap write).reverse.find? (·.covers l ip) with
  | none =>
    exact absurd hc (by simpa using List.find?_eq_none.mp hf w (List.mem_reverse.mpr (List.mem_filterMap.mpr ⟨a, ha, hw⟩)))
  | some w' =>
    obtain ⟨p, hp, hpw⟩ := List.mem_filterMap.mp (List.mem_reverse.mp (List.mem_of_find?_eq_some hf))
    exact hall p hp w' hpw (List.find?_some (p := fun x : W => x.covers l ip) hf)

theorem writes_zero (h : ∀ p ∈ items, ∀ w, write p = some w → w.covers l ip = false) :
    applyAll (items.filterMap write) d l ip op = 0 := by
  rw [applyAll_eq, List.find?_eq_none.mpr fun w hw => by
    obtain ⟨p, hp, hpw⟩ := List.mem_filterMap.mp (List.mem_reverse.mp hw)
    simp [h p hp w hpw]]
  simp
end writes

theorem iopaths_def (pinLine : PinTable) (df : DelayFile) :
    iopaths pinLine df = applyAll ((namedEntries df).filterMap fun p => ioWrite pinLine p.1 p.2) := rfl
theorem interconnects_def (icLine : IcTable) (df : DelayFile) :
    interconnects icLine df = (icEntries df).map fun es => applyAll (es.filterMap (icWrite icLine)) := rfl

theorem ioWrite_covers {pinLine : PinTable} {n : String} {e : Entry} {w : W} (h : ioWrite pinLine n e = some w) (l : Nat) (ip : Bool) :
    w.covers l ip = true ↔ pinLine (stripBackslash n) (pinOf e.a) = some l ∧ ip ∈ polsOf e.a := by
  obtain ⟨l', hl', rfl⟩ := ioWrite_eq_some.mp h
  simp only [W.covers, Bool.and_eq_true, beq_iff_eq, List.contains_iff_mem, hl', Option.some.injEq]
  exact and_congr_left fun _ => eq_comm

theorem icWrite_covers {icLine : IcTable} {e : Entry} {w : W} (h : icWrite icLine e = some w) (l : Nat) (ip : Bool) :
    w.covers l ip = true ↔ w.line = l := by
  obtain ⟨_, l', _, rfl⟩ := icWrite_eq_some.mp h
  cases ip <;> simp only [W.covers, Bool.and_eq_true, beq_iff_eq] <;> simp <;> exact eq_comm

theorem iopaths_agree (pinLine : PinTable) (df : DelayFile) (n : String) (e : Entry) (l d : Nat) (ip op : Bool)
    (hmem : (n, e) ∈ namedEntries df) (hline : pinLine (stripBackslash n) (pinOf e.a) = some l)
    (hip : ip ∈ polsOf e.a) (hd : d < 3)
    (huniq : ∀ p ∈ namedEntries df, pinLine (stripBackslash p.1) (pinOf p.2.a) = some l → ip ∈ polsOf p.2.a →
      norm p.2.r = norm e.r ∧ norm p.2.f = norm e.f) :
    iopaths pinLine df d l ip op = (norm (if op then e.f else e.r)).getD d 0 := by
  rw [← W.val_norm l (polsOf e.a)]
  have hw : ioWrite pinLine n e = some _ := ioWrite_eq_some.mpr ⟨l, hline, rfl⟩
  refine writes_agree _ _ d l ip op (n, e) _ _ hmem hw ((ioWrite_covers hw l ip).mpr ⟨hline, hip⟩) hd fun p hp w' hw' hc => ?_
  obtain ⟨h1, h2⟩ := huniq p hp ((ioWrite_covers hw' l ip).mp hc).1 ((ioWrite_covers hw' l ip).mp hc).2
  obtain ⟨_, _, rfl⟩ := ioWrite_eq_some.mp hw'
  simp only [W.val, h1, h2]

theorem icWrites_agree (icLine : IcTable) (es : List Entry) (e : Entry) (l d : Nat) (ip op : Bool)
    (hmem : e ∈ es) (hskip : icSkip (norm e.r) (norm e.f) = false)
    (hline : icLine (stripBackslash (splitSlash e.a).1) (splitSlash e.a).2
                    (stripBackslash (splitSlash e.b).1) (splitSlash e.b).2 = some l) (hd : d < 3)
    (huniq : ∀ e' ∈ es, ∀ w, icWrite icLine e' = some w → w.line = l → norm e'.r = norm e.r ∧ norm e'.f = norm e.f) :
    applyAll (icWritesOf icLine es) d l ip op = (norm (if op then e.f else e.r)).getD d 0 := by
  rw [← W.val_norm l [false, true]]
  have hw : icWrite icLine e = some _ := icWrite_eq_some.mpr ⟨hskip, l, hline, rfl⟩
  refine writes_agree _ _ d l ip op e _ _ hmem hw ((icWrite_covers hw l ip).mpr rfl) hd fun p hp w' hw' hc => ?_
  obtain ⟨h1, h2⟩ := huniq p hp w' hw' ((icWrite_covers hw' l ip).mp hc)
  obtain ⟨_, _, _, rfl⟩ := icWrite_eq_some.mp hw'
  simp only [W.val, h1, h2]

def keys (d : Dict) : List (Option String) := d.map (·.1)

theorem hasKey_iff (d : Dict) (k : Option String) : hasKey d k = true ↔ k ∈ keys d := by
  simp [hasKey, keys, List.any_eq_true]

def entriesOfKey (cs : List (Option String × List Entry)) (k : Option String) : List Entry :=
  (cs.filter (·.1 == k)).flatMap (·.2)

theorem entriesOfKey_nil_of_not_mem (cs : List (Option String × List Entry)) (k : Option String)
    (h : ¬ k ∈ cs.map (·.1)) : entriesOfKey cs k = [] := by
  unfold entriesOfKey
  have : cs.filter (·.1 == k) = [] := by
    rw [List.filter_eq_nil_iff]
    intro p hp hk
    simp only [beq_iff_eq] at hk
    exact h (List.mem_map.mpr ⟨p, hp, hk⟩)
  rw [this]; rfl

theorem mem_entriesOfKey {cs : List (Option String × List Entry)} {k : Option String} {e : Entry} :
    e ∈ entriesOfKey cs k ↔ ∃ p ∈ cs, p.1 = k ∧ e ∈ p.2 := by
  unfold entriesOfKey
  simp only [List.mem_flatMap, List.mem_filter, beq_iff_eq]
  constructor
  · rintro ⟨p, ⟨hp, hk⟩, he⟩; exact ⟨p, hp, hk, he⟩
  · rintro ⟨p, hp, hk, he⟩; exact ⟨p, ⟨hp, hk⟩, he⟩

theorem entriesOfKey_eq_flat (cs : List (Option String × List Entry)) (k : Option String) :
    entriesOfKey cs k = ((cs.flatMap fun p => p.2.map fun e => (p.1, e)).filter (·.1 == k)).map (·.2) := by
  unfold entriesOfKey
  induction cs with
  | nil => rfl
  | cons p cs ih =>
    simp only [List.flatMap_cons, List.filter_append, List.map_append, List.filter_cons, ← ih, List.filter_map,
      Function.comp_def]
    by_cases hk : (p.1 == k) = true
    · simp [hk, Function.comp_def, List.filter_eq_self.mpr]
    · simp [hk]

/-- keys in the order of their first occurrence -/
def firstKeys (ks : List (Option String)) : List (Option String) :=
  ks.foldl (fun acc k => if k ∈ acc then acc else acc ++ [k]) []

theorem firstKeys_snoc (ks : List (Option String)) (k : Option String) :
    firstKeys (ks ++ [k]) = if k ∈ firstKeys ks then firstKeys ks else firstKeys ks ++ [k] := by
  unfold firstKeys; rw [List.foldl_append]; rfl

theorem mem_firstKeys (ks : List (Option String)) (k : Option String) : k ∈ firstKeys ks ↔ k ∈ ks := by
  induction ks using snoc_ind with
  | h0 => simp [firstKeys]
  | hs l a ih =>
    rw [firstKeys_snoc, List.mem_append, List.mem_singleton, ← ih]
    split
    · rename_i h; exact ⟨Or.inl, fun h' => h'.elim id fun e => e ▸ h⟩
    · rw [List.mem_append, List.mem_singleton]

/-- what `dict(...)` files under a key: the value of the last block of that name, resp. all their entries in file order -/
def valOf (m : Mode) (cs : List (Option String × List Entry)) (k : Option String) : List Entry :=
  match m with
  | .lastWins => ((cs.reverse.find? (·.1 == k)).map (·.2)).getD []
  | .merge => entriesOfKey cs k

theorem valOf_snoc (m : Mode) (cs : List (Option String × List Entry)) (c : Option String × List Entry) (k : Option String) :
    valOf m (cs ++ [c]) k =
      if c.1 = k then (match m with | .lastWins => c.2 | .merge => valOf .merge cs k ++ c.2) else valOf m cs k := by
  by_cases h : c.1 = k
  · cases m <;> simp [valOf, entriesOfKey, h, List.filter_append]
  · have : (c.1 == k) = false := by simpa using h
    cases m <;> simp [valOf, entriesOfKey, h, this, List.filter_append]

/-- **`dict(...)` in closed form**: the keys in the order of their first occurrence, each with `valOf` -/
theorem foldl_dictPut_eq (m : Mode) (cs : List (Option String × List Entry)) :
    cs.foldl (dictPut m) [] = (firstKeys (cs.map (·.1))).map fun k => (k, valOf m cs k) := by
  induction cs using snoc_ind with
  | h0 => rfl
  | hs cs c ih =>
    have hk : keys ((firstKeys (cs.map (·.1))).map fun k => (k, valOf m cs k)) = firstKeys (cs.map (·.1)) := by
      simp [keys, Function.comp_def]
    rw [List.foldl_append, List.foldl_cons, List.foldl_nil, ih, List.map_append, List.map_cons, List.map_nil, firstKeys_snoc]
    unfold dictPut
    by_cases hc : c.1 ∈ firstKeys (cs.map (·.1))
    · rw [if_pos ((hasKey_iff _ _).mpr (hk.symm ▸ hc)), if_pos hc, List.map_map]
      apply List.map_congr_left
      intro k _
      simp only [Function.comp, valOf_snoc, beq_iff_eq, eq_comm (a := k)]
      split <;> cases m <;> rfl
    · rw [if_neg (by rw [hasKey_iff, hk]; exact hc), if_neg hc, List.map_append]
      congr 1
      · apply List.map_congr_left
        intro k hk'
        rw [valOf_snoc, if_neg (fun e : c.1 = k => hc (e ▸ hk'))]
      · have : valOf .merge cs c.1 = [] :=
          entriesOfKey_nil_of_not_mem cs c.1 fun h => hc ((mem_firstKeys _ _).mpr h)
        cases m <;> simp [valOf_snoc, this]

theorem start_eq (m : Mode) (B : List RawCell) :
    start m B = (firstKeys ((B.map cell).map (·.1))).map fun k => (k, valOf m (B.map cell) k) := foldl_dictPut_eq m _

theorem dictGet_keymap (ks : List (Option String)) (f : Option String → List Entry) (k : Option String) :
    dictGet (ks.map fun k => (k, f k)) k = if k ∈ ks then some (f k) else none := by
  unfold dictGet
  rw [List.find?_map]
  induction ks with
  | nil => rfl
  | cons a ks ih =>
    by_cases h : a = k
    · simp [h]
    · have hb : (a == k) = false := by simpa using h
      have : ¬ k = a := fun e => h e.symm
      simp only [List.find?_cons, Function.comp, hb, List.mem_cons, this, false_or]
      exact ih

theorem dictGet_start (m : Mode) (B : List RawCell) (k : Option String) :
    dictGet (start m B) k = if k ∈ (B.map cell).map (·.1) then some (valOf m (B.map cell) k) else none := by
  rw [start_eq, dictGet_keymap]; simp only [mem_firstKeys]

theorem mem_valOf {m : Mode} {cs : List (Option String × List Entry)} {k : Option String} {e : Entry}
    (h : e ∈ valOf m cs k) : ∃ p ∈ cs, p.1 = k ∧ e ∈ p.2 := by
  cases m with
  | merge => exact mem_entriesOfKey.mp h
  | lastWins =>
    unfold valOf at h
    cases hf : cs.reverse.find? (·.1 == k) with
    | none => simp [hf] at h
    | some p =>
      simp only [hf, Option.map_some, Option.getD_some] at h
      exact ⟨p, List.mem_reverse.mp (List.mem_of_find?_eq_some hf), by simpa using List.find?_some hf, h⟩

theorem mem_start_origin {m : Mode} {B : List RawCell} {k : Option String} {es : List Entry} {e : Entry}
    (h : (k, es) ∈ start m B) (he : e ∈ es) : ∃ c ∈ B, (cell c).1 = k ∧ e ∈ (cell c).2 := by
  rw [start_eq] at h
  obtain ⟨k', _, hk⟩ := List.mem_map.mp h
  cases hk
  obtain ⟨p, hp, h1, h2⟩ := mem_valOf he
  obtain ⟨c, hc, rfl⟩ := List.mem_map.mp hp
  exact ⟨c, hc, h1, h2⟩

theorem dictGet_start_merge (B : List RawCell) (k : Option String) :
    dictGet (start .merge B) k =
      if k ∈ (B.map cell).map (·.1) then some (entriesOfKey (B.map cell) k) else none := dictGet_start .merge B k

theorem dictGet_start_lastWins (B : List RawCell) (k : Option String) :
    dictGet (start .lastWins B) k = ((B.map cell).reverse.find? (·.1 == k)).map (·.2) := by
  rw [dictGet_start]
  unfold valOf
  cases hf : (B.map cell).reverse.find? (·.1 == k) with
  | none =>
    rw [if_neg]; · rfl
    intro hm
    obtain ⟨p, hp, hk⟩ := List.mem_map.mp hm
    simpa [hk] using List.find?_eq_none.mp hf p (List.mem_reverse.mpr hp)
  | some p =>
    rw [if_pos]; · rfl
    exact List.mem_map.mpr ⟨p, List.mem_reverse.mp (List.mem_of_find?_eq_some hf), by simpa using List.find?_some hf⟩

theorem foldl_dictPut_nodup (m : Mode) (cs : List (Option String × List Entry)) (d : Dict)
    (h : (keys d ++ cs.map (·.1)).Nodup) : cs.foldl (dictPut m) d = d ++ cs := by
  induction cs generalizing d with
  | nil => simp
  | cons c cs ih =>
    simp only [List.foldl_cons]
    have hc : ¬ c.1 ∈ keys d := by
      intro hm
      rw [List.nodup_append] at h
      exact h.2.2 _ hm _ (by simp) rfl
    have hput : dictPut m d c = d ++ [c] := by
      simp [dictPut, Bool.eq_false_iff.mpr (mt (hasKey_iff d c.1).mp hc)]
    rw [hput, ih]
    · simp
    · simpa [keys, List.append_assoc] using h

theorem mem_of_dictGet (d : Dict) (k : Option String) (es : List Entry) (h : dictGet d k = some es) :
    (k, es) ∈ d := by
  unfold dictGet at h
  cases hf : List.find? (fun x => x.1 == k) d with
  | none => simp [hf] at h
  | some x =>
    simp only [hf, Option.map_some, Option.some.injEq] at h
    have hx := List.mem_of_find?_eq_some hf
    have hk := List.find?_some hf
    simp only [beq_iff_eq] at hk
    rcases x with ⟨k', v⟩
    simp only at hk h
    subst hk; subst h
    exact hx



theorem mem_namedEntries_mk {d : Dict} {n : String} {e : Entry} :
    (n, e) ∈ namedEntries (mkDelayFile d) ↔ n ≠ "" ∧ ∃ es, (some n, es) ∈ d ∧ e ∈ es := by
  simp only [namedEntries, mkDelayFile, List.mem_flatMap, List.mem_filterMap, List.mem_map, Prod.mk.injEq]
  constructor
  · rintro ⟨_, ⟨⟨k, es⟩, hp, hk⟩, _, he, rfl, rfl⟩
    cases k with
    | none => cases hk
    | some n' =>
      by_cases hn : n' = ""
      · simp [hn] at hk
      · simp only [ne_eq, hn, not_false_eq_true, if_true, Option.some.injEq] at hk
        subst hk
        exact ⟨hn, es, hp, he⟩
  · rintro ⟨hn, es, hp, he⟩
    exact ⟨(n, es), ⟨(some n, es), hp, by simp [hn]⟩, e, he, rfl, rfl⟩

theorem mem_namedEntries_origin (m : Mode) (B : List RawCell) (n : String) (e : Entry)
    (h : (n, e) ∈ namedEntries (parse m B)) : ∃ c ∈ B, c.insts.head? = some n ∧ ∃ x ∈ c.delays.flatten, e = sanitize x := by
  obtain ⟨_, es, hd, he⟩ := mem_namedEntries_mk.mp h
  obtain ⟨c, hc, hn, he⟩ := mem_start_origin hd he
  obtain ⟨x, hx, rfl⟩ := List.mem_map.mp he
  exact ⟨c, hc, hn, x, hx, rfl⟩

theorem icEntries_origin (m : Mode) (B : List RawCell) (es : List Entry) (hes : icEntries (parse m B) = some es)
    (e : Entry) (h : e ∈ es) : ∃ c ∈ B, ∃ x ∈ c.delays.flatten, e = sanitize x := by
  obtain ⟨c, hc, _, he⟩ := mem_start_origin (mem_of_dictGet _ _ _ hes) h
  obtain ⟨x, hx, rfl⟩ := List.mem_map.mp he
  exact ⟨c, hc, x, hx, rfl⟩

/-- `Mode.merge` (the code's `setdefault(..).extend`): every entry of every named block reaches the IOPATH loop -/
theorem mem_namedEntries_merge (B : List RawCell) (c : RawCell) (n : String) (e : Entry)
    (hc : c ∈ B) (hn : (cell c).1 = some n) (hne : n ≠ "") (he : e ∈ (cell c).2) :
    (n, e) ∈ namedEntries (parse .merge B) := by
  unfold parse
  rw [mem_namedEntries_mk]
  refine ⟨hne, entriesOfKey (B.map cell) (some n), ?_, ?_⟩
  · apply mem_of_dictGet
    rw [dictGet_start_merge, if_pos]
    exact List.mem_map.mpr ⟨cell c, List.mem_map.mpr ⟨c, hc, rfl⟩, hn⟩
  · exact mem_entriesOfKey.mpr ⟨cell c, List.mem_map.mpr ⟨c, hc, rfl⟩, hn, he⟩

/-- `Mode.lastWins` (a plain `dict(...)`): the entries of the LAST block of a name reach the IOPATH loop -/
theorem mem_namedEntries_lastWins (B1 B2 : List RawCell) (c : RawCell) (n : String) (e : Entry)
    (hn : (cell c).1 = some n) (hne : n ≠ "") (he : e ∈ (cell c).2)
    (hlast : ∀ c' ∈ B2, (cell c').1 ≠ some n) :
    (n, e) ∈ namedEntries (parse .lastWins (B1 ++ c :: B2)) := by
  unfold parse
  rw [mem_namedEntries_mk]
  refine ⟨hne, (cell c).2, ?_, he⟩
  apply mem_of_dictGet
  rw [dictGet_start_lastWins]
  simp only [List.map_append, List.map_cons, List.reverse_append, List.reverse_cons, List.find?_append]
  rw [List.find?_eq_none.mpr]
  · simp [hn]
  · intro p hp hk
    simp only [beq_iff_eq] at hk
    rw [List.mem_reverse] at hp
    rcases List.mem_map.mp hp with ⟨c', hc', rfl⟩
    exact hlast c' hc' hk

theorem icEntries_merge (B : List RawCell) :
    icEntries (parse .merge B) =
      if none ∈ (B.map cell).map (·.1) then some (entriesOfKey (B.map cell) none) else none :=
  dictGet_start .merge B none

theorem icEntries_lastWins (B : List RawCell) :
    icEntries (parse .lastWins B) = ((B.map cell).reverse.find? (·.1 == none)).map (·.2) :=
  dictGet_start_lastWins B none

theorem firstKeys_dup (l1 l2 : List (Option String)) (k : Option String) :
    firstKeys (l1 ++ k :: k :: l2) = firstKeys (l1 ++ k :: l2) := by
  unfold firstKeys
  simp only [List.foldl_append, List.foldl_cons]
  congr 1
  split <;> simp_all

theorem entriesOfKey_split (cs1 cs2 : List (Option String × List Entry)) (k k' : Option String) (v1 v2 : List Entry) :
    entriesOfKey (cs1 ++ (k, v1) :: (k, v2) :: cs2) k' = entriesOfKey (cs1 ++ (k, v1 ++ v2) :: cs2) k' := by
  unfold entriesOfKey
  cases h : k == k' <;> simp [List.filter_append, h]

theorem posPrefix_eq : "(posedge ".toList = posPrefix := by decide +kernel
theorem negPrefix_eq : "(negedge ".toList = negPrefix := by decide +kernel
theorem rpar_eq : ")".toList = [')'] := by decide +kernel

/-- an edge-qualified token `(posedge P)` / `(negedge P)`: one input polarity, and the pin is what stands between the nine
characters of the prefix and the closing parenthesis (`pre` = the prefix, `b` = its polarity) -/
theorem edge_qualified (pre : String) (b : Bool)
    (hpre : pre.toList = posPrefix ∧ b = false ∨ pre.toList = negPrefix ∧ b = true)
    (p : String) (h1 : p.toList ≠ []) (h2 : ')' ∉ p.toList) :
    polsOf (pre ++ p ++ ")") = [b] ∧ pinOf (pre ++ p ++ ")") = p := by
  generalize hpl : pre.toList = pl at hpre
  have hl : (pre ++ p ++ ")").toList = pl ++ (p.toList ++ [')']) := by
    rw [String.toList_append, String.toList_append, hpl, rpar_eq, List.append_assoc]
  have hpf : pl.isPrefixOf (pl ++ (p.toList ++ [')'])) = true := by
    rw [List.isPrefixOf_iff_prefix]; exact List.prefix_append _ _
  have hlen : pl.length = 9 := by rcases hpre with ⟨h, _⟩ | ⟨h, _⟩ <;> rw [h] <;> decide
  have hd : List.drop 9 (pl ++ (p.toList ++ [')'])) = p.toList ++ [')'] := by
    rw [← hlen, List.drop_left]
  have hor : (posPrefix.isPrefixOf (pl ++ (p.toList ++ [')'])) || negPrefix.isPrefixOf (pl ++ (p.toList ++ [')']))) = true := by
    rcases hpre with ⟨h, _⟩ | ⟨h, _⟩ <;> simp [← h, hpf]
  refine ⟨?_, ?_⟩
  · rcases hpre with ⟨rfl, rfl⟩ | ⟨rfl, rfl⟩
    · unfold polsOf; rw [hl, hpf]; rfl
    · have hnp : posPrefix.isPrefixOf (negPrefix ++ (p.toList ++ [')'])) = false := by
        simp [posPrefix, negPrefix, List.isPrefixOf]
      unfold polsOf; rw [hl, hnp, hpf]; rfl
  · unfold pinOf
    simp only [hl, hor, if_true]
    rw [hd, List.dropLast_concat, ← List.append_assoc, List.getLast?_concat]
    simp [h1, h2, String.ofList_toList]

theorem not_prefix_of_head (q s : List Char) (hq : q.head? = some '(') (h : s.head? ≠ some '(') :
    q.isPrefixOf s = false := by
  cases s with
  | nil => cases q with
    | nil => simp at hq
    | cons a q => rfl
  | cons c cs =>
    cases q with
    | nil => simp at hq
    | cons a q =>
      simp at hq; subst hq
      have : c ≠ '(' := by intro hc; apply h; simp [hc]
      simp [List.isPrefixOf]
      exact fun h => absurd h.symm this

/-- `(a::)`, `(::c)`: an empty field reads as 0 -/
theorem triple_empty_fields (a c : Val) :
    triple [some a, none, none] = [a, 0, 0] ∧ triple [none, none, some c] = [0, 0, c] ∧
    triple [none, none, none] = [0, 0, 0] := ⟨rfl, rfl, rfl⟩

/-- `()` gives the empty list, which both annotation loops replace by three zeros -/
theorem triple_unit : triple [] = [] ∧ norm (triple []) = [0, 0, 0] := ⟨rfl, rfl⟩

theorem norm_full (a b c : Val) : norm [a, b, c] = [a, b, c] := rfl

/-- a single value list applies to both output polarities -/
theorem sanitize_single (a b : String) (t : RawTriple) :
    (sanitize ⟨a, b, [t]⟩).r = triple t ∧ (sanitize ⟨a, b, [t]⟩).f = triple t := ⟨rfl, rfl⟩

/-- two value lists: first = rising output, second = falling output -/
theorem sanitize_pair (a b : String) (t u : RawTriple) :
    (sanitize ⟨a, b, [t, u]⟩).r = triple t ∧ (sanitize ⟨a, b, [t, u]⟩).f = triple u := ⟨rfl, rfl⟩


end KV.Sdf
