import KyupyVerif.Model.Comp
/-! The 33 primitives as syntax.  `comp8`, `comp4` and `formulaF` spell out the same compositions of NOT / AND /
OR / XOR three times, over three value domains.  `PExpr` is that composition once, `PExpr.eval A` reads it in
an algebra `A`, and `PExpr.eval_rel` is the one induction every operator-level fact is lifted by: a relation
that the operators of two algebras preserve is preserved by every composition.  With `R x y := f x = y` it says that `f` commutes
with `eval`, which is how it is used to rewrite. -/
namespace KV

inductive Conn | and | or | xor

/-- compositions over the four operand positions; the operators take two to four operands, as in `sim.py` -/
inductive PExpr
  | var (i : Fin 4)
  | not (e : PExpr)
  | op2 (f : Conn) (x y : PExpr)
  | op3 (f : Conn) (x y z : PExpr)
  | op4 (f : Conn) (w x y z : PExpr)

structure Alg (β : Type) where
  not : β → β
  op2 : Conn → β → β → β
  op3 : Conn → β → β → β → β
  op4 : Conn → β → β → β → β → β

def Alg.ofList {β} (not : β → β) (op : Conn → List β → β) : Alg β :=
  ⟨not, fun f a b => op f [a, b], fun f a b c => op f [a, b, c], fun f a b c d => op f [a, b, c, d]⟩

def PExpr.eval {β} (A : Alg β) (a b c d : β) : PExpr → β
  | .var 0 => a
  | .var 1 => b
  | .var 2 => c
  | .var 3 => d
  | .not e => A.not (e.eval A a b c d)
  | .op2 f x y => A.op2 f (x.eval A a b c d) (y.eval A a b c d)
  | .op3 f x y z => A.op3 f (x.eval A a b c d) (y.eval A a b c d) (z.eval A a b c d)
  | .op4 f w x y z => A.op4 f (w.eval A a b c d) (x.eval A a b c d) (y.eval A a b c d) (z.eval A a b c d)

structure Alg.Rel {β γ} (R : β → γ → Prop) (A : Alg β) (B : Alg γ) : Prop where
  not : ∀ {x y}, R x y → R (A.not x) (B.not y)
  op2 : ∀ f {x₁ y₁ x₂ y₂}, R x₁ y₁ → R x₂ y₂ → R (A.op2 f x₁ x₂) (B.op2 f y₁ y₂)
  op3 : ∀ f {x₁ y₁ x₂ y₂ x₃ y₃}, R x₁ y₁ → R x₂ y₂ → R x₃ y₃ → R (A.op3 f x₁ x₂ x₃) (B.op3 f y₁ y₂ y₃)
  op4 : ∀ f {x₁ y₁ x₂ y₂ x₃ y₃ x₄ y₄}, R x₁ y₁ → R x₂ y₂ → R x₃ y₃ → R x₄ y₄ →
    R (A.op4 f x₁ x₂ x₃ x₄) (B.op4 f y₁ y₂ y₃ y₄)

theorem PExpr.eval_rel {β γ} {R : β → γ → Prop} {A : Alg β} {B : Alg γ} (h : Alg.Rel R A B)
    {a b c d : β} {a' b' c' d' : γ} (ha : R a a') (hb : R b b') (hc : R c c') (hd : R d d') (e : PExpr) :
    R (e.eval A a b c d) (e.eval B a' b' c' d') := by
  induction e with
  | var i => match i with
    | 0 => exact ha
    | 1 => exact hb
    | 2 => exact hc
    | 3 => exact hd
  | not e ih => exact h.not ih
  | op2 f x y ihx ihy => exact h.op2 f ihx ihy
  | op3 f x y z ihx ihy ihz => exact h.op3 f ihx ihy ihz
  | op4 f w x y z ihw ihx ihy ihz => exact h.op4 f ihw ihx ihy ihz

theorem Alg.Rel.of_map {β γ} {A : Alg β} {B : Alg γ} (m : β → γ) (hnot : ∀ x, m (A.not x) = B.not (m x))
    (h2 : ∀ f x y, m (A.op2 f x y) = B.op2 f (m x) (m y)) (h3 : ∀ f x y z, m (A.op3 f x y z) = B.op3 f (m x) (m y) (m z))
    (h4 : ∀ f w x y z, m (A.op4 f w x y z) = B.op4 f (m w) (m x) (m y) (m z)) : Alg.Rel (fun x y => m x = y) A B :=
  ⟨fun h => h ▸ hnot _, fun f _ _ _ _ h₁ h₂ => h₁ ▸ h₂ ▸ h2 f _ _, fun f _ _ _ _ _ _ h₁ h₂ h₃ => h₁ ▸ h₂ ▸ h₃ ▸ h3 f _ _ _,
    fun f _ _ _ _ _ _ _ _ h₁ h₂ h₃ h₄ => h₁ ▸ h₂ ▸ h₃ ▸ h₄ ▸ h4 f _ _ _ _⟩

theorem Alg.Rel.comp {α β γ} {A : Alg α} {B : Alg β} {C : Alg γ} {R : α → β → Prop} {S : β → γ → Prop}
    (h₁ : Alg.Rel R A B) (h₂ : Alg.Rel S B C) : Alg.Rel (fun x z => ∃ y, R x y ∧ S y z) A C :=
  ⟨fun ⟨_, r, s⟩ => ⟨_, h₁.not r, h₂.not s⟩,
   fun f _ _ _ _ ⟨_, r₁, s₁⟩ ⟨_, r₂, s₂⟩ => ⟨_, h₁.op2 f r₁ r₂, h₂.op2 f s₁ s₂⟩,
   fun f _ _ _ _ _ _ ⟨_, r₁, s₁⟩ ⟨_, r₂, s₂⟩ ⟨_, r₃, s₃⟩ => ⟨_, h₁.op3 f r₁ r₂ r₃, h₂.op3 f s₁ s₂ s₃⟩,
   fun f _ _ _ _ _ _ _ _ ⟨_, r₁, s₁⟩ ⟨_, r₂, s₂⟩ ⟨_, r₃, s₃⟩ ⟨_, r₄, s₄⟩ => ⟨_, h₁.op4 f r₁ r₂ r₃ r₄, h₂.op4 f s₁ s₂ s₃ s₄⟩⟩

def fam8 : Conn → List V3 → V3
  | .and => specAnd | .or => specOr | .xor => specXor
def fam4 : Conn → List V2 → V2
  | .and => spec4And | .or => spec4Or | .xor => spec4Xor
def famB : Conn → List Bool → Bool
  | .and => (·.all id) | .or => (·.any id) | .xor => (·.foldl (· ^^ ·) false)

def spec8 : Alg V3 := .ofList specNot fam8
def spec4 : Alg V2 := .ofList spec4Not fam4
def specB : Alg Bool := .ofList (!·) famB

open PExpr Conn in
def primExpr : List (String × PExpr) :=
  [("BUF1", var 0), ("INV1", not (var 0)),
   ("AND2", op2 and (var 0) (var 1)), ("AND3", op3 and (var 0) (var 1) (var 2)), ("AND4", op4 and (var 0) (var 1) (var 2) (var 3)),
   ("NAND2", not (op2 and (var 0) (var 1))), ("NAND3", not (op3 and (var 0) (var 1) (var 2))),
   ("NAND4", not (op4 and (var 0) (var 1) (var 2) (var 3))),
   ("OR2", op2 or (var 0) (var 1)), ("OR3", op3 or (var 0) (var 1) (var 2)), ("OR4", op4 or (var 0) (var 1) (var 2) (var 3)),
   ("NOR2", not (op2 or (var 0) (var 1))), ("NOR3", not (op3 or (var 0) (var 1) (var 2))),
   ("NOR4", not (op4 or (var 0) (var 1) (var 2) (var 3))),
   ("XOR2", op2 xor (var 0) (var 1)), ("XOR3", op3 xor (var 0) (var 1) (var 2)), ("XOR4", op4 xor (var 0) (var 1) (var 2) (var 3)),
   ("XNOR2", not (op2 xor (var 0) (var 1))), ("XNOR3", not (op3 xor (var 0) (var 1) (var 2))),
   ("XNOR4", not (op4 xor (var 0) (var 1) (var 2) (var 3))),
   ("AO21", op2 or (op2 and (var 0) (var 1)) (var 2)), ("AOI21", not (op2 or (op2 and (var 0) (var 1)) (var 2))),
   ("AO22", op2 or (op2 and (var 0) (var 1)) (op2 and (var 2) (var 3))),
   ("AOI22", not (op2 or (op2 and (var 0) (var 1)) (op2 and (var 2) (var 3)))),
   ("OA21", op2 and (op2 or (var 0) (var 1)) (var 2)), ("OAI21", not (op2 and (op2 or (var 0) (var 1)) (var 2))),
   ("OA22", op2 and (op2 or (var 0) (var 1)) (op2 or (var 2) (var 3))),
   ("OAI22", not (op2 and (op2 or (var 0) (var 1)) (op2 or (var 2) (var 3)))),
   ("AO211", op3 or (op2 and (var 0) (var 1)) (var 2) (var 3)), ("AOI211", not (op3 or (op2 and (var 0) (var 1)) (var 2) (var 3))),
   ("OA211", op3 and (op2 or (var 0) (var 1)) (var 2) (var 3)), ("OAI211", not (op3 and (op2 or (var 0) (var 1)) (var 2) (var 3))),
   ("MUX21", op2 or (op2 and (var 0) (not (var 2))) (op2 and (var 1) (var 2)))]

theorem primExpr_names : primExpr.map (·.1) = primNames := by decide +kernel

end KV
