import KyupyVerif.Proofs.VerilogFlat
/-! Which flat lines a module of the fragment has (`vFlat_inst_out` … `vFlat_conn`; the converse is `vFlat_cases` in
Proofs/VerilogNodes.lean), one line per reader end point (`VOK.readers`), who reads what (`inst_pin_line`,
`driven_has_line`, `inSig_iff`). -/
namespace KV.Netlist
open KV

def epFork : Ep → Option String
  | .fork s => some s
  | .cell _ _ => none
def epCell : Ep → Option (String × Nat)
  | .cell n p => some (n, p)
  | .fork _ => none

theorem nodup_ep (l : List Ep) (h1 : (l.filterMap epFork).Nodup) (h2 : (l.filterMap epCell).Nodup) : l.Nodup := by
  induction l with
  | nil => exact List.nodup_nil
  | cons e r ih =>
    cases e with
    | fork s =>
      simp only [List.filterMap_cons, epFork, epCell, List.nodup_cons] at h1 h2
      refine List.nodup_cons.mpr ⟨fun hm => h1.1 (List.mem_filterMap.mpr ⟨_, hm, rfl⟩), ih h1.2 h2⟩
    | cell n p =>
      simp only [List.filterMap_cons, epFork, epCell, List.nodup_cons] at h1 h2
      refine List.nodup_cons.mpr ⟨fun hm => h2.1 (List.mem_filterMap.mpr ⟨_, hm, rfl⟩), ih h1 h2.2⟩

theorem mem_inputNames (ds : List Decl) (n : String) : n ∈ inputNames ds ↔ ∃ d ∈ ds, d.kind = .input ∧ n ∈ d.names := by
  unfold inputNames
  simp only [List.mem_flatMap, List.mem_filter, beq_iff_eq]
  constructor
  · rintro ⟨d, ⟨h1, h2⟩, h3⟩; exact ⟨d, h1, h2, h3⟩
  · rintro ⟨d, h1, h2, h3⟩; exact ⟨d, ⟨h1, h2⟩, h3⟩

theorem mem_outputNames (ds : List Decl) (n : String) : n ∈ outputNames ds ↔ ∃ d ∈ ds, d.kind = .output ∧ n ∈ d.names := by
  unfold outputNames
  simp only [List.mem_flatMap, List.mem_filter, beq_iff_eq]
  constructor
  · rintro ⟨d, ⟨h1, h2⟩, h3⟩; exact ⟨d, h1, h2, h3⟩
  · rintro ⟨d, h1, h2, h3⟩; exact ⟨d, ⟨h1, h2⟩, h3⟩

theorem mem_portBitNames (ds : List Decl) (n : String) : n ∈ portBitNames ds ↔ ∃ d ∈ ds, d.kind ≠ .wire ∧ n ∈ d.names := by
  unfold portBitNames
  simp only [List.mem_flatMap, List.mem_filter, bne_iff_ne, ne_eq]
  constructor
  · rintro ⟨d, ⟨h1, h2⟩, h3⟩; exact ⟨d, h1, h2, h3⟩
  · rintro ⟨d, h1, h2, h3⟩; exact ⟨d, ⟨h1, h2⟩, h3⟩

theorem mem_portBitNames_of_input (ds : List Decl) (n : String) (h : n ∈ inputNames ds) : n ∈ portBitNames ds := by
  obtain ⟨d, hd, hk, hn⟩ := (mem_inputNames ds n).mp h
  exact (mem_portBitNames ds n).mpr ⟨d, hd, by simp [hk], hn⟩

theorem mem_portBitNames_of_output (ds : List Decl) (n : String) (h : n ∈ outputNames ds) : n ∈ portBitNames ds := by
  obtain ⟨d, hd, hk, hn⟩ := (mem_outputNames ds n).mp h
  exact (mem_portBitNames ds n).mpr ⟨d, hd, by simp [hk], hn⟩

theorem outputNames_nodup (ds : List Decl) (h : (portBitNames ds).Nodup) : (outputNames ds).Nodup := by
  induction ds with
  | nil => exact List.nodup_nil
  | cons d r ih =>
    unfold portBitNames at h
    unfold outputNames
    simp only [List.filter_cons] at h ⊢
    cases hk : d.kind with
    | wire =>
      simp only [hk] at h ⊢
      exact ih h
    | input =>
      simp only [hk] at h ⊢
      have h' : (d.names ++ portBitNames r).Nodup := h
      exact ih (List.nodup_append.mp h').2.1
    | output =>
      simp only [hk] at h ⊢
      have h' : (d.names ++ portBitNames r).Nodup := h
      obtain ⟨h1, h2, h3⟩ := List.nodup_append.mp h'
      show (d.names ++ outputNames r).Nodup
      exact List.nodup_append.mpr ⟨h1, ih h2, fun a ha b hb => h3 a ha b (mem_portBitNames_of_output r b hb)⟩

section
variable {cfg : Cfg} {tl : TL} {ports : List String} {stmts : List Stmt}

theorem mem_connLines (bf : Bool) (k : Nat) (i : VInst) (c : String × Nat × String) (t : VLine) :
    t ∈ connLines bf k (i, c) ↔
      (isConstLit c.2.2 = true ∧ t = ⟨.cell (constName c.2.2 k) 0, .fork (constName c.2.2 k), c.2.2⟩) ∨
      (bf = true ∧ (t = ⟨.fork (srcFork k c), .fork (branchName (srcFork k c) i.name c.1), c.2.2⟩ ∨
                    t = ⟨.fork (branchName (srcFork k c) i.name c.1), .cell i.name c.2.1, c.2.2⟩)) ∨
      (bf = false ∧ t = ⟨.fork (srcFork k c), .cell i.name c.2.1, c.2.2⟩) := by
  unfold connLines
  cases bf <;> by_cases hc : isConstLit c.2.2 = true <;> simp [hc]

theorem vFlat_inst_out (ds : List Decl) (i : VInst) (hi : i ∈ vInsts stmts) (o : Nat × String) (ho : o ∈ outConn tl ds i) :
    (⟨.cell i.name o.1, .fork o.2, o.2⟩ : VLine) ∈ vFlat cfg tl ds stmts := by
  unfold vFlat
  simp only [List.mem_append, List.mem_flatMap, List.mem_map]
  exact Or.inl (Or.inl (Or.inl (Or.inl ⟨i, hi, o, ho, rfl⟩)))

theorem vFlat_input (ds : List Decl) (n : String) (hn : n ∈ inputNames ds) : (⟨.cell n 0, .fork n, n⟩ : VLine) ∈ vFlat cfg tl ds stmts := by
  unfold vFlat
  simp only [List.mem_append, List.mem_flatMap, List.mem_map]
  exact Or.inl (Or.inl (Or.inl (Or.inr ⟨n, hn, rfl⟩)))

theorem vFlat_output (ds : List Decl) (n : String) (hn : n ∈ outputNames ds) : (⟨.fork n, .cell n 0, n⟩ : VLine) ∈ vFlat cfg tl ds stmts := by
  unfold vFlat
  simp only [List.mem_append, List.mem_flatMap, List.mem_map]
  exact Or.inr ⟨n, hn, rfl⟩

theorem vFlat_pair (ds : List Decl) (ts : String × String) (hts : ts ∈ assignPairs ds stmts) :
    ∃ t ∈ vFlat cfg tl ds stmts, t.r = .fork ts.1 ∧ t.sig = ts.2 := by
  obtain ⟨k, hk⟩ := walk_of_mem (fun k (ts : String × String) => nextK k ts.2) pairLines 0 (assignPairs ds stmts) ts hts
  have hm : ∀ t ∈ pairLines k ts, t ∈ vFlat cfg tl ds stmts := fun t ht => by
    unfold vFlat
    simp only [List.mem_append]
    exact Or.inl (Or.inl (Or.inr (hk t ht)))
  unfold pairLines at hm
  split at hm <;> exact ⟨_, hm _ (List.mem_singleton.mpr rfl), rfl, rfl⟩

theorem vFlat_conn (ds : List Decl) (i : VInst) (hi : i ∈ vInsts stmts) (c : String × Nat × String) (hc : c ∈ inConn tl i) :
    ∃ k, ∀ t ∈ connLines cfg.bf k (i, c), t ∈ vFlat cfg tl ds stmts := by
  obtain ⟨k, hk⟩ := connWalk_of_mem (tl := tl) (connLines cfg.bf) ((assignPairs ds stmts).foldl (fun k ts => nextK k ts.2) 0) (vInsts stmts) i hi c hc
  refine ⟨k, fun t ht => ?_⟩
  unfold vFlat
  simp only [List.mem_append]
  exact Or.inl (Or.inr (hk t ht))

theorem mem_drivenSigs (ds : List Decl) (s : String) : s ∈ drivenSigs tl ds stmts ↔
    (∃ i ∈ vInsts stmts, ∃ o ∈ outConn tl ds i, o.2 = s) ∨ s ∈ inputNames ds ∨ ∃ ts ∈ assignPairs ds stmts, ts.1 = s := by
  unfold drivenSigs
  simp only [List.mem_append, List.mem_flatMap, List.mem_map, or_assoc]

theorem driven_of_out (ds : List Decl) (i : VInst) (hi : i ∈ vInsts stmts) (o : Nat × String) (ho : o ∈ outConn tl ds i) :
    o.2 ∈ drivenSigs tl ds stmts := (mem_drivenSigs ds o.2).mpr (Or.inl ⟨i, hi, o, ho, rfl⟩)

theorem driven_of_input (ds : List Decl) (n : String) (hn : n ∈ inputNames ds) : n ∈ drivenSigs tl ds stmts :=
  (mem_drivenSigs ds n).mpr (Or.inr (Or.inl hn))

theorem driven_has_line (ds : List Decl) (s : String) (hs : s ∈ drivenSigs tl ds stmts) :
    ∃ t ∈ vFlat cfg tl ds stmts, t.r = .fork s := by
  rcases (mem_drivenSigs ds s).mp hs with ⟨i, hi, o, ho, rfl⟩ | hn | ⟨ts, hts, rfl⟩
  · exact ⟨_, vFlat_inst_out ds i hi o ho, rfl⟩
  · exact ⟨_, vFlat_input ds s hn, rfl⟩
  · obtain ⟨t, ht, hr, _⟩ := vFlat_pair (cfg := cfg) (tl := tl) ds ts hts
    exact ⟨t, ht, hr⟩

theorem inst_eq (hok : VOK cfg tl ports stmts) {i j : VInst} (hi : i ∈ vInsts stmts) (hj : j ∈ vInsts stmts) (h : i.name = j.name) :
    i = j :=
  inj_of_nodup_map (·.name) (List.nodup_append.mp (List.nodup_append.mp hok.cells).1).1 hi hj h

theorem inst_not_port (hok : VOK cfg tl ports stmts) {i : VInst} (hi : i ∈ vInsts stmts) (n : String)
    (hn : n ∈ portBitNames (sigDecls stmts)) : i.name ≠ n :=
  (List.nodup_append.mp (List.nodup_append.mp hok.cells).1).2.2 i.name (List.mem_map.mpr ⟨i, hi, rfl⟩) n hn

theorem inSig_iff (hok : VOK cfg tl ports stmts) (i : VInst) (hi : i ∈ vInsts stmts) (k : Nat) (s : String) :
    inSig tl i k = some s ↔ ∃ c ∈ inConn tl i, c.2.1 = k ∧ c.2.2 = s := by
  unfold inSig
  constructor
  · intro h
    cases hf : (inConn tl i).find? (fun c => c.2.1 == k) with
    | none => rw [hf] at h; cases h
    | some c =>
      rw [hf] at h
      simp only [Option.map_some, Option.some.injEq] at h
      exact ⟨c, List.mem_of_find?_eq_some hf, by simpa using List.find?_some hf, h⟩
  · rintro ⟨c, hc, hk, hs⟩
    cases hf : (inConn tl i).find? (fun c => c.2.1 == k) with
    | none =>
      rw [List.find?_eq_none] at hf
      have := hf c hc
      simp [hk] at this
    | some c' =>
      have h1 := List.mem_of_find?_eq_some hf
      have h2 : c'.2.1 = k := by simpa using List.find?_some hf
      have := inj_of_nodup_map (·.2.1) (hok.inIdx i hi) h1 hc (by rw [h2, hk])
      rw [this]
      simp [hs]

theorem inst_pin_line (i : VInst) (hi : i ∈ vInsts stmts) (ds : List Decl) (c : String × Nat × String) (hc : c ∈ inConn tl i) :
    ∃ t ∈ vFlat cfg tl ds stmts, t.r = .cell i.name c.2.1 ∧ t.sig = c.2.2 := by
  obtain ⟨k, hk⟩ := vFlat_conn (cfg := cfg) ds i hi c hc
  cases hb : cfg.bf
  · refine ⟨⟨.fork (srcFork k c), .cell i.name c.2.1, c.2.2⟩, hk _ ?_, rfl, rfl⟩
    rw [mem_connLines]
    exact Or.inr (Or.inr ⟨hb, rfl⟩)
  · refine ⟨⟨.fork (branchName (srcFork k c) i.name c.1), .cell i.name c.2.1, c.2.2⟩, hk _ ?_, rfl, rfl⟩
    rw [mem_connLines]
    exact Or.inr (Or.inl ⟨hb, Or.inr rfl⟩)

end
end KV.Netlist
