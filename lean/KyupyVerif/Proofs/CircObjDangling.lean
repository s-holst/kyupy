import KyupyVerif.Proofs.CircObjRemoveLine
import KyupyVerif.Proofs.CircObjLoops
/-! C09: `remove_dangling_nodes` preserves `WFc0` and gap-freeness of fork outputs (hence `WFc`). -/
namespace KV.CircObj

theorem removeLineChk_some {c c' : Circ} {l : Nat} (h : removeLineChk c l = some c') : c' = removeLine c l := by
  unfold removeLineChk at h
  split at h
  · cases h
  · exact (Option.some.inj h).symm

/-- state while the input lines of the removed node `root` are removed one by one; `rest` = the lines still to go -/
structure RmInv (root : Nat) (dead : Nat → Prop) (c0 : Circ) (c : Circ) (rest : List Nat) : Prop where
  s : SInv c (fun x => x ∈ rest) NoLine
  nodup : rest.Nodup
  nodes : c.nodes = c0.nodes
  io : c.io = c0.io
  rootOut : root ∉ c.nodes
  rdr : ∀ x ∈ rest, (c.lobj x).reader = some root
  -- the input list of the removed node still holds exactly the lines to go, each at its reader pin: so the
  -- `self.reader.ins[self.reader_pin] = None` of their `remove()` hits the dead node and nothing else
  rpins : ∀ p x, pin (c.nobj root).ins p = some x → x ∈ rest ∧ (c.lobj x).readerPin = p
  alive : ∀ j, (c.nobj j).alive = (c0.nobj j).alive
  kinds : ∀ j, (c.nobj j).kind = (c0.nobj j).kind ∧ (c.nobj j).name = (c0.nobj j).name
  -- nodes removed by earlier visits (`dead`; always `· ∉ c.nodes` of the circuit before this visit) keep their cleared
  -- input lists: the traversal may meet them again on the stack
  others : ∀ j, dead j → j ≠ root → (c.nobj j).ins = (c0.nobj j).ins
  -- conditional, since the visit also runs inside `substitute` before gap-freeness is re-established
  ff : FFull c0 → FFull c

theorem rmInv_step {root : Nat} {dead : Nat → Prop} {c0 c c' : Circ} {l : Nat} {rest : List Nat}
    (inv : RmInv root dead c0 c (l :: rest)) (h : removeLineChk c l = some c') : RmInv root dead c0 c' rest := by
  have hc' := removeLineChk_some h
  subst hc'
  have hnd := List.nodup_cons.1 inv.nodup
  obtain ⟨hlm, hlu⟩ := inv.s.piOk l (by simp)
  obtain ⟨d, hdrv, hd, hdpin⟩ := inv.s.ldrv l hlm (fun h => h)
  have ha := (inv.s.lfresh l hlm).2
  have hn := removeLine_nobj hdrv ha
  have hL := removeLine_lobj hdrv ha
  have hr := inv.rdr l (by simp)
  have fr := removeLine_frame c l
  have s' := removeLine_sinv inv.s hlm hdrv (Or.inl ⟨hd, hdpin⟩) (by
    intro r hr' hrm
    rw [hr] at hr'; cases hr'
    exact absurd hrm inv.rootOut)
  refine ⟨?_, hnd.2, ?_, ?_, ?_, ?_, ?_, ?_, ?_, ?_, ?_⟩
  · refine s'.congr_pred ?_ (fun _ => ⟨fun h => h.elim, fun h => h.1⟩)
    intro x
    constructor
    · intro hx; exact ⟨by simp [hx], fun e => hnd.1 (e ▸ hx)⟩
    · rintro ⟨hx, hne⟩
      exact (List.mem_cons.1 hx).resolve_left hne
  · rw [fr.nodes]; exact inv.nodes
  · rw [fr.io]; exact inv.io
  · rw [fr.nodes]; exact inv.rootOut
  · intro x hx
    have hxl : x ≠ l := fun e => hnd.1 (e ▸ hx)
    rw [(hL x hxl).reader]; exact inv.rdr x (by simp [hx])
  · intro p x hp
    rw [(hn root).ins] at hp
    simp only [hr, if_true, pin_growSet] at hp
    split at hp
    · cases hp
    · rename_i hpp
      obtain ⟨h1, h2⟩ := inv.rpins p x hp
      have hxl : x ≠ l := by
        intro e; subst e
        -- the pin of `l` itself is the one that was cleared
        exact hpp h2.symm
      exact ⟨(List.mem_cons.1 h1).resolve_left hxl, by rw [(hL x hxl).readerPin]; exact h2⟩
  · intro j; rw [(hn j).alive]; exact inv.alive j
  · intro j; rw [(hn j).kind, (hn j).name]; exact inv.kinds j
  · intro j hj hjr
    rw [(hn j).ins]
    have : (c.lobj l).reader ≠ some j := by rw [hr]; intro e; exact hjr (Option.some.inj e).symm
    simp only [this, if_false]
    exact inv.others j hj hjr
  · intro ff0
    exact removeLine_ffull hdrv ha hdpin (inv.ff ff0)

theorem rdRemove_spec {c c' : Circ} {root : Nat} (wf : WFc0 c) (hi : root ∈ c.nodes) (hio : root ∉ c.io)
    (houts : ∀ p, pin (c.nobj root).outs p = none) (h : rdRemove c root = some c') :
    WFc0 c' ∧ (FFull c → FFull c') ∧ (∀ j, j ∈ c'.nodes ↔ j ∈ c.nodes ∧ j ≠ root) ∧
    (c'.nobj root).alive = false ∧ (∀ p, pin (c'.nobj root).ins p = none) ∧
    (∀ j, j ≠ root → (c'.nobj j).alive = (c.nobj j).alive) ∧
    (∀ j, j ∉ c.nodes → (c'.nobj j).ins = (c.nobj j).ins) := by
  have ha := (wf.nfresh root hi).2
  have hn1 := removeNode_nobj ha
  have hmem1 := removeNode_mem wf hi
  have s1 := removeNode_sinv wf hi hio
  have hlobj1 : (removeNode c root).lobj = c.lobj := removeNode_lobj c root
  have inv0 : RmInv root (fun j => j ∉ c.nodes) (removeNode c root) (removeNode c root) (inLines c root) := by
    refine ⟨?_, filterMap_pin_nodup ((SInv.of_wfc0 wf).ins_inj hi), rfl, rfl, ?_, ?_, ?_, fun _ => rfl, fun _ => ⟨rfl, rfl⟩, fun _ _ _ => rfl, fun h => h⟩
    · refine s1.congr_pred ?_ ?_
      · intro x; exact mem_filterMap_pin
      · intro x; constructor
        · intro h; exact h.elim
        · rintro ⟨p, hp⟩; rw [houts p] at hp; cases hp
    · intro h; exact ((hmem1 root).1 h).2 rfl
    · intro x hx
      obtain ⟨p, hp⟩ := mem_filterMap_pin.1 hx
      rw [hlobj1]; exact (wf.insBack root hi p x hp).2.1
    · intro p x hp
      rw [(hn1 root).ins] at hp
      exact ⟨mem_filterMap_pin.2 ⟨p, hp⟩, by rw [hlobj1]; exact (wf.insBack root hi p x hp).2.2⟩
  have fin := foldO_inv removeLineChk (fun cc rest => RmInv root (fun j => j ∉ c.nodes) (removeNode c root) cc rest)
    (fun s a rest s' hinv hf => rmInv_step hinv hf) (inLines c root) (removeNode c root) c' inv0 h
  refine ⟨fin.s.to_wfc0 (fun _ _ h => by simp at h) (fun _ _ h => h), ?_, ?_, ?_, ?_, ?_, ?_⟩
  · intro ff; exact fin.ff (removeNode_ffull wf hi ff)
  · intro j; rw [fin.nodes]; exact hmem1 j
  · rw [fin.alive]; rw [removeNode_eq ha]; simp
  · intro p
    cases hp : pin (c'.nobj root).ins p with
    | none => rfl
    | some x => exact absurd (fin.rpins p x hp).1 (by simp)
  · intro j hj; rw [fin.alive, (hn1 j).alive hj]
  · intro j hj
    have hjr : j ≠ root := fun e => hj (e ▸ hi)
    rw [fin.others j hj hjr, (hn1 j).ins]

def StackOK (c : Circ) (stack : List (Option Nat)) : Prop :=
  ∀ d, some d ∈ stack → d ∈ c.nodes ∨ ((c.nobj d).alive = false ∧ ∀ p, pin (c.nobj d).ins p = none)

def Keeps (c c' : Circ) : Prop := ∀ j, (j ∈ c.nodes ∨ (c.nobj j).alive = false) → (j ∈ c'.nodes ∨ (c'.nobj j).alive = false)

theorem rdGo_wf0 (only : Option (List Nat)) : ∀ (fuel : Nat) (c : Circ) (stack : List (Option Nat)) (c' : Circ),
    WFc0 c → StackOK c stack → rdGo only fuel c stack = some c' → WFc0 c' ∧ (FFull c → FFull c') ∧ Keeps c c' := by
  intro fuel
  induction fuel with
  | zero =>
    intro c stack c' wf _ h
    cases stack with
    | nil => simp only [rdGo, Option.some.injEq] at h; subst h; exact ⟨wf, id, fun _ h => h⟩
    | cons a rest => simp [rdGo] at h
  | succ fuel ih =>
    intro c stack c' wf hst h
    cases stack with
    | nil => simp only [rdGo, Option.some.injEq] at h; subst h; exact ⟨wf, id, fun _ h => h⟩
    | cons a rest =>
      cases a with
      | none => simp [rdGo] at h
      | some root =>
        simp only [rdGo] at h
        have hrest : StackOK c rest := fun d hd => hst d (by simp [hd])
        split at h
        · rename_i hrem
          simp only [rdRemoves, Bool.and_eq_true, Bool.not_eq_true', List.contains_eq_mem, decide_eq_false_iff_not] at hrem
          obtain ⟨⟨⟨houts, hio⟩, _⟩, _⟩ := hrem
          cases hrm : rdRemove c root with
          | none => simp [hrm] at h
          | some c1 =>
            simp only [hrm] at h
            rcases hst root (by simp) with hin | ⟨hdead, hpins⟩
            · -- the node is removed together with its input lines
              obtain ⟨wf1, ff1, hmem1, hal1, hins1, halive1, hothers1⟩ :=
                rdRemove_spec wf hin hio (pin_none_of_any houts) hrm
              have hst1 : StackOK c1 (((inLines c root).map fun l => (c.lobj l).driver) ++ rest) := by
                intro d hd
                rcases List.mem_append.1 hd with hd | hd
                · obtain ⟨l, hl, hld⟩ := List.mem_map.1 hd
                  obtain ⟨p, hp⟩ := mem_filterMap_pin.1 hl
                  obtain ⟨b1, _, _⟩ := wf.insBack root hin p l hp
                  obtain ⟨d', e1, e2, e3⟩ := wf.ldrv l b1
                  rw [e1] at hld; cases hld
                  have : d ≠ root := by
                    intro e; subst e; rw [pin_none_of_any houts] at e3; cases e3
                  exact Or.inl ((hmem1 d).2 ⟨e2, this⟩)
                · by_cases hdr : d = root
                  · subst hdr; exact Or.inr ⟨hal1, hins1⟩
                  · rcases hrest d hd with h1 | ⟨h1, h2⟩
                    · exact Or.inl ((hmem1 d).2 ⟨h1, hdr⟩)
                    · refine Or.inr ⟨by rw [halive1 d hdr]; exact h1, ?_⟩
                      have hdn : d ∉ c.nodes := fun hm => by
                        have := (wf.nfresh d hm).2; rw [h1] at this; cases this
                      intro p; rw [hothers1 d hdn]; exact h2 p
              obtain ⟨r1, r2, r3⟩ := ih c1 _ c' wf1 hst1 h
              refine ⟨r1, fun ff => r2 (ff1 ff), ?_⟩
              intro j hj
              apply r3
              by_cases hjr : j = root
              · subst hjr; exact Or.inr hal1
              · rcases hj with hj | hj
                · exact Or.inl ((hmem1 j).2 ⟨hj, hjr⟩)
                · exact Or.inr (by rw [halive1 j hjr]; exact hj)
            · -- a node that is already removed: nothing happens
              have hil : inLines c root = [] := List.eq_nil_iff_forall_not_mem.2 fun x hx => by
                obtain ⟨p, hp⟩ := mem_filterMap_pin.1 hx
                rw [hpins p] at hp; cases hp
              have : c1 = c := by
                unfold rdRemove removeNode at hrm
                rw [hil] at hrm
                simp only [hdead, Bool.false_eq_true, if_false, foldO, Option.some.injEq] at hrm
                exact hrm.symm
              subst this
              rw [hil] at h
              exact ih c1 _ c' wf hrest h
        · exact ih c _ c' wf hrest h

theorem removeDanglingFrom_wf0 {only : Option (List Nat)} {c c' : Circ} {root : Nat} (wf : WFc0 c)
    (hroot : root ∈ c.nodes)
    (h : removeDanglingFrom only c root = some c') : WFc0 c' ∧ (FFull c → FFull c') ∧ Keeps c c' := by
  unfold removeDanglingFrom at h
  refine rdGo_wf0 only _ c _ c' wf ?_ h
  intro d hd
  simp only [List.mem_singleton, Option.some.injEq] at hd
  subst hd; exact Or.inl hroot

theorem removeDanglingObj_wf {c c' : Circ} {root : Nat} (wf : WFc c) (hroot : root ∈ c.nodes)
    (h : removeDanglingObj c root = some c') : WFc c' := by
  obtain ⟨h1, h2, _⟩ := removeDanglingFrom_wf0 wf.toWFc0 hroot h
  exact ⟨h1, h2 wf.forkFull⟩

end KV.CircObj
