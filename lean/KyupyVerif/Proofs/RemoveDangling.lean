import KyupyVerif.Proofs.LineRemoveWF
/-! C10, removal of dangling logic: `remove_dangling_nodes` (model `removeDangling`, any start nodes, any `only` set of valid node
references).  One step removes the lines at the input pins of a node without connected outputs one after the other (the pending
references being renamed by the deletions), then the node (`removeRoot_emb`); `removeDangling_induct` is the induction over a run
(`removeDangling_rec` of Proofs/Substitute.lean for circuits that are `WFm`).  The result is well-formed (`WFm`), embeds into the circuit
before, and every consistent labelling of it extends to one of the circuit before (`ExtP`, `removeDangling_extP`): a removed node has no
connected output when it is removed, so the lines removed with it are driven by nodes whose inputs are still there — their values are
what their drivers compute; no acyclicity assumption is needed. -/
namespace KV.Transform
open KV

theorem WFm.driver_ne {nn : NNet} (w : WFm nn) {x : Nat} (houts : ∀ k, (nn.net.node x).outs.getD k none = none) (l : Nat)
    (hl : l < nn.net.lines.size) : (nn.net.line l).driver ≠ x := by
  intro e0
  have := (w.back l hl).2.2.1
  rw [e0, houts] at this
  exact absurd this (by simp)

/-- state of the loop `for l in lines: l.remove()` for the node `x`: `cur` = circuit, `rem` = lines still to remove (as
    indices of the circuit `nn` at the start), `ren` = renaming of the pending references (start index ↦ index in `cur`), `r` = index
    maps so far (index in `cur` ↦ start index; `rnode`: no node has gone yet).  `pend` ties the two directions together on `rem`.
    `xins`: `x` reads lines of `rem` only, so at `rem = []` no line is attached to `x`.  `remx` and `lsurj` speak of `nn`: only lines
    read by `x` are removed, every other line of `nn` is still in `cur`.  `emb` exempts the pins of `x`, which are being cleared. -/
structure RLInv (nn : NNet) (x : Nat) (cur : Net) (rem : List Nat) (ren : Option Nat → Option Nat) (r : Ren) : Prop where
  wfm : WFm { nn with net := cur }
  emb : EmbX nn { nn with net := cur } r (fun j => j = x)
  xlt : x < cur.nodes.size
  xio : x ∉ cur.io
  pend : ∀ l0 ∈ rem, ∃ l', ren (some l0) = some l' ∧ l' < cur.lines.size ∧ r.line l' = l0 ∧ (cur.line l').reader = x
  nodup : rem.Nodup
  xins : ∀ k l', (cur.node x).ins.getD k none = some l' → r.line l' ∈ rem
  xouts : ∀ k, (cur.node x).outs.getD k none = none
  rnode : ∀ j, r.node j = j
  lsurj : ∀ l, l < nn.net.lines.size → (nn.net.line l).reader ≠ x → ∃ l', l' < cur.lines.size ∧ r.line l' = l
  remx : ∀ l0 ∈ rem, (nn.net.line l0).reader = x

theorem rlinv_step (nn : NNet) (x : Nat) (l0 : Nat) (rest : List Nat) (cur cur' : Net) (ren : Option Nat → Option Nat) (r : Ren)
    (l' : Nat) (iv : RLInv nn x cur (l0 :: rest) ren r) (hren : ren (some l0) = some l')
    (hrm : removeLine true cur l' = some cur') :
    RLInv nn x cur' rest (fun o => mvLine cur.lines.size l' (ren o)) (r.comp (lineRen cur.lines.size l')) := by
  obtain ⟨l'', hren', hl', hrl, hrd⟩ := iv.pend l0 List.mem_cons_self
  have : l'' = l' := Option.some.inj (hren'.symm.trans hren)
  subst this
  have hnd := List.nodup_cons.mp iv.nodup
  have sp := removeLine_spec { nn with net := cur } iv.wfm l'' hl' cur' hrm
  have w' : WFm { nn with net := cur' } := rl_wfm iv.wfm hl' sp
  have e' := rl_emb iv.wfm hl' sp
  have hxd : (cur.line l'').driver ≠ x := iv.wfm.driver_ne iv.xouts l'' hl'
  -- a line `y ≠ l''` of `cur` moves to `mvN … l'' y` and `lineRen` takes it back (`mv_facts`); `y ≠ l''` is `nodup`, the cleared pin, `remx`
  refine ⟨w', ?_, by rw [sp.nsize]; exact iv.xlt, by rw [sp.io]; exact iv.xio, ?_, hnd.2, ?_, ?_, iv.rnode, ?_,
    fun l1 hl1 => iv.remx l1 (List.mem_cons_of_mem _ hl1)⟩
  · refine (iv.emb.trans e').weaken ?_
    intro j _ hj
    rcases hj with hj | hj
    · rw [hj]; exact hrd
    · exact hj
  · intro l1 hl1
    obtain ⟨l1', hren1, hl1', hrl1, hrd1⟩ := iv.pend l1 (List.mem_cons_of_mem _ hl1)
    have hne : l1' ≠ l'' := by
      intro e0; subst e0
      rw [hrl] at hrl1
      exact hnd.1 (hrl1 ▸ hl1)
    obtain ⟨m1, m2⟩ := mv_facts hl' hl1' hne
    refine ⟨mvN cur.lines.size l'' l1', ?_, by rw [sp.lsize]; exact m1, ?_, ?_⟩
    · show mvLine cur.lines.size l'' (ren (some l1)) = _
      rw [hren1, mvLine_some]
    · show r.line (nmN cur.lines.size l'' (mvN cur.lines.size l'' l1')) = l1
      rw [m2]; exact hrl1
    · rw [(sp.line _ m1).2.1, m2]; exact hrd1
  · intro k l3 hp
    rw [sp.inPinT] at hp
    split at hp
    · exact absurd hp (by simp)
    · rename_i hcond
      obtain ⟨y0, hy0, e0⟩ := mvL_eq_some hp
      obtain ⟨a1, a2, a3⟩ := iv.wfm.fwdIn x iv.xlt k y0 hy0
      have hne : y0 ≠ l'' := by
        intro e1; subst e1
        exact hcond ⟨hrd.symm, a3.symm⟩
      obtain ⟨m1, m2⟩ := mv_facts hl' a1 hne
      have hmem := iv.xins k y0 hy0
      show r.line (nmN cur.lines.size l'' l3) ∈ rest
      rw [e0, m2]
      rcases List.mem_cons.mp hmem with e1 | e1
      · exact absurd (iv.emb.lineInj y0 l'' a1 hl' (e1.trans hrl.symm)) hne
      · exact e1
  · intro k
    rw [sp.outPin _ _ (fun e0 => hxd e0.symm)]
    show mvL _ _ ((cur.node x).outs.getD k none) = none
    rw [iv.xouts]; rfl
  · intro l hl hne
    obtain ⟨l1, hl1, e1⟩ := iv.lsurj l hl hne
    have hne1 : l1 ≠ l'' := by
      intro e0; subst e0
      rw [hrl] at e1
      exact hne (e1 ▸ (iv.remx l0 List.mem_cons_self))
    obtain ⟨m1, m2⟩ := mv_facts hl' hl1 hne1
    exact ⟨mvN cur.lines.size l'' l1, by rw [sp.lsize]; exact m1, by
      show r.line (nmN cur.lines.size l'' (mvN cur.lines.size l'' l1)) = l
      rw [m2]; exact e1⟩

theorem removeLines_inv (nn : NNet) (x : Nat) : ∀ (rem : List Nat) (cur : Net) (ren : Option Nat → Option Nat) (r : Ren)
    (net' : Net), RLInv nn x cur rem ren r → removeLines ren rem cur = some net' →
    ∃ ren' r', RLInv nn x net' [] ren' r'
  | [], cur, ren, r, net', iv, he => by
    simp only [removeLines] at he
    cases he
    exact ⟨ren, r, iv⟩
  | l0 :: rest, cur, ren, r, net', iv, he => by
    obtain ⟨l', hren, _⟩ := iv.pend l0 List.mem_cons_self
    unfold removeLines at he
    rw [hren] at he
    dsimp only at he
    split at he
    · exact absurd he (by simp)
    · rename_i cur' hrm
      exact removeLines_inv nn x rest cur' _ _ net' (rlinv_step nn x l0 rest cur cur' ren r l' iv hren hrm) he

theorem RLInv.init (nn : NNet) (w : WFm nn) (x : Nat) (hx : x < nn.net.nodes.size) (hio : x ∉ nn.net.io)
    (houts : ∀ k, (nn.net.node x).outs.getD k none = none) :
    RLInv nn x nn.net ((nn.net.node x).ins.filterMap id) id Ren.id := by
  obtain ⟨hI, ndI⟩ := w.toWFr.insPins hx
  refine ⟨w, (Emb.refl nn w.io w.drvLt).weaken (fun _ _ h => absurd h id), hx, hio,
    fun l0 hl0 => ⟨l0, rfl, (hI l0 hl0).1, rfl, (hI l0 hl0).2⟩, ndI, ?_, houts,
    fun _ => rfl, fun l hl _ => ⟨l, hl, rfl⟩, fun l0 hl0 => (hI l0 hl0).2⟩
  · intro k l' hp
    exact (mem_filterMap_id _ l').mpr ⟨k, hp⟩

theorem removeRoot_emb (nn : NNet) (w : WFm nn) (x : Nat) (hx : x < nn.net.nodes.size) (hio : x ∉ nn.net.io)
    (houts : ∀ k, (nn.net.node x).outs.getD k none = none) (net' : Net)
    (he : removeLines id ((nn.net.node x).ins.filterMap id) nn.net = some net') :
    WFm (delNode { nn with net := net' } x) ∧ ∃ r, Emb nn (delNode { nn with net := net' } x) r ∧
      (∀ j, j < nn.net.nodes.size → j ≠ x → ∃ j', j' < (delNode { nn with net := net' } x).net.nodes.size ∧ r.node j' = j) ∧
      (∀ l, l < nn.net.lines.size → (nn.net.line l).reader ≠ x →
        ∃ l', l' < (delNode { nn with net := net' } x).net.lines.size ∧ r.line l' = l) ∧
      (∀ j', r.node j' = nmN nn.net.nodes.size x j') := by
  have iv0 := RLInv.init nn w x hx hio houts
  obtain ⟨ren', r', iv⟩ := removeLines_inv nn x _ nn.net id Ren.id net' iv0 he
  -- at `rem = []` no line is read by `x` (`xins`), so `Node.remove()` leaves no reference to `x` behind
  have hd : ∀ l, l < net'.lines.size → (net'.line l).driver ≠ x ∧ (net'.line l).reader ≠ x := by
    intro l hl
    refine ⟨iv.wfm.driver_ne iv.xouts l hl, fun e0 => ?_⟩
    have := iv.xins (net'.line l).rpin l (by rw [← e0]; exact (iv.wfm.back l hl).2.2.2)
    simp at this
  have w2 := dn_wfm (iv.wfm.toWFx x) iv.xlt iv.xio hd
  have e2 := dn_emb (iv.wfm.toWFx x) iv.xlt iv.xio hd
  have hs := (delNode_sizes { nn with net := net' } x).1
  have hsz : net'.nodes.size = nn.net.nodes.size := (pinsOnly_removeLines _ _ _ _ he).1.1
  refine ⟨w2, _, (iv.emb.trans e2).weaken ?_, ?_, fun l hl hne => by
    obtain ⟨l1, hl1, e1⟩ := iv.lsurj l hl hne
    exact ⟨l1, by rw [(delNode_sizes { nn with net := net' } x).2]; exact hl1, e1⟩, fun j' => by
    show r'.node (nmN net'.nodes.size x j') = _
    rw [iv.rnode, hsz]⟩
  · intro j hj hc
    rw [hs] at hj
    rcases hc with hc | hc
    · exact hc
    · exact (nm_facts iv.xlt hj).2.1 hc
  · intro j hj hne
    have hj' : j < net'.nodes.size := by rw [hsz]; exact hj
    obtain ⟨m1, m2⟩ := mv_facts iv.xlt hj' hne
    refine ⟨mvN net'.nodes.size x j, by rw [hs]; exact m1, ?_⟩
    show r'.node (nmN net'.nodes.size x (mvN net'.nodes.size x j)) = j
    rw [m2, iv.rnode]

/-- `removeDangling_rec` at `J := WFm` (`removeRoot_emb` gives `WFm` back after a step); `own` = the `only` list, renamed by every
    `del nodes[root]` -/
theorem removeDangling_induct {P : NNet → List Nat → NNet → Prop} (refl : ∀ {nn own}, WFm nn → P nn own nn)
    (step : ∀ {nn : NNet} {own : List Nat} {root : Nat} {net' : Net} {nn' : NNet}, WFm nn → (∀ x ∈ own, x < nn.net.nodes.size) → root ∈ own → root ∉ nn.net.io →
      ¬ isSeqKind (nn.net.node root).kind = true → (∀ k, (nn.net.node root).outs.getD k none = none) →
      removeLines id ((nn.net.node root).ins.filterMap id) nn.net = some net' →
      WFm (delNode { nn with net := net' } root) →
      P (delNode { nn with net := net' } root) (own.filterMap fun x => mvNode nn.net.nodes.size root (some x)) nn' → P nn own nn') :
    ∀ (fuel : Nat) (nn : NNet) (own : List Nat) (stack : List (Option Nat)) (nn' : NNet),
    WFm nn → (∀ x ∈ own, x < nn.net.nodes.size) → removeDangling fuel nn own stack = some nn' → WFm nn' ∧ P nn own nn' :=
  removeDangling_rec (J := WFm) refl fun w ho how hio hseq houts h1 =>
    have w2 := (removeRoot_emb _ w _ (ho _ how) hio houts _ h1).1
    ⟨w2, step w ho how hio hseq houts h1 w2⟩

/-- the conclusion of `Emb.extA` with the assignment on the side of the smaller circuit (`P` = pulled back): the labelling of `nn'` is
    consistent under any assignment `an'`, and the assignment of `nn` that comes out restricts to it (`ext_of_embP`).  Removed lines
    driven by holes take the prescribed values `pre`: `resolve_tlib_cells` needs them, where a line removed by one substitution may be
    driven by a cell that is substituted later (no equation constrains it while its driver is a hole).  The last clause of
    `remove_dangling_sem` (Props/C10) is this with `pre` dropped.  `ExtP.trans` composes it along two embeddings. -/
def ExtP {α : Type _} (z : α) (neg : α → α) (prim : String → α → α → α → α → α) (nn nn' : NNet) (r : Ren) : Prop :=
  ∀ (S : Nat → Prop) (pre : Nat → α) (an' v' : Nat → α), ConsOff nn' (fun j' => S (r.node j')) z neg prim an' v' →
    ∃ an v, ConsOff nn S z neg prim an v ∧ (∀ l', l' < nn'.net.lines.size → v (r.line l') = v' l') ∧
      (∀ j', j' < nn'.net.nodes.size → an (r.node j') = an' j') ∧
      (∀ l, l < nn.net.lines.size → (¬ ∃ l', l' < nn'.net.lines.size ∧ r.line l' = l) → S (nn.net.line l).driver → v l = pre l)

theorem ExtP.refl {α : Type _} (z : α) (neg : α → α) (prim : String → α → α → α → α → α) (nn : NNet) : ExtP z neg prim nn nn Ren.id :=
  fun _ _ an' v' hc => ⟨an', v', hc, fun _ _ => rfl, fun _ _ => rfl, fun l hl hn _ => absurd ⟨l, hl, rfl⟩ hn⟩

theorem ExtP.trans {α : Type _} {z : α} {neg : α → α} {prim : String → α → α → α → α → α} {a b c : NNet} {r1 r2 : Ren}
    (e1 : Emb a b r1) (e2 : Emb b c r2) (h1 : ExtP z neg prim a b r1) (h2 : ExtP z neg prim b c r2) :
    ExtP z neg prim a c (r1.comp r2) := by
  intro S pre an' v' hc
  obtain ⟨anb, vb, cb, eb1, eb2, eb3⟩ := h2 (fun j => S (r1.node j)) (fun l => pre (r1.line l)) an' v' hc
  obtain ⟨ana, va, ca, ea1, ea2, ea3⟩ := h1 S pre anb vb cb
  refine ⟨ana, va, ca, fun l' hl' => ?_, fun j' hj' => ?_, ?_⟩
  · show va (r1.line (r2.line l')) = v' l'
    rw [ea1 _ (e2.lineLt l' hl'), eb1 l' hl']
  · show ana (r1.node (r2.node j')) = an' j'
    rw [ea2 _ (e2.nodeLt j' hj'), eb2 j' hj']
  · intro l hl hn hS
    by_cases hi : ∃ lb, lb < b.net.lines.size ∧ r1.line lb = l
    · obtain ⟨lb, hlb, e⟩ := hi
      subst e
      rw [ea1 lb hlb]
      apply eb3 lb hlb
      · rintro ⟨l', hl', e'⟩
        exact hn ⟨l', hl', by show r1.line (r2.line l') = _; rw [e']⟩
      · show S (r1.node (b.net.line lb).driver)
        rw [← (e1.drv lb hlb).2.1]; exact hS
    · exact ea3 l hl hi hS

open Classical in
/-- the assignment of `nn` is `an'` read back through `r.node` (by choice; `z` off its image), then `Emb.extA` -/
theorem ext_of_embP {α : Type _} (z : α) (neg : α → α) (prim : String → α → α → α → α → α) (nn nn' : NNet) (r : Ren)
    (w' : WFm nn') (e : Emb nn nn' r) (hdet : Emb.Det nn nn' r) : ExtP z neg prim nn nn' r := by
  intro S pre an' v' hc
  let an : Nat → α := fun j => if h : ∃ j', j' < nn'.net.nodes.size ∧ r.node j' = j then an' (choose h) else z
  have ha : ∀ j', j' < nn'.net.nodes.size → an (r.node j') = an' j' := by
    intro j' hj'
    have h : ∃ j'', j'' < nn'.net.nodes.size ∧ r.node j'' = r.node j' := ⟨j', hj', rfl⟩
    show (if h : _ then an' (choose h) else _) = _
    rw [dif_pos h, e.nodeInj _ _ (choose_spec h).1 hj' (choose_spec h).2]
  obtain ⟨v, c, hv, hp⟩ := e.extA z neg prim w' hdet S pre an v'
    (consOff_congr_vals w' _ z neg prim an' _ v' v' (fun j hj => (ha j (sNodes_lt w' j hj)).symm) (fun _ _ => rfl) hc)
  exact ⟨an, v, c, hv, ha, hp⟩

theorem removeDangling_extP {α : Type _} (z : α) (neg : α → α) (prim : String → α → α → α → α → α)
    (fuel : Nat) (nn : NNet) (own : List Nat) (stack : List (Option Nat)) (nn' : NNet)
    (w : WFm nn) (ho : ∀ x ∈ own, x < nn.net.nodes.size) (h : removeDangling fuel nn own stack = some nn') :
    WFm nn' ∧ ∃ r, Emb nn nn' r ∧
      (∀ j, j < nn.net.nodes.size → j ∉ own → ∃ j', j' < nn'.net.nodes.size ∧ r.node j' = j) ∧
      (∀ j, j < nn.net.nodes.size → isSeqKind (nn.net.node j).kind = true → ∃ j', j' < nn'.net.nodes.size ∧ r.node j' = j) ∧
      ExtP z neg prim nn nn' r := by
  apply removeDangling_induct ?_ ?_ fuel nn own stack nn' w ho h
  · exact fun {nn _} w => ⟨Ren.id, Emb.refl nn w.io w.drvLt, fun j hj _ => ⟨j, hj, rfl⟩, fun j hj _ => ⟨j, hj, rfl⟩,
      ExtP.refl z neg prim nn⟩
  intro nn own root net1 nn' w ho hown' hio' hseq houts h1 w2' ⟨r3, e3, t3, s3, x3⟩
  have hr : root < nn.net.nodes.size := ho root hown'
  obtain ⟨w2, r2, e2, s2, ls2, hr2⟩ := removeRoot_emb nn w root hr hio' houts net1 h1
  have x2 : ExtP z neg prim nn (delNode { nn with net := net1 } root) r2 := by
    apply ext_of_embP z neg prim nn _ r2 w2 e2
    intro l hl _ k l0 ho'
    obtain ⟨a1, a2, _⟩ := w.fwdIn _ (w.back l hl).1 k l0 ho'
    exact ls2 l0 a1 (by rw [a2]; exact w.driver_ne houts l hl)
  -- a node of the intermediate circuit that is in the renamed `own` list comes from a node in `own`
  have hnown : ∀ j1, r2.node j1 ∉ own → j1 ∉ own.filterMap (fun x => mvNode nn.net.nodes.size root (some x)) := by
    intro j1 hno hm
    obtain ⟨y, hy, e⟩ := List.mem_filterMap.mp hm
    rw [mvNode_some] at e
    split at e
    · exact absurd e (by simp)
    · rename_i hyr
      cases e
      rw [hr2, (mv_facts hr (ho y hy) hyr).2] at hno
      exact hno hy
  refine ⟨r2.comp r3, (EmbX.trans e2 e3).weaken (fun j _ hc => by rcases hc with hc | hc <;> exact hc), ?_, ?_,
    ExtP.trans e2 e3 x2 x3⟩
  · intro j hj hno
    have hne : j ≠ root := fun e0 => hno (e0 ▸ hown')
    obtain ⟨j1, hj1, ej1⟩ := s2 j hj hne
    obtain ⟨j', hj', ej'⟩ := t3 j1 hj1 (hnown j1 (by rw [ej1]; exact hno))
    exact ⟨j', hj', by show r2.node (r3.node j') = j; rw [ej', ej1]⟩
  · intro j hj hsq
    have hne : j ≠ root := by
      intro e0; subst e0
      exact hseq hsq
    obtain ⟨j1, hj1, ej1⟩ := s2 j hj hne
    have hk := e2.kind j1 hj1
    rw [ej1] at hk
    obtain ⟨j', hj', ej'⟩ := s3 j1 hj1 (by rw [hk]; exact hsq)
    exact ⟨j', hj', by show r2.node (r3.node j') = j; rw [ej', ej1]⟩

end KV.Transform
