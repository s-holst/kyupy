import KyupyVerif.Proofs.WavePhases
/-! Hazard freedom at a gate (C05): if the LUT is constant on every vector that agrees with the inactive operands, the output
does not toggle once the `tmin` phase is over — the produced waveform is `[]` or `[tmin]`. In phase B the inactive operands are
consumed and at their final value (`Base.quiet`: read off the cursors), so the operand that is due is an active one and the LUT
is the same constant before and after its toggle (`stepB_quiet`). -/

namespace KV.Wave

def Inactive (w : List T) : Prop := w = [] ∨ w = [T.tmin]

def finalOf (ws : Fin 4 → List T) : Fin 4 → Bool := fun i => (ws i).length % 2 == 1

/-- the hazard hypothesis delivered by the hazard abstraction of the operators (`inactive_rel`, Proofs/SpecRel.lean, in `C05.gate_abstracts`):
the LUT is constant `c0` on every vector that agrees with the inactive operands -/
def HazardFree (lut : Nat) (ws : Fin 4 → List T) (c0 : Bool) : Prop :=
  ∀ b : Fin 4 → Bool, (∀ i, Inactive (ws i) → b i = finalOf ws i) → lutBit lut b = c0

theorem Base.quiet {E : Env} {ws : Fin 4 → List T} {s : St} (b : Base E ws s) {i : Fin 4} (hi : Inactive (ws i))
    (hp : pendTmin s i = false) : s.r i = [] ∧ s.inp i = finalOf ws i := by
  have hnil : s.r i = [] := by
    cases hr : s.r i with
    | nil => rfl
    | cons x xs =>
      have hx := b.mem (i := i) (e := x) (by simp [hr])
      have : x = T.tmin := by rcases hi with h | h <;> simp [h] at hx; exact hx
      simp [pendTmin, hr, this] at hp
  refine ⟨hnil, ?_⟩
  have hk : s.k i = (ws i).length := by
    have := (b.csr i).2
    have := List.drop_eq_nil_iff.mp ((b.csr i).1 ▸ hnil)
    omega
  rw [b.kin i, hk]; rfl

theorem InvB.noPend {s : St} (hB : InvB s) (i : Fin 4) : pendTmin s i = false := by
  unfold pendTmin
  cases hr : s.r i with
  | nil => rfl
  | cons x xs => have := hB.fin i x (by simp [hr]); cases x <;> simp_all [T.isFin]

theorem stepB_quiet (E : Env) (ws) (c0 : Bool) (hH : HazardFree E.lut ws c0) (s : St) (b : Base E ws s) (hB : InvB s)
    (hlt : T.lt (cur E.D E.terms s) .tmax = true) (hz : s.z = [] ∨ s.z = [T.tmin]) :
    (step E.lut E.D E.terms E.zcap s).z = [] ∨ (step E.lut E.D E.terms E.zcap s).z = [T.tmin] := by
  have hq := fun i hi => b.quiet (i := i) hi (hB.noPend i)
  have hact : ¬ Inactive (ws (pick E.D E.terms s)) := fun h => pick_nonempty E.hterm s hlt (hq _ h).1
  -- the LUT is `c0` before and after the toggle of an active operand, so the output does not toggle
  have hd : dec1 E.lut s (pick E.D E.terms s) = false := by
    unfold dec1
    rw [b.par.1, b.par.2, hH s.inp fun i hi => (hq i hi).2, hH _ fun i hi => by
      have : i ≠ pick E.D E.terms s := fun e => hact (e ▸ hi)
      simpa [upd, this] using (hq i hi).2]
    simp
  rw [step_skip _ hd]
  exact hz

/-- C05, gate level: if the LUT is constant on all vectors that agree with the inactive operands,
the produced waveform has no finite transition at all (it is `[]` or `[tmin]`) -/
theorem gate_hazard_free (E : Env) (ws : Fin 4 → List T) (hwf : ∀ i, WfRem (ws i)) (c0 : Bool)
    (hH : HazardFree E.lut ws c0) :
    (run E.lut E.D E.terms E.zcap (totalLen ws) (init E.lut ws)).z = [] ∨
    (run E.lut E.D E.terms E.zcap (totalLen ws) (init E.lut ws)).z = [T.tmin] :=
  run_phases E ws hwf (PA := fun _ => True) (PB := fun s => s.z = [] ∨ s.z = [T.tmin]) trivial (fun _ _ _ _ _ => trivial)
    (fun _ _ a _ _ _ => a.z) (fun s b hB hlt hz => stepB_quiet E ws c0 hH s b hB hlt hz) _ (run_done E _ _ (Nat.le_refl _))

end KV.Wave
