import KyupyVerif.Model.MapCert
import KyupyVerif.Proofs.MemMapFold
import KyupyVerif.Proofs.GenOpsWO
/-! Interface between the two halves of the proof that the memory map of `SimOps` passes the map certificate
(`simops_map_accepted`, Props/C08.lean): `ProgOK p` — facts about the op program, the level partition and the stems of a map
record `p` (no mention of the location / capacity tables); one half proves it for the scheduler model, the other uses nothing else
of the program. With it `occ` (how often a row list reads a signal), `incs` / `decs` (the reference-count updates for a list of
signals) and the domain predicate `readsDrivenB`. -/
namespace KV

def occ (st : Array (Option Nat)) (x : Nat) (ops : List OpRow) : Nat :=
  (ops.map fun o => (opSrcs st o).count x).sum

/-- 1-based level of op number `k` for a `level_starts` list (`MapIn.levelOf`) -/
def levelOfS (starts : List Nat) (k : Nat) : Nat := (starts.filter (· ≤ k)).length

def StartsOK (starts : List Nat) (n : Nat) : Prop :=
  starts.head? = some 0 ∧ starts.Pairwise (· < ·) ∧ ∀ t ∈ starts, t ≤ n

theorem StartsOK.level {starts : List Nat} {n : Nat} (h : StartsOK starts n) {i : Nat} (hi : i < starts.length) :
    starts[i] ≤ starts.getD (i + 1) n ∧ starts.getD (i + 1) n ≤ n ∧
      ∀ t ∈ starts, t ≤ starts[i] ∨ starts.getD (i + 1) n ≤ t := by
  obtain ⟨_, hpw, hle⟩ := h
  have hmono := List.pairwise_iff_getElem.mp hpw
  rw [List.getD_eq_getElem?_getD]
  by_cases h1 : i + 1 < starts.length
  · rw [List.getElem?_eq_getElem h1, Option.getD_some]
    refine ⟨Nat.le_of_lt (hmono i (i + 1) hi h1 (Nat.lt_succ_self i)), hle _ (List.getElem_mem h1), fun t ht => ?_⟩
    obtain ⟨j, hj, rfl⟩ := List.getElem_of_mem ht
    rcases Nat.lt_trichotomy j i with h' | rfl | h'
    · exact .inl (Nat.le_of_lt (hmono j i hj hi h'))
    · exact .inl (Nat.le_refl _)
    · rcases Nat.lt_or_eq_of_le (show i + 1 ≤ j from h') with h'' | rfl
      · exact .inr (Nat.le_of_lt (hmono (i + 1) j h1 hj h''))
      · exact .inr (Nat.le_refl _)
  · rw [List.getElem?_eq_none (by omega), Option.getD_none]
    refine ⟨hle _ (List.getElem_mem hi), Nat.le_refl _, fun t ht => ?_⟩
    obtain ⟨j, hj, rfl⟩ := List.getElem_of_mem ht
    rcases Nat.lt_or_eq_of_le (show j ≤ i by omega) with h' | rfl
    · exact .inl (Nat.le_of_lt (hmono j i hj hi h'))
    · exact .inl (Nat.le_refl _)

/-- domain predicate (decidable, evaluated on the real circuit): every line read by a scheduled non-source node and every
    line captured by an interface node is written by a row of the un-stripped program — no reader hangs on a cell of
    unknown kind, on an output pin `SimOps` does not schedule (pin ≥ 1 of a gate, pin ≥ 2 of a flip-flop) or on a node
    outside the order -/
def readsDrivenB (tbl : List PrefixRow) (net : Net) (order : List Nat) : Bool :=
  let outs := (genOps tbl net order false).map (·.out)
  (order.all fun n => isSrcNode net net.sNodes n || (net.node n).ins.all fun o => match o with
    | some l => outs.contains l
    | none => true) &&
  (net.sNodes.all fun n => match (net.node n).inPin 0 with
    | some l => outs.contains l
    | none => true)

/-- what the memory map needs of the program and its tables. `out_ok`: a row writes the scratch slot or a line; `first`: a line has
    one writer; `opnd`: an operand, read through its stem, is the zero slot, an input slot or a line written earlier; `lev`: and that
    writer sits in an earlier level; `starts`: the level table; `ppo`: a captured source is a written line; `branch`: a stripped branch
    is a line no row writes; `stem_opnd` / `stem_cap`: the stem of an operand / of a captured line is not itself a branch (one redirect
    is enough); `cap_lt`: a captured pin holds a line -/
structure ProgOK (p : MapIn) : Prop where
  out_ok : ∀ o ∈ p.ops, o.out = p.ix.tmp ∨ o.out < p.ix.zero
  first : ∀ (k : Nat) (o : OpRow), p.ops[k]? = some o → o.out ≠ p.ix.tmp →
    p.ops.findIdx? (fun o' => o'.out == o.out) = some k
  opnd : ∀ (k : Nat) (o : OpRow), p.ops[k]? = some o → ∀ x ∈ opSrcs p.stems o,
    x = p.ix.zero ∨ x ∈ p.ppiSlots ∨ (x < p.ix.zero ∧ ∃ k' o', k' < k ∧ p.ops[k']? = some o' ∧ o'.out = x)
  lev : ∀ (k' k : Nat) (o' o : OpRow), k' < k → p.ops[k']? = some o' → p.ops[k]? = some o → o'.out ≠ p.ix.tmp →
    o'.out ∈ opSrcs p.stems o → p.levelOf k' < p.levelOf k
  starts : StartsOK p.starts p.ops.length
  ppo : ∀ j s, (j, s) ∈ p.ppoSrcs → s < p.ix.zero ∧ ∃ o ∈ p.ops, o.out = s
  branch : ∀ l t, p.stems.getD l none = some t → l < p.ix.zero ∧ ∀ o ∈ p.ops, o.out ≠ l
  stem_opnd : ∀ o ∈ p.ops, ∀ i ∈ o.ins, ∀ t, p.stems.getD i none = some t → p.stems.getD t none = none
  stem_cap : ∀ n i l, (n, i) ∈ p.net.sNodes.zipIdx → (p.net.node n).inPin 0 = some l →
    ∀ t, p.stems.getD l none = some t → p.stems.getD t none = none
  cap_lt : ∀ n i l, (n, i) ∈ p.net.sNodes.zipIdx → (p.net.node n).inPin 0 = some l → l < p.ix.zero

theorem mem_ppoSrcs_elim {p : MapIn} {j s : Nat} (h : (j, s) ∈ p.ppoSrcs) :
    ∃ n i l, (n, i) ∈ p.net.sNodes.zipIdx ∧ (p.net.node n).inPin 0 = some l ∧ j = p.ix.ppo + i ∧ s = p.src l := by
  unfold MapIn.ppoSrcs MapIn.ppoSrcsW at h
  simp only [List.mem_filterMap] at h
  obtain ⟨⟨n, i⟩, hm, hg⟩ := h
  cases hp0 : (p.net.node n).inPin 0 with
  | none => rw [hp0] at hg; simp at hg
  | some l =>
    rw [hp0] at hg
    simp only [Option.map_some, Option.some.injEq, Prod.mk.injEq] at hg
    exact ⟨n, i, l, hm, hp0, hg.1.symm, hg.2.symm⟩


/-- `ref_count[x] += 1` for every `x` of a list -/
def incs (r : Array Int) (xs : List Nat) : Array Int := xs.foldl (fun r x => r.setIfInBounds x (r.getD x 0 + 1)) r
/-- `ref_count[x] -= 1` for every `x` of a list -/
def decs (r : Array Int) (xs : List Nat) : Array Int := xs.foldl (fun r x => r.setIfInBounds x (r.getD x 0 - 1)) r

theorem incs_size (r : Array Int) (xs : List Nat) : (incs r xs).size = r.size :=
  foldl_inv _ (fun r' : Array Int => r'.size = r.size) (fun _ _ _ h => by simpa using h) rfl

theorem decs_size (r : Array Int) (xs : List Nat) : (decs r xs).size = r.size :=
  foldl_inv _ (fun r' : Array Int => r'.size = r.size) (fun _ _ _ h => by simpa using h) rfl

theorem incs_getD (r : Array Int) (xs : List Nat) (x : Nat) (hx : x < r.size) :
    (incs r xs).getD x 0 = r.getD x 0 + (xs.count x : Int) := by
  induction xs generalizing r with
  | nil => simp [incs]
  | cons y ys ih =>
    simp only [incs, List.foldl_cons] at ih ⊢
    rw [ih _ (by simpa using hx), getD_setIfInBounds, List.count_cons]
    by_cases h : y = x
    · subst h; simp [hx]; omega
    · have : (y == x) = false := by simpa using h
      simp [h, this]

theorem decs_getD (r : Array Int) (xs : List Nat) (x : Nat) (hx : x < r.size) :
    (decs r xs).getD x 0 = r.getD x 0 - (xs.count x : Int) := by
  induction xs generalizing r with
  | nil => simp [decs]
  | cons y ys ih =>
    simp only [decs, List.foldl_cons] at ih ⊢
    rw [ih _ (by simpa using hx), getD_setIfInBounds, List.count_cons]
    by_cases h : y = x
    · subst h; simp [hx]; omega
    · have : (y == x) = false := by simpa using h
      simp [h, this]

theorem incs_append (r : Array Int) (xs ys : List Nat) : incs r (xs ++ ys) = incs (incs r xs) ys := by
  simp [incs, List.foldl_append]

end KV
