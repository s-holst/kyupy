import KyupyVerif.Proofs.WaveTerm
/-! C04, gate level: with polarity-independent delays ≥ 0 and strictly increasing operands the output stack stays strictly
decreasing (newest first), i.e. the produced waveform is strictly increasing. -/

namespace KV.Wave

def Incr (l : List T) : Prop := List.Pairwise (fun a b => T.lt a b = true) l
/-- the output stack is newest first, so it must be strictly decreasing -/
def Desc (l : List T) : Prop := List.Pairwise (fun a b => T.lt b a = true) l

structure PolInd (E : Env) (d : Fin 4 → Int) : Prop where
  eq : ∀ (i : Fin 4) p q, E.D i p q = d i

theorem Base.incr {E : Env} {ws : Fin 4 → List T} {s : St} (b : Base E ws s) {i : Fin 4} (h : Incr (ws i)) : Incr (s.r i) :=
  (b.csr i).1 ▸ List.Pairwise.sublist (List.drop_sublist _ _) h

/-- `bound`: `prev` bounds the stack; `fut`: every future event is ≥ `prev`. A kept toggle is wider than `prev`, hence later
    than the whole stack; after a pop `prev` is a stack entry again, hence still ≤ every future event. -/
structure InvM (d : Fin 4 → Int) (s : St) : Prop where
  desc : Desc s.z
  bound : ∀ y ∈ s.z, T.le y s.prev
  fut : ∀ i, ∀ e ∈ s.r i, T.le s.prev (e.add (d i))

theorem desc_le_top {x : T} {z : List T} (h : Desc (x :: z)) : ∀ y ∈ (x :: z), T.le y x := by
  intro y hy
  rcases List.mem_cons.mp hy with rfl | hy
  · exact T.le_refl _
  · exact T.le_of_lt ((List.pairwise_cons.mp h).1 y hy)

theorem desc_tail {z : List T} (h : Desc z) : Desc z.tail := h.sublist (List.tail_sublist z)

theorem desc_le_headT {z : List T} (h : Desc z) : ∀ y ∈ z, T.le y (headT z T.tmin) := by
  cases z with
  | nil => intro y hy; cases hy
  | cons x xs => exact desc_le_top h

theorem headT_le {z : List T} {p : T} (h : ∀ y ∈ z, T.le y p) : T.le (headT z T.tmin) p := by
  cases z with
  | nil => exact T.tmin_le _
  | cons x xs => exact h x List.mem_cons_self

theorem head_add_le (l : List T) (term : T) (d : Int) (h : Incr l) : ∀ e ∈ l, T.le ((headT l term).add d) (e.add d) := by
  intro e he
  cases l with
  | nil => simp at he
  | cons x xs =>
    simp only [headT]
    rcases List.mem_cons.mp he with rfl | he
    · exact T.le_refl _
    · exact T.le_of_lt (T.add_lt_add d ((List.pairwise_cons.mp h).1 e he))

theorem stepM (E : Env) (d) (hpol : PolInd E d) (ws : Fin 4 → List T) (hwf : ∀ i, WfRem (ws i)) (hinc : ∀ i, Incr (ws i))
    (s : St) (b : Base E ws s) (hM : InvM d s) (hlt : T.lt (cur E.D E.terms s) .tmax = true) :
    InvM d (step E.lut E.D E.terms E.zcap s) := by
  obtain ⟨x, xs, hr, hc⟩ := event E.hterm s hlt
  rw [hpol.eq] at hc
  have hip := b.incr (hinc (pick E.D E.terms s))
  rw [hr] at hip
  -- every entry that remains after this step is ≥ cur
  have hF1 : ∀ j, ∀ e ∈ upd s.r (pick E.D E.terms s) (s.r (pick E.D E.terms s)).tail j,
      T.le (cur E.D E.terms s) (e.add (d j)) := by
    intro j e he
    unfold upd at he
    split at he
    · rename_i hj; subst hj
      rw [hr] at he; rw [hc]
      exact T.le_of_lt (T.add_lt_add _ ((List.pairwise_cons.mp hip).1 e he))
    · have h1 := cur_le_pend E.D E.terms s j
      unfold pend at h1; rw [hpol.eq] at h1
      exact T.le_trans h1 (head_add_le (s.r j) (E.terms j) (d j) (b.incr (hinc j)) e he)
  -- the next edge on the same operand is never earlier than the current one
  have hnext : T.lt (nextT E.D E.terms s (pick E.D E.terms s)) (cur E.D E.terms s) = false := by
    unfold nextT
    rw [hpol.eq, hr, List.tail_cons, hc]
    cases xs with
    | nil =>
      have hx := (b.wf (hwf (pick E.D E.terms s))).2 x (by rw [hr]; simp)
      refine T.le_of_lt (T.lt_term ?_ (by rw [T.add_isTerm]; exact E.hterm _))
      rcases hx with rfl | hx
      · exact Or.inr rfl
      · exact Or.inl (by rw [T.add_isFin]; exact hx)
    | cons y ys => exact T.le_of_lt (T.add_lt_add _ ((List.pairwise_cons.mp hip).1 y (by simp)))
  have hfut' : ∀ {p : T}, T.le p s.prev → ∀ j, ∀ e ∈ upd s.r (pick E.D E.terms s) (s.r (pick E.D E.terms s)).tail j,
      T.le p (e.add (d j)) := fun hp j e he => T.le_trans hp (hM.fut j e ((upd_tail_sublist s.r _ j).subset he))
  refine step_ind (P := InvM d) _ _ _ _ s (fun _ => ⟨hM.desc, hM.bound, hfut' (T.le_refl _)⟩) (fun _ hk _ => ?_)
    (fun _ _ => ⟨desc_tail hM.desc, fun y hy => desc_le_headT hM.desc y (List.mem_of_mem_tail hy), hfut' (headT_le hM.bound)⟩)
    (fun _ _ _ _ => ⟨desc_tail hM.desc, desc_le_headT (desc_tail hM.desc),
      hfut' (headT_le fun y hy => hM.bound y (List.mem_of_mem_tail hy))⟩)
  -- push: a kept toggle on a non-empty stack is wider than `prev`, which bounds the stack
  have hyc : ∀ y ∈ s.z, T.lt y (cur E.D E.terms s) = true := fun y hy => by
    rcases hk with h | h | h
    · rw [h] at hy; cases hy
    · rw [hnext] at h; cases h
    · exact T.lt_of_le_of_lt (hM.bound y hy) (T.lt_of_widerThan (E.hD _ _ _) h)
  exact ⟨List.pairwise_cons.mpr ⟨hyc, hM.desc⟩,
    fun y hy => (List.mem_cons.mp hy).elim (· ▸ T.le_refl _) (fun h => T.le_of_lt (hyc y h)), hF1⟩

theorem mono_polind (E : Env) (d) (hpol : PolInd E d) (ws : Fin 4 → List T)
    (hwf : ∀ i, WfRem (ws i)) (hinc : ∀ i, Incr (ws i)) :
    Desc (run E.lut E.D E.terms E.zcap (totalLen ws) (init E.lut ws)).z := by
  refine (run_base E ws (P := InvM d) ⟨?_, ?_, fun i e _ => T.tmin_le _⟩
    (fun s b h hlt => stepM E d hpol ws hwf hinc s b h hlt) _).2.desc
  · simp only [init]; cases (E.lut % 2 == 1) <;> simp [Desc]
  · intro y hy; simp only [init] at hy ⊢
    cases h : (E.lut % 2 == 1) <;> simp [h] at hy
    subst hy; exact T.le_refl _

end KV.Wave
