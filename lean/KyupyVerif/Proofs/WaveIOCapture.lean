import KyupyVerif.Proofs.Basics
import KyupyVerif.Proofs.WaveIOArrays
/-! CPU vs GPU-kernel code path of the capture (`wave_capture_cpu` over the slice `c[c_loc:c_loc+c_len]` vs the index loop of
`wave_capture_gpu`), `sd = 0`: the two scans agree on every region (`capture_paths`); which rows each path captures. That both
return the capture record of the waveform the region encodes is `C06.capture_paths_agree`. -/
namespace KV.WaveIO
open KV.Wave KV.Grid

theorem scan_done (time : T) (cells : List T) (s : ScanSt) (h : s.done = true) :
    cells.foldl (scanStep time) s = s := by
  induction cells with
  | nil => rfl
  | cons t r ih =>
    simp only [List.foldl_cons]
    have : scanStep time s t = s := by unfold scanStep; simp [h]
    rw [this, ih]

theorem scan_spec (time : T) (cells : List T) (st : CapSt) :
    (cells.foldl (scanStep time) ⟨st, false, false⟩).st = (readWave cells).ents.foldl (capStep time) st ∧
    (cells.foldl (scanStep time) ⟨st, false, false⟩).ovl = ((readWave cells).term == T.tovl) := by
  induction cells generalizing st with
  | nil => exact ⟨rfl, rfl⟩
  | cons t r ih =>
    simp only [List.foldl_cons]
    by_cases he : isEnd t = true
    · have hs : scanStep time ⟨st, false, false⟩ t = ⟨st, t == T.tovl, true⟩ := by
        unfold scanStep; simp [he]
      rw [hs, scan_done time r _ rfl, readWave_end t r he]
      exact ⟨rfl, rfl⟩
    · have he' : isEnd t = false := by simpa using he
      have hs : scanStep time ⟨st, false, false⟩ t = ⟨capStep time st t, false, false⟩ := by
        unfold scanStep; simp [he']
      rw [hs, readWave_cons t r he']
      exact ih (capStep time st t)

theorem rdCells_head (c : Col) (loc : Int) (len : Nat) (h : 0 < len) : (rdCells c loc len).head? = some (c loc) := by
  obtain ⟨n, rfl⟩ : ∃ n, len = n + 1 := ⟨len - 1, by omega⟩
  unfold rdCells
  rw [List.range_succ_eq_map]
  simp

theorem capture_paths (c : Col) (loc : Int) (len : Nat) (hlen : 0 < len) (time : T) :
    gpuCapture c loc len time = cpuCapture c loc len time := by
  unfold gpuCapture cpuCapture
  have h1 : (List.range len).foldl (fun s (tidx : Nat) => scanStep time s (c (loc + (tidx : Int)))) scanInit =
      (rdCells c loc len).foldl (scanStep time) scanInit := by
    unfold rdCells
    rw [List.foldl_map]
  rw [h1]
  show _ = capOf ((rdCells c loc len).head? == some T.tmin) _
  rw [rdCells_head c loc len hlen]
  congr 1

theorem head_readWave (cells : List T) : ((readWave cells).ents.head? == some T.tmin) = (cells.head? == some T.tmin) := by
  cases cells with
  | nil => rfl
  | cons t r =>
    by_cases he : isEnd t = true
    · rw [readWave_end t r he]
      cases t <;> simp_all [isEnd]
    · have he' : isEnd t = false := by simpa using he
      rw [readWave_cons t r he']
      rfl

theorem foldl_updN_const {α} (g : Nat → α) (R : List Nat) (r0 : Nat → Option α) (y : Nat) :
    R.foldl (fun r z => updN r z (some (g z))) r0 y = if y ∈ R then some (g y) else r0 y := by
  have := foldl_pointwise_const (fun (m : Nat → Option α) => m) (fun r z => updN r z (some (g z))) id (fun z _ => some (g z))
    (fun _ _ _ => rfl) R r0 y (fun _ => some (g y)) (fun b _ e => by simp only [id] at e; rw [e]) (fun _ => rfl)
  simpa using this

theorem cpuCToS_spec (tb : Tab) (time : T) (c : Col) (res : Nat → Option Cap) (y : Nat) :
    cpuCToS tb time c res y =
      if y ∈ cpuCaptureRows tb then some (cpuCapture c (tb.ppoLoc y) (tb.ppoCap y) time) else res y := by
  unfold cpuCToS
  exact foldl_updN_const (fun y => cpuCapture c (tb.ppoLoc y) (tb.ppoCap y) time) _ res y

theorem mem_cpuCaptureRows (tb : Tab) (y : Nat) :
    y ∈ cpuCaptureRows tb ↔ (y < tb.nIo ∧ 0 ≤ tb.ppoLoc y) ∨ (tb.nIo ≤ y ∧ y < tb.sLen) := by
  unfold cpuCaptureRows
  simp only [List.mem_append, List.mem_filter, List.mem_range, decide_eq_true_eq, List.mem_range'_1]
  constructor
  · rintro (h | h)
    · exact Or.inl h
    · exact Or.inr ⟨h.1, by omega⟩
  · rintro (h | h)
    · exact Or.inl h
    · exact Or.inr ⟨h.1, by omega⟩

/-- the kernel launch of `wave_capture_gpu`, no hypotheses: row `y` of lane `x` is captured iff `x < sims`, `y < s_len`
    and its (P)PO slot has memory -/
theorem gpuCToS_spec (tb : Tab) (time : T) (sims bx by_ : Nat) (hbx : 0 < bx) (hby : 0 < by_) (c : Nat → Col)
    (res : Nat → Nat → Option Cap) (x y : Nat) :
    gpuCToS tb time sims bx by_ c res x y =
      if x < sims ∧ y < tb.sLen ∧ 0 ≤ tb.ppoLoc y then some (gpuCapture (c x) (tb.ppoLoc y) (tb.ppoCap y) time) else res x y := by
  refine launch_rows (gpuCaptureThread tb time sims c) (fun y => 0 ≤ tb.ppoLoc y)
    (fun x y _ => some (gpuCapture (c x) (tb.ppoLoc y) (tb.ppoCap y) time)) sims tb.sLen bx by_ hbx hby ?_ res x y
  intro x y res
  unfold gpuCaptureThread
  by_cases h1 : y ≥ tb.sLen <;> by_cases h2 : tb.ppoLoc y < 0 <;> by_cases h3 : x ≥ sims <;>
    simp only [h1, h2, h3, if_true, if_false] <;> first | rw [if_neg (by omega)] | rw [if_pos (by omega)]

end KV.WaveIO
