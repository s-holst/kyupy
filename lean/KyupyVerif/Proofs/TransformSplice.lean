import KyupyVerif.Proofs.TransformElim
/-! Vocabulary for C10 (`elim_sem`): `Node.remove()` (`delNode`) through accessors; consistency of a labelling with the assignment
indexed by node instead of by `s_nodes` position (`spN`, `ConsN`: the form on which a renaming of node indices acts by composition)
and its translation to `consistentB` (`consistentB_iff`); the invariant `SI` of the loop of `eliminate_1to1_forks` and the
hypotheses `SC` of one splice with what they say about the fork `i`, its in-line `a`, its out-line `b` and the reader of `b`. -/
namespace KV.Transform
open KV

theorem delNode_sizes (nn : NNet) (i : Nat) : (delNode nn i).net.nodes.size = nn.net.nodes.size - 1 ∧
    (delNode nn i).net.lines.size = nn.net.lines.size := by
  simp [delNode]

theorem delNode_node (nn : NNet) (i j : Nat) (hi : i < nn.net.nodes.size) (hj : j < nn.net.nodes.size - 1) :
    (delNode nn i).net.node j = nn.net.node (nmN nn.net.nodes.size i j) :=
  getD_swapPop nn.net.nodes default i j hi hj

theorem delNode_line (nn : NNet) (i l : Nat) (hl : l < nn.net.lines.size) :
    (delNode nn i).net.line l =
      { nn.net.line l with
        driver := mvN nn.net.nodes.size i (nn.net.line l).driver
        reader := mvN nn.net.nodes.size i (nn.net.line l).reader } := by
  simp [Net.line, Array.getD_eq_getD_getElem?, delNode, mvN, Array.getElem?_map, Array.getElem?_eq_getElem hl]


/-- node-indexed reading of the assignment: an `s_node` is its own position -/
def spN (net : Net) (n : Nat) : Option Nat := if net.sNodes.contains n then some n else none

theorem spN_map_congr {α} {net net' : Net} {d d' : Nat} (hm : d' ∈ net'.sNodes ↔ d ∈ net.sNodes) (an an' : Nat → α)
    (h : d ∈ net.sNodes → an' d' = an d) : (spN net' d').map an' = (spN net d).map an := by
  simp only [spN, List.contains_iff_mem]
  by_cases e : d ∈ net.sNodes
  · simp [e, hm.mpr e, h e]
  · have : ¬ d' ∈ net'.sNodes := fun x => e (hm.mp x)
    simp [e, this]

def ConsN {α} (nn : NNet) (z : α) (neg : α → α) (prim : String → α → α → α → α → α) (an : Nat → α) (v : Nat → α) : Prop :=
  ∀ l, l < nn.net.lines.size → v l = lineEq nn.net (spN nn.net) z neg prim an v l

/-- the (splice) invariant of the loop of `eliminate_1to1_forks`: the dump is well-formed up to trailing `None`s and a fork has at most one
    input pin.  The latter makes the in-line `a` of the spliced fork THE line that ends at it (`SC.rdr_i`), so re-wiring `a` leaves
    no line behind that still records the deleted node. -/
structure SI (nn : NNet) : Prop extends WFm nn where
  fork1 : ∀ j, j < nn.net.nodes.size → (nn.net.node j).isFork = true → (nn.net.node j).ins.length ≤ 1

theorem SI.of_wf {nn : NNet} (w : WF nn) (hf : nn.forkIns1 = true) : SI nn := by
  refine ⟨w.toWFm, ?_⟩
  intro j hj hfk
  simp only [NNet.forkIns1, List.all_eq_true, List.mem_range] at hf
  have := hf j hj
  simpa [hfk] using this

theorem eq_singleton_of_head? {α} {l : List α} {x : α} (hl : l.length ≤ 1) (hh : l.head? = some x) : l = [x] := by
  cases l with
  | nil => simp at hh
  | cons y r =>
    cases r with
    | nil => simp at hh; rw [hh]
    | cons _ _ => simp at hl

theorem getD_single {a k x : Nat} (h : [some a].getD k none = some x) : k = 0 ∧ x = a := by
  cases k with
  | zero => simp at h; exact ⟨rfl, h.symm⟩
  | succ k => simp at h

/-- the hypotheses (splice conditions) under which `elimOne` splices at fork `i` (in-line `a`, out-line `b`) -/
structure SC (nn : NNet) (i a b : Nat) : Prop where
  si : SI nn
  hi : i < nn.net.nodes.size
  fork : (nn.net.node i).isFork = true
  nio : nn.net.io.contains i = false
  olen : (nn.net.node i).outs.length = 1
  hin : (nn.net.node i).ins.head? = some (some a)
  hout : (nn.net.node i).outs.head? = some (some b)
  hab : a ≠ b

section facts
variable {nn : NNet} {i a b : Nat} (c : SC nn i a b)
include c

theorem SC.ins_eq : (nn.net.node i).ins = [some a] := eq_singleton_of_head? (c.si.fork1 i c.hi c.fork) c.hin

theorem SC.outs_eq : (nn.net.node i).outs = [some b] := eq_singleton_of_head? (Nat.le_of_eq c.olen) c.hout

theorem SC.b_facts : b < nn.net.lines.size ∧ (nn.net.line b).driver = i ∧ (nn.net.line b).dpin = 0 :=
  c.si.fwdOut i c.hi 0 b (by rw [c.outs_eq]; rfl)

theorem SC.a_facts : a < nn.net.lines.size ∧ (nn.net.line a).reader = i ∧ (nn.net.line a).rpin = 0 :=
  c.si.fwdIn i c.hi 0 a (by rw [c.ins_eq]; rfl)

theorem SC.R_facts : (nn.net.line b).reader < nn.net.nodes.size ∧
    (nn.net.node (nn.net.line b).reader).ins.getD (nn.net.line b).rpin none = some b ∧ (nn.net.line b).reader ≠ i := by
  have hb := c.si.back b c.b_facts.1
  refine ⟨hb.2.1, hb.2.2.2, ?_⟩
  intro e
  have := hb.2.2.2
  rw [e] at this
  exact c.hab (getD_single (c.ins_eq ▸ this)).2.symm

theorem SC.drv_i (l : Nat) (hl : l < nn.net.lines.size) (h : (nn.net.line l).driver = i) : l = b := by
  have := (c.si.back l hl).2.2.1
  rw [h] at this
  exact (getD_single (c.outs_eq ▸ this)).2

theorem SC.rdr_i (l : Nat) (hl : l < nn.net.lines.size) (h : (nn.net.line l).reader = i) : l = a := by
  have := (c.si.back l hl).2.2.2
  rw [h] at this
  exact (getD_single (c.ins_eq ▸ this)).2

theorem SC.P_lt : (nn.net.line b).rpin < (nn.net.node (nn.net.line b).reader).ins.length :=
  lt_of_getD_some c.R_facts.2.1
end facts


theorem splice_sizes {nn : NNet} {i a b : Nat} : (splice nn i a b).net.nodes.size = nn.net.nodes.size - 1 ∧
    (splice nn i a b).net.lines.size = nn.net.lines.size - 1 := by
  simp [splice, spliceMid, delNode, delLine]

theorem isDff_of_kind {n m : NodeD} (h : n.kind = m.kind) : n.isDff = m.isDff ∧ n.isLatch = m.isLatch := by
  simp [NodeD.isDff, NodeD.isLatch, NodeD.lkind, h]

theorem isFork_of_kind_eq {n1 n2 : NodeD} (h : n1.kind = n2.kind) : n1.isFork = n2.isFork := by
  simp [NodeD.isFork, h]

theorem isSeq_eq (n : NodeD) : n.isSeq = isSeqKind n.kind := rfl

theorem spN_none (net : Net) (i : Nat) (hio : net.io.contains i = false) (hf : (net.node i).isFork = true) :
    spN net i = none := by
  have := fork_not_sNode net i hio hf
  simp [spN, this]

theorem spN_io (net : Net) (n : Nat) (h : n ∈ net.io) : spN net n = some n := by
  have : n ∈ net.sNodes := (mem_sNodes net n).mpr (Or.inl h)
  simp [spN, this]

theorem sp_map_eq {α : Type _} (net : Net) (d : Nat) (hd : d < net.nodes.size) (asg : Nat → α) :
    (net.sPosTable.getD d none).map asg = (spN net d).map (fun n => asg (net.sNodes.idxOf n)) := by
  rw [sPosTable_getD net hd]
  simp only [Net.sPos, sPosIn, spN, List.contains_iff_mem]
  by_cases h : d ∈ net.sNodes
  · simp [h, List.idxOf_lt_length_iff.mpr h]
  · have : ¬ List.idxOf d net.sNodes < net.sNodes.length := fun x => h (List.idxOf_lt_length_iff.mp x)
    simp [h, this]

theorem sNodes_lt {nn : NNet} (h : WFm nn) (n : Nat) (hn : n ∈ nn.net.sNodes) : n < nn.net.nodes.size := by
  rw [mem_sNodes] at hn
  rcases hn with hn | hn | hn
  · exact h.io n hn
  · exact hn.1
  · exact hn.1

theorem WFm.lineEq_vals {α : Type _} {nn : NNet} (h : WFm nn) (z : α) (neg : α → α) (prim : String → α → α → α → α → α)
    (an1 an2 v1 v2 : Nat → α) (ha : ∀ n ∈ nn.net.sNodes, an1 n = an2 n) (hv : ∀ l, l < nn.net.lines.size → v1 l = v2 l)
    (l : Nat) (hl : l < nn.net.lines.size) :
    lineEq nn.net (spN nn.net) z neg prim an2 v2 l = lineEq nn.net (spN nn.net) z neg prim an1 v1 l := by
  apply lineEq_congr
  · rfl
  · rfl
  · exact spN_map_congr Iff.rfl an1 an2 fun e => (ha _ e).symm
  · intro k
    cases ho : (nn.net.node (nn.net.line l).driver).inPin k with
    | none => rfl
    | some x =>
      simp only [Option.map_some]
      rw [hv x (h.fwdIn _ (h.back l hl).1 k x ho).1]

theorem consN_congr {α : Type _} {nn : NNet} (h : WFm nn) (z : α) (neg : α → α) (prim : String → α → α → α → α → α)
    (an1 an2 v1 v2 : Nat → α) (ha : ∀ n ∈ nn.net.sNodes, an1 n = an2 n) (hv : ∀ l, l < nn.net.lines.size → v1 l = v2 l)
    (hc : ConsN nn z neg prim an1 v1) : ConsN nn z neg prim an2 v2 := by
  intro l hl
  rw [← hv l hl, hc l hl, h.lineEq_vals z neg prim an1 an2 v1 v2 ha hv l hl]

theorem consistentB_iff {α : Type _} [BEq α] [LawfulBEq α] {nn : NNet}
    (h : ∀ l, l < nn.net.lines.size → (nn.net.line l).driver < nn.net.nodes.size) (z : α) (neg : α → α)
    (prim : String → α → α → α → α → α) (asg : Nat → α) (v : Array α) :
    consistentB nn.net z neg prim asg v = true ↔
      ConsN nn z neg prim (fun n => asg (nn.net.sNodes.idxOf n)) (fun l => v.getD l z) := by
  simp only [consistentB, List.all_eq_true, List.mem_range, beq_iff_eq, ConsN]
  have key : ∀ l, l < nn.net.lines.size →
      lineEq nn.net (fun n => nn.net.sPosTable.getD n none) z neg prim asg (fun i => v.getD i z) l =
      lineEq nn.net (spN nn.net) z neg prim (fun n => asg (nn.net.sNodes.idxOf n)) (fun l => v.getD l z) l := by
    intro l hl
    apply lineEq_congr
    · rfl
    · rfl
    · exact sp_map_eq nn.net _ (h l hl) asg
    · intro k; rfl
  exact forall₂_congr fun l hl => by rw [key l hl]

theorem relabel_getD {α : Type _} (r : Ren) (nn' : NNet) (v : Array α) (z : α) (l : Nat) (hl : l < nn'.net.lines.size) :
    (relabel r nn' v z).getD l z = v.getD (r.line l) z := by
  simp [relabel, Array.getD_eq_getD_getElem?, hl]

theorem getD_idxOf {l : List Nat} {n : Nat} (h : n ∈ l) : l.getD (l.idxOf n) 0 = n := by
  rw [List.getD_eq_getElem?_getD, getElem?_idxOf h]; rfl

end KV.Transform
