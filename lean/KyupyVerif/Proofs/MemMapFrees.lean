import KyupyVerif.Proofs.MemMapAccept
import KyupyVerif.Proofs.HeapHist
/-! Every release the `SimOps` model performs is a release of a LIVE chunk start (C08).

The real `Heap.free(loc)` does not check that `loc` is the start of a live chunk (`Heap.free(0)` twice raises nothing and
corrupts the tables), so the allocator theorems speak about histories inside the domain "releases of live starts only"
(`histOkB`). `simops_frees_live` (C08 `memMap_frees_live`): the histories the model `memMap` produces are inside this domain — at the end of every level,
with `c_reuse`, every location in the pending free set is non-negative, is the start of a live region of the heap at that
moment and its release succeeds (so the "failing release changes nothing" branch of `freeAll` and `(-1).toNat = 0` are
never reached). The order inside one pending set does not matter: `freesLiveB_of` asks for distinct live starts only. -/
namespace KV
open KV.Heap

def freesLiveB : Heap → List Int → Bool
  | _, [] => true
  | h, l :: r => decide (0 ≤ l) && liveStartB h l.toNat &&
      (match h.free l.toNat with
       | some h' => freesLiveB h' r
       | none => false)

theorem freesLiveB_of (fs : List Int) : ∀ (h : Heap), HInv h → fs.Nodup →
    (∀ l ∈ fs, 0 ≤ l ∧ ∃ n, (l.toNat, n) ∈ h.used) → freesLiveB h fs = true := by
  induction fs with
  | nil => intro _ _ _ _; rfl
  | cons l r ih =>
    intro h hi hnd hl
    obtain ⟨hl0, n, hn⟩ := hl l List.mem_cons_self
    have hls : liveStartB h l.toNat = true := by
      simp only [liveStartB, List.contains_eq_mem, List.mem_map, decide_eq_true_eq]
      exact ⟨_, hn, rfl⟩
    obtain ⟨h', hf⟩ := liveStart_free h hi _ hls
    simp only [freesLiveB, hl0, decide_true, hls, Bool.and_self, hf, Bool.true_and]
    rw [List.nodup_cons] at hnd
    apply ih h' (free_inv h h' _ hi hf) hnd.2
    intro l' hl'
    obtain ⟨h0, n', hn'⟩ := hl l' (List.mem_cons_of_mem _ hl')
    refine ⟨h0, n', (free_used_iff h h' _ hi hf _).mpr ⟨hn', ?_⟩⟩
    intro he
    simp only at he
    apply hnd.1
    have : l' = l := by omega
    exact this ▸ hl'

theorem setAdd_nodup (l : List Int) (x : Int) (h : l.Nodup) : (setAdd l x).Nodup := by
  unfold setAdd
  split
  · exact h
  · rename_i hc
    rw [List.nodup_append]
    refine ⟨h, by simp, ?_⟩
    intro a ha b hb
    rw [List.mem_singleton] at hb
    subst hb
    intro e; subst e
    exact hc (by simpa using ha)

theorem collect_nodup (s : MapSt) (xs : List Nat) (fs : List Int) (h : fs.Nodup) : (xs.foldl (collectStep s) fs).Nodup := by
  refine foldl_inv _ List.Nodup (fun fs x _ h => ?_) h
  unfold collectStep
  split
  · exact setAdd_nodup _ _ h
  · exact h

theorem mapOpStep_snd (ix : Idx) (st : Array (Option Nat)) (capsIn : Nat → Nat) (capsMin : Nat) (s : MapSt)
    (fs : List Int) (o : OpRow) : (mapOpStep ix st capsIn capsMin (s, fs) o).2 =
      (opSrcs st o).foldl (collectStep (decRow st s o)) fs := by
  rw [mapOpStep_eq]
  split
  · dsimp only
  · dsimp only

theorem mapOpStep_nodup (ix : Idx) (st : Array (Option Nat)) (capsIn : Nat → Nat) (capsMin : Nat) (ops : List OpRow) :
    ∀ (sf : MapSt × List Int), sf.2.Nodup → (ops.foldl (mapOpStep ix st capsIn capsMin) sf).2.Nodup :=
  fun _ => foldl_inv _ (fun sf : MapSt × List Int => sf.2.Nodup) fun ⟨s, fs⟩ o _ h => by
    rw [mapOpStep_snd]
    exact collect_nodup _ _ _ h

def mapLevelStepChk (ix : Idx) (st : Array (Option Nat)) (capsIn : Nat → Nat) (capsMin : Nat) (reuse : Bool)
    (ops : List OpRow) (sb : MapSt × Bool) (ab : Nat × Nat) : MapSt × Bool :=
  let r := (levelOps ops ab).foldl (mapOpStep ix st capsIn capsMin) (sb.1, [])
  (mapLevelStep ix st capsIn capsMin reuse ops sb.1 ab, sb.2 && (!reuse || freesLiveB r.1.heap r.2))

def memMapFreesLiveB (net : Net) (ops : List OpRow) (st : Array (Option Nat)) (lev : LevSt)
    (capsIn : Nat → Nat) (capsMin : Nat) (reuse : Bool) : Bool :=
  ((levelPairs lev.starts.reverse ops.length).foldl (mapLevelStepChk net.idx st capsIn capsMin reuse ops)
    (mapPre net st lev capsMin, true)).2

theorem chk_fst (ix : Idx) (st : Array (Option Nat)) (capsIn : Nat → Nat) (capsMin : Nat) (reuse : Bool) (ops : List OpRow)
    (l : List (Nat × Nat)) : ∀ (sb : MapSt × Bool),
    (l.foldl (mapLevelStepChk ix st capsIn capsMin reuse ops) sb).1 = l.foldl (mapLevelStep ix st capsIn capsMin reuse ops) sb.1 := by
  induction l with
  | nil => intro _; rfl
  | cons ab r ih => intro sb; simp only [List.foldl_cons]; rw [ih]; rfl

theorem levelStep_frees {p : MapIn} (hp : ProgOK p) (hpos : 0 < p.capsMin) (capsIn : Nat → Nat)
    {a b : Nat} (ha : a ∈ p.starts) (hab : a ≤ b) (hb : b ≤ p.ops.length) (hgap : ∀ t ∈ p.starts, t ≤ a ∨ b ≤ t)
    (s : MapSt) (h : MInv p true a s) :
    freesLiveB ((levelOps p.ops (a, b)).foldl (mapOpStep p.ix p.stems capsIn p.capsMin) (s, [])).1.heap
      ((levelOps p.ops (a, b)).foldl (mapOpStep p.ix p.stems capsIn p.capsMin) (s, [])).2 = true := by
  obtain ⟨kA, _, kF⟩ := levelRows_inv hp hpos true capsIn ha hab hb hgap s h
  apply freesLiveB_of _ _ kA.hi (mapOpStep_nodup _ _ _ _ _ _ List.nodup_nil)
  intro l hl
  obtain ⟨x, hx, hda, _, rfl⟩ := kF rfl l hl
  exact ⟨(kA.bd x hx).1, _, kA.lv x hx hda⟩

/-- **every release `memMap` performs is the release of a live chunk start** — for a record `p` with the model's rows and
    level table -/
theorem memMap_frees_live_p {p : MapIn} (hp : ProgOK p) (hpos : 0 < p.capsMin) (reuse : Bool) (capsIn : Nat → Nat) (lev : LevSt)
    (hst : p.starts = lev.starts.reverse)
    (hsz : lev.refc.size = p.ix.len) (hrc : ∀ x, x < p.ix.len → lev.refc.getD x 0 = (occ p.stems x p.ops : Int)) :
    memMapFreesLiveB p.net p.ops p.stems lev capsIn p.capsMin reuse = true := by
  unfold memMapFreesLiveB
  rw [← hst]
  have := levelPairs_fold_inv p.starts p.ops.length hp.starts (mapLevelStepChk p.ix p.stems capsIn p.capsMin reuse p.ops)
    (fun k sb => MInv p reuse k sb.1 ∧ sb.2 = true)
    (fun a b sb ha hab hb hgap h => by
      refine ⟨levelStep_inv hp hpos reuse capsIn ha hab hb hgap sb.1 h.1, ?_⟩
      simp only [mapLevelStepChk, h.2, Bool.true_and]
      cases reuse with
      | false => rfl
      | true => simpa using levelStep_frees hp hpos capsIn ha hab hb hgap sb.1 h.1)
    (mapPre p.net p.stems lev p.capsMin, true) ⟨mapPre_inv hpos reuse lev hsz hrc, rfl⟩
  exact this.2

theorem simops_frees_live (tbl : List PrefixRow) (net : Net) (order : List Nat) (strip : Bool) (capsIn : Nat → Nat)
    (capsMin : Nat) (reuse : Bool) (hwf : net.wfB = true) (ho : orderOKB net order = true)
    (hf : strip = true → forksOKB net order = true) (hr : readsDrivenB tbl net order = true) (hpos : 0 < capsMin) :
    memMapFreesLiveB net (genOps tbl net order strip) (stemsOf net strip)
      (levelise net.idx.len (stemsOf net strip) (genOps tbl net order strip)) capsIn capsMin reuse = true := by
  have hp := simops_progOK tbl (simopsMap tbl net order strip capsIn capsMin reuse) order hwf ho hf hr rfl rfl
  exact memMap_frees_live_p (p := simopsMap tbl net order strip capsIn capsMin reuse) hp hpos reuse capsIn
    (levelise net.idx.len (stemsOf net strip) (genOps tbl net order strip)) rfl
    (levelise_inv _ _ _).rsz (fun x hx => levelise_refc _ _ _ x hx)

end KV
