import KyupyVerif.Model.Cycle
/-! Simulation lemma for the clock loop: a relation between two value domains that every op of the program and `merge`
preserve is preserved by `cycle(k)` — lanes of the bit-parallel simulator, refinement between the logics, … lift from one
`c_prop` (C01 `sim2_lanes`, C02) to any number of cycles. -/
namespace KV.Cycle
open KV KV.Sig

/-! ### the clock loop is an iteration: every statement about `cycle(k)` is a one-step statement -/

theorem iter_rel {β γ} {R : β → γ → Prop} {f : β → β} {g : γ → γ} (h : ∀ a b, R a b → R (f a) (g b)) :
    ∀ k a b, R a b → R (iter f k a) (iter g k b)
  | 0, _, _, r => r
  | k + 1, a, b, r => iter_rel h k (f a) (g b) (h a b r)

theorem iter_inv {β} {P : β → Prop} {f : β → β} (h : ∀ a, P a → P (f a)) (k : Nat) (a : β) (pa : P a) : P (iter f k a) :=
  iter_rel (R := fun a (_ : Unit) => P a) (g := id) (fun a _ => h a) k a () pa

/-- a function given by the two equations of `iter` is `iter` (`cycleK`, `cycleKA`, `cycleKM` are written that way) -/
theorem eq_iter {β} (F : Nat → β → β) (f : β → β) (h0 : ∀ a, F 0 a = a) (hs : ∀ k a, F (k + 1) a = F k (f a)) :
    ∀ k, F k = iter f k
  | 0 => funext h0
  | k + 1 => funext fun a => by rw [hs, eq_iter F f h0 hs k]; rfl

theorem cycleK_eq_iter {α} (sem : Op → List α → α) (ops : List Op) (T : Tabs) (merge : α → α → α) (d : α) (k : Nat) :
    cycleK sem ops T merge d k = iter (cycle1 sem ops T merge d) k :=
  eq_iter _ _ (fun _ => rfl) (fun _ _ => rfl) k

theorem _root_.KV.Sig.All2.set {α β} {R : α → β → Prop} {xs : List α} {ys : List β} (h : All2 R xs ys) (i : Nat) {a : α} {b : β}
    (hab : R a b) : All2 R (xs.set i a) (ys.set i b) := by
  induction h generalizing i with
  | nil => exact .nil
  | cons hh ht ih =>
    cases i with
    | zero => exact .cons hab ht
    | succ i => exact .cons hh (ih i)

theorem _root_.KV.Sig.All2.map_eq {α β} {f : α → β} {xs : List α} {ys : List β} (h : All2 (fun a b => f a = b) xs ys) : xs.map f = ys := by
  induction h with
  | nil => rfl
  | cons hh _ ih => rw [List.map_cons, hh, ih]

theorem _root_.KV.Sig.All2.of_map {α β} (f : α → β) (xs : List α) : All2 (fun a b => f a = b) xs (xs.map f) := by
  induction xs with
  | nil => exact .nil
  | cons x r ih => exact .cons rfl ih

section
variable {α β : Type} (R : α → β → Prop)

theorem sToC_rel (T : Tabs) (d1 : α) (d2 : β) (hd : R d1 d2) (a1 : List α) (a2 : List β) (ha : All2 R a1 a2)
    (e1 : Nat → α) (e2 : Nat → β) (he : ∀ l, R (e1 l) (e2 l)) : ∀ l, R (sToC T d1 a1 e1 l) (sToC T d2 a2 e2 l) :=
  List.foldl_rel (r := fun (e1 : Nat → α) (e2 : Nat → β) => ∀ l, R (e1 l) (e2 l)) he fun px _ c c' hc l => by
    simp only [upd]
    split
    · exact ha.getD _ _ _ hd
    · exact hc l

theorem cToS_rel (T : Tabs) (e1 : Nat → α) (e2 : Nat → β) (he : ∀ l, R (e1 l) (e2 l)) (s1 : List α) (s2 : List β)
    (hs : All2 R s1 s2) : All2 R (cToS T e1 s1) (cToS T e2 s2) :=
  List.foldl_rel (r := All2 R) hs fun _ _ _ _ hc => hc.set _ (he _)

theorem ppoToPpi_rel (T : Tabs) (m1 : α → α → α) (m2 : β → β → β)
    (hm : ∀ a b a' b', R a b → R a' b' → R (m1 a a') (m2 b b')) (d1 : α) (d2 : β) (hd : R d1 d2)
    (a1 : List α) (a2 : List β) (ha : All2 R a1 a2) (c1 : List α) (c2 : List β) (hc : All2 R c1 c2) :
    All2 R (ppoToPpi T m1 d1 a1 c1) (ppoToPpi T m2 d2 a2 c2) :=
  List.foldl_rel (r := All2 R) ha fun _ _ _ _ hx => hx.set _ (hm _ _ _ _ (ha.getD _ _ _ hd) (hc.getD _ _ _ hd))

structure StRel (st1 : St α) (st2 : St β) : Prop where
  env : ∀ l, R (st1.env l) (st2.env l)
  s0 : All2 R st1.s.s0 st2.s.s0
  s1 : All2 R st1.s.s1 st2.s.s1

theorem cycle1_rel (sem1 : Op → List α → α) (sem2 : Op → List β → β) (ops : List Op)
    (hop : ∀ op ∈ ops, ∀ (xs : List α) (ys : List β), All2 R xs ys → R (sem1 op xs) (sem2 op ys))
    (T : Tabs) (m1 : α → α → α) (m2 : β → β → β) (hm : ∀ a b a' b', R a b → R a' b' → R (m1 a a') (m2 b b'))
    (d1 : α) (d2 : β) (hd : R d1 d2) (st1 : St α) (st2 : St β) (h : StRel R st1 st2) :
    StRel R (cycle1 sem1 ops T m1 d1 st1) (cycle1 sem2 ops T m2 d2 st2) := by
  have he2 := execG_rel_on R sem1 sem2 ops hop _ _ (sToC_rel R T d1 d2 hd _ _ h.s0 _ _ h.env)
  have hs1 := cToS_rel R T _ _ he2 _ _ h.s1
  exact ⟨he2, ppoToPpi_rel R T m1 m2 hm d1 d2 hd _ _ h.s0 _ _ hs1, hs1⟩

theorem cycleK_rel (sem1 : Op → List α → α) (sem2 : Op → List β → β) (ops : List Op)
    (hop : ∀ op ∈ ops, ∀ (xs : List α) (ys : List β), All2 R xs ys → R (sem1 op xs) (sem2 op ys))
    (T : Tabs) (m1 : α → α → α) (m2 : β → β → β) (hm : ∀ a b a' b', R a b → R a' b' → R (m1 a a') (m2 b b'))
    (d1 : α) (d2 : β) (hd : R d1 d2) (k : Nat) (st1 : St α) (st2 : St β) (h : StRel R st1 st2) :
    StRel R (cycleK sem1 ops T m1 d1 k st1) (cycleK sem2 ops T m2 d2 k st2) := by
  rw [cycleK_eq_iter, cycleK_eq_iter]
  exact iter_rel (cycle1_rel R sem1 sem2 ops hop T m1 m2 hm d1 d2 hd) k st1 st2 h

end
end KV.Cycle
