/-! `IndexList.__delitem__` (circuit.py:29-36) deletes object `i` of `n` objects by moving the last one into the hole, for nodes and for
lines alike.  `nmN n i` sends an index after the deletion to the index the same object had before, `mvN n i` an index before (other
than `i`) to the index after; `mvL (n - 1) i` is `mvN n i` on a pin entry. -/
namespace KV.Transform
open KV

/-- new index ↦ old index -/
def nmN (n i j : Nat) : Nat := if j = i then n - 1 else j
/-- old index ↦ new index (for indices other than the deleted one) -/
def mvN (n i x : Nat) : Nat := if x = n - 1 then i else x

theorem nm_facts {n i j : Nat} (hi : i < n) (hj : j < n - 1) : nmN n i j < n ∧ nmN n i j ≠ i ∧ mvN n i (nmN n i j) = j := by
  unfold nmN mvN; split <;> (try split) <;> omega
theorem mv_facts {n i x : Nat} (hi : i < n) (hx : x < n) (hne : x ≠ i) : mvN n i x < n - 1 ∧ nmN n i (mvN n i x) = x := by
  unfold nmN mvN; split <;> (try split) <;> omega

theorem getD_swapPop {α} (a : Array α) (d : α) (i j : Nat) (hi : i < a.size) (hj : j < a.size - 1) :
    ((a.setIfInBounds i (a.getD (a.size - 1) d)).pop).getD j d = a.getD (nmN a.size i j) d := by
  simp only [Array.getD_eq_getD_getElem?, Array.getElem?_pop, Array.getElem?_setIfInBounds, Array.size_setIfInBounds, hj, if_true, hi, nmN]
  by_cases e : i = j
  · subst e; simp
  · have : ¬ j = i := fun c => e c.symm
    simp [e, this]

/-- the renaming of line references by `del c.lines[b]` -/
def mvL (last b : Nat) (o : Option Nat) : Option Nat := if o == some last then some b else o

theorem getD_map_mvL (l : List (Option Nat)) (last b k : Nat) :
    (l.map (fun o => if o == some last then some b else o)).getD k none = mvL last b (l.getD k none) := by
  simp only [List.getD_eq_getElem?_getD, List.getElem?_map, mvL]
  cases l[k]? <;> simp

theorem mvL_some {n b x : Nat} : mvL (n - 1) b (some x) = some (mvN n b x) := by
  simp only [mvL, mvN]
  by_cases e : x = n - 1 <;> simp [e]
theorem mvL_none {last b : Nat} : mvL last b none = none := rfl

theorem mvL_eq_some {n b : Nat} {o : Option Nat} {x : Nat} (h : mvL (n - 1) b o = some x) :
    ∃ y, o = some y ∧ x = mvN n b y := by
  cases o with
  | none => simp [mvL] at h
  | some y => rw [mvL_some] at h; exact ⟨y, rfl, (Option.some.inj h).symm⟩

theorem mvL_eq_none {last b : Nat} {o : Option Nat} : mvL last b o = none ↔ o = none := by
  cases o with
  | none => simp [mvL]
  | some x => simp only [mvL]; split <;> simp

end KV.Transform
