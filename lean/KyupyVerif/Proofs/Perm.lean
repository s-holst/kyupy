import KyupyVerif.Model.Sig
/-! Order independence (C07), the permutation argument being core `List.Perm.foldl_eq'`.
SIGNAL level: any order of pairwise independent op rows gives the same signal values (`execG_perm`, `levels_perm`), by
`Sig.execOpG_comm` (Model/Sig.lean).
MEMORY level: threads given by a read and a write footprint commute when neither writes what the other reads or writes;
any permutation of pairwise independent threads leaves the same memory (C07 `threads_any_order`, the GPU launch order). -/
namespace KV.Sig

theorem execG_perm {α} (sem : Op → List α → α) {l l' : List Op} (hp : l.Perm l')
    (hi : ∀ a ∈ l, ∀ b ∈ l, a = b ∨ Indep a b) (env : Nat → α) :
    execG sem l env = execG sem l' env := by
  unfold execG
  apply hp.foldl_eq'
  intro a ha b hb s
  rcases hi a ha b hb with rfl | h
  · rfl
  · exact execOpG_comm sem a b s h

theorem levels_perm {α} (sem : Op → List α → α) (ls ls' : List (List Op))
    (hlen : ls.length = ls'.length)
    (hp : ∀ k (h : k < ls.length), (ls[k]).Perm (ls'[k]'(hlen ▸ h)))
    (hi : ∀ lv ∈ ls, ∀ a ∈ lv, ∀ b ∈ lv, a = b ∨ Indep a b) (env : Nat → α) :
    ls.foldl (fun e lv => execG sem lv e) env = ls'.foldl (fun e lv => execG sem lv e) env := by
  induction ls generalizing ls' env with
  | nil =>
    cases ls' with
    | nil => rfl
    | cons _ _ => simp at hlen
  | cons lv rest ih =>
    cases ls' with
    | nil => simp at hlen
    | cons lv' rest' =>
      simp only [List.foldl_cons]
      have h0 := hp 0 (by simp)
      simp only [List.getElem_cons_zero] at h0
      rw [execG_perm sem h0 (hi lv List.mem_cons_self)]
      apply ih rest' (by simpa using hlen)
      · intro k hk
        have := hp (k + 1) (by simp; omega)
        simpa using this
      · intro l hl; exact hi l (List.mem_cons_of_mem _ hl)

end KV.Sig

namespace KV.Perm

abbrev Mem (C : Type) := Nat → C

/-- a thread: reads addresses `rd`, writes addresses `wr`; `f` depends only on `rd` and changes only `wr` -/
structure Th (C : Type) where
  rd : Nat → Prop
  wr : Nat → Prop
  f : Mem C → Mem C
  frame : ∀ m a, ¬ wr a → f m a = m a
  dep : ∀ m m', (∀ a, rd a → m a = m' a) → ∀ a, wr a → f m a = f m' a

def indep {C} (s t : Th C) : Prop := ∀ a, s.wr a → ¬ t.rd a ∧ ¬ t.wr a

theorem th_comm {C} (s t : Th C) (h1 : indep s t) (h2 : indep t s) (m : Mem C) :
    t.f (s.f m) = s.f (t.f m) := by
  funext a
  by_cases hs : s.wr a
  · have ht : ¬ t.wr a := (h1 a hs).2
    rw [t.frame _ a ht]
    apply s.dep _ _ _ a hs
    intro b hb
    have : ¬ t.wr b := fun hw => (h2 b hw).1 hb
    exact (t.frame m b this).symm
  · rw [s.frame _ a hs]
    by_cases ht : t.wr a
    · apply t.dep _ _ _ a ht
      intro b hb
      have : ¬ s.wr b := fun hw => (h1 b hw).1 hb
      exact s.frame m b this
    · rw [t.frame _ a ht, t.frame _ a ht, s.frame _ a hs]

def runL {C} (l : List (Th C)) (m : Mem C) : Mem C := l.foldl (fun m t => t.f m) m

/-- threads made from ITEMS by `th`: a permutation of the items leaves the memory unchanged when the threads of different items
of the second list are independent (equal items are the same thread; no injectivity of `th` is needed) -/
theorem runL_perm_map {C α} (th : α → Th C) (l l' : List α) (hp : l.Perm l')
    (hind : ∀ p ∈ l', ∀ q ∈ l', p ≠ q → indep (th p) (th q)) (m : Mem C) :
    runL (l.map th) m = runL (l'.map th) m := by
  unfold runL
  rw [List.foldl_map, List.foldl_map]
  exact hp.foldl_eq' (f := fun m p => (th p).f m) (fun a ha b hb s => by
    by_cases h : a = b
    · rw [h]
    · exact th_comm _ _ (hind a (hp.mem_iff.mp ha) b (hp.mem_iff.mp hb) h)
        (hind b (hp.mem_iff.mp hb) a (hp.mem_iff.mp ha) (Ne.symm h)) s) m

theorem runL_perm {C} (l l' : List (Th C)) (hp : l.Perm l')
    (hind : ∀ s ∈ l, ∀ t ∈ l, s ≠ t → indep s t) (hnd : l.Nodup) (m : Mem C) :
    runL l m = runL l' m := by
  have _ := hnd
  simpa using (runL_perm_map id l' l hp.symm hind m).symm

end KV.Perm
