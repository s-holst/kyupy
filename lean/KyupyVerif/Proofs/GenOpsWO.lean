import KyupyVerif.Model.SimOps
import KyupyVerif.Proofs.Solve
/-! The domain of the all-circuits theorems — `Net.wfB` (every pin entry names a line that names this pin back; that every line is
listed by its driver is `linesDrivenB`, Proofs/LinesDriven.lean), `orderOKB` (a topological order), `isSrcNode`, the row as a signal-level
op `OpRow.toOp` — and: for every such netlist and order the op program that `SimOps` generates (model `genOps`, tied to the real `ops` by
exact correspondence) is well ordered modulo the scratch slot (`genOps_WOJ`, `WOJ (Jt net)`): no operand is written at or after its use,
no line has two writers; only the scratch slot `tmp`, which no row reads, may be written by several rows. Together with
`Proofs/Solve.lean`: for ALL circuits the simulation result is the unique solution of the netlist's gate equations. -/
namespace KV
open KV.Sig

def OpRow.toOp (r : OpRow) : Op := ⟨r.lut, r.out, [r.i0, r.i1, r.i2, r.i3]⟩

def Net.wfB (net : Net) : Bool :=
  (List.range net.nodes.size).all fun n =>
    ((net.node n).outs.zipIdx.all fun (o, pin) => match o with
      | some l => decide (l < net.lines.size) && (net.line l).driver == n && (net.line l).dpin == pin
      | none => true) &&
    ((net.node n).ins.zipIdx.all fun (o, pin) => match o with
      | some l => decide (l < net.lines.size) && (net.line l).reader == n && (net.line l).rpin == pin
      | none => true)

/-- node whose ops read its (P)PI slot: ports without driver, flip-flops, latches -/
def isSrcNode (net : Net) (sn : List Nat) (n : Nat) : Bool :=
  !((net.node n).isFork && ((net.node n).inPin 0).isSome) && (sPosIn sn n).isSome

def orderOKB (net : Net) (order : List Nat) : Bool :=
  nodupB order && order.all (fun n => decide (n < net.nodes.size)) &&
  order.all fun n => isSrcNode net net.sNodes n || (net.node n).ins.all fun o => match o with
    | some l => decide (order.idxOf (net.line l).driver < order.idxOf n)
    | none => true

theorem orderOK_spec {net : Net} {order : List Nat} (ho : orderOKB net order = true) :
    order.Nodup ∧ (∀ n ∈ order, n < net.nodes.size) ∧
    (∀ n ∈ order, isSrcNode net net.sNodes n = false → ∀ (pin l : Nat),
      (net.node n).ins[pin]? = some (some l) → order.idxOf (net.line l).driver < order.idxOf n) := by
  unfold orderOKB at ho
  simp only [Bool.and_eq_true, List.all_eq_true, decide_eq_true_eq, Bool.or_eq_true] at ho
  obtain ⟨⟨hnd, hlt⟩, hord⟩ := ho
  refine ⟨nodupB_nodup _ hnd, hlt, ?_⟩
  intro n hn hns pin l hpin
  rcases hord n hn with h | h
  · rw [hns] at h; cases h
  · have hm : some l ∈ (net.node n).ins := List.mem_of_getElem? hpin
    have := h (some l) hm
    simpa using this

theorem orderOK_lt {net : Net} {order : List Nat} (ho : orderOKB net order = true) : ∀ n ∈ order, n < net.nodes.size :=
  (orderOK_spec ho).2.1

theorem mem_zipIdx_getElem? {α} {l : List α} {x : α} {k : Nat} (h : (x, k) ∈ l.zipIdx) : l[k]? = some x :=
  List.mem_zipIdx_iff_getElem?.mp h

theorem sPosIn_some' (sn : List Nat) (n p : Nat) (h : sPosIn sn n = some p) : sn[p]? = some n := by
  unfold sPosIn at h
  simp only at h
  split at h
  · rename_i hlt
    cases h
    rw [List.getElem?_eq_getElem hlt, List.getElem_idxOf hlt]
  · cases h

theorem getElem?_take_some {α} {l : List α} {n k : Nat} {x : α} (h : (l.take n)[k]? = some x) : l[k]? = some x := by
  rw [List.getElem?_take] at h
  split at h
  · exact h
  · cases h

theorem inPin_some {nd : NodeD} {i l : Nat} (h : nd.inPin i = some l) : nd.ins[i]? = some (some l) := getD_eq_some_iff.mp h

theorem outPin_some {nd : NodeD} {i l : Nat} (h : nd.outPin i = some l) : nd.outs[i]? = some (some l) := getD_eq_some_iff.mp h

/-- the three shapes of a row of node `n`: an interface row reading the node's (P)PI slot (`BUF1`; `INV1` for the second
    output of a flip-flop, whose further outputs have no row), a fork row (un-stripped schedule only), the one row of a cell -/
theorem mem_nodeOpsS {tbl : List PrefixRow} {net : Net} {sn : List Nat} {ix : Idx} {strip : Bool} {n : Nat} {r : OpRow}
    (h : r ∈ nodeOpsS tbl net sn ix strip n) :
    (isSrcNode net sn n = true ∧ ∃ p k : Nat, sPosIn sn n = some p ∧ (net.node n).outs[k]? = some (some r.out) ∧
      ((net.node n).isDff = true → k < 2) ∧
      r = ⟨if (net.node n).isDff && k == 1 then INV1 else BUF1, r.out, ix.ppi + p, ix.zero, ix.zero, ix.zero⟩) ∨
    (isSrcNode net sn n = false ∧
      r = ⟨r.lut, r.out, ((net.node n).inPin 0).getD ix.zero, ((net.node n).inPin 1).getD ix.zero,
        ((net.node n).inPin 2).getD ix.zero, ((net.node n).inPin 3).getD ix.zero⟩ ∧
      (((net.node n).lkind = "__fork__" ∧ strip = false ∧ r.lut = BUF1 ∧
          ∃ k : Nat, (net.node n).outs[k]? = some (some r.out)) ∨
       ((net.node n).lkind ≠ "__fork__" ∧ r.out = ((net.node n).outPin 0).getD ix.tmp ∧
        selectPrim tbl (net.node n).lkind (((net.node n).inPin 2).getD ix.zero != ix.zero)
          (((net.node n).inPin 3).getD ix.zero != ix.zero) = some r.lut))) := by
  unfold nodeOpsS at h
  simp only at h
  split at h
  · rename_i p hp
    have hsrc : isSrcNode net sn n = true ∧ sPosIn sn n = some p := by
      unfold isSrcNode
      split at hp
      · cases hp
      · rename_i hdf
        simp only [Bool.not_eq_true] at hdf
        simp [hdf, hp]
    simp only [List.mem_filterMap] at h
    obtain ⟨⟨o, k⟩, hmem, hg⟩ := h
    cases o with
    | none => simp at hg
    | some l =>
      simp only [Option.map_some, Option.some.injEq] at hg
      subst hg
      have hk := mem_zipIdx_getElem? hmem
      refine .inl ⟨hsrc.1, p, k, hsrc.2, ?_, ?_, rfl⟩
      · split at hk
        · exact getElem?_take_some hk
        · exact hk
      · intro hd
        rw [if_pos hd, List.getElem?_take] at hk
        split at hk
        · assumption
        · cases hk
  · rename_i hp
    have hns : isSrcNode net sn n = false := by
      unfold isSrcNode
      split at hp
      · rename_i hdf; simp [hdf]
      · simp [hp]
    right
    split at h
    · rename_i hfk
      split at h
      · cases h
      · rename_i hst
        simp only [List.mem_filterMap] at h
        obtain ⟨⟨o, k⟩, hmem, hg⟩ := h
        cases o with
        | none => simp at hg
        | some l =>
          simp only [Option.map_some, Option.some.injEq] at hg
          subst hg
          exact ⟨hns, rfl, .inl ⟨by simpa using hfk, by simpa using hst, rfl, k, mem_zipIdx_getElem? hmem⟩⟩
    · rename_i hfk
      split at h
      · rename_i sp hsp
        simp only [List.mem_singleton] at h
        subst h
        exact ⟨hns, rfl, .inr ⟨by simpa using hfk, rfl, hsp⟩⟩
      · cases h

theorem nodeOps_out (tbl : List PrefixRow) (net : Net) (sn : List Nat) (ix : Idx) (strip : Bool) (n : Nat)
    (op : OpRow) (h : op ∈ nodeOpsS tbl net sn ix strip n) :
    op.out = ix.tmp ∨ ∃ pin : Nat, (net.node n).outs[pin]? = some (some op.out) := by
  rcases mem_nodeOpsS h with ⟨_, _, k, _, hk, _⟩ | ⟨_, _, ⟨_, _, _, k, hk⟩ | ⟨_, ho, _⟩⟩
  · exact .inr ⟨k, hk⟩
  · exact .inr ⟨k, hk⟩
  · rw [ho]
    cases hp : (net.node n).outPin 0 with
    | none => exact .inl rfl
    | some l => exact .inr ⟨0, outPin_some hp⟩

theorem nodeOps_ins (tbl : List PrefixRow) (net : Net) (sn : List Nat) (ix : Idx) (strip : Bool) (n : Nat)
    (op : OpRow) (h : op ∈ nodeOpsS tbl net sn ix strip n) (x : Nat) (hx : x ∈ op.toOp.ins) :
    x = ix.zero ∨ (isSrcNode net sn n = true ∧ ∃ p, sPosIn sn n = some p ∧ x = ix.ppi + p) ∨
      (isSrcNode net sn n = false ∧ ∃ pin : Nat, (net.node n).ins[pin]? = some (some x)) := by
  rcases mem_nodeOpsS h with ⟨hsrc, p, _, hp, _, _, hr⟩ | ⟨hns, hr, _⟩
  · rw [hr] at hx
    simp only [OpRow.toOp, List.mem_cons, List.mem_nil_iff, or_false] at hx
    rcases hx with rfl | rfl | rfl | rfl
    · exact .inr (.inl ⟨hsrc, p, hp, rfl⟩)
    · exact .inl rfl
    · exact .inl rfl
    · exact .inl rfl
  · rw [hr] at hx
    simp only [OpRow.toOp, List.mem_cons, List.mem_nil_iff, or_false] at hx
    have fin : ∀ i, x = ((net.node n).inPin i).getD ix.zero →
        x = ix.zero ∨ (isSrcNode net sn n = true ∧ ∃ p, sPosIn sn n = some p ∧ x = ix.ppi + p) ∨
        (isSrcNode net sn n = false ∧ ∃ pin : Nat, (net.node n).ins[pin]? = some (some x)) := by
      intro i hi
      cases h : (net.node n).inPin i with
      | none => exact .inl (by rw [hi, h]; rfl)
      | some l => exact .inr (.inr ⟨hns, i, by rw [hi, h]; exact inPin_some h⟩)
    rcases hx with h | h | h | h
    · exact fin 0 h
    · exact fin 1 h
    · exact fin 2 h
    · exact fin 3 h

theorem wf_out {net : Net} (hwf : net.wfB = true) {n pin l : Nat} (hn : n < net.nodes.size)
    (h : (net.node n).outs[pin]? = some (some l)) :
    l < net.lines.size ∧ (net.line l).driver = n ∧ (net.line l).dpin = pin := by
  unfold Net.wfB at hwf
  simp only [List.all_eq_true, List.mem_range, Bool.and_eq_true] at hwf
  have := (hwf n hn).1 (some l, pin) (List.mem_zipIdx_iff_getElem?.mpr (by simpa using h))
  simp at this
  exact ⟨this.1.1, this.1.2, this.2⟩

theorem wf_in {net : Net} (hwf : net.wfB = true) {n pin l : Nat} (hn : n < net.nodes.size)
    (h : (net.node n).ins[pin]? = some (some l)) :
    l < net.lines.size ∧ (net.line l).reader = n ∧ (net.line l).rpin = pin := by
  unfold Net.wfB at hwf
  simp only [List.all_eq_true, List.mem_range, Bool.and_eq_true] at hwf
  have := (hwf n hn).2 (some l, pin) (List.mem_zipIdx_iff_getElem?.mpr (by simpa using h))
  simp at this
  exact ⟨this.1.1, this.1.2, this.2⟩

theorem node_default_ins {net : Net} {n : Nat} (h : net.nodes.size ≤ n) : (net.node n).ins = [] := by
  unfold Net.node
  rw [Array.getD_eq_getD_getElem?, Array.getElem?_eq_none h]
  rfl

theorem inPin_lt {net : Net} (hwf : net.wfB = true) {n i l : Nat} (h : (net.node n).inPin i = some l) :
    n < net.nodes.size ∧ l < net.lines.size := by
  by_cases hn : n < net.nodes.size
  · exact ⟨hn, (wf_in hwf hn (inPin_some h)).1⟩
  · exfalso
    have := inPin_some h
    rw [node_default_ins (Nat.le_of_not_lt hn)] at this
    simp at this

theorem mem_genOps {tbl : List PrefixRow} {net : Net} {order : List Nat} {strip : Bool} {o : OpRow} :
    o ∈ genOps tbl net order strip ↔ ∃ n ∈ order, o ∈ nodeOpsS tbl net net.sNodes net.idx strip n := by
  simp only [genOps, List.mem_flatMap]

theorem genOps_line_row {tbl : List PrefixRow} {net : Net} {order : List Nat} {strip : Bool} (hwf : net.wfB = true)
    (hlt : ∀ n ∈ order, n < net.nodes.size) {r : OpRow} (hr : r ∈ genOps tbl net order strip) (hl : r.out ≠ net.idx.tmp) :
    ∃ n ∈ order, n < net.nodes.size ∧ r ∈ nodeOpsS tbl net net.sNodes net.idx strip n ∧
      ∃ pin : Nat, (net.node n).outs[pin]? = some (some r.out) ∧
        r.out < net.lines.size ∧ (net.line r.out).driver = n ∧ (net.line r.out).dpin = pin := by
  obtain ⟨n, hn, hmem⟩ := mem_genOps.mp hr
  obtain ⟨pin, hpin⟩ := (nodeOps_out _ _ _ _ _ _ _ hmem).resolve_left hl
  exact ⟨n, hn, hlt n hn, hmem, pin, hpin, wf_out hwf (hlt n hn) hpin⟩

theorem genOps_out (tbl : List PrefixRow) (net : Net) (order : List Nat) (strip : Bool) (hwf : net.wfB = true)
    (hlt : ∀ n ∈ order, n < net.nodes.size) (r : OpRow) (hr : r ∈ genOps tbl net order strip) :
    r.out = net.idx.tmp ∨ r.out < net.lines.size := by
  by_cases hl : r.out = net.idx.tmp
  · exact .inl hl
  · obtain ⟨_, _, _, _, _, _, h, _⟩ := genOps_line_row hwf hlt hr hl
    exact .inr h

theorem zipIdx_pairwise_lt {α} (l : List α) (k : Nat) : (l.zipIdx k).Pairwise (fun a b => a.2 < b.2) := by
  induction l generalizing k with
  | nil => simp
  | cons x r ih =>
    simp only [List.zipIdx_cons, List.pairwise_cons]
    refine ⟨?_, ih (k + 1)⟩
    intro a ha
    have := List.le_snd_of_mem_zipIdx ha
    show k < a.2
    omega

theorem idx_vals (net : Net) : net.idx.zero = net.lines.size ∧ net.idx.tmp = net.lines.size + 1 ∧ net.idx.ppi = net.lines.size + 3 := by
  simp [Net.idx]

theorem nodeOps_outs_distinct (tbl : List PrefixRow) (net : Net) (sn : List Nat) (ix : Idx) (strip : Bool) (n : Nat)
    (hwf : net.wfB = true) (hn : n < net.nodes.size) :
    (nodeOpsS tbl net sn ix strip n).Pairwise (fun a b => a.out ≠ ix.tmp → b.out ≠ a.out) := by
  have core : ∀ (pins : List (Option Nat)) (g : Nat → Nat → OpRow), (∀ l k, (g l k).out = l) →
      (∀ (k : Nat) (o : Option Nat), pins[k]? = some o → (net.node n).outs[k]? = some o) →
      (pins.zipIdx.filterMap fun (o, k) => o.map fun l => g l k).Pairwise (fun a b => a.out ≠ ix.tmp → b.out ≠ a.out) := by
    intro pins g hg hp
    rw [List.pairwise_filterMap]
    apply List.Pairwise.imp_of_mem _ (zipIdx_pairwise_lt pins 0)
    intro a b ha hb hlt
    obtain ⟨o, k⟩ := a; obtain ⟨o', k'⟩ := b
    intro x hx y hy _
    cases o with
    | none => simp at hx
    | some l =>
      cases o' with
      | none => simp at hy
      | some l' =>
        simp only [Option.map_some, Option.some.injEq] at hx hy
        subst hx; subst hy
        rw [hg, hg]
        intro hll
        have h1 := wf_out hwf hn (hp k _ (mem_zipIdx_getElem? ha))
        have h2 := wf_out hwf hn (hp k' _ (mem_zipIdx_getElem? hb))
        rw [hll] at h2
        have : k = k' := h1.2.2.symm.trans h2.2.2
        simp only at hlt; omega
  unfold nodeOpsS
  simp only
  split
  · split
    · exact core _ (fun l k => OpRow.mk (if (net.node n).isDff && k == 1 then INV1 else BUF1) l _ _ _ _) (fun _ _ => rfl) (fun k o h => getElem?_take_some h)
    · exact core _ (fun l k => OpRow.mk (if (net.node n).isDff && k == 1 then INV1 else BUF1) l _ _ _ _) (fun _ _ => rfl) (fun k o h => h)
  · split
    · split
      · exact List.Pairwise.nil
      · exact core _ (fun l _ => OpRow.mk BUF1 l _ _ _ _) (fun _ _ => rfl) (fun k o h => h)
    · split
      · exact List.pairwise_singleton _ _
      · exact List.Pairwise.nil

theorem out_not_operand (tbl : List PrefixRow) (net : Net) (strip : Bool) (n m : Nat)
    (hwf : net.wfB = true) (hn : n < net.nodes.size) (hm : m < net.nodes.size)
    (hdrv : isSrcNode net net.sNodes n = false → ∀ (pin l : Nat), (net.node n).ins[pin]? = some (some l) → (net.line l).driver ≠ m)
    (op op' : OpRow) (ho : op ∈ nodeOpsS tbl net net.sNodes net.idx strip n) (ho' : op' ∈ nodeOpsS tbl net net.sNodes net.idx strip m)
    (x : Nat) (hx : x ∈ op.toOp.ins) : op'.out ≠ x := by
  obtain ⟨hz, ht, hp⟩ := idx_vals net
  have hout := nodeOps_out tbl net net.sNodes net.idx strip m op' ho'
  have hin := nodeOps_ins tbl net net.sNodes net.idx strip n op ho x hx
  rcases hout with hot | ⟨pin', hpin'⟩
  · -- scratch slot
    rcases hin with h | ⟨_, p, _, h⟩ | ⟨_, pin, hpin⟩
    · omega
    · omega
    · have := (wf_in hwf hn hpin).1; omega
  · have hl' := wf_out hwf hm hpin'
    rcases hin with h | ⟨_, p, _, h⟩ | ⟨hns, pin, hpin⟩
    · omega
    · omega
    · intro he
      have := hdrv hns pin x hpin
      rw [← he] at this
      exact this hl'.2.1

theorem idxOf_cons_ne' (x b : Nat) (r : List Nat) (h : x ≠ b) : (x :: r).idxOf b = r.idxOf b + 1 := by
  rw [List.idxOf_cons]
  have : (x == b) = false := by simpa using h
  rw [this]; rfl

theorem idxOf_pairwise_of_nodup : ∀ (l : List Nat), l.Nodup → l.Pairwise (fun a b => l.idxOf a < l.idxOf b)
  | [], _ => List.Pairwise.nil
  | x :: r, h => by
    have hx : x ∉ r := (List.nodup_cons.mp h).1
    have ih := idxOf_pairwise_of_nodup r (List.nodup_cons.mp h).2
    refine List.pairwise_cons.mpr ⟨?_, ?_⟩
    · intro b hb
      have hbx : x ≠ b := fun e => hx (e ▸ hb)
      rw [List.idxOf_cons_self, idxOf_cons_ne' _ _ _ hbx]; omega
    · apply List.Pairwise.imp_of_mem _ ih
      intro a b ha hb hab
      have hax : x ≠ a := fun e => hx (e ▸ ha)
      have hbx : x ≠ b := fun e => hx (e ▸ hb)
      rw [idxOf_cons_ne' _ _ _ hax, idxOf_cons_ne' _ _ _ hbx]; omega

/-- the scratch ("junk") signal of a netlist's program: the slot `tmp` that rows of cells without a connected output write;
    several rows may write it and no row reads it, so the equation system (`SolvesJ`, `WOJ`) leaves it out -/
def Jt (net : Net) : Nat → Bool := fun x => x == net.idx.tmp

theorem genOps_WOJ (tbl : List PrefixRow) (net : Net) (order : List Nat) (strip : Bool)
    (hwf : net.wfB = true) (ho : orderOKB net order = true) :
    WOJ (Jt net) ((genOps tbl net order strip).map OpRow.toOp) := by
  obtain ⟨hnodup, hlt, hdrvlt⟩ := orderOK_spec ho
  -- a row of a node standing no earlier than `n` never writes an operand of a row of `n`
  have hno : ∀ n ∈ order, ∀ m ∈ order, order.idxOf n ≤ order.idxOf m →
      ∀ a ∈ nodeOpsS tbl net net.sNodes net.idx strip n, ∀ b ∈ nodeOpsS tbl net net.sNodes net.idx strip m,
      ∀ x ∈ a.toOp.ins, b.out ≠ x := fun n hn m hm hle a ha b hb x hx =>
    out_not_operand tbl net strip n m hwf (hlt n hn) (hlt m hm)
      (fun hns pin l hpin he => by
        have := hdrvlt n hn hns pin l hpin
        rw [he] at this; omega) a b ha hb x hx
  obtain ⟨hz, ht, hp⟩ := idx_vals net
  unfold WOJ genOps
  simp only
  constructor
  · rw [List.pairwise_map, List.pairwise_flatMap]
    constructor
    · -- inside one node
      intro n hn
      have hd := nodeOps_outs_distinct tbl net net.sNodes net.idx strip n hwf (hlt n hn)
      apply List.Pairwise.imp_of_mem _ hd
      intro a b ha hb hab
      refine ⟨?_, ?_⟩
      · intro hj
        apply hab
        simpa [Jt, OpRow.toOp] using hj
      · intro x hx
        exact hno n hn n hn (Nat.le_refl _) a ha b hb x hx
    · -- across nodes: n stands before m
      apply List.Pairwise.imp_of_mem _ (idxOf_pairwise_of_nodup order hnodup)
      intro n m hn hm hnm a ha b hb
      refine ⟨?_, ?_⟩
      · intro hj
        have hja : a.out ≠ net.idx.tmp := by simpa [Jt, OpRow.toOp] using hj
        have hao := nodeOps_out tbl net net.sNodes net.idx strip n a ha
        have hbo := nodeOps_out tbl net net.sNodes net.idx strip m b hb
        rcases hao with h | ⟨pa, hpa⟩
        · exact absurd h hja
        · have hla := wf_out hwf (hlt n hn) hpa
          rcases hbo with h | ⟨pb, hpb⟩
          · show b.out ≠ a.out
            omega
          · have hlb := wf_out hwf (hlt m hm) hpb
            show b.out ≠ a.out
            intro he
            rw [he] at hlb
            have : n = m := hla.2.1.symm.trans hlb.2.1
            rw [this] at hnm; omega
      · intro x hx
        exact hno n hn m hm (Nat.le_of_lt hnm) a ha b hb x hx
  · -- local conditions
    intro o hom
    simp only [List.mem_map, List.mem_flatMap] at hom
    obtain ⟨r, ⟨n, hn, hr⟩, rfl⟩ := hom
    intro x hx
    have hin := nodeOps_ins tbl net net.sNodes net.idx strip n r hr x hx
    refine ⟨?_, ?_⟩
    · simp only [Jt, beq_eq_false_iff_ne, ne_eq]
      rcases hin with h | ⟨_, p, _, h⟩ | ⟨_, pin, hpin⟩
      · omega
      · omega
      · have := (wf_in hwf (hlt n hn) hpin).1; omega
    · intro he
      exact hno n hn n hn (Nat.le_refl _) r hr r hr x hx he.symm

end KV
