import KyupyVerif.Model.WaveCirc
import KyupyVerif.Proofs.WaveInit
/-! Rigid motion of waveforms: mapping every time by `t ↦ k·t + s` (k > 0) and every delay by `d ↦ k·d`
commutes with the waveform evaluator. `k = 1` is a shift, `s = 0` a scaling. -/
namespace KV.Wave
open KV.Sig

def T.aff (k s : Int) : T → T
  | T.fin t => T.fin (k * t + s)
  | x => x

theorem T.aff_lt (k s : Int) (hk : 0 < k) (a b : T) : T.lt (a.aff k s) (b.aff k s) = T.lt a b := by
  cases a <;> cases b <;> simp [T.aff, T.lt, T.rank]
  rename_i x y
  apply decide_eq_decide.mpr
  constructor
  · intro h; exact Int.lt_of_mul_lt_mul_left (a := k) (by omega) (Int.le_of_lt hk)
  · intro h; have := Int.mul_lt_mul_of_pos_left h hk; omega

theorem T.aff_add (k s : Int) (a : T) (d : Int) : (a.add d).aff k s = (a.aff k s).add (k * d) := by
  cases a <;> simp [T.aff, T.add, Int.mul_add]; omega

theorem T.aff_inj (k s : Int) (hk : 0 < k) (a b : T) (h : a.aff k s = b.aff k s) : a = b := by
  cases a <;> cases b <;> simp [T.aff] at h ⊢
  rename_i x y
  have : k * x = k * y := by omega
  exact Int.eq_of_mul_eq_mul_left (by omega) this

theorem T.aff_min (k s : Int) (hk : 0 < k) (a b : T) : (T.min a b).aff k s = T.min (a.aff k s) (b.aff k s) := by
  unfold T.min; rw [T.aff_lt k s hk]; split <;> rfl
theorem T.aff_max (k s : Int) (hk : 0 < k) (a b : T) : (T.max a b).aff k s = T.max (a.aff k s) (b.aff k s) := by
  unfold T.max; rw [T.aff_lt k s hk]; split <;> rfl

theorem T.aff_wider (k s : Int) (hk : 0 < k) (c p : T) (th : Int) :
    T.widerThan (c.aff k s) (p.aff k s) (k * th) = T.widerThan c p th := by
  cases c <;> cases p <;> simp [T.aff, T.widerThan]
  · constructor
    · intro h; exact Int.lt_of_mul_lt_mul_left (a := k) (by simpa using h) (Int.le_of_lt hk)
    · intro h; have := Int.mul_lt_mul_of_pos_left h hk; simpa using this
  · rename_i x y
    have e : k * x + s - (k * y + s) = k * (x - y) := by rw [Int.mul_sub]; omega
    rw [e]
    constructor
    · intro h; exact Int.lt_of_mul_lt_mul_left (a := k) h (Int.le_of_lt hk)
    · intro h; exact Int.mul_lt_mul_of_pos_left h hk

def St.aff (k s : Int) (st : St) : St :=
  { st with r := fun i => (st.r i).map (T.aff k s), z := st.z.map (T.aff k s), prev := st.prev.aff k s }

def Delays.scale (k : Int) (D : Delays) : Delays := fun i p q => k * D i p q

/-- a terminator is a sentinel, so it may stand for its own image -/
theorem headT_aff (k s : Int) (l : List T) {t : T} (ht : t.isTerm = true) :
    headT (l.map (T.aff k s)) t = (headT l t).aff k s := by
  cases l with
  | nil => cases t <;> first | rfl | cases ht
  | cons _ _ => rfl

structure AffOK (k : Int) (terms : Fin 4 → T) : Prop where
  kpos : 0 < k
  term : ∀ i, (terms i).aff k 0 = terms i

theorem term_aff {k s : Int} {terms : Fin 4 → T} (h : ∀ i, (terms i).isTerm = true) (i : Fin 4) : (terms i).aff k s = terms i :=
  (headT_aff k s [] (h i)).symm

theorem pend_aff (k s : Int) (D : Delays) (terms : Fin 4 → T) (ht : ∀ i, (terms i).isTerm = true) (st : St) (i : Fin 4) :
    pend (Delays.scale k D) terms (st.aff k s) i = (pend D terms st i).aff k s := by
  simp only [pend, St.aff, Delays.scale, T.aff_add, headT_aff k s _ (ht i)]

theorem cur_aff (k s : Int) (hk : 0 < k) (D : Delays) (terms) (ht : ∀ i, (terms i).isTerm = true) (st : St) :
    cur (Delays.scale k D) terms (st.aff k s) = (cur D terms st).aff k s := by
  unfold cur
  simp only [pend_aff k s D terms ht, T.aff_min k s hk]

theorem pick_aff (k s : Int) (hk : 0 < k) (D : Delays) (terms) (ht : ∀ i, (terms i).isTerm = true) (st : St) :
    pick (Delays.scale k D) terms (st.aff k s) = pick D terms st := by
  unfold pick
  simp only [cur_aff k s hk D terms ht, pend_aff k s D terms ht]
  have e : ∀ i, ((pend D terms st i).aff k s = (cur D terms st).aff k s) ↔ (pend D terms st i = cur D terms st) :=
    fun i => ⟨T.aff_inj k s hk _ _, fun h => by rw [h]⟩
  simp only [e]

theorem headT_aff_tmin (k s : Int) (l : List T) : headT (l.map (T.aff k s)) T.tmin = (headT l T.tmin).aff k s := by
  cases l <;> rfl

theorem stepCore_aff (k s : Int) (c : T) (i : Fin 4) (b1 b2 b3 : Bool) (st : St) :
    stepCore (c.aff k s) i b1 b2 b3 (st.aff k s) = (stepCore c i b1 b2 b3 st).aff k s := by
  have hr : upd (fun j => (st.r j).map (T.aff k s)) i ((st.r i).map (T.aff k s)).tail =
      fun j => (upd st.r i (st.r i).tail j).map (T.aff k s) := by
    funext j; unfold upd; split <;> simp [List.map_tail]
  cases b1 <;> cases b2 <;> cases b3 <;>
    simp [stepCore, St.adv, St.aff, hr, ← headT_aff_tmin, List.map_tail]

theorem dec2_aff (k s : Int) (hk : 0 < k) (D : Delays) (terms) (ht : ∀ i, (terms i).isTerm = true) (st : St) (c : T) (i : Fin 4) :
    dec2 (Delays.scale k D) terms (st.aff k s) (c.aff k s) i = dec2 D terms st c i := by
  simp only [dec2, nextT, thresh, St.aff, Delays.scale, List.length_map, ← List.map_tail, headT_aff k s _ (ht i), ← T.aff_add,
    T.aff_lt k s hk, T.aff_wider k s hk]

theorem step_aff (k s : Int) (hk : 0 < k) (lut : Nat) (D : Delays) (terms) (ht : ∀ i, (terms i).isTerm = true) (zcap : Nat) (st : St) :
    step lut (Delays.scale k D) terms zcap (st.aff k s) = (step lut D terms zcap st).aff k s := by
  have h1 : ∀ i, dec1 lut (st.aff k s) i = dec1 lut st i := fun i => by simp [dec1, St.aff]
  have h3 : dec3 zcap (st.aff k s) = dec3 zcap st := by simp [dec3, St.aff]
  rw [step_eq_core, step_eq_core, cur_aff k s hk D terms ht, pick_aff k s hk D terms ht, h1, dec2_aff k s hk D terms ht, h3,
    stepCore_aff]

theorem run_aff (k s : Int) (hk : 0 < k) (lut : Nat) (D : Delays) (terms) (ht : ∀ i, (terms i).isTerm = true) (zcap fuel : Nat) (st : St) :
    run lut (Delays.scale k D) terms zcap fuel (st.aff k s) = (run lut D terms zcap fuel st).aff k s :=
  run_rel (R := fun st st' => st' = st.aff k s)
    (fun st _ h => by rw [h, cur_aff k s hk D terms ht]; exact T.aff_lt k s hk _ T.tmax)
    (fun st _ h _ => by rw [h, step_aff k s hk lut D terms ht]) fuel st _ rfl

end KV.Wave

namespace KV.Wave
open KV.Sig

def Wv.aff (k s : Int) (w : Wv) : Wv := ⟨w.ents.map (T.aff k s), w.term.aff k s⟩

theorem init_aff (k s : Int) (lut : Nat) (ws : Fin 4 → List T) :
    init lut (fun i => (ws i).map (T.aff k s)) = (init lut ws).aff k s := by
  unfold init St.aff
  cases (lut % 2 == 1) <;> simp [T.aff]

theorem totalLen_aff (k s : Int) (ws : Fin 4 → List T) :
    totalLen (fun i => (ws i).map (T.aff k s)) = totalLen ws := by simp [totalLen]

theorem startsHigh_aff (k s : Int) (l : List T) : startsHigh (l.map (T.aff k s)) = startsHigh l := by
  cases l with
  | nil => rfl
  | cons a r => cases a <;> rfl

theorem waveEval_aff (k s : Int) (hk : 0 < k) (lut : Nat) (D : Delays) (ws : Fin 4 → List T) (terms : Fin 4 → T)
    (ht : ∀ i, (terms i).isTerm = true) (zcap : Nat) :
    waveEval lut (Delays.scale k D) (fun i => (ws i).map (T.aff k s)) terms zcap =
      (((waveEval lut D ws terms zcap).1).map (T.aff k s), ((waveEval lut D ws terms zcap).2.1).aff k s,
       (waveEval lut D ws terms zcap).2.2.1, (waveEval lut D ws terms zcap).2.2.2) := by
  unfold waveEval
  simp only [totalLen_aff, init_aff, run_aff k s hk lut D terms ht]
  generalize run lut D terms zcap (totalLen ws) (init lut ws) = st
  have hov : (st.aff k s).ovf = st.ovf := rfl
  have hz : (st.aff k s).z = st.z.map (T.aff k s) := rfl
  simp only [hov, hz, pend_aff k s D terms ht, ← T.aff_max k s hk, List.map_reverse, List.length_map, List.length_reverse]
  have hsh : startsHigh (List.map (T.aff k s) st.z).reverse = startsHigh st.z.reverse := by
    rw [← List.map_reverse]; exact startsHigh_aff k s _
  split <;> simp [T.aff, hsh]

theorem waveSem_aff (k s : Int) (hk : 0 < k) (cfg : WCfg) (op : Op) (xs : List Wv) (hx : ∀ i, (slot xs i).term.isTerm = true) :
    waveSem ⟨fun l p q => k * cfg.delay l p q, cfg.cap⟩ op (xs.map (Wv.aff k s)) = (waveSem cfg op xs).aff k s := by
  unfold waveSem
  have hs : ∀ i, slot (xs.map (Wv.aff k s)) i = (slot xs i).aff k s := by
    intro i; unfold slot
    simp only [List.getD_eq_getElem?_getD, List.getElem?_map]
    cases xs[i.val]? <;> simp [Wv.aff, Wv.empty, T.aff]
  have e1 : (fun i => (slot (xs.map (Wv.aff k s)) i).ents) = fun i => ((slot xs i).ents).map (T.aff k s) := by
    funext i; rw [hs]; rfl
  have e2 : (fun i => (slot (xs.map (Wv.aff k s)) i).term) = fun i => (slot xs i).term := by
    funext i; rw [hs]; exact term_aff (terms := fun i => (slot xs i).term) hx i
  have e3 : opDelays ⟨fun l p q => k * cfg.delay l p q, cfg.cap⟩ op = Delays.scale k (opDelays cfg op) := rfl
  rw [e1, e2, e3, waveEval_aff k s hk _ _ _ _ hx]
  rfl

theorem T.aff_aff (p q : Int) (t : T) : (t.aff p 0).aff q 0 = t.aff (q * p) 0 := by
  cases t <;> simp [T.aff, Int.mul_assoc]

theorem Wv.aff_aff (p q : Int) (w : Wv) : (w.aff p 0).aff q 0 = w.aff (q * p) 0 := by
  simp [Wv.aff, T.aff_aff, List.map_map, Function.comp_def]

theorem Wv.aff_inj (k s : Int) (hk : 0 < k) (a b : Wv) (h : a.aff k s = b.aff k s) : a = b := by
  cases a with | mk ae at_ => cases b with | mk be bt =>
  simp only [Wv.aff, Wv.mk.injEq] at h
  rw [(List.map_inj_right (T.aff_inj k s hk)).mp h.1, T.aff_inj k s hk _ _ h.2]

end KV.Wave
