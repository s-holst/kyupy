import KyupyVerif.Proofs.WaveInit
/-! Termination and the exit state of the loop: every guarded iteration consumes one operand entry (`step_total`), so the fuel
`totalLen` suffices (`run_done`). The cursors are the representation of the operand side: in every state of a run from `init`
the remaining entries are `ws.drop k` and the input bit is the cursor parity (`Base`, `run_base`), so what an invariant would say
about the remaining entries is read off a hypothesis on `ws` (`Base.mem`, `Base.wf`, `Base.fin`) instead of being carried through
the loop. At exit all operands are consumed and every pending time is a terminator (`run_exit`). The FINAL value of a produced
waveform (`wave_gate_final`, C03). -/

namespace KV.Wave

def total (s : St) : Nat := (s.r 0).length + (s.r 1).length + (s.r 2).length + (s.r 3).length

theorem term_not_lt_tmax (a : T) (h : a.isTerm = true) : T.lt a .tmax = false := by
  rw [← Bool.not_eq_true, T.lt_tmax_iff, h]; simp

theorem pick_nonempty {D : Delays} {terms : Fin 4 → T} (hterm : ∀ i, (terms i).isTerm = true) (s : St) (hlt : T.lt (cur D terms s) .tmax = true) :
    s.r (pick D terms s) ≠ [] := by
  intro hnil
  have hp := pend_pick D terms s
  unfold pend at hp
  rw [hnil] at hp
  simp only [headT] at hp
  have : (cur D terms s).isTerm = true := by rw [← hp, T.add_isTerm]; exact hterm _
  rw [term_not_lt_tmax _ this] at hlt; exact absurd hlt (by simp)

/-- **the event of a guarded iteration**: the operand that is due still has an entry, and the event time is that entry plus the
    delay of the operand's line for the current polarities -/
theorem event {D : Delays} {terms : Fin 4 → T} (hterm : ∀ i, (terms i).isTerm = true) (s : St)
    (hlt : T.lt (cur D terms s) .tmax = true) :
    ∃ x xs, s.r (pick D terms s) = x :: xs ∧
      cur D terms s = x.add (D (pick D terms s) (s.k (pick D terms s) % 2 == 1) s.zval) := by
  cases hr : s.r (pick D terms s) with
  | nil => exact absurd hr (pick_nonempty hterm s hlt)
  | cons x xs => exact ⟨x, xs, rfl, by rw [← pend_pick]; unfold pend; rw [hr]; rfl⟩

theorem total_upd (s : St) (i : Fin 4) (l : List T) :
    (upd s.r i l 0).length + (upd s.r i l 1).length + (upd s.r i l 2).length + (upd s.r i l 3).length + (s.r i).length
      = total s + l.length := by
  unfold total upd
  match i with
  | 0 => simp; omega
  | 1 => simp; omega
  | 2 => simp; omega
  | 3 => simp; omega

theorem step_total (lut : Nat) {D : Delays} {terms : Fin 4 → T} (hterm : ∀ i, (terms i).isTerm = true) (zcap : Nat) (s : St) (hlt : T.lt (cur D terms s) .tmax = true) :
    total (step lut D terms zcap s) + 1 = total s := by
  have hne := pick_nonempty hterm s hlt
  have hlen : (s.r (pick D terms s)).tail.length + 1 = (s.r (pick D terms s)).length := by
    cases h : s.r (pick D terms s) with
    | nil => exact absurd h hne
    | cons x xs => simp
  have := total_upd s (pick D terms s) (s.r (pick D terms s)).tail
  show total (step lut D terms zcap s) + 1 = total s
  unfold total at *
  rw [step_r]
  omega

theorem done_of_total_zero {D : Delays} {terms : Fin 4 → T} (hterm : ∀ i, (terms i).isTerm = true) (s : St) (h : total s = 0) : T.lt (cur D terms s) .tmax = false :=
  Bool.eq_false_iff.mpr fun hlt => pick_nonempty hterm s hlt (List.eq_nil_of_length_eq_zero (by
    unfold total at h
    match pick D terms s with
    | 0 | 1 | 2 | 3 => omega))

theorem run_done (E : Env) (fuel : Nat) (s : St) (h : total s ≤ fuel) :
    T.lt (cur E.D E.terms (run E.lut E.D E.terms E.zcap fuel s)) .tmax = false := by
  induction fuel generalizing s with
  | zero => simp only [run]; exact done_of_total_zero E.hterm s (by omega)
  | succ n ih =>
    unfold run; split
    · rename_i hlt
      apply ih
      have := step_total E.lut E.hterm E.zcap s hlt; omega
    · rename_i hn; simpa using hn

/-- cursors: what remains of operand `i` is the operand waveform without its first `s.k i` entries -/
def DInv (ws : Fin 4 → List T) (s : St) : Prop := ∀ i, s.r i = (ws i).drop (s.k i) ∧ s.k i ≤ (ws i).length

theorem step_dinv (lut : Nat) {D : Delays} {terms : Fin 4 → T} (hterm : ∀ i, (terms i).isTerm = true) (zcap : Nat) (ws) (s : St) (h : DInv ws s) (hlt : T.lt (cur D terms s) .tmax = true) :
    DInv ws (step lut D terms zcap s) := by
  obtain ⟨x, xs, hr, _⟩ := event hterm s hlt
  intro i
  rw [step_r, step_k]
  unfold upd
  split
  · rename_i hi; subst hi
    obtain ⟨hd, hk⟩ := h (pick D terms s)
    refine ⟨by rw [hd, List.tail_drop], Nat.succ_le_of_lt ?_⟩
    rcases Nat.lt_or_ge (s.k (pick D terms s)) (ws (pick D terms s)).length with hh | hh
    · exact hh
    · rw [hd, List.drop_eq_nil_iff.mpr hh] at hr; cases hr
  · exact h i

/-- what every state of a run from `init` satisfies: parity, cursors, input bits -/
structure Base (E : Env) (ws : Fin 4 → List T) (s : St) : Prop where
  par : PInv E.lut s
  csr : DInv ws s
  kin : KInv s

/-- the loop rule for runs from `init`: `Base` comes for free and may be used in the step -/
theorem run_base (E : Env) (ws : Fin 4 → List T) {P : St → Prop} (h0 : P (init E.lut ws))
    (hstep : ∀ s, Base E ws s → P s → T.lt (cur E.D E.terms s) .tmax = true → P (step E.lut E.D E.terms E.zcap s))
    (fuel : Nat) :
    Base E ws (run E.lut E.D E.terms E.zcap fuel (init E.lut ws)) ∧ P (run E.lut E.D E.terms E.zcap fuel (init E.lut ws)) :=
  run_inv (P := fun s => Base E ws s ∧ P s) (fun s ⟨b, h⟩ hlt =>
    ⟨⟨step_inv E.lut E.D E.terms E.zcap (by have := E.hcap; omega) s b.par, step_dinv E.lut E.hterm E.zcap ws s b.csr hlt,
      step_kinv _ _ _ _ s b.kin⟩, hstep s b h hlt⟩) fuel _
    ⟨⟨⟨by simp only [init]; cases h : (E.lut % 2 == 1) <;> simp, by simp only [init, lutBit, idx]; simp⟩,
      by intro i; simp [init], by intro i; simp [init]⟩, h0⟩

theorem Base.mem {E : Env} {ws : Fin 4 → List T} {s : St} (b : Base E ws s) {i : Fin 4} {e : T} (h : e ∈ s.r i) : e ∈ ws i :=
  List.mem_of_mem_drop ((b.csr i).1 ▸ h)

theorem Base.wf {E : Env} {ws : Fin 4 → List T} {s : St} (b : Base E ws s) {i : Fin 4} (h : WfRem (ws i)) : WfRem (s.r i) := by
  rw [(b.csr i).1]
  refine ⟨fun e he => ?_, fun e he => h.2 e (List.mem_of_mem_drop he)⟩
  rw [List.tail_drop] at he
  cases hw : ws i with
  | nil => simp [hw] at he
  | cons a r => rw [hw, List.drop_succ_cons] at he; exact h.1 e (by rw [hw]; exact List.mem_of_mem_drop he)

theorem Base.fin {E : Env} {ws : Fin 4 → List T} {s : St} (b : Base E ws s) {i : Fin 4} (h : WfRem (ws i))
    (hp : pendTmin s i = false) : ∀ e ∈ s.r i, e.isFin = true := by
  have hw := b.wf h
  unfold pendTmin at hp
  intro e he
  cases hr : s.r i with
  | nil => simp [hr] at he
  | cons x xs =>
    rw [hr] at he hw hp
    rcases List.mem_cons.mp he with rfl | hx
    · exact (hw.2 e (by simp)).resolve_left (fun h => by subst h; simp at hp)
    · exact hw.1 e (by simpa using hx)

theorem not_term_of_wf {e : T} (h : e = T.tmin ∨ e.isFin = true) : e.isTerm = false := by
  rcases h with rfl | h
  · rfl
  · cases e <;> simp_all [T.isFin, T.isTerm]

theorem lt_tmax_of_wf (e : T) (h : e = T.tmin ∨ e.isFin = true) (d : Int) : T.lt (e.add d) .tmax = true :=
  (T.lt_tmax_iff _).mpr ((T.add_isTerm e d).trans (not_term_of_wf h))

theorem empty_of_done (D : Delays) (terms : Fin 4 → T) (s : St) (hwf : ∀ i, ∀ e ∈ s.r i, e = T.tmin ∨ e.isFin = true)
    (hdone : T.lt (cur D terms s) .tmax = false) : ∀ i, s.r i = [] := by
  intro i
  cases hr : s.r i with
  | nil => rfl
  | cons x xs =>
    exfalso
    have hp : T.lt (pend D terms s i) .tmax = true := by
      unfold pend; rw [hr]; simp only [headT]
      exact lt_tmax_of_wf x (hwf i x (by simp [hr])) _
    have : T.lt (cur D terms s) .tmax = true := T.lt_of_le_of_lt (cur_le_pend D terms s i) hp
    rw [this] at hdone; exact absurd hdone (by simp)

theorem T.add_term {a : T} (h : a.isTerm = true) (d : Int) : a.add d = a := by
  cases a <;> simp [T.isTerm] at h <;> rfl

/-- **the state at loop exit**, with the fuel `waveEval` uses: the guard is false, every operand is consumed, every cursor
    stands at the end of its waveform (so the input vector holds the final values) and every pending time is the
    operand's terminator -/
theorem run_exit (E : Env) (ws : Fin 4 → List T) (hwf : ∀ i, WfRem (ws i)) :
    (∀ i, (run E.lut E.D E.terms E.zcap (totalLen ws) (init E.lut ws)).r i = []) ∧
    (∀ i, (run E.lut E.D E.terms E.zcap (totalLen ws) (init E.lut ws)).k i = (ws i).length) ∧
    KInv (run E.lut E.D E.terms E.zcap (totalLen ws) (init E.lut ws)) ∧
    ∀ i, pend E.D E.terms (run E.lut E.D E.terms E.zcap (totalLen ws) (init E.lut ws)) i = E.terms i := by
  have hdone := run_done E (totalLen ws) (init E.lut ws) (Nat.le_refl _)
  have b := (run_base E ws (P := fun _ => True) trivial (fun _ _ _ _ => trivial) (totalLen ws)).1
  generalize run E.lut E.D E.terms E.zcap (totalLen ws) (init E.lut ws) = s at *
  have hempty := empty_of_done E.D E.terms s (fun i e he => (hwf i).2 e (b.mem he)) hdone
  refine ⟨hempty, fun i => ?_, b.kin, fun i => ?_⟩
  · have hd := (b.csr i).1
    rw [hempty i] at hd
    have := List.drop_eq_nil_iff.mp hd.symm
    have := (b.csr i).2
    omega
  · unfold pend
    rw [hempty i]
    exact T.add_term (E.hterm i) _

/-- C03 (final value), gate level: the number of entries of the produced waveform is odd iff the LUT of the
operands' final values (parities of their lengths) is 1 — for every LUT, delays, capacity ≥ 4, overflow or not -/
theorem wave_gate_final (E : Env) (ws : Fin 4 → List T) (hwf : ∀ i, WfRem (ws i)) :
    ((run E.lut E.D E.terms E.zcap (totalLen ws) (init E.lut ws)).z.length % 2 == 1)
      = lutBit E.lut (fun i => (ws i).length % 2 == 1) := by
  have hp := (run_base E ws (P := fun _ => True) trivial (fun _ _ _ _ => trivial) (totalLen ws)).1.par
  obtain ⟨_, hk, hki, _⟩ := run_exit E ws hwf
  rw [hp.1, hp.2]
  congr 1
  funext i
  rw [hki i, hk i]

end KV.Wave
