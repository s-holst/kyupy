import KyupyVerif.Proofs.CircObjDangling
/-! C09: sequences of the primitive assignments that the loops of `substitute` perform (`Call`).  Which assignment an
iteration performs depends on the implementation and `node_map` only, never on the circuit under construction, so a loop is a
static list of calls.  One Hoare triple for `SInv` (`Call.run_sinv`), the state of a list of calls (`RunInv`: the lines the
remaining calls settle are the pending ones), and why the pin guards hold under structural hypotheses (`StaticInv`: every
pin a remaining call writes is free, because no two calls write the same pin).  A loop of the model whose body is a call IS the run
of the list of its calls, and its guards are theirs (`foldO_calls`, `foldG_calls`), so both invariants are walked by the loop
rules of Proofs/CircObjLoops.lean applied to `Call.run` / `Call.guard`. -/
namespace KV.CircObj

/-- An input that the implementation ignores (`ll.reader = None; ll.remove()`): `c'` is `Line.remove()` applied to a circuit
`c0` that differs from `c` in the stale reader field of `ll` only; `ll` has its driver end attached. -/
theorem ignoredInput {c c' : Circ} {PI PO : Nat → Prop} {ll : Nat} (s : SInv c PI PO) (hll : PI ll) (hPO : ¬ PO ll)
    (h : removeLineChk { c with lobj := upd c.lobj ll { c.lobj ll with reader := none } } ll = some c') :
    ∃ c0 d, c' = removeLine c0 ll ∧ SInv c0 PI PO ∧ c0.nodes = c.nodes ∧ c0.nobj = c.nobj ∧ ll ∈ c0.lines ∧
      (c0.lobj ll).driver = some d ∧ d ∈ c0.nodes ∧ pin (c0.nobj d).outs (c0.lobj ll).driverPin = some ll ∧
      (c0.lobj ll).alive = true ∧ (c0.lobj ll).reader = none := by
  have s0 := clearReader_sinv s hll
  have hl := (s0.piOk ll hll).1
  obtain ⟨d, hdrv, hd, hdpin⟩ := s0.ldrv ll hl hPO
  exact ⟨_, d, removeLineChk_some h, s0, rfl, rfl, hl, hdrv, hd, hdpin, (s0.lfresh ll hl).2, by simp⟩

inductive Call
  | skip
  /-- Python raises; `i`, `o`: the line of the instance the iteration was about -/
  | raise (i o : Option Nat)
  /-- `Line(self, (D, dp), (R, rp))` -/
  | addLine (D dp R rp : Nat)
  /-- `ll.reader = R; ll.reader_pin = rp; R.ins[rp] = ll` -/
  | setReader (ll R rp : Nat)
  /-- `ll.driver = D; ll.driver_pin = dp; D.outs[dp] = ll` -/
  | setDriver (ll D dp : Nat)
  /-- `ll.reader = None; ll.remove()` -/
  | dropInput (ll : Nat)

namespace Call

def run (c : Circ) : Call → Option Circ
  | skip => some c
  | raise _ _ => none
  | addLine D dp R rp => some (KV.CircObj.addLine c D (some dp) R (some rp))
  | setReader ll R rp => some (KV.CircObj.setReader c ll R rp)
  | setDriver ll D dp => some (KV.CircObj.setDriver c ll D dp)
  | dropInput ll => removeLineChk { c with lobj := upd c.lobj ll { c.lobj ll with reader := none } } ll

/-- the output (input) pin the call writes, and the line it puts there -/
def outWrite : Call → Option (Nat × Nat)
  | addLine D dp _ _ => some (D, dp)
  | setDriver _ D dp => some (D, dp)
  | _ => none
def inWrite : Call → Option (Nat × Nat)
  | addLine _ _ R rp => some (R, rp)
  | setReader _ R rp => some (R, rp)
  | _ => none
def wline (c : Circ) : Call → Nat
  | addLine _ _ _ _ => c.nextL
  | setReader ll _ _ => ll
  | setDriver ll _ _ => ll
  | _ => 0

/-- the pins the call writes are free -/
def guard (c : Circ) (k : Call) : Bool :=
  (match k.outWrite with | some (D, dp) => (pin (c.nobj D).outs dp).isNone | none => true) &&
  (match k.inWrite with | some (R, rp) => (pin (c.nobj R).ins rp).isNone | none => true)

/-- the line of the instance whose reader (driver) end the call settles -/
def inLine : Call → Option Nat
  | raise i _ => i
  | setReader ll _ _ => some ll
  | dropInput ll => some ll
  | _ => none
def outLine : Call → Option Nat
  | raise _ o => o
  | setDriver ll _ _ => some ll
  | _ => none

/-- A call that writes to nodes of the circuit, whose pins are free and whose line is pending settles that line and leaves
everything else of `SInv` alone. -/
theorem run_sinv {c c' : Circ} {PI PO : Nat → Prop} {k : Call} (s : SInv c PI PO)
    (hto : ∀ w, k.outWrite = some w → w.1 ∈ c.nodes) (hti : ∀ w, k.inWrite = some w → w.1 ∈ c.nodes)
    (hi : ∀ ll, k.inLine = some ll → PI ll ∧ ¬ PO ll) (ho : ∀ ll, k.outLine = some ll → PO ll)
    (hg : k.guard c = true) (h : k.run c = some c') :
    SInv c' (fun l => PI l ∧ k.inLine ≠ some l) (fun l => PO l ∧ k.outLine ≠ some l) ∧ c'.nodes = c.nodes := by
  have same : ∀ {P : Nat → Prop} (l : Nat), (P l ∧ (none : Option Nat) ≠ some l) ↔ P l := fun l => ⟨And.left, fun h => ⟨h, nofun⟩⟩
  have one : ∀ {P : Nat → Prop} (ll l : Nat), (P l ∧ some ll ≠ some l) ↔ (P l ∧ l ≠ ll) := fun ll l => by simp [eq_comm]
  cases k with
  | skip => cases h; exact ⟨s.congr_pred same same, rfl⟩
  | raise i o => cases h
  | addLine D dp R rp =>
    cases h
    simp only [guard, outWrite, inWrite, Bool.and_eq_true, Option.isNone_iff_eq_none] at hg
    exact ⟨(addLine_sinv (dp := some dp) (rp := some rp) s (hto _ rfl) (hti _ rfl) hg.1 hg.2).congr_pred same same, rfl⟩
  | setReader ll R rp =>
    cases h
    simp only [guard, outWrite, inWrite, Bool.true_and, Option.isNone_iff_eq_none] at hg
    exact ⟨(setReader_sinv s (hi ll rfl).1 (hti _ rfl) hg).congr_pred (one ll) same, rfl⟩
  | setDriver ll D dp =>
    cases h
    simp only [guard, outWrite, inWrite, Bool.and_true, Option.isNone_iff_eq_none] at hg
    exact ⟨(setDriver_sinv s (ho ll rfl) (hto _ rfl) hg).congr_pred same (one ll), rfl⟩
  | dropInput ll =>
    obtain ⟨hpi, hpo⟩ := hi ll rfl
    obtain ⟨c0, d, rfl, s0, hn0, _, hll, hdrv, hd, hdpin, _, hrd⟩ := ignoredInput s hpi hpo h
    have s1 := removeLine_sinv s0 hll hdrv (Or.inl ⟨hd, hdpin⟩) (by intro r hr _; rw [hrd] at hr; cases hr)
    exact ⟨s1.congr_pred (one ll) (fun l => ⟨fun h => ⟨h.1, fun e => hpo (e ▸ h.1)⟩, fun h => ⟨h.1, nofun⟩⟩),
      (removeLine_frame _ ll).nodes.trans hn0⟩

/-- pin list `L` of node `j` after the write `w` of line `x` -/
def wr (w : Option (Nat × Nat)) (x j : Nat) (L : Pins) : Pins :=
  match w with
  | some (v, p) => if j = v then growSet L p (some x) else L
  | none => L

theorem pin_wr (w : Option (Nat × Nat)) (x j : Nat) (L : Pins) (q : Nat) :
    pin (wr w x j L) q = if w = some (j, q) then some x else pin L q := by
  unfold wr
  cases w with
  | none => simp
  | some vp =>
    obtain ⟨v, p⟩ := vp
    simp only [pin_growSet_at, Option.some.injEq, Prod.mk.injEq]
    by_cases e : j = v ∧ q = p
    · simp [e.1, e.2]
    · have : ¬ (v = j ∧ p = q) := fun e' => e ⟨e'.1.symm, e'.2.symm⟩
      simp [e, this]

/-- What a call does to the pin lists: a write puts one entry; `dropInput` changes the output list of the line's driver,
which holds that line, and keeps gap-free lists gap-free. -/
theorem run_pins {c c' : Circ} {PI PO : Nat → Prop} {k : Call} (s : SInv c PI PO)
    (hi : ∀ ll, k.inLine = some ll → PI ll ∧ ¬ PO ll) (h : k.run c = some c') :
    (∀ j, (c'.nobj j).kind = (c.nobj j).kind) ∧
    (∀ j, (c'.nobj j).ins = wr k.inWrite (k.wline c) j (c.nobj j).ins) ∧
    ((∀ j, (c'.nobj j).outs = wr k.outWrite (k.wline c) j (c.nobj j).outs) ∨
     ∃ ll d, PI ll ∧ (∃ q, pin (c.nobj d).outs q = some ll) ∧ (∀ j, j ≠ d → (c'.nobj j).outs = (c.nobj j).outs) ∧
       (∀ j, (c.nobj j).kind = FORK → none ∉ (c.nobj j).outs → none ∉ (c'.nobj j).outs)) := by
  cases k with
  | skip => cases h; exact ⟨fun _ => rfl, fun _ => rfl, Or.inl fun _ => rfl⟩
  | raise i o => cases h
  | addLine D dp R rp =>
    cases h
    have hn := addLine_nobj c D (some dp) R (some rp)
    exact ⟨fun j => (hn j).kind, fun j => (hn j).ins, Or.inl fun j => (hn j).outs⟩
  | setReader ll R rp =>
    cases h
    have hn := setReader_nobj c ll R rp
    exact ⟨fun j => (hn j).kind, fun j => (hn j).ins, Or.inl fun j => (hn j).outs⟩
  | setDriver ll D dp =>
    cases h
    have hn := setDriver_nobj c ll D dp
    exact ⟨fun j => (hn j).kind, fun j => (hn j).ins, Or.inl fun j => (hn j).outs⟩
  | dropInput ll =>
    obtain ⟨hpi, hpo⟩ := hi ll rfl
    obtain ⟨c0, d, rfl, _, _, hnobj, _, hdrv, _, hdpin, ha, hrd⟩ := ignoredInput s hpi hpo h
    have hn := removeLine_nobj hdrv ha
    refine ⟨fun j => by rw [(hn j).kind, hnobj], fun j => ?_, Or.inr ⟨ll, d, hpi, ⟨_, hnobj ▸ hdpin⟩, ?_, ?_⟩⟩
    · rw [(hn j).ins]; simp [inWrite, wr, hrd, hnobj]
    · intro j hj; rw [(hn j).outs, if_neg hj, hnobj]
    · intro j hk hj
      exact removeLine_outs_gapfree hdrv ha hdpin j (hnobj ▸ hk) (hnobj ▸ hj)

/-- the lines that wait in the remaining calls -/
def PendI (K : List Call) : Nat → Prop := fun l => l ∈ K.filterMap inLine
def PendO (K : List Call) : Nat → Prop := fun l => l ∈ K.filterMap outLine

/-- State of a list of calls: `SInv` with the lines of the remaining calls pending, each once and on one side only; the calls
write to nodes of the circuit (`c0` fixes the node list, which calls do not change). -/
structure RunInv (c0 c : Circ) (rest : List Call) : Prop where
  s : SInv c (PendI rest) (PendO rest)
  /-- no line waits for its reader end twice -/
  ni : (rest.filterMap inLine).Nodup
  /-- ... nor for its driver end -/
  no : (rest.filterMap outLine).Nodup
  /-- no line waits on both sides (`noSelfLoop`) -/
  dj : ∀ l, PendI rest l → ¬ PendO rest l
  /-- the nodes whose output pins are written are nodes of the circuit -/
  to : ∀ k ∈ rest, ∀ w, k.outWrite = some w → w.1 ∈ c0.nodes
  /-- ... and those whose input pins are written -/
  ti : ∀ k ∈ rest, ∀ w, k.inWrite = some w → w.1 ∈ c0.nodes
  nn : c.nodes = c0.nodes

theorem RunInv.step {c0 c c' : Circ} {k : Call} {rest : List Call} (inv : RunInv c0 c (k :: rest)) (g : k.guard c = true)
    (r : k.run c = some c') : RunInv c0 c' rest := by
  obtain ⟨ni', nik⟩ := nodup_filterMap_cons inv.ni
  obtain ⟨no', nok⟩ := nodup_filterMap_cons inv.no
  have hI : ∀ l, PendI rest l ↔ PendI (k :: rest) l ∧ k.inLine ≠ some l := fun l =>
    ⟨fun h => ⟨mem_filterMap_cons.2 (Or.inr h), fun e => nik l e h⟩, fun h => (mem_filterMap_cons.1 h.1).resolve_left h.2⟩
  have hO : ∀ l, PendO rest l ↔ PendO (k :: rest) l ∧ k.outLine ≠ some l := fun l =>
    ⟨fun h => ⟨mem_filterMap_cons.2 (Or.inr h), fun e => nok l e h⟩, fun h => (mem_filterMap_cons.1 h.1).resolve_left h.2⟩
  have hkI : ∀ ll, k.inLine = some ll → PendI (k :: rest) ll := fun ll e => mem_filterMap_cons.2 (Or.inl e)
  obtain ⟨s', nn'⟩ := run_sinv inv.s (fun w e => inv.nn ▸ inv.to k (by simp) w e) (fun w e => inv.nn ▸ inv.ti k (by simp) w e)
    (fun ll e => ⟨hkI ll e, inv.dj ll (hkI ll e)⟩) (fun ll e => mem_filterMap_cons.2 (Or.inl e)) g r
  exact ⟨s'.congr_pred hI hO, ni', no', fun l hl hl' => inv.dj l ((hI l).1 hl).1 ((hO l).1 hl').1,
    fun k' hk' => inv.to k' (by simp [hk']), fun k' hk' => inv.ti k' (by simp [hk']), nn'.trans inv.nn⟩

theorem RunInv.wf0 {c0 c : Circ} (inv : RunInv c0 c []) : WFc0 c :=
  inv.s.to_wfc0 (fun l _ h => by simp [PendI] at h) (fun l _ h => by simp [PendO] at h)

/-- the forks that are no images of `node_map` are gap-free -/
def OldFF (nm : List (Nat × Nat)) (c : Circ) : Prop :=
  ∀ j ∈ c.nodes, (∀ e ∈ nm, e.2 ≠ j) → (c.nobj j).kind = FORK → none ∉ (c.nobj j).outs

/-- State of a list of calls under structural hypotheses.  `npo` is there so that `Line.remove` of an ignored input touches no
image; `P`: the forks that are no images were gap-free before the calls. -/
structure StaticInv (P : Prop) (nm : List (Nat × Nat)) (c0 c : Circ) (rest : List Call) : Prop extends RunInv c0 c rest where
  /-- the output pins the remaining calls write are free -/
  fo : ∀ v p, (v, p) ∈ rest.filterMap outWrite → pin (c.nobj v).outs p = none
  /-- ... and the input pins -/
  fi : ∀ v p, (v, p) ∈ rest.filterMap inWrite → pin (c.nobj v).ins p = none
  /-- no two remaining calls write the same output pin -/
  wo : (rest.filterMap outWrite).Nodup
  /-- ... or the same input pin -/
  wi : (rest.filterMap inWrite).Nodup
  /-- output pins are written at images of `node_map` only -/
  img : ∀ k ∈ rest, ∀ w, k.outWrite = some w → ∃ e ∈ nm, e.2 = w.1
  /-- no output pin of an image holds a line whose reader end is pending -/
  npo : ∀ e ∈ nm, ∀ p y, pin (c.nobj e.2).outs p = some y → ¬ PendI rest y
  /-- `P` is instantiated by `FFull` of the host, so that one walk serves hosts that are only `WFc0` and hosts that are `WFc` -/
  ff : P → OldFF nm c

theorem StaticInv.guard {P : Prop} {nm : List (Nat × Nat)} {c0 c : Circ} {k : Call} {rest : List Call}
    (inv : StaticInv P nm c0 c (k :: rest)) : k.guard c = true := by
  unfold Call.guard
  rw [Bool.and_eq_true]
  constructor
  · cases h : k.outWrite with
    | none => rfl
    | some w => simp only [Option.isNone_iff_eq_none]; exact inv.fo _ _ (mem_filterMap_cons.2 (Or.inl h))
  · cases h : k.inWrite with
    | none => rfl
    | some w => simp only [Option.isNone_iff_eq_none]; exact inv.fi _ _ (mem_filterMap_cons.2 (Or.inl h))

theorem StaticInv.step {P : Prop} {nm : List (Nat × Nat)} {c0 c c' : Circ} {k : Call} {rest : List Call}
    (inv : StaticInv P nm c0 c (k :: rest)) (r : k.run c = some c') : StaticInv P nm c0 c' rest := by
  have ri := inv.toRunInv
  have ri' := ri.step inv.guard r
  have hn : c'.nodes = c.nodes := ri'.nn.trans ri.nn.symm
  have tl : ∀ {β : Type} {f : Call → Option β} {b : β}, b ∈ rest.filterMap f → b ∈ (k :: rest).filterMap f :=
    fun h => mem_filterMap_cons.2 (Or.inr h)
  have hI : ∀ ll, k.inLine = some ll → PendI (k :: rest) ll := fun ll e => mem_filterMap_cons.2 (Or.inl e)
  obtain ⟨hkind, hins, houts⟩ := run_pins ri.s (fun ll e => ⟨hI ll e, ri.dj ll (hI ll e)⟩) r
  obtain ⟨wo', wok⟩ := nodup_filterMap_cons inv.wo
  obtain ⟨wi', wik⟩ := nodup_filterMap_cons inv.wi
  have img' : ∀ k' ∈ rest, ∀ w, k'.outWrite = some w → ∃ e ∈ nm, e.2 = w.1 := fun k' hk' => inv.img k' (by simp [hk'])
  -- the driver of a dropped input is no image
  have hdrop : ∀ ll d, PendI (k :: rest) ll → (∃ q, pin (c.nobj d).outs q = some ll) → ∀ e ∈ nm, e.2 ≠ d := by
    rintro ll d hpi ⟨q, hq⟩ e he rfl
    exact inv.npo e he q ll hq hpi
  -- the line a call puts into an output pin has no pending reader end afterwards
  have hw : ∀ w, k.outWrite = some w → ¬ PendI rest (k.wline c) := by
    intro w e hp
    cases k with
    | addLine D dp R rp => exact Nat.lt_irrefl _ (ri.s.lfresh _ (ri.s.piOk _ (tl hp)).1).1
    | setDriver ll D dp => exact ri.dj ll (tl hp) (mem_filterMap_cons.2 (Or.inl rfl))
    | _ => cases e
  refine ⟨ri', fun v p hm => ?_, fun v p hm => ?_, wo', wi', img', fun e he p y hp hy => ?_, fun hP j hj hni hk => ?_⟩
  · rcases houts with houts | ⟨ll, d, hpi, hd, hoth, _⟩
    · rw [houts, pin_wr, if_neg (fun e => wok _ e hm)]; exact inv.fo v p (tl hm)
    · obtain ⟨k', hk', hk'w⟩ := List.mem_filterMap.1 hm
      obtain ⟨e, he, hev⟩ := img' k' hk' _ hk'w
      rw [hoth v (fun h => hdrop ll d hpi hd e he (hev.trans h))]; exact inv.fo v p (tl hm)
  · rw [hins, pin_wr, if_neg (fun e => wik _ e hm)]; exact inv.fi v p (tl hm)
  · rcases houts with houts | ⟨ll, d, hpi, hd, hoth, _⟩
    · rw [houts, pin_wr] at hp
      split at hp
      · rename_i e'; cases hp; exact hw _ e' hy
      · exact inv.npo e he p y hp (tl hy)
    · rw [hoth _ (hdrop ll d hpi hd e he)] at hp
      exact inv.npo e he p y hp (tl hy)
  · rw [hn] at hj; rw [hkind] at hk
    rcases houts with houts | ⟨_, _, _, _, _, hgap⟩
    · have : wr k.outWrite (k.wline c) j (c.nobj j).outs = (c.nobj j).outs := by
        unfold wr
        cases hkw : k.outWrite with
        | none => rfl
        | some w =>
          obtain ⟨e, he, hev⟩ := inv.img k (by simp) w hkw
          simp only [if_neg (fun h : j = w.1 => hni e he (hev.trans h.symm))]
      rw [houts, this]; exact inv.ff hP j hj hni hk
    · exact hgap j hk (inv.ff hP j hj hni hk)

end Call

section loop
variable {σ α : Type}

/-- a loop of the model whose body is a call on the circuit `π s` of its state -/
theorem foldO_calls (π : σ → Circ) (f : σ → α → Option σ) (call : α → Call)
    (hf : ∀ s a, (f s a).map π = (call a).run (π s)) (as : List α) (s : σ) :
    (foldO f s as).map π = foldO Call.run (π s) (as.map call) := by
  induction as generalizing s with
  | nil => rfl
  | cons a as ih =>
    simp only [foldO, List.map_cons, ← hf s a]
    cases f s a with
    | none => rfl
    | some s' => exact ih s'

theorem foldG_calls (π : σ → Circ) (f : σ → α → Option σ) (g : σ → α → Bool) (call : α → Call)
    (hf : ∀ s a, (f s a).map π = (call a).run (π s)) (hg : ∀ s a, g s a = (call a).guard (π s)) (as : List α) (s : σ) :
    foldG f g s as = foldG Call.run Call.guard (π s) (as.map call) := by
  induction as generalizing s with
  | nil => rfl
  | cons a as ih =>
    simp only [foldG, List.map_cons, ← hf s a, hg s a]
    cases f s a with
    | none => rfl
    | some s' => simp [ih s']
end loop
end KV.CircObj
