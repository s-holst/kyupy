import KyupyVerif.Proofs.Def
/-! # The partial views of `DefWire.vias` / `DefNet.vias` / `DefNet.wires` (Model/Def.lean, last section) against the total
functions the routing theorems are stated about.

Where `Wire.vias?` / `netVias?` are defined they equal the total `viasD` / `netViasD`, and they are defined whenever the first point of
every wire is explicit; `DefNet.wires` over the raw records (`netWiresR`) returns a listing exactly when every LISTED wire has a
width `int()` accepts and starts with an explicit point, and the listing is `netWires` of the converted records. -/
namespace KV.Def

/-! ## width never read by the geometry -/
theorem wirePointsRaw_geom (w : DWire) (wd : Option Nat) :
    (⟨w.layer, wd, w.start, w.rest⟩ : Wire).wirePointsRaw = w.geom.wirePointsRaw := rfl
theorem wirePoints_geom (w : DWire) (wd : Option Nat) :
    (⟨w.layer, wd, w.start, w.rest⟩ : Wire).wirePoints = w.geom.wirePoints := rfl
theorem viasD_geom (w : DWire) (wd : Option Nat) :
    (⟨w.layer, wd, w.start, w.rest⟩ : Wire).viasD = w.geom.viasD := rfl


/-- the optional location completed from `l`: the partial walk is the total walk started from ANY completion -/
def OLoc.fill (o : OLoc) (l : Loc) : Loc := (o.1.getD l.1, o.2.getD l.2)

theorem viasStepO_fill (o : OLoc) (d : Dict ViaLoc) (it : Item) (st' : OLoc × Dict ViaLoc)
    (h : viasStepO (o, d) it = some st') (l : Loc) : viasStep (o.fill l, d) it = (st'.1.fill l, st'.2) := by
  obtain ⟨o1, o2⟩ := o
  cases it with
  | pt p =>
    cases h
    obtain ⟨x, y, e⟩ := p
    cases x <;> cases y <;> rfl
  | via n or_ =>
    simp only [viasStepO] at h
    split at h
    · rename_i heq; cases heq; cases h; rfl
    · cases h
  | arr n nx ny dx dy =>
    simp only [viasStepO] at h
    split at h
    · rename_i heq; cases heq; cases h; rfl
    · split at h <;> cases h
      rename_i hz
      have : ∀ q, arrayAt q nx ny dx dy = [] := fun q => by rcases hz with rfl | rfl <;> simp [arrayAt]
      simp only [viasStep, this, List.foldl_nil]

theorem viasGoO_fill (r : List Item) (o : OLoc) (d d' : Dict ViaLoc) (h : viasGoO (o, d) r = some d') (l : Loc) :
    (r.foldl viasStep (o.fill l, d)).2 = d' := by
  induction r generalizing o d with
  | nil => simpa [viasGoO] using h
  | cons it r ih =>
    simp only [viasGoO] at h
    cases hs : viasStepO (o, d) it with
    | none => rw [hs] at h; cases h
    | some st' =>
      rw [hs] at h
      rw [List.foldl_cons, viasStepO_fill o d it st' hs l]
      exact ih st'.1 st'.2 h

theorem viasGoO_some (r : List Item) (a b : Int) (d : Dict ViaLoc) :
    ∃ d', viasGoO ((some a, some b), d) r = some d' := by
  induction r generalizing a b d with
  | nil => exact ⟨d, rfl⟩
  | cons it r ih =>
    cases it with
    | pt p =>
      obtain ⟨x, y, e⟩ := p
      cases x <;> cases y <;> simp only [viasGoO, viasStepO, RPt.ontoO] <;> exact ih _ _ _
    | via n o => simp only [viasGoO, viasStepO]; exact ih _ _ _
    | arr n nx ny dx dy => simp only [viasGoO, viasStepO]; exact ih _ _ _

theorem vias?_eq_viasD (w : Wire) (d : Dict ViaLoc) (h : w.vias? = some d) : d = w.viasD :=
  (viasGoO_fill w.rest _ [] d h (0, 0)).symm

theorem vias?_of_startOK (w : Wire) (hs : w.startOK = true) : w.vias? = some w.viasD := by
  obtain ⟨l, wd, ⟨x, y, e⟩, r⟩ := w
  simp only [Wire.startOK, Bool.and_eq_true, Option.isSome_iff_exists] at hs
  obtain ⟨⟨a, rfl⟩, ⟨b, rfl⟩⟩ := hs
  obtain ⟨d', hd⟩ := viasGoO_some r a b []
  have : Wire.vias? ⟨l, wd, ⟨some a, some b, e⟩, r⟩ = some d' := hd
  rw [this, vias?_eq_viasD _ d' this]

theorem netViasGo_eq (ws : List Wire) (d : Dict ViaLoc) :
    netViasGo d ws = if ∀ w ∈ ws, w.vias?.isSome = true then
      some (ws.foldl (fun d w => w.viasD.foldl (fun d kv => d.extend kv.1 kv.2) d) d) else none := by
  induction ws generalizing d with
  | nil => rfl
  | cons w ws ih =>
    simp only [netViasGo, List.forall_mem_cons, List.foldl_cons]
    cases hw : w.vias? with
    | none => simp
    | some wd => cases vias?_eq_viasD w wd hw; simp [ih]

theorem netVias?_eq_ite (ws : List Wire) :
    netVias? ws = if ∀ w ∈ ws, w.vias?.isSome = true then some (netViasD ws) else none := netViasGo_eq ws []

theorem netVias?_eq (ws : List Wire) (d : Dict ViaLoc) (h : netVias? ws = some d) : d = netViasD ws := by
  rw [netVias?_eq_ite] at h; split at h <;> cases h; rfl

theorem netVias?_of_startOK (ws : List Wire) (hs : ∀ w ∈ ws, w.startOK = true) : netVias? ws = some (netViasD ws) := by
  rw [netVias?_eq_ite, if_pos fun w hw => by rw [vias?_of_startOK w (hs w hw)]; rfl]


def wiresStep (d : Dict (Option Nat × List Pt3)) (w : Wire) : Dict (Option Nat × List Pt3) :=
  if w.wirePoints.isEmpty then d else d.push w.layer (w.width, w.wirePoints)

theorem netWires_eq_foldl (ws : List Wire) : netWires ws = ws.foldl wiresStep [] := rfl

theorem isEmpty_wirePoints (w : Wire) : w.wirePoints.isEmpty = w.wirePointsRaw.isEmpty := by
  have hl : w.wirePoints.length = w.wirePointsRaw.length := length_attachExt _ _ (length_resolveFrom _ _)
  cases h1 : w.wirePoints <;> cases h2 : w.wirePointsRaw <;> simp_all

theorem netWiresGo_eq (ws : List DWire) (d : Dict (Option Nat × List Pt3)) :
    netWiresGo d ws = if ∀ w ∈ ws, w.listed = true → w.widthVal.isSome = true then
      .ok ((ws.filterMap DWire.conv).foldl wiresStep d) else .error "value" := by
  induction ws generalizing d with
  | nil => rfl
  | cons w ws ih =>
    have hlist : w.geom.wirePoints.isEmpty = !w.listed := by rw [isEmpty_wirePoints]; simp [DWire.listed]
    simp only [netWiresGo, List.forall_mem_cons]
    by_cases hl : w.listed = true
    · rw [if_pos hl]
      simp only [hl, Bool.not_true] at hlist
      split
      · rename_i hv
        simp [hl, hv]
      · rename_i wd hv
        simp [hl, hv, ih, wiresStep, wirePoints_geom, hlist, DWire.conv]
    · have hl' : w.listed = false := by simpa using hl
      simp only [hl', Bool.not_false] at hlist
      rw [if_neg hl, ih]
      cases hc : w.conv with
      | none => simp [hc, hl']
      | some w' =>
        obtain ⟨wd, _, rfl⟩ := Option.map_eq_some_iff.1 hc
        simp [hc, hl', wiresStep, wirePoints_geom, hlist]

/-- all three outcomes of `DefNet.wires` on the raw records at once -/
theorem netWiresR_eq (ws : List DWire) :
    netWiresR ws =
      if ∀ w ∈ ws, w.listed = true → w.widthVal.isSome = true then
        if ∀ w ∈ ws, w.listed = true → w.geom.startOK = true then .ok (netWires (ws.filterMap DWire.conv))
        else .error "start"
      else .error "value" := by
  have hs : (ws.all fun w => !w.listed || w.geom.startOK) = true ↔ ∀ w ∈ ws, w.listed = true → w.geom.startOK = true := by
    simp only [List.all_eq_true, Bool.or_eq_true, Bool.not_eq_true']
    exact forall₂_congr fun w _ => by cases w.listed <;> simp
  unfold netWiresR
  rw [netWiresGo_eq, ← netWires_eq_foldl]
  by_cases hw : ∀ w ∈ ws, w.listed = true → w.widthVal.isSome = true
  · simp only [if_pos hw, hs]
  · simp only [if_neg hw]

theorem netWiresR_ok_iff (ws : List DWire) (d : Dict (Option Nat × List Pt3)) :
    netWiresR ws = .ok d ↔
      (∀ w ∈ ws, w.listed = true → w.widthVal.isSome = true ∧ w.geom.startOK = true) ∧
      d = netWires (ws.filterMap DWire.conv) := by
  rw [netWiresR_eq]
  simp only [imp_and, forall_and]
  split
  · rename_i hw; split
    · rename_i hs; simp only [Res.ok.injEq]; exact ⟨fun e => ⟨⟨hw, hs⟩, e.symm⟩, fun e => e.2.symm⟩
    · rename_i hs; simp only [reduceCtorEq, false_iff]; exact fun h => hs h.1.2
  · rename_i hw; simp only [reduceCtorEq, false_iff]; exact fun h => hw h.1.1

/-- flattening after dropping (core has no name for it) -/
theorem flatMap_filterMap {α β γ : Type} (f : α → Option β) (g : β → List γ) (l : List α) :
    (l.filterMap f).flatMap g = l.flatMap fun a => ((f a).map g).getD [] := by
  induction l with
  | nil => rfl
  | cons a l ih => cases h : f a <;> simp [h, ih]

end KV.Def
