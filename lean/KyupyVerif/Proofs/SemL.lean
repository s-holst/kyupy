import KyupyVerif.Proofs.SemAll
/-! List-argument semantics of one op row in the three logics, as dispatched by the real code
(`semL2n/semL2p/semL2c`, `semL4`, `semL8` — from the generated dispatchers) and as specified
(`specL2` = LUT bit, `specL4/specL8` = documented composition of the primitive named by the code). -/
namespace KV
open KV.Sig

def nameOf (code : Nat) : Option String := (Gen.prims.find? (·.2 == code)).map (·.1)

abbrev arg {α} (xs : List α) (i : Nat) (d : α) : α := xs.getD i d

def semL2n (code : Nat) (xs : List Bool) : Bool := Gen.sem2n code (arg xs 0 false) (arg xs 1 false) (arg xs 2 false) (arg xs 3 false)
def semL2p (code : Nat) (xs : List Bool) : Bool := Gen.sem2p code (arg xs 0 false) (arg xs 1 false) (arg xs 2 false) (arg xs 3 false)
def semL2c (code : Nat) (xs : List Bool) : Bool := Gen.sem2c code (arg xs 0 false) (arg xs 1 false) (arg xs 2 false) (arg xs 3 false)
def specL2 (code : Nat) (xs : List Bool) : Bool := lutBit4 code (arg xs 0 false) (arg xs 1 false) (arg xs 2 false) (arg xs 3 false)

def semL4 (code : Nat) (xs : List V2) : V2 :=
  (Gen.sem4 code (.ofV2 (arg xs 0 default)) (.ofV2 (arg xs 1 default)) (.ofV2 (arg xs 2 default)) (.ofV2 (arg xs 3 default))).toV2
def semL8 (code : Nat) (xs : List V3) : V3 :=
  (Gen.sem8 code (.ofV3 (arg xs 0 default)) (.ofV3 (arg xs 1 default)) (.ofV3 (arg xs 2 default)) (.ofV3 (arg xs 3 default))).toV3

def specL4 (code : Nat) (xs : List V2) : V2 :=
  match (nameOf code).bind comp4 with
  | some f => f (arg xs 0 default) (arg xs 1 default) (arg xs 2 default) (arg xs 3 default)
  | none => default
def specL8 (code : Nat) (xs : List V3) : V3 :=
  match (nameOf code).bind comp8 with
  | some f => f (arg xs 0 default) (arg xs 1 default) (arg xs 2 default) (arg xs 3 default)
  | none => default

/-- the op codes that exist: `sim.names` -/
def KnownCode (code : Nat) : Prop := ∃ name, (name, code) ∈ Gen.prims

theorem codes_nodup : (Gen.prims.map (·.2)).Nodup := by decide +kernel

theorem nameOf_of_mem {name : String} {code : Nat} (h : (name, code) ∈ Gen.prims) : nameOf code = some name := by
  unfold nameOf
  have hnd := codes_nodup
  generalize Gen.prims = l at h hnd
  induction l with
  | nil => cases h
  | cons e l ih =>
    simp only [List.map_cons, List.nodup_cons] at hnd
    simp only [List.find?_cons]
    cases List.mem_cons.mp h with
    | inl he => subst he; simp
    | inr hl =>
      have hne : (e.2 == code) = false := by
        apply beq_false_of_ne; intro heq
        exact hnd.1 (List.mem_map.mpr ⟨(name, code), hl, heq.symm⟩)
      simp only [hne]; exact ih hl hnd.2

theorem name_in_primNames {name : String} {code : Nat} (h : (name, code) ∈ Gen.prims) : name ∈ primNames := by
  have := prims_names.1
  simp only [List.all_eq_true, List.mem_map, forall_exists_index, and_imp] at this
  have := this name (name, code) h rfl
  simpa using this

theorem semL8_eq_spec {code : Nat} (h : KnownCode code) (xs : List V3) : semL8 code xs = specL8 code xs := by
  obtain ⟨name, hm⟩ := h
  obtain ⟨f, hf, hall⟩ := sem8_eq_comp hm
  unfold semL8 specL8
  rw [nameOf_of_mem hm]; simp only [Option.bind_some, hf]
  exact hall _ _ _ _

theorem semL4_eq_spec {code : Nat} (h : KnownCode code) (xs : List V2) : semL4 code xs = specL4 code xs := by
  obtain ⟨name, hm⟩ := h
  obtain ⟨f, hf, hall⟩ := sem4_eq_comp hm
  unfold semL4 specL4
  rw [nameOf_of_mem hm]; simp only [Option.bind_some, hf]
  exact hall _ _ _ _

theorem semL2n_eq_spec {code : Nat} (h : KnownCode code) (xs : List Bool) : semL2n code xs = specL2 code xs := by
  obtain ⟨name, hm⟩ := h; exact (sem2_eq sem2n_all hm _ _ _ _).1
theorem semL2p_eq_spec {code : Nat} (h : KnownCode code) (xs : List Bool) : semL2p code xs = specL2 code xs := by
  obtain ⟨name, hm⟩ := h; exact (sem2_eq sem2p_all hm _ _ _ _).1
theorem semL2c_eq_spec {code : Nat} (h : KnownCode code) (xs : List Bool) : semL2c code xs = specL2 code xs := by
  obtain ⟨name, hm⟩ := h; exact (sem2_eq sem2c_all hm _ _ _ _).1

theorem specL2_formula {name : String} {code : Nat} (hm : (name, code) ∈ Gen.prims) (a b c d : Bool) :
    formula name a b c d = some (lutBit4 code a b c d) := by
  have := sem2_eq sem2n_all hm a b c d
  rw [this.2, this.1]

theorem formulaF_eq_lut {name : String} {code : Nat} (hm : (name, code) ∈ Gen.prims)
    {g : Bool → Bool → Bool → Bool → Bool} (hg : formulaF name = some g) (a b c d : Bool) :
    g a b c d = lutBit4 code a b c d := by
  have := specL2_formula hm a b c d
  unfold formula at this
  rw [hg] at this
  simpa using this

/-- **a known op code is ONE composition of the documented operators**, read in the three algebras by the three logics of the
    real dispatch -/
theorem row_expr {code : Nat} (h : KnownCode code) : ∃ e : PExpr,
    (∀ xs, semL8 code xs = e.eval spec8 (arg xs 0 default) (arg xs 1 default) (arg xs 2 default) (arg xs 3 default)) ∧
    (∀ xs, semL4 code xs = e.eval spec4 (arg xs 0 default) (arg xs 1 default) (arg xs 2 default) (arg xs 3 default)) ∧
    (∀ ys, semL2n code ys = e.eval specB (arg ys 0 false) (arg ys 1 false) (arg ys 2 false) (arg ys 3 false)) := by
  obtain ⟨name, hm⟩ := h
  obtain ⟨e, g, h8, h4, hg, hgB⟩ := primExpr_spec (name_in_primNames hm)
  refine ⟨e, fun xs => ?_, fun xs => ?_, fun ys => ?_⟩
  · rw [semL8_eq_spec ⟨name, hm⟩]; unfold specL8; rw [nameOf_of_mem hm]; simp only [Option.bind_some, h8]
  · rw [semL4_eq_spec ⟨name, hm⟩]; unfold specL4; rw [nameOf_of_mem hm]; simp only [Option.bind_some, h4]
  · rw [semL2n_eq_spec ⟨name, hm⟩, ← hgB]; exact (formulaF_eq_lut hm hg _ _ _ _).symm

/-- every relation between multi-valued and Boolean operands that the documented operators preserve (`refines8_rel`, `plane_rel`,
    `inactive_rel`, Proofs/SpecRel.lean) is preserved by the rows of the real dispatch; `hd`: the operands a row lacks -/
theorem semL8_rel {R : V3 → Bool → Prop} (hR : Alg.Rel R spec8 specB) (hd : R default false) {code : Nat} (h : KnownCode code)
    {xs : List V3} {ys : List Bool} (hxy : All2 R xs ys) : R (semL8 code xs) (semL2n code ys) := by
  obtain ⟨e, h8, _, h2⟩ := row_expr h
  rw [h8, h2]
  exact e.eval_rel hR (hxy.getD 0 _ _ hd) (hxy.getD 1 _ _ hd) (hxy.getD 2 _ _ hd) (hxy.getD 3 _ _ hd)

theorem semL4_rel {R : V2 → Bool → Prop} (hR : Alg.Rel R spec4 specB) (hd : R default false) {code : Nat} (h : KnownCode code)
    {xs : List V2} {ys : List Bool} (hxy : All2 R xs ys) : R (semL4 code xs) (semL2n code ys) := by
  obtain ⟨e, _, h4, h2⟩ := row_expr h
  rw [h4, h2]
  exact e.eval_rel hR (hxy.getD 0 _ _ hd) (hxy.getD 1 _ _ hd) (hxy.getD 2 _ _ hd) (hxy.getD 3 _ _ hd)

def KnownProg (ops : List Op) : Prop := ∀ op ∈ ops, KnownCode op.code

theorem Sig.All2.eq_of_eq {α} {xs ys : List α} (h : All2 (fun a b => a = b) xs ys) : xs = ys := by
  induction h with
  | nil => rfl
  | cons h _ ih => rw [h, ih]

theorem execG_congr_on {α} (s1 s2 : Op → List α → α) (ops : List Op)
    (h : ∀ op ∈ ops, ∀ xs, s1 op xs = s2 op xs) (env : Nat → α) : execG s1 ops env = execG s2 ops env := by
  funext l
  apply execG_rel_on (fun a b => a = b) s1 s2 ops _ env env (fun _ => rfl)
  intro op hop xs ys hxy
  rw [All2.eq_of_eq hxy]
  exact h op hop ys

theorem exec_eq_of_known {α} (sem spec : Nat → List α → α) (heq : ∀ code, KnownCode code → ∀ xs, sem code xs = spec code xs)
    (ops : List Op) (hk : KnownProg ops) (env : Nat → α) (l : Nat) : exec sem ops env l = exec spec ops env l := by
  rw [exec_eq_execG, exec_eq_execG, execG_congr_on _ _ ops (fun op hop xs => heq op.code (hk op hop) xs)]

/-- `f`: reading a lane, say; `z`, `d`: what a row reads for an operand it lacks -/
theorem op_lanes {α β} (f : α → β) (z : α) (d : β) (hd : f z = d) (gW : α → α → α → α → α) (gL : β → β → β → β → β)
    (hom : ∀ a b c e, f (gW a b c e) = gL (f a) (f b) (f c) (f e)) (xs : List α) (ys : List β)
    (hxy : All2 (fun v b => f v = b) xs ys) :
    f (gW (arg xs 0 z) (arg xs 1 z) (arg xs 2 z) (arg xs 3 z)) = gL (arg ys 0 d) (arg ys 1 d) (arg ys 2 d) (arg ys 3 d) := by
  simp only [arg]
  rw [hom, hxy.getD 0 _ _ hd, hxy.getD 1 _ _ hd, hxy.getD 2 _ _ hd, hxy.getD 3 _ _ hd]

end KV
