import KyupyVerif.Model.DefText
import KyupyVerif.Proofs.TextLex
/-! Scanner facts for the DEF text model: how each state's scanner reads one printed token
(`Lx s t x`: in state `s`, a blank, the text `x` and then white space is the token `t` with text `x`). -/
namespace KV.DefText
open KV.TextLex

def WsHead (R : List Char) : Prop := ∃ c R', R = c :: R' ∧ isWs c = true

abbrev Lx (s : St) (t : Tm) (x : Txt) : Prop := TextLex.Lx nextD WsHead s t x

theorem wsHead_cons_blank (R : List Char) : WsHead (' ' :: R) := ⟨' ', R, rfl, by decide⟩
theorem wsHead_nl : WsHead ['\n'] := ⟨'\n', [], rfl, by decide⟩
theorem wsHead_enc (ts : List Txt) (R : List Char) (h : WsHead R) : WsHead (enc ts ++ R) := by
  cases ts with
  | nil => simpa [enc] using h
  | cons t ts => exact ⟨' ', t ++ (enc ts ++ R), by simp [enc], by decide⟩

theorem enc_cons (t : Txt) (ts : List Txt) (R : List Char) : enc (t :: ts) ++ R = ' ' :: (t ++ (enc ts ++ R)) := by
  simp [enc]
theorem enc_nil (R : List Char) : enc [] ++ R = R := rfl
theorem enc_append (a b : List Txt) : enc (a ++ b) = enc a ++ enc b := by simp [enc]

theorem ignM_blank (c : Char) (R : List Char) (hc : c ≠ '#') : ignM (' ' :: c :: R) = some ([], c :: R) := by
  simp [ignM, isWs, hc]

theorem ignM_nonws (c : Char) (R : List Char) (hc : isWs c = false) : ignM (c :: R) = none := by
  simp [ignM, hc]

theorem idM_blank (X : List Char) : idM (' ' :: X) = none := by simp [idM, isWs]
theorem numberM_blank (X : List Char) : numberM (' ' :: X) = none := by
  simp [numberM, plus, spanP, isDigit]
theorem signedM_blank (X : List Char) : signedM (' ' :: X) = none := by
  simp [signedM, numberM_blank]
theorem orientM_blank (X : List Char) : orientM (' ' :: X) = none := by
  cases X with
  | nil => rfl
  | cons b r => simp [orientM, isNWES]
theorem stringM_blank (X : List Char) : stringM (' ' :: X) = none := by simp [stringM]
theorem headM_blank (X : List Char) : headM (' ' :: X) = none := by simp [headM]

def noBlank : Tm → Bool
  | .id | .number | .signed | .orient | .string | .headComment => true
  | _ => false

theorem run_blank (t : Tm) (h : noBlank t = true) (X : List Char) : t.run (' ' :: X) = none := by
  cases t <;> simp [noBlank] at h <;>
    simp [Tm.run, idM_blank, numberM_blank, signedM_blank, orientM_blank, stringM_blank, headM_blank]

theorem kw_chars_ws (k : Kw) : ∀ x ∈ k.chars, isWs x = false := by
  cases k <;> decide

/-- `u` cannot match a text that starts with `c0` / is `x` followed by white space (sound, not complete) -/
def failsAt (c0 : Char) (x : Txt) : Tm → Bool
  | .ign => !isWs c0
  | .headComment => c0 ≠ '#'
  | .lit k => !(k.chars.isPrefixOf x)
  | .xy => c0 ≠ 'X' && c0 ≠ 'Y'
  | .number => !isDigit c0 && c0 ≠ '.'
  | .signed => !isDigit c0 && c0 ≠ '.' && c0 ≠ '+' && c0 ≠ '-'
  | .string => c0 ≠ '"'
  | .id => c0 = '+' || isWs c0
  | .orient => !isNWES c0 && c0 ≠ 'F'

theorem numberM_none (c0 : Char) (X : List Char) (h1 : isDigit c0 = false) (h2 : c0 ≠ '.') : numberM (c0 :: X) = none := by
  simp [numberM, plus, spanP, h1, h2]

theorem failsAt_sound (c0 : Char) (x' : Txt) (u : Tm) (h : failsAt c0 (c0 :: x') u = true) (R : List Char)
    (hR : WsHead R) : u.run (c0 :: x' ++ R) = none := by
  cases u <;> simp only [failsAt, ne_eq, decide_not, Bool.and_eq_true, Bool.or_eq_true, Bool.not_eq_true', decide_eq_false_iff_not,
    decide_eq_true_eq] at h
  case ign => simp [Tm.run, ignM, h]
  case headComment => simp [Tm.run, headM, h]
  case lit k =>
    obtain ⟨c, R', rfl, hc⟩ := hR
    simp only [Tm.run, TextLex.lit]
    rw [stripPrefix_none k.chars (c0 :: x') c R' h
      (fun x hx e => by have := kw_chars_ws k x hx; rw [e, hc] at this; cases this)]
    rfl
  case xy => simp [Tm.run, xyM, h]
  case number => simp [Tm.run, numberM_none c0 _ h.1 h.2]
  case signed => simp [Tm.run, signedM, h.1.2, h.2, numberM_none c0 _ h.1.1.1 h.1.1.2]
  case string => simp [Tm.run, stringM, h]
  case id => rcases h with h | h <;> simp [Tm.run, idM, h]
  case orient =>
    simp only [Tm.run, List.cons_append]
    cases hX : x' ++ R with
    | nil => rfl
    | cons b r => simp [orientM, h.1, h.2]

theorem nextD_of_next (s : St) (cs : List Char) (t : Tm) (x r : List Char) (h : next L s.1 cs = some (.tok t x, r))
    (hre : t = .id → s.2.find? (fun k => k.chars == x) = none) : nextD s cs = some (.tok t x, r) := by
  unfold nextD
  rw [h]
  cases t with
  | id => simp [hre rfl]
  | _ => rfl

/-- the scan list alone (before the re-typing of folded strings) -/
abbrev LxRaw (ts : List Tm) (t : Tm) (x : Txt) : Prop := TextLex.Lx (next L) WsHead ts t x

theorem LxRaw_core (ts : List Tm) (t : Tm) (c0 : Char) (x' : Txt) (a b c d : List Tm) (hc0 : c0 ≠ '#')
    (hskip : ts = a ++ .ign :: b) (ha : a.all noBlank = true) (hsplit : ts = c ++ t :: d)
    (hpre : ∀ R, WsHead R → ∀ u ∈ c, u.run (c0 :: x' ++ R) = none)
    (ht : ∀ R, WsHead R → t.run (c0 :: x' ++ R) = some (c0 :: x', R))
    (hign : t.ign? = false) : LxRaw ts t (c0 :: x') :=
  Lx.core L WsHead ts a b c d .ign t c0 x' hskip (fun u hu => run_blank u (List.all_eq_true.mp ha u hu))
    (fun X => ⟨[], ignM_blank c0 X hc0⟩) rfl hsplit hpre ht hign

theorem Lx_of_raw (s : St) (t : Tm) (x : Txt) (h : LxRaw s.1 t x)
    (hre : t = .id → s.2.find? (fun k => k.chars == x) = none) : Lx s t x :=
  fun R hR => nextD_of_next s _ t x R (h R hR) hre

theorem Lx_emb_of_raw (s : St) (k : Kw) (h : LxRaw s.1 .id k.chars)
    (hf : s.2.find? (fun k' => k'.chars == k.chars) = some k) : Lx s (.lit k) k.chars := by
  intro R hR
  unfold nextD
  rw [h R hR]
  simp [hf]

theorem Lx_core (s : St) (t : Tm) (c0 : Char) (x' : Txt) (a b c d : List Tm) (hc0 : c0 ≠ '#')
    (hskip : s.1 = a ++ .ign :: b) (ha : a.all noBlank = true) (hsplit : s.1 = c ++ t :: d)
    (hpre : ∀ R, WsHead R → ∀ u ∈ c, u.run (c0 :: x' ++ R) = none)
    (ht : ∀ R, WsHead R → t.run (c0 :: x' ++ R) = some (c0 :: x', R))
    (hign : t.ign? = false)
    (hre : t = .id → s.2.find? (fun k => k.chars == c0 :: x') = none) : Lx s t (c0 :: x') :=
  Lx_of_raw s t _ (LxRaw_core s.1 t c0 x' a b c d hc0 hskip ha hsplit hpre ht hign) hre

/-- `h` is closed: for `decide`.  The ignored terminal may stand behind terminals that cannot start at a blank (`noBlank`); a blank in
front of anything but `#` is all it takes. -/
theorem Lx_lit (s : St) (k : Kw)
    (h : (match k.chars with
      | c0 :: x' => check .ign noBlank (failsAt c0 (c0 :: x')) s.1 (.lit k) && c0 ≠ '#' | [] => false) = true) :
    Lx s (.lit k) k.chars := by
  cases hk : k.chars with
  | nil => rw [hk] at h; cases h
  | cons c0 x' =>
    rw [hk] at h
    simp only [Bool.and_eq_true, ne_eq, decide_not, Bool.not_eq_true', decide_eq_false_iff_not] at h
    exact Lx_of_raw s (.lit k) _ (Lx.of_check L WsHead .ign noBlank _ s.1 (.lit k) c0 x' h.1 run_blank
      (fun X => ⟨[], ignM_blank c0 X h.2⟩) rfl (failsAt_sound c0 x')
      (fun R _ => by simpa [L, Tm.run, hk] using lit_append k.chars R) rfl) (by intro e; cases e)

theorem wsHead_notWs (R : List Char) (hR : WsHead R) : ∀ c r', R = c :: r' → notWs c = false := by
  intro c r' e
  obtain ⟨c', R', rfl, hc⟩ := hR
  cases e
  simp [notWs, hc]

theorem vId_spec (x : Txt) (h : vId x = true) :
    ∃ c0 x', x = c0 :: x' ∧ c0 ≠ '+' ∧ c0 ≠ '#' ∧ isWs c0 = false ∧ (c0 :: x').all notWs = true := by
  cases x with
  | nil => simp [vId] at h
  | cons c0 x' =>
    simp only [vId, ne_eq, decide_not, Bool.and_eq_true, Bool.not_eq_true', decide_eq_false_iff_not] at h
    obtain ⟨⟨h1, h2⟩, h3⟩ := h
    have h3' := h3
    simp only [List.all_cons, Bool.and_eq_true] at h3
    exact ⟨c0, x', rfl, h1, h2, by simpa [notWs] using h3.1, h3'⟩

theorem idM_tok (c0 : Char) (x' R : List Char) (h1 : c0 ≠ '+') (h2 : isWs c0 = false) (h3 : ∀ y ∈ x', notWs y = true)
    (hR : WsHead R) : idM (c0 :: x' ++ R) = some (c0 :: x', R) := by
  simp only [List.cons_append, idM, h2, Bool.not_false, ne_eq, h1, not_false_eq_true, decide_true, Bool.and_self,
    ↓reduceIte, spanP_append notWs x' R h3 (wsHead_notWs R hR)]

theorem isOrient_spec (o : Txt) (h : isOrient o = true) :
    (∃ c, o = [c] ∧ isNWES c = true) ∨ (∃ c, o = ['F', c] ∧ isNWES c = true) := by
  match o, h with
  | [c], h => exact Or.inl ⟨c, rfl, by simpa [isOrient] using h⟩
  | [f, c], h =>
    simp only [isOrient, Bool.and_eq_true, decide_eq_true_eq] at h
    exact Or.inr ⟨c, by rw [h.1], h.2⟩

theorem orientM_tok (o : Txt) (h : isOrient o = true) (R : List Char) (hR : WsHead R) : orientM (o ++ R) = some (o, R) := by
  obtain ⟨w, R', rfl, hw⟩ := hR
  rcases isOrient_spec o h with ⟨c, rfl, hc⟩ | ⟨c, rfl, hc⟩
  · have : c ≠ 'F' := by intro e; subst e; simp [isNWES] at hc
    simp [orientM, this, hc, hw]
  · simp [orientM, hc, hw]

theorem isWs_cases (w : Char) (hw : isWs w = true) : (((w = ' ' ∨ w = '\t') ∨ w = '\x0c') ∨ w = '\r') ∨ w = '\n' := by
  simpa [isWs] using hw

theorem ws_not_nwes (w : Char) (hw : isWs w = true) : isNWES w = false := by
  rcases isWs_cases w hw with (((e | e) | e) | e) | e <;> (subst e; decide)

theorem orientM_none (x : Txt) (h : isOrient x = false) (hx : x.all notWs = true) (hne : x ≠ []) (R : List Char)
    (hR : WsHead R) : orientM (x ++ R) = none := by
  obtain ⟨w, R', rfl, hw⟩ := hR
  match x, h, hx, hne with
  | [c], h, hx, _ =>
    simp only [isOrient] at h
    by_cases e : c = 'F'
    · subst e
      cases R' <;> simp [orientM, ws_not_nwes w hw]
    · simp [orientM, e, h]
  | [f, c], h, hx, _ =>
    simp only [List.all_cons, List.all_nil, Bool.and_true, Bool.and_eq_true, notWs, Bool.not_eq_true'] at hx
    simp only [isOrient, Bool.and_eq_false_iff, decide_eq_false_iff_not] at h
    by_cases e : f = 'F'
    · subst e
      rcases h with h | h
      · exact absurd rfl h
      · simp [orientM, h]
    · simp [orientM, e, hx.2]
  | a :: b :: c2 :: rest, _, hx, _ =>
    simp only [List.all_cons, Bool.and_eq_true, notWs, Bool.not_eq_true'] at hx
    by_cases e : a = 'F'
    · subst e; simp [orientM, hx.2.2.1]
    · simp [orientM, e, hx.2.1]

theorem expPart_ws (R : List Char) (hR : WsHead R) : expPart R = none := by
  obtain ⟨w, R', rfl, hw⟩ := hR
  have h1 : w ≠ 'e' := by intro e; subst e; simp [isWs] at hw
  have h2 : w ≠ 'E' := by intro e; subst e; simp [isWs] at hw
  simp [expPart, h1, h2]

theorem intOK_spec (x : Txt) (h : intOK x = true) : x ≠ [] ∧ ∀ y ∈ x, isDigit y = true := by
  simp only [intOK, Bool.and_eq_true, Bool.not_eq_true', List.isEmpty_eq_false_iff, List.all_eq_true] at h
  exact h

theorem numberM_tok (x : Txt) (h : intOK x = true) (R : List Char) (hR : WsHead R) : numberM (x ++ R) = some (x, R) := by
  obtain ⟨hne, hd⟩ := intOK_spec x h
  obtain ⟨w, R', rfl, hw⟩ := hR
  have hwd : isDigit w = false := by
    rcases isWs_cases w hw with (((e | e) | e) | e) | e <;> (subst e; decide)
  have hp := plus_append isDigit x (w :: R') hne hd (by intro c r' e; cases e; exact hwd)
  have hdot : w ≠ '.' := by intro e; subst e; simp [isWs] at hw
  simp [numberM, hp, expPart_ws (w :: R') ⟨w, R', rfl, hw⟩, hdot]

theorem signedM_tok (x : Txt) (h : sintOK x = true) (R : List Char) (hR : WsHead R) : signedM (x ++ R) = some (x, R) := by
  cases x with
  | nil => simp [sintOK] at h
  | cons c r =>
    simp only [sintOK] at h
    split at h
    · rename_i hs
      simp only [List.cons_append, signedM, hs, ↓reduceIte, numberM_tok r h R hR, Option.map_some]
    · rename_i hs
      have := numberM_tok (c :: r) h R hR
      simp only [List.cons_append] at this
      simp [signedM, hs, this]

theorem strBody_plain (body R : List Char) (h : ∀ y ∈ body, y ≠ '"' ∧ y ≠ '\\') :
    strBody false (body ++ '"' :: R) = some (body ++ ['"'], R) := by
  induction body with
  | nil => simp [strBody]
  | cons y body ih =>
    have hy := h y (by simp)
    have := ih (fun z hz => h z (by simp [hz]))
    simp [strBody, hy.1, hy.2, this]

theorem vStr_spec (x : Txt) (h : vStr x = true) : ∃ body, x = '"' :: (body ++ ['"']) ∧ ∀ y ∈ body, y ≠ '"' ∧ y ≠ '\\' := by
  cases x with
  | nil => simp [vStr] at h
  | cons c r =>
    simp only [vStr, Bool.and_eq_true, decide_eq_true_eq, List.all_eq_true, ne_eq, decide_not, Bool.not_eq_true',
      decide_eq_false_iff_not] at h
    obtain ⟨⟨rfl, h2⟩, h3⟩ := h
    obtain ⟨body, rfl⟩ := List.getLast?_eq_some_iff.mp h2
    exact ⟨body, rfl, by simpa using h3⟩

theorem stringM_tok (x : Txt) (h : vStr x = true) (R : List Char) : stringM (x ++ R) = some (x, R) := by
  obtain ⟨body, rfl, hb⟩ := vStr_spec x h
  simp [stringM, strBody_plain body R hb]

theorem intOK_head (x : Txt) (h : intOK x = true) : ∃ c0 x', x = c0 :: x' ∧ isDigit c0 = true ∧ c0 ≠ '#' := by
  obtain ⟨hne, hd⟩ := intOK_spec x h
  cases x with
  | nil => exact absurd rfl hne
  | cons c0 x' =>
    have := hd c0 (by simp)
    exact ⟨c0, x', rfl, this, by intro e; subst e; revert this; decide⟩

theorem LxRaw_id (rest : List Tm) (x : Txt) (h : vId x = true) : LxRaw (.id :: .ign :: rest) .id x := by
  obtain ⟨c0, x', rfl, h1, h2, h3, h5⟩ := vId_spec x h
  have h4 : ∀ y ∈ x', notWs y = true := fun y hy => List.all_eq_true.mp h5 y (by simp [hy])
  exact LxRaw_core _ .id c0 x' [.id] rest [] (.ign :: rest) h2 rfl rfl rfl (by intro R _ u hu; cases hu)
    (fun R hR => idM_tok c0 x' R h1 h3 h4 hR) rfl

theorem Lx_id (x : Txt) (h : vId x = true) : Lx sId .id x := Lx_of_raw sId .id x (LxRaw_id [] x h) (fun _ => rfl)

theorem vIdPt_spec (x : Txt) (h : vIdPt x = true) : vId x = true ∧ x ≠ K .Lpar ∧ x ≠ K .New ∧ x ≠ K .Semi := by
  simpa [vIdPt, and_assoc] using h

theorem vVia_spec (x : Txt) (h : vVia x = true) : vIdPt x = true ∧ x ≠ K .Do ∧ isOrient x = false := by
  simpa [vVia, and_assoc] using h

theorem find_none (ks : List Kw) (x : Txt) (h : ∀ k ∈ ks, x ≠ K k) : ks.find? (fun k => k.chars == x) = none := by
  rw [List.find?_eq_none]
  intro k hk
  have := h k hk
  simp only [beq_iff_eq]
  exact fun e => this (by rw [K, e])

theorem Lx_pt_id (x : Txt) (h : vIdPt x = true) : Lx sAfterPt .id x := by
  obtain ⟨h0, h1, h2, h3⟩ := vIdPt_spec x h
  refine Lx_of_raw sAfterPt .id x (LxRaw_id _ x h0) (fun _ => find_none _ x ?_)
  intro k hk
  simp only [sAfterPt, List.mem_cons, List.not_mem_nil, or_false] at hk
  rcases hk with rfl | rfl | rfl <;> assumption

theorem Lx_spvia_id (x : Txt) (h : vVia x = true) : Lx sAfterSpVia .id x := by
  obtain ⟨hp, hd, _⟩ := vVia_spec x h
  obtain ⟨h0, h1, h2, h3⟩ := vIdPt_spec x hp
  refine Lx_of_raw sAfterSpVia .id x (LxRaw_id _ x h0) (fun _ => find_none _ x ?_)
  intro k hk
  simp only [sAfterSpVia, List.mem_cons, List.not_mem_nil, or_false] at hk
  rcases hk with rfl | rfl | rfl | rfl <;> assumption

/-- an `ID` behind `ORIENTATION` in the scan list: it must not look like an orientation -/
theorem LxRaw_via_id (x : Txt) (h : vId x = true) (ho : isOrient x = false) :
    LxRaw [.orient, .id, .ign, .lit .Plus] .id x := by
  obtain ⟨c0, x', rfl, h1, h2, h3, h5⟩ := vId_spec x h
  have h4 : ∀ y ∈ x', notWs y = true := fun y hy => List.all_eq_true.mp h5 y (by simp [hy])
  refine LxRaw_core _ .id c0 x' [.orient, .id] [.lit .Plus] [.orient] [.ign, .lit .Plus] h2 rfl rfl rfl ?_
    (fun R hR => idM_tok c0 x' R h1 h3 h4 hR) rfl
  intro R hR u hu
  simp only [List.mem_cons, List.not_mem_nil, or_false] at hu
  subst hu
  exact orientM_none (c0 :: x') ho h5 (by simp) R hR

theorem Lx_via_id (x : Txt) (h : vVia x = true) : Lx sAfterVia .id x := by
  obtain ⟨hp, _, ho⟩ := vVia_spec x h
  obtain ⟨h0, h1, h2, h3⟩ := vIdPt_spec x hp
  refine Lx_of_raw sAfterVia .id x (LxRaw_via_id x h0 ho) (fun _ => find_none _ x ?_)
  intro k hk
  simp only [sAfterVia, List.mem_cons, List.not_mem_nil, or_false] at hk
  rcases hk with rfl | rfl | rfl <;> assumption

theorem Lx_via_orient (o : Txt) (h : isOrient o = true) : Lx sAfterVia .orient o := by
  have hne : ∃ c0 x', o = c0 :: x' ∧ c0 ≠ '#' := by
    rcases isOrient_spec o h with ⟨c, rfl, hc⟩ | ⟨c, rfl, _⟩
    · exact ⟨c, [], rfl, by intro e; subst e; simp [isNWES] at hc⟩
    · exact ⟨'F', [c], rfl, by decide⟩
  obtain ⟨c0, x', rfl, hc0⟩ := hne
  exact Lx_core sAfterVia .orient c0 x' [.orient, .id] [.lit .Plus] [] [.id, .ign, .lit .Plus] hc0 rfl rfl rfl
    (by intro R _ u hu; cases hu) (fun R hR => orientM_tok _ h R hR) rfl (by intro e; cases e)

theorem LxRaw_num (rest : List Tm) (x : Txt) (h : vNum x = true) : LxRaw (.number :: .ign :: rest) .number x := by
  obtain ⟨c0, x', rfl, _, hc0⟩ := intOK_head x h
  exact LxRaw_core _ .number c0 x' [.number] rest [] (.ign :: rest) hc0 rfl rfl rfl (by intro R _ u hu; cases hu)
    (fun R hR => numberM_tok _ h R hR) rfl

theorem Lx_num (x : Txt) (h : vNum x = true) : Lx sNum .number x :=
  Lx_of_raw sNum .number x (LxRaw_num [] x h) (by intro e; cases e)
theorem Lx_coord_num (x : Txt) (h : vNum x = true) : Lx sCoord .number x :=
  Lx_of_raw sCoord .number x (LxRaw_num _ x h) (by intro e; cases e)
theorem Lx_coord3_num (x : Txt) (h : vNum x = true) : Lx sCoord3 .number x :=
  Lx_of_raw sCoord3 .number x (LxRaw_num _ x h) (by intro e; cases e)

theorem Lx_snum (x : Txt) (h : vSNum x = true) : Lx sStepNum .signed x := by
  have hne : ∃ c0 x', x = c0 :: x' ∧ c0 ≠ '#' := by
    cases x with
    | nil => simp [vSNum, sintOK] at h
    | cons c r =>
      refine ⟨c, r, rfl, ?_⟩
      intro e; subst e
      simp [vSNum, sintOK, intOK, isDigit] at h
  obtain ⟨c0, x', rfl, hc0⟩ := hne
  exact Lx_core sStepNum .signed c0 x' [.signed, .number] [] [] [.number, .ign] hc0 rfl rfl rfl
    (by intro R _ u hu; cases hu) (fun R hR => signedM_tok _ h R hR) rfl (by intro e; cases e)

theorem Lx_str (x : Txt) (h : vStr x = true) : Lx sString .string x := by
  obtain ⟨body, rfl, hb⟩ := vStr_spec x h
  exact Lx_core sString .string '"' (body ++ ['"']) [.string] [] [] [.ign] (by decide) rfl rfl rfl
    (by intro R _ u hu; cases hu) (fun R _ => stringM_tok _ h R) rfl (by intro e; cases e)

theorem Lx_xy (x : Txt) (h : vXY x = true) : Lx sXY .xy x := by
  simp only [vXY, Bool.or_eq_true, decide_eq_true_eq] at h
  rcases h with rfl | rfl <;>
    exact Lx_core sXY .xy _ [] [] [.xy] [.ign] [] (by decide) rfl rfl rfl
      (by intro R hR u hu; simp only [List.mem_cons, List.not_mem_nil, or_false] at hu; subst hu; simp [Tm.run, ignM, isWs])
      (fun R _ => by simp [Tm.run, xyM]) rfl (by intro e; cases e)

/-! ## folded strings: `(`, `NEW`, `;`, `DO` read through `ID` -/
theorem Lx_pt_emb (k : Kw) (hk : k ∈ [Kw.Lpar, .New, .Semi]) : Lx sAfterPt (.lit k) k.chars := by
  simp only [List.mem_cons, List.not_mem_nil, or_false] at hk
  rcases hk with rfl | rfl | rfl <;>
    exact Lx_emb_of_raw sAfterPt _ (LxRaw_id _ _ (by decide)) (by decide)

theorem Lx_spvia_emb (k : Kw) (hk : k ∈ [Kw.Do, .Lpar, .New, .Semi]) : Lx sAfterSpVia (.lit k) k.chars := by
  simp only [List.mem_cons, List.not_mem_nil, or_false] at hk
  rcases hk with rfl | rfl | rfl | rfl <;>
    exact Lx_emb_of_raw sAfterSpVia _ (LxRaw_id _ _ (by decide)) (by decide)

theorem Lx_via_emb (k : Kw) (hk : k ∈ [Kw.Lpar, .New, .Semi]) : Lx sAfterVia (.lit k) k.chars := by
  simp only [List.mem_cons, List.not_mem_nil, or_false] at hk
  rcases hk with rfl | rfl | rfl <;>
    exact Lx_emb_of_raw sAfterVia _ (LxRaw_via_id _ (by decide) (by decide)) (by decide)

theorem Lx_one (k : Kw) : Lx (one k) (.lit k) k.chars := by
  apply Lx_lit
  cases k <;> decide

end KV.DefText
