import KyupyVerif.Proofs.VerilogTextLex
/-! Parser side of the round trip for the Verilog text model: a text that lexes to the token stream of a module list
(`modulesT`) parses to that module list (`pModules_ok`) — stated up to SPELLING: the text may lex to any token list whose
tokens are spellings (`sameTok`, relation `LexesC`) of the canonical ones. -/
namespace KV.VerilogText


theorem lex_peek_true {s : List Char} {c : Char} {ts : List CT} (h : LexesC s (gs c :: ts)) : peekSym c s = true := by
  obtain ⟨a, r, hn, hs, _⟩ := LexesC.cons_inv h
  rw [sameTok_sym hs] at hn
  simp only [peekSym, hn, beq_self_eq_true]

theorem lex_peek_false {s : List Char} {c : Char} {t : Tok} {ts : List CT} (h : LexesC s ((.gen, t) :: ts))
    (ht : t ≠ .sym c) : peekSym c s = false := by
  obtain ⟨a, r, hn, hs, _⟩ := LexesC.cons_inv h
  simp only [peekSym, hn]
  cases a with
  | sym d =>
    simp only [beq_eq_false_iff_ne, ne_eq]
    intro hd; subst hd; exact ht (sameTok_of_sym hs)
  | _ => rfl

theorem lex_expect {s : List Char} {c : Char} {ts : List CT} (h : LexesC s (gs c :: ts)) :
    ∃ r, expectSym c s = some r ∧ LexesC r ts := by
  obtain ⟨a, r, hn, hs, hr⟩ := LexesC.cons_inv h
  rw [sameTok_sym hs] at hn
  exact ⟨r, by simp only [expectSym, hn, beq_self_eq_true, if_true], hr⟩

theorem lex_fixed {s : List Char} {c : Ctx} {t : Tok} {ts : List CT} (h : LexesC s ((c, t) :: ts))
    (hfix : ∀ a, sameTok a t = true → a = t) : ∃ r, next c s = some (t, r) ∧ LexesC r ts := by
  obtain ⟨a, r, hn, hs, hr⟩ := LexesC.cons_inv h
  rw [hfix a hs] at hn
  exact ⟨r, hn, hr⟩

theorem tokName_nameTok (n : String) : tokName (nameTok n) = some n := by
  unfold nameTok
  split <;> simp only [tokName, String.ofList_toList]

theorem nameTok_ne_sym (n : String) (c : Char) : nameTok n ≠ .sym c := by
  unfold nameTok
  split <;> intro h <;> cases h

theorem lex_name {s : List Char} {n : String} {ts : List CT} (h : LexesC s (gt (nameTok n) :: ts)) :
    ∃ r, pName s = some (n, r) ∧ LexesC r ts := by
  obtain ⟨a, r, hn, hs, hr⟩ := LexesC.cons_inv h
  exact ⟨r, by simp only [pName, hn, sameTok_tokName hs, tokName_nameTok], hr⟩

theorem lex_num {s : List Char} {k : Nat} {ts : List CT} (h : LexesC s (natT k :: ts)) :
    ∃ r, pNum s = some (k, r) ∧ LexesC r ts := by
  obtain ⟨a, r, hn, hs, hr⟩ := LexesC.cons_inv h
  obtain ⟨ds', rfl, hv⟩ := sameTok_num hs
  have hk : numVal ds' = k := by rw [hv]; simp only [numVal, Nat.ofDigitChars_ten_toDigits]
  exact ⟨r, by simp only [pNum, hn, hk], hr⟩

/-- the token behind the construct is not `[` (so that `range?` stops) -/
def HeadOK (ts : List CT) : Prop := ∃ t ts', ts = (.gen, t) :: ts' ∧ t ≠ .sym '['

theorem headOK_gs (c : Char) (ts : List CT) (hc : c ≠ '[') : HeadOK (gs c :: ts) :=
  ⟨.sym c, ts, rfl, by intro h; cases h; exact hc rfl⟩

theorem headOK_name (n : String) (ts : List CT) : HeadOK (gt (nameTok n) :: ts) :=
  ⟨nameTok n, ts, rfl, nameTok_ne_sym n '['⟩


theorem pRange_ok (rg : Range) (s : List Char) (ts : List CT) (h : LexesC s (rangeT rg ++ ts)) :
    ∃ r, pRangeOpt s = some (some rg, r) ∧ LexesC r ts := by
  obtain ⟨l, ro⟩ := rg
  cases ro with
  | none =>
    simp only [rangeT, List.cons_append, List.nil_append] at h
    have hp := lex_peek_true h
    obtain ⟨r1, he1, h1⟩ := lex_expect h
    obtain ⟨r2, hn, h2⟩ := lex_num h1
    have hp2 : peekSym ':' r2 = false := lex_peek_false h2 (by decide)
    obtain ⟨r3, he3, h3⟩ := lex_expect h2
    exact ⟨r3, by simp only [pRangeOpt, hp, if_true, he1, pRange, hn, hp2, he3, Bool.false_eq_true, if_false], h3⟩
  | some rr =>
    simp only [rangeT, List.cons_append, List.nil_append] at h
    have hp := lex_peek_true h
    obtain ⟨r1, he1, h1⟩ := lex_expect h
    obtain ⟨r2, hn, h2⟩ := lex_num h1
    have hp2 := lex_peek_true h2
    obtain ⟨r3, he3, h3⟩ := lex_expect h2
    obtain ⟨r4, hn4, h4⟩ := lex_num h3
    obtain ⟨r5, he5, h5⟩ := lex_expect h4
    exact ⟨r5, by simp only [pRangeOpt, hp, if_true, he1, pRange, hn, hp2, he3, hn4, he5], h5⟩

theorem pRangeOpt_ok (rg : Option Range) (s : List Char) (ts : List CT) (h : LexesC s (rangeOptT rg ++ ts))
    (hts : HeadOK ts) : ∃ r, pRangeOpt s = some (rg, r) ∧ LexesC r ts := by
  cases rg with
  | some rg => exact pRange_ok rg s ts h
  | none =>
    obtain ⟨t, ts', rfl, ht⟩ := hts
    simp only [rangeOptT, List.nil_append] at h
    exact ⟨s, by simp only [pRangeOpt, lex_peek_false h ht, Bool.false_eq_true, if_false], h⟩


theorem namesTailT_length_pos (e : Char) (ns : List String) : 0 < (namesTailT e ns).length := by
  cases ns <;> simp [namesTailT]

theorem pNamesTail_ok (e : Char) (he : e ≠ ',') (ns : List String) : ∀ (f : Nat) (s : List Char) (ts : List CT),
    LexesC s (namesTailT e ns ++ ts) → (namesTailT e ns).length ≤ f → ∃ r, pNamesTail e f s = some (ns, r) ∧ LexesC r ts := by
  induction ns with
  | nil =>
    intro f s ts h hf
    simp only [namesTailT, List.cons_append, List.nil_append] at h
    cases f with
    | zero => simp [namesTailT] at hf
    | succ f =>
      have hp : peekSym ',' s = false := lex_peek_false h (by intro hh; cases hh; exact he rfl)
      obtain ⟨r, hx, hr⟩ := lex_expect h
      exact ⟨r, by simp only [pNamesTail, hp, hx, Bool.false_eq_true, if_false], hr⟩
  | cons n ns ih =>
    intro f s ts h hf
    simp only [namesTailT, List.cons_append] at h
    cases f with
    | zero => simp [namesTailT] at hf
    | succ f =>
      have hp := lex_peek_true h
      obtain ⟨r1, hx, h1⟩ := lex_expect h
      obtain ⟨r2, hn, h2⟩ := lex_name h1
      obtain ⟨r3, ht, h3⟩ := ih f r2 ts h2 (by simp only [namesTailT, List.length_cons] at hf; omega)
      exact ⟨r3, by simp only [pNamesTail, hp, if_true, hx, hn, ht], h3⟩

theorem pNames_ok (e : Char) (he : e ≠ ',') (n : String) (ns : List String) (f : Nat) (s : List Char) (ts : List CT)
    (h : LexesC s (namesT e (n :: ns) ++ ts)) (hf : (namesT e (n :: ns)).length ≤ f) :
    ∃ r, pNames e f s = some (n :: ns, r) ∧ LexesC r ts := by
  simp only [namesT, List.cons_append] at h
  obtain ⟨r1, hn, h1⟩ := lex_name h
  obtain ⟨r2, ht, h2⟩ := pNamesTail_ok e he ns f r1 ts h1 (by simp only [namesT, List.length_cons] at hf; omega)
  exact ⟨r2, by simp only [pNames, hn, ht], h2⟩


theorem selT_length_pos (x : VSel) : 0 < (selT x).length := by
  cases x <;> simp [selT]

theorem selsTailT_length_pos (xs : List VSel) : 0 < (selsTailT xs).length := by
  cases xs <;> simp [selsTailT]

theorem selT_head (x : VSel) : ∃ t rest, selT x = (.gen, t) :: rest ∧ ∀ c, c ≠ '{' → t ≠ .sym c := by
  cases x with
  | sig n r => exact ⟨nameTok n, rangeOptT r, by simp only [selT, gt], fun c _ => nameTok_ne_sym n c⟩
  | cat items => exact ⟨.sym '{', selsT items, by simp only [selT, gs], fun c hc h => by cases h; exact hc rfl⟩

theorem headOK_selsTailT (xs : List VSel) (ts : List CT) : HeadOK (selsTailT xs ++ ts) := by
  cases xs with
  | nil => exact headOK_gs '}' ts (by decide)
  | cons y ys => simp only [selsTailT, List.cons_append]; exact headOK_gs ',' _ (by decide)

/-- `pSel` and `pSelList` call each other (a concatenation `{a, b}` is a selector): both statements by ONE induction on the fuel -/
theorem pSel_both (f : Nat) :
    (∀ (x : VSel) (s : List Char) (ts : List CT), validSel x = true → (selT x).length ≤ f → HeadOK ts →
      LexesC s (selT x ++ ts) → ∃ r, pSel f s = some (x, r) ∧ LexesC r ts) ∧
    (∀ (x : VSel) (xs : List VSel) (s : List Char) (ts : List CT), validSel x = true → validSels xs = true →
      (selT x ++ selsTailT xs).length ≤ f → LexesC s ((selT x ++ selsTailT xs) ++ ts) →
      ∃ r, pSelList f s = some (x :: xs, r) ∧ LexesC r ts) := by
  induction f with
  | zero =>
    constructor
    · intro x s ts _ hf; have := selT_length_pos x; omega
    · intro x xs s ts _ _ hf; have := selT_length_pos x; simp only [List.length_append] at hf; omega
  | succ f ih =>
    obtain ⟨ihA, ihB⟩ := ih
    constructor
    · intro x s ts hv hf hts h
      cases x with
      | sig n rg =>
        simp only [selT, List.cons_append] at h
        have hp : peekSym '{' s = false := lex_peek_false h (nameTok_ne_sym n '{')
        obtain ⟨r1, hn, h1⟩ := lex_name h
        obtain ⟨r2, hr, h2⟩ := pRangeOpt_ok rg r1 ts h1 hts
        exact ⟨r2, by simp only [pSel, hp, Bool.false_eq_true, if_false, hn, hr], h2⟩
      | cat items =>
        cases items with
        | nil => simp [validSel] at hv
        | cons y ys =>
          simp only [validSel, validSels, Bool.and_eq_true] at hv
          simp only [selT, selsT, List.cons_append] at h hf
          have hp := lex_peek_true h
          obtain ⟨r1, hx, h1⟩ := lex_expect h
          obtain ⟨r2, hl, h2⟩ := ihB y ys r1 ts hv.1.1 hv.1.2 (by simp only [List.length_cons] at hf; omega) h1
          exact ⟨r2, by simp only [pSel, hp, if_true, hx, hl], h2⟩
    · intro x xs s ts hvx hvxs hf h
      rw [List.append_assoc] at h
      have hlen : (selT x).length ≤ f := by
        have := selsTailT_length_pos xs
        simp only [List.length_append] at hf; omega
      obtain ⟨r1, hs, h1⟩ := ihA x s (selsTailT xs ++ ts) hvx hlen (headOK_selsTailT xs ts) h
      cases xs with
      | nil =>
        simp only [selsTailT, List.cons_append, List.nil_append] at h1
        have hp : peekSym ',' r1 = false := lex_peek_false h1 (by decide)
        obtain ⟨r2, hx, h2⟩ := lex_expect h1
        exact ⟨r2, by simp only [pSelList, hs, hp, Bool.false_eq_true, if_false, hx], h2⟩
      | cons y ys =>
        simp only [validSels, Bool.and_eq_true] at hvxs
        simp only [selsTailT, List.cons_append] at h1
        have hp := lex_peek_true h1
        obtain ⟨r2, hx, h2⟩ := lex_expect h1
        have hl2 : (selT y ++ selsTailT ys).length ≤ f := by
          have := selT_length_pos x
          simp only [selsTailT, List.length_append, List.length_cons] at hf ⊢; omega
        obtain ⟨r3, hl, h3⟩ := ihB y ys r2 ts hvxs.1 hvxs.2 hl2 h2
        exact ⟨r3, by simp only [pSelList, hs, hp, if_true, hx, hl], h3⟩

theorem pSel_ok (f : Nat) (x : VSel) (s : List Char) (ts : List CT) (hv : validSel x = true) (hf : (selT x).length ≤ f)
    (hts : HeadOK ts) (h : LexesC s (selT x ++ ts)) : ∃ r, pSel f s = some (x, r) ∧ LexesC r ts :=
  (pSel_both f).1 x s ts hv hf hts h


theorem pinT_length_pos (p : VPin) : 0 < (pinT p).length := by
  cases p with
  | named n o => cases o <;> simp [pinT]
  | pos x => exact selT_length_pos x

theorem pinsTailT_length_pos (ps : List VPin) : 0 < (pinsTailT ps).length := by
  cases ps <;> simp [pinsTailT]

def PinFollow (ts : List CT) : Prop := ∃ c ts', ts = gs c :: ts' ∧ (c = ',' ∨ c = ')')

theorem PinFollow.headOK {ts : List CT} (h : PinFollow ts) : HeadOK ts := by
  obtain ⟨c, ts', rfl, hc⟩ := h
  exact headOK_gs c ts' (by rcases hc with hc | hc <;> subst hc <;> decide)

theorem pinFollow_tail (ps : List VPin) (ts : List CT) : PinFollow (pinsTailT ps ++ ts) := by
  cases ps with
  | nil => exact ⟨')', ts, rfl, Or.inr rfl⟩
  | cons p r => exact ⟨',', (pinT p ++ pinsTailT r) ++ ts, by simp only [pinsTailT, List.cons_append], Or.inl rfl⟩

theorem pPin_ok (f : Nat) (p : VPin) (s : List Char) (ts : List CT) (hv : validPin p = true) (hf : (pinT p).length ≤ f)
    (hts : PinFollow ts) (h : LexesC s (pinT p ++ ts)) : ∃ r, pPin f s = some (p, r) ∧ LexesC r ts := by
  cases p with
  | named n o =>
    cases o with
    | none =>
      simp only [pinT, List.cons_append, List.nil_append] at h
      have hp := lex_peek_true h
      obtain ⟨r1, hx1, h1⟩ := lex_expect h
      obtain ⟨r2, hn, h2⟩ := lex_name h1
      obtain ⟨r3, hx3, h3⟩ := lex_expect h2
      have hp3 := lex_peek_true h3
      obtain ⟨r4, hx4, h4⟩ := lex_expect h3
      exact ⟨r4, by simp only [pPin, hp, if_true, hx1, hn, hx3, hp3, hx4], h4⟩
    | some x =>
      simp only [validPin, Bool.and_eq_true] at hv
      simp only [pinT, List.cons_append, List.append_assoc, List.nil_append] at h hf
      have hp := lex_peek_true h
      obtain ⟨r1, hx1, h1⟩ := lex_expect h
      obtain ⟨r2, hn, h2⟩ := lex_name h1
      obtain ⟨r3, hx3, h3⟩ := lex_expect h2
      obtain ⟨t, rest, hsel, ht⟩ := selT_head x
      have hp3 : peekSym ')' r3 = false := by
        rw [hsel] at h3
        exact lex_peek_false h3 (ht ')' (by decide))
      obtain ⟨r4, hs, h4⟩ := pSel_ok f x r3 (gs ')' :: ts) hv.2
        (by simp only [List.length_cons, List.length_append] at hf; omega) (headOK_gs ')' ts (by decide)) h3
      obtain ⟨r5, hx5, h5⟩ := lex_expect h4
      exact ⟨r5, by simp only [pPin, hp, if_true, hx1, hn, hx3, hp3, Bool.false_eq_true, if_false, hs, hx5], h5⟩
  | pos x =>
    simp only [pinT] at h hf
    obtain ⟨t, rest, hsel, ht⟩ := selT_head x
    have hp : peekSym '.' s = false := by
      rw [hsel] at h
      exact lex_peek_false h (ht '.' (by decide))
    obtain ⟨r1, hs, h1⟩ := pSel_ok f x s ts hv hf hts.headOK h
    exact ⟨r1, by simp only [pPin, hp, Bool.false_eq_true, if_false, hs], h1⟩

theorem pPinsTail_ok (ps : List VPin) : ∀ (f : Nat) (s : List Char) (ts : List CT), ps.all validPin = true →
    (pinsTailT ps).length ≤ f → LexesC s (pinsTailT ps ++ ts) → ∃ r, pPinsTail f s = some (ps, r) ∧ LexesC r ts := by
  induction ps with
  | nil =>
    intro f s ts _ hf h
    simp only [pinsTailT, List.cons_append, List.nil_append] at h
    cases f with
    | zero => simp [pinsTailT] at hf
    | succ f =>
      have hp : peekSym ',' s = false := lex_peek_false h (by decide)
      obtain ⟨r, hx, hr⟩ := lex_expect h
      exact ⟨r, by simp only [pPinsTail, hp, Bool.false_eq_true, if_false, hx], hr⟩
  | cons p ps ih =>
    intro f s ts hv hf h
    simp only [List.all_cons, Bool.and_eq_true] at hv
    simp only [pinsTailT, List.cons_append, List.append_assoc] at h
    cases f with
    | zero => simp [pinsTailT] at hf
    | succ f =>
      have hp := lex_peek_true h
      obtain ⟨r1, hx, h1⟩ := lex_expect h
      have h2pos := pinsTailT_length_pos ps
      have h1pos := pinT_length_pos p
      obtain ⟨r2, hpin, h2⟩ := pPin_ok f p r1 (pinsTailT ps ++ ts) hv.1
        (by simp only [pinsTailT, List.length_cons, List.length_append] at hf; omega) (pinFollow_tail ps ts) h1
      obtain ⟨r3, ht, h3⟩ := ih f r2 ts hv.2
        (by simp only [pinsTailT, List.length_cons, List.length_append] at hf; omega) h2
      exact ⟨r3, by simp only [pPinsTail, hp, if_true, hx, hpin, ht], h3⟩

theorem pPins_ok (f : Nat) (ps : List VPin) (s : List Char) (ts : List CT) (hv : ps.all validPin = true)
    (hf : (pinsT ps).length ≤ f) (h : LexesC s (pinsT ps ++ ts)) : ∃ r, pPins f s = some (ps, r) ∧ LexesC r ts := by
  cases ps with
  | nil =>
    simp only [pinsT, List.cons_append, List.nil_append] at h
    have hp := lex_peek_true h
    obtain ⟨r, hx, hr⟩ := lex_expect h
    exact ⟨r, by simp only [pPins, hp, if_true, hx], hr⟩
  | cons p ps =>
    simp only [List.all_cons, Bool.and_eq_true] at hv
    simp only [pinsT, List.append_assoc] at h hf
    have hp : peekSym ')' s = false := by
      cases p with
      | named n o =>
        cases o <;> simp only [pinT, List.cons_append] at h <;> exact lex_peek_false h (by decide)
      | pos x =>
        obtain ⟨t, rest, hsel, ht⟩ := selT_head x
        simp only [pinT, hsel, List.cons_append] at h
        exact lex_peek_false h (ht ')' (by decide))
    have h2pos := pinsTailT_length_pos ps
    have h1pos := pinT_length_pos p
    obtain ⟨r1, hpin, h1⟩ := pPin_ok f p s (pinsTailT ps ++ ts) hv.1
      (by simp only [List.length_append] at hf; omega) (pinFollow_tail ps ts) h
    obtain ⟨r2, ht, h2⟩ := pPinsTail_ok ps f r1 ts hv.2 (by simp only [List.length_append] at hf; omega) h1
    exact ⟨r2, by simp only [pPins, hp, Bool.false_eq_true, if_false, hpin, ht], h2⟩


/-- a sized constant begins with a digit, no keyword does -/
theorem kwOf_const (w : List Char) (hw : isConstWord w = true) : kwOf w = none := by
  obtain ⟨c, ds, b, h, hs, rfl, hc, -⟩ := constWord_parts w hw
  have hne : ∀ d : Char, d.isDigit = false → c ≠ d := fun d hd e => by rw [e, hd] at hc; cases hc
  simp [kwOf, hne]

theorem kwOf_plain (w : List Char) (hw : isPlainWord w = true) : kwOf w = none := by
  simp only [isPlainWord, Bool.or_eq_true, Bool.and_eq_true, Option.isNone_iff_eq_none] at hw
  rcases hw with hw | hw
  · exact hw.2
  · exact kwOf_const w hw

theorem kwOf_kind (k : VKind) : kwOf (kindWord k) = some (.decl k) := by cases k <;> rfl
theorem kwOf_assign : kwOf kwAssign = some .assign := rfl
theorem kwOf_endmodule : kwOf kwEndmodule = some .endmodule := rfl

theorem stmtT_length_pos (st : VStmt) : 0 < (stmtT st).length := by
  cases st <;> simp [stmtT]

theorem stmtsT_length_pos (sts : List VStmt) : 0 < (stmtsT sts).length := by
  cases sts with
  | nil => simp [stmtsT]
  | cons st r => have := stmtT_length_pos st; simp only [stmtsT, List.length_append]; omega

theorem sameTok_nameTok_lead {a : Tok} {ty : String} (h : sameTok a (nameTok ty) = true) :
    a = .esc ty.toList ∨ (a = .word ty.toList ∧ kwOf ty.toList = none) := by
  unfold nameTok at h
  split at h
  · next hpl =>
    have hk := kwOf_plain _ hpl
    cases a <;> simp_all [sameTok]
  · cases a <;> simp_all [sameTok]

theorem pInst_ok (f : Nat) (ty nm : String) (pins : List VPin) (s : List Char) (ts : List CT)
    (hv : pins.all validPin = true) (hf : (pinsT pins).length ≤ f)
    (h : LexesC s (gt (nameTok nm) :: gs '(' :: (pinsT pins ++ [gs ';']) ++ ts)) :
    ∃ r, pInst f ty s = some (.inst ty nm pins, r) ∧ LexesC r ts := by
  simp only [List.cons_append, List.append_assoc, List.nil_append] at h
  obtain ⟨r1, hn, h1⟩ := lex_name h
  obtain ⟨r2, hx2, h2⟩ := lex_expect h1
  obtain ⟨r3, hp, h3⟩ := pPins_ok f pins r2 (gs ';' :: ts) hv hf h2
  obtain ⟨r4, hx4, h4⟩ := lex_expect h3
  exact ⟨r4, by simp only [pInst, hn, hx2, hp, hx4], h4⟩

theorem pStmt_ok (f : Nat) (st : VStmt) (s : List Char) (ts : List CT) (hv : validStmt st = true)
    (hf : (stmtT st).length ≤ f) (h : LexesC s (stmtT st ++ ts)) : ∃ r, pStmt f s = some (some st, r) ∧ LexesC r ts := by
  cases st with
  | decl k rg ns =>
    cases ns with
    | nil => simp [validStmt] at hv
    | cons n ns =>
      simp only [stmtT, List.cons_append, List.append_assoc] at h hf
      obtain ⟨r1, hn1, h1⟩ := lex_fixed h (fun a ha => sameTok_kw (by cases k <;> rfl) ha)
      obtain ⟨r2, hr, h2⟩ := pRangeOpt_ok rg r1 (namesT ';' (n :: ns) ++ ts) h1 (by simp only [namesT, List.cons_append]; exact headOK_name n _)
      obtain ⟨r3, hns, h3⟩ := pNames_ok ';' (by decide) n ns f r2 ts h2 (by simp only [List.length_cons, List.length_append] at hf; omega)
      exact ⟨r3, by simp only [pStmt, hn1, kwOf_kind, pDecl, hr, hns], h3⟩
  | assign t x =>
    simp only [validStmt, Bool.and_eq_true] at hv
    simp only [stmtT, List.cons_append, List.append_assoc, List.nil_append] at h hf
    obtain ⟨r1, hn1, h1⟩ := lex_fixed h (fun a ha => sameTok_kw (by rfl) ha)
    obtain ⟨r2, hs2, h2⟩ := pSel_ok f t r1 _ hv.1 (by simp only [List.length_cons, List.length_append] at hf; omega)
      (headOK_gs '=' _ (by decide)) h1
    obtain ⟨r3, hx3, h3⟩ := lex_expect h2
    obtain ⟨r4, hs4, h4⟩ := pSel_ok f x r3 _ hv.2 (by simp only [List.length_cons, List.length_append] at hf; omega)
      (headOK_gs ';' _ (by decide)) h3
    obtain ⟨r5, hx5, h5⟩ := lex_expect h4
    exact ⟨r5, by simp only [pStmt, hn1, kwOf_assign, pAssign, hs2, hx3, hs4, hx5], h5⟩
  | inst ty nm pins =>
    simp only [validStmt, Bool.and_eq_true] at hv
    simp only [stmtT, List.cons_append] at h hf
    obtain ⟨a, r1, hn1, hs1, h1⟩ := LexesC.cons_inv h
    obtain ⟨r2, hi, h2⟩ := pInst_ok f ty nm pins r1 ts hv.2
      (by simp only [List.length_cons, List.length_append] at hf; omega) (by simpa only [List.cons_append] using h1)
    rcases sameTok_nameTok_lead hs1 with ha | ⟨ha, hk⟩
    · subst ha
      exact ⟨r2, by simp only [pStmt, hn1, String.ofList_toList, hi], h2⟩
    · subst ha
      exact ⟨r2, by simp only [pStmt, hn1, hk, String.ofList_toList, hi], h2⟩

theorem pStmts_ok (sts : List VStmt) : ∀ (f : Nat) (s : List Char) (ts : List CT), sts.all validStmt = true →
    (stmtsT sts).length ≤ f → LexesC s (stmtsT sts ++ ts) → ∃ r, pStmts f s = some (sts, r) ∧ LexesC r ts := by
  induction sts with
  | nil =>
    intro f s ts _ hf h
    simp only [stmtsT, List.cons_append, List.nil_append] at h
    cases f with
    | zero => simp [stmtsT] at hf
    | succ f =>
      obtain ⟨r1, hn1, h1⟩ := lex_fixed h (fun a ha => sameTok_kw (by rfl) ha)
      exact ⟨r1, by simp only [pStmts, pStmt, hn1, kwOf_endmodule], h1⟩
  | cons st sts ih =>
    intro f s ts hv hf h
    simp only [List.all_cons, Bool.and_eq_true] at hv
    simp only [stmtsT, List.append_assoc] at h hf
    have h1pos := stmtT_length_pos st
    have h2pos := stmtsT_length_pos sts
    cases f with
    | zero => simp only [List.length_append] at hf; omega
    | succ f =>
      obtain ⟨r1, hs, h1⟩ := pStmt_ok f st s (stmtsT sts ++ ts) hv.1 (by simp only [List.length_append] at hf; omega) h
      obtain ⟨r2, hss, h2⟩ := ih f r1 ts hv.2 (by simp only [List.length_append] at hf; omega) h1
      exact ⟨r2, by simp only [pStmts, hs, hss], h2⟩


theorem pPorts_ok (f : Nat) (ports : List String) (s : List Char) (ts : List CT) (hf : (namesT ')' ports).length ≤ f)
    (h : LexesC s (namesT ')' ports ++ ts)) : ∃ r, pPorts f s = some (ports, r) ∧ LexesC r ts := by
  cases ports with
  | nil =>
    simp only [namesT, List.cons_append, List.nil_append] at h
    have hp := lex_peek_true h
    obtain ⟨r, hx, hr⟩ := lex_expect h
    exact ⟨r, by simp only [pPorts, hp, if_true, hx], hr⟩
  | cons n ns =>
    have hp : peekSym ')' s = false := by
      simp only [namesT, List.cons_append] at h
      exact lex_peek_false h (nameTok_ne_sym n ')')
    obtain ⟨r, hns, hr⟩ := pNames_ok ')' (by decide) n ns f s ts h hf
    exact ⟨r, by simp only [pPorts, hp, Bool.false_eq_true, if_false, hns], hr⟩

theorem pModule_ok (f : Nat) (m : VModule) (s : List Char) (ts : List CT) (hv : validModule m = true)
    (hf : (moduleT m).length ≤ f + 1) (h : LexesC s (moduleT m ++ ts)) :
    ∃ r1 r, next .top s = some (.modkw, r1) ∧ pModule f r1 = some (m, r) ∧ LexesC r ts := by
  obtain ⟨nm, ports, sts⟩ := m
  simp only [validModule, Bool.and_eq_true] at hv
  simp only [moduleT, List.cons_append, List.append_assoc] at h hf
  obtain ⟨r1, hn1, h1⟩ := lex_fixed h (fun a ha => sameTok_modkw ha)
  obtain ⟨r2, hn2, h2⟩ := lex_name h1
  obtain ⟨r3, hx3, h3⟩ := lex_expect h2
  have hposS := stmtsT_length_pos sts
  obtain ⟨r4, hp4, h4⟩ := pPorts_ok f ports r3 _ (by simp only [List.length_cons, List.length_append] at hf; omega) h3
  obtain ⟨r5, hx5, h5⟩ := lex_expect h4
  obtain ⟨r6, hs6, h6⟩ := pStmts_ok sts f r5 ts hv.2 (by simp only [List.length_cons, List.length_append] at hf; omega) h5
  exact ⟨r1, r6, hn1, by simp only [pModule, hn2, hx3, hp4, hx5, hs6], h6⟩

theorem moduleT_length_pos (m : VModule) : 0 < (moduleT m).length := by simp [moduleT]

theorem pModules_ok (ms : List VModule) : ∀ (f : Nat) (s : List Char), ms.all validModule = true →
    (modulesT ms).length < f → LexesC s (modulesT ms) → pModules f s = some ms := by
  induction ms with
  | nil =>
    intro f s _ hf h
    cases f with
    | zero => omega
    | succ f => simp only [pModules, LexesC.nil_inv h]
  | cons m ms ih =>
    intro f s hv hf h
    simp only [List.all_cons, Bool.and_eq_true] at hv
    simp only [modulesT] at h hf
    have hpos := moduleT_length_pos m
    cases f with
    | zero => omega
    | succ f =>
      obtain ⟨r1, r, hn, hm, hr⟩ := pModule_ok f m s (modulesT ms) hv.1 (by simp only [List.length_append] at hf; omega) h
      have := ih f r hv.2 (by simp only [List.length_append] at hf; omega) hr
      simp only [pModules, hn, hm, this]

theorem parseChars_of_lexesC (ms : List VModule) (s : List Char) (hv : ms.all validModule = true)
    (h : LexesC s (modulesT ms)) : parseChars s = some ms :=
  pModules_ok ms _ s hv (by have := h.length_le; omega) h

end KV.VerilogText
