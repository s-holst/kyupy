import KyupyVerif.Proofs.NetlistBF
import KyupyVerif.Proofs.CircSNodes
import KyupyVerif.Model.BenchSem
/-! The circuit `bench stmts` in the terms the semantic bridge needs: its flat line list per gate statement (`bench_flat`), its
non-fork nodes = the gate statements in order (`bench_cells`), every name that occurs is a fork (`bench_fork_*`), `io_nodes` =
the port names (`bench_ioB`). -/
namespace KV.Netlist
open KV

theorem driverLines_eq (name : String) (drv : List String) (k0 : Nat) :
    driverLines name drv k0 = (drv.zipIdx k0).map fun p => (⟨.fork p.1, .cell name p.2, none⟩ : LineM) := by
  induction drv generalizing k0 with
  | nil => rfl
  | cons d r ih => simp only [driverLines, List.zipIdx_cons, List.map_cons, ih]

theorem mem_driverLines (name : String) (drv : List String) (k : Nat) (hk : k < drv.length) :
    (⟨.fork drv[k], .cell name k, none⟩ : LineM) ∈ driverLines name drv 0 := by
  rw [driverLines_eq]
  exact List.mem_map.mpr ⟨(drv[k], k), List.mem_zipIdx_iff_getElem?.mpr (by simp [hk]), rfl⟩

/-- the flat lines of one gate statement: cell → same-named fork, then one line per operand into pin `k` -/
def gateLines (g : BGate) : List (Ep × Ep) :=
  (.cell g.name 0, .fork g.name) :: g.drv.zipIdx.map fun p => (Ep.fork p.1, Ep.cell g.name p.2)

theorem benchLinesOf_novia (s : BStmt) : ∀ l ∈ benchLinesOf s, l.via = none := by
  cases s with
  | intf ns => intro l hl; cases hl
  | gate n k d =>
    intro l hl
    simp only [benchLinesOf, driverLines_eq, List.mem_cons, List.mem_map] at hl
    rcases hl with rfl | ⟨p, _, rfl⟩ <;> rfl

theorem bench_lines' (stmts : List BStmt) : (bench stmts).lines = stmts.flatMap benchLinesOf := by
  unfold bench
  rw [(Grows.foldl benchStmt_grows stmts {}).lines]
  exact Delta.walk_proj (·.lines) rfl (fun _ _ => rfl) _ _ (fun C s _ => lines_benchStmtΔ C s) _

def benchL (stmts : List BStmt) : List (Ep × Ep) := (benchGates stmts).flatMap gateLines

theorem bench_flat (stmts : List BStmt) : flatLines (bench stmts) = benchL stmts := by
  unfold benchL
  unfold flatLines
  rw [flat_novia]
  · rw [bench_lines']
    unfold benchGates
    induction stmts with
    | nil => rfl
    | cons s ss ih =>
      simp only [List.flatMap_cons, List.map_append, ih]
      cases s with
      | intf ns => simp [benchLinesOf, gateOf, List.filterMap_cons]
      | gate n k d =>
        simp [benchLinesOf, gateOf, gateLines, driverLines_eq]
  · intro l hl
    rw [bench_lines'] at hl
    obtain ⟨s, _, hs⟩ := List.mem_flatMap.mp hl
    exact benchLinesOf_novia s l hs

/-- the signal a flat line carries: the name at its driver end -/
def sigOf (p : Ep × Ep) : String :=
  match p.1 with
  | .fork s => s
  | .cell g _ => g

theorem gateLines_sigs (g : BGate) : (gateLines g).map sigOf = g.name :: g.drv := by
  simp only [gateLines, List.map_cons, List.map_map]
  exact congrArg (g.name :: ·) (List.zipIdx_map_fst 0 g.drv)

theorem benchSigs_eq (stmts : List BStmt) : benchSigs stmts = ((benchGates stmts).flatMap gateLines).map sigOf := by
  unfold benchSigs benchGates
  induction stmts with
  | nil => rfl
  | cons s ss ih =>
    simp only [List.flatMap_cons, ih]
    cases s with
    | intf ns => simp [sigsOf, gateOf, List.filterMap_cons]
    | gate n k d =>
      simp only [sigsOf, gateOf, List.filterMap_cons, List.flatMap_cons, List.map_append, gateLines_sigs]

theorem bench_ioB (stmts : List BStmt) : (bench stmts).ioB = benchPorts stmts := by
  unfold bench benchPorts
  rw [(Grows.foldl benchStmt_grows stmts {}).ioB]
  exact Delta.walk_proj (·.ioB) rfl (fun _ _ => rfl) _ _ (fun C s _ => by rw [ioB_benchStmtΔ]; cases s <;> rfl) _

def gateNode (g : BGate) : NodeM := ⟨g.kind, g.name, false⟩

theorem cells_getOrAddFork (C : Circ) (n : String) : cellsOf (getOrAddFork C n) = cellsOf C := by
  unfold getOrAddFork
  split
  · rfl
  · simp [cellsOf, List.filter_append]

theorem cells_foldl_getOrAddFork (l : List String) (C : Circ) : cellsOf (l.foldl getOrAddFork C) = cellsOf C :=
  foldl_inv getOrAddFork (cellsOf · = cellsOf C) (fun s a _ h => (cells_getOrAddFork s a).trans h) rfl

theorem cells_benchStmt (C : Circ) (s : BStmt) (hk : ∀ g, gateOf s = some g → g.kind ≠ forkKind) :
    cellsOf (benchStmt C s) = cellsOf C ++ (gateOf s).toList.map gateNode := by
  cases s with
  | intf ns =>
    simp only [benchStmt, gateOf, Option.toList_none, List.map_nil, List.append_nil]
    show cellsOf (ns.foldl getOrAddFork C) = _
    exact cells_foldl_getOrAddFork ns C
  | gate n k d =>
    have hk' : k ≠ forkKind := hk ⟨n, k, d⟩ rfl
    simp only [benchStmt, gateOf, Option.toList_some, List.map_cons, List.map_nil, gateNode]
    show cellsOf (getOrAddFork ((d.foldl getOrAddFork C).addCell k n) n) = _
    rw [cells_getOrAddFork]
    show List.filter _ ((d.foldl getOrAddFork C).nodes ++ [⟨k, n, false⟩]) = _
    rw [List.filter_append]
    have := cells_foldl_getOrAddFork d C
    unfold cellsOf at this
    rw [this]
    simp [cellsOf, hk']

theorem bench_cells (stmts : List BStmt) (hk : ((benchGates stmts).all fun g => g.kind != forkKind) = true) :
    cellsOf (bench stmts) = (benchGates stmts).map gateNode := by
  unfold bench cellsOf
  rw [(Grows.foldl benchStmt_grows stmts {}).nodes, List.filter_append,
    Delta.walk_proj (fun d => d.nodes.filter fun x => x.kind != forkKind) rfl (fun _ _ => List.filter_append ..)
      (fun s => (gateOf s).toList.map gateNode) stmts (fun C s hs => ?_) {}]
  · exact flatMap_toList_map gateOf gateNode stmts
  · have := cells_benchStmt C s fun g hg => by
      simpa using List.all_eq_true.mp hk g (List.mem_filterMap.mpr ⟨s, hs, hg⟩)
    unfold cellsOf at this
    rw [(benchStmt_grows C s).nodes, List.filter_append] at this
    exact List.append_cancel_left this

theorem bench_fork_port (stmts : List BStmt) (s : String) (hs : s ∈ benchPorts stmts) : (bench stmts).isFork s = true := by
  unfold benchPorts at hs
  obtain ⟨st, hst, hp⟩ := List.mem_flatMap.mp hs
  cases st with
  | gate _ _ _ => cases hp
  | intf ns =>
    obtain ⟨C, _, h⟩ := foldl_reach benchStmt sub_benchStmt hst {}
    apply h.isFork
    have s1 : Sub (ns.foldl getOrAddFork C) (benchStmt C (.intf ns)) := (grows_pushIoB _ _).sub
    exact s1.isFork (foldl_getOrAddFork_isFork ns C s hp)

theorem bench_fork_gate (stmts : List BStmt) (g : BGate) (hg : g ∈ benchGates stmts) :
    (bench stmts).isFork g.name = true ∧ ∀ d ∈ g.drv, (bench stmts).isFork d = true := by
  unfold benchGates at hg
  obtain ⟨st, hst, hgo⟩ := List.mem_filterMap.mp hg
  cases st with
  | intf _ => cases hgo
  | gate n k dr =>
    simp only [gateOf, Option.some.injEq] at hgo
    subst hgo
    obtain ⟨C, _, h⟩ := foldl_reach benchStmt sub_benchStmt hst {}
    refine ⟨h.isFork ?_, fun d hd => h.isFork ?_⟩
    · have s1 : Sub (getOrAddFork ((dr.foldl getOrAddFork C).addCell k n) n) (benchStmt C (.gate n k dr)) :=
        (grows_addLine _ _ _ _).sub.trans (grows_addLines _ _).sub
      exact s1.isFork (getOrAddFork_isFork _ _)
    · have s1 : Sub (dr.foldl getOrAddFork C) (benchStmt C (.gate n k dr)) :=
        (grows_addCell _ _ _).sub.trans ((sub_getOrAddFork _ _).trans ((grows_addLine _ _ _ _).sub.trans (grows_addLines _ _).sub))
      exact s1.isFork (foldl_getOrAddFork_isFork dr C _ hd)

end KV.Netlist
