import KyupyVerif.Proofs.StripLinkLogic
import KyupyVerif.Proofs.MapSound
/-! Bridging facts between the scheduler model and a map record (`MapIn`): without `strip_forks` there are no stems
(`stemsOf_false`, `stems_false_none`, `viaStem_false`), so a row's signal-level op is the row itself (`sigOp_unstripped`); the captured signal of an
interface node is listed in `ppoSrcs` (`mem_ppoSrcs`). Used to compose fork stripping with the soundness of the map certificate. -/

namespace KV

theorem stemsOf_false (net : Net) : stemsOf net false = Array.replicate net.idx.len none := by
  unfold stemsOf
  simp [Id.run]
  rfl

theorem stems_false_none (net : Net) (x : Nat) : (stemsOf net false).getD x none = none := by
  rw [stemsOf_false, Array.getD_eq_getD_getElem?, Array.getElem?_replicate]
  split <;> rfl

theorem viaStem_none {st : Array (Option Nat)} {x : Nat} (h : st.getD x none = none) : viaStem st x = x := by
  unfold viaStem; rw [h]; rfl

theorem viaStem_false (net : Net) (x : Nat) : viaStem (stemsOf net false) x = x := viaStem_none (stems_false_none net x)

theorem sigOp_unstripped (p : MapIn) (hs : p.strip = false) (r : OpRow) : MapSound.sigOp p r = r.toOp := by
  unfold MapSound.sigOp OpRow.toOp MapIn.src MapIn.stems
  rw [hs]
  congr 1
  have : (fun i => viaStem (stemsOf p.net false) i) = id := funext (viaStem_false p.net)
  rw [this, List.map_id]
  rfl

theorem mem_ppoSrcs (p : MapIn) {n i l : Nat} (hn : (n, i) ∈ p.net.sNodes.zipIdx) (hp : (p.net.node n).inPin 0 = some l) :
    (p.ix.ppo + i, p.src l) ∈ p.ppoSrcs := by
  unfold MapIn.ppoSrcs MapIn.ppoSrcsW
  simp only [List.mem_filterMap]
  exact ⟨(n, i), hn, by simp [hp]⟩

end KV
