import KyupyVerif.Model.Netlist
import KyupyVerif.Proofs.Basics
/-! The callbacks below the circuit: ranges, constants, `sigsel`/`concat`, the `sig_decls` dictionary, positions. -/
namespace KV.Netlist

theorem rangeList_asc {l r : Nat} (h : l ≤ r) : rangeList l r = (List.range (r - l + 1)).map (l + ·) := by
  simp [rangeList, h]

theorem rangeList_desc {l r : Nat} (h : r < l) : rangeList l r = (List.range (l - r + 1)).map (l - ·) := by
  have : ¬ l ≤ r := by omega
  simp [rangeList, this]

theorem rangeList_length_asc {l r : Nat} (h : l ≤ r) : (rangeList l r).length = r - l + 1 := by
  simp [rangeList_asc h]

theorem rangeList_length_desc {l r : Nat} (h : r < l) : (rangeList l r).length = l - r + 1 := by
  simp [rangeList_desc h]

theorem rangeList_get_asc {l r i : Nat} (h : l ≤ r) (hi : i ≤ r - l) : (rangeList l r)[i]? = some (l + i) := by
  rw [rangeList_asc h, List.getElem?_map, List.getElem?_range (by omega)]; rfl

theorem rangeList_get_desc {l r i : Nat} (h : r < l) (hi : i ≤ l - r) : (rangeList l r)[i]? = some (l - i) := by
  rw [rangeList_desc h, List.getElem?_map, List.getElem?_range (by omega)]; rfl

theorem collapse_toList (l : List String) : (collapse l).toList = l := by
  unfold collapse
  split <;> rfl

theorem constLoop_eq (n k : Nat) (acc : List String) :
    constLoop n k acc = (List.range n).map (fun i => bitStr (k.testBit (n - 1 - i))) ++ acc := by
  induction n generalizing k acc with
  | zero => simp [constLoop]
  | succ n ih =>
    rw [constLoop, ih, List.range_succ, List.map_append]
    simp only [List.map_cons, List.map_nil, List.append_assoc, List.cons_append, List.nil_append]
    congr 1
    · apply List.map_congr_left
      intro i hi
      have hi' : i < n := List.mem_range.mp hi
      have : n + 1 - 1 - i = (n - 1 - i) + 1 := by omega
      rw [this, Nat.testBit_succ]
    · have : n + 1 - 1 - n = 0 := by omega
      rw [this, Nat.testBit_zero]
      by_cases h : k % 2 = 1
      · simp [h]
      · have : (k % 2 == 1) = false := by simp [h]
        simp [h, this]

theorem concatL_eq (items : List Sel) : concatL items = items.flatMap fun a => (sigsel a).toList := by
  induction items with
  | nil => simp [concatL]
  | cons a r ih => simp [concatL, ih]

/-- what one `sig_decls` slot holds after seeing one more declaration of its name -/
def regStep (cur : Option Decl) (d : Decl) : Option Decl :=
  match cur with
  | none => some d
  | some e => if e.kind == .wire then some d else some e

theorem find?_map_replace (ds : List Decl) (d : Decl) (n : String) :
    (ds.map fun x => if x.base == d.base then d else x).find? (·.base == n)
      = if n = d.base then (ds.find? (·.base == n)).map (fun _ => d) else ds.find? (·.base == n) := by
  induction ds with
  | nil => simp
  | cons x xs ih =>
    simp only [List.map_cons, List.find?_cons]
    by_cases hx : x.base = d.base
    · simp only [hx, beq_self_eq_true, if_true]
      by_cases hn : n = d.base
      · subst hn; simp
      · have : (d.base == n) = false := by simp; exact fun h => hn h.symm
        simp only [this, hn, if_false]
        rw [ih]; simp [hn]
    · have hx' : (x.base == d.base) = false := by simp [hx]
      simp only [hx', Bool.false_eq_true, if_false]
      by_cases hxn : x.base = n
      · subst hxn
        simp only [beq_self_eq_true]
        simp [hx]
      · have : (x.base == n) = false := by simp [hxn]
        simp only [this]
        rw [ih]

theorem lookup_declPut (ds : List Decl) (d : Decl) (n : String) :
    lookup (declPut ds d) n = if n = d.base then regStep (lookup ds n) d else lookup ds n := by
  unfold declPut
  cases hl : lookup ds d.base with
  | none =>
    simp only [lookup, List.find?_append, List.find?_cons, List.find?_nil]
    by_cases hn : n = d.base
    · subst hn
      have : List.find? (fun x => x.base == d.base) ds = none := hl
      simp [this, regStep]
    · have : (d.base == n) = false := by simp; exact fun h => hn h.symm
      simp [this, hn]
  | some e =>
    by_cases hw : e.kind = .wire
    · simp only [hw, beq_self_eq_true, if_true]
      unfold lookup
      rw [find?_map_replace]
      by_cases hn : n = d.base
      · subst hn
        have : List.find? (fun x => x.base == d.base) ds = some e := hl
        simp [this, regStep, hw]
      · simp [hn]
    · have : (e.kind == DKind.wire) = false := by simp [hw]
      simp only [this, Bool.false_eq_true, if_false]
      by_cases hn : n = d.base
      · subst hn
        rw [hl]; simp [regStep, this]
      · simp [hn]

theorem lookup_foldl_declPut (L : List Decl) (ds : List Decl) (n : String) :
    lookup (L.foldl declPut ds) n = (L.filter (·.base == n)).foldl regStep (lookup ds n) :=
  foldl_pointwise lookup declPut (·.base) (fun d r => regStep r d) lookup_declPut L ds n

theorem foldl_regStep_nonwire (L : List Decl) (e : Decl) (h : e.kind ≠ .wire) :
    L.foldl regStep (some e) = some e := by
  induction L with
  | nil => rfl
  | cons d L ih =>
    have : (e.kind == DKind.wire) = false := by simp [h]
    simp [regStep, this, ih]

theorem foldl_regStep_wires (L : List Decl) (cur : Option Decl) (hc : ∀ e, cur = some e → e.kind = .wire)
    (h : ∀ d ∈ L, d.kind = .wire) : L.foldl regStep cur = (L.getLast?).or cur := by
  induction L generalizing cur with
  | nil => simp
  | cons d L ih =>
    simp only [List.foldl_cons]
    have hstep : regStep cur d = some d := by
      cases cur with
      | none => rfl
      | some e => simp [regStep, hc e rfl]
    rw [hstep, ih]
    · rw [List.getLast?_cons]
      cases L.getLast? <;> simp
    · intro e he; cases he; exact h d List.mem_cons_self
    · intro x hx; exact h x (List.mem_cons_of_mem _ hx)

theorem lastIdxAux_not_mem (n : String) (xs : List String) (i : Nat) (best : Option Nat) (h : n ∉ xs) :
    lastIdxAux n xs i best = best := by
  induction xs generalizing i best with
  | nil => rfl
  | cons x xs ih =>
    have hx : (x == n) = false := by
      simp; intro hxn; exact h (by simp [hxn])
    simp only [lastIdxAux, hx]
    exact ih _ _ (fun hm => h (List.mem_cons_of_mem _ hm))

theorem lastIdxAux_split (n : String) (pre post : List String) (i : Nat) (best : Option Nat) (h : n ∉ post) :
    lastIdxAux n (pre ++ n :: post) i best = some (i + pre.length) := by
  induction pre generalizing i best with
  | nil => simp [lastIdxAux, lastIdxAux_not_mem n post _ _ h]
  | cons x xs ih =>
    simp only [List.cons_append, lastIdxAux, List.length_cons]
    rw [ih]; congr 1; omega

theorem lastIdxAux_sound (n : String) (xs : List String) (i : Nat) (best : Option Nat) (k : Nat)
    (h : lastIdxAux n xs i best = some k) : best = some k ∨ (i ≤ k ∧ xs[k - i]? = some n) := by
  induction xs generalizing i best with
  | nil => left; exact h
  | cons x xs ih =>
    simp only [lastIdxAux] at h
    rcases ih _ _ h with hb | ⟨hle, hget⟩
    · by_cases hx : x = n
      · subst hx
        simp at hb
        right; subst hb; simp
      · have : (x == n) = false := by simp [hx]
        simp [this] at hb
        left; exact hb
    · right
      refine ⟨by omega, ?_⟩
      have : k - i = (k - (i + 1)) + 1 := by omega
      rw [this, List.getElem?_cons_succ]; exact hget

theorem posOf_sound (pn : List String) (n : String) (k : Nat) (h : posOf pn n = some k) : pn[k]? = some n := by
  rcases lastIdxAux_sound n pn 0 none k h with hb | ⟨_, hget⟩
  · cases hb
  · simpa using hget

theorem posOf_nodup (pn : List String) (hnd : pn.Nodup) (i : Nat) (n : String) (h : pn[i]? = some n) :
    posOf pn n = some i := by
  obtain ⟨hi, hget⟩ := List.getElem?_eq_some_iff.mp h
  have hsplit : pn = pn.take i ++ n :: pn.drop (i + 1) := by
    rw [← hget]; exact (List.take_append_drop i pn).symm.trans (by rw [List.drop_eq_getElem_cons hi])
  have hnot : n ∉ pn.drop (i + 1) := by
    rw [hsplit] at hnd
    have := (List.nodup_append.mp hnd).2.1
    exact (List.nodup_cons.mp this).1
  unfold posOf
  rw [hsplit, lastIdxAux_split n _ _ 0 none hnot]
  simp [List.length_take, Nat.min_eq_left (Nat.le_of_lt hi)]

theorem contains_append_single (F : List String) (t x : String) : (F ++ [t]).contains x = (F.contains x || x == t) := by
  rw [List.contains_append]
  simp only [List.contains_cons, List.contains_nil, Bool.or_false]

end KV.Netlist
