import KyupyVerif.Proofs.HeapUsed
/-! The heap invariant `HInv` (positive sizes, `NoAdj`, `total ≤ maxSz`) and the used regions `Heap.used`; `alloc` / `free` keep the
invariant and change `used` by exactly one region (`alloc_spec`, `free_spec`); totalised histories (`runOp`, `hist_inv`). -/
namespace KV.Heap

theorem allocIn_pos (size : Nat) (hs : 0 < size) : ∀ (s : Nat) (l : List Chunk) (loc : Nat) (l' : List Chunk),
    Pos l → allocIn size s l = some (loc, l') → Pos l' := by
  intro s l loc l' hp h
  obtain ⟨pre, c, post, rfl, _, hle, _, rfl, _⟩ := allocIn_shape size s l loc l' h
  intro x hx
  simp only [List.mem_append, List.mem_cons] at hx
  rcases hx with hx | rfl | hx | hx
  · exact hp x (by simp [hx])
  · exact hs
  · split at hx
    · cases hx
    · rw [List.mem_singleton.1 hx]
      show 0 < c.size - size
      omega
  · exact hp x (by simp [hx])

theorem Freed.pos {loc s : Nat} {l l' : List Chunk} (h : Freed loc s l l') (hp : Pos l) : Pos l' := by
  simp only [Pos] at *
  induction h with
  | last => simp
  | next | here => simp_all <;> omega
  | trimF => simp
  | trimU => simp_all
  | prev _ _ _ _ _ ih =>
    simp only [List.forall_mem_cons] at hp ih ⊢
    exact ⟨by have := (ih hp.2).1; show 0 < _ + _; omega, (ih hp.2).2⟩
  | skip _ _ _ ih =>
    simp only [List.forall_mem_cons] at hp ih ⊢
    exact ⟨hp.1, ih hp.2⟩

theorem freeIn_pos (loc : Nat) : ∀ (s : Nat) (l l' : List Chunk), Pos l → freeIn loc s l = some l' → Pos l' :=
  fun s l l' hp h => (freed_of_freeIn loc s l l' h).pos hp

theorem noAdj_append_used (l : List Chunk) (h : NoAdj l) (c : Chunk) (hc : c.free = false) : NoAdj (l ++ [c]) := by
  induction l with
  | nil => exact hc
  | cons x r ih =>
    cases r with
    | nil =>
      show ¬ (x.free = true ∧ c.free = true) ∧ NoAdj [c]
      exact ⟨by simp [hc], hc⟩
    | cons y r' =>
      obtain ⟨h1, h2⟩ := (noAdj_cons_cons.mp h)
      exact noAdj_cons_cons.mpr ⟨h1, ih h2⟩

theorem total_append (l : List Chunk) (c : Chunk) : total (l ++ [c]) = total l + c.size := by
  simp [total]

theorem usedFrom_append_used (s : Nat) (l : List Chunk) (c : Chunk) (hc : c.free = false) :
    usedFrom s (l ++ [c]) = usedFrom s l ++ [(s + total l, c.size)] := by
  simp [usedFrom_append, usedFrom, hc]

structure HInv (h : Heap) : Prop where
  pos : Pos h.cs
  noadj : NoAdj h.cs
  hwm : total h.cs ≤ h.maxSz

def Heap.used (h : Heap) : List (Nat × Nat) := usedFrom 0 h.cs

theorem empty_inv : HInv { cs := [], maxSz := 0 } :=
  ⟨(by intro c hc; cases hc), trivial, (by simp [total])⟩

theorem alloc_inv (h : Heap) (n : Nat) (hn : 0 < n) (hi : HInv h) : HInv (h.alloc n).2 := by
  unfold Heap.alloc
  split
  · rename_i loc cs' ha
    obtain ⟨ht, _⟩ := allocIn_spec n 0 h.cs loc cs' ha
    exact ⟨allocIn_pos n hn 0 _ _ _ hi.pos ha, allocIn_noAdj n 0 _ _ _ hi.noadj ha, (by simp only; rw [ht]; exact hi.hwm)⟩
  · refine ⟨?_, noAdj_append_used _ hi.noadj _ rfl, ?_⟩
    · intro c hc; simp only [List.mem_append, List.mem_singleton] at hc
      rcases hc with hc | rfl
      · exact hi.pos c hc
      · exact hn
    · simp only [total_append]; omega

theorem free_eq_some {h h' : Heap} {loc : Nat} (hf : h.free loc = some h') :
    ∃ cs', freeIn loc 0 h.cs = some cs' ∧ h' = { h with cs := cs' } := by
  unfold Heap.free at hf
  cases hfi : freeIn loc 0 h.cs with
  | none => rw [hfi] at hf; simp at hf
  | some cs' => rw [hfi] at hf; exact ⟨cs', rfl, (Option.some.inj hf).symm⟩

theorem free_maxSz (h h' : Heap) (loc : Nat) (hf : h.free loc = some h') : h'.maxSz = h.maxSz := by
  obtain ⟨cs', _, rfl⟩ := free_eq_some hf
  rfl

theorem free_inv (h h' : Heap) (loc : Nat) (hi : HInv h) (hf : h.free loc = some h') : HInv h' := by
  obtain ⟨cs', hfi, rfl⟩ := free_eq_some hf
  obtain ⟨ht, _⟩ := freeIn_spec loc 0 h.cs cs' hfi
  exact ⟨freeIn_pos loc 0 _ _ hi.pos hfi, freeIn_noAdj loc 0 _ _ hi.noadj hfi, (by simp only; have := hi.hwm; omega)⟩

/-- allocation: the returned region is new, disjoint from every live region, inside the managed range, and
    becomes live; all other live regions are untouched. (Which chunk is taken — the first free one that fits, a new one at the end
    only if none does — is `allocIn_shape` / the second branch of `Heap.alloc`.) -/
theorem alloc_spec (h : Heap) (n : Nat) :
    (∀ r, r ∈ (h.alloc n).2.used ↔ r = ((h.alloc n).1, n) ∨ r ∈ h.used) ∧
    (∀ r ∈ h.used, r.1 + r.2 ≤ (h.alloc n).1 ∨ (h.alloc n).1 + n ≤ r.1) ∧
    (h.alloc n).1 + n ≤ total (h.alloc n).2.cs := by
  unfold Heap.alloc Heap.used
  split
  · rename_i loc cs' ha
    obtain ⟨_, A, B, e1, e2⟩ := allocIn_spec n 0 h.cs loc cs' ha
    have hb : _ ∧ loc + n ≤ 0 + total cs' := usedFrom_bounds 0 cs' (loc, n) (by simp [e1])
    have hs := usedFrom_sorted 0 cs'
    simp only [e1, e2] at hs ⊢
    exact ⟨fun r => mem_mid, pairwise_mid hs, by omega⟩
  · refine ⟨?_, ?_, (by simp [total_append])⟩
    · intro r; simp only [usedFrom_append_used 0 h.cs ⟨n, false⟩ rfl, List.mem_append, List.mem_singleton, Nat.zero_add]
      exact Or.comm
    · intro r hr
      have := usedFrom_bounds 0 h.cs r hr
      left; simp only; omega

theorem free_spec (h h' : Heap) (loc : Nat) (hi : HInv h) (hf : h.free loc = some h') :
    ∃ n, (loc, n) ∈ h.used ∧ (∀ r, r ∈ h.used ↔ r = (loc, n) ∨ r ∈ h'.used) ∧ total h'.cs ≤ total h.cs := by
  obtain ⟨cs', hfi, rfl⟩ := free_eq_some hf
  obtain ⟨ht, n, A, B, e1, e2⟩ := freeIn_spec loc 0 h.cs cs' hfi
  unfold Heap.used
  rw [e1, e2]
  exact ⟨n, by simp, fun r => mem_mid, ht⟩

inductive HOp | alloc (n : Nat) | free (loc : Nat)

def runOp (h : Heap) : HOp → Heap
  | .alloc n => (h.alloc n).2
  | .free loc => (h.free loc).getD h       -- totalisation: a release that fails in the model leaves the state unchanged.
      -- NOT what Python does for a location that is not the start of a live chunk (`Heap.free(0)` twice raises nothing and
      -- corrupts the tables): such histories are OUTSIDE the domain (`histOkB`, Proofs/HeapHist.lean); `SimOps` never
      -- produces one (`simops_frees_live`, Proofs/MemMapFrees.lean)

def OpOk : HOp → Prop
  | .alloc n => 0 < n
  | .free _ => True

theorem runOp_inv (h : Heap) (op : HOp) (hok : OpOk op) (hi : HInv h) : HInv (runOp h op) := by
  cases op with
  | alloc n => exact alloc_inv h n hok hi
  | free loc =>
    simp only [runOp]
    cases hf : h.free loc with
    | none => simpa using hi
    | some h' => simpa using free_inv h h' loc hi hf

theorem hist_inv (ops : List HOp) (hok : ∀ op ∈ ops, OpOk op) : HInv (ops.foldl runOp { cs := [], maxSz := 0 }) := by
  suffices ∀ h, HInv h → HInv (ops.foldl runOp h) from this _ empty_inv
  induction ops with
  | nil => intro h hi; exact hi
  | cons op ops ih =>
    intro h hi
    exact ih (fun o ho => hok o (List.mem_cons_of_mem _ ho)) _ (runOp_inv h op (hok op List.mem_cons_self) hi)

end KV.Heap
