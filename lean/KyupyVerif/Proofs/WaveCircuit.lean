import KyupyVerif.Proofs.Basics
import KyupyVerif.Model.WaveCirc
import KyupyVerif.Proofs.LutSem
import KyupyVerif.Proofs.WaveMember
import KyupyVerif.Proofs.WaveMono
import KyupyVerif.Proofs.WaveHazard
/-! Gate level in waveform terms (`Wv`, `waveSem`). The evaluation of a row is the final state `opOut` of the loop: its entries
are the stack, its terminator has a closed form (`waveSem_eq`). Each gate theorem about the loop has its twin here: the produced
waveform is a legal operand again (`waveSem_ok`), its initial and final value (`waveSem_init_final`), where its times come from
(`waveSem_reach`), monotonicity (`waveSem_incr`), hazard freedom (`waveSem_inactive`). `simWave_ok_rel` lifts such facts through
every op program; `simWave_val` is its form for a Boolean read-out (initial value, final value).
What a row enters the evaluation through: its code, its output, the four slot waveforms and the delay entries of slots 0–3
(`waveEval_congr_D`, `waveRow_congr`; for an eight-index row, stems ++ branches, the delay lines are the LAST four indices); the
produced waveform has at most `cap - 1` entries (`waveSem_len`). A semantics that reads four operands does not see the last four
indices of such a row (`First4`, `exec_first4`). -/
namespace KV.Wave
open KV KV.Sig

def Wv.ok (w : Wv) : Prop := WfRem w.ents ∧ w.term.isTerm = true

theorem Wv.empty_ok : Wv.empty.ok := ⟨⟨by simp [Wv.empty], by simp [Wv.empty]⟩, rfl⟩

theorem lutBit_eq (lut : Nat) (v : Fin 4 → Bool) : lutBit lut v = lutBit4 lut (v 0) (v 1) (v 2) (v 3) := rfl

/-- configuration hypotheses of C03: non-negative delays, capacities of at least 4 -/
structure WCfg.Good (cfg : WCfg) (ops : List Op) : Prop where
  delay_nonneg : ∀ l p q, 0 ≤ cfg.delay l p q
  cap_ge : ∀ op ∈ ops, 4 ≤ cfg.cap op.out

theorem T.max_isTerm {a b : T} (ha : a.isTerm = true) (hb : b.isTerm = true) : (T.max a b).isTerm = true := by
  unfold T.max; split <;> assumption

theorem slot_ok {xs : List Wv} (h : ∀ x ∈ xs, x.ok) (i : Fin 4) : (slot xs i).ok := by
  unfold slot
  rw [List.getD_eq_getElem?_getD]
  cases hx : xs[i.val]? with
  | none => exact Wv.empty_ok
  | some x => exact h x (List.mem_of_getElem? hx)

/-- what the gate theorems need of one row and its operands: `WCfg.Good` at this row, and well-formed operand slots -/
structure OpOK (cfg : WCfg) (op : Op) (xs : List Wv) : Prop where
  delay : ∀ l p q, 0 ≤ cfg.delay l p q
  cap : 4 ≤ cfg.cap op.out
  args : ∀ i, (slot xs i).ok

variable {cfg : WCfg} {op : Op} {xs : List Wv}

def OpOK.env (h : OpOK cfg op xs) : Env :=
  { lut := op.code, D := opDelays cfg op, terms := fun i => (slot xs i).term, zcap := cfg.cap op.out,
    hcap := h.cap, hD := fun _ p q => h.delay _ p q, hterm := fun i => (h.args i).2 }

theorem WCfg.Good.opOK {ops : List Op} (hg : cfg.Good ops) (hop : op ∈ ops) (hx : ∀ x ∈ xs, x.ok) : OpOK cfg op xs :=
  ⟨hg.delay_nonneg, hg.cap_ge op hop, slot_ok hx⟩

/-- the final state of the loop for a row; with `E := h.env` (`h : OpOK cfg op xs`) it is `run E.lut E.D E.terms E.zcap …` by `rfl`, the form
    in which the gate theorems are stated -/
def opOut (cfg : WCfg) (op : Op) (xs : List Wv) : St :=
  run op.code (opDelays cfg op) (fun i => (slot xs i).term) (cfg.cap op.out)
    (totalLen fun i => (slot xs i).ents) (init op.code fun i => (slot xs i).ents)

theorem waveSem_ents (cfg : WCfg) (op : Op) (xs : List Wv) : (waveSem cfg op xs).ents = (opOut cfg op xs).z.reverse := rfl

/-- at exit every pending time is the operand's terminator, so the terminator written is the overflow marker or the largest
    operand terminator (an overflow marker on an operand is passed on) -/
theorem waveSem_eq (h : OpOK cfg op xs) :
    waveSem cfg op xs = ⟨(opOut cfg op xs).z.reverse,
      if 0 < (opOut cfg op xs).ovf then T.tovl
      else T.max (T.max (slot xs 0).term (slot xs 1).term) (T.max (slot xs 2).term (slot xs 3).term)⟩ := by
  have hp : ∀ i, pend (opDelays cfg op) (fun i => (slot xs i).term) (opOut cfg op xs) i = (slot xs i).term :=
    (run_exit h.env (fun i => (slot xs i).ents) (fun i => (h.args i).1)).2.2.2
  show (⟨(opOut cfg op xs).z.reverse, if (opOut cfg op xs).ovf > 0 then T.tovl else
    T.max (T.max (pend _ _ (opOut cfg op xs) 0) (pend _ _ (opOut cfg op xs) 1))
      (T.max (pend _ _ (opOut cfg op xs) 2) (pend _ _ (opOut cfg op xs) 3))⟩ : Wv) = _
  rw [hp 0, hp 1, hp 2, hp 3]

theorem waveSem_ok (h : OpOK cfg op xs) : (waveSem cfg op xs).ok := by
  refine ⟨wave_gate_wf h.env _ fun i => (h.args i).1, ?_⟩
  rw [waveSem_eq h]
  show (if _ then _ else _ : T).isTerm = true
  split
  · rfl
  · exact T.max_isTerm (T.max_isTerm (h.args 0).2 (h.args 1).2) (T.max_isTerm (h.args 2).2 (h.args 3).2)

/-- lifting through a program a gate-level fact `P` that needs well-formed operands: well-formedness of the reference run is
    carried along (`hg` gives delays ≥ 0 and capacities ≥ 4, which `waveSem_ok` needs) -/
theorem simWave_ok_rel {β} (P : Wv → β → Prop) (cfg : WCfg) (s2 : Op → List β → β) (ops : List Op) (hg : cfg.Good ops)
    (hop : ∀ op ∈ ops, ∀ xs ys, (∀ x ∈ xs, x.ok) → All2 (fun w y => w.ok ∧ P w y) xs ys → P (waveSem cfg op xs) (s2 op ys))
    (env : Nat → Wv) (e2 : Nat → β) (h : ∀ l, (env l).ok ∧ P (env l) (e2 l)) (l : Nat) :
    (simWave cfg ops env l).ok ∧ P (simWave cfg ops env l) (execG s2 ops e2 l) :=
  execG_rel_on (fun w y => w.ok ∧ P w y) (waveSem cfg) s2 ops
    (fun op hop' xs ys hxy =>
      have hx : ∀ x ∈ xs, x.ok := hxy.forall_left (fun _ _ h => h.1)
      ⟨waveSem_ok (hg.opOK hop' hx), hop op hop' xs ys hx hxy⟩) env e2 h l

theorem head_reverse_tmin (z : List T) : (z.reverse.head? == some T.tmin) = bot z := by
  unfold bot; rw [List.head?_reverse]

theorem waveSem_init_final (h : OpOK cfg op xs) :
    (waveSem cfg op xs).init = lutBit4 op.code (slot xs 0).init (slot xs 1).init (slot xs 2).init (slot xs 3).init ∧
    (waveSem cfg op xs).final = lutBit4 op.code (slot xs 0).final (slot xs 1).final (slot xs 2).final (slot xs 3).final := by
  constructor
  · show ((opOut cfg op xs).z.reverse.head? == some T.tmin) = _
    rw [head_reverse_tmin]
    exact wave_gate_init h.env _ fun i => (h.args i).1
  · show ((opOut cfg op xs).z.reverse.length % 2 == 1) = _
    rw [List.length_reverse]
    exact wave_gate_final h.env _ fun i => (h.args i).1

theorem waveSem_reach (h : OpOK cfg op xs) : ∀ x ∈ (waveSem cfg op xs).ents, Reach (opDelays cfg op) (fun i => (slot xs i).ents) x := by
  intro x hm
  rw [waveSem_ents, List.mem_reverse] at hm
  refine run_member h.env (fun i => (slot xs i).ents) _ _ (by intro i; simp [init]) ?_ x hm
  intro y hy
  simp only [init] at hy
  cases hl : (op.code % 2 == 1) <;> simp [hl] at hy
  exact Or.inl hy

theorem waveSem_incr (h : OpOK cfg op xs) (d : Fin 4 → Int) (hpol : ∀ (i : Fin 4) p q, opDelays cfg op i p q = d i)
    (hinc : ∀ i, Incr (slot xs i).ents) : Incr (waveSem cfg op xs).ents :=
  List.pairwise_reverse.mpr
    (mono_polind h.env d ⟨hpol⟩ _ (fun i => (h.args i).1) hinc)

theorem waveSem_inactive (h : OpOK cfg op xs) (c0 : Bool) (hH : HazardFree op.code (fun i => (slot xs i).ents) c0) :
    Inactive (waveSem cfg op xs).ents := by
  rw [waveSem_ents]
  rcases gate_hazard_free h.env _ (fun i => (h.args i).1) c0 hH with hz | hz
  · exact Or.inl (by rw [show (opOut cfg op xs).z = [] from hz]; rfl)
  · exact Or.inr (by rw [show (opOut cfg op xs).z = [T.tmin] from hz]; rfl)

theorem simWave_ok (cfg : WCfg) (ops : List Op) (hg : cfg.Good ops) (env : Nat → Wv) (henv : ∀ l, (env l).ok) (l : Nat) :
    (simWave cfg ops env l).ok :=
  (simWave_ok_rel (fun _ (_ : Unit) => True) cfg (fun _ _ => ()) ops hg (fun _ _ _ _ _ _ => trivial) env (fun _ => ())
    (fun x => ⟨henv x, trivial⟩) l).1

/-- a Boolean read-out of waveforms that every gate maps by its LUT is mapped by every program as 2-valued simulation does -/
theorem simWave_val (cfg : WCfg) (ops : List Op) (hg : cfg.Good ops) (f : Wv → Bool) (hf0 : f Wv.empty = false)
    (hgate : ∀ op ∈ ops, ∀ xs, (∀ x ∈ xs, x.ok) →
      f (waveSem cfg op xs) = lutBit4 op.code (f (slot xs 0)) (f (slot xs 1)) (f (slot xs 2)) (f (slot xs 3)))
    (env : Nat → Wv) (henv : ∀ l, (env l).ok) (l : Nat) :
    f (simWave cfg ops env l) = exec lutSem ops (fun x => f (env x)) l := by
  refine (simWave_ok_rel (fun w b => f w = b) cfg (fun op ys => lutSem op.code ys) ops hg ?_ env _ (fun x => ⟨henv x, rfl⟩) l).2
  intro op hop xs ys hx hxy
  have hs : ∀ i : Fin 4, f (slot xs i) = ys.getD i.val false := fun i => (hxy.getD i.val Wv.empty false ⟨Wv.empty_ok, hf0⟩).2
  rw [hgate op hop xs hx, hs 0, hs 1, hs 2, hs 3]; rfl

theorem pend_congr_D {D D' : Delays} (h : ∀ (i : Fin 4) p q, D i p q = D' i p q) (terms : Fin 4 → T) (s : St) (i : Fin 4) :
    pend D terms s i = pend D' terms s i := by unfold pend; rw [h]

theorem cur_congr_D {D D' : Delays} (h : ∀ (i : Fin 4) p q, D i p q = D' i p q) (terms : Fin 4 → T) (s : St) :
    cur D terms s = cur D' terms s := by unfold cur; simp only [pend_congr_D h]

theorem pick_congr_D {D D' : Delays} (h : ∀ (i : Fin 4) p q, D i p q = D' i p q) (terms : Fin 4 → T) (s : St) :
    pick D terms s = pick D' terms s := by unfold pick; simp only [pend_congr_D h, cur_congr_D h]

theorem step_congr_D {D D' : Delays} (h : ∀ (i : Fin 4) p q, D i p q = D' i p q) (lut : Nat) (terms : Fin 4 → T)
    (zcap : Nat) (s : St) : step lut D terms zcap s = step lut D' terms zcap s := by
  rw [step_eq_core, step_eq_core, cur_congr_D h, pick_congr_D h]
  simp only [dec2, nextT, thresh, h]

theorem run_congr_D {D D' : Delays} (h : ∀ (i : Fin 4) p q, D i p q = D' i p q) (lut : Nat) (terms : Fin 4 → T)
    (zcap fuel : Nat) (s : St) : run lut D terms zcap fuel s = run lut D' terms zcap fuel s :=
  run_rel (R := Eq) (fun a _ e => by rw [← e, cur_congr_D h]) (fun a _ e _ => by rw [← e, step_congr_D h]) fuel s s rfl

theorem waveEval_congr_D {D D' : Delays} (h : ∀ (i : Fin 4) p q, D i p q = D' i p q) (lut : Nat) (ws : Fin 4 → List T)
    (terms : Fin 4 → T) (zcap : Nat) : waveEval lut D ws terms zcap = waveEval lut D' ws terms zcap := by
  unfold waveEval
  simp only [run_congr_D h, pend_congr_D h]

/-- a row enters the evaluation only through its code, its output, the four slot waveforms and the delay entries of slots 0–3
    (for an eight-index row: of its LAST four indices) -/
theorem waveRow_congr (cfg : WCfg) (code out : Nat) {ins ins' : List Nat} {xs ys : List Wv}
    (hD : ∀ (i : Fin 4) p q, opDelays cfg ⟨code, out, ins⟩ i p q = opDelays cfg ⟨code, out, ins'⟩ i p q)
    (hs : ∀ i, slot xs i = slot ys i) :
    waveSem cfg ⟨code, out, ins⟩ xs = waveSem cfg ⟨code, out, ins'⟩ ys ∧
    waveCounts cfg ⟨code, out, ins⟩ xs = waveCounts cfg ⟨code, out, ins'⟩ ys := by
  unfold waveSem waveCounts
  rw [funext fun i => congrArg Wv.ents (hs i), funext fun i => congrArg Wv.term (hs i), waveEval_congr_D hD]
  exact ⟨rfl, rfl⟩

theorem step_zlen (lut : Nat) (D : Delays) (terms : Fin 4 → T) (zcap : Nat) (s : St) (h : s.z.length ≤ zcap - 1) :
    (step lut D terms zcap s).z.length ≤ zcap - 1 :=
  step_ind (P := fun s' => s'.z.length ≤ zcap - 1) lut D terms zcap s (fun _ => h) (fun _ _ hroom => hroom)
    (fun _ _ => by simp only [St.over, St.pop, St.adv, List.length_tail]; omega)
    (fun _ _ _ _ => by simp only [St.pop, St.adv, List.length_tail]; omega)

theorem run_zlen (lut : Nat) (D : Delays) (terms : Fin 4 → T) (zcap fuel : Nat) (s : St) (h : s.z.length ≤ zcap - 1) :
    (run lut D terms zcap fuel s).z.length ≤ zcap - 1 :=
  run_inv (fun s h _ => step_zlen lut D terms zcap s h) fuel s h

theorem init_zlen (lut : Nat) (ws : Fin 4 → List T) (zcap : Nat) (hc : 2 ≤ zcap) : (init lut ws).z.length ≤ zcap - 1 := by
  simp only [init]; split <;> simp <;> omega

theorem waveSem_len (cfg : WCfg) (op : Op) (xs : List Wv) (hc : 2 ≤ cfg.cap op.out) :
    (waveSem cfg op xs).ents.length < cfg.cap op.out := by
  rw [waveSem_ents, List.length_reverse]
  have : (opOut cfg op xs).z.length ≤ cfg.cap op.out - 1 := run_zlen _ _ _ _ _ _ (init_zlen _ _ _ hc)
  omega

theorem exec_map_congr {α ρ} (sem : Nat → List α → α) (g1 g2 : ρ → Op) (rows : List ρ)
    (h : ∀ r ∈ rows, (g1 r).out = (g2 r).out ∧
      ∀ e : Nat → α, sem (g1 r).code ((g1 r).ins.map e) = sem (g2 r).code ((g2 r).ins.map e))
    (env : Nat → α) : exec sem (rows.map g1) env = exec sem (rows.map g2) env := by
  simp only [exec, List.foldl_map]
  exact foldl_congr (fun r hr e => by unfold execOp; rw [(h r hr).1, (h r hr).2 e]) env

def First4 {α} (f : Nat → List α → α) : Prop := ∀ code (xs ys : List α), xs.length = 4 → f code (xs ++ ys) = f code xs


/-- under a semantics that reads four operands, a program of eight-index rows (four value sources ++ four delay lines) is the
    program of its four-index rows -/
theorem exec_first4 {α ρ} (f : Nat → List α → α) (hf : First4 f) (code out : ρ → Nat) (a b : ρ → List Nat)
    (ha : ∀ r, (a r).length = 4) (rows : List ρ) (env : Nat → α) :
    exec f (rows.map fun r => ⟨code r, out r, a r ++ b r⟩) env = exec f (rows.map fun r => ⟨code r, out r, a r⟩) env :=
  exec_map_congr f (fun r => ⟨code r, out r, a r ++ b r⟩) (fun r => ⟨code r, out r, a r⟩) rows (fun r _ => ⟨rfl, fun e => by
    show f (code r) ((a r ++ b r).map e) = _
    rw [List.map_append, hf _ _ _ (by simp [ha r])]⟩) env

end KV.Wave
