import KyupyVerif.Model.SdfCirc
import KyupyVerif.Proofs.Transform
import KyupyVerif.Proofs.Basics
/-! The look-ups of `DelayFile.iopaths` / `.interconnects` (Model/SdfCirc.lean) on a well-formed circuit dump (`KV.Transform.WF`, the
decidable `NNet.wf` of C10): their declarative specification, then completeness of the INTERCONNECT look-up and the characterisation of
every exit.

`icLookX` (Model/SdfCirc.lean) = `icLook` with the two kinds of warning kept apart.  Stage by stage:
`icFork` (the decision between the two forks) is characterised for every dump, then translated into statements about lines on a
well-formed dump (`WF`), then simplified under the structural hypothesis `icStructOKB`. -/
namespace KV.Sdf
open KV KV.Transform

theorem cellOf_spec {C : NNet} {name : String} {i : Nat} (h : cellOf C name = some i) :
    i < C.net.nodes.size ∧ C.names.getD i "" = name ∧ (C.net.node i).isFork = false := by
  unfold cellOf at h
  simp only at h
  split at h
  · rename_i hlt
    cases h
    unfold NNet.lookup at hlt ⊢
    have hlen : C.keys.length = C.net.nodes.size := by simp [NNet.keys]
    have hl : C.keys.idxOf (name, false) < C.keys.length := by omega
    have := List.getElem_idxOf hl
    simp only [NNet.keys, List.getElem_map, List.getElem_range, NNet.key, Prod.mk.injEq] at this
    exact ⟨hlt, this.1, this.2⟩
  · cases h

/-- a fork index is inside the node array: outside it `Net.node` answers `default`, which is no fork -/
theorem isFork_lt {net : Net} {f : Nat} (h : (net.node f).isFork = true) : f < net.nodes.size := by
  apply Classical.byContradiction
  intro hlt
  have : net.node f = default := by
    unfold Net.node
    rw [Array.getD_eq_getD_getElem?, Array.getElem?_eq_none (by omega)]
    rfl
  rw [this] at h
  revert h
  decide

theorem Look.toOpt_eq_some {x : Look} {l : Nat} : x.toOpt = some l ↔ x = .line l := by
  cases x <;> simp [Look.toOpt]

/-- soundness of the IOPATH look-up needs the forward half of well-formedness only (`hin`: `WF.fwdIn`, or `wf_in` of `Net.wfB`) -/
theorem pinLook_line_sound {C : NNet}
    (hin : ∀ i, i < C.net.nodes.size → ∀ p l, (C.net.node i).inPin p = some l →
      l < C.net.lines.size ∧ (C.net.line l).reader = i ∧ (C.net.line l).rpin = p)
    {tl : PinIdx} {name pin : String} {l : Nat} (h : pinLook C tl name pin = .line l) :
    ∃ i idx, cellOf C name = some i ∧ tl (C.net.node i).kind pin = some idx ∧
      l < C.net.lines.size ∧ (C.net.line l).reader = i ∧ (C.net.line l).rpin = idx := by
  unfold pinLook at h
  split at h
  · cases h
  · rename_i i hc
    split at h
    · cases h
    · rename_i idx ht
      split at h
      · split at h
        · rename_i l' hl
          cases h
          exact ⟨i, idx, hc, ht, hin i (cellOf_spec hc).1 idx l hl⟩
        · cases h
      · cases h

/-- in the sole-line case of the INTERCONNECT look-up `l` is the very line that leaves `c1` when that line enters the fork at
pin 0 (a fork has one input: `lo` is `f.ins[0]`) -/
theorem icLook_sole_line (C : NNet) (hwf : WF C) (l lo : Nat) (hl : l < C.net.lines.size) (hlo : lo < C.net.lines.size)
    (hr : (C.net.line l).reader = (C.net.line lo).reader) (hp : (C.net.line l).rpin = 0) (hp' : (C.net.line lo).rpin = 0) :
    l = lo := by
  have h1 := (hwf.back l hl).2.2.2
  have h2 := (hwf.back lo hlo).2.2.2
  rw [hr, hp] at h1
  rw [hp'] at h2
  rw [h1] at h2
  exact Option.some.inj h2

/-! ### the functions with their raises: `iopathsC`, `interconnectsC`

`Look.toOpt` sends `raise` and `skip` both to `none`: the tables `pinLineOf` / `icLineOf` exist where the real call raises.  The
statements about the REAL result are about `iopathsC` / `interconnectsC` (`none` = the call raises, no array at all). -/
theorem ite_all_eq_none {α β : Type} (items : List α) (ok : α → Bool) (v : Option β) (hv : v ≠ none) :
    (if items.all ok = true then v else none) = none ↔ ∃ a ∈ items, ok a = false := by
  by_cases h : items.all ok = true
  · simp only [h, if_true, hv, false_iff, not_exists, not_and, Bool.not_eq_false]
    exact fun a ha => List.all_eq_true.mp h a ha
  · simp only [h]
    simpa using h

theorem iopathsC_eq {C : NNet} {tl : PinIdx} {df : DelayFile} {A : Arr} (h : iopathsC C tl df = some A) :
    A = iopaths (pinLineOf C tl) df := by
  unfold iopathsC at h
  split at h
  · exact (Option.some.inj h).symm
  · cases h

theorem interconnectsC_eq {C : NNet} {tl : PinIdx} {df : DelayFile} {A : Arr} (h : interconnectsC C tl df = some A) :
    interconnects (icLineOf C tl) df = some A := by
  unfold interconnectsC at h
  split at h
  · cases h
  · simp only at h
    split at h
    · exact h
    · cases h


section refines
variable (C : NNet) (tl : PinIdx) (c1 : String) (p1 : Option String) (c2 : String) (p2 : Option String)

/-- the two functions have the same case tree, and every leaf agrees -/
theorem icLookX_toLook :
    (icLookX C tl c1 p1 c2 p2).toLook = icLook C tl c1 p1 c2 p2 := by
  simp only [icLookX, icLook, icPins, icFork]
  repeat' split
  all_goals rfl

theorem icLookX_line_iff (l : Nat) :
    icLookX C tl c1 p1 c2 p2 = .line l ↔ icLook C tl c1 p1 c2 p2 = .line l := by
  rw [← icLookX_toLook]
  cases icLookX C tl c1 p1 c2 p2 <;> simp [IcExit.toLook]
end refines

/-- `c1, c2 = circuit.cells[cn1], circuit.cells[cn2]` and the two `tlib.pin_index` succeed: cells `i1`, `i2`, pin indices `q1`, `q2` -/
structure IcEnds (C : NNet) (tl : PinIdx) (c1 : String) (p1 : Option String) (c2 : String) (p2 : Option String)
    (i1 q1 i2 q2 : Nat) : Prop where
  cell1 : cellOf C c1 = some i1
  cell2 : cellOf C c2 = some i2
  pin1 : endPin tl (C.net.node i1).kind p1 = some q1
  pin2 : endPin tl (C.net.node i2).kind p2 = some q2

theorem IcEnds.unique {C : NNet} {tl : PinIdx} {c1 : String} {p1 : Option String} {c2 : String} {p2 : Option String}
    {i1 q1 i2 q2 j1 r1 j2 r2 : Nat} (h : IcEnds C tl c1 p1 c2 p2 i1 q1 i2 q2) (h' : IcEnds C tl c1 p1 c2 p2 j1 r1 j2 r2) :
    j1 = i1 ∧ r1 = q1 ∧ j2 = i2 ∧ r2 = q2 := by
  have a := h.cell1; have b := h'.cell1; rw [a] at b; cases b
  have a := h.cell2; have b := h'.cell2; rw [a] at b; cases b
  have a := h.pin1; have b := h'.pin1; rw [a] at b; cases b
  have a := h.pin2; have b := h'.pin2; rw [a] at b; cases b
  exact ⟨rfl, rfl, rfl, rfl⟩

section ends
variable {C : NNet} {tl : PinIdx} {c1 : String} {p1 : Option String} {c2 : String} {p2 : Option String}

/-- the ends do not resolve: exactly the `KeyError` of `circuit.cells[..]` / the `AssertionError` of `tlib.pin_index` -/
def IcUnresolved (C : NNet) (tl : PinIdx) (c1 : String) (p1 : Option String) (c2 : String) (p2 : Option String) : Prop :=
  cellOf C c1 = none ∨ cellOf C c2 = none ∨
    ∃ i1 i2, cellOf C c1 = some i1 ∧ cellOf C c2 = some i2 ∧
      (endPin tl (C.net.node i1).kind p1 = none ∨ endPin tl (C.net.node i2).kind p2 = none)

/-- the first stage of the look-up as a function: `IcEnds` is its graph (`icEnds_iff`), `IcUnresolved` its `none`
(`icUnresolved_iff`), so that the ends are unique and the two cases exclusive and exhaustive for free -/
def resolveEnds (C : NNet) (tl : PinIdx) (c1 : String) (p1 : Option String) (c2 : String) (p2 : Option String) :
    Option (Nat × Nat × Nat × Nat) :=
  (cellOf C c1).bind fun i1 => (cellOf C c2).bind fun i2 =>
  (endPin tl (C.net.node i1).kind p1).bind fun q1 => (endPin tl (C.net.node i2).kind p2).map fun q2 => (i1, q1, i2, q2)

theorem icLookX_eq : icLookX C tl c1 p1 c2 p2 =
    match resolveEnds C tl c1 p1 c2 p2 with
    | none => .raise
    | some (i1, q1, i2, q2) => icPins C i1 q1 i2 q2 := by
  unfold icLookX resolveEnds
  cases cellOf C c1 <;> cases cellOf C c2 <;> try rfl
  rename_i i1 i2
  simp only [Option.bind_some]
  cases endPin tl (C.net.node i1).kind p1 <;> cases endPin tl (C.net.node i2).kind p2 <;> rfl

theorem icEnds_iff {i1 q1 i2 q2 : Nat} :
    IcEnds C tl c1 p1 c2 p2 i1 q1 i2 q2 ↔ resolveEnds C tl c1 p1 c2 p2 = some (i1, q1, i2, q2) := by
  unfold resolveEnds
  constructor
  · rintro ⟨a, b, c, d⟩; simp [a, b, c, d]
  · intro h
    obtain ⟨j1, a, h⟩ := Option.bind_eq_some_iff.mp h
    obtain ⟨j2, b, h⟩ := Option.bind_eq_some_iff.mp h
    obtain ⟨r1, c, h⟩ := Option.bind_eq_some_iff.mp h
    obtain ⟨r2, d, h⟩ := Option.map_eq_some_iff.mp h
    cases h
    exact ⟨a, b, c, d⟩

theorem icUnresolved_iff : IcUnresolved C tl c1 p1 c2 p2 ↔ resolveEnds C tl c1 p1 c2 p2 = none := by
  unfold IcUnresolved resolveEnds
  cases h1 : cellOf C c1 with
  | none => simp
  | some i1 =>
    cases h2 : cellOf C c2 with
    | none => simp
    | some i2 =>
      cases h3 : endPin tl (C.net.node i1).kind p1 <;> cases h4 : endPin tl (C.net.node i2).kind p2 <;> simp [h3, h4]
end ends

section fork
variable (C : NNet) (lo li : Nat)

/-- the `assert`s of the branch-fork case hold for line `l`: `len(f2.outs) == 1`, `f2.ins[0]` is `l`, `f1.outs[l.driver_pin]` is `l` -/
def BranchOK (C : NNet) (f1 f2 l : Nat) : Prop :=
  (C.net.node f2).outs.length = 1 ∧ forkIn (C.net.node f2) = some l ∧ (C.net.node f1).outPin (C.net.line l).dpin = some l

/-- every exit of `icFork` at once: one walk of its case tree -/
theorem icFork_iff (x : IcExit) :
    icFork C lo li = x ↔
      match x with
      | .line l =>
        (C.net.node (C.net.line lo).reader).isFork = true ∧ (C.net.node (C.net.line li).driver).isFork = true ∧
        (C.net.node (C.net.line li).driver).outs.length = 1 ∧ forkIn (C.net.node (C.net.line li).driver) = some l ∧
        ((C.net.line lo).reader = (C.net.line li).driver ∨
          (C.net.node (C.net.line lo).reader).outPin (C.net.line l).dpin = some l)
      | .warnNoBranch =>
        (C.net.node (C.net.line lo).reader).isFork = true ∧ (C.net.node (C.net.line li).driver).isFork = true ∧
        (C.net.line lo).reader = (C.net.line li).driver ∧ (C.net.node (C.net.line li).driver).outs.length ≠ 1
      | .warnPin => False
      | .raise =>
        ¬ ((C.net.node (C.net.line lo).reader).isFork = true ∧ (C.net.node (C.net.line li).driver).isFork = true) ∨
        ((C.net.line lo).reader ≠ (C.net.line li).driver ∧
          ¬ ∃ l, BranchOK C (C.net.line lo).reader (C.net.line li).driver l) ∨
        ((C.net.line lo).reader = (C.net.line li).driver ∧ (C.net.node (C.net.line li).driver).outs.length = 1 ∧
          forkIn (C.net.node (C.net.line li).driver) = none) := by
  unfold icFork BranchOK
  simp only []
  generalize (C.net.line lo).reader = f1
  generalize (C.net.line li).driver = f2
  by_cases hf1 : (C.net.node f1).isFork = true <;> by_cases hf2 : (C.net.node f2).isFork = true <;>
    simp only [hf1, hf2, Bool.and_self, Bool.not_true, Bool.false_eq_true, if_false, Bool.and_false, Bool.and_true,
      Bool.not_false, if_true]
  rotate_left
  · cases x <;> simp
  · cases x <;> simp
  · cases x <;> simp
  by_cases hne : f1 = f2
  · subst hne
    simp only [bne_self_eq_false, Bool.false_eq_true, if_false, beq_iff_eq]
    by_cases h1 : (C.net.node f1).outs.length = 1
    · simp only [h1, if_true]
      cases forkIn (C.net.node f1) <;> cases x <;> simp
    · cases x <;> simp [h1]
  · simp only [bne_iff_ne, ne_eq, hne, not_false_eq_true, if_true]
    cases hfi : forkIn (C.net.node f2) with
    | none => cases x <;> simp
    | some l' =>
      by_cases hc : (C.net.node f2).outs.length = 1 ∧ (C.net.node f1).outPin (C.net.line l').dpin = some l'
      · cases x <;> simp [hc.1, hc.2]
        rintro rfl; exact hc.2
      · have : ((C.net.node f2).outs.length == 1 && (C.net.node f1).outPin (C.net.line l').dpin == some l') = false := by
          simpa using fun h => Classical.not_and_iff_not_or_not.mp hc |>.resolve_left (· h)
        cases x <;> simp [this]
        · intro h1 h2; exact hc ⟨h1, h2⟩
        · intro h1 h2 h3; subst h2; exact hc ⟨h1, h3⟩


theorem icFork_ne_warnPin : icFork C lo li ≠ .warnPin := (icFork_iff C lo li .warnPin).mp

end fork

theorem icPins_warnPin_iff (C : NNet) (i1 q1 i2 q2 : Nat) :
    icPins C i1 q1 i2 q2 = .warnPin ↔ (C.net.node i1).outPin q1 = none ∨ (C.net.node i2).inPin q2 = none := by
  unfold icPins
  cases h1 : (C.net.node i1).outPin q1 with
  | none => simp
  | some lo =>
    cases h2 : (C.net.node i2).inPin q2 with
    | none => simp
    | some li => simp [icFork_ne_warnPin]

theorem icPins_ne_warnPin_iff (C : NNet) (i1 q1 i2 q2 : Nat) (x : IcExit) (hx : x ≠ .warnPin) :
    icPins C i1 q1 i2 q2 = x ↔
      ∃ lo li, (C.net.node i1).outPin q1 = some lo ∧ (C.net.node i2).inPin q2 = some li ∧ icFork C lo li = x := by
  unfold icPins
  cases h1 : (C.net.node i1).outPin q1 with
  | none => simp; exact fun h => hx h.symm
  | some lo =>
    cases h2 : (C.net.node i2).inPin q2 with
    | none => simp; exact fun h => hx h.symm
    | some li => simp

section exits
variable (C : NNet) (tl : PinIdx) (c1 : String) (p1 : Option String) (c2 : String) (p2 : Option String)

theorem icLookX_eq_iff (x : IcExit) (hx : x ≠ .raise) :
    icLookX C tl c1 p1 c2 p2 = x ↔ ∃ i1 q1 i2 q2, IcEnds C tl c1 p1 c2 p2 i1 q1 i2 q2 ∧ icPins C i1 q1 i2 q2 = x := by
  simp only [icEnds_iff, icLookX_eq]
  cases resolveEnds C tl c1 p1 c2 p2 with
  | none => simpa using fun h => hx h.symm
  | some e =>
    obtain ⟨i1, q1, i2, q2⟩ := e
    simp only [Option.some.injEq, Prod.mk.injEq]
    exact ⟨fun h => ⟨_, _, _, _, ⟨rfl, rfl, rfl, rfl⟩, h⟩, fun ⟨_, _, _, _, ⟨rfl, rfl, rfl, rfl⟩, h⟩ => h⟩

theorem icLookX_raise_iff :
    icLookX C tl c1 p1 c2 p2 = .raise ↔
      IcUnresolved C tl c1 p1 c2 p2 ∨ ∃ i1 q1 i2 q2, IcEnds C tl c1 p1 c2 p2 i1 q1 i2 q2 ∧ icPins C i1 q1 i2 q2 = .raise := by
  simp only [icEnds_iff, icUnresolved_iff, icLookX_eq]
  cases resolveEnds C tl c1 p1 c2 p2 with
  | none => simp
  | some e =>
    obtain ⟨i1, q1, i2, q2⟩ := e
    simp only [reduceCtorEq, false_or, Option.some.injEq, Prod.mk.injEq]
    exact ⟨fun h => ⟨_, _, _, _, ⟨rfl, rfl, rfl, rfl⟩, h⟩, fun ⟨_, _, _, _, ⟨rfl, rfl, rfl, rfl⟩, h⟩ => h⟩
end exits

/-- both ends resolve, `lo` leaves the origin pin, `li` enters the destination pin, and `P lo li`: what the three stages share -/
def IcLines (C : NNet) (tl : PinIdx) (c1 : String) (p1 : Option String) (c2 : String) (p2 : Option String)
    (P : Nat → Nat → Prop) : Prop :=
  ∃ i1 q1 i2 q2 lo li, IcEnds C tl c1 p1 c2 p2 i1 q1 i2 q2 ∧
    (C.net.node i1).outPin q1 = some lo ∧ (C.net.node i2).inPin q2 = some li ∧ P lo li

section lines
variable {C : NNet} {tl : PinIdx} {c1 : String} {p1 : Option String} {c2 : String} {p2 : Option String}

theorem IcLines.congr {P Q : Nat → Nat → Prop}
    (h : ∀ i1 q1 i2 q2 lo li, IcEnds C tl c1 p1 c2 p2 i1 q1 i2 q2 → (C.net.node i1).outPin q1 = some lo →
      (C.net.node i2).inPin q2 = some li → (P lo li ↔ Q lo li)) :
    IcLines C tl c1 p1 c2 p2 P ↔ IcLines C tl c1 p1 c2 p2 Q :=
  ⟨fun ⟨i1, q1, i2, q2, lo, li, he, hlo, hli, hx⟩ => ⟨i1, q1, i2, q2, lo, li, he, hlo, hli, (h _ _ _ _ _ _ he hlo hli).mp hx⟩,
   fun ⟨i1, q1, i2, q2, lo, li, he, hlo, hli, hx⟩ => ⟨i1, q1, i2, q2, lo, li, he, hlo, hli, (h _ _ _ _ _ _ he hlo hli).mpr hx⟩⟩

theorem exists_pins_iff (x : IcExit) (hp : x ≠ .warnPin) :
    (∃ i1 q1 i2 q2, IcEnds C tl c1 p1 c2 p2 i1 q1 i2 q2 ∧ icPins C i1 q1 i2 q2 = x) ↔
      IcLines C tl c1 p1 c2 p2 fun lo li => icFork C lo li = x := by
  simp only [icPins_ne_warnPin_iff C _ _ _ _ x hp]
  exact ⟨fun ⟨i1, q1, i2, q2, he, lo, li, h⟩ => ⟨i1, q1, i2, q2, lo, li, he, h⟩,
    fun ⟨i1, q1, i2, q2, lo, li, he, h⟩ => ⟨i1, q1, i2, q2, he, lo, li, h⟩⟩

theorem icLookX_fork_iff (x : IcExit) (hr : x ≠ .raise) (hp : x ≠ .warnPin) :
    icLookX C tl c1 p1 c2 p2 = x ↔ IcLines C tl c1 p1 c2 p2 fun lo li => icFork C lo li = x := by
  rw [icLookX_eq_iff _ _ _ _ _ _ _ hr, exists_pins_iff x hp]

theorem icLookX_raise_fork_iff :
    icLookX C tl c1 p1 c2 p2 = .raise ↔
      IcUnresolved C tl c1 p1 c2 p2 ∨ IcLines C tl c1 p1 c2 p2 fun lo li => icFork C lo li = .raise := by
  rw [icLookX_raise_iff, exists_pins_iff _ (by simp)]
end lines

/-- line `l` exists and enters pin 0 of node `f` -/
def FeedsFork (C : NNet) (l f : Nat) : Prop :=
  l < C.net.lines.size ∧ (C.net.line l).reader = f ∧ (C.net.line l).rpin = 0

theorem forkIn_eq (n : NodeD) : forkIn n = n.inPin 0 := by
  unfold forkIn NodeD.inPin
  cases h : n.ins with
  | nil => rfl
  | cons a t => cases a <;> rfl

theorem forkIn_iff {C : NNet} (hwf : WF C) {f : Nat} (hk : (C.net.node f).isFork = true) (l : Nat) :
    forkIn (C.net.node f) = some l ↔ FeedsFork C l f := by
  rw [forkIn_eq]
  constructor
  · intro h; exact hwf.fwdIn f (isFork_lt hk) 0 l h
  · rintro ⟨hl, hr, hp⟩
    have := (hwf.back l hl).2.2.2
    rwa [hr, hp] at this

theorem outPin_dpin_iff {C : NNet} (hwf : WF C) {f : Nat} (hk : (C.net.node f).isFork = true) {l : Nat} (hl : l < C.net.lines.size) :
    (C.net.node f).outPin (C.net.line l).dpin = some l ↔ (C.net.line l).driver = f := by
  constructor
  · intro h; exact (hwf.fwdOut f (isFork_lt hk) _ l h).2.1
  · intro h
    have := (hwf.back l hl).2.2.1
    rwa [h] at this

theorem branchOK_iff {C : NNet} (hwf : WF C) {f1 f2 : Nat} (hk1 : (C.net.node f1).isFork = true)
    (hk2 : (C.net.node f2).isFork = true) (l : Nat) :
    BranchOK C f1 f2 l ↔ (C.net.node f2).outs.length = 1 ∧ FeedsFork C l f2 ∧ (C.net.line l).driver = f1 := by
  unfold BranchOK
  rw [forkIn_iff hwf hk2]
  constructor
  · rintro ⟨a, b, c⟩; exact ⟨a, b, (outPin_dpin_iff hwf hk1 b.1).mp c⟩
  · rintro ⟨a, b, c⟩; exact ⟨a, b, (outPin_dpin_iff hwf hk1 b.1).mpr c⟩

/-- **the place of an INTERCONNECT entry** (declarative): both ends resolve; `lo` leaves the origin pin, `li` enters the
destination pin; the reader `f1` of `lo` and the driver `f2` of `li` are forks; `f2` has one reader; `l` enters pin 0 of `f2`;
`f1 = f2` (sole line) or `l` is driven by `f1` (`f2` is a branch fork of the signal fork `f1`) -/
def IcPlace (C : NNet) (tl : PinIdx) (c1 : String) (p1 : Option String) (c2 : String) (p2 : Option String) (l : Nat) : Prop :=
  ∃ i1 i2 q1 q2 lo li, cellOf C c1 = some i1 ∧ cellOf C c2 = some i2 ∧
    endPin tl (C.net.node i1).kind p1 = some q1 ∧ endPin tl (C.net.node i2).kind p2 = some q2 ∧
    (C.net.node i1).outPin q1 = some lo ∧ (C.net.node i2).inPin q2 = some li ∧
    (C.net.node (C.net.line lo).reader).isFork = true ∧ (C.net.node (C.net.line li).driver).isFork = true ∧
    (C.net.node (C.net.line li).driver).outs.length = 1 ∧
    l < C.net.lines.size ∧ (C.net.line l).reader = (C.net.line li).driver ∧ (C.net.line l).rpin = 0 ∧
    ((C.net.line lo).reader = (C.net.line li).driver ∨
     ((C.net.line lo).reader ≠ (C.net.line li).driver ∧ (C.net.line l).driver = (C.net.line lo).reader))

/-- the clauses of `IcPlace` about the lines alone, once the ends are resolved to `lo`, `li` -/
def LinePlace (C : NNet) (lo li l : Nat) : Prop :=
  (C.net.node (C.net.line lo).reader).isFork = true ∧ (C.net.node (C.net.line li).driver).isFork = true ∧
  (C.net.node (C.net.line li).driver).outs.length = 1 ∧
  l < C.net.lines.size ∧ (C.net.line l).reader = (C.net.line li).driver ∧ (C.net.line l).rpin = 0 ∧
  ((C.net.line lo).reader = (C.net.line li).driver ∨
   ((C.net.line lo).reader ≠ (C.net.line li).driver ∧ (C.net.line l).driver = (C.net.line lo).reader))

theorem icPlace_iff {C : NNet} {tl : PinIdx} {c1 : String} {p1 : Option String} {c2 : String} {p2 : Option String} {l : Nat} :
    IcPlace C tl c1 p1 c2 p2 l ↔ IcLines C tl c1 p1 c2 p2 fun lo li => LinePlace C lo li l :=
  ⟨fun ⟨i1, i2, q1, q2, lo, li, a, b, c, d, e, f, g⟩ => ⟨i1, q1, i2, q2, lo, li, ⟨a, b, c, d⟩, e, f, g⟩,
   fun ⟨i1, q1, i2, q2, lo, li, ⟨a, b, c, d⟩, e, f, g⟩ => ⟨i1, i2, q1, q2, lo, li, a, b, c, d, e, f, g⟩⟩

/-- on a well-formed dump the fork decision answers `l` exactly at the place: `icFork_iff` with pins read as lines
(`forkIn_iff`, `outPin_dpin_iff`) -/
theorem icFork_line_place {C : NNet} (hwf : WF C) {lo li : Nat} (l : Nat) :
    icFork C lo li = .line l ↔ LinePlace C lo li l := by
  rw [icFork_iff]; dsimp only
  constructor
  · rintro ⟨h1, h2, h3, hfi, hc⟩
    obtain ⟨hl, hr, hp⟩ := (forkIn_iff hwf h2 l).mp hfi
    refine ⟨h1, h2, h3, hl, hr, hp, ?_⟩
    by_cases heq : (C.net.line lo).reader = (C.net.line li).driver
    · exact Or.inl heq
    · exact Or.inr ⟨heq, (outPin_dpin_iff hwf h1 hl).mp (hc.resolve_left heq)⟩
  · rintro ⟨h1, h2, h3, hl, hr, hp, hc⟩
    exact ⟨h1, h2, h3, (forkIn_iff hwf h2 l).mpr ⟨hl, hr, hp⟩, hc.imp_right fun h => (outPin_dpin_iff hwf h1 hl).mpr h.2⟩

/-- **soundness and completeness**: on a well-formed dump the look-up answers `l` exactly when `l` is the place of the entry -/
theorem icLook_line_iff (C : NNet) (hwf : WF C) (tl : PinIdx) (c1 : String) (p1 : Option String) (c2 : String)
    (p2 : Option String) (l : Nat) : icLook C tl c1 p1 c2 p2 = .line l ↔ IcPlace C tl c1 p1 c2 p2 l := by
  rw [← icLookX_line_iff, icLookX_fork_iff _ (by simp) (by simp), icPlace_iff]
  exact IcLines.congr fun _ _ _ _ _ _ _ _ _ => icFork_line_place hwf l

theorem icLook_line_spec (C : NNet) (hwf : WF C) (tl : PinIdx) (c1 : String) (p1 : Option String) (c2 : String)
    (p2 : Option String) (l : Nat) (h : icLook C tl c1 p1 c2 p2 = .line l) : IcPlace C tl c1 p1 c2 p2 l :=
  (icLook_line_iff C hwf tl c1 p1 c2 p2 l).mp h

theorem IcPlace.unique {C : NNet} (hwf : WF C) {tl : PinIdx} {c1 : String} {p1 : Option String} {c2 : String} {p2 : Option String}
    {l l' : Nat} (h : IcPlace C tl c1 p1 c2 p2 l) (h' : IcPlace C tl c1 p1 c2 p2 l') : l = l' := by
  have a := (icLook_line_iff C hwf tl c1 p1 c2 p2 l).mpr h
  have b := (icLook_line_iff C hwf tl c1 p1 c2 p2 l').mpr h'
  rw [a] at b
  exact Look.line.inj b

theorem icStruct_fork {C : NNet} (hst : icStructOKB C = true) {f : Nat}
    (hk : (C.net.node f).isFork = true) : ∃ l, (C.net.node f).ins = [some l] := by
  simp only [icStructOKB, List.all_eq_true, List.mem_range] at hst
  have := hst f (isFork_lt hk)
  simp only [hk, if_true, Bool.and_eq_true, beq_iff_eq] at this
  obtain ⟨h1, h2⟩ := this
  -- `h1` (length 1) leaves the two singleton shapes; `h2` (the entry is connected) refutes `[none]`
  match hins : (C.net.node f).ins, h1, h2 with
  | [some l], _, _ => exact ⟨l, rfl⟩
  | [none], _, h2 => simp at h2

theorem icStruct_cell {C : NNet} (hst : icStructOKB C = true) {i : Nat} (hi : i < C.net.nodes.size)
    (hk : (C.net.node i).isFork = false) :
    (∀ q lo, (C.net.node i).outPin q = some lo → (C.net.node (C.net.line lo).reader).isFork = true) ∧
    (∀ q li, (C.net.node i).inPin q = some li → (C.net.node (C.net.line li).driver).isFork = true) := by
  simp only [icStructOKB, List.all_eq_true, List.mem_range] at hst
  have := hst i hi
  simp only [hk, Bool.false_eq_true, if_false, Bool.and_eq_true, List.all_eq_true] at this
  exact ⟨fun _ _ h => this.1 _ (List.mem_of_getElem? (getD_eq_some_iff.mp h)),
    fun _ _ h => this.2 _ (List.mem_of_getElem? (getD_eq_some_iff.mp h))⟩

theorem icStruct_feeds {C : NNet} (hwf : WF C) (hst : icStructOKB C = true) {f : Nat}
    (hk : (C.net.node f).isFork = true) : ∃ l, FeedsFork C l f ∧ ∀ l', l' < C.net.lines.size → (C.net.line l').reader = f → l' = l := by
  obtain ⟨l, hl⟩ := icStruct_fork hst hk
  have h0 : forkIn (C.net.node f) = some l := by simp [forkIn, hl]
  refine ⟨l, (forkIn_iff hwf hk l).mp h0, ?_⟩
  intro l' hl' hr
  have := (hwf.back l' hl').2.2.2
  rw [hr, hl] at this
  have hlt := lt_of_getD_some this
  simp only [List.length_singleton, Nat.lt_one_iff] at hlt
  rw [hlt] at this
  simpa using this.symm

/-- what `icStructOKB` gives at the two pin lines: their far ends are forks, and `lo` enters pin 0 of its reader -/
structure IcCtx (C : NNet) (lo li : Nat) : Prop where
  fork1 : (C.net.node (C.net.line lo).reader).isFork = true
  fork2 : (C.net.node (C.net.line li).driver).isFork = true
  feeds : FeedsFork C lo (C.net.line lo).reader

theorem icCtx_of {C : NNet} (hwf : WF C) (hst : icStructOKB C = true) {tl : PinIdx} {c1 : String} {p1 : Option String}
    {c2 : String} {p2 : Option String} {i1 q1 i2 q2 lo li : Nat} (he : IcEnds C tl c1 p1 c2 p2 i1 q1 i2 q2)
    (hlo : (C.net.node i1).outPin q1 = some lo) (hli : (C.net.node i2).inPin q2 = some li) : IcCtx C lo li := by
  have s1 := cellOf_spec he.cell1
  have s2 := cellOf_spec he.cell2
  have k1 := (icStruct_cell hst s1.1 s1.2.2).1 _ _ hlo
  have k2 := (icStruct_cell hst s2.1 s2.2.2).2 _ _ hli
  obtain ⟨l, hl, huniq⟩ := icStruct_feeds hwf hst k1
  have := huniq lo (hwf.fwdOut i1 s1.1 q1 lo hlo).1 rfl
  subst this
  exact ⟨k1, k2, hl⟩

theorem icFork_line_struct {C : NNet} (hwf : WF C) (hst : icStructOKB C = true) {lo li : Nat} (hc : IcCtx C lo li) (l : Nat) :
    icFork C lo li = .line l ↔
      (C.net.node (C.net.line li).driver).outs.length = 1 ∧
      (((C.net.line lo).reader = (C.net.line li).driver ∧ l = lo) ∨
       ((C.net.line lo).reader ≠ (C.net.line li).driver ∧ FeedsFork C l (C.net.line li).driver ∧
          (C.net.line l).driver = (C.net.line lo).reader)) := by
  rw [icFork_iff]; dsimp only; rw [forkIn_iff hwf hc.fork2]
  simp only [hc.fork1, hc.fork2, true_and]
  constructor
  · rintro ⟨h1, h2, h3⟩
    refine ⟨h1, ?_⟩
    by_cases heq : (C.net.line lo).reader = (C.net.line li).driver
    · left
      obtain ⟨l0, _, huniq⟩ := icStruct_feeds hwf hst hc.fork2
      have a := huniq l h2.1 h2.2.1
      have b := huniq lo hc.feeds.1 heq
      exact ⟨heq, a.trans b.symm⟩
    · right
      rcases h3 with h3 | h3
      · exact absurd h3 heq
      · exact ⟨heq, h2, (outPin_dpin_iff hwf hc.fork1 h2.1).mp h3⟩
  · rintro ⟨h1, ⟨heq, rfl⟩ | ⟨hne, h2, h3⟩⟩
    · exact ⟨h1, heq ▸ hc.feeds, Or.inl heq⟩
    · exact ⟨h1, h2, Or.inr ((outPin_dpin_iff hwf hc.fork1 h2.1).mpr h3)⟩

theorem icFork_noBranch_struct {C : NNet} {lo li : Nat} (hc : IcCtx C lo li) :
    icFork C lo li = .warnNoBranch ↔
      (C.net.line lo).reader = (C.net.line li).driver ∧ (C.net.node (C.net.line li).driver).outs.length ≠ 1 := by
  rw [icFork_iff]
  simp only [hc.fork1, hc.fork2, true_and]

theorem icFork_raise_struct {C : NNet} (hwf : WF C) (hst : icStructOKB C = true) {lo li : Nat} (hc : IcCtx C lo li) :
    icFork C lo li = .raise ↔
      (C.net.line lo).reader ≠ (C.net.line li).driver ∧
      ¬ ((C.net.node (C.net.line li).driver).outs.length = 1 ∧
          ∃ l, FeedsFork C l (C.net.line li).driver ∧ (C.net.line l).driver = (C.net.line lo).reader) := by
  rw [icFork_iff]; dsimp only
  obtain ⟨l0, hl0, _⟩ := icStruct_feeds hwf hst hc.fork2
  have hfi : forkIn (C.net.node (C.net.line li).driver) ≠ none := by
    rw [(forkIn_iff hwf hc.fork2 l0).mpr hl0]; simp
  simp only [hc.fork1, hc.fork2, and_self, not_true_eq_false, false_or, hfi, and_false, or_false]
  constructor
  · rintro ⟨hne, h⟩
    refine ⟨hne, ?_⟩
    rintro ⟨h1, l, h2, h3⟩
    exact h ⟨l, (branchOK_iff hwf hc.fork1 hc.fork2 l).mpr ⟨h1, h2, h3⟩⟩
  · rintro ⟨hne, h⟩
    refine ⟨hne, ?_⟩
    rintro ⟨l, hb⟩
    obtain ⟨h1, h2, h3⟩ := (branchOK_iff hwf hc.fork1 hc.fork2 l).mp hb
    exact h ⟨h1, l, h2, h3⟩

end KV.Sdf
