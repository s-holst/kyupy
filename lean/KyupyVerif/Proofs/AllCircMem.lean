import KyupyVerif.Proofs.MemMapAccept
/-! Memory level for ALL circuits and BOTH `strip_forks` settings: for the tables the `SimOps` model builds (`simopsMap`),
after the op rows have run on memory the row of the output slot of interface node `n` holds the value that signal-level
execution of the UN-STRIPPED program computes on the line `l` this node captures. Composition of
* `simopsMap_accepted` (the map passes the certificate) and `MapSound.check_sound_rows` (accepted certificate ⇒ memory run
  = signal run of the rows with operands resolved through the stems),
* `simops_captured`: on the signal the slot captures that signal run carries the un-stripped value of the captured line — without
  `strip_forks` by definition, with it by `strip_sig_read` and `readsDrivenB` (a captured line is written by a row of the
  un-stripped program).
Second part: that signal-level program — with `strip_forks` the stripped schedule reading the stems whose memory the branches
share — is well ordered (`WOJ`) whenever the program facts `ProgOK` hold (`sigOps_WOJ`), hence for the `SimOps` model of every
well-formed netlist, topological order and both `strip_forks` settings (`simops_sig_WOJ`). -/
namespace KV
open KV.Sig KV.Wave

/-- with `strip_forks` the stripped schedule computes THE solution of the un-stripped gate equations on every signal that is
    not a stripped branch — any value domain, any dispatch that agrees with `spec` on the known codes and passes its first
    operand through `BUF1` -/
theorem logic_all_circuits_stripped {α : Type} (sem spec : Nat → List α → α)
    (heq : ∀ code, KnownCode code → ∀ xs, sem code xs = spec code xs) (dflt : α) (hbuf : ∀ xs, sem BUF1 xs = xs.getD 0 dflt)
    (net : Net) (order : List Nat) (hwf : net.wfB = true) (ho : orderOKB net order = true)
    (hf : forksOKB net order = true) (env val : Nat → α)
    (hval : SolvesJ (Jt net) (fun op => spec op.code) ((genOps Gen.kindPrefixes net order false).map OpRow.toOp) env val)
    (x : Nat) (hj : Jt net x = false) (hx : (stemsOf net true).getD x none = none) :
    exec sem ((genOps Gen.kindPrefixes net order true).map
        (fun r => (⟨r.lut, r.out, r.ins.map (viaStem (stemsOf net true))⟩ : Op))) env x = val x := by
  rw [(strip_sig_logic Gen.kindPrefixes net order hwf ho hf sem dflt hbuf env).1 x hx]
  exact ((logic_all_circuits sem spec heq net order false hwf ho env).2 val hval x hj).symm

/-- the signal an output slot captures (`src l`, in the signal-level program of the map record: operands through the stems) carries
    what the un-stripped program leaves on the captured line `l` -/
theorem simops_captured {α} (tbl : List PrefixRow) (net : Net) (order : List Nat)
    (strip : Bool) (capsIn : Nat → Nat) (capsMin : Nat) (reuse : Bool) (hwf : net.wfB = true)
    (ho : orderOKB net order = true) (hf : strip = true → forksOKB net order = true)
    (hr : readsDrivenB tbl net order = true)
    (f : Nat → List α → α) (dflt : α) (hbuf : strip = true → ∀ xs, f BUF1 xs = xs.getD 0 dflt) (env : Nat → α)
    (n i l : Nat) (hn : (n, i) ∈ net.sNodes.zipIdx) (hp : (net.node n).inPin 0 = some l) :
    exec f ((simopsMap tbl net order strip capsIn capsMin reuse).ops.map
        (MapSound.sigOp (simopsMap tbl net order strip capsIn capsMin reuse))) env
      ((simopsMap tbl net order strip capsIn capsMin reuse).src l) =
    exec f ((genOps tbl net order false).map OpRow.toOp) env l := by
  cases strip with
  | false =>
    rw [show (simopsMap tbl net order false capsIn capsMin reuse).src l = l from viaStem_false _ _,
      show (simopsMap tbl net order false capsIn capsMin reuse).ops.map
        (MapSound.sigOp (simopsMap tbl net order false capsIn capsMin reuse)) = (genOps tbl net order false).map OpRow.toOp from
      List.map_congr_left (fun r _ => sigOp_unstripped _ rfl r)]
  | true =>
    show exec f ((genOps tbl net order true).map (fun r => (⟨r.lut, r.out, r.ins.map (viaStem (stemsOf net true))⟩ : Op))) env
      (viaStem (stemsOf net true) l) = _
    refine strip_sig_read tbl net order hwf ho (hf rfl) f dflt (hbuf rfl) env l (.inr ?_)
    obtain ⟨o, ho', hoo⟩ := List.mem_map.mp
      ((readsDriven_spec hr).2 n (List.mem_of_getElem? (mem_zipIdx_getElem? hn)) l hp)
    exact ⟨o.toOp, List.mem_map_of_mem ho', hoo⟩

/-- **memory level, all circuits, both `strip_forks` settings, both `c_reuse` settings, every capacity vector**: the memory
    row of the output slot of the `i`-th interface node holds the signal-level value of the captured line `l` in the
    un-stripped program. Any value domain and code-indexed op semantics (with stripping: `BUF1` returns its first operand). -/
theorem simops_mem_value {α : Type} [Inhabited α] {tbl : List PrefixRow} {net : Net} {order : List Nat}
    {strip : Bool} {capsIn : Nat → Nat} {capsMin : Nat} {reuse : Bool} (hwf : net.wfB = true)
    (ho : orderOKB net order = true) (hf : strip = true → forksOKB net order = true)
    (hr : readsDrivenB tbl net order = true) (hpos : 0 < capsMin)
    (f : Nat → List α → α) (dflt : α) (hbuf : strip = true → ∀ xs, f BUF1 xs = xs.getD 0 dflt)
    {m0 : Int → α} {env0 : Nat → α}
    (h0 : ∀ x ∈ (simopsMap tbl net order strip capsIn capsMin reuse).tracked,
      (∀ o ∈ (simopsMap tbl net order strip capsIn capsMin reuse).ops, o.out ≠ x) →
        m0 ((simopsMap tbl net order strip capsIn capsMin reuse).loc x) = env0 x)
    {n i l : Nat} (hn : (n, i) ∈ net.sNodes.zipIdx) (hp : (net.node n).inPin 0 = some l) :
    MapSound.memRun (simopsMap tbl net order strip capsIn capsMin reuse) (MapSound.rowRW α) (fun o => f o.lut)
        (simopsMap tbl net order strip capsIn capsMin reuse).ops m0
        ((simopsMap tbl net order strip capsIn capsMin reuse).loc (net.idx.ppo + i)) =
      exec f ((genOps tbl net order false).map OpRow.toOp) env0 l := by
  have hc := simopsMap_accepted strip capsIn capsMin reuse hwf ho hf hr hpos
  exact (MapSound.check_sound_rows (simopsMap tbl net order strip capsIn capsMin reuse) hc hpos f m0 env0 h0 _ _
    (mem_ppoSrcs (simopsMap tbl net order strip capsIn capsMin reuse) hn hp)).trans
    (simops_captured tbl net order strip capsIn capsMin reuse hwf ho hf hr f dflt hbuf env0 n i l hn hp)

theorem captured_not_junk {net : Net} (hwf : net.wfB = true) {n l : Nat} (hp : (net.node n).inPin 0 = some l) :
    Jt net l = false := Jt_line (inPin_lt hwf hp).2

/-! ### `ProgOK` ⇒ `WOJ` -/

/-- a row never writes one of its own operands or an operand of an earlier row, and operands are never the scratch slot:
    an operand owns memory before its reader runs, the output of a row owns none before that row -/
theorem progOK_opnd_facts {p : MapIn} (hp : ProgOK p) {i : Nat} {a : OpRow} (hi : p.ops[i]? = some a) {x : Nat}
    (hx : x ∈ opSrcs p.stems a) :
    x ≠ p.ix.tmp ∧ ∀ (j : Nat) (b : OpRow), i ≤ j → p.ops[j]? = some b → b.out ≠ x := by
  obtain ⟨hal, _, ht, _⟩ := hp.operand_alloc hi hx
  exact ⟨ht, fun j b hij hj he => (hp.out_fresh hj (he ▸ ht)).1 (he ▸ hal.mono hij)⟩

theorem sigOps_WOJ (p : MapIn) (hp : ProgOK p) : WOJ (Jt p.net) (p.ops.map (MapSound.sigOp p)) := by
  have hJ : ∀ x, Jt p.net x = false ↔ x ≠ p.ix.tmp := by
    intro x; simp [Jt, MapIn.ix]
  constructor
  · rw [List.pairwise_map, List.pairwise_iff_getElem]
    intro i j hi hj hij
    have hi' : p.ops[i]? = some p.ops[i] := List.getElem?_eq_getElem hi
    have hj' : p.ops[j]? = some p.ops[j] := List.getElem?_eq_getElem hj
    refine ⟨fun hj0 he => ?_, fun x hx => ?_⟩
    · have := hp.writer_unique hi' hj' ((hJ _).mp hj0) he
      omega
    · exact (progOK_opnd_facts hp hi' hx).2 j _ (Nat.le_of_lt hij) hj'
  · intro o hom x hx
    obtain ⟨r, hr, rfl⟩ := List.mem_map.mp hom
    obtain ⟨i, hi⟩ := List.getElem?_of_mem hr
    have hf := progOK_opnd_facts hp hi hx
    exact ⟨(hJ x).mpr hf.1, fun he => hf.2 i r (Nat.le_refl _) hi he.symm⟩

/-- **every netlist, every order, both `strip_forks` settings**: the schedule of the `SimOps` model with operands resolved
    through the stems is well ordered (`ProgOK` does not look at the location tables, so the capacities `fun _ => 1`, `1` and
    `c_reuse = false` in the proof are arbitrary) -/
theorem simops_sig_WOJ (tbl : List PrefixRow) (net : Net) (order : List Nat) (strip : Bool) (hwf : net.wfB = true)
    (ho : orderOKB net order = true) (hf : strip = true → forksOKB net order = true)
    (hr : readsDrivenB tbl net order = true) :
    WOJ (Jt net) ((genOps tbl net order strip).map
      (fun r => (⟨r.lut, r.out, r.ins.map (viaStem (stemsOf net strip))⟩ : Op))) :=
  sigOps_WOJ (simopsMap tbl net order strip (fun _ => 1) 1 false)
    (simops_progOK tbl (simopsMap tbl net order strip (fun _ => 1) 1 false) order hwf ho hf hr rfl rfl)

end KV
