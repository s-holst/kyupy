import KyupyVerif.Proofs.HeapCanon
/-! Allocator histories inside the domain of the real `sim.Heap` (C08): positive requests, releases of the start of a LIVE chunk
only (`histOkB`); strict execution `runStrict`; the high-water mark of whole histories (`hist_maxSz_eq_peak`). Core Lean only (the
driver evaluates `histOkB` / `peak` on the harness' histories: `heaphist`). -/
namespace KV
open KV.Heap

namespace Heap

def liveStartB (h : Heap) (loc : Nat) : Bool := (h.used.map (·.1)).contains loc

def opOkB (h : Heap) : HOp → Bool
  | .alloc n => decide (0 < n)
  | .free loc => liveStartB h loc

def histOkB : Heap → List HOp → Bool
  | _, [] => true
  | h, op :: r => opOkB h op && histOkB (runOp h op) r

/-- strict execution: `none` as soon as a release fails (nothing is totalised) -/
def runStrict : Heap → List HOp → Option Heap
  | h, [] => some h
  | h, .alloc n :: r => runStrict (h.alloc n).2 r
  | h, .free loc :: r => match h.free loc with
    | some h' => runStrict h' r
    | none => none

theorem liveStart_free (h : Heap) (hi : HInv h) (loc : Nat) (hl : liveStartB h loc = true) : ∃ h', h.free loc = some h' := by
  cases hf : h.free loc with
  | some h' => exact ⟨h', rfl⟩
  | none =>
    exfalso
    simp only [liveStartB, List.contains_eq_mem, List.mem_map, decide_eq_true_eq] at hl
    obtain ⟨r, hr, he⟩ := hl
    exact free_none_no_start h hi loc hf r hr he

theorem opOk_of_histOk (ops : List HOp) : ∀ h, histOkB h ops = true → ∀ op ∈ ops, OpOk op := by
  induction ops with
  | nil => intro _ _ op hop; cases hop
  | cons o r ih =>
    intro h hk op hop
    simp only [histOkB, Bool.and_eq_true] at hk
    rcases List.mem_cons.mp hop with rfl | hm
    · cases op with
      | alloc n => simpa [opOkB, OpOk] using hk.1
      | free loc => trivial
    · exact ih _ hk.2 op hm

theorem hist_strict (ops : List HOp) : ∀ h, HInv h → histOkB h ops = true →
    HInv (ops.foldl runOp h) ∧ runStrict h ops = some (ops.foldl runOp h) := by
  induction ops with
  | nil => intro h hi _; exact ⟨hi, rfl⟩
  | cons op r ih =>
    intro h hi hk
    have hop := opOk_of_histOk (op :: r) h hk op List.mem_cons_self
    simp only [histOkB, Bool.and_eq_true] at hk
    have hi' := runOp_inv h op hop hi
    obtain ⟨i1, i2⟩ := ih _ hi' hk.2
    refine ⟨i1, ?_⟩
    cases op with
    | alloc n => simpa [runStrict, runOp] using i2
    | free loc =>
      obtain ⟨h', hf⟩ := liveStart_free h hi loc hk.1
      simp only [runStrict, hf, List.foldl_cons, runOp, Option.getD_some] at i2 ⊢
      exact i2

def peak : Heap → Nat → List HOp → Nat
  | _, M, [] => M
  | h, M, op :: r => peak (runOp h op) (max M (total (runOp h op).cs)) r

theorem alloc_hwm (h : Heap) (n : Nat) (hi : HInv h) :
    total (h.alloc n).2.cs ≤ (h.alloc n).2.maxSz ∧ h.maxSz ≤ (h.alloc n).2.maxSz ∧
    ((h.alloc n).2.maxSz = h.maxSz ∨ (h.alloc n).2.maxSz = total (h.alloc n).2.cs) := by
  unfold Heap.alloc
  split
  · rename_i loc cs' ha
    obtain ⟨ht, _⟩ := allocIn_spec n 0 h.cs loc cs' ha
    refine ⟨by simp only; rw [ht]; exact hi.hwm, Nat.le_refl _, Or.inl rfl⟩
  · simp only [total_append]
    have := hi.hwm
    omega

theorem hist_maxSz_eq_peak (ops : List HOp) (hok : ∀ op ∈ ops, OpOk op) :
    ∀ h, HInv h → (ops.foldl runOp h).maxSz = peak h h.maxSz ops := by
  induction ops with
  | nil => intro h _; rfl
  | cons op r ih =>
    intro h hi
    have hi' := runOp_inv h op (hok op List.mem_cons_self) hi
    simp only [List.foldl_cons, peak]
    rw [ih (fun o ho => hok o (List.mem_cons_of_mem _ ho)) _ hi']
    congr 1
    cases op with
    | alloc n =>
      have := alloc_hwm h n hi
      simp only [runOp]; omega
    | free loc =>
      simp only [runOp]
      cases hf : h.free loc with
      | none => simp; have := hi.hwm; omega
      | some h' =>
        simp
        have e := free_maxSz h h' loc hf
        obtain ⟨n, _, _, ht⟩ := free_spec h h' loc hi hf
        have := hi.hwm; omega

end Heap

end KV
