import KyupyVerif.Proofs.MemMapSpec
import KyupyVerif.Gen.Tables
/-! Concrete netlists for the non-vacuity examples of the `…_all_circuits` theorems (C02, C05, C16): the two-input AND with
an inverter of `C01.demoNet` / `C08.demoNet`, and the netlist with a two-branch fork and a chained fork of `C06.forkNet`
(copies, so that the property files need not import each other). All domain hypotheses hold (kernel-evaluated). -/
namespace KV.Demo
open KV KV.Sig

/-- input cells, forks, `AND2`, `INV1`, output cell (`C01.demoNet`) -/
def demoNet : Net :=
  { nodes := #[⟨"input", [], [some 0]⟩, ⟨"__fork__", [some 0], [some 2]⟩, ⟨"input", [], [some 1]⟩, ⟨"__fork__", [some 1], [some 3]⟩,
               ⟨"AND2", [some 2, some 3], [some 4]⟩, ⟨"INV1", [some 4], [some 5]⟩, ⟨"output", [some 5], []⟩],
    lines := #[⟨0, 0, 1, 0⟩, ⟨2, 0, 3, 0⟩, ⟨1, 0, 4, 0⟩, ⟨3, 0, 4, 1⟩, ⟨4, 0, 5, 0⟩, ⟨5, 0, 6, 0⟩],
    io := [0, 2, 6] }
def demoOrder : List Nat := [0, 2, 1, 3, 4, 5, 6]

theorem demo_hyps : demoNet.wfB = true ∧ orderOKB demoNet demoOrder = true ∧ forksOKB demoNet demoOrder = true ∧
    readsDrivenB Gen.kindPrefixes demoNet demoOrder = true := by decide +kernel

/-- its program: zero slot 6, scratch 7, input slots 9 and 10, output slot 14 -/
theorem demo_ops : genOps Gen.kindPrefixes demoNet demoOrder false =
    [⟨43690, 0, 9, 6, 6, 6⟩, ⟨43690, 1, 10, 6, 6, 6⟩, ⟨43690, 2, 0, 6, 6, 6⟩, ⟨43690, 3, 1, 6, 6, 6⟩,
     ⟨34952, 4, 2, 3, 6, 6⟩, ⟨21845, 5, 4, 6, 6, 6⟩] ∧ demoNet.idx.ppo = 12 ∧
    demoNet.sNodes.zipIdx = [(0, 0), (2, 1), (6, 2)] := by decide +kernel

/-- `a` (node 0) drives line 0, fork 1 has branches 1 and 2; branch 2 is read by the chained fork 2 with branch 3; `b` (node 3)
    drives line 4, fork 4 has branch 5; `6 = AND2(1, 5)`, `7 = OR2(3, 6)`, fork 7 with branch 8 feeds the output (`C06.forkNet`) -/
def forkNet : Net :=
  { nodes := #[⟨"input", [], [some 0]⟩, ⟨"__fork__", [some 0], [some 1, some 2]⟩, ⟨"__fork__", [some 2], [some 3]⟩,
               ⟨"input", [], [some 4]⟩, ⟨"__fork__", [some 4], [some 5]⟩, ⟨"AND2", [some 1, some 5], [some 6]⟩,
               ⟨"OR2", [some 3, some 6], [some 7]⟩, ⟨"__fork__", [some 7], [some 8]⟩, ⟨"output", [some 8], []⟩],
    lines := #[⟨0, 0, 1, 0⟩, ⟨1, 0, 5, 0⟩, ⟨1, 1, 2, 0⟩, ⟨2, 0, 6, 0⟩, ⟨3, 0, 4, 0⟩, ⟨4, 0, 5, 1⟩, ⟨5, 0, 6, 1⟩,
               ⟨6, 0, 7, 0⟩, ⟨7, 0, 8, 0⟩],
    io := [0, 3, 8] }
def forkOrder : List Nat := [0, 3, 1, 4, 2, 5, 6, 7, 8]

theorem fork_hyps : forkNet.wfB = true ∧ orderOKB forkNet forkOrder = true ∧ forksOKB forkNet forkOrder = true ∧
    readsDrivenB Gen.kindPrefixes forkNet forkOrder = true := by decide +kernel

/-- its two schedules (zero slot 9, scratch 10, input slots 12 and 13, output slot 17): the stripped one has no fork rows -/
theorem fork_ops : genOps Gen.kindPrefixes forkNet forkOrder false =
    [⟨0xAAAA, 0, 12, 9, 9, 9⟩, ⟨0xAAAA, 4, 13, 9, 9, 9⟩, ⟨0xAAAA, 1, 0, 9, 9, 9⟩, ⟨0xAAAA, 2, 0, 9, 9, 9⟩,
     ⟨0xAAAA, 5, 4, 9, 9, 9⟩, ⟨0xAAAA, 3, 2, 9, 9, 9⟩, ⟨0x8888, 6, 1, 5, 9, 9⟩, ⟨0xEEEE, 7, 3, 6, 9, 9⟩,
     ⟨0xAAAA, 8, 7, 9, 9, 9⟩] ∧
    genOps Gen.kindPrefixes forkNet forkOrder true =
    [⟨0xAAAA, 0, 12, 9, 9, 9⟩, ⟨0xAAAA, 4, 13, 9, 9, 9⟩, ⟨0x8888, 6, 1, 5, 9, 9⟩, ⟨0xEEEE, 7, 3, 6, 9, 9⟩] ∧
    forkNet.idx.ppo = 15 ∧ forkNet.sNodes.zipIdx = [(0, 0), (3, 1), (8, 2)] := by decide +kernel

end KV.Demo
