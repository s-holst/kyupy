import KyupyVerif.Proofs.WaveTerm
/-! Every time on the output stack is `tmin` or an operand entry plus one of the four delay entries of that operand's line
(`Reach`): the gate-level half of the static-timing window (C04). -/

namespace KV.Wave

def Reach (D : Delays) (ws : Fin 4 → List T) (x : T) : Prop :=
  x = T.tmin ∨ ∃ (i : Fin 4) (e : T) (p q : Bool), e ∈ ws i ∧ x = e.add (D i p q)

theorem cur_reach {D : Delays} {terms : Fin 4 → T} (hterm : ∀ i, (terms i).isTerm = true) (ws) (s : St) (hd : DInv ws s) (hlt : T.lt (cur D terms s) .tmax = true) :
    Reach D ws (cur D terms s) := by
  obtain ⟨x, xs, hr, hc⟩ := event hterm s hlt
  exact Or.inr ⟨_, x, _, _, List.mem_of_mem_drop ((hd _).1 ▸ hr ▸ List.mem_cons_self), hc⟩

theorem step_member (E : Env) (ws) (s : St) (hd : DInv ws s) (hlt : T.lt (cur E.D E.terms s) .tmax = true)
    (h : ∀ x ∈ s.z, Reach E.D ws x) : ∀ x ∈ (step E.lut E.D E.terms E.zcap s).z, Reach E.D ws x := by
  have hc := cur_reach E.hterm ws s hd hlt
  exact step_ind (P := fun s' => ∀ x ∈ s'.z, Reach E.D ws x) _ _ _ _ s (fun _ => h)
    (fun _ _ _ x hx => (List.mem_cons.mp hx).elim (· ▸ hc) (h x))
    (fun _ _ x hx => h x (List.mem_of_mem_tail hx)) (fun _ _ _ _ x hx => h x (List.mem_of_mem_tail hx))

theorem run_member (E : Env) (ws) (fuel : Nat) (s : St) (hd : DInv ws s) (h : ∀ x ∈ s.z, Reach E.D ws x) :
    ∀ x ∈ (run E.lut E.D E.terms E.zcap fuel s).z, Reach E.D ws x :=
  (run_inv (P := fun s => DInv ws s ∧ ∀ x ∈ s.z, Reach E.D ws x)
    (fun s h hlt => ⟨step_dinv E.lut E.hterm E.zcap ws s h.1 hlt, step_member E ws s h.1 hlt h.2⟩) fuel s ⟨hd, h⟩).2

end KV.Wave
