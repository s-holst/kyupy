import KyupyVerif.Model.SdfWave
import KyupyVerif.Proofs.SdfCirc
import KyupyVerif.Proofs.GenOpsWO
/-! Timing data path, the tables of a netlist: the pin table and the fork table read off a netlist (`netPinLine`, `netIcLine`,
Model/SdfWave.lean) ARE the tables of the look-ups of Model/SdfCirc.lean on the dump `⟨net, names⟩` — for every dump (`netPinLine_eq`, `netIcLine_eq`),
so every statement about `pinLook` / `icLook` is one about them. Read off here under `Net.wfB`: an IOPATH goes to the line whose
reader is the named cell at the named pin; an INTERCONNECT goes to a line whose reader is a fork; hence no line is reached by both
loops. -/
namespace KV.SdfWave
open KV KV.Sdf KV.Transform

theorem find?_idxOf_map {α β : Type} [BEq β] [LawfulBEq β] (l : List α) (f : α → β) (b : β) :
    l.find? (fun i => f i == b) = l[(l.map f).idxOf b]? := by
  induction l with
  | nil => rfl
  | cons a r ih =>
    simp only [List.find?_cons, List.map_cons, List.idxOf_cons]
    cases h : f a == b <;> simp [ih]

theorem findCell_eq (net : Net) (names : Array String) (c : String) :
    findCell net names c = cellOf ⟨net, names⟩ c := by
  unfold findCell cellOf NNet.lookup NNet.keys
  have : (fun i => !(net.node i).isFork && names.getD i "" == c) = fun i => NNet.key ⟨net, names⟩ i == (c, false) := by
    funext i
    rw [Bool.eq_iff_iff]
    cases h : (net.node i).isFork <;> simp [NNet.key, h]
  rw [this, find?_idxOf_map]
  simp only
  split
  · rename_i h; rw [List.getElem?_range h]
  · rename_i h; rw [List.getElem?_eq_none (by simpa using h)]

theorem netPinLine_eq (net : Net) (names : Array String) (tl : PinIdx) :
    netPinLine net names tl = pinLineOf ⟨net, names⟩ tl := by
  funext cell pin
  unfold netPinLine pinLineOf pinLook
  rw [findCell_eq]
  cases cellOf ⟨net, names⟩ cell with
  | none => rfl
  | some i =>
    simp only [Option.bind_some]
    cases h : tl (net.node i).kind pin with
    | none => rfl
    | some k =>
      simp only [Option.bind_some]
      split
      · cases (net.node i).inPin k <;> rfl
      · -- a pin index beyond the pin list: `cell.ins[k]` raises, `getD` answers `none`; both are "no line"
        simp only [Look.toOpt, NodeD.inPin]
        rw [List.getD_eq_getElem?_getD, List.getElem?_eq_none (by omega)]; rfl

theorem pinOr0_eq (tl : PinIdx) (kind : String) (p : Option String) : pinOr0 tl kind p = endPin tl kind p := by
  cases p <;> rfl

theorem netIcLine_eq (net : Net) (names : Array String) (tl : PinIdx) :
    netIcLine net names tl = icLineOf ⟨net, names⟩ tl := by
  funext c1 p1 c2 p2
  unfold netIcLine icLineOf icLook
  simp only [findCell_eq, pinOr0_eq, forkIn_eq]
  cases cellOf ⟨net, names⟩ c1 <;> cases cellOf ⟨net, names⟩ c2 <;> try rfl
  rename_i i1 i2
  simp only [Option.bind_some]
  cases endPin tl (net.node i1).kind p1 <;> cases endPin tl (net.node i2).kind p2 <;> try rfl
  rename_i q1 q2
  simp only [Option.bind_some]
  cases (net.node i1).outPin q1 <;> try rfl
  cases (net.node i2).inPin q2 <;> try rfl
  rename_i lo li
  simp only [Option.bind_some]
  split
  · rfl
  · cases (net.node (net.line li).driver).inPin 0 with
    | none =>
      simp only [Option.bind_none]
      repeat' split
      all_goals rfl
    | some l =>
      simp only [Option.bind_some]
      repeat' split
      all_goals rfl

/-- **where an IOPATH goes**: the line `netPinLine` names is the line whose reader is the cell of that name (not a fork) at the
pin position the library gives for the pin name -/
theorem netPinLine_spec {net : Net} (hwf : net.wfB = true) {names : Array String} {pinIdx : PinIdx} {cell pin : String}
    {l : Nat} (h : netPinLine net names pinIdx cell pin = some l) :
    ∃ i k, findCell net names cell = some i ∧ names.getD i "" = cell ∧ (net.node i).isFork = false ∧
      pinIdx (net.node i).kind pin = some k ∧ l < net.lines.size ∧ (net.line l).reader = i ∧ (net.line l).rpin = k := by
  rw [netPinLine_eq] at h
  obtain ⟨i, k, hc, hk, hl⟩ := pinLook_line_sound (C := ⟨net, names⟩)
    (fun i hi p l hp => wf_in hwf hi (inPin_some hp)) (Look.toOpt_eq_some.mp h)
  exact ⟨i, k, (findCell_eq net names cell).trans hc, (cellOf_spec hc).2.1, (cellOf_spec hc).2.2, hk, hl⟩

/-- **where an INTERCONNECT goes**: the reader of the line `netIcLine` names is a fork (the branch fork in front of the reader
pin, or the only fork of a signal without fan-out) -/
theorem netIcLine_reader_fork {net : Net} (hwf : net.wfB = true) {names : Array String} {pinIdx : PinIdx}
    {c1 c2 : String} {p1 p2 : Option String} {l : Nat} (h : netIcLine net names pinIdx c1 p1 c2 p2 = some l) :
    l < net.lines.size ∧ (net.node (net.line l).reader).isFork = true := by
  rw [netIcLine_eq] at h
  obtain ⟨_, _, _, _, lo, li, _, _, _, hf⟩ :=
    (icLookX_fork_iff (.line l) (by simp) (by simp)).mp ((icLookX_line_iff _ _ _ _ _ _ l).mpr (Look.toOpt_eq_some.mp h))
  obtain ⟨_, hf2, _, hin, _⟩ := (icFork_iff _ lo li (.line l)).mp hf
  obtain ⟨h1, h2, _⟩ := wf_in hwf (isFork_lt hf2) (inPin_some (forkIn_eq _ ▸ hin))
  exact ⟨h1, h2 ▸ hf2⟩

theorem net_tables_disjoint {net : Net} (hwf : net.wfB = true) (names : Array String) (pinIdx : PinIdx)
    {cell pin : String} {l : Nat} (h : netPinLine net names pinIdx cell pin = some l)
    (c1 : String) (p1 : Option String) (c2 : String) (p2 : Option String) :
    netIcLine net names pinIdx c1 p1 c2 p2 ≠ some l := by
  intro h2
  obtain ⟨i, k, _, _, hnf, _, _, hr, _⟩ := netPinLine_spec hwf h
  have := (netIcLine_reader_fork hwf h2).2
  rw [hr, hnf] at this
  cases this

end KV.SdfWave
