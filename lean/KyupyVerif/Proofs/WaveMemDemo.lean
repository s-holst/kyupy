import KyupyVerif.Proofs.WaveMemCirc
import KyupyVerif.Proofs.AllCircDemo
/-! A concrete instance for the non-vacuity examples of the memory-level theorems (C03, C04, C05, C13):
`o = INV1(AND2(a, b))` with a fork behind each input (the netlist of `C01.demoNet` / `C08.demoNet`), laid out as
`WaveSim(c_caps=4, c_reuse=True, strip_forks=True)` does: zero slot at 0, scratch slots at 4 and 8, input slots at 12 and
16, line 0 (and its stripped branch 2) at 20, line 1 (and branch 3) at 24, line 4 at 28, line 5 — re-using the region of
line 0 — and the output slot at 20. -/
namespace KV.Wave
open KV KV.Sig KV.MapSound

def memDemoNet : Net :=
  { nodes := #[⟨"input", [], [some 0]⟩, ⟨"__fork__", [some 0], [some 2]⟩, ⟨"input", [], [some 1]⟩, ⟨"__fork__", [some 1], [some 3]⟩,
               ⟨"AND2", [some 2, some 3], [some 4]⟩, ⟨"INV1", [some 4], [some 5]⟩, ⟨"output", [some 5], []⟩],
    lines := #[⟨0, 0, 1, 0⟩, ⟨2, 0, 3, 0⟩, ⟨1, 0, 4, 0⟩, ⟨3, 0, 4, 1⟩, ⟨4, 0, 5, 0⟩, ⟨5, 0, 6, 0⟩],
    io := [0, 2, 6] }
def memDemoOrder : List Nat := [0, 2, 1, 3, 4, 5, 6]

theorem memDemo_hyps : memDemoNet.wfB = true ∧ orderOKB memDemoNet memDemoOrder = true ∧
    forksOKB memDemoNet memDemoOrder = true ∧ readsDrivenB Gen.kindPrefixes memDemoNet memDemoOrder = true := by
  rw [show memDemoNet = Demo.demoNet from rfl, show memDemoOrder = Demo.demoOrder from rfl]
  exact Demo.demo_hyps

def memDemo : MapIn := simopsMap Gen.kindPrefixes memDemoNet memDemoOrder true (fun _ => 4) 4 true

theorem memDemo_tables : memDemo.locs = #[20, 24, 20, 24, 28, 20, 0, 4, 8, 12, 16, -1, -1, -1, 20] ∧
    memDemo.caps = #[4, 4, 4, 4, 4, 4, 4, 4, 4, 4, 4, 0, 0, 0, 4] ∧ memDemo.ppiSlots = [9, 10] ∧
    memDemo.ppoSrcs = [(14, 5)] ∧ memDemo.starts = [0, 2, 3] ∧ memDemo.schedOKB [1, 0, 2, 3] = true := by decide +kernel

theorem memDemo_check : memDemo.check = none :=
  simopsMap_accepted true (fun _ => 4) 4 true memDemo_hyps.1
    memDemo_hyps.2.1 (fun _ => memDemo_hyps.2.2.1) memDemo_hyps.2.2.2 (by decide)

theorem memDemo_out : memDemo.loc 14 = 20 ∧ memDemo.cap 14 = 4 ∧ (14, 5) ∈ memDemo.ppoSrcs := by
  refine ⟨?_, ?_, ?_⟩
  · rw [MapIn.loc, memDemo_tables.1]; rfl
  · rw [MapIn.cap, memDemo_tables.2.1]; rfl
  · rw [memDemo_tables.2.2.2.1]; exact List.mem_singleton.2 rfl

/-- initial memory: `a` rises at 5 (cell 12), `b` is constant 1 (`TMIN` in cell 16), everything else is `TMAX` -/
def memDemoM0 : Int → T := fun a => if a = 12 then T.fin 5 else if a = 16 then T.tmin else T.tmax
def memDemoDelay : Nat → Bool → Bool → Int := fun _ _ _ => 1
theorem memDemoDelay_nonneg : ∀ l a b, 0 ≤ memDemoDelay l a b := fun _ _ _ => (by decide : (0 : Int) ≤ 1)

theorem memDemo_env : inputEnv memDemo memDemoM0 9 = ⟨[T.fin 5], T.tmax⟩ ∧ inputEnv memDemo memDemoM0 10 = ⟨[T.tmin], T.tmax⟩ ∧
    inputEnv memDemo memDemoM0 6 = Wv.empty := by decide +kernel

theorem memDemo_env_cases (P : Nat → Wv → Prop) (h9 : P 9 ⟨[T.fin 5], T.tmax⟩) (h10 : P 10 ⟨[T.tmin], T.tmax⟩)
    (hrest : ∀ l, l ≠ 9 → l ≠ 10 → P l Wv.empty) : ∀ l, P l (inputEnv memDemo memDemoM0 l) := by
  intro l
  by_cases e9 : l = 9
  · subst e9; rw [memDemo_env.1]; exact h9
  · by_cases e10 : l = 10
    · subst e10; rw [memDemo_env.2.1]; exact h10
    · by_cases e6 : l = 6
      · subst e6; rw [memDemo_env.2.2]; exact hrest 6 (by decide) (by decide)
      · have : inputEnv memDemo memDemoM0 l = Wv.empty := by
          unfold inputEnv
          rw [memDemo_tables.2.2.1, if_neg]
          simp only [List.mem_cons, List.not_mem_nil, or_false]
          rintro ((h | h) | h)
          · exact e9 h
          · exact e10 h
          · exact e6 h
        rw [this]; exact hrest l e9 e10

theorem memDemo_inputs : ∀ x, x ∈ memDemo.ppiSlots ∨ x = memDemo.ix.zero →
    (rdWave (memDemo.loc x) (memDemo.cap x) memDemoM0).ok := by
  intro x hx
  have e : rdWave (memDemo.loc x) (memDemo.cap x) memDemoM0 = inputEnv memDemo memDemoM0 x := (if_pos hx).symm
  rw [e]
  refine memDemo_env_cases (fun _ w => w.ok) ?_ ?_ (fun _ _ _ => Wv.empty_ok) x
  · simp only [Wv.ok, WfRem]; decide
  · simp only [Wv.ok, WfRem]; decide

/-- a propagation of the demo: the deterministic evaluator with arbitrary left-overs, the two input rows swapped -/
theorem memDemo_run (junk : Int → Nat → Wv → (Int → T) → Int → T) :
    WaveRun memDemo (wcfg memDemo memDemoDelay) (schedOps memDemo [1, 0, 2, 3]) memDemoM0
      (memRun memDemo (waveRW junk) (waveRow (wcfg memDemo memDemoDelay) memDemo) (schedOps memDemo [1, 0, 2, 3]) memDemoM0) :=
  wave_memRun_ok memDemo memDemo_check (by decide) memDemoDelay memDemoDelay_nonneg junk [1, 0, 2, 3]
    (schedOKB_sound _ _ memDemo_tables.2.2.2.2.2).1 memDemoM0 (inputEnv memDemo memDemoM0)
    (inputEnv_ok memDemo memDemoM0 memDemo_inputs) (stimulus_inputEnv memDemo memDemoM0)

theorem memDemo_propagated (junk : Int → Nat → Wv → (Int → T) → Int → T) :
    Propagated memDemo memDemoDelay memDemoM0
      (memRun memDemo (waveRW junk) (waveRow (wcfg memDemo memDemoDelay) memDemo) (schedOps memDemo [1, 0, 2, 3]) memDemoM0) :=
  ⟨[1, 0, 2, 3], memDemo_tables.2.2.2.2.2, memDemo_run junk⟩

/-- the signal-level result for the captured line 5: initially 1, falls at 5 + 3 gate delays -/
theorem memDemo_sim : simWave (wcfg memDemo memDemoDelay) (waveProg memDemo) (inputEnv memDemo memDemoM0) 5 =
    ⟨[T.tmin, T.fin 8], T.tmax⟩ := by decide +kernel

end KV.Wave
