import KyupyVerif.Proofs.DataPathArr
/-! String level of the data path: `simStrings` = `mv_str ∘ simArr ∘ mvarray`, generic in the arity; independence of a pattern's
result from the other patterns; the one-pattern (1-D) form. -/
namespace KV.DP
open KV KV.Sig KV.Cycle KV.Enc

section
variable {β : Type} (R : Arity β)

/-- **a pattern's result depends on that pattern only**: two arrays (any pattern counts `P`, `P'`) that carry the same values
    in pattern `p` resp. `p'` give the same results there — the other patterns, the position inside the batch, the number of
    patterns and the padding lanes are irrelevant -/
theorem simArr_indep (tbl : List PrefixRow) (net : Net) (order : List Nat) (strip : Bool) (a a' : Arr Nat)
    (hwf : a.wf = true) (hS : a.lead = [net.sNodes.length]) (hwf' : a'.wf = true) (hS' : a'.lead = [net.sNodes.length])
    (p p' : Nat) (hp : p < a.last) (hp' : p' < a'.last)
    (hcol : a.rows.map (·.getD p 0) = a'.rows.map (·.getD p' 0)) :
    ∃ r r', simArr R.C (fun nb op => R.semW nb op.code) tbl net order strip a = some r ∧
      simArr R.C (fun nb op => R.semW nb op.code) tbl net order strip a' = some r' ∧
      ∀ q, q < net.sNodes.length → (r.rows.getD q []).getD p 0 = (r'.rows.getD q []).getD p' 0 := by
  obtain ⟨r, hr, _, _, _, he⟩ := simArr_entries R tbl net order strip a hwf hS
  obtain ⟨r', hr', _, _, _, he'⟩ := simArr_entries R tbl net order strip a' hwf' hS'
  refine ⟨r, r', hr, hr', fun q hq => ?_⟩
  rw [he q p hq hp, he' q p' hq hp']
  have : column R.ofCode a p = column R.ofCode a' p' := by
    have := congrArg (List.map R.ofCode) hcol
    simpa [column, List.map_map, Function.comp_def] using this
  rw [this]

theorem simArr_1d (sem : ∀ nb, Op → List (R.A nb) → R.A nb) (tbl : List PrefixRow) (net : Net) (order : List Nat) (strip : Bool)
    (v : List Nat) :
    simArr R.C sem tbl net order strip ⟨[], v.length, [v]⟩ = simArr R.C sem tbl net order strip ⟨[v.length], 1, v.map ([·])⟩ := by
  simp [simArr, mvToBp, patterns]

theorem column_mvarray (itbl : List (Nat × Nat)) (ss : List (List Nat)) (S : Nat) (hu : ∀ s ∈ ss, s.length = S) (p : Nat)
    (hp : p < ss.length) :
    ((List.range S).map fun j => (ss.map (·.map (interpretWith itbl))).map (·.getD j 0)).map (fun row => R.ofCode (row.getD p 0))
      = (ss.getD p []).map fun c => R.ofCode (interpretWith itbl c) := by
  have hsp : ss.getD p [] = ss[p] := by simp [List.getD_eq_getElem?_getD, List.getElem?_eq_getElem hp]
  have hlen : ss[p].length = S := hu _ (List.getElem_mem hp)
  rw [hsp, List.map_map, ← range_map_getD ss[p] 0, hlen]
  apply range_map_congr
  intro j hj
  simp only [Function.comp, List.map_map]
  congr 1
  simp [List.getD_eq_getElem?_getD, List.getElem?_map, List.getElem?_eq_getElem hp, hlen, hj]

/-- `mv_str` of a well-formed 2-D array `[sig][pat]` whose entries have a render character: one line per pattern -/
theorem mvStr_2d_rows (chars delim : List Nat) (a : Arr Nat) (S : Nat) (hw : a.wf = true) (hl : a.lead = [S])
    (hlt : ∀ q p, q < a.rows.length → p < a.last → (a.rows.getD q []).getD p 0 < chars.length) :
    mvStr chars delim a =
      some (delim.intercalate ((List.range a.last).map fun p => a.rows.map fun r => chars.getD (r.getD p 0) 0)) := by
  have hany : a.rows.any (·.any (· ≥ chars.length)) = false := by
    obtain ⟨_, hrow⟩ := (wf_iff a).mp hw
    rw [List.any_eq_false]
    intro row hrow'
    rw [Bool.not_eq_true, List.any_eq_false]
    intro x hx
    obtain ⟨q, hq, rfl⟩ := List.getElem_of_mem hrow'
    obtain ⟨p, hp, rfl⟩ := List.getElem_of_mem hx
    have := hlt q p hq (by rw [← hrow _ hrow']; exact hp)
    simp only [List.getD_eq_getElem?_getD, List.getElem?_eq_getElem hq, Option.getD_some,
      List.getElem?_eq_getElem hp] at this
    simp only [ge_iff_le, decide_eq_true_eq, Nat.not_le]
    omega
  simp only [mvStr, hany, Bool.false_eq_true, if_false, hl]

/-- **array → text, every arity**: for a well-formed array of shape `(S, P)`, `mv_str` of the result array: character `q` of
    line `p` renders the code of the one-lane simulation of pattern `p` -/
theorem simArr_render (hcode : ∀ b, R.code b < 8) (chars delim : List Nat) (hch : 8 ≤ chars.length)
    (tbl : List PrefixRow) (net : Net) (order : List Nat) (strip : Bool) (a : Arr Nat)
    (hwf : a.wf = true) (hS : a.lead = [net.sNodes.length]) :
    (simArr R.C (fun nb op => R.semW nb op.code) tbl net order strip a).bind (mvStr chars delim) =
      some (delim.intercalate ((List.range a.last).map fun p => (List.range net.sNodes.length).map fun q =>
        chars.getD (if isPoppo net q then
          R.code (laneRun R.ofCode R.semL tbl net order strip (column R.ofCode a p) (capSig net strip q)) else 2) 0)) := by
  obtain ⟨r, hr, hlead, hlast, hrwf, he⟩ := simArr_entries R tbl net order strip a hwf hS
  obtain ⟨hrlen, _⟩ := (wf_iff r).mp hrwf
  have hrlen' : r.rows.length = net.sNodes.length := by rw [hrlen, hlead]; simp
  rw [hr, Option.bind_some, mvStr_2d_rows chars delim r _ hrwf hlead, hlast]
  · congr 2
    apply range_map_congr
    intro p hp
    rw [← range_map_getD r.rows [], hrlen']
    apply range_map_congr
    intro q hq
    rw [he q p hq hp]
  · intro q p hq hp
    rw [he q p (by omega) (by omega)]
    split
    · exact Nat.lt_of_lt_of_le (hcode _) hch
    · omega

/-- **string level, every arity**: `P ≥ 2` pattern strings of length `S = len(s_nodes) ≠ 1` in, `P` result strings out
    (one line per pattern, joined by `delim`): character `q` of line `p` renders the R.code of the one-lane simulation of string
    `p` (its characters interpreted) at the signal position `q` captures; `chars[2]` (UNASSIGNED) where nothing is captured. -/
theorem simStrings_eq (hcode : ∀ b, R.code b < 8) (itbl : List (Nat × Nat)) (chars delim : List Nat) (hch : 8 ≤ chars.length)
    (tbl : List PrefixRow) (net : Net) (order : List Nat) (strip : Bool) (ss : List (List Nat))
    (hu : ∀ s ∈ ss, s.length = net.sNodes.length) (hP : 2 ≤ ss.length) (hS1 : net.sNodes.length ≠ 1) :
    simStrings R.C (fun nb op => R.semW nb op.code) itbl chars delim tbl net order strip ss =
      some (delim.intercalate ((List.range ss.length).map fun p => (List.range net.sNodes.length).map fun q =>
        chars.getD (if isPoppo net q then
          R.code (laneRun R.ofCode R.semL tbl net order strip ((ss.getD p []).map fun c => R.ofCode (interpretWith itbl c))
            (capSig net strip q)) else 2) 0)) := by
  unfold simStrings
  rw [mvarray_2d itbl ss _ hu hP hS1, Option.bind_some,
    simArr_render R hcode chars delim hch tbl net order strip _ (by simp [wf_iff]) rfl]
  congr 2
  apply range_map_congr
  intro p hp
  simp only [column, column_mvarray R itbl ss _ hu p hp]

/-- **one pattern string** (`P = 1`, any `S`): `mvarray` gives a 1-D array, `mv_to_bp` reads it as one pattern; the result is one
    line -/
theorem simStrings_single (hcode : ∀ b, R.code b < 8) (itbl : List (Nat × Nat)) (chars delim : List Nat) (hch : 8 ≤ chars.length)
    (tbl : List PrefixRow) (net : Net) (order : List Nat) (strip : Bool) (s : List Nat) (hu : s.length = net.sNodes.length) :
    simStrings R.C (fun nb op => R.semW nb op.code) itbl chars delim tbl net order strip [s] =
      some ((List.range net.sNodes.length).map fun q =>
        chars.getD (if isPoppo net q then
          R.code (laneRun R.ofCode R.semL tbl net order strip (s.map fun c => R.ofCode (interpretWith itbl c)) (capSig net strip q))
          else 2) 0) := by
  unfold simStrings
  have h1 := simArr_1d R (fun nb op => R.semW nb op.code) tbl net order strip (s.map (interpretWith itbl))
  rw [List.length_map] at h1
  rw [mvarray_single, Option.bind_some, h1,
    simArr_render R hcode chars delim hch tbl net order strip _ (by simp [wf_iff]) (by rw [hu])]
  simp [column, List.map_map, Function.comp_def, List.intercalate]

end

end KV.DP
