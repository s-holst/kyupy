import KyupyVerif.Proofs.WaveMemSound
import KyupyVerif.Proofs.AllCircMem
import KyupyVerif.Proofs.WaveCircuit
/-! All-circuits support for C05.  What C05 needs of the op semantics on the rows of the scheduler model: every row carries the code of
one of the 33 simulation primitives (`genOps_known`, Proofs/AllCirc.lean), and `semL8` reads the first four operands only.  The
configuration hypothesis `WCfg.Good` of the program generated from a netlist follows from "delays ≥ 0, capacity ≥ 4 on every line and
on the scratch slot"; the eight-index rows of the stripped WaveSim schedule (`redirect`: value sources = stems, delay lines = branches)
mean the same as the four-index stripped rows for a semantics that reads four operands (LogicSim): `exec8_redirect`, the instance of
`Wave.exec_first4` for `semL8`. -/
namespace KV
open KV.Sig KV.Wave

theorem genOps_known_rows (net : Net) (order : List Nat) (strip : Bool) :
    ∀ o ∈ genOps Gen.kindPrefixes net order strip, KnownCode o.lut :=
  fun o ho => genOps_known net order strip o.toOp (List.mem_map_of_mem ho)

theorem first4_semL8 : First4 semL8 := by
  intro code xs ys h
  unfold semL8
  simp only [arg]
  rw [getD_append4 xs ys h 0 (by omega), getD_append4 xs ys h 1 (by omega), getD_append4 xs ys h 2 (by omega),
    getD_append4 xs ys h 3 (by omega)]

theorem good_of_caps (tbl : List PrefixRow) (cfg : WCfg) (net : Net) (order : List Nat) (strip : Bool)
    (hwf : net.wfB = true) (ho : orderOKB net order = true)
    (hd : ∀ l p q, 0 ≤ cfg.delay l p q) (hc : ∀ l, l < net.lines.size → 4 ≤ cfg.cap l) (ht : 4 ≤ cfg.cap net.idx.tmp) :
    cfg.Good ((genOps tbl net order strip).map OpRow.toOp) := by
  refine ⟨hd, fun op hop => ?_⟩
  rcases genOps_out_line tbl net order strip hwf ho op hop with h | h
  · rw [h]; exact ht
  · exact hc _ h

theorem good_map {ρ} (cfg : WCfg) (rows : List ρ) (g1 g2 : ρ → Op) (h : ∀ r, (g2 r).out = (g1 r).out)
    (hg : cfg.Good (rows.map g1)) : cfg.Good (rows.map g2) := by
  refine ⟨hg.delay_nonneg, fun op hop => ?_⟩
  obtain ⟨r, hr, rfl⟩ := List.mem_map.mp hop
  rw [h]
  exact hg.cap_ge (g1 r) (List.mem_map_of_mem hr)

theorem exec8_redirect (tbl : List PrefixRow) (net : Net) (order : List Nat) (env : Nat → V3) :
    exec semL8 ((genOps tbl net order true).map (fun r => redirect (stemList net) r.toOp)) env =
      exec semL8 ((genOps tbl net order true).map
        (fun r => (⟨r.lut, r.out, r.ins.map (viaStem (stemsOf net true))⟩ : Op))) env := by
  rw [← funext (src_stemList net)]
  exact exec_first4 semL8 first4_semL8 OpRow.lut OpRow.out (fun r => r.ins.map (src (stemList net))) OpRow.ins (fun _ => rfl) _ env

end KV
