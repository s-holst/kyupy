import KyupyVerif.Proofs.TransformSplice
/-! C10, the semantic statement about `substitute`: its vocabulary — `ConsOff` (consistency outside a set of holes) with its congruences
(in the hole set: `consOff_congr`; in assignment and values: `consOff_congr_vals`) and `ImplMatches` (the relational meaning of a cell);
`cutIns` through the accessors; what `implShape` returns.  `ConsHole` with `consOff_single` spells out `ConsOff` for one hole; no proof
uses it.  The modules of the `substitute` proofs in import order: DESIGN.md 2.8. -/
namespace KV.Transform
open KV

section cut
variable (nn : NNet) (dead : Nat → Bool)

theorem cutIns_node (j : Nat) : (cutIns nn dead).net.node j =
    { nn.net.node j with ins := (nn.net.node j).ins.map fun o => o.bind fun l => if dead l then none else some l } := by
  simp only [cutIns, Net.node, Array.getD_eq_getD_getElem?, Array.getElem?_map]
  cases h : nn.net.nodes[j]? with
  | none => simp; rfl
  | some n => simp

theorem cutIns_kind (j : Nat) : ((cutIns nn dead).net.node j).kind = (nn.net.node j).kind := by
  rw [cutIns_node]

theorem cutIns_inPin (j k : Nat) : ((cutIns nn dead).net.node j).inPin k =
    ((nn.net.node j).inPin k).bind fun l => if dead l then none else some l := by
  rw [cutIns_node]
  simp only [NodeD.inPin, List.getD_eq_getElem?_getD, List.getElem?_map]
  cases (nn.net.node j).ins[k]? <;> simp

theorem cutIns_line (l : Nat) : (cutIns nn dead).net.line l = nn.net.line l := rfl
theorem cutIns_io : (cutIns nn dead).net.io = nn.net.io := rfl
theorem cutIns_size : (cutIns nn dead).net.nodes.size = nn.net.nodes.size := by simp [cutIns]
theorem cutIns_lsize : (cutIns nn dead).net.lines.size = nn.net.lines.size := rfl

theorem cutIns_mem_sNodes (j : Nat) : j ∈ (cutIns nn dead).net.sNodes ↔ j ∈ nn.net.sNodes := by
  rw [mem_sNodes, mem_sNodes, cutIns_io, cutIns_size]
  have hk := isDff_of_kind (cutIns_kind nn dead j)
  rw [hk.1, hk.2]

omit nn dead in
theorem spN_eq_of_mem_iff {a b : Net} {j : Nat} (h : j ∈ a.sNodes ↔ j ∈ b.sNodes) : spN a j = spN b j := by
  simpa using spN_map_congr h id id fun _ => rfl

theorem cutIns_spN (j : Nat) : spN (cutIns nn dead).net j = spN nn.net j :=
  spN_eq_of_mem_iff (cutIns_mem_sNodes nn dead j)
end cut

/-- the labelling satisfies the equation of every line that is not driven by a node in `S` (the "holes": nodes whose
    meaning is given from outside) -/
def ConsOff {α} (nn : NNet) (S : Nat → Prop) (z : α) (neg : α → α) (prim : String → α → α → α → α → α) (an : Nat → α)
    (v : Nat → α) : Prop :=
  ∀ l, l < nn.net.lines.size → ¬ S (nn.net.line l).driver → v l = lineEq nn.net (spN nn.net) z neg prim an v l

theorem consOff_congr {α : Type _} {nn : NNet} {S S' : Nat → Prop} (hSS : ∀ d, S d ↔ S' d) {z : α} {neg : α → α}
    {prim : String → α → α → α → α → α} {an v : Nat → α} (hc : ConsOff nn S z neg prim an v) : ConsOff nn S' z neg prim an v :=
  fun l hl hn => hc l hl (fun hs => hn ((hSS _).mp hs))

theorem consOff_congr_vals {α : Type _} {nn : NNet} (w : WFm nn) (S : Nat → Prop) (z : α) (neg : α → α)
    (prim : String → α → α → α → α → α) (an1 an2 v1 v2 : Nat → α) (ha : ∀ n ∈ nn.net.sNodes, an1 n = an2 n)
    (hv : ∀ l, l < nn.net.lines.size → v1 l = v2 l) (hc : ConsOff nn S z neg prim an1 v1) : ConsOff nn S z neg prim an2 v2 := by
  intro l hl hnS
  rw [← hv l hl, hc l hl hnS, w.lineEq_vals z neg prim an1 an2 v1 v2 ha hv l hl]

theorem consOff_false {α} (nn : NNet) (z : α) (neg : α → α) (prim : String → α → α → α → α → α) (an v : Nat → α) :
    ConsOff nn (fun _ => False) z neg prim an v ↔ ConsN nn z neg prim an v :=
  ⟨fun h l hl => h l hl (fun x => x), fun h l hl _ => h l hl⟩

def ConsHole {α} (h : NNet) (c : Nat) (z : α) (neg : α → α) (prim : String → α → α → α → α → α) (an : Nat → α) (v : Nat → α) : Prop :=
  ∀ l, l < h.net.lines.size → (h.net.line l).driver ≠ c → v l = lineEq h.net (spN h.net) z neg prim an v l

theorem consOff_single {α} (nn : NNet) (c : Nat) (z : α) (neg : α → α) (prim : String → α → α → α → α → α) (an v : Nat → α) :
    ConsOff nn (fun d => d = c) z neg prim an v ↔ ConsHole nn c z neg prim an v := Iff.rfl

/-- `(anm, vm)` is a consistent labelling of the implementation (with the lines of unconnected instance inputs absent)
    whose ports carry the values of the instance's lines in the host labelling `v`: the **relational meaning of the cell** -/
def ImplMatches {α} (h : NNet) (c : Nat) (m : NNet) (sh : Shape) (z : α) (neg : α → α) (prim : String → α → α → α → α → α)
    (anm vm : Nat → α) (v : Nat → α) : Prop :=
  ConsN (cutIns m (deadLine h c m sh)) z neg prim anm vm ∧
  (∀ p ∈ m.net.io, anm p = portVal h c sh z v p) ∧
  (∀ k il ll, sh.outLines[k]? = some il → instOut h c k = some ll → vm il = v ll)

theorem implShape_spec (m : NNet) (sh : Shape) (hs : implShape m = some sh) :
    sh.inPorts = m.net.io.filter (fun p => (m.net.node p).ins.length == 0) ∧
    sh.outPorts = m.net.io.filter (fun p => (m.net.node p).ins.length != 0) ∧
    sh.outPorts.map (fun p => (m.net.node p).inPin 0) = sh.outLines.map some := by
  unfold implShape at hs
  dsimp only at hs
  split at hs
  · exact absurd hs (by simp)
  · rename_i hany
    split at hs
    · exact absurd hs (by simp)
    · cases hs
      refine ⟨rfl, rfl, ?_⟩
      dsimp only
      generalize (List.filter (fun p => (m.net.node p).ins.length != 0) m.net.io).map (fun p => (m.net.node p).inPin 0) = X at hany
      induction X with
      | nil => rfl
      | cons a X ih =>
        cases a with
        | none => simp at hany
        | some x =>
          simp only [List.any_cons, Option.isNone_some, Bool.false_or] at hany
          simp only [List.filterMap_cons, id, List.map_cons]
          rw [← ih hany]

end KV.Transform
