import KyupyVerif.Model.Capture
import KyupyVerif.Proofs.WaveCircuit
/-! Capture and switching-activity summaries (C13), three parts.
Capture: the scan `captureWv` folds `capStep` over the entries; the fold has a closed form (`fold_capStep`), so every captured field
is a function of the waveform stated without a loop (`capture_spec`: `valueAt` = parity of the number of entries before the
capture time, `specEat` / `specLst` = smallest / largest entry other than `tmin`).
Counts: `countTrans` walks a waveform and counts rises and falls; on a well-formed waveform the pair is a function of the length
and of whether it starts high (`counts_spec`), and it is what an evaluation returns as `(nrise, nfall)`
(`waveCounts_eq_countTrans`).
Accumulation: `accumulate` adds weighted counts into accumulators; each accumulator ends at its start value plus the sum of its
contributions (`accumulate_spec`), hence the order of the contributions is immaterial (`accumulate_perm`). -/
namespace KV.Wave

def parity (n : Nat) : Bool := n % 2 == 1
/-- value just before time `t`: parity of the number of entries strictly before `t` -/
def valueAt (w : Wv) (t : T) : Bool := parity (w.ents.filter (fun e => T.lt e t)).length
/-- earliest / latest finite transition (`tmax` / `tmin` when there is none) -/
def specEat (w : Wv) : T := (w.ents.filter (· ≠ T.tmin)).foldl T.min T.tmax
def specLst (w : Wv) : T := (w.ents.filter (· ≠ T.tmin)).foldl T.max T.tmin

theorem parity_succ (n : Nat) : parity (n + 1) = !parity n := odd_succ n

theorem fold_capStep (time : T) (l : List T) (s : CapSt) :
    l.foldl (capStep time) s =
      { eat := (l.filter (· ≠ T.tmin)).foldl T.min s.eat,
        lst := (l.filter (· ≠ T.tmin)).foldl T.max s.lst,
        final := s.final ^^ parity l.length,
        val := s.val ^^ parity (l.filter (fun e => T.lt e time)).length } := by
  induction l generalizing s with
  | nil => cases s; simp [parity]
  | cons e r ih =>
    simp only [List.foldl_cons]
    rw [ih]
    by_cases he : e = T.tmin
    · subst he
      by_cases hlt : T.lt T.tmin time = true
      · simp [capStep, hlt, parity_succ]
      · simp only [Bool.not_eq_true] at hlt
        simp [capStep, hlt, parity_succ]
    · by_cases hlt : T.lt e time = true
      · simp [capStep, he, hlt, parity_succ]
      · simp only [Bool.not_eq_true] at hlt
        simp [capStep, he, hlt, parity_succ]

theorem capture_spec (w : Wv) (time : T) :
    captureWv w time =
      { init := w.init, eat := specEat w, lst := specLst w, final := w.final,
        val := valueAt w time, ovl := w.term == T.tovl } := by
  unfold captureWv
  rw [fold_capStep]
  simp [Wv.init, Wv.final, specEat, specLst, valueAt, parity]

/-- rising / falling transitions of a waveform, counted by walking it: every entry toggles the value;
    a leading `tmin` only marks the initial value 1 and is not a transition -/
def countTrans : Bool → List T → Nat × Nat
  | _, [] => (0, 0)
  | v, e :: r =>
    let c := countTrans (!v) r
    if e = T.tmin then c else if v then (c.1, c.2 + 1) else (c.1 + 1, c.2)

theorem countTrans_fin (v : Bool) (l : List T) (h : ∀ e ∈ l, e.isFin = true) :
    countTrans v l = if v then (l.length / 2, (l.length + 1) / 2) else ((l.length + 1) / 2, l.length / 2) := by
  induction l generalizing v with
  | nil => cases v <;> rfl
  | cons e r ih =>
    have he : e ≠ T.tmin := by
      intro h'; have := h e (List.mem_cons_self); rw [h'] at this; simp [T.isFin] at this
    have hr := ih (!v) (fun x hx => h x (List.mem_cons_of_mem _ hx))
    simp only [countTrans, he, if_false, hr, List.length_cons]
    cases v <;> simp <;> omega

theorem counts_spec (ents : List T) (h : WfRem ents) :
    countTrans false ents =
      ((ents.length + 1) / 2 - startsHigh ents, ents.length / 2) := by
  cases ents with
  | nil => rfl
  | cons e r =>
    have hr : ∀ x ∈ r, x.isFin = true := h.1
    by_cases he : e = T.tmin
    · subst he
      simp only [countTrans, if_true, Bool.not_false]
      rw [countTrans_fin true r hr]
      simp [startsHigh]; omega
    · have : ∀ x ∈ e :: r, x.isFin = true := by
        intro x hx
        rcases List.mem_cons.mp hx with rfl | hx
        · rcases h.2 x (List.mem_cons_self) with h' | h'
          · exact absurd h' he
          · exact h'
        · exact hr x hx
      rw [countTrans_fin false (e :: r) this]
      cases e <;> simp_all [startsHigh]

theorem waveCounts_eq_countTrans {cfg : WCfg} {op : KV.Sig.Op} {xs : List Wv} (h : OpOK cfg op xs) :
    waveCounts cfg op xs = countTrans false (waveSem cfg op xs).ents := by
  rw [counts_spec _ (waveSem_ok h).1]
  rfl

/-! ### accumulation buffer: per accumulator, the weighted sum over the ops, in any order
`accumulate` is the function the driver runs (`accum`, harness/c13.py). The code-path model adds with `WaveIO.accAdd` on `Int`
indices (`a_loc = -1` = none); the two are joined by `accAdd_nat` (Proofs/Activity.lean). -/
structure Contrib where
  acc : Option Nat      -- accumulator index, none = -1 (ignored)
  amount : Int          -- nrise * a_wr + nfall * a_wf
deriving DecidableEq

def accStep (ab : Nat → Int) (c : Contrib) : Nat → Int :=
  match c.acc with
  | none => ab
  | some a => fun j => if j = a then ab j + c.amount else ab j

def accumulate (ab : Nat → Int) (cs : List Contrib) : Nat → Int := cs.foldl accStep ab

def totalFor (a : Nat) (cs : List Contrib) : Int :=
  (cs.map fun c => if c.acc = some a then c.amount else 0).sum

theorem accumulate_spec (ab : Nat → Int) (cs : List Contrib) (a : Nat) :
    accumulate ab cs a = ab a + totalFor a cs := by
  induction cs generalizing ab with
  | nil => simp [accumulate, totalFor]
  | cons c cs ih =>
    simp only [accumulate, List.foldl_cons] at ih ⊢
    rw [ih]
    unfold accStep totalFor
    cases hc : c.acc with
    | none => simp [hc]
    | some b =>
      by_cases hab : a = b
      · subst hab; simp [hc]; omega
      · have : b ≠ a := fun h => hab h.symm
        simp [hc, hab, this]

theorem perm_sum_int {l₁ l₂ : List Int} (h : l₁.Perm l₂) : l₁.sum = l₂.sum := by
  induction h with
  | nil => rfl
  | cons x _ ih => simp [ih]
  | swap x y l => simp; omega
  | trans _ _ ih1 ih2 => exact ih1.trans ih2

theorem accumulate_perm (ab : Nat → Int) (cs cs' : List Contrib) (h : cs.Perm cs') :
    accumulate ab cs = accumulate ab cs' := by
  funext a
  rw [accumulate_spec, accumulate_spec]
  congr 1
  unfold totalFor
  exact perm_sum_int (h.map _)

end KV.Wave
