import KyupyVerif.Model.WaveStrip
import KyupyVerif.Proofs.GenOpsWO
/-! Link between the scheduler model and the program transformation of fork stripping, for every well-formed
netlist and every topological order:

* `stemsOf net true` (the `stems` array of `SimOps.__init__`) characterised: an index carries a stem iff it is an
  output line of a driven `__fork__` node, and the stem is `stemWalk` of the line that fork reads;
* `stemWalk` along a topological order: terminates within the fuel `SimOps` gives it, ends at a line that is not
  driven by a driven fork, and the driver of the result stands before the fork in the order;
* `genOps … true` = `genOps … false` without the rows that write a branch (`genOps_strip_filter`, Proofs/StripLinkOps.lean).

`drivenFork`, `forksOKB` and `stemList` are evaluated by the driver. -/
namespace KV
open KV.Sig

def drivenFork (net : Net) (n : Nat) : Bool := (net.node n).isFork && ((net.node n).inPin 0).isSome

/-- conditions on the fork nodes of an order under which `strip_forks` is a pure program transformation:
    a node that `SimOps` schedules as a fork (lower-cased kind `__fork__`) is a fork for `Circuit.forks` too (kind exactly
    `__fork__`), has no connection on input pins 1–3, and either reads a line that is listed on the output pin of that
    line's driver, or — undriven — is an interface node (its branches are fed from its (P)PI slot). -/
def forksOKB (net : Net) (order : List Nat) : Bool :=
  order.all fun n =>
    let nd := net.node n
    !(nd.lkind == "__fork__") ||
      (nd.isFork && (nd.inPin 1).isNone && (nd.inPin 2).isNone && (nd.inPin 3).isNone &&
       (match nd.inPin 0 with
        | some l0 => (net.node (net.line l0).driver).outs.getD (net.line l0).dpin none == some l0
        | none => (sPosIn net.sNodes n).isSome))

/-- the branch ↦ stem association list read off the `stems` array of `SimOps` (`strip_forks=True`) -/
def stemList (net : Net) : List (Nat × Nat) :=
  (List.range net.idx.len).filterMap fun b => ((stemsOf net true).getD b none).map fun s => (b, s)

theorem forIn_id_fold {α β} (l : List α) (init : β) (f : α → β → Id (ForInStep β)) (g : β → α → β)
    (h : ∀ x s, f x s = pure (ForInStep.yield (g s x))) :
    forIn l init f = (pure (l.foldl g init) : Id β) := by
  rw [show f = fun x s => pure (ForInStep.yield (g s x)) from funext fun x => funext (h x)]
  exact List.forIn_pure_yield_eq_foldl ..

def applyAssigns (a : Array (Option Nat)) (as : List (Nat × Nat)) : Array (Option Nat) :=
  as.foldl (fun a p => a.setIfInBounds p.1 (some p.2)) a

def forkAssigns (net : Net) (n : Nat) : List (Nat × Nat) :=
  let nd := net.node n
  if nd.isFork then
    match nd.inPin 0 with
    | some l0 => nd.outs.filterMap fun o => o.map fun ol => (ol, stemWalk net net.nodes.size l0)
    | none => []
  else []

theorem stemsOf_true (net : Net) : stemsOf net true =
    applyAssigns (Array.replicate net.idx.len none) ((List.range net.nodes.size).flatMap (forkAssigns net)) := by
  unfold stemsOf
  simp only [Id.run, if_true]
  rw [forIn_id_fold _ _ _ (fun s n => applyAssigns s (forkAssigns net n))]
  · simp only [pure_bind]
    generalize Array.replicate net.idx.len none = a
    exact List.foldl_flatMap.symm
  · intro n s
    unfold forkAssigns
    simp only
    by_cases hf : (net.node n).isFork = true
    · cases hp : (net.node n).inPin 0 with
      | none => simp only [hf, if_true]; rfl
      | some l0 =>
        simp only [hf, if_true]
        rw [forIn_id_fold _ _ _ (fun s o => match o with | some ol => s.setIfInBounds ol (some (stemWalk net net.nodes.size l0)) | none => s)]
        · simp only [pure_bind]
          congr 2
          rw [applyAssigns, List.foldl_filterMap]
          congr 1
          funext s o
          cases o <;> rfl
        · intro o s'; cases o <;> rfl
    · simp only [hf]; rfl

theorem applyAssigns_size (a : Array (Option Nat)) (as : List (Nat × Nat)) : (applyAssigns a as).size = a.size :=
  foldl_inv _ (fun a' : Array (Option Nat) => a'.size = a.size) (fun _ _ _ h => by simpa using h) rfl

theorem applyAssigns_keep (b : Array (Option Nat)) (r : List (Nat × Nat)) (x : Nat) (hr : ¬ ∃ v, (x, v) ∈ r) :
    (applyAssigns b r).getD x none = b.getD x none := by
  have h := foldl_pointwise (fun (a : Array (Option Nat)) (i : Nat) => a[i]?) (fun a p => a.setIfInBounds p.1 (some p.2))
    (fun p : Nat × Nat => p.1) (fun p => Option.map fun _ => some p.2) (fun a p i => getElem?_setIfInBounds' a p.1 i _) r b x
  rw [List.filter_eq_nil_iff.mpr fun p hp => by simpa using fun e => hr ⟨p.2, by rw [← e]; exact hp⟩] at h
  simp only [Array.getD_eq_getD_getElem?, applyAssigns]; rw [h]; rfl

theorem applyAssigns_some (a : Array (Option Nat)) (as : List (Nat × Nat)) (x s : Nat)
    (h : (applyAssigns a as).getD x none = some s) : (x, s) ∈ as ∨ a.getD x none = some s := by
  induction as generalizing a with
  | nil => exact Or.inr h
  | cons p r ih =>
    simp only [applyAssigns, List.foldl_cons] at h
    rcases ih _ h with h1 | h1
    · exact Or.inl (List.mem_cons_of_mem _ h1)
    · rw [getD_setIfInBounds] at h1
      split at h1
      · rename_i hc
        left
        obtain ⟨px, pv⟩ := p
        simp only at hc h1
        cases h1
        rw [hc.1]
        exact List.mem_cons_self
      · exact Or.inr h1

theorem applyAssigns_mem (a : Array (Option Nat)) (as : List (Nat × Nat)) (x : Nat) (hx : x < a.size)
    (h : ∃ v, (x, v) ∈ as) : ∃ v, (x, v) ∈ as ∧ (applyAssigns a as).getD x none = some v := by
  induction as generalizing a with
  | nil => obtain ⟨v, hv⟩ := h; cases hv
  | cons p r ih =>
    simp only [applyAssigns, List.foldl_cons]
    by_cases hr : ∃ v, (x, v) ∈ r
    · obtain ⟨v, hv, hg⟩ := ih (a.setIfInBounds p.1 (some p.2)) (by simpa using hx) hr
      exact ⟨v, List.mem_cons_of_mem _ hv, hg⟩
    · obtain ⟨v, hv⟩ := h
      rcases List.mem_cons.mp hv with rfl | hv
      · refine ⟨v, List.mem_cons_self, ?_⟩
        have := applyAssigns_keep (a.setIfInBounds x (some v)) r x hr
        simp only [applyAssigns] at this
        rw [this, getD_setIfInBounds]
        simp [hx]
      · exact absurd ⟨v, hv⟩ hr

theorem mem_forkAssigns {net : Net} {x s : Nat} (h : (x, s) ∈ (List.range net.nodes.size).flatMap (forkAssigns net)) :
    ∃ n l0, n < net.nodes.size ∧ (net.node n).isFork = true ∧ (net.node n).inPin 0 = some l0 ∧
      some x ∈ (net.node n).outs ∧ s = stemWalk net net.nodes.size l0 := by
  simp only [List.mem_flatMap, List.mem_range] at h
  obtain ⟨n, hn, hm⟩ := h
  unfold forkAssigns at hm
  simp only at hm
  split at hm
  · rename_i hf
    split at hm
    · rename_i l0 hp
      simp only [List.mem_filterMap] at hm
      obtain ⟨o, ho, hg⟩ := hm
      cases o with
      | none => simp at hg
      | some ol =>
        simp only [Option.map_some, Option.some.injEq, Prod.mk.injEq] at hg
        obtain ⟨rfl, rfl⟩ := hg
        exact ⟨n, l0, hn, hf, hp, ho, rfl⟩
    · cases hm
  · cases hm

theorem forkAssigns_mem {net : Net} {n l0 x : Nat} (hn : n < net.nodes.size) (hf : (net.node n).isFork = true)
    (hp : (net.node n).inPin 0 = some l0) (hx : some x ∈ (net.node n).outs) :
    (x, stemWalk net net.nodes.size l0) ∈ (List.range net.nodes.size).flatMap (forkAssigns net) := by
  simp only [List.mem_flatMap, List.mem_range]
  refine ⟨n, hn, ?_⟩
  unfold forkAssigns
  simp only [hf, if_true, hp, List.mem_filterMap]
  exact ⟨some x, hx, rfl⟩

theorem stems_some {net : Net} (hwf : net.wfB = true) {x s : Nat} (h : (stemsOf net true).getD x none = some s) :
    ∃ l0, (net.line x).driver < net.nodes.size ∧ (net.node (net.line x).driver).isFork = true ∧
      (net.node (net.line x).driver).inPin 0 = some l0 ∧ some x ∈ (net.node (net.line x).driver).outs ∧
      s = stemWalk net net.nodes.size l0 ∧ x < net.lines.size := by
  rw [stemsOf_true] at h
  rcases applyAssigns_some _ _ _ _ h with h1 | h1
  · obtain ⟨n, l0, hn, hf, hp, hx, hs⟩ := mem_forkAssigns h1
    obtain ⟨pin, hpin⟩ := List.getElem?_of_mem hx
    obtain ⟨hl, hd, _⟩ := wf_out hwf hn hpin
    rw [hd]
    exact ⟨l0, hn, hf, hp, hx, hs, hl⟩
  · rw [Array.getD_eq_getD_getElem?, Array.getElem?_replicate] at h1
    split at h1 <;> simp at h1

theorem stems_of_fork {net : Net} (hwf : net.wfB = true) {n l0 x : Nat} (hn : n < net.nodes.size)
    (hf : (net.node n).isFork = true) (hp : (net.node n).inPin 0 = some l0) (hx : some x ∈ (net.node n).outs) :
    (stemsOf net true).getD x none = some (stemWalk net net.nodes.size l0) := by
  obtain ⟨pin, hpin⟩ := List.getElem?_of_mem hx
  obtain ⟨hl, hd, _⟩ := wf_out hwf hn hpin
  have hsz : x < (Array.replicate net.idx.len (none : Option Nat)).size := by
    simp [Net.idx]; omega
  obtain ⟨v, hv, hg⟩ := applyAssigns_mem _ _ x hsz ⟨_, forkAssigns_mem hn hf hp hx⟩
  rw [stemsOf_true, hg]
  obtain ⟨n', l0', hn', hf', hp', hx', hs'⟩ := mem_forkAssigns hv
  obtain ⟨pin', hpin'⟩ := List.getElem?_of_mem hx'
  obtain ⟨_, hd', _⟩ := wf_out hwf hn' hpin'
  have : n' = n := hd'.symm.trans hd
  subst this
  rw [hp] at hp'
  cases hp'
  rw [hs']

theorem stems_none_ge {net : Net} (hwf : net.wfB = true) {x : Nat} (h : net.lines.size ≤ x) :
    (stemsOf net true).getD x none = none := by
  cases hs : (stemsOf net true).getD x none with
  | none => rfl
  | some s => obtain ⟨_, _, _, _, _, _, hl⟩ := stems_some hwf hs; omega

theorem stems_some_driven {net : Net} (hwf : net.wfB = true) {x s : Nat} (h : (stemsOf net true).getD x none = some s) :
    drivenFork net (net.line x).driver = true := by
  obtain ⟨_, _, hf, hp, _⟩ := stems_some hwf h
  simp [drivenFork, hf, hp]

theorem stems_none_of_driver {net : Net} (hwf : net.wfB = true) {x : Nat}
    (h : drivenFork net (net.line x).driver = false) : (stemsOf net true).getD x none = none :=
  Option.eq_none_iff_forall_ne_some.mpr fun s hs => by
    rw [stems_some_driven hwf hs] at h
    cases h

theorem stems_none_of_out {net : Net} (hwf : net.wfB = true) {n pin x : Nat} (hn : n < net.nodes.size)
    (hdf : drivenFork net n = false) (hpin : (net.node n).outs[pin]? = some (some x)) :
    (stemsOf net true).getD x none = none :=
  stems_none_of_driver hwf (by rw [(wf_out hwf hn hpin).2.1]; exact hdf)

theorem lookup_filterMap_self (g : Nat → Option Nat) (l : List Nat) (b : Nat) :
    (l.filterMap fun k => (g k).map fun s => (k, s)).lookup b = if b ∈ l then g b else none := by
  induction l with
  | nil => rfl
  | cons k r ih =>
    cases hg : g k with
    | none =>
      simp only [List.filterMap_cons, hg, Option.map_none, ih, List.mem_cons]
      by_cases hb : b = k
      · subst hb; simp [hg]
      · simp [hb]
    | some v =>
      simp only [List.filterMap_cons, hg, Option.map_some, List.lookup_cons, ih, List.mem_cons]
      by_cases hb : b = k
      · subst hb; simp [hg]
      · have : (b == k) = false := by simpa using hb
        simp [this, hb]

theorem stemsOf_size (net : Net) : (stemsOf net true).size = net.idx.len := by
  rw [stemsOf_true, applyAssigns_size]; simp

theorem stemList_lookup (net : Net) (b : Nat) : (stemList net).lookup b = (stemsOf net true).getD b none := by
  unfold stemList
  rw [lookup_filterMap_self (fun b => (stemsOf net true).getD b none)]
  split
  · rfl
  · rename_i h
    simp only [List.mem_range, Nat.not_lt] at h
    rw [Array.getD_eq_getD_getElem?, Array.getElem?_eq_none (by rw [stemsOf_size]; exact h)]
    rfl

theorem src_stemList (net : Net) (x : Nat) : Wave.src (stemList net) x = viaStem (stemsOf net true) x := by
  unfold Wave.src viaStem
  rw [stemList_lookup]

theorem order_length_le {net : Net} {order : List Nat} (ho : orderOKB net order = true) :
    order.length ≤ net.nodes.size := by
  obtain ⟨hnd, hlt, _⟩ := orderOK_spec ho
  have := List.Nodup.length_le_of_subset hnd (l₂ := List.range net.nodes.size)
    (fun n hn => List.mem_range.mpr (hlt n hn))
  simpa using this

theorem drivenFork_not_src {net : Net} {sn : List Nat} {n : Nat} (h : drivenFork net n = true) : isSrcNode net sn n = false := by
  unfold drivenFork at h
  unfold isSrcNode
  rw [h]; rfl

theorem drivenFork_spec {net : Net} {n : Nat} (h : drivenFork net n = true) :
    (net.node n).isFork = true ∧ ∃ l0, (net.node n).inPin 0 = some l0 := by
  unfold drivenFork at h
  simp only [Bool.and_eq_true] at h
  exact ⟨h.1, Option.isSome_iff_exists.mp h.2⟩

theorem mem_of_idxOf_lt {order : List Nat} {a b : Nat} (h : order.idxOf a < order.idxOf b) : a ∈ order := by
  have : order.idxOf b ≤ order.length := List.idxOf_le_length
  exact List.idxOf_lt_length_iff.mp (by omega)

theorem stemWalk_succ (net : Net) (fuel l : Nat) : stemWalk net (fuel + 1) l =
    if drivenFork net (net.line l).driver = true then
      stemWalk net fuel (((net.node (net.line l).driver).inPin 0).getD l)
    else l := by
  unfold drivenFork
  rw [stemWalk]
  cases hf : (net.node (net.line l).driver).isFork with
  | false => simp
  | true =>
    cases hp : (net.node (net.line l).driver).inPin 0 with
    | none => simp
    | some l' => simp

theorem stemWalk_spec {net : Net} {order : List Nat} (hwf : net.wfB = true) (ho : orderOKB net order = true) :
    ∀ (fuel l : Nat), (net.line l).driver ∈ order → order.idxOf (net.line l).driver < fuel →
      drivenFork net (net.line (stemWalk net fuel l)).driver = false ∧
      order.idxOf (net.line (stemWalk net fuel l)).driver ≤ order.idxOf (net.line l).driver ∧
      (l < net.lines.size → stemWalk net fuel l < net.lines.size) ∧
      (∀ fuel', order.idxOf (net.line l).driver < fuel' → stemWalk net fuel' l = stemWalk net fuel l) := by
  obtain ⟨_, hlt, hdrv⟩ := orderOK_spec ho
  intro fuel
  induction fuel with
  | zero => intro l _ h; omega
  | succ fuel ih =>
    intro l hmem hfuel
    rw [stemWalk_succ]
    cases hdf : drivenFork net (net.line l).driver with
    | false =>
      simp only [Bool.false_eq_true, if_false]
      refine ⟨hdf, Nat.le_refl _, fun h => h, ?_⟩
      intro fuel' hf'
      cases fuel' with
      | zero => omega
      | succ f => rw [stemWalk_succ, hdf]; rfl
    | true =>
      rw [if_pos rfl]
      obtain ⟨_, l', hp⟩ := drivenFork_spec hdf
      rw [hp, Option.getD_some]
      have hlt' := hdrv _ hmem (drivenFork_not_src hdf) 0 l' (inPin_some hp)
      have hmem' := mem_of_idxOf_lt hlt'
      have hl' := (wf_in hwf (hlt _ hmem) (inPin_some hp)).1
      obtain ⟨h1, h2, h3, h4⟩ := ih l' hmem' (by omega)
      refine ⟨h1, by omega, fun _ => h3 hl', ?_⟩
      intro fuel' hf'
      cases fuel' with
      | zero => omega
      | succ f =>
        rw [stemWalk_succ, hdf, if_pos rfl, hp, Option.getD_some]
        exact h4 f (by omega)

end KV
