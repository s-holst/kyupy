import KyupyVerif.Proofs.VerilogTextParse
/-! Round trip print → parse for the Verilog text model: the tokens of valid trees have texts (`modulesT_ok`), the canonical
layout is a layout (`layout_ok`), and the two halves (`lexes_render`, `parseChars_of_lexesC`) combined (`parse_layout_cls`,
`parse_layout`). -/
namespace KV.VerilogText
open KV.TextLex (beq_false_of_pred)

def AllOK (l : List CT) : Prop := ∀ ct ∈ l, tokOK ct = true

theorem allOK_nil : AllOK [] := fun _ h => by cases h
theorem allOK_cons {ct : CT} {l : List CT} (h1 : tokOK ct = true) (h2 : AllOK l) : AllOK (ct :: l) :=
  List.forall_mem_cons.mpr ⟨h1, h2⟩
theorem allOK_append {a b : List CT} (h1 : AllOK a) (h2 : AllOK b) : AllOK (a ++ b) :=
  List.forall_mem_append.mpr ⟨h1, h2⟩

theorem tokOK_nameTok (n : String) (hv : validName n = true) : tokOK (gt (nameTok n)) = true := by
  unfold nameTok
  split
  · next hp =>
    simp only [isPlainWord, Bool.or_eq_true, Bool.and_eq_true] at hp
    simp only [gt, tokOK, Bool.or_eq_true]
    rcases hp with hp | hp
    · exact Or.inl hp.1
    · exact Or.inr hp
  · exact hv

theorem tokOK_natT (k : Nat) : tokOK (natT k) = true := by
  simp only [natT, tokOK, Bool.and_eq_true, Bool.not_eq_true', List.isEmpty_eq_false_iff, List.all_eq_true]
  exact ⟨Nat.toDigits_ne_nil, fun c hc => Nat.isDigit_of_mem_toDigits (by decide) (by decide) hc⟩

theorem tokOK_gs (c : Char) (hc : isSym c = true) : tokOK (gs c) = true := hc

theorem rangeT_ok (rg : Range) : AllOK (rangeT rg) := by
  obtain ⟨l, r⟩ := rg
  cases r with
  | none => exact allOK_cons (by decide) (allOK_cons (tokOK_natT l) (allOK_cons (by decide) allOK_nil))
  | some r =>
    exact allOK_cons (by decide) (allOK_cons (tokOK_natT l) (allOK_cons (by decide) (allOK_cons (tokOK_natT r)
      (allOK_cons (by decide) allOK_nil))))

theorem rangeOptT_ok (rg : Option Range) : AllOK (rangeOptT rg) := by
  cases rg with
  | none => exact allOK_nil
  | some rg => exact rangeT_ok rg

theorem namesTailT_ok (e : Char) (he : isSym e = true) (ns : List String) (hv : ns.all validName = true) :
    AllOK (namesTailT e ns) := by
  induction ns with
  | nil => exact allOK_cons he allOK_nil
  | cons n ns ih =>
    simp only [List.all_cons, Bool.and_eq_true] at hv
    exact allOK_cons (by decide) (allOK_cons (tokOK_nameTok n hv.1) (ih hv.2))

theorem namesT_ok (e : Char) (he : isSym e = true) (ns : List String) (hv : ns.all validName = true) :
    AllOK (namesT e ns) := by
  cases ns with
  | nil => exact allOK_cons he allOK_nil
  | cons n ns =>
    simp only [List.all_cons, Bool.and_eq_true] at hv
    exact allOK_cons (tokOK_nameTok n hv.1) (namesTailT_ok e he ns hv.2)

mutual
theorem selT_ok : ∀ (x : VSel), validSel x = true → AllOK (selT x)
  | .sig n r, hv => by
    simp only [selT]
    exact allOK_cons (tokOK_nameTok n hv) (rangeOptT_ok r)
  | .cat items, hv => by
    simp only [validSel, Bool.and_eq_true] at hv
    simp only [selT]
    exact allOK_cons (by decide) (selsT_ok items hv.1)
theorem selsT_ok : ∀ (xs : List VSel), validSels xs = true → AllOK (selsT xs)
  | [], _ => by simp only [selsT]; exact allOK_cons (by decide) allOK_nil
  | x :: r, hv => by
    simp only [validSels, Bool.and_eq_true] at hv
    simp only [selsT]
    exact allOK_append (selT_ok x hv.1) (selsTailT_ok r hv.2)
theorem selsTailT_ok : ∀ (xs : List VSel), validSels xs = true → AllOK (selsTailT xs)
  | [], _ => by simp only [selsTailT]; exact allOK_cons (by decide) allOK_nil
  | x :: r, hv => by
    simp only [validSels, Bool.and_eq_true] at hv
    simp only [selsTailT]
    exact allOK_cons (by decide) (allOK_append (selT_ok x hv.1) (selsTailT_ok r hv.2))
end

theorem pinT_ok (p : VPin) (hv : validPin p = true) : AllOK (pinT p) := by
  cases p with
  | named n o =>
    cases o with
    | none =>
      exact allOK_cons (by decide) (allOK_cons (tokOK_nameTok n hv) (allOK_cons (by decide) (allOK_cons (by decide) allOK_nil)))
    | some x =>
      simp only [validPin, Bool.and_eq_true] at hv
      exact allOK_cons (by decide) (allOK_cons (tokOK_nameTok n hv.1) (allOK_cons (by decide)
        (allOK_append (selT_ok x hv.2) (allOK_cons (by decide) allOK_nil))))
  | pos x => exact selT_ok x hv

theorem pinsTailT_ok (ps : List VPin) (hv : ps.all validPin = true) : AllOK (pinsTailT ps) := by
  induction ps with
  | nil => exact allOK_cons (by decide) allOK_nil
  | cons p ps ih =>
    simp only [List.all_cons, Bool.and_eq_true] at hv
    exact allOK_cons (by decide) (allOK_append (pinT_ok p hv.1) (ih hv.2))

theorem pinsT_ok (ps : List VPin) (hv : ps.all validPin = true) : AllOK (pinsT ps) := by
  cases ps with
  | nil => exact allOK_cons (by decide) allOK_nil
  | cons p ps =>
    simp only [List.all_cons, Bool.and_eq_true] at hv
    exact allOK_append (pinT_ok p hv.1) (pinsTailT_ok ps hv.2)

theorem stmtT_ok (st : VStmt) (hv : validStmt st = true) : AllOK (stmtT st) := by
  cases st with
  | decl k rg ns =>
    simp only [validStmt, Bool.and_eq_true] at hv
    exact allOK_cons (by cases k <;> decide) (allOK_append (rangeOptT_ok rg) (namesT_ok ';' (by decide) ns hv.1))
  | assign t x =>
    simp only [validStmt, Bool.and_eq_true] at hv
    exact allOK_cons (by decide) (allOK_append (selT_ok t hv.1) (allOK_cons (by decide)
      (allOK_append (selT_ok x hv.2) (allOK_cons (by decide) allOK_nil))))
  | inst ty nm pins =>
    simp only [validStmt, Bool.and_eq_true] at hv
    exact allOK_cons (tokOK_nameTok ty hv.1.1) (allOK_cons (tokOK_nameTok nm hv.1.2) (allOK_cons (by decide)
      (allOK_append (pinsT_ok pins hv.2) (allOK_cons (by decide) allOK_nil))))

theorem stmtsT_ok (sts : List VStmt) (hv : sts.all validStmt = true) : AllOK (stmtsT sts) := by
  induction sts with
  | nil => exact allOK_cons (by decide) allOK_nil
  | cons st sts ih =>
    simp only [List.all_cons, Bool.and_eq_true] at hv
    exact allOK_append (stmtT_ok st hv.1) (ih hv.2)

theorem moduleT_ok (m : VModule) (hv : validModule m = true) : AllOK (moduleT m) := by
  simp only [validModule, Bool.and_eq_true] at hv
  exact allOK_cons (by decide) (allOK_cons (tokOK_nameTok m.name hv.1.1) (allOK_cons (by decide)
    (allOK_append (namesT_ok ')' (by decide) m.ports hv.1.2) (allOK_cons (by decide) (stmtsT_ok m.stmts hv.2)))))

theorem modulesT_ok (ms : List VModule) (hv : ms.all validModule = true) : AllOK (modulesT ms) := by
  induction ms with
  | nil => exact allOK_nil
  | cons m ms ih =>
    simp only [List.all_cons, Bool.and_eq_true] at hv
    exact allOK_append (moduleT_ok m hv.1) (ih hv.2)

theorem not_idChar_of_sym (c : Char) (hs : isSym c = true) : isIdChar c = false := by
  simp only [isSym, Bool.or_eq_true, beq_iff_eq] at hs
  rcases hs with (((((((((h | h) | h) | h) | h) | h) | h) | h) | h) | h) | h <;> subst h <;> decide

theorem tokText_head_ne_star (ct : CT) (y : List Char) (hok : tokOK ct = true) :
    headNot (· == '*') (tokText ct.2 ++ y) = true := by
  obtain ⟨c, r, e, -, hne⟩ := tokText_head ct hok
  simp [e, headNot, hne]

theorem tightAfter_sym (t : Tok) (h : tightAfter t = true) : ∃ c, t = .sym c := by
  cases t with
  | sym c => exact ⟨c, rfl⟩
  | _ => simp [tightAfter] at h

theorem tightBefore_sym (t : Tok) (h : tightBefore t = true) : ∃ c, t = .sym c := by
  cases t with
  | sym c => exact ⟨c, rfl⟩
  | _ => simp [tightBefore] at h

/-- the canonical gap is empty, one blank or one line break; empty only next to a one-character literal -/
theorem gapAfter_cases (t t' : Tok) :
    gapAfter t (some t') = [' '] ∨ gapAfter t (some t') = ['\n'] ∨
    (gapAfter t (some t') = [] ∧ (∀ s, t ≠ .esc s) ∧ ((∃ c, t = .sym c) ∨ (∃ c, t' = .sym c))) := by
  unfold gapAfter
  split
  · exact Or.inl rfl
  · next hne =>
    -- `hne`: `t` is no escaped identifier; from here on the `if` chain of the definition, one bullet per arm
    simp only
    split
    · exact Or.inr (Or.inl rfl)
    · split
      · next h => exact Or.inr (Or.inr ⟨rfl, hne, Or.inl (tightAfter_sym t h)⟩)
      · split
        · next h =>
          have h' : t' = .sym '[' := by simpa using h
          split
          · split
            · exact Or.inl rfl
            · exact Or.inr (Or.inr ⟨rfl, hne, Or.inr ⟨'[', h'⟩⟩)
          · exact Or.inr (Or.inr ⟨rfl, hne, Or.inr ⟨'[', h'⟩⟩)
        · split
          · next h => exact Or.inr (Or.inr ⟨rfl, hne, Or.inr (tightBefore_sym t' h)⟩)
          · exact Or.inl rfl

theorem headNot_of_blank (p : Char → Bool) (y : List Char) (hp : p ' ' = false) : headNot p (' ' :: y) = true := by
  simp [headNot, hp]

theorem gapOK_canon (ct ct' : CT) (y : List Char) (hok : tokOK ct = true) (hok' : tokOK ct' = true) :
    gapOK ct.2 (gapAfter ct.2 (some ct'.2)) (tokText ct'.2 ++ y) = true := by
  obtain ⟨c, t⟩ := ct
  obtain ⟨c', t'⟩ := ct'
  simp only
  have hstar := tokText_head_ne_star (c', t') y hok'
  simp only at hstar
  rcases gapAfter_cases t t' with hg | hg | ⟨hg, hne, hsym⟩
  · rw [hg]
    cases t with
    | esc s => rfl
    | word w => simp [gapOK, gapV, headNot]; decide
    | num w => simp [gapOK, gapV, headNot]; decide
    | sym d => simp [gapOK, gapV, headNot]
    | modkw => rfl
    | eof => cases c <;> simp [tokOK] at hok
  · rw [hg]
    cases t with
    | esc s => exact absurd hg (by simp [gapAfter])
    | word w => simp [gapOK, gapV, headNot]; decide
    | num w => simp [gapOK, gapV, headNot]; decide
    | sym d => simp [gapOK, gapV, headNot]
    | modkw => rfl
    | eof => cases c <;> simp [tokOK] at hok
  · rw [hg]
    cases t with
    | esc s => exact absurd rfl (hne s)
    | eof => cases c <;> simp [tokOK] at hok
    | modkw => rfl
    | sym d =>
      simp only [gapOK, gapV, List.nil_append, Bool.true_and, Bool.or_eq_true, bne_iff_ne, ne_eq]
      exact Or.inr hstar
    | word w =>
      rcases hsym with ⟨d, hd⟩ | ⟨d, hd⟩
      · cases hd
      · subst hd
        have hs : isSym d = true := by cases c' <;> first | (exfalso; simp [tokOK] at hok'; done) | exact hok'
        simp only [gapOK, gapV, List.nil_append, Bool.true_and, tokText, List.cons_append, headNot, not_idChar_of_sym d hs,
          Bool.not_false]
    | num w =>
      rcases hsym with ⟨d, hd⟩ | ⟨d, hd⟩
      · cases hd
      · subst hd
        have hs : isSym d = true := by cases c' <;> first | (exfalso; simp [tokOK] at hok'; done) | exact hok'
        simp only [gapOK, gapV, List.nil_append, Bool.true_and, tokText, List.cons_append, headNot, not_idChar_of_sym d hs,
          Bool.not_false]

theorem gapOK_last (ct : CT) (hok : tokOK ct = true) : gapOK ct.2 (gapAfter ct.2 none) [] = true := by
  obtain ⟨c, t⟩ := ct
  cases t with
  | esc s => rfl
  | word w => simp [gapOK, gapAfter, gapV, headNot]; decide
  | num w => simp [gapOK, gapAfter, gapV, headNot]; decide
  | sym d => simp [gapOK, gapAfter, gapV, headNot]
  | modkw => rfl
  | eof => cases c <;> simp [tokOK] at hok

theorem renderL_layout_cons (ct : CT) (r : List CT) : ∃ y, renderL (layout (ct :: r)) = tokText ct.2 ++ y := by
  cases r with
  | nil => exact ⟨gapAfter ct.2 none ++ [], by simp only [layout, renderL]⟩
  | cons ct' r' => exact ⟨gapAfter ct.2 (some ct'.2) ++ renderL (layout (ct' :: r')), by simp only [layout, renderL]⟩

theorem layout_ok (l : List CT) (hok : AllOK l) : layoutOK (layout l) = true := by
  fun_induction layout l with
  | case1 => rfl
  | case2 ct =>
    simp only [layoutOK, renderL, Bool.and_true]
    exact gapOK_last ct (hok ct List.mem_cons_self)
  | case3 ct ct' r ih =>
    have h1 := hok ct List.mem_cons_self
    have h2 := hok ct' (List.mem_cons_of_mem _ List.mem_cons_self)
    obtain ⟨y, hy⟩ := renderL_layout_cons ct' r
    simp only [layoutOK, Bool.and_eq_true]
    refine ⟨?_, ih (fun x hx => hok x (List.mem_cons_of_mem _ hx))⟩
    rw [hy]
    exact gapOK_canon ct ct' y h1 h2

theorem layout_map_fst (l : List CT) : (layout l).map (·.1) = l := by
  fun_induction layout l with
  | case1 => rfl
  | case2 ct => rfl
  | case3 ct ct' r ih => simp only [List.map_cons, ih]

theorem notEscTerm_of_pred (p : Char → Bool) (c : Char) (hc : p c = true) (h1 : p '\t' = false) (h2 : p ' ' = false)
    (h3 : p '\r' = false) (h4 : p '\n' = false) : notEscTerm c = true := by
  simp only [notEscTerm, isEscTerm, beq_false_of_pred p hc h1, beq_false_of_pred p hc h2, beq_false_of_pred p hc h3,
    beq_false_of_pred p hc h4, Bool.or_self, Bool.not_false]

theorem notEscTerm_idChar (c : Char) (hc : isIdChar c = true) : notEscTerm c = true :=
  notEscTerm_of_pred isIdChar c hc (by decide) (by decide) (by decide) (by decide)

theorem isIdChar_of_idStart (c : Char) (h : isIdStart c = true) : isIdChar c = true := by
  simp only [isIdStart, Bool.or_eq_true] at h
  simp only [isIdChar, Bool.or_eq_true]
  rcases h with h | h
  · exact Or.inl (Or.inl h)
  · exact Or.inr h

theorem isIdChar_of_base (c : Char) (h : isBase c = true) : isIdChar c = true := by
  simp only [isBase, Bool.or_eq_true, beq_iff_eq] at h
  rcases h with ((((h | h) | h) | h) | h) | h <;> subst h <;> decide

theorem tokOK_esc_of_word (w : List Char) (h : tokOK (.gen, .word w) = true) : tokOK (.gen, .esc w) = true := by
  simp only [tokOK, Bool.or_eq_true] at h
  simp only [tokOK, Bool.and_eq_true, Bool.not_eq_true', List.all_eq_true]
  rcases h with h | h
  · cases w with
    | nil => simp [isIdentWord] at h
    | cons c r =>
      simp only [isIdentWord, Bool.and_eq_true, List.all_eq_true] at h
      refine ⟨rfl, fun x hx => ?_⟩
      rcases List.mem_cons.mp hx with rfl | hx
      · exact notEscTerm_idChar _ (isIdChar_of_idStart _ h.1)
      · exact notEscTerm_idChar _ (h.2 x hx)
  · obtain ⟨c, ds, b, hh, hs, rfl, hc, hds, hb, hhx, hhs⟩ := constWord_parts w h
    simp only [List.all_eq_true] at hds hhs
    refine ⟨rfl, fun x hx => ?_⟩
    simp only [List.cons_append, List.mem_cons, List.mem_append] at hx
    rcases hx with rfl | hx | rfl | rfl | rfl | hx
    · exact notEscTerm_idChar _ (isIdChar_of_digit _ hc)
    · exact notEscTerm_idChar _ (isIdChar_of_digit _ (hds x hx))
    · decide
    · exact notEscTerm_idChar _ (isIdChar_of_base _ hb)
    · exact notEscTerm_idChar _ (isIdChar_of_hex _ hhx)
    · exact notEscTerm_idChar _ (isIdChar_of_hex _ (hhs x hx))

theorem tokOK_of_sameTok (c : Ctx) (a t : Tok) (hs : sameTok a t = true) (hok : tokOK (c, t) = true) : tokOK (c, a) = true := by
  simp only [sameTok, Bool.or_eq_true, beq_iff_eq] at hs
  rcases hs with hs | hs
  · rw [hs]; exact hok
  · cases a with
    | esc x =>
      cases t with
      | word w =>
        simp only [Bool.and_eq_true, beq_iff_eq] at hs
        rw [hs.1]
        cases c <;> first | (exfalso; simp [tokOK] at hok; done) | skip
        exact tokOK_esc_of_word w hok
      | _ => simp at hs
    | num ds =>
      cases t with
      | num ds' =>
        simp only [Bool.and_eq_true] at hs
        cases c <;> first | (exfalso; simp [tokOK] at hok; done) | skip
        simp only [tokOK, Bool.and_eq_true]
        exact hs.1
      | _ => simp at hs
    | _ => simp at hs

theorem allOK_of_spells : ∀ (as ts : List CT), spellsB as ts = true → AllOK ts → AllOK as
  | [], [], _, _ => allOK_nil
  | [], _ :: _, h, _ => by simp [spellsB] at h
  | _ :: _, [], h, _ => by simp [spellsB] at h
  | (c, a) :: r, (c', t) :: r', h, hok => by
    simp only [spellsB, Bool.and_eq_true, beq_iff_eq] at h
    obtain ⟨⟨hc, hs⟩, hr⟩ := h
    subst hc
    exact allOK_cons (tokOK_of_sameTok c a t hs (hok _ List.mem_cons_self))
      (allOK_of_spells r r' hr (fun x hx => hok x (List.mem_cons_of_mem _ hx)))

/-- every layout of every SPELLING of the token stream of a valid module list parses to that module list: each name that is
no statement keyword plain or escaped, each range number in any digit string of its value -/
theorem parse_layout_cls (ms : List VModule) (hv : ms.all validModule = true) (g0 : List Char)
    (l : List (CT × List Char)) (hl : spellsB (l.map (·.1)) (modulesT ms) = true) (hg0 : gapV .ws g0 = true)
    (hlay : layoutOK l = true) : parseChars (g0 ++ renderL l) = some ms := by
  apply parseChars_of_lexesC ms _ hv
  have hall := allOK_of_spells _ _ hl (modulesT_ok ms hv)
  exact lexesC_of_spells (lexes_render l g0 hg0 (fun p hp => hall p.1 (List.mem_map_of_mem hp)) hlay) _ hl

theorem parse_layout (ms : List VModule) (hv : ms.all validModule = true) (g0 : List Char)
    (l : List (CT × List Char)) (hl : l.map (·.1) = modulesT ms) (hg0 : gapV .ws g0 = true)
    (hlay : layoutOK l = true) : parseChars (g0 ++ renderL l) = some ms :=
  parse_layout_cls ms hv g0 l (by rw [hl]; exact spellsB_refl _) hg0 hlay

end KV.VerilogText
