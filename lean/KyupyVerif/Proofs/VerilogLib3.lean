import KyupyVerif.Proofs.VerilogLib1
import KyupyVerif.Proofs.ImplDatasheet2
/-! Library capstone (C11 ∘ C10 ∘ C19): the pins of a library instance in the parsed net, by names — what the labelling of an
environment shows on its input pins (`instVals_label`) and which lines hang on its output pins (`instOut_of_conn`,
`conn_of_instOut`); the datasheet meaning of the instance node (`CellDatasheet`, C10/C19) as an equation of the module
(`cellDatasheet_iff_module`). -/
namespace KV.Netlist
open KV KV.Transform KV.TL KV.DS

universe u
variable {cfg : Cfg} {tl : TL} {ports : List String} {stmts : List Stmt}

theorem inst_inPin_label {α : Type u} (hok : VOK cfg tl ports stmts) (i : VInst) (hi : i ∈ vInsts stmts) (z : α)
    (prim : String → α → α → α → α → α) (σ : String → α) (k : Nat) :
    (((verilogNet cfg tl ports stmts).node ((module cfg tl ports stmts).nodeIdx (.cell i.name 0))).inPin k).map
      (vLabel cfg tl stmts z prim σ) = (inSig tl i k).map (sigVal z prim σ) := by
  have h := toNet_inPin_map (module cfg tl ports stmts) (module cfg tl ports stmts).ioVerilog (.cell i.name k)
    (v_resolved_inst hok i hi k) _ (wOfV cfg tl stmts z prim σ) (v_label_agrees hok z prim σ)
  rw [module_flat' hok, any_vL] at h
  rw [nodeIdx_cell_pin _ i.name 0 k]
  refine h.trans ?_
  have h1 := inVal_inst hok i hi z prim (wOfV cfg tl stmts z prim σ) σ (fun t ht _ => wOfV_line hok z prim σ t ht) 0 k
  rw [inVal_cell_eq, any_vL] at h1
  exact h1

theorem instVals_eq_range {α} (h : NNet) (c : Nat) (z : α) (v : Nat → α) :
    instVals h c z v = (List.range (h.net.node c).ins.length).map fun k => (((h.net.node c).inPin k).map v).getD z := by
  unfold instVals
  apply List.ext_getElem
  · simp
  · intro k h1 _
    have hk : k < (h.net.node c).ins.length := by simpa using h1
    simp only [List.getElem_map, List.getElem_range, NodeD.inPin, List.getD_eq_getElem?_getD, List.getElem?_eq_getElem hk,
      Option.getD_some]
    cases (h.net.node c).ins[k] <;> rfl

theorem instVals_label {α : Type u} (hok : VOK cfg tl ports stmts) (i : VInst) (hi : i ∈ vInsts stmts) (z : α)
    (prim : String → α → α → α → α → α) (σ : String → α) (v : Nat → α)
    (hv : ∀ j, j < (verilogNet cfg tl ports stmts).lines.size → v j = vLabel cfg tl stmts z prim σ j) :
    instVals (verilogNNet cfg tl ports stmts) ((module cfg tl ports stmts).nodeIdx (.cell i.name 0)) z v =
      (List.range ((verilogNet cfg tl ports stmts).node ((module cfg tl ports stmts).nodeIdx (.cell i.name 0))).ins.length).map
        fun k => match inSig tl i k with
          | some s => sigVal z prim σ s
          | none => z := by
  rw [instVals_eq_range, verilogNNet_net]
  apply List.map_congr_left
  intro k _
  rw [show (match inSig tl i k with | some s => sigVal z prim σ s | none => z) = ((inSig tl i k).map (sigVal z prim σ)).getD z by
    cases inSig tl i k <;> rfl, ← inst_inPin_label hok i hi z prim σ k]
  cases ho : ((verilogNet cfg tl ports stmts).node ((module cfg tl ports stmts).nodeIdx (.cell i.name 0))).inPin k with
  | none => rfl
  | some l => simp only [Option.map_some, Option.getD_some, hv l (inPin_lt (toNet_wf _ _) ho).2]

theorem verilogNet_line (hok : VOK cfg tl ports stmts) (j : Nat) (hj : j < (vFlat cfg tl (sigDecls stmts) stmts).length) :
    (verilogNet cfg tl ports stmts).line j =
      ⟨(module cfg tl ports stmts).nodeIdx (vFlat cfg tl (sigDecls stmts) stmts)[j].d,
        dpinOf ((vL cfg tl stmts).take j) (vFlat cfg tl (sigDecls stmts) stmts)[j].d,
        (module cfg tl ports stmts).nodeIdx (vFlat cfg tl (sigDecls stmts) stmts)[j].r, (vFlat cfg tl (sigDecls stmts) stmts)[j].r.rpin⟩ := by
  have := toNet_line (module cfg tl ports stmts) (module cfg tl ports stmts).ioVerilog j (by rw [module_flat' hok, vL_length]; exact hj)
  simp only [module_flat' hok, vL_get j (by rw [vL_length]; exact hj)] at this
  exact this

theorem instOut_of_conn {α : Type u} (hok : VOK cfg tl ports stmts) (hw : WF (verilogNNet cfg tl ports stmts)) (i : VInst)
    (hi : i ∈ vInsts stmts) (o : Nat × String) (ho : o ∈ outConn tl (sigDecls stmts) i) (z : α)
    (prim : String → α → α → α → α → α) (σ : String → α) :
    ∃ j, j < (verilogNet cfg tl ports stmts).lines.size ∧
      instOut (verilogNNet cfg tl ports stmts) ((module cfg tl ports stmts).nodeIdx (.cell i.name 0)) o.1 = some j ∧
      vLabel cfg tl stmts z prim σ j = σ o.2 := by
  have hmem := vFlat_inst_out (cfg := cfg) (sigDecls stmts) i hi o ho
  obtain ⟨j, hj, hjt⟩ := List.getElem_of_mem hmem
  have hjs : j < (verilogNet cfg tl ports stmts).lines.size := by rw [verilogNet_lines_size hok]; exact hj
  have hb := (hw.back j hjs).2.2.1
  rw [show (verilogNNet cfg tl ports stmts).net.line j = _ from verilogNet_line hok j hj, hjt] at hb
  refine ⟨j, hjs, hb, ?_⟩
  rw [vLabel_eq z prim σ j hj, hjt]
  exact sigVal_driven hok z prim σ _ (driven_of_out _ i hi o ho)

theorem conn_of_instOut {α : Type u} (hok : VOK cfg tl ports stmts) (hw : WF (verilogNNet cfg tl ports stmts)) (i : VInst)
    (hi : i ∈ vInsts stmts) (k ll : Nat)
    (h : instOut (verilogNNet cfg tl ports stmts) ((module cfg tl ports stmts).nodeIdx (.cell i.name 0)) k = some ll) (z : α)
    (prim : String → α → α → α → α → α) (σ : String → α) :
    ll < (verilogNet cfg tl ports stmts).lines.size ∧
      ∃ o ∈ outConn tl (sigDecls stmts) i, o.1 = k ∧ vLabel cfg tl stmts z prim σ ll = σ o.2 := by
  have hres := v_resolved_inst hok i hi 0
  have hsz : (module cfg tl ports stmts).nodeIdx (.cell i.name 0) < (verilogNNet cfg tl ports stmts).net.nodes.size :=
    verilogNet_idx_lt hres
  obtain ⟨hl, hd, hp⟩ := hw.fwdOut _ hsz k ll h
  have hl' : ll < (verilogNet cfg tl ports stmts).lines.size := hl
  refine ⟨hl', ?_⟩
  have hj : ll < (vFlat cfg tl (sigDecls stmts) stmts).length := by rw [← verilogNet_lines_size hok]; exact hl'
  rw [show (verilogNNet cfg tl ports stmts).net.line ll = _ from verilogNet_line hok ll hj] at hd hp
  simp only at hd hp
  have ht := List.getElem_mem hj
  rcases ep_driver_inj _ _ _ hres hd with ⟨f, h1, _⟩ | ⟨n, p, p', h1, h2⟩
  · cases h1
  · simp only [Ep.cell.injEq] at h1
    obtain ⟨rfl, rfl⟩ := h1
    rcases v_driver_cases hok _ ht with ⟨j, hjm, o, ho, hto⟩ | hnh
    · rw [hto] at h2 hp
      simp only [Ep.cell.injEq] at h2
      have hij := inst_eq hok hjm hi h2.1
      subst hij
      refine ⟨o, ho, ?_, ?_⟩
      · simpa [dpinOf] using hp
      · rw [vLabel_eq z prim σ ll hj, hto]
        exact sigVal_driven hok z prim σ _ (driven_of_out _ j hjm o ho)
    · exact absurd ⟨i, hi, trivial, p', h2⟩ (hnh (fun _ => True))

theorem cellDatasheet_iff_module (hok : VOK cfg tl ports stmts) (hw : WF (verilogNNet cfg tl ports stmts)) (row : String → Cell)
    (i : VInst) (hi : i ∈ vInsts stmts) (σ : String → Bool) (v : Nat → Bool)
    (hv : ∀ j, j < (verilogNet cfg tl ports stmts).lines.size → v j = vLabel cfg tl stmts false prim2 σ j)
    (hn : ((verilogNet cfg tl ports stmts).node ((module cfg tl ports stmts).nodeIdx (.cell i.name 0))).ins.length =
      (row i.ty).inNames.length) :
    CellDatasheet row (verilogNNet cfg tl ports stmts) ((module cfg tl ports stmts).nodeIdx (.cell i.name 0)) v ↔
      ∃ fs, cellFuns row i.ty = some fs ∧ ∀ o ∈ outConn tl (sigDecls stmts) i, ∀ f, fs[o.1]? = some f →
        σ o.2 = f (libInVals tl σ i (row i.ty).inNames.length) := by
  have hvals : instVals (verilogNNet cfg tl ports stmts) ((module cfg tl ports stmts).nodeIdx (.cell i.name 0)) false v =
      libInVals tl σ i (row i.ty).inNames.length := by
    rw [instVals_label hok i hi false prim2 σ v hv, hn]; rfl
  unfold CellDatasheet cellFuns
  rw [inst_node_kind hok i hi, hvals]
  constructor
  · rintro ⟨fam, fs, hf, hd, hall⟩
    refine ⟨fs, by rw [hf]; exact hd, ?_⟩
    intro o ho f hfo
    obtain ⟨j, hj, hjo, hjl⟩ := instOut_of_conn hok hw i hi o ho false prim2 σ
    obtain ⟨hk, hfe⟩ := List.getElem?_eq_some_iff.mp hfo
    rw [← hjl, ← hv j hj, hall o.1 hk j hjo, hfe]
  · rintro ⟨fs, hf, hall⟩
    cases hc : classify (baseName i.ty.toList) with
    | none => rw [hc] at hf; cases hf
    | some fam =>
      rw [hc] at hf
      refine ⟨fam, fs, rfl, hf, ?_⟩
      intro k hk ll hll
      obtain ⟨hl, o, ho, hok', hlab⟩ := conn_of_instOut hok hw i hi k ll hll false prim2 σ
      subst hok'
      rw [hv ll hl, hlab]
      exact hall o ho _ (List.getElem?_eq_getElem hk)

end KV.Netlist
