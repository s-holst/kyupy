import KyupyVerif.Proofs.Basics
import KyupyVerif.Model.SubstSem
/-! C10: the rebuild performed by `Circuit.copy` / `__setstate__` (`rebuild` of Model/Transform.lean) reproduces a well-formed dump
(`rebuild_eq`); of a dump that is well-formed only up to trailing `None`s (`WFm`: `Line.remove` leaves one in the pin list of a cell)
it reproduces the dump with every pin list trimmed (`rebuild_trim`, `trimNet`).  The invariant of the rebuild loop (`Inv`, `pinsOK`)
never looks at the trailing entries, so it is proved for `WFm` and the first statement is the second one where trimming changes
nothing.

The file also declares the weaker notions of well-formedness that the removals of C10 pass through; both follow from `WFm`.
`WFr` (for `substitute_sem_general`) drops the reader-side back pointer.  A line whose reader pin does not point back (`¬ PtsBack`)
is *stale on the reader side*: this is the state of the host line at an instance pin that the implementation ignores, between the
moment the pins of the instance are cleared and the moment `Line.remove()` deletes the line.  Every pin entry still is a line that
records this node and pin (`fwdIn`, `fwdOut`), so a stale line is at no pin at all: nobody reads it.
`WFx nn x` asks nothing of the pin lists of the one node `x` (the hypothesis of `Node.remove()` of `x`). -/
namespace KV.Transform
open KV

theorem getD_growSet (l : List (Option Nat)) (i p : Nat) (v : Option Nat) :
    (growSet l i v).getD p none = if p = i then v else l.getD p none := KV.getD_growSet l i p v

theorem length_growSet (l : List (Option Nat)) (i : Nat) (v : Option Nat) :
    (growSet l i v).length = if i < l.length then l.length else i + 1 := by
  unfold growSet; split <;> simp <;> omega

theorem noTrail_iff_getD (l : List (Option Nat)) : noTrail l = true ↔ (0 < l.length → l.getD (l.length - 1) none ≠ none) := by
  simp only [noTrail, bne_iff_ne, ne_eq, List.getLast?_eq_getElem?, List.getD_eq_getElem?_getD]
  by_cases h : 0 < l.length
  · have hl : l.length - 1 < l.length := by omega
    simp [h, List.getElem?_eq_getElem hl]
  · have : l = [] := by cases l with | nil => rfl | cons _ _ => simp at h
    subst this; simp

theorem noTrail_growSet_some (l : List (Option Nat)) (i x : Nat) (h : noTrail l = true) :
    noTrail (growSet l i (some x)) = true := by
  rw [noTrail_iff_getD] at h ⊢
  rw [getD_growSet, length_growSet]
  intro _
  split
  · split
    · simp
    · exact h (by omega)
  · simp

theorem ext_noTrail (a b : List (Option Nat)) (ha : noTrail a = true) (hb : noTrail b = true)
    (h : ∀ p, a.getD p none = b.getD p none) : a = b := by
  rw [noTrail_iff_getD] at ha hb
  have key : ∀ (a b : List (Option Nat)), (0 < b.length → b.getD (b.length - 1) none ≠ none) →
      (∀ p, a.getD p none = b.getD p none) → b.length ≤ a.length := by
    intro a b hb h
    apply Classical.byContradiction; intro hlt
    refine hb (by omega) ?_
    rw [← h, List.getD_eq_getElem?_getD, List.getElem?_eq_none (by omega)]; rfl
  have hlen : a.length = b.length := Nat.le_antisymm (key b a ha (fun p => (h p).symm)) (key a b hb h)
  apply List.ext_getElem hlen
  intro i h1 h2
  have := h i
  simp only [List.getD_eq_getElem?_getD, List.getElem?_eq_getElem h1, List.getElem?_eq_getElem h2, Option.getD_some] at this
  exact this


/-- `nn.wf = true` as a proposition; `back`: a line is at the two pins it records, `fwdIn` / `fwdOut`: a pin entry records that pin -/
structure WF (nn : NNet) : Prop where
  names : nn.names.size = nn.net.nodes.size
  nodup : nn.keys.Nodup
  io : ∀ i ∈ nn.net.io, i < nn.net.nodes.size
  back : ∀ l, l < nn.net.lines.size →
    (nn.net.line l).driver < nn.net.nodes.size ∧ (nn.net.line l).reader < nn.net.nodes.size ∧
    (nn.net.node (nn.net.line l).driver).outs.getD (nn.net.line l).dpin none = some l ∧
    (nn.net.node (nn.net.line l).reader).ins.getD (nn.net.line l).rpin none = some l
  fwdIn : ∀ i, i < nn.net.nodes.size → ∀ p l, (nn.net.node i).ins.getD p none = some l →
    l < nn.net.lines.size ∧ (nn.net.line l).reader = i ∧ (nn.net.line l).rpin = p
  fwdOut : ∀ i, i < nn.net.nodes.size → ∀ p l, (nn.net.node i).outs.getD p none = some l →
    l < nn.net.lines.size ∧ (nn.net.line l).driver = i ∧ (nn.net.line l).dpin = p
  trail : ∀ i, i < nn.net.nodes.size → noTrail (nn.net.node i).ins = true ∧ noTrail (nn.net.node i).outs = true

/-- `WF` without the clause on trailing `None`s (`nn.wfNoTrail = true`) -/
structure WFm (nn : NNet) : Prop where
  names : nn.names.size = nn.net.nodes.size
  nodup : nn.keys.Nodup
  io : ∀ i ∈ nn.net.io, i < nn.net.nodes.size
  back : ∀ l, l < nn.net.lines.size →
    (nn.net.line l).driver < nn.net.nodes.size ∧ (nn.net.line l).reader < nn.net.nodes.size ∧
    (nn.net.node (nn.net.line l).driver).outs.getD (nn.net.line l).dpin none = some l ∧
    (nn.net.node (nn.net.line l).reader).ins.getD (nn.net.line l).rpin none = some l
  fwdIn : ∀ i, i < nn.net.nodes.size → ∀ p l, (nn.net.node i).ins.getD p none = some l →
    l < nn.net.lines.size ∧ (nn.net.line l).reader = i ∧ (nn.net.line l).rpin = p
  fwdOut : ∀ i, i < nn.net.nodes.size → ∀ p l, (nn.net.node i).outs.getD p none = some l →
    l < nn.net.lines.size ∧ (nn.net.line l).driver = i ∧ (nn.net.line l).dpin = p

theorem WF.toWFm {nn : NNet} (w : WF nn) : WFm nn := { w with }

theorem WFm.drvLt {nn : NNet} (h : WFm nn) (l : Nat) (hl : l < nn.net.lines.size) : (nn.net.line l).driver < nn.net.nodes.size :=
  (h.back l hl).1

theorem wf_split (nn : NNet) : nn.wf = (nn.wfNoTrail &&
    (List.range nn.net.nodes.size).all fun i => noTrail (nn.net.node i).ins && noTrail (nn.net.node i).outs) := rfl

theorem WFm.of_wfNoTrail {nn : NNet} (h : nn.wfNoTrail = true) : WFm nn := by
  simp only [NNet.wfNoTrail, Bool.and_eq_true, beq_iff_eq, decide_eq_true_eq, List.all_eq_true] at h
  obtain ⟨⟨⟨⟨h1, h2⟩, h3⟩, h4⟩, h5⟩ := h
  refine ⟨h1, h2, h3, ?_, ?_, ?_⟩
  · intro l hl
    simp only [NNet.pinsBack, List.all_eq_true, List.mem_range, Bool.and_eq_true, decide_eq_true_eq, beq_iff_eq] at h4
    have := h4 l hl
    exact ⟨this.1.1.1, this.1.1.2, this.1.2, this.2⟩
  · intro i hi p l hp
    simp only [NNet.pinsFwd, List.all_eq_true, List.mem_range, Bool.and_eq_true] at h5
    have := (h5 i hi).1 p (lt_of_getD_some hp)
    simp only [NodeD.inPin, hp, Bool.and_eq_true, decide_eq_true_eq, beq_iff_eq] at this
    exact ⟨this.1.1, this.1.2, this.2⟩
  · intro i hi p l hp
    simp only [NNet.pinsFwd, List.all_eq_true, List.mem_range, Bool.and_eq_true] at h5
    have := (h5 i hi).2 p (lt_of_getD_some hp)
    simp only [NodeD.outPin, hp, Bool.and_eq_true, decide_eq_true_eq, beq_iff_eq] at this
    exact ⟨this.1.1, this.1.2, this.2⟩

theorem wfNoTrail_of_WFm {nn : NNet} (w : WFm nn) : nn.wfNoTrail = true := by
  simp only [NNet.wfNoTrail, Bool.and_eq_true, beq_iff_eq, decide_eq_true_eq, List.all_eq_true]
  refine ⟨⟨⟨⟨w.names, w.nodup⟩, fun i hi => w.io i hi⟩, ?_⟩, ?_⟩
  · simp only [NNet.pinsBack, List.all_eq_true, List.mem_range, Bool.and_eq_true, decide_eq_true_eq, beq_iff_eq]
    intro l hl
    obtain ⟨b1, b2, b3, b4⟩ := w.back l hl
    exact ⟨⟨⟨b1, b2⟩, b3⟩, b4⟩
  · simp only [NNet.pinsFwd, List.all_eq_true, List.mem_range, Bool.and_eq_true]
    intro i hi
    constructor
    · intro p _
      cases hp : (nn.net.node i).inPin p with
      | none => rfl
      | some l =>
        obtain ⟨a1, a2, a3⟩ := w.fwdIn i hi p l hp
        simp [a1, a2, a3]
    · intro p _
      cases hp : (nn.net.node i).outPin p with
      | none => rfl
      | some l =>
        obtain ⟨a1, a2, a3⟩ := w.fwdOut i hi p l hp
        simp [a1, a2, a3]

theorem WF.of_wf {nn : NNet} (h : nn.wf = true) : WF nn := by
  rw [wf_split, Bool.and_eq_true, List.all_eq_true] at h
  exact { WFm.of_wfNoTrail h.1 with trail := fun i hi => by simpa using h.2 i (List.mem_range.2 hi) }

theorem wf_of_WF {nn : NNet} (w : WF nn) : nn.wf = true := by
  rw [wf_split, wfNoTrail_of_WFm w.toWFm, Bool.true_and, List.all_eq_true]
  intro i hi
  rw [Bool.and_eq_true]
  exact w.trail i (List.mem_range.mp hi)

/-- the invariant of the rebuild loop for one pin list: after the first `k` lines, `rebuilt` holds exactly the entries `< k` of `orig` -/
def pinsOK (k : Nat) (orig rebuilt : List (Option Nat)) : Prop :=
  noTrail rebuilt = true ∧ ∀ p, rebuilt.getD p none = (orig.getD p none).filter (· < k)

theorem filter_succ_ne {k : Nat} {o : Option Nat} (h : o ≠ some k) :
    o.filter (· < k + 1) = o.filter (· < k) := by
  cases o with
  | none => rfl
  | some l =>
    have : l ≠ k := fun e => h (by rw [e])
    have e : (l < k + 1) = (l < k) := propext (by omega)
    simp only [Option.filter, e]

/-- line `k` is added: `c` = "this node is its end", `p0` = the pin -/
theorem pinsOK_step {k p0 : Nat} {orig reb : List (Option Nat)} (c : Prop) [Decidable c] (h : pinsOK k orig reb)
    (ho : c → orig.getD p0 none = some k) (hu : ∀ p, orig.getD p none = some k → c ∧ p = p0) :
    pinsOK (k + 1) orig (if c then growSet reb p0 (some k) else reb) := by
  by_cases hc : c
  · rw [if_pos hc]
    refine ⟨noTrail_growSet_some _ _ _ h.1, fun p => ?_⟩
    rw [getD_growSet]
    by_cases e : p = p0
    · subst e; rw [ho hc]; simp [Option.filter]
    · simp only [e, if_false]
      rw [h.2 p, filter_succ_ne]
      intro hp; exact e (hu p hp).2
  · rw [if_neg hc]
    exact ⟨h.1, fun p => by rw [h.2 p, filter_succ_ne fun hp => hc (hu p hp).1]⟩

theorem pinsOK_zero (orig : List (Option Nat)) : pinsOK 0 orig [] := by
  refine ⟨by simp [noTrail], fun p => ?_⟩
  cases h : orig.getD p none <;> simp [Option.filter]

/-- invariant of the rebuild loop of `copy` / `__setstate__` after `k` lines: `k` lines are in place and every node has its kind and
    the pin entries of those lines (`pinsOK`) -/
def Inv (nn : NNet) (k : Nat) (st : Array NodeD × Array LineD) : Prop :=
  st.2.size = k ∧ st.1.size = nn.net.nodes.size ∧ ∀ i, i < nn.net.nodes.size →
    ∃ n, st.1[i]? = some n ∧ n.kind = (nn.net.node i).kind ∧
      pinsOK k (nn.net.node i).ins n.ins ∧ pinsOK k (nn.net.node i).outs n.outs

theorem node_getElem? (net : Net) (i : Nat) (h : i < net.nodes.size) : net.nodes[i]? = some (net.node i) := by
  simp [Net.node, Array.getD_eq_getD_getElem?, Array.getElem?_eq_getElem h]

theorem inv_zero (nn : NNet) : Inv nn 0 (blank nn.net.nodes, #[]) := by
  refine ⟨rfl, by simp [blank], fun i hi => ?_⟩
  refine ⟨{ nn.net.node i with ins := [], outs := [] }, ?_, rfl, pinsOK_zero _, pinsOK_zero _⟩
  simp [blank, Array.getElem?_map, node_getElem? nn.net i hi]

theorem inv_step (nn : NNet) (w : WFm nn) (k : Nat) (hk : k < nn.net.lines.size) (st : Array NodeD × Array LineD)
    (h : Inv nn k st) :
    Inv nn (k + 1) (addLine st (nn.net.line k).driver (nn.net.line k).dpin (nn.net.line k).reader (nn.net.line k).rpin) := by
  obtain ⟨h1, h2, h3⟩ := h
  obtain ⟨bd, br, bo, bi⟩ := w.back k hk
  refine ⟨by simp [addLine, h1], by simp [addLine, Array.size_modify, h2], fun i hi => ?_⟩
  obtain ⟨n, hn, hkind, hins, houts⟩ := h3 i hi
  refine ⟨{ kind := n.kind,
            ins := if (nn.net.line k).reader = i then growSet n.ins (nn.net.line k).rpin (some k) else n.ins,
            outs := if (nn.net.line k).driver = i then growSet n.outs (nn.net.line k).dpin (some k) else n.outs }, ?_, hkind, ?_, ?_⟩
  · simp only [addLine, Array.getElem?_modify, hn, h1]
    by_cases e1 : (nn.net.line k).reader = i <;> by_cases e2 : (nn.net.line k).driver = i <;> simp [e1, e2]
  · exact pinsOK_step _ hins (fun e => e ▸ bi) fun p hp => ⟨(w.fwdIn i hi p k hp).2.1, (w.fwdIn i hi p k hp).2.2.symm⟩
  · exact pinsOK_step _ houts (fun e => e ▸ bo) fun p hp => ⟨(w.fwdOut i hi p k hp).2.1, (w.fwdOut i hi p k hp).2.2.symm⟩

theorem inv_foldl (nn : NNet) (w : WFm nn) : Inv nn nn.net.lines.size
    (nn.net.lines.toList.foldl (fun st ln => addLine st ln.driver ln.dpin ln.reader ln.rpin) (blank nn.net.nodes, #[])) := by
  have := foldl_inv_done (fun st ln => addLine st ln.driver ln.dpin ln.reader ln.rpin) (fun done st => Inv nn done.length st)
    nn.net.lines.toList [] _ (inv_zero nn) fun pre ln r st e h => ?_
  · simpa using this
  · have hlen : pre.length < nn.net.lines.size := by rw [← Array.length_toList, e]; simp
    have hln : nn.net.line pre.length = ln := by
      simp [Net.line, Array.getD_eq_getD_getElem?, ← Array.getElem?_toList, e]
    have hs := inv_step nn w pre.length hlen st (by simpa using h)
    rw [hln] at hs
    simpa using hs

theorem filter_lt_of_lt {k : Nat} {o : Option Nat} (h : ∀ l, o = some l → l < k) : o.filter (· < k) = o := by
  cases o with
  | none => rfl
  | some l => simp [Option.filter, h l rfl]

def trimTrail : List (Option Nat) → List (Option Nat)
  | [] => []
  | x :: xs => match trimTrail xs, x with
    | [], none => []
    | t, x => x :: t

/-- the dump with the trailing `None`s of every pin list removed (what `copy()` / a pickle round trip rebuilds) -/
def trimNet (nn : NNet) : NNet :=
  { nn with net := { nn.net with nodes := nn.net.nodes.map fun n => { n with ins := trimTrail n.ins, outs := trimTrail n.outs } } }

theorem trimTrail_getD : ∀ (l : List (Option Nat)) (p : Nat), (trimTrail l).getD p none = l.getD p none
  | [], _ => rfl
  | x :: xs, p => by
    have ih := trimTrail_getD xs
    unfold trimTrail
    split
    · rename_i h
      cases p with
      | zero => simp
      | succ q =>
        have := ih q
        rw [h] at this
        simpa using this
    · cases p with
      | zero => simp
      | succ q => simpa using ih q

theorem trimTrail_noTrail : ∀ (l : List (Option Nat)), noTrail (trimTrail l) = true
  | [] => by simp [trimTrail, noTrail]
  | x :: xs => by
    have ih := trimTrail_noTrail xs
    cases ht : trimTrail xs with
    | nil => cases x <;> simp [trimTrail, ht, noTrail]
    | cons y ys =>
      rw [ht] at ih
      have : trimTrail (x :: xs) = x :: y :: ys := by simp [trimTrail, ht]
      rw [this]
      simp only [noTrail, List.getLast?_cons_cons] at ih ⊢
      exact ih

theorem trimTrail_of_noTrail (l : List (Option Nat)) (h : noTrail l = true) : trimTrail l = l :=
  ext_noTrail _ _ (trimTrail_noTrail l) h (trimTrail_getD l)

theorem inv_final (nn : NNet) (w : WFm nn) (st : Array NodeD × Array LineD) (h : Inv nn nn.net.lines.size st) :
    st.1 = (trimNet nn).net.nodes := by
  obtain ⟨_, h2, h3⟩ := h
  apply Array.ext_getElem?
  intro i
  show st.1[i]? = (nn.net.nodes.map _)[i]?
  rw [Array.getElem?_map]
  by_cases hi : i < nn.net.nodes.size
  · obtain ⟨n, hn, hkind, hins, houts⟩ := h3 i hi
    rw [hn, node_getElem? nn.net i hi]
    have e1 : n.ins = trimTrail (nn.net.node i).ins := by
      apply ext_noTrail _ _ hins.1 (trimTrail_noTrail _)
      intro p; rw [hins.2 p, trimTrail_getD]
      exact filter_lt_of_lt (fun l hl => (w.fwdIn i hi p l hl).1)
    have e2 : n.outs = trimTrail (nn.net.node i).outs := by
      apply ext_noTrail _ _ houts.1 (trimTrail_noTrail _)
      intro p; rw [houts.2 p, trimTrail_getD]
      exact filter_lt_of_lt (fun l hl => (w.fwdOut i hi p l hl).1)
    cases n
    simp_all
  · rw [Array.getElem?_eq_none (by omega), Array.getElem?_eq_none (by omega)]; rfl

theorem foldl_lines (f : Array NodeD × Array LineD → LineD → Array NodeD × Array LineD)
    (hf : ∀ st ln, (f st ln).2 = st.2.push ln) : ∀ (l : List LineD) st, (l.foldl f st).2 = st.2 ++ l.toArray
  | [], st => by simp
  | ln :: l, st => by
    simp only [List.foldl_cons]
    rw [foldl_lines f hf l, hf]; simp

theorem NNet.ext' {a b : NNet} (h1 : a.net.nodes = b.net.nodes) (h2 : a.net.lines = b.net.lines)
    (h3 : a.net.io = b.net.io) (h4 : a.names = b.names) : a = b := by
  cases a with | mk na sa => cases b with | mk nb sb => cases na; cases nb; simp_all

theorem rebuild_trim (nn : NNet) (w : WFm nn) (ix : Nat → Nat) (hix : ∀ i, i < nn.net.nodes.size → ix i = i) :
    rebuild nn ix = trimNet nn := by
  have hnodes := inv_final nn w _ (inv_foldl nn w)
  have hlines := foldl_lines (fun st ln => addLine st ln.driver ln.dpin ln.reader ln.rpin) (fun st ln => rfl)
    nn.net.lines.toList (blank nn.net.nodes, #[])
  have hfold : nn.net.lines.toList.foldl (fun st ln => addLine st (ix ln.driver) ln.dpin (ix ln.reader) ln.rpin)
        (blank nn.net.nodes, #[]) =
      nn.net.lines.toList.foldl (fun st ln => addLine st ln.driver ln.dpin ln.reader ln.rpin) (blank nn.net.nodes, #[]) := by
    apply foldl_congr
    intro ln hln s
    obtain ⟨k, hk, e⟩ := List.getElem_of_mem hln
    have hk' : k < nn.net.lines.size := by simpa using hk
    have hl : nn.net.line k = ln := by
      simp [Net.line, Array.getD_eq_getD_getElem?, Array.getElem?_eq_getElem hk', ← e]
    have b := w.back k hk'
    rw [hl] at b
    simp only [hix _ b.1, hix _ b.2.1]
  have hio : nn.net.io.map ix = nn.net.io :=
    (List.map_congr_left (fun i hi => hix i (w.io i hi))).trans (List.map_id' _)
  apply NNet.ext'
  · simp only [rebuild]
    rw [hfold]; exact hnodes
  · simp only [rebuild]
    rw [hfold, hlines]; simp [trimNet]
  · exact hio
  · rfl

theorem trimNet_of_WF (nn : NNet) (w : WF nn) : trimNet nn = nn := by
  refine NNet.ext' (Array.ext_getElem? fun i => ?_) rfl rfl rfl
  show (nn.net.nodes.map _)[i]? = _
  rw [Array.getElem?_map]
  by_cases hi : i < nn.net.nodes.size
  · rw [node_getElem? nn.net i hi, Option.map_some, trimTrail_of_noTrail _ (w.trail i hi).1,
      trimTrail_of_noTrail _ (w.trail i hi).2]
  · rw [Array.getElem?_eq_none (by omega)]; rfl

theorem rebuild_eq (nn : NNet) (w : WF nn) (ix : Nat → Nat) (hix : ∀ i, i < nn.net.nodes.size → ix i = i) :
    rebuild nn ix = nn :=
  (rebuild_trim nn w.toWFm ix hix).trans (trimNet_of_WF nn w)

theorem key_inj (nn : NNet) (hn : nn.keys.Nodup) (x y : Nat) (hx : x < nn.net.nodes.size) (hy : y < nn.net.nodes.size)
    (e : nn.key x = nn.key y) : x = y :=
  inj_of_nodup_map nn.key hn (List.mem_range.mpr hx) (List.mem_range.mpr hy) e

theorem lookup_key_m (nn : NNet) (hn : nn.keys.Nodup) (i : Nat) (hi : i < nn.net.nodes.size) : nn.lookup (nn.key i) = i := by
  have hlen : i < nn.keys.length := by simp [NNet.keys, hi]
  have hk : nn.keys[i] = nn.key i := by simp [NNet.keys]
  rw [NNet.lookup, ← hk]
  exact hn.idxOf_getElem i hlen

/-- `WF` without the clause on trailing `None`s and without the reader-side back pointer -/
structure WFr (nn : NNet) : Prop where
  names : nn.names.size = nn.net.nodes.size
  nodup : nn.keys.Nodup
  io : ∀ i ∈ nn.net.io, i < nn.net.nodes.size
  back : ∀ l, l < nn.net.lines.size →
    (nn.net.line l).driver < nn.net.nodes.size ∧ (nn.net.line l).reader < nn.net.nodes.size ∧
    (nn.net.node (nn.net.line l).driver).outs.getD (nn.net.line l).dpin none = some l
  fwdIn : ∀ i, i < nn.net.nodes.size → ∀ p l, (nn.net.node i).ins.getD p none = some l →
    l < nn.net.lines.size ∧ (nn.net.line l).reader = i ∧ (nn.net.line l).rpin = p
  fwdOut : ∀ i, i < nn.net.nodes.size → ∀ p l, (nn.net.node i).outs.getD p none = some l →
    l < nn.net.lines.size ∧ (nn.net.line l).driver = i ∧ (nn.net.line l).dpin = p

def PtsBack (nn : NNet) (l : Nat) : Prop :=
  (nn.net.node (nn.net.line l).reader).ins.getD (nn.net.line l).rpin none = some l

/-- `WFm` except for the pin lists of node `x`: a node that is about to be removed may keep stale entries (the spliced fork of
    `eliminate_1to1_forks` still lists the in-line that has been given to the next reader), and `Node.remove()` (`delNode`) never
    looks at them -/
structure WFx (nn : NNet) (x : Nat) : Prop where
  names : nn.names.size = nn.net.nodes.size
  nodup : nn.keys.Nodup
  io : ∀ i ∈ nn.net.io, i < nn.net.nodes.size
  back : ∀ l, l < nn.net.lines.size →
    (nn.net.line l).driver < nn.net.nodes.size ∧ (nn.net.line l).reader < nn.net.nodes.size ∧
    (nn.net.node (nn.net.line l).driver).outs.getD (nn.net.line l).dpin none = some l ∧
    (nn.net.node (nn.net.line l).reader).ins.getD (nn.net.line l).rpin none = some l
  fwdIn : ∀ i, i < nn.net.nodes.size → i ≠ x → ∀ p l, (nn.net.node i).ins.getD p none = some l →
    l < nn.net.lines.size ∧ (nn.net.line l).reader = i ∧ (nn.net.line l).rpin = p
  fwdOut : ∀ i, i < nn.net.nodes.size → i ≠ x → ∀ p l, (nn.net.node i).outs.getD p none = some l →
    l < nn.net.lines.size ∧ (nn.net.line l).driver = i ∧ (nn.net.line l).dpin = p

theorem WFm.toWFx {nn : NNet} (w : WFm nn) (x : Nat) : WFx nn x :=
  ⟨w.names, w.nodup, w.io, w.back, fun i hi _ => w.fwdIn i hi, fun i hi _ => w.fwdOut i hi⟩

theorem WFm.toWFr {nn : NNet} (w : WFm nn) : WFr nn :=
  { w with back := fun l hl => ⟨(w.back l hl).1, (w.back l hl).2.1, (w.back l hl).2.2.1⟩ }

theorem WF.toWFr {nn : NNet} (w : WF nn) : WFr nn := w.toWFm.toWFr

theorem WFr.insPins {h : NNet} (w : WFr h) {c : Nat} (hc : c < h.net.nodes.size) :
    (∀ l ∈ (h.net.node c).ins.filterMap id, l < h.net.lines.size ∧ (h.net.line l).reader = c) ∧
    ((h.net.node c).ins.filterMap id).Nodup :=
  ⟨fun l hl => ((mem_filterMap_id _ l).mp hl).elim fun k hk => ⟨(w.fwdIn c hc k l hk).1, (w.fwdIn c hc k l hk).2.1⟩,
   nodup_filterMap_id _ fun k1 k2 x h1 h2 => by rw [← (w.fwdIn c hc k1 x h1).2.2, ← (w.fwdIn c hc k2 x h2).2.2]⟩

theorem WFr.outsPins {h : NNet} (w : WFr h) {c : Nat} (hc : c < h.net.nodes.size) :
    (∀ l ∈ (h.net.node c).outs.filterMap id, l < h.net.lines.size ∧ (h.net.line l).driver = c) ∧
    ((h.net.node c).outs.filterMap id).Nodup :=
  ⟨fun l hl => ((mem_filterMap_id _ l).mp hl).elim fun k hk => ⟨(w.fwdOut c hc k l hk).1, (w.fwdOut c hc k l hk).2.1⟩,
   nodup_filterMap_id _ fun k1 k2 x h1 h2 => by rw [← (w.fwdOut c hc k1 x h1).2.2, ← (w.fwdOut c hc k2 x h2).2.2]⟩

theorem WFr.ptsBack_of_pin {nn : NNet} (w : WFr nn) (i p l : Nat) (hi : i < nn.net.nodes.size)
    (hp : (nn.net.node i).ins.getD p none = some l) : PtsBack nn l := by
  obtain ⟨_, h2, h3⟩ := w.fwdIn i hi p l hp
  unfold PtsBack
  rw [h2, h3]; exact hp

end KV.Transform
