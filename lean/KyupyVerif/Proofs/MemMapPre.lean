import KyupyVerif.Proofs.MemMapAlloc
/-! The pre-loop of `memMap` (special slots, input slots, pins) as a run of allocations plus a run of reference-count
increments; it establishes the allocation invariant at row 0. -/
namespace KV
open KV.Heap

def allocL (s : MapSt) (xs : List Nat) (c : Nat) : MapSt := xs.foldl (fun s x => allocAt s x c) s

theorem allocL_withRefc (s : MapSt) (r : Array Int) (xs : List Nat) (c : Nat) :
    allocL (withRefc s r) xs c = withRefc (allocL s xs c) r := by
  induction xs generalizing s with
  | nil => rfl
  | cons x xs ih =>
    simp only [allocL, List.foldl_cons] at ih ⊢
    exact ih (allocAt s x c)

theorem allocL_refc (s : MapSt) (xs : List Nat) (c : Nat) : (allocL s xs c).refc = s.refc := by
  induction xs generalizing s with
  | nil => rfl
  | cons x xs ih =>
    simp only [allocL, List.foldl_cons] at ih ⊢
    rw [ih]; rfl

theorem allocL_append (s : MapSt) (xs ys : List Nat) (c : Nat) : allocL s (xs ++ ys) c = allocL (allocL s xs c) ys c := by
  simp [allocL, List.foldl_append]

def snA (net : Net) (ni : Nat × Nat) : List Nat := if (net.node ni.1).outs.length > 0 then [net.idx.ppi + ni.2] else []
def snC (net : Net) (st : Array (Option Nat)) (ni : Nat × Nat) : List Nat :=
  if (net.node ni.1).ins.length > 0 then
    match (net.node ni.1).inPin 0 with
    | some l => [viaStem st l]
    | none => []
  else []

theorem withRefc_withRefc (s : MapSt) (r r' : Array Int) : withRefc (withRefc s r) r' = withRefc s r' := rfl
theorem withRefc_self (s : MapSt) : withRefc s s.refc = s := rfl
theorem withRefc_refc (s : MapSt) (r : Array Int) : (withRefc s r).refc = r := rfl

theorem mapSnStep_eq (net : Net) (st : Array (Option Nat)) (c : Nat) (s : MapSt) (ni : Nat × Nat) :
    mapSnStep net st c s ni = withRefc (allocL s (snA net ni) c) (incs s.refc (snA net ni ++ snC net st ni)) := by
  unfold mapSnStep snA snC
  simp only
  by_cases h1 : (net.node ni.1).outs.length > 0 <;> by_cases h2 : (net.node ni.1).ins.length > 0 <;>
    cases h3 : (net.node ni.1).inPin 0 <;> simp only [h1, h2, if_true, if_false] <;> rfl

theorem foldl_mapSnStep (net : Net) (st : Array (Option Nat)) (c : Nat) (l : List (Nat × Nat)) (s : MapSt) :
    l.foldl (mapSnStep net st c) s =
      withRefc (allocL s (l.flatMap (snA net)) c) (incs s.refc (l.flatMap fun ni => snA net ni ++ snC net st ni)) := by
  induction l generalizing s with
  | nil => rfl
  | cons ni r ih =>
    rw [List.foldl_cons, ih, mapSnStep_eq, allocL_withRefc, withRefc_withRefc]
    simp only [withRefc_refc, List.flatMap_cons, allocL_append, incs_append]

theorem foldl_incRef (xs : List Nat) (s : MapSt) : xs.foldl incRef s = withRefc s (incs s.refc xs) := by
  induction xs generalizing s with
  | nil => rfl
  | cons x r ih => simp only [List.foldl_cons, ih, incRef, incs, withRefc]

def preAlloc (net : Net) : List Nat :=
  [net.idx.zero, net.idx.tmp, net.idx.tmp2] ++ net.sNodes.zipIdx.flatMap (snA net)
/-- the pins: one `ref_count += 1` each -/
def prePins (net : Net) (st : Array (Option Nat)) : List Nat :=
  [net.idx.zero, net.idx.tmp, net.idx.tmp2] ++ net.sNodes.zipIdx.flatMap fun ni => snA net ni ++ snC net st ni

theorem mapPre_eq (net : Net) (st : Array (Option Nat)) (lev : LevSt) (c : Nat) :
    mapPre net st lev c = withRefc (allocL (mapInit net lev) (preAlloc net) c) (incs lev.refc (prePins net st)) := by
  unfold mapPre preAlloc prePins
  simp only
  rw [foldl_mapSnStep, foldl_incRef, allocL_withRefc, withRefc_withRefc, withRefc_refc, allocL_append, incs_append]
  have : List.foldl (fun s x => allocAt s x c) (mapInit net lev) [net.idx.zero, net.idx.tmp, net.idx.tmp2] =
      allocL (mapInit net lev) [net.idx.zero, net.idx.tmp, net.idx.tmp2] c := rfl
  rw [this, allocL_refc]
  rfl


/-- a run of allocations before the first level (nothing is dead at row 0) -/
theorem AInv.allocL {p : MapIn} {reuse : Bool} (hpos : 0 < p.capsMin) (xs : List Nat) :
    ∀ {A : Nat → Prop} {s : MapSt}, AInv p reuse 0 A s → xs.Nodup → (∀ x ∈ xs, ¬ A x ∧ x < p.ix.len) →
      AInv p reuse 0 (fun x => A x ∨ x ∈ xs) (allocL s xs p.capsMin) := by
  induction xs with
  | nil => intro A s h _ _; exact h.weaken (fun x hx => by simpa using hx)
  | cons y r ih =>
    intro A s h hnd hx
    obtain ⟨hy, hnd'⟩ := List.nodup_cons.mp hnd
    have h1 := h.alloc y p.capsMin (hx y List.mem_cons_self).1 (hx y List.mem_cons_self).2 (Nat.le_refl _) hpos hpos
      (fun x _ hd => absurd hd (not_dead_zero p reuse x))
    have h2 := ih h1 hnd' (by
      intro x hxr
      have := hx x (List.mem_cons_of_mem _ hxr)
      refine ⟨?_, this.2⟩
      rintro (ha | rfl)
      · exact this.1 ha
      · exact hy hxr)
    refine h2.weaken ?_
    intro x hx'
    rcases hx' with ha | hm
    · exact .inl (.inl ha)
    · rcases List.mem_cons.mp hm with rfl | hm
      · exact .inl (.inr rfl)
      · exact .inr hm

theorem AInv.init (p : MapIn) (reuse : Bool) (lev : LevSt) : AInv p reuse 0 (fun _ => False) (mapInit p.net lev) := by
  refine ⟨?_, ?_, empty_inv, ?_, ?_, ?_, ?_⟩
  · simp [mapInit, MapIn.ix]
  · simp [mapInit, MapIn.ix]
  all_goals (intro x; intros; contradiction)

theorem mem_snA {net : Net} {x : Nat} {l : List (Nat × Nat)} (h : x ∈ l.flatMap (snA net)) :
    ∃ ni ∈ l, (net.node ni.1).outs.length > 0 ∧ x = net.idx.ppi + ni.2 := by
  simp only [List.mem_flatMap] at h
  obtain ⟨ni, hm, hx⟩ := h
  unfold snA at hx
  split at hx
  · rename_i ho
    simp only [List.mem_singleton] at hx
    exact ⟨ni, hm, ho, hx⟩
  · cases hx

theorem ppiSlots_sub (p : MapIn) {x : Nat} (h : x ∈ p.ppiSlots) : x ∈ p.net.sNodes.zipIdx.flatMap (snA p.net) := by
  obtain ⟨n, i, hm, ho, rfl⟩ := MapSound.mem_ppiSlots.mp h
  exact List.mem_flatMap.mpr ⟨(n, i), hm, by simp [snA, ho, MapIn.ix]⟩

theorem snA_nodup (net : Net) : ∀ (l : List (Nat × Nat)), l.Pairwise (fun a b => a.2 < b.2) → (l.flatMap (snA net)).Nodup := by
  intro l
  induction l with
  | nil => intro _; simp
  | cons a r ih =>
    intro hpw
    obtain ⟨h1, h2⟩ := List.pairwise_cons.mp hpw
    rw [List.flatMap_cons, List.nodup_append]
    refine ⟨?_, ih h2, ?_⟩
    · unfold snA; split <;> simp
    · intro x hx y hy
      obtain ⟨ni, hm, _, rfl⟩ := mem_snA hy
      unfold snA at hx
      split at hx
      · simp only [List.mem_singleton] at hx
        have := h1 ni hm
        omega
      · cases hx

theorem preAlloc_ok (p : MapIn) : (preAlloc p.net).Nodup ∧ ∀ x ∈ preAlloc p.net, x < p.ix.len := by
  obtain ⟨i1, i2, i3, i4, i5, i6⟩ := ix_vals p
  simp only [MapIn.ix] at i1 i2 i3 i4 i5 i6 ⊢
  have hr : ∀ x ∈ p.net.sNodes.zipIdx.flatMap (snA p.net), p.net.idx.ppi ≤ x ∧ x < p.net.idx.ppo := by
    intro x hx
    obtain ⟨⟨n, i⟩, hm, _, rfl⟩ := mem_snA hx
    have := (List.getElem?_eq_some_iff.mp (mem_zipIdx_getElem? hm)).1
    simp only
    omega
  unfold preAlloc
  constructor
  · rw [List.nodup_append]
    refine ⟨?_, snA_nodup p.net _ (zipIdx_pairwise_lt _ 0), ?_⟩
    · simp [i1, i2, i3]
    · intro x hx y hy
      have := hr y hy
      simp only [List.mem_cons, List.mem_nil_iff, or_false] at hx
      rcases hx with rfl | rfl | rfl <;> omega
  · intro x hx
    rcases List.mem_append.mp hx with h | h
    · simp only [List.mem_cons, List.mem_nil_iff, or_false] at h
      rcases h with rfl | rfl | rfl <;> omega
    · have := hr x h; omega

theorem pinned_mem_prePins (p : MapIn) {x : Nat} (h : pinnedM p x = true) : x ∈ prePins p.net p.stems := by
  unfold prePins
  simp only [pinnedM, Bool.or_eq_true, beq_iff_eq, MapSound.pinned_iff] at h
  rcases h with ((h | h | ⟨j, hjs⟩) | h) | h
  · simp [h, MapIn.ix]
  · apply List.mem_append_right
    have := ppiSlots_sub p h
    simp only [List.mem_flatMap] at this ⊢
    obtain ⟨ni, hm, hx⟩ := this
    exact ⟨ni, hm, List.mem_append_left _ hx⟩
  · apply List.mem_append_right
    obtain ⟨n, i, l, hm, hp0, _, rfl⟩ := mem_ppoSrcs_elim hjs
    simp only [List.mem_flatMap]
    refine ⟨(n, i), hm, List.mem_append_right _ ?_⟩
    simp only [snC, show (p.net.node n).ins.length > 0 from lt_of_getD_some hp0, if_true, hp0, List.mem_singleton]
    rfl
  · simp [h, MapIn.ix]
  · simp [h, MapIn.ix]

theorem mapPre_inv {p : MapIn} (hpos : 0 < p.capsMin) (reuse : Bool) (lev : LevSt)
    (hsz : lev.refc.size = p.ix.len) (hrc : ∀ x, x < p.ix.len → lev.refc.getD x 0 = (occ p.stems x p.ops : Int)) :
    MInv p reuse 0 (mapPre p.net p.stems lev p.capsMin) := by
  rw [mapPre_eq]
  obtain ⟨hnd, hlt⟩ := preAlloc_ok p
  have hA := (AInv.init p reuse lev).allocL hpos (preAlloc p.net) hnd (fun x hx => ⟨fun f => f, hlt x hx⟩)
  constructor
  · refine (hA.withRefc _).weaken ?_
    intro x hx
    right
    unfold preAlloc
    rcases hx with h | h | h | h | ⟨k', _, hk', _⟩
    · simp [h, MapIn.ix]
    · simp [h, MapIn.ix]
    · simp [h, MapIn.ix]
    · exact List.mem_append_right _ (ppiSlots_sub p h)
    · omega
  · refine ⟨by rw [withRefc_refc, incs_size]; exact hsz, ?_⟩
    intro x hx
    rw [withRefc_refc, incs_getD _ _ _ (by rw [hsz]; exact hx), hrc x hx, List.drop_zero]
    cases hpx : pinnedM p x with
    | false => simp only [Bool.false_eq_true, if_false]; omega
    | true =>
      have := List.count_pos_iff.mpr (pinned_mem_prePins p hpx)
      simp only [if_true]
      omega

end KV
