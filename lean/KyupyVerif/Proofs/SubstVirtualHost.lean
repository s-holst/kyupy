import KyupyVerif.Proofs.SubstLkLoops
import KyupyVerif.Proofs.SubstKeepsAll
/-! C10, `substitute_sem_general`: the **virtual host** `hostClr` (the instance pins that the implementation ignores count as
unconnected), its meaning compared with the host's, the lockstep relation at the start for implementations with and without
designated cell, and the whole real run of `substituteCore` in lockstep with the virtual run (`lockstep`).  The host lines at the
ignored pins stay in the virtual host, stale on the reader side. -/
namespace KV.Transform
open KV

/-- the input pin list of the instance with the ignored pins cleared -/
def clrIns (m : NNet) (sh : Shape) (ins : List (Option Nat)) : List (Option Nat) :=
  ((sh.inPorts.zip (padTo ins sh.inPorts.length)).map (clrIgn m)).map (·.2)

/-- the **virtual host**: the host with `clrIns` at the instance; the lines at the cleared pins stay, stale on the reader side -/
def hostClr (h : NNet) (c : Nat) (m : NNet) (sh : Shape) : NNet :=
  { h with net := { h.net with nodes := h.net.nodes.modify c fun n => { n with ins := clrIns m sh n.ins } } }

theorem clrIns_length (m : NNet) (sh : Shape) (ins : List (Option Nat)) (hl : ins.length ≤ sh.inPorts.length) :
    (clrIns m sh ins).length = sh.inPorts.length := by
  simp [clrIns, padTo_length _ _ hl]

theorem zip_clrIns (m : NNet) (sh : Shape) (ins : List (Option Nat)) (hl : ins.length ≤ sh.inPorts.length) :
    sh.inPorts.zip (padTo (clrIns m sh ins) sh.inPorts.length) = (sh.inPorts.zip (padTo ins sh.inPorts.length)).map (clrIgn m) := by
  have h1 : padTo (clrIns m sh ins) sh.inPorts.length = clrIns m sh ins := by
    simp [padTo, clrIns_length m sh ins hl]
  rw [h1]
  symm
  apply List.zip_of_prod
  · rw [List.map_map]
    have : (Prod.fst ∘ clrIgn m) = Prod.fst := by funext p; rfl
    rw [this, List.map_fst_zip]
    rw [padTo_length _ _ hl]; exact Nat.le_refl _
  · rfl

theorem clrIns_getD (m : NNet) (sh : Shape) (ins : List (Option Nat)) (hl : ins.length ≤ sh.inPorts.length) (k : Nat) :
    (clrIns m sh ins).getD k none =
      match sh.inPorts[k]? with
      | some inn => if ignoredPort m inn then none else ins.getD k none
      | none => none := by
  simp only [clrIns, List.getD_eq_getElem?_getD, List.getElem?_map]
  cases hp : sh.inPorts[k]? with
  | none =>
    have : (sh.inPorts.zip (padTo ins sh.inPorts.length))[k]? = none := by
      rw [List.getElem?_eq_none_iff] at hp ⊢
      simp; omega
    simp [this]
  | some inn =>
    have hk : k < sh.inPorts.length := (List.getElem?_eq_some_iff.mp hp).1
    have hpad : (padTo ins sh.inPorts.length)[k]? = some (ins.getD k none) := by
      rw [← padTo_getD ins sh.inPorts.length, List.getD_eq_getElem?_getD,
        List.getElem?_eq_getElem (by rw [padTo_length _ _ hl]; exact hk)]; rfl
    have : (sh.inPorts.zip (padTo ins sh.inPorts.length))[k]? = some (inn, ins.getD k none) := by
      rw [List.getElem?_zip_eq_some]; exact ⟨hp, hpad⟩
    rw [this]
    simp only [Option.map_some, clrIgn, Option.getD_some]
    split <;> rfl

theorem hostClr_node (h : NNet) (c : Nat) (m : NNet) (sh : Shape) (x : Nat) : (hostClr h c m sh).net.node x =
    if x = c ∧ c < h.net.nodes.size then { h.net.node x with ins := clrIns m sh (h.net.node x).ins } else h.net.node x := by
  show nodeA (h.net.nodes.modify c _) x = _
  rw [nodeA_modify]; rfl

theorem hostClr_line (h : NNet) (c : Nat) (m : NNet) (sh : Shape) (l : Nat) : (hostClr h c m sh).net.line l = h.net.line l := rfl

theorem phase1_hostClr (h : NNet) (c : Nat) (m : NNet) (sh : Shape) (dn : Nat) :
    phase1 (hostClr h c m sh) c m (some dn) = phase1 h c m (some dn) := by
  simp only [phase1, hostClr]
  congr 3
  apply Array.ext
  · simp
  · intro i h1 h2
    simp only [Array.getElem_modify]
    split <;> rfl



theorem phase1_rest (h : NNet) (c : Nat) (m : NNet) (dn : Nat) :
    (phase1 h c m (some dn)).1.net.lines = h.net.lines ∧ (phase1 h c m (some dn)).1.net.io = h.net.io ∧
    (phase1 h c m (some dn)).1.net.nodes.size = h.net.nodes.size ∧ (phase1 h c m (some dn)).1.names = h.names := by
  simp [phase1]

/-- the state after the pins of the instance have been cleared, related to itself: the lines at the pins of the instance
    are pending -/
theorem lk_init (h : NNet) (c : Nat) (m : NNet) (dn : Nat) (w : WFm h) (hc : c < h.net.nodes.size) :
    Lk (ownN h c) id id (fun _ => False) (fun l => l ∈ (h.net.node c).ins.filterMap id)
      (fun l => l ∈ (h.net.node c).outs.filterMap id) (phase1 h c m (some dn)).1.net (phase1 h c m (some dn)).1.net := by
  obtain ⟨e1, e2, e3, _⟩ := phase1_rest h c m dn
  have hline : ∀ l, (phase1 h c m (some dn)).1.net.line l = h.net.line l := by
    intro l; show lineA (phase1 h c m (some dn)).1.net.lines l = _; rw [e1]; rfl
  have hnode := phase1_some_node h c m dn hc
  have hI := (w.toWFr.insPins hc).1
  have hO := (w.toWFr.outsPins hc).1
  refine ⟨fun _ _ e => e, fun _ hx => hx, fun _ _ => rfl, by simp, ?_, ?_, ?_, fun _ _ _ _ e => e, ?_, ?_, ?_, ?_, ?_, ?_⟩
  · intro x k _; simp
  · intro x k _ _; simp
  · intro l hl; exact ⟨hl, fun x => x⟩
  · intro l' hl' _; exact ⟨l', hl', rfl⟩
  · intro l hl hpo
    rw [e1] at hl
    rw [hline, e3]
    exact ⟨(w.back l hl).1, rfl, Or.inl rfl⟩
  · intro l hl hpi
    rw [e1] at hl
    rw [hline, e3]
    exact ⟨(w.back l hl).2.1, rfl, rfl⟩
  · intro x k l hp
    rw [hnode] at hp
    split at hp
    · simp at hp
    · rename_i hne
      by_cases hx : x < h.net.nodes.size
      · obtain ⟨a1, a2, _⟩ := w.fwdIn x hx k l hp
        rw [e1]
        exact ⟨a1, fun hm => hne (a2.symm.trans (hI l hm).2)⟩
      · rw [node_ge_size h.net (Nat.le_of_not_lt hx)] at hp
        exact absurd hp (by simp [show (default : NodeD).ins = [] from rfl])
  · intro x k l ho hp
    rw [hnode] at hp
    split at hp
    · simp at hp
    · rename_i hne
      rcases ho with ho | ho
      · exact absurd ho hne
      · rw [node_ge_size h.net ho] at hp
        exact absurd hp (by simp [show (default : NodeD).outs = [] from rfl])
  · intro d hd hno
    rw [e3] at hd
    have hne : d ≠ c := fun e => hno (Or.inl e)
    refine ⟨by rw [e3]; exact hd, ?_, ?_⟩
    · intro p y hp
      rw [hnode, if_neg hne] at hp
      obtain ⟨a1, a2, a3⟩ := w.fwdOut d hd p y hp
      rw [e1, hline]
      exact ⟨a1, a2, a3, fun hm => hne (a2.symm.trans (hO y hm).2)⟩
    · intro y hy _ hdy
      rw [e1] at hy
      rw [hline] at hdy ⊢
      rw [hnode, if_neg hne, ← hdy]
      exact (w.back y hy).2.2.1



/-- `ll` is the host line at an input pin of the instance that the implementation ignores: the real run removes it, in the virtual
host it stays, stale on the reader side (the set `G` of `Lk` at the end of the run) -/
def GhostLine (h : NNet) (c : Nat) (m : NNet) (sh : Shape) (ll : Nat) : Prop :=
  ∃ k inn, instIn h c k = some ll ∧ sh.inPorts[k]? = some inn ∧ ignoredPort m inn = true

/-- **the real run and the virtual run in lockstep, from the loop over the implementation's lines on.**  The virtual run keeps the
    cell as the copy of node `D` (`some D`: the designated cell, or the number of nodes of the implementation when there is none) and
    sees the ignored pins as unconnected; `π` = node index of the real run ↦ node index of the virtual run.  At the end the lines of
    the real circuit are the lines of the virtual circuit other than the lines at ignored pins, renumbered (`ψ`) -/
theorem lockstep_loops (h : NNet) (c : Nat) (m : NNet) (sh : Shape) (w : WFm h) (hc : c < h.net.nodes.size)
    (hil : (h.net.node c).ins.length ≤ sh.inPorts.length) (hol : (h.net.node c).outs.length ≤ sh.outLines.length)
    (hself : ∀ ll, GhostLine h c m sh ll → (h.net.line ll).driver ≠ c)
    {Own : Nat → Prop} {π : Nat → Nat} (D : Nat) (h2 h2v : NNet) (map mapB : Array (Option Nat))
    (hfoldB : (List.range m.net.nodes.size).foldlM (addImplNode m (h.names.getD c "") (some D)) (phase1 h c m (some D)) = some (h2v, mapB))
    (hmap : ∀ j, mapB.getD j none = (map.getD j none).map π)
    (hmapLt : ∀ j x, map.getD j none = some x → x < h2.net.nodes.size ∧ Own x)
    (lk2 : Lk Own π id (fun _ => False) (fun l => l ∈ (h.net.node c).ins.filterMap id)
      (fun l => l ∈ (h.net.node c).outs.filterMap id) h2.net h2v.net)
    (hL : h2.net.lines.size = h2v.net.lines.size)
    (hnown : ∀ ll, GhostLine h c m sh ll → ∀ x, π x = (h.net.line ll).driver → ¬ Own x)
    (net4 net5 : Net) (ren : Option Nat → Option Nat) (dang : List (Option Nat))
    (hci : connectIns m map (sh.inPorts.zip (padTo (h.net.node c).ins sh.inPorts.length)) (phase3 m map h2, id) = some (net4, ren))
    (hco : connectOuts m map (sh.outLines.zip ((padTo (h.net.node c).outs sh.outLines.length).map ren)) (net4, []) = some (net5, dang)) :
    ∃ (b4 b5 : Net) (ψ : Nat → Nat),
      connectIns m mapB ((sh.inPorts.zip (padTo (h.net.node c).ins sh.inPorts.length)).map (clrIgn m)) (phase3 m mapB h2v, id) =
        some (b4, id) ∧
      connectOuts m mapB (sh.outLines.zip (padTo (h.net.node c).outs sh.outLines.length)) (b4, []) =
        some (b5, dang.map (Option.map π)) ∧
      Lk Own π ψ (GhostLine h c m sh) (GhostLine h c m sh) (fun _ => False) net5 b5 ∧
      net5.nodes.size = h2.net.nodes.size := by
  obtain ⟨hI, ndI⟩ := w.toWFr.insPins hc
  obtain ⟨hO, ndO⟩ := w.toWFr.outsPins hc
  have sI := zip_padTo_snd sh.inPorts _ hil
  have sO := zip_padTo_snd sh.outLines _ hol
  -- the lines of the host are still what they were, in the virtual circuit
  have f1 := frame_phase1 h c m D ((h.net.node c).ins.filterMap id) ((h.net.node c).outs.filterMap id)
  have f2 := frame_foldlM m _ (some D) _ _ _ hfoldB f1.1 f1.2
  have f3 : FrameA h c ((h.net.node c).ins.filterMap id) ((h.net.node c).outs.filterMap id)
      (phase3 m mapB h2v).nodes (phase3 m mapB h2v).lines := frameA_foldl mapB f2.2 _ _ f2.1
  have hLh : h.net.lines.size ≤ h2v.net.lines.size := f2.1.lsize
  obtain ⟨lk3, hL3, hN3, hLB3⟩ := lk_phase3 map mapB hmap h2.net.nodes.size _ _ hmapLt m.net.lines.toList h2.net h2v.net lk2 hL rfl
    (fun l hl => ⟨fun hm => by have := (hI l hm).1; omega, fun hm => by have := (hO l hm).1; omega⟩)
  have eA := phase3_eq_foldl m map h2
  have eB := phase3_eq_foldl m mapB h2v
  rw [← eA, ← eB] at lk3 hL3
  rw [← eA] at hN3
  rw [← eB] at hLB3
  have hghost : ∀ inn ll, (inn, some ll) ∈ sh.inPorts.zip (padTo (h.net.node c).ins sh.inPorts.length) → ignoredPort m inn = true →
      GhostLine h c m sh ll := by
    intro inn ll hm hi
    obtain ⟨k, h1, h2⟩ := mem_zip_padTo.mp hm
    exact ⟨k, inn, h2, h1, hi⟩
  have lk3' := lk3.congrPI (PI' := fun x => False ∨ x ∈ (sh.inPorts.zip (padTo (h.net.node c).ins sh.inPorts.length)).filterMap (·.2))
    (fun x => by rw [sI]; simp)
  obtain ⟨b4, ψ, G, q1, q2, q3, q4, q5, q6⟩ := lk_connectIns m map mapB hmap
    (fun ll => ll ∈ (h.net.node c).ins.filterMap id ∨ ll ∈ (h.net.node c).outs.filterMap id) h2.net.nodes.size _ hmapLt
    _ (phase3 m map h2) (phase3 m mapB h2v) id id (fun _ => False) net4 ren lk3' hN3 hci rfl (by rw [sI]; exact ndI)
    (by
      intro ll ht _
      refine ⟨ll, rfl, ?_, rfl⟩
      rw [hL3]
      rcases ht with ht | ht
      · have := (hI ll ht).1; omega
      · have := (hO ll ht).1; omega)
    (by
      intro ll hll
      rw [sI] at hll
      exact ⟨Or.inl hll, fun x => x, by have := (hI ll hll).1; omega⟩)
    (by
      intro inn ll hm hi
      have hg := hghost inn ll hm hi
      have hll : ll ∈ (h.net.node c).ins.filterMap id := by
        rw [← sI]; exact List.mem_filterMap.mpr ⟨(inn, some ll), hm, rfl⟩
      have hno : ll ∉ (h.net.node c).outs.filterMap id := fun ho => hself ll hg (hO ll ho).2
      refine ⟨hno, fun x hx => ?_⟩
      have hdr : ((phase3 m mapB h2v).line ll).driver = (h.net.line ll).driver := (f3.drv ll (hI ll hll).1 hno).1
      exact hnown ll hg x (hx.trans hdr))
  have hG : G = GhostLine h c m sh := by
    funext ll
    rw [q6 ll]
    apply propext
    constructor
    · rintro (hf | ⟨inn, h1, h2⟩)
      · exact absurd hf id
      · exact hghost inn ll h1 h2
    · rintro ⟨k, inn, h1, h2, h3⟩
      exact Or.inr ⟨inn, mem_zip_padTo.mpr ⟨k, h2, h1⟩, h3⟩
  subst hG
  have hzip : sh.outLines.zip ((padTo (h.net.node c).outs sh.outLines.length).map ren) =
      (sh.outLines.zip (padTo (h.net.node c).outs sh.outLines.length)).map fun p => (p.1, ren p.2) := by
    rw [List.zip_map_right]; rfl
  rw [hzip] at hco
  have lk4 := q2.congrPO (PO' := fun x => x ∈ (sh.outLines.zip (padTo (h.net.node c).outs sh.outLines.length)).filterMap (·.2))
    (fun x => by rw [sO])
  obtain ⟨b5, r1, r2, r3⟩ := lk_connectOuts m map mapB hmap h2.net.nodes.size ren q4 ψ _ _ hmapLt _ net4 b4 [] net5 dang
    lk4 q3 hco (by rw [sO]; exact ndO)
    (by
      intro ll hll
      rw [sO] at hll
      have hng : ¬ GhostLine h c m sh ll := fun hg => hself ll hg (hO ll hll).2
      exact ⟨hng, q5 ll (Or.inr hll) hng⟩)
  exact ⟨b4, b5, ψ, q1, by simpa using r1, r2, r3⟩


/-! the virtual host `hostClr` and the host have the same meaning — the relational meaning of the cell
(`ImplMatches`) is the same up to the value assigned to an ignored input port (which no equation looks at). -/

section clr
variable (h : NNet) (c : Nat) (m : NNet) (sh : Shape) (w : WFm h) (hc : c < h.net.nodes.size)
variable (hil : (h.net.node c).ins.length ≤ sh.inPorts.length)

theorem instIn_hostClr (k : Nat) (hc : c < h.net.nodes.size) (hil : (h.net.node c).ins.length ≤ sh.inPorts.length) :
    instIn (hostClr h c m sh) c k =
    match sh.inPorts[k]? with
    | some inn => if ignoredPort m inn then none else instIn h c k
    | none => none := by
  simp only [instIn]
  rw [hostClr_node]
  simp only [hc, and_self, if_true]
  exact clrIns_getD m sh _ hil k

theorem instOut_hostClr (k : Nat) : instOut (hostClr h c m sh) c k = instOut h c k := by
  simp only [instOut]
  rw [hostClr_node]
  split <;> rfl

theorem hostClr_kind (x : Nat) : ((hostClr h c m sh).net.node x).kind = (h.net.node x).kind := by
  rw [hostClr_node]; split <;> rfl

theorem hostClr_outs (x : Nat) : ((hostClr h c m sh).net.node x).outs = (h.net.node x).outs := by
  rw [hostClr_node]; split <;> rfl

theorem hostClr_node_ne (x : Nat) (hne : x ≠ c) : (hostClr h c m sh).net.node x = h.net.node x := by
  rw [hostClr_node]; simp [hne]

theorem hostClr_sizes : (hostClr h c m sh).net.nodes.size = h.net.nodes.size ∧
    (hostClr h c m sh).net.lines.size = h.net.lines.size ∧ (hostClr h c m sh).net.io = h.net.io ∧
    (hostClr h c m sh).names = h.names := by
  simp [hostClr]

theorem hostClr_ins_some (x k l : Nat) (hc : c < h.net.nodes.size) (hil : (h.net.node c).ins.length ≤ sh.inPorts.length)
    (hp : ((hostClr h c m sh).net.node x).ins.getD k none = some l) :
    (h.net.node x).ins.getD k none = some l ∧ (x = c → ∃ inn, sh.inPorts[k]? = some inn ∧ ¬ ignoredPort m inn = true) := by
  by_cases e : x = c
  · subst e
    have hp' : instIn (hostClr h x m sh) x k = some l := hp
    rw [instIn_hostClr h x m sh k hc hil] at hp'
    split at hp'
    · rename_i inn hinn
      split at hp'
      · exact absurd hp' (by simp)
      · rename_i hni
        exact ⟨hp', fun _ => ⟨inn, hinn, hni⟩⟩
    · exact absurd hp' (by simp)
  · rw [hostClr_node_ne h c m sh x e] at hp
    exact ⟨hp, fun e' => absurd e' e⟩

include w hc hil in
theorem hostClr_wfr : WFr (hostClr h c m sh) := by
  obtain ⟨s1, s2, s3, s4⟩ := hostClr_sizes h c m sh
  refine ⟨by rw [s4, s1]; exact w.names, ?_, by rw [s3, s1]; exact w.io, ?_, ?_, ?_⟩
  · rw [keys_congr h (hostClr h c m sh) s4 s1 (hostClr_kind h c m sh)]; exact w.nodup
  · intro l hl
    rw [s2] at hl
    obtain ⟨b1, b2, b3, _⟩ := w.back l hl
    rw [s1, hostClr_line, hostClr_outs]
    exact ⟨b1, b2, b3⟩
  · intro x hx k l hp
    rw [s1] at hx
    rw [s2, hostClr_line]
    exact w.fwdIn x hx k l (hostClr_ins_some h c m sh x k l hc hil hp).1
  · intro x hx k l hp
    rw [s1] at hx
    rw [s2, hostClr_line]
    rw [hostClr_outs] at hp
    exact w.fwdOut x hx k l hp

include w hc hil in
theorem hostClr_ptsBack (l : Nat) (hl : l < h.net.lines.size) (hng : ¬ GhostLine h c m sh l) : PtsBack (hostClr h c m sh) l := by
  obtain ⟨_, b2, _, b4⟩ := w.back l hl
  show ((hostClr h c m sh).net.node (h.net.line l).reader).ins.getD (h.net.line l).rpin none = some l
  by_cases e : (h.net.line l).reader = c
  · rw [e] at b4 ⊢
    show instIn (hostClr h c m sh) c (h.net.line l).rpin = some l
    rw [instIn_hostClr h c m sh _ hc hil]
    have hk : (h.net.line l).rpin < sh.inPorts.length := Nat.lt_of_lt_of_le (lt_of_getD_some b4) hil
    rw [List.getElem?_eq_getElem hk]
    dsimp only
    split
    · rename_i hig
      exact absurd ⟨_, _, b4, List.getElem?_eq_getElem hk, hig⟩ hng
    · exact b4
  · rw [hostClr_node_ne h c m sh _ e]; exact b4

include w hc hil in
theorem hostClr_pin_notGhost (x k l : Nat) (hx : x < h.net.nodes.size)
    (hp : ((hostClr h c m sh).net.node x).ins.getD k none = some l) : ¬ GhostLine h c m sh l := by
  rintro ⟨k0, inn, h1, h2, h3⟩
  obtain ⟨_, a2, a3⟩ := w.fwdIn c hc k0 l h1
  obtain ⟨hp', hx'⟩ := hostClr_ins_some h c m sh x k l hc hil hp
  obtain ⟨_, b2, b3⟩ := w.fwdIn x hx k l hp'
  obtain ⟨inn', hinn', hni⟩ := hx' (b2.symm.trans a2)
  have hk : k = k0 := by rw [← b3, ← a3]
  subst hk
  rw [h2] at hinn'
  cases hinn'
  exact hni h3

theorem hostClr_spN (j : Nat) : spN (hostClr h c m sh).net j = spN h.net j := by
  refine spN_eq_of_mem_iff ?_
  rw [mem_sNodes, mem_sNodes, (hostClr_sizes h c m sh).2.2.1, (hostClr_sizes h c m sh).1]
  have hk := isDff_of_kind (hostClr_kind h c m sh j)
  rw [hk.1, hk.2]

theorem consOff_hostClr {α : Type _} (S : Nat → Prop) (z : α) (neg : α → α) (prim : String → α → α → α → α → α) (an v : Nat → α) :
    ConsOff (hostClr h c m sh) (fun d => S d ∨ d = c) z neg prim an v ↔ ConsOff h (fun d => S d ∨ d = c) z neg prim an v := by
  have key : ∀ l, (h.net.line l).driver ≠ c →
      lineEq (hostClr h c m sh).net (spN (hostClr h c m sh).net) z neg prim an v l = lineEq h.net (spN h.net) z neg prim an v l := by
    intro l hne
    have : spN (hostClr h c m sh).net = spN h.net := funext (hostClr_spN h c m sh)
    rw [this]
    exact lineEq_frame h.net (hostClr h c m sh).net _ z neg prim an v l rfl rfl (hostClr_node_ne h c m sh _ hne)
  constructor
  · intro hc' l hl hnS
    rw [← key l (fun e => hnS (Or.inr e))]
    exact hc' l hl hnS
  · intro hc' l hl hnS
    rw [hostClr_line] at hnS
    rw [key l (fun e => hnS (Or.inr e))]
    exact hc' l hl hnS

end clr


/-- `ConsN` reads the annotation only at the drivers of the lines -/
theorem consN_congr_an {α : Type _} (nn : NNet) (z : α) (neg : α → α) (prim : String → α → α → α → α → α) (an1 an2 vm : Nat → α)
    (h : ∀ l, l < nn.net.lines.size → an1 (nn.net.line l).driver = an2 (nn.net.line l).driver)
    (hc : ConsN nn z neg prim an1 vm) : ConsN nn z neg prim an2 vm := by
  intro l hl
  rw [hc l hl]
  apply lineEq_congr nn.net nn.net
  · rfl
  · rfl
  · simp only [spN]
    split
    · simp only [Option.map_some]; rw [h l hl]
    · rfl
  · intro k; rfl

/-- `ImplMatches` from a host `H1` to a host `H2` with the same dead lines, the same output lines at `c` and the same port
    values, same cell and same line values; the annotation of the ports is replaced by the port values of `H2`.
    (`implMatches_move` in Proofs/SubstResolve is the other transport: another cell, other line values, the annotation
    kept.) -/
theorem implMatches_transfer {α : Type _} (H1 H2 : NNet) (c : Nat) (m : NNet) (sh : Shape) (mw : WF m) (z : α) (neg : α → α)
    (prim : String → α → α → α → α → α) (anm vm v : Nat → α)
    (hdead : deadLine H1 c m sh = deadLine H2 c m sh) (hout : ∀ k, instOut H1 c k = instOut H2 c k)
    (hport : ∀ p ∈ m.net.io, 0 < (m.net.node p).outs.length → portVal H1 c sh z v p = portVal H2 c sh z v p)
    (hM : ImplMatches H1 c m sh z neg prim anm vm v) :
    ImplMatches H2 c m sh z neg prim (fun p => if p ∈ m.net.io then portVal H2 c sh z v p else anm p) vm v := by
  obtain ⟨h1, h2, h3⟩ := hM
  refine ⟨?_, fun p hp => by simp [hp], fun k il ll hk hll => h3 k il ll hk (by rw [hout]; exact hll)⟩
  rw [← hdead]
  apply consN_congr_an _ z neg prim anm _ vm _ h1
  intro l hl
  rw [cutIns_lsize] at hl
  rw [cutIns_line]
  by_cases hio : (m.net.line l).driver ∈ m.net.io
  · simp only [hio, if_true]
    rw [h2 _ hio]
    apply hport _ hio
    exact Nat.lt_of_le_of_lt (Nat.zero_le _) (lt_of_getD_some (mw.back l hl).2.2.1)
  · simp [hio]

section clr2
variable (h : NNet) (c : Nat) (m : NNet) (sh : Shape) (hc : c < h.net.nodes.size)
variable (hil : (h.net.node c).ins.length ≤ sh.inPorts.length) (hs : implShape m = some sh)
include hc hil hs

omit hs in
theorem portVal_hostClr {α : Type _} (z : α) (v : Nat → α) (p : Nat) (hpos : 0 < (m.net.node p).outs.length) :
    portVal (hostClr h c m sh) c sh z v p = portVal h c sh z v p := by
  simp only [portVal]
  rw [instIn_hostClr h c m sh _ hc hil]
  cases hp : sh.inPorts[sh.inPorts.idxOf p]? with
  | none =>
    have hlen : sh.inPorts.length ≤ sh.inPorts.idxOf p := by
      rw [List.getElem?_eq_none_iff] at hp; exact hp
    have : instIn h c (sh.inPorts.idxOf p) = none := by
      simp only [instIn, List.getD_eq_getElem?_getD]
      rw [List.getElem?_eq_none (by omega)]; rfl
    rw [this]
  | some inn =>
    have hmem : inn ∈ sh.inPorts := List.mem_of_getElem? hp
    have : inn = p := by
      have hlt : sh.inPorts.idxOf p < sh.inPorts.length := (List.getElem?_eq_some_iff.mp hp).1
      have := List.getElem_idxOf hlt
      rw [List.getElem?_eq_getElem hlt] at hp
      rw [← Option.some.inj hp, this]
    subst this
    have : ignoredPort m inn = false := by
      simp only [ignoredPort, beq_eq_false_iff_ne, ne_eq]; omega
    simp [this]

theorem deadLine_hostClr : deadLine (hostClr h c m sh) c m sh = deadLine h c m sh := by
  funext l
  simp only [deadLine]
  by_cases h1 : (m.net.io.contains (m.net.line l).driver && (m.net.node (m.net.line l).driver).ins.length == 0 &&
      (m.net.node (m.net.line l).driver).outs.length == 1) = true
  · simp only [h1, Bool.true_and]
    simp only [Bool.and_eq_true, beq_iff_eq] at h1
    obtain ⟨⟨a1, a2⟩, a3⟩ := h1
    have hin : (m.net.line l).driver ∈ sh.inPorts := (mem_inPorts hs _).mpr ⟨by simpa using a1, a2⟩
    rw [instIn_hostClr h c m sh _ hc hil, getElem?_idxOf hin]
    have : ignoredPort m (m.net.line l).driver = false := by
      simp only [ignoredPort, beq_eq_false_iff_ne, ne_eq]; omega
    simp [this]
  · have : (m.net.io.contains (m.net.line l).driver && (m.net.node (m.net.line l).driver).ins.length == 0 &&
        (m.net.node (m.net.line l).driver).outs.length == 1) = false := by simpa using h1
    simp only [this, Bool.false_and]

theorem implMatches_of_hostClr {α : Type _} (mw : WF m) (z : α) (neg : α → α) (prim : String → α → α → α → α → α)
    (anm vm v : Nat → α) (hM : ImplMatches (hostClr h c m sh) c m sh z neg prim anm vm v) :
    ImplMatches h c m sh z neg prim (fun p => if p ∈ m.net.io then portVal h c sh z v p else anm p) vm v :=
  implMatches_transfer (hostClr h c m sh) h c m sh mw z neg prim anm vm v (deadLine_hostClr h c m sh hc hil hs)
    (instOut_hostClr h c m sh) (fun p _ hpos => portVal_hostClr h c m sh hc hil z v p hpos) hM

theorem implMatches_to_hostClr {α : Type _} (mw : WF m) (z : α) (neg : α → α) (prim : String → α → α → α → α → α)
    (anm vm v : Nat → α) (hM : ImplMatches h c m sh z neg prim anm vm v) :
    ImplMatches (hostClr h c m sh) c m sh z neg prim
      (fun p => if p ∈ m.net.io then portVal (hostClr h c m sh) c sh z v p else anm p) vm v :=
  implMatches_transfer h (hostClr h c m sh) c m sh mw z neg prim anm vm v (deadLine_hostClr h c m sh hc hil hs).symm
    (fun k => (instOut_hostClr h c m sh k).symm) (fun p _ hpos => (portVal_hostClr h c m sh hc hil z v p hpos).symm) hM

end clr2

/-! an implementation **without designated cell** (no output; or the first
output fed through from an input port).  The real run deletes the instance first (`node.remove()`: the last node takes its
index); the virtual run keeps it as an isolated node (`phase1 … (some D)` with `D` = the number of nodes of the
implementation, which is no node of it). -/

/-- node index of the real run ↦ node index of the virtual run (`N` = number of host nodes, `c` = the instance): the host
    node that took the index of the instance is the last host node; the nodes appended behind the `N - 1` remaining host
    nodes are one further back in the virtual circuit -/
def piN (N c x : Nat) : Nat := if x < N - 1 then (if x = c then N - 1 else x) else x + 1

theorem piN_inj {N c : Nat} (x y : Nat) (e : piN N c x = piN N c y) : x = y := by
  unfold piN at e
  split at e <;> split at e <;> (try split at e) <;> (try split at e) <;> omega

theorem piN_ne {N c : Nat} (hc : c < N) (x : Nat) : piN N c x ≠ c := by
  unfold piN; split <;> (try split) <;> omega

theorem piN_surj {N c : Nat} (hc : c < N) (y : Nat) (hy : y ≠ c) : ∃ x, piN N c x = y ∧ (y < N → x < N - 1) ∧ (N ≤ y → x = y - 1) := by
  by_cases h1 : y < N
  · by_cases h2 : y = N - 1
    · refine ⟨c, ?_, fun _ => by omega, fun h => by omega⟩
      unfold piN; rw [if_pos (by omega), if_pos rfl]; omega
    · refine ⟨y, ?_, fun _ => by omega, fun h => by omega⟩
      unfold piN; rw [if_pos (by omega), if_neg hy]
  · refine ⟨y - 1, ?_, fun h => by omega, fun _ => rfl⟩
    unfold piN; rw [if_neg (by omega)]; omega

/-- the renaming of `del nodes[c]` undone by `piN` -/
theorem piN_mv {N c d : Nat} (hc : c < N) (hd : d < N) (hne : d ≠ c) : mvN N c d < N - 1 ∧ piN N c (mvN N c d) = d := by
  have m := mv_facts hc hd hne
  refine ⟨m.1, ?_⟩
  unfold piN; rw [if_pos m.1]; exact m.2

theorem piN_ge {N c : Nat} (x : Nat) (hx : N - 1 ≤ x) : piN N c x = x + 1 := by
  unfold piN; rw [if_neg (by omega)]

section init
variable (h : NNet) (c : Nat) (m : NNet) (dn : Nat) (w : WFm h) (hc : c < h.net.nodes.size) (hio : c ∉ h.net.io)
include w hc hio

theorem lk_init_none :
    Lk (fun x => h.net.nodes.size - 1 ≤ x) (piN h.net.nodes.size c) id (fun _ => False)
      (fun l => l ∈ (h.net.node c).ins.filterMap id) (fun l => l ∈ (h.net.node c).outs.filterMap id)
      (delNode h c).net (phase1 h c m (some dn)).1.net := by
  obtain ⟨e1, e2, e3, _⟩ := phase1_rest h c m dn
  have hlineB : ∀ l, (phase1 h c m (some dn)).1.net.line l = h.net.line l := by
    intro l; show lineA (phase1 h c m (some dn)).1.net.lines l = _; rw [e1]; rfl
  have hnodeB := phase1_some_node h c m dn hc
  obtain ⟨sA1, sA2⟩ := delNode_sizes h c
  have hnodeA : ∀ x, x < h.net.nodes.size - 1 → (delNode h c).net.node x = h.net.node (piN h.net.nodes.size c x) := by
    intro x hx
    rw [delNode_node h c x hc hx]
    unfold piN; rw [if_pos hx]; rfl
  have hpiLt : ∀ x, x < h.net.nodes.size - 1 → piN h.net.nodes.size c x < h.net.nodes.size := by
    intro x hx
    unfold piN; rw [if_pos hx]; split <;> omega
  have hnodeA' : ∀ x, h.net.nodes.size - 1 ≤ x → (delNode h c).net.node x = default := by
    intro x hx
    exact node_ge_size _ (by rw [sA1]; exact hx)
  have hpiB : ∀ x, (phase1 h c m (some dn)).1.net.node (piN h.net.nodes.size c x) = h.net.node (piN h.net.nodes.size c x) := by
    intro x; rw [hnodeB, if_neg (piN_ne hc x)]
  have hI := (w.toWFr.insPins hc).1
  have hO := (w.toWFr.outsPins hc).1
  have hnotO : ∀ l, l < h.net.lines.size → l ∉ (h.net.node c).outs.filterMap id → (h.net.line l).driver ≠ c := by
    intro l hl hno e0
    have := (w.back l hl).2.2.1
    rw [e0] at this
    exact hno ((mem_filterMap_id _ l).mpr ⟨_, this⟩)
  have hnotI : ∀ l, l < h.net.lines.size → l ∉ (h.net.node c).ins.filterMap id → (h.net.line l).reader ≠ c := by
    intro l hl hno e0
    have := (w.back l hl).2.2.2
    rw [e0] at this
    exact hno ((mem_filterMap_id _ l).mpr ⟨_, this⟩)
  have hmv := fun d => piN_mv (d := d) hc
  refine ⟨piN_inj, ?_, ?_, ?_, ?_, ?_, ?_, fun _ _ _ _ e => e, ?_, ?_, ?_, ?_, ?_, ?_⟩
  · intro x hx
    rw [sA1] at hx; rw [e3]
    exact hpiLt x hx
  · intro x hx
    rw [sA1] at hx
    rw [hnodeA x hx, hpiB]
  · rw [delNode_ioEq, e2, List.map_map]
    have : ∀ j ∈ h.net.io, (piN h.net.nodes.size c ∘ mvN h.net.nodes.size c) j = j :=
      fun j hj => (hmv j (w.io j hj) (fun e => hio (e ▸ hj))).2
    rw [List.map_congr_left this]; simp
  · intro x k hx
    rw [sA1] at hx
    rw [hnodeA x hx, hpiB]; simp
  · intro x k hx ho
    rw [sA1] at hx; omega
  · intro l hl; rw [sA2] at hl; rw [e1]; exact ⟨hl, fun x => x⟩
  · intro l' hl' _; rw [e1] at hl'; exact ⟨l', by rw [sA2]; exact hl', rfl⟩
  · intro l hl hpo
    rw [sA2] at hl
    rw [delNode_line h c l hl, hlineB, sA1]
    obtain ⟨m1, m2⟩ := hmv _ (w.back l hl).1 (hnotO l hl hpo)
    exact ⟨m1, m2, Or.inl rfl⟩
  · intro l hl hpi
    rw [sA2] at hl
    rw [delNode_line h c l hl, hlineB, sA1]
    obtain ⟨m1, m2⟩ := hmv _ (w.back l hl).2.1 (hnotI l hl hpi)
    exact ⟨m1, m2, rfl⟩
  · intro x k l hp
    by_cases hx : x < h.net.nodes.size - 1
    · rw [hnodeA x hx] at hp
      obtain ⟨a1, a2, _⟩ := w.fwdIn _ (hpiLt x hx) k l hp
      rw [sA2]
      exact ⟨a1, fun hm => piN_ne hc x (a2.symm.trans (hI l hm).2)⟩
    · rw [hnodeA' x (by omega)] at hp
      exact absurd hp (by simp [show (default : NodeD).ins = [] from rfl])
  · intro x k l ho hp
    rw [hnodeA' x ho] at hp
    exact absurd hp (by simp [show (default : NodeD).outs = [] from rfl])
  · intro d hd hno
    rw [sA1] at hd
    have hlt := hpiLt d hd
    refine ⟨by rw [sA1]; exact hd, ?_, ?_⟩
    · intro p y hp
      rw [hnodeA d hd] at hp
      obtain ⟨a1, a2, a3⟩ := w.fwdOut _ hlt p y hp
      rw [sA2, delNode_line h c y a1]
      have hne : (h.net.line y).driver ≠ c := by rw [a2]; exact piN_ne hc d
      obtain ⟨_, m2⟩ := hmv _ (w.back y a1).1 hne
      refine ⟨a1, ?_, a3, fun hm => hne (hO y hm).2⟩
      apply piN_inj
      rw [m2, a2]
    · intro y hy hex hdy
      rw [sA2] at hy
      rw [delNode_line h c y hy] at hdy ⊢
      have hne := hnotO y hy hex
      obtain ⟨_, m2⟩ := hmv _ (w.back y hy).1 hne
      have hdy' : mvN h.net.nodes.size c (h.net.line y).driver = d := hdy
      rw [hdy'] at m2
      rw [hnodeA d hd, m2]
      exact (w.back y hy).2.2.1

end init

theorem addedOne_none_eq (m : NNet) (hn : String) (D j : Nat) (hne : j ≠ D) :
    addedOne m hn none j = addedOne m hn (some D) j := by
  unfold addedOne
  have h1 : ((none : Option Nat) != some j) = true := rfl
  have h2 : (some D != some j) = true := by simp [bne, Ne.symm hne]
  simp only [h1, h2]

theorem addedOne_name (m : NNet) (hn : String) (des : Option Nat) (j : Nat) (kn : String × String)
    (h : addedOne m hn des j = some kn) : kn.2 = hn ++ "~" ++ m.names.getD j "" := by
  rw [addedOne_eq, Option.ite_none_right_eq_some] at h
  rw [← Option.some.inj h.2]

theorem name_ne_host (hn s : String) : hn ++ "~" ++ s ≠ hn := by
  intro e
  have := congrArg String.length e
  simp only [String.length_append] at this
  have h1 : ("~" : String).length = 1 := by decide
  omega

theorem mem_keys_iff (nn : NNet) (k : String × Bool) : k ∈ nn.keys ↔ ∃ x, x < nn.net.nodes.size ∧ nn.key x = k := by
  simp only [NNet.keys, List.mem_map, List.mem_range]

/-- `Lk` at the states of the two node loops (real run: the instance deleted; virtual run: kept), with what the loops add to it:
names, sizes and `node_map` -/
structure LkS (N c : Nat) (hn : String) (PI PO : Nat → Prop) (hA : NNet) (mA : Array (Option Nat)) (hB : NNet)
    (mB : Array (Option Nat)) : Prop where
  lk : Lk (fun x => N - 1 ≤ x) (piN N c) id (fun _ => False) PI PO hA.net hB.net
  sizeA : N - 1 ≤ hA.net.nodes.size
  sizeB : hB.net.nodes.size = hA.net.nodes.size + 1
  nszA : hA.names.size = hA.net.nodes.size
  nszB : hB.names.size = hB.net.nodes.size
  names : ∀ x, x < hA.net.nodes.size → hA.names.getD x "" = hB.names.getD (piN N c x) ""
  cName : hB.names.getD c "" = hn
  lsz : hA.net.lines.size = hB.net.lines.size
  msz : mB.size = mA.size
  map : ∀ j, mB.getD j none = (mA.getD j none).map (piN N c)
  mapOwn : ∀ j x, mA.getD j none = some x → N - 1 ≤ x ∧ x < hA.net.nodes.size

theorem lkS_step {N c : Nat} (hc : c < N) {hn : String} {PI PO : Nat → Prop} (m : NNet) (D j : Nat) (hne : j ≠ D)
    {stA stB stA' : NNet × Array (Option Nat)} (s : LkS N c hn PI PO stA.1 stA.2 stB.1 stB.2)
    (he : addImplNode m hn none stA j = some stA') :
    ∃ stB', addImplNode m hn (some D) stB j = some stB' ∧ LkS N c hn PI PO stA'.1 stA'.2 stB'.1 stB'.2 := by
  rw [addImplNode_eq, ← addedOne_none_eq m hn D j hne]
  rcases addImplNode_cases he with ⟨ha, rfl⟩ | ⟨kn, hA', ha, hadd, rfl⟩
  · rw [ha]; exact ⟨stB, rfl, s⟩
  · rw [ha]
    obtain ⟨e1, e2, e3, e4, e5⟩ := addNode_spec stA.1 hA' kn.2 kn.1 hadd
    have hname := addedOne_name m hn none j kn ha
    -- the name is free in the virtual circuit as well
    have hfree : stB.1.keys.contains (kn.2, kn.1 == "__fork__") = false := by
      apply Bool.eq_false_iff.mpr
      intro hcon
      have hmem : (kn.2, kn.1 == "__fork__") ∈ stB.1.keys := by simpa using hcon
      obtain ⟨y, hy, ey⟩ := (mem_keys_iff _ _).mp hmem
      by_cases eyc : y = c
      · subst eyc
        have : stB.1.names.getD y "" = kn.2 := by
          have := congrArg Prod.fst ey
          simpa [NNet.key] using this
        rw [s.cName, hname] at this
        exact name_ne_host hn _ this.symm
      · obtain ⟨x, hx, h1, h2⟩ := piN_surj hc y eyc
        have hxlt : x < stA.1.net.nodes.size := by
          have := s.sizeA; have := s.sizeB
          by_cases h3 : y < N
          · have := h1 h3; omega
          · have := h2 (by omega); omega
        have hk : stA.1.key x = (kn.2, kn.1 == "__fork__") := by
          rw [← ey, ← hx]
          simp only [NNet.key, s.names x hxlt, isFork_of_kind_eq (s.lk.kind x hxlt)]
        have : (kn.2, kn.1 == "__fork__") ∈ stA.1.keys := (mem_keys_iff _ _).mpr ⟨x, hxlt, hk⟩
        have : stA.1.keys.contains (kn.2, kn.1 == "__fork__") = true := by simpa using this
        rw [e5] at this; exact absurd this (by simp)
    have haddB : addNode stB.1 kn.2 kn.1 = some { net := pushNode stB.1.net kn.1, names := stB.1.names.push kn.2 } := by
      unfold addNode
      rw [hfree]; rfl
    have hnetA : hA'.net = pushNode stA.1.net kn.1 := net_eq_of e1 e2 e3
    have hpiN : piN N c stA.1.net.nodes.size = stB.1.net.nodes.size := by
      rw [piN_ge _ s.sizeA, s.sizeB]
    have hszA' : hA'.net.nodes.size = stA.1.net.nodes.size + 1 := by rw [hnetA]; simp [pushNode]
    refine ⟨_, by dsimp only; rw [haddB]; rfl, (?_ : LkS N c hn PI PO hA' (stA.2.setIfInBounds j (some stA.1.net.nodes.size))
      { net := pushNode stB.1.net kn.1, names := stB.1.names.push kn.2 } (stB.2.setIfInBounds j (some stB.1.net.nodes.size)))⟩
    refine ⟨?_, ?_, ?_, ?_, ?_, ?_, ?_, ?_, ?_, ?_, ?_⟩
    · rw [hnetA]; exact s.lk.stepAddNode kn.1 hpiN
    · rw [hszA']; have := s.sizeA; omega
    · rw [hszA']; simp [pushNode, s.sizeB]
    · rw [e4, hszA']; simp [s.nszA]
    · simp [pushNode, s.nszB]
    · intro x hx
      have hx' : x < stA.1.net.nodes.size + 1 := by rw [← hszA']; exact hx
      rw [e4, getD_push, getD_push, s.nszA, s.nszB]
      by_cases h1 : x < stA.1.net.nodes.size
      · have := s.lk.nodeLt x h1
        rw [if_pos h1, if_pos this]; exact s.names x h1
      · have hx2 : x = stA.1.net.nodes.size := by omega
        rw [if_neg h1, if_pos hx2, hx2, hpiN]
        simp
    · rw [getD_push, s.nszB]
      have : c < stB.1.net.nodes.size := by have := s.sizeA; have := s.sizeB; omega
      rw [if_pos this]; exact s.cName
    · rw [hnetA]; exact s.lsz
    · simp [s.msz]
    · intro k
      rw [getD_setIfInBounds, getD_setIfInBounds, s.msz]
      split
      · simp [hpiN]
      · exact s.map k
    · intro k x hx
      rw [getD_setIfInBounds] at hx
      rw [hszA']
      split at hx
      · have : x = stA.1.net.nodes.size := (Option.some.inj hx).symm
        have := s.sizeA; omega
      · have := s.mapOwn k x hx; omega

theorem lkS_fold {N c : Nat} (hc : c < N) {hn : String} {PI PO : Nat → Prop} (m : NNet) (D : Nat) :
    ∀ (js : List Nat) (stA stB stA' : NNet × Array (Option Nat)), (∀ j ∈ js, j ≠ D) → LkS N c hn PI PO stA.1 stA.2 stB.1 stB.2 →
    js.foldlM (addImplNode m hn none) stA = some stA' →
    ∃ stB', js.foldlM (addImplNode m hn (some D)) stB = some stB' ∧ LkS N c hn PI PO stA'.1 stA'.2 stB'.1 stB'.2
  | [], stA, stB, stA', _, s, he => by
    simp only [List.foldlM_nil] at he
    cases (Option.some.inj he)
    exact ⟨stB, rfl, s⟩
  | j :: js, stA, stB, stA', hjs, s, he => by
    simp only [List.foldlM_cons, Option.bind_eq_bind, Option.bind_eq_some_iff] at he
    obtain ⟨s1, h1, h2⟩ := he
    obtain ⟨t1, g1, g2⟩ := lkS_step hc m D j (hjs j List.mem_cons_self) s h1
    obtain ⟨t2, g3, g4⟩ := lkS_fold hc m D js s1 t1 stA' (fun j' hj' => hjs j' (List.mem_cons_of_mem _ hj')) g2 h2
    exact ⟨t2, by simp only [List.foldlM_cons, Option.bind_eq_bind, g1, Option.bind_some, g3], g4⟩


theorem phase1_none_eq (h : NNet) (c : Nat) (m : NNet) : phase1 h c m none = (delNode h c, Array.replicate m.net.nodes.size none) := rfl

theorem phase1_outOfRange_map (h : NNet) (c : Nat) (m : NNet) :
    (phase1 h c m (some m.net.nodes.size)).2 = Array.replicate m.net.nodes.size none := by
  simp [phase1, Array.setIfInBounds]

/-- the virtual run of `substituteCore` on the virtual host next to the real result `h5`: the cell is kept as the copy of node `D`
    of the implementation — the designated cell, or (no designated cell) `D` = the number of nodes of the implementation, an isolated
    node; `h2v`, `b4`, `b5` = the virtual circuit after the node loop, the input-pin loop, the output-pin loop.  `π` = node index of the
    real result ↦ node index of the virtual result `b5`, `ψ` likewise for lines -/
structure Lockstep (h : NNet) (c : Nat) (m : NNet) (sh : Shape) (h5 : NNet) (map : Array (Option Nat)) (D : Nat)
    (Own : Nat → Prop) (π ψ : Nat → Nat) (h2v : NNet) (mapB : Array (Option Nat)) (b4 b5 : Net) (dangB : List (Option Nat)) :
    Prop where
  /-- `D = m.net.nodes.size` (no node of the implementation) stands for "no designated cell": one structure for both cases -/
  des : D < m.net.nodes.size → sh.des = some D
  desFork : (m.net.node D).isFork = false
  desIo : D ∉ m.net.io
  nodes : (List.range m.net.nodes.size).foldlM (addImplNode m (h.names.getD c "") (some D)) (phase1 h c m (some D)) = some (h2v, mapB)
  ins : connectIns m mapB ((sh.inPorts.zip (padTo (h.net.node c).ins sh.inPorts.length)).map (clrIgn m)) (phase3 m mapB h2v, id) =
    some (b4, id)
  outs : connectOuts m mapB (sh.outLines.zip (padTo (h.net.node c).outs sh.outLines.length)) (b4, []) = some (b5, dangB)
  lk : Lk Own π ψ (GhostLine h c m sh) (GhostLine h c m sh) (fun _ => False) h5.net b5
  names : ∀ x, x < h5.net.nodes.size → h5.names.getD x "" = h2v.names.getD (π x) ""
  mapπ : ∀ j, mapB.getD j none = (map.getD j none).map π
  mapLt : ∀ j x, map.getD j none = some x → x < h5.net.nodes.size
  surv : ∀ d, d < h.net.nodes.size → d ≠ c → ∃ x, π x = d ∧ x < h5.net.nodes.size ∧ x ∉ map.toList.filterMap id
  nsz : h5.names.size = h5.net.nodes.size
  io : ∀ i ∈ h5.net.io, i < h5.net.nodes.size
  insLen : (h.net.node c).ins.length ≤ sh.inPorts.length
  outsLen : (h.net.node c).outs.length ≤ sh.outLines.length

theorem lockstep (h : NNet) (c : Nat) (m : NNet) (sh : Shape) (w : WFm h) (mw : WF m) (hc : c < h.net.nodes.size)
    (hio : c ∉ h.net.io) (hs : implShape m = some sh) (k3 : ∀ p ∈ m.net.io, isSeqKind (m.net.node p).kind = false)
    (hself : ∀ ll, GhostLine h c m sh ll → (h.net.line ll).driver ≠ c)
    (h5 : NNet) (map : Array (Option Nat)) (dang : List (Option Nat)) (he : substituteCore h c m = some (h5, map, dang)) :
    ∃ D Own π ψ h2v mapB b4 b5 dangB, Lockstep h c m sh h5 map D Own π ψ h2v mapB b4 b5 dangB := by
  obtain ⟨h2, net4, ren, net5, hil, hol, hfold, hci, hco, e⟩ := substituteCore_inv h c m sh hs h5 map dang he
  subst e
  have li : LI h := ⟨w.names, w.io⟩
  -- the loops after the node loop keep the port list
  have hio5 : (∀ i ∈ h2.net.io, i < h2.net.nodes.size) → net5.nodes.size = h2.net.nodes.size → ∀ i ∈ net5.io, i < net5.nodes.size := by
    intro hio2 hsz i hi
    have po : PinsOnly h2.net net5 :=
      (pinsOnly_phase3 m map h2).trans ((pinsOnly_connectIns m map _ _ _ hci).trans (pinsOnly_connectOuts m map _ _ _ hco))
    rw [hsz]
    exact hio2 i (po.2 ▸ hi)
  cases hd : sh.des with
  | some dn =>
    rw [hd] at hfold
    have p1 := phase1_some_obs h c m dn li hc
    have fo := foldlM_addImplNode_obs m _ (some dn) _ _ _ hfold p1.2.2.1 p1.2.2.2
    have f1 := frame_phase1 h c m dn ((h.net.node c).ins.filterMap id) ((h.net.node c).outs.filterMap id)
    have f2 := frame_foldlM m _ (some dn) _ _ _ hfold f1.1 f1.2
    have hmapLt : ∀ j x, map.getD j none = some x → x < h2.net.nodes.size ∧ ownN h c x :=
      fun j x hx => ⟨fo.2.2.2.2.2 j x hx, f2.2 j x hx⟩
    have lk2 : Lk (ownN h c) id id (fun _ => False) (fun l => l ∈ (h.net.node c).ins.filterMap id)
        (fun l => l ∈ (h.net.node c).outs.filterMap id) h2.net h2.net :=
      lk_same_nodeLoop m _ (some dn) _ _ _ hfold (lk_init h c m dn w hc)
    obtain ⟨b4, b5, ψ, q1, q2, q3, q4⟩ := lockstep_loops h c m sh w hc hil hol hself dn h2 h2 map map hfold (fun j => by simp)
      hmapLt lk2 rfl
      (by
        rintro ll hg x hx (e0 | e0)
        · exact hself ll hg (hx ▸ e0)
        · obtain ⟨k, _, h1, _, _⟩ := hg
          have := (w.back ll (w.fwdIn c hc k ll h1).1).1
          simp only [id] at hx
          omega)
      net4 net5 ren dang hci hco
    have hk1 := implShape_des_notPort m mw sh dn hs hd k3
    refine ⟨dn, ownN h c, id, ψ, h2, map, b4, b5, _, fun _ => hd, (implShape_des m mw sh dn hs hd).2 hk1, hk1, hfold, q1, q2, q3,
      fun _ _ => rfl, fun j => by simp, fun j x hx => by rw [q4]; exact (hmapLt j x hx).1, ?_, by rw [q4]; exact fo.2.2.1.1, ?_, hil, hol⟩
    · intro d hdl hne
      refine ⟨d, rfl, by rw [q4]; exact Nat.lt_of_lt_of_le hdl f2.1.nsize, fun hm => ?_⟩
      obtain ⟨k, hk⟩ := (mem_map_values map d).1 hm
      rcases (hmapLt k d hk).2 with e0 | e0
      · exact hne e0
      · omega
    · exact hio5 fo.2.2.1.2 q4
  | none =>
    rw [hd] at hfold
    have hioc : h.net.io.contains c = false := by simpa using hio
    have liA := (delNode_obs h c li hc hioc).1
    obtain ⟨sA1, sA2⟩ := delNode_sizes h c
    obtain ⟨p1, p2, p3, p4⟩ := phase1_rest h c m m.net.nodes.size
    have hrep : ∀ j x, ¬ (Array.replicate m.net.nodes.size (none : Option Nat)).getD j none = some x := by
      intro j x hx
      rw [getD_replicate_none] at hx
      exact absurd hx (by simp)
    have s0 : LkS h.net.nodes.size c (h.names.getD c "") (fun l => l ∈ (h.net.node c).ins.filterMap id)
        (fun l => l ∈ (h.net.node c).outs.filterMap id) (delNode h c) (Array.replicate m.net.nodes.size none)
        (phase1 h c m (some m.net.nodes.size)).1 (phase1 h c m (some m.net.nodes.size)).2 := by
      refine ⟨lk_init_none h c m m.net.nodes.size w hc hio, ?_, ?_, liA.1, ?_, ?_, ?_, ?_, ?_, ?_, ?_⟩
      · rw [sA1]; exact Nat.le_refl _
      · rw [p3, sA1]; omega
      · rw [p4, p3]; exact w.names
      · intro x hx
        have hx' : x < h.net.nodes.size - 1 := by rw [← sA1]; exact hx
        rw [p4, delNode_names_getD h c x li hc hx']
        unfold piN; rw [if_pos hx']; rfl
      · rw [p4]
      · rw [sA2, p1]
      · rw [phase1_outOfRange_map]
      · intro j
        rw [phase1_outOfRange_map, getD_replicate_none]; rfl
      · intro j x hx
        exact absurd hx (hrep j x)
    obtain ⟨⟨h2v, mapB⟩, hfoldB, s2⟩ := lkS_fold hc m m.net.nodes.size (List.range m.net.nodes.size) _ _ (h2, map)
      (fun j hj => Nat.ne_of_lt (List.mem_range.mp hj)) s0 hfold
    have hmapLt : ∀ j x, map.getD j none = some x → x < h2.net.nodes.size ∧ h.net.nodes.size - 1 ≤ x :=
      fun j x hx => ⟨(s2.mapOwn j x hx).2, (s2.mapOwn j x hx).1⟩
    obtain ⟨b4, b5, ψ, q1, q2, q3, q4⟩ := lockstep_loops h c m sh w hc hil hol hself m.net.nodes.size h2 h2v map mapB hfoldB s2.map
      hmapLt s2.lk s2.lsz
      (by
        rintro ll ⟨k, _, h1, _, _⟩ x hx hown
        have := (w.back ll (w.fwdIn c hc k ll h1).1).1
        rw [piN_ge x hown] at hx
        omega)
      net4 net5 ren dang hci hco
    refine ⟨m.net.nodes.size, _, _, ψ, h2v, mapB, b4, b5, _, fun hlt => absurd hlt (Nat.lt_irrefl _),
      by rw [node_ge_size m.net (Nat.le_refl _)]; exact default_not_fork, fun hm => absurd (mw.io _ hm) (Nat.lt_irrefl _),
      hfoldB, q1, q2, q3, fun x hx => s2.names x (q4 ▸ hx), s2.map, fun j x hx => by rw [q4]; exact (hmapLt j x hx).1, ?_,
      by rw [q4]; exact s2.nszA, ?_, hil, hol⟩
    · intro d hdl hne
      obtain ⟨x, hx, hx1, _⟩ := piN_surj hc d hne
      have := hx1 hdl
      have hsA : h.net.nodes.size - 1 ≤ h2.net.nodes.size := s2.sizeA
      refine ⟨x, hx, by rw [q4]; omega, fun hm => ?_⟩
      obtain ⟨k, hk⟩ := (mem_map_values map x).1 hm
      have := (hmapLt k x hk).2
      omega
    · exact hio5 (foldlM_addImplNode_obs m _ none _ _ _ hfold liA (fun k x hx => absurd hx (hrep k x))).2.2.1.2 q4

end KV.Transform
