import KyupyVerif.Proofs.MemMapPre
import KyupyVerif.Proofs.MemMapAlias
import KyupyVerif.Proofs.GenOpsProg
import KyupyVerif.Proofs.Levelise
/-! The memory map built by the model of `SimOps.__init__` passes the map certificate: assembly of the program facts
(`simops_progOK`, Proofs/GenOpsProg.lean), the allocation invariant (Proofs/MemMapAlloc.lean, Proofs/MemMapPre.lean) and the alias
passes (Proofs/MemMapAlias.lean) into the clauses of `MapIn.check` (`clauses_of_inv`; `MapSound.Clauses`,
`MapSound.check_eq_none_iff`), for the record `simopsMap` the harness and the driver assemble (`simopsMap_accepted`). -/
namespace KV
open KV.Heap KV.MapIn

theorem mapLevels_inv {p : MapIn} (hp : ProgOK p) (hpos : 0 < p.capsMin) (reuse : Bool) (capsIn : Nat → Nat) (lev : LevSt)
    (hst : p.starts = lev.starts.reverse)
    (hsz : lev.refc.size = p.ix.len) (hrc : ∀ x, x < p.ix.len → lev.refc.getD x 0 = (occ p.stems x p.ops : Int)) :
    MInv p reuse p.ops.length (mapLevels p.net p.ops p.stems lev capsIn p.capsMin reuse) := by
  unfold mapLevels
  rw [← hst]
  exact levels_inv hp hpos reuse capsIn _ (mapPre_inv hpos reuse lev hsz hrc)

theorem isJunk_false_iff (p : MapIn) (x : Nat) : p.isJunk x = false ↔ x ≠ p.ix.tmp ∧ x ≠ p.ix.tmp2 := by
  simp [MapIn.isJunk]

theorem mem_tracked_iff (p : MapIn) (x : Nat) :
    x ∈ p.tracked ↔ AllocAt p p.ops.length x ∧ x ≠ p.ix.tmp ∧ x ≠ p.ix.tmp2 := by
  have hi := ix_vals p
  rw [MapSound.mem_tracked, isJunk_false_iff]
  constructor
  · rintro (⟨⟨o, ho, rfl⟩, hj⟩ | h | rfl)
    · obtain ⟨k, hk, he⟩ := List.getElem_of_mem ho
      exact ⟨.inr (.inr (.inr (.inr ⟨k, o, hk, by rw [List.getElem?_eq_getElem hk, he], rfl, hj.1⟩))), hj⟩
    · have := ppiSlots_range p h
      exact ⟨.inr (.inr (.inr (.inl h))), by omega⟩
    · exact ⟨.inl rfl, by omega⟩
  · rintro ⟨h | h | h | h | ⟨k', o, _, hk, ho, _⟩, hj⟩
    · exact .inr (.inr h)
    · exact absurd h hj.1
    · exact absurd h hj.2
    · exact .inr (.inl h)
    · exact .inl ⟨⟨o, List.mem_of_getElem? hk, ho⟩, hj⟩

theorem overlap_false_of (p : MapIn) (s : MapSt) {x y : Nat} (hx : p.loc x = s.loc x ∧ p.cap x = s.cap x)
    (hy : p.loc y = s.loc y ∧ p.cap y = s.cap y) (h : ¬ ovl s x y) : p.overlap x y = false := by
  unfold MapIn.overlap
  simp only [hx.1, hx.2, hy.1, hy.2]
  unfold ovl at h
  cases h1 : decide (s.loc x < s.loc y + (s.cap y : Int)) <;> cases h2 : decide (s.loc y < s.loc x + (s.cap x : Int)) <;> simp
  simp only [decide_eq_true_eq] at h1 h2
  exact h ⟨h1, h2⟩

theorem clauses_of_inv {p : MapIn} (hp : ProgOK p) (reuse : Bool) (s : MapSt)
    (hM : MInv p reuse p.ops.length s)
    (hl : p.locs = (mapAliases p.net p.stems s).locs) (hc : p.caps = (mapAliases p.net p.stems s).caps)
    (hn : p.cLen = (mapAliases p.net p.stems s).heap.maxSz) : MapSound.Clauses p := by
  obtain ⟨hA, _⟩ := hM
  obtain ⟨e1, _, _, e4, e5⟩ := mapAliases_spec p.net p.stems s hA.szl hA.szc hp.cap_lt
  have hloc : ∀ x, p.loc x = (mapAliases p.net p.stems s).locs.getD x (-1) := fun x => by unfold MapIn.loc; rw [hl]
  have hcap : ∀ x, p.cap x = (mapAliases p.net p.stems s).caps.getD x 0 := fun x => by unfold MapIn.cap; rw [hc]
  have E4 : ∀ x, x < p.ix.ppo → (∀ t, p.stems.getD x none = some t → p.stems.getD t none = none) →
      p.loc x = s.loc (p.src x) ∧ p.cap x = s.cap (p.src x) := by
    intro x hx hs
    rw [hloc, hcap]
    exact e4 x hx hs
  -- signals that own memory are no branches and keep their entries
  have K2 : ∀ x, AllocAt p p.ops.length x → p.loc x = s.loc x ∧ p.cap x = s.cap x := by
    intro x hx
    obtain ⟨hs, hlt⟩ := hp.alloc_stem hx
    have := E4 x hlt (fun t ht => by rw [hs] at ht; cases ht)
    rwa [show p.src x = x from viaStem_none hs] at this
  have hinb : ∀ x, AllocAt p p.ops.length x → p.inBounds x = true := by
    intro x hx
    obtain ⟨b1, b2, b3⟩ := hA.bd x hx
    obtain ⟨k1, k2⟩ := K2 x hx
    unfold MapIn.inBounds
    rw [k1, k2, hn, e1]
    simp [b1, b2, b3]
  have hsep : ∀ x y, AllocAt p p.ops.length x → AllocAt p p.ops.length y → ¬ ovl s x y → p.overlap x y = false :=
    fun x y ax ay h => overlap_false_of p s (K2 x ax) (K2 y ay) h
  have at1 : AllocAt p p.ops.length p.ix.tmp := .inr (.inl rfl)
  have at2 : AllocAt p p.ops.length p.ix.tmp2 := .inr (.inr (.inl rfl))
  have tr := fun x => (mem_tracked_iff p x).mp
  -- the conjuncts of `MapSound.Clauses`, numbered as at `MapSound.check_eq_none_iff`
  refine ⟨⟨fun x hx => hinb x (tr x hx).1, hinb _ at1, hinb _ at2⟩,
    fun x hx => (isJunk_false_iff p x).mpr (tr x hx).2, ?_, ?_, ?_, ?_, ?_, ?_⟩
  · -- clause 3
    intro o k hk
    by_cases ht : o.out = p.ix.tmp
    · left; simp [MapIn.isJunk, ht]
    · exact .inr (hp.first k o hk ht)
  · -- clause 4
    intro o k hk i hi
    have hx : p.src i ∈ opSrcs p.stems o := List.mem_map_of_mem hi
    obtain ⟨ha, _, hj⟩ := hp.operand_alloc hk hx
    have hkl := (List.getElem?_eq_some_iff.mp hk).1
    exact ⟨(mem_tracked_iff p _).mpr ⟨ha.mono (Nat.le_of_lt hkl), hj⟩, hp.opnd_dfn hk hx, (isJunk_false_iff p _).mpr hj⟩
  · -- clause 5
    intro o k hk i hi
    have hsi : p.src i ∈ opSrcs p.stems o := List.mem_map_of_mem hi
    have hso := hp.stem_opnd o (List.mem_of_getElem? hk) i hi
    have hal := (hp.operand_alloc hk hsi).1.mono (Nat.le_of_lt (List.getElem?_eq_some_iff.mp hk).1)
    -- a branch is a line, so it lies below the output slots as its stem does
    have hi' : i < p.ix.ppo := by
      cases hs : p.stems.getD i none with
      | none => rw [← show p.src i = i from viaStem_none hs]; exact (hp.alloc_stem hal).2
      | some t => have := (hp.branch i t hs).1; have := ix_vals p; omega
    obtain ⟨a1, a2⟩ := E4 i hi' hso
    obtain ⟨b1, b2⟩ := K2 _ hal
    exact ⟨by rw [a1, b1], by rw [a2, b2]⟩
  · -- clause 6
    intro j s' hjs
    obtain ⟨hz, o, ho, hos⟩ := hp.ppo j s' hjs
    obtain ⟨n, i, l, hm, hp0, rfl, rfl⟩ := mem_ppoSrcs_elim hjs
    obtain ⟨a1, a2⟩ := e5 n i l hm hp0 (hp.stem_cap n i l hm hp0)
    have hj : p.src l ≠ p.ix.tmp ∧ p.src l ≠ p.ix.tmp2 := by have := ix_vals p; omega
    obtain ⟨k, hk, he⟩ := List.getElem_of_mem ho
    have hal : AllocAt p p.ops.length (p.src l) :=
      .inr (.inr (.inr (.inr ⟨k, o, hk, by rw [List.getElem?_eq_getElem hk, he], hos, hj.1⟩)))
    obtain ⟨b1, b2⟩ := K2 _ hal
    exact ⟨by rw [hloc, b1]; exact a1, by rw [hcap, b2]; exact a2, (mem_tracked_iff p _).mpr ⟨hal, hj⟩⟩
  · -- clause 7
    intro x hx y hy
    by_cases hxy : x = y
    · exact .inl hxy
    · rcases hA.sep x y (tr x hx).1 (tr y hy).1 hxy with h | ⟨_, _, _, _, h⟩
      · exact .inr (.inl (hsep x y (tr x hx).1 (tr y hy).1 h))
      · exact .inr (.inr h)
  · -- clause 8: a scratch slot is never in the second alternative of `sep`
    refine ⟨fun x hx => ?_, ?_⟩
    · obtain ⟨ax, n1, n2⟩ := tr x hx
      constructor
      · rcases hA.sep x _ ax at1 n1 with h | ⟨_, _, h, _⟩
        · exact hsep x _ ax at1 h
        · exact absurd rfl h
      · rcases hA.sep x _ ax at2 n2 with h | ⟨_, _, _, h, _⟩
        · exact hsep x _ ax at2 h
        · exact absurd rfl h
    · rcases hA.sep _ _ at1 at2 (by have := ix_vals p; omega) with h | ⟨h, _⟩
      · exact hsep _ _ at1 at2 h
      · exact absurd rfl h

/-- the map record of the scheduler model: op rows, level starts, location / capacity tables and size exactly as the
    harness and the driver assemble them from `SimOps` (`ops`, `level_starts`, `c_locs`, `c_caps`, `c_len`) -/
def simopsMap (tbl : List PrefixRow) (net : Net) (order : List Nat) (strip : Bool) (capsIn : Nat → Nat) (capsMin : Nat)
    (reuse : Bool) : MapIn :=
  let ops := genOps tbl net order strip
  let st := stemsOf net strip
  let lev := levelise net.idx.len st ops
  let m := memMap net ops st lev capsIn capsMin reuse
  { net := net, strip := strip, ops := ops, starts := lev.starts.reverse, locs := m.locs, caps := m.caps,
    cLen := m.heap.maxSz, capsMin := capsMin }

theorem simopsMap_accepted {tbl : List PrefixRow} {net : Net} {order : List Nat} (strip : Bool) (capsIn : Nat → Nat)
    (capsMin : Nat) (reuse : Bool) (hwf : net.wfB = true) (ho : orderOKB net order = true)
    (hf : strip = true → forksOKB net order = true) (hr : readsDrivenB tbl net order = true) (hpos : 0 < capsMin) :
    (simopsMap tbl net order strip capsIn capsMin reuse).check = none := by
  have hp := simops_progOK tbl (simopsMap tbl net order strip capsIn capsMin reuse) order hwf ho hf hr rfl rfl
  have hM := mapLevels_inv hp hpos reuse capsIn (levelise net.idx.len (stemsOf net strip) (genOps tbl net order strip)) rfl
    (levelise_inv _ _ _).rsz (fun x hx => levelise_refc _ _ _ x hx)
  have e := memMap_eq_fold net (genOps tbl net order strip) (stemsOf net strip)
    (levelise net.idx.len (stemsOf net strip) (genOps tbl net order strip)) capsIn capsMin reuse
  exact (MapSound.check_eq_none_iff _).mpr (clauses_of_inv hp reuse _ hM (congrArg MapSt.locs e) (congrArg MapSt.caps e)
    (congrArg (·.heap.maxSz) e))

end KV
