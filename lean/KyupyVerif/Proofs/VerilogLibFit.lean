import KyupyVerif.Model.VerilogLibFit
/-! Inside `tlFitsB` the index reading of library pins (`VModelLib`) is the reading BY NAME (`VModelLibN`):
`vModelLib_iff_byName`. -/
namespace KV.Netlist
open KV KV.Transform KV.TL KV.DS

/-- the three clauses of `tlFitsRowB` as propositions -/
structure TlFits (tl : TL) (cr : Cell) (i : VInst) : Prop where
  hin : ∀ k, k < cr.inNames.length → tl i.ty (String.ofList (cr.inNames.getD k [])) = some (k, false)
  hout : ∀ k, k < cr.outNames.length → tl i.ty (String.ofList (cr.outNames.getD k [])) = some (k, true)
  hpin : ∀ ps ∈ i.pins, ps.1.toList ∈ cr.inNames ++ cr.outNames

theorem tlFits_of {tl : TL} {cr : Cell} {i : VInst} (h : tlFitsRowB tl cr i = true) : TlFits tl cr i := by
  simp only [tlFitsRowB, Bool.and_eq_true, List.all_eq_true, List.mem_range, beq_iff_eq, List.contains_iff_mem] at h
  exact ⟨h.1.1, h.1.2, h.2⟩

theorem TlFits.tl_eq {tl : TL} {cr : Cell} {i : VInst} (h : TlFits tl cr i) {p : String} (hp : p.toList ∈ cr.inNames ++ cr.outNames) :
    ∃ j, (tl i.ty p = some (j, false) ∧ cr.inNames[j]? = some p.toList) ∨ (tl i.ty p = some (j, true) ∧ cr.outNames[j]? = some p.toList) := by
  rcases List.mem_append.mp hp with hm | hm
  · obtain ⟨j, hj⟩ := List.mem_iff_getElem?.mp hm
    have h1 := h.hin j (List.getElem?_eq_some_iff.mp hj).1
    rw [List.getD_eq_getElem?_getD, hj] at h1
    exact ⟨j, Or.inl ⟨by simpa [String.ofList_toList] using h1, hj⟩⟩
  · obtain ⟨j, hj⟩ := List.mem_iff_getElem?.mp hm
    have h1 := h.hout j (List.getElem?_eq_some_iff.mp hj).1
    rw [List.getD_eq_getElem?_getD, hj] at h1
    exact ⟨j, Or.inr ⟨by simpa [String.ofList_toList] using h1, hj⟩⟩

theorem TlFits.in_iff {tl : TL} {cr : Cell} {i : VInst} (h : TlFits tl cr i) {p : String}
    (hp : p.toList ∈ cr.inNames ++ cr.outNames) {k : Nat} (hk : k < cr.inNames.length) :
    tl i.ty p = some (k, false) ↔ p = String.ofList (cr.inNames.getD k []) := by
  constructor
  · intro ht
    obtain ⟨j, ⟨h1, h2⟩ | ⟨h1, _⟩⟩ := h.tl_eq hp <;> cases ht.symm.trans h1
    rw [List.getD_eq_getElem?_getD, h2]; exact (String.ofList_toList).symm
  · intro he
    rw [he]
    exact h.hin k hk

theorem TlFits.out_iff {tl : TL} {cr : Cell} {i : VInst} (h : TlFits tl cr i) {p : String}
    (hp : p.toList ∈ cr.inNames ++ cr.outNames) {k : Nat} :
    tl i.ty p = some (k, true) ↔ cr.outNames[k]? = some p.toList := by
  constructor
  · intro ht
    obtain ⟨j, ⟨h1, _⟩ | ⟨h1, h2⟩⟩ := h.tl_eq hp <;> cases ht.symm.trans h1
    exact h2
  · intro he
    obtain ⟨hk, hg⟩ := List.getElem?_eq_some_iff.mp he
    have h1 := h.hout k hk
    rw [List.getD_eq_getElem?_getD, he] at h1
    simpa [String.ofList_toList] using h1

theorem find_in_eq {tl : TL} {ty : String} {pk : String} {k : Nat} :
    ∀ (pins : List (String × SelVal)), (∀ ps ∈ pins, (tl ty ps.1 = some (k, false) ↔ ps.1 = pk)) →
      (((pins.filterMap (p2In tl ty)).find? fun c => c.2.1 == k).map (·.2.2)) =
        pins.findSome? fun ps => if ps.1 == pk then (match ps.2 with | .one s => some s | .many _ => none) else none
  | [], _ => rfl
  | ps :: r, h => by
    have ih := find_in_eq r (fun q hq => h q (List.mem_cons_of_mem _ hq))
    have hps := h ps (List.mem_cons_self ..)
    rw [List.filterMap_cons, List.findSome?_cons]
    by_cases hn : ps.1 = pk
    · have ht := hps.mpr hn
      cases hv : ps.2 with
      | one s =>
        have : p2In tl ty ps = some (ps.1, k, s) := by simp only [p2In, ht, hv]
        simp [this, hn]
      | many l =>
        have : p2In tl ty ps = none := by simp only [p2In, ht, hv]
        simp only [this, hn, beq_self_eq_true, if_true]
        exact ih
    · have hne : (ps.1 == pk) = false := by simpa using hn
      simp only [hne, Bool.false_eq_true, if_false]
      cases hp : p2In tl ty ps with
      | none => exact ih
      | some c =>
        have hc : (c.2.1 == k) = false := by
          unfold p2In at hp
          split at hp
          · next idx s ht hv =>
            cases hp
            have : ¬ idx = k := fun e => hn (hps.mp (by rw [ht, e]))
            simpa using this
          · cases hp
        simp only [List.find?_cons, hc]
        exact ih

theorem TlFits.inSig_eq {tl : TL} {cr : Cell} {i : VInst} (h : TlFits tl cr i) {k : Nat} (hk : k < cr.inNames.length) :
    inSig tl i k = pinSigN i (String.ofList (cr.inNames.getD k [])) :=
  find_in_eq i.pins fun ps hps => h.in_iff (h.hpin ps hps) hk

theorem TlFits.inVals_eq {tl : TL} {cr : Cell} {i : VInst} (h : TlFits tl cr i) (σ : String → Bool) :
    libInVals tl σ i cr.inNames.length = libInValsN cr σ i := by
  apply List.ext_getElem
  · simp [libInVals, libInValsN]
  · intro k h1 h2
    have hk : k < cr.inNames.length := by simpa [libInVals] using h1
    simp only [libInVals, libInValsN, List.getElem_map, List.getElem_range]
    rw [h.inSig_eq hk, List.getD_eq_getElem?_getD, List.getElem?_eq_getElem hk]
    rfl

theorem TlFits.outs_iff {tl : TL} {cr : Cell} {i : VInst} (h : TlFits tl cr i) (ds : List Decl) (σ : String → Bool)
    (fs : List (List Bool → Bool)) (x : List Bool) :
    (∀ o ∈ outConn tl ds i, ∀ f, fs[o.1]? = some f → σ o.2 = f x) ↔
    (∀ ps ∈ i.pins, ∀ k : Nat, cr.outNames[k]? = some ps.1.toList → ∀ s, ps.2 = .one s → ∀ f : List Bool → Bool, fs[k]? = some f →
      σ (outSig ds s).1 = f x) := by
  constructor
  · intro H ps hps k hk s hs f hf
    have ht := (h.out_iff (h.hpin ps hps)).mpr hk
    have : (k, (outSig ds s).1) ∈ outConn tl ds i := by
      simp only [outConn, List.mem_filterMap]
      exact ⟨ps, hps, by simp only [p1Out, ht, hs]⟩
    exact H _ this f hf
  · intro H o ho f hf
    simp only [outConn, List.mem_filterMap] at ho
    obtain ⟨ps, hps, hp⟩ := ho
    unfold p1Out at hp
    split at hp
    · next idx s ht hv =>
      cases hp
      exact H ps hps idx ((h.out_iff (h.hpin ps hps)).mp ht) s hv f hf
    · cases hp

theorem vModelLib_iff_byName (isLib : String → Bool) (row : String → Cell) (tl : TL) (ports : List String) (stmts : List Stmt)
    (hfit : tlFitsB isLib row tl stmts = true) (a : Nat → Bool) (σ : String → Bool) :
    VModelLib isLib row tl ports stmts a σ ↔ VModelLibN isLib row tl ports stmts a σ := by
  have hf : ∀ i ∈ vInsts stmts, isLib i.ty = true → TlFits tl (row i.ty) i := by
    intro i hi hl
    simp only [tlFitsB, List.all_eq_true] at hfit
    have := hfit i hi
    rw [hl] at this
    exact tlFits_of (by simpa using this)
  unfold VModelLib VModelLibN
  refine and_congr Iff.rfl (forall_congr' fun i => forall_congr' fun hi => forall_congr' fun hl => exists_congr fun fs =>
    and_congr Iff.rfl ?_)
  rw [(hf i hi hl).inVals_eq σ]
  exact (hf i hi hl).outs_iff _ σ fs _

end KV.Netlist
