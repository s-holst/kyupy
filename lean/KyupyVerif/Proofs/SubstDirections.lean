import KyupyVerif.Proofs.SubstEq
/-! C10 (`substitute_sem`): the two directions under the certificate.  Result ⇒ host with hole + implementation: the labelling of the
implementation read off the result along `imgLine` (`anmOf`, `vmOf`; `fw_link`, `fw_*`).  Host with hole + implementation ⇒ result:
the two labellings glued (`glueV`, `glueA`; `bw_link`, `bw_*`). -/
namespace KV.Transform
open KV

/-- assignment of the implementation read off the result: ports carry the instance's values, the other nodes what their
    copies are assigned -/
def anmOf {α} (h : NNet) (c : Nat) (m : NNet) (sh : Shape) (map : Array (Option Nat)) (z : α) (an' v' : Nat → α) (j : Nat) : α :=
  if m.net.io.contains j then portVal h c sh z v' j else an' ((map.getD j none).getD 0)

/-- the labelling of the implementation: a line with an image in the result carries what the image carries; the remaining lines (into
    output ports that are not read inside; absent lines) by their equation, which only reads lines that have an image -/
def vmOf {α} (h : NNet) (c : Nat) (m : NNet) (sh : Shape) (map : Array (Option Nat)) (z : α) (neg : α → α)
    (prim : String → α → α → α → α → α) (an' v' : Nat → α) (i : Nat) : α :=
  match imgLine h c m sh map i with
  | some l => v' l
  | none => lineEq (cutIns m (deadLine h c m sh)).net (spN (cutIns m (deadLine h c m sh)).net) z neg prim
    (anmOf h c m sh map z an' v') (fun l0 => ((imgLine h c m sh map l0).map v').getD z) i

section cert
variable {h : NNet} {c : Nat} {m : NNet} {sh : Shape} {dn : Nat} {map : Array (Option Nat)} {h' : NNet}
variable (ct : SubstCert h c m sh dn map h')
include ct

variable {α : Type _} (z : α) (neg : α → α) (prim : String → α → α → α → α → α) (an' v' : Nat → α)

theorem SubstCert.fw_agree : Agree ct v' (vmOf h c m sh map z neg prim an' v') := by
  intro i l _ himg
  simp only [vmOf, himg]

theorem SubstCert.fw_link : Link ct z an' v' (anmOf h c m sh map z an' v') (vmOf h c m sh map z neg prim an' v') :=
  ⟨ct.fw_agree z neg prim an' v', fun j x hj hm => by simp [anmOf, hj, hm], fun p hp => by simp [anmOf, hp]⟩

theorem SubstCert.fw_cons (S : Nat → Prop) (hS : ∀ s, S s → s < h.net.nodes.size ∧ s ≠ c)
    (hc' : ConsOff h' S z neg prim an' v') :
    ConsN (cutIns m (deadLine h c m sh)) z neg prim (anmOf h c m sh map z an' v') (vmOf h c m sh map z neg prim an' v') := by
  intro i hi
  rw [cutIns_lsize] at hi
  cases hmd : map.getD (m.net.line i).driver none with
  | none =>
    have hin := (ct.unmapped_driver i hi hmd).1
    rw [ct.lineEq_inPort i hin]
    simp only [vmOf, imgLine_unmapped hmd]
    cases hll : instIn h c (sh.inPorts.idxOf (m.net.line i).driver) with
    | some ll => simp [anmOf, ((mem_inPorts ct.shape _).mp hin).1, portVal, hll]
    | none => exact ct.lineEq_inPort i hin
  | some xd =>
    cases hmr : map.getD (m.net.line i).reader none with
    | some xr =>
      obtain ⟨t, ht, e, hline⟩ := ct.copy_of i hi xd xr hmd hmr
      have hlt : h.net.lines.size + t < h'.net.lines.size := by rw [ct.lsize]; omega
      have hv : vmOf h c m sh map z neg prim an' v' i = v' (h.net.lines.size + t) := by
        simp only [vmOf, ← e, imgLine_copied ht]
      have hnS : ¬ S (h'.net.line (h.net.lines.size + t)).driver := by
        have hdrv : (h'.net.line (h.net.lines.size + t)).driver = xd := by rw [hline]
        rw [hdrv]; intro hs
        have h3 := hS _ hs
        rcases ct.mapGe _ xd hmd with e | e
        · exact h3.2 e
        · omega
      rw [hv, hc' _ hlt hnS]
      exact ct.eq_line (ct.fw_link z neg prim an' v') _ i xd hmd (by rw [hline]) (by rw [hline])
    | none =>
      have himg : imgLine h c m sh map i = none := by simp [imgLine, copiedB, hmd, hmr]
      simp only [vmOf, himg]
      apply lineEq_congr
      · rfl
      · rfl
      · rfl
      · intro k
        rw [cutIns_line, cutIns_inPin]
        cases hp : (m.net.node (m.net.line i).driver).inPin k with
        | none => rfl
        | some l0 =>
          simp only [Option.bind_some]
          split
          · rfl
          · simp only [Option.map_some]
            rename_i hnd
            obtain ⟨hi0, hr0, _⟩ := ct.mwf.fwdIn _ (ct.mapM _ xd hmd) k l0 hp
            congr 1
            cases himg : imgLine h c m sh map l0 with
            | some l => simp only [vmOf, himg, Option.map_some, Option.getD_some]
            | none => exact absurd ((ct.imgLine_dead l0 xd hi0 (by rw [hr0]; exact hmd)).mp himg) hnd

theorem SubstCert.fw_outs (S : Nat → Prop) (hS : ∀ s, S s → s < h.net.nodes.size ∧ s ≠ c)
    (hc' : ConsOff h' S z neg prim an' v') (k il ll : Nat) (hk : sh.outLines[k]? = some il)
    (hll : instOut h c k = some ll) : vmOf h c m sh map z neg prim an' v' il = v' ll := by
  have hlt : ll < h'.net.lines.size := by
    have := (ct.hwf.fwdOut c ct.hc _ ll hll).1
    rw [ct.lsize]; omega
  have hnS : ¬ S (h'.net.line ll).driver := by
    obtain ⟨_, d, _, _, htg, hd, _⟩ := ct.outWire k ll hll
    obtain ⟨k', hk'⟩ := outTarget_map htg
    rw [hd]; intro hs
    have h3 := hS _ hs
    rcases ct.mapGe k' d hk' with e | e
    · exact h3.2 e
    · omega
  rw [hc' ll hlt hnS]
  exact (ct.eq_outline (ct.fw_link z neg prim an' v') (ct.fw_cons z neg prim an' v' S hS hc') k il ll hk hll).symm

theorem SubstCert.fw_hole (S : Nat → Prop) (hc' : ConsOff h' S z neg prim an' v') :
    ConsOff h (fun d => S d ∨ d = c) z neg prim an' v' := by
  intro l hl hd0
  have hd : (h.net.line l).driver ≠ c := fun e => hd0 (Or.inr e)
  have hlt : l < h'.net.lines.size := by rw [ct.lsize]; omega
  rw [hc' l hlt (by rw [(ct.drvFrame l hl hd).1]; exact fun hs => hd0 (Or.inl hs))]
  exact ct.eq_hostline z neg prim an' an' v' v' (fun _ _ => rfl) (fun _ _ _ => rfl) l hl hd

end cert

def mapInv (m : NNet) (map : Array (Option Nat)) (x : Nat) : Nat :=
  ((List.range m.net.nodes.size).find? fun j => map.getD j none == some x).getD 0

def glueV {α} (h m : NNet) (map : Array (Option Nat)) (v vm : Nat → α) (l : Nat) : α :=
  if l < h.net.lines.size then v l else vm ((copiedLines m map).getD (l - h.net.lines.size) 0)

def glueA {α} (h : NNet) (c : Nat) (m : NNet) (map : Array (Option Nat)) (an anm : Nat → α) (x : Nat) : α :=
  if x < h.net.nodes.size ∧ x ≠ c then an x else anm (mapInv m map x)

section cert
variable {h : NNet} {c : Nat} {m : NNet} {sh : Shape} {dn : Nat} {map : Array (Option Nat)} {h' : NNet}
variable (ct : SubstCert h c m sh dn map h')
include ct

theorem SubstCert.mapInv_eq (j x : Nat) (hm : map.getD j none = some x) : mapInv m map x = j := by
  have hj := ct.mapM j x hm
  simp only [mapInv]
  cases hf : (List.range m.net.nodes.size).find? (fun j => map.getD j none == some x) with
  | none =>
    rw [List.find?_eq_none] at hf
    have := hf j (List.mem_range.mpr hj)
    simp [hm] at this
  | some j' =>
    have := List.find?_some hf
    simp only [beq_iff_eq] at this
    simp only [Option.getD_some]
    exact ct.mapInj _ _ _ this hm

variable {α : Type _} (z : α) (neg : α → α) (prim : String → α → α → α → α → α) (an v anm vm : Nat → α)

omit ct in
theorem bw_host (l : Nat) (hl : l < h.net.lines.size) : glueV h m map v vm l = v l := by
  simp [glueV, hl]

omit ct in
theorem bw_new (t : Nat) (ht : t < (copiedLines m map).length) :
    glueV h m map v vm (h.net.lines.size + t) = vm (copiedLines m map)[t] := by
  have : ¬ h.net.lines.size + t < h.net.lines.size := by omega
  simp [glueV, this, List.getD_eq_getElem?_getD, List.getElem?_eq_getElem ht]

omit ct in
theorem bw_hostA (d : Nat) (hd : d < h.net.nodes.size) (hne : d ≠ c) : glueA h c m map an anm d = an d := by
  simp [glueA, hd, hne]

theorem SubstCert.bw_hA (j x : Nat) (hm : map.getD j none = some x) :
    anm j = glueA h c m map an anm x := by
  have : ¬ (x < h.net.nodes.size ∧ x ≠ c) := by
    rcases ct.mapGe j x hm with e | e
    · simp [e]
    · omega
  simp only [glueA, this, if_false]
  rw [ct.mapInv_eq j x hm]

theorem SubstCert.bw_portVal (p : Nat) : portVal h c sh z (glueV h m map v vm) p = portVal h c sh z v p := by
  simp only [portVal]
  cases hll : instIn h c (sh.inPorts.idxOf p) with
  | none => rfl
  | some ll =>
    exact bw_host v vm ll (ct.hwf.fwdIn c ct.hc _ ll hll).1

theorem SubstCert.bw_agree (hM : ImplMatches h c m sh z neg prim anm vm v) :
    Agree ct (glueV h m map v vm) vm := by
  intro i l hi himg
  cases hmd : map.getD (m.net.line i).driver none with
  | none =>
    have dinp := (ct.unmapped_driver i hi hmd).1
    rw [imgLine_unmapped hmd] at himg
    rw [bw_host v vm l (ct.hwf.fwdIn c ct.hc _ l himg).1, hM.1 i (by rw [cutIns_lsize]; exact hi),
      ct.lineEq_inPort i dinp, hM.2.1 _ ((mem_inPorts ct.shape _).mp dinp).1]
    simp [portVal, himg]
  | some xd =>
    by_cases hcp : copiedB m map i = true
    · obtain ⟨t, ht, e⟩ := List.getElem_of_mem ((copiedLines_mem i).mpr ⟨hi, hcp⟩)
      subst e
      rw [imgLine_copied ht] at himg
      cases himg
      exact bw_new v vm t ht
    · simp [imgLine, hcp, hmd] at himg

theorem SubstCert.bw_link (hM : ImplMatches h c m sh z neg prim anm vm v) :
    Link ct z (glueA h c m map an anm) (glueV h m map v vm) anm vm :=
  ⟨ct.bw_agree z neg prim v anm vm hM, fun j x _ hm => ct.bw_hA an anm j x hm,
    fun p hp => by rw [ct.bw_portVal z v vm p]; exact hM.2.1 p hp⟩

theorem SubstCert.bw_cons (S : Nat → Prop) (hH : ConsOff h (fun d => S d ∨ d = c) z neg prim an v)
    (hM : ImplMatches h c m sh z neg prim anm vm v) :
    ConsOff h' S z neg prim (glueA h c m map an anm) (glueV h m map v vm) := by
  have lk := ct.bw_link z neg prim an v anm vm hM
  intro l' hl' hnS
  rcases ct.line_split l' hl' with hlt | ⟨t, ht, e⟩
  · rw [bw_host v vm l' hlt]
    by_cases hd : (h.net.line l').driver = c
    · -- a line at an output pin of the instance
      have hout : instOut h c (h.net.line l').dpin = some l' := by
        have := (ct.hwf.back l' hlt).2.2
        rw [hd] at this; exact this
      obtain ⟨il, _, _, hk, _, _, _⟩ := ct.outWire _ l' hout
      rw [ct.eq_outline lk hM.1 _ il l' hk hout]
      exact (hM.2.2 _ il l' hk hout).symm
    · rw [hH l' hlt (by
          rintro (hs | hs)
          · exact hnS (by rw [(ct.drvFrame l' hlt hd).1]; exact hs)
          · exact hd hs)]
      exact (ct.eq_hostline z neg prim an _ v _ (bw_host v vm) (bw_hostA an anm) l' hlt hd).symm
  · subst e
    obtain ⟨hi, xd, xr, h1, h2, hline⟩ := ct.new_fields t ht
    rw [bw_new v vm t ht, hM.1 _ (by rw [cutIns_lsize]; exact hi)]
    exact (ct.eq_line lk _ _ xd h1 (by rw [hline]) (by rw [hline])).symm

end cert

end KV.Transform
