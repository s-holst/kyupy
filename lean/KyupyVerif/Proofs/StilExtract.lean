import KyupyVerif.Model.Stil
/-! Pattern assembly from the call list (`StilFile.__init__`, stil.py:28-56; model `Stil.extract`): what it yields on a call list of
the shape ATPG tools write — `load_unload`, optionally a `*_launch` call, a `*_capture` call, …, and a closing `load_unload`.
Pattern `k` = the load of the `k`-th `load_unload`, the launch / capture parameters of the calls behind it, and the UNLOAD of the
NEXT `load_unload` (the closing one for the last pattern); a block without launch call has the empty launch dictionary (not the
previous pattern's); strings cleaned (`\n` removed, `N` → `-`). -/
namespace KV.Stil

structure Blk where
  /-- `load_unload` calls in front of the block's own that no capture follows: their loads are overwritten (no pattern results
      from them), but the FIRST of them unloads the pending pattern -/
  pre : List Dict := []
  lu : Dict
  la : Option (String × Dict)
  capName : String
  ca : Dict
deriving Repr, Inhabited

def Blk.tail (b : Blk) : List Call :=
  (match b.la with | none => [] | some (n, d) => [⟨n, d⟩]) ++ [⟨b.capName, b.ca⟩]

def lus (ds : List Dict) : List Call := ds.map fun d => ⟨"load_unload", d⟩

def Blk.calls (b : Blk) : List Call := lus b.pre ++ ⟨"load_unload", b.lu⟩ :: b.tail

def Blk.unloadSrc (b : Blk) : Dict := match b.pre with | [] => b.lu | d :: _ => d

/-- the names are what they have to be: the launch call ends in `_launch` only, the capture call in `_capture` only, neither is
    `load_unload`, and the capture call has at least one parameter (`len(capture) > 0` is the code's "a pattern is pending") -/
def Blk.ok (b : Blk) : Bool :=
  (match b.la with
   | none => true
   | some (n, _) => endsWith n "_launch" && !endsWith n "_capture" && !(n == "load_unload")) &&
  endsWith b.capName "_capture" && !endsWith b.capName "_launch" && !(b.capName == "load_unload") && decide (b.ca.length > 0)

def Blk.launch (b : Blk) : Dict := match b.la with | none => [] | some (_, d) => cleanDict d

/-- a pending pattern `(load, launch, capture)` is closed by the next `load_unload` — `b.unloadSrc`: also by one that is
otherwise discarded (`Blk.pre`) -/
def closeAll (siP soP : List String) (sl la ca : Dict) : List Blk → Dict → List Pat
  | [], fin => [⟨sl, la, ca, pick soP fin⟩]
  | b :: r, fin => ⟨sl, la, ca, pick soP b.unloadSrc⟩ :: closeAll siP soP (pick siP b.lu) b.launch (cleanDict b.ca) r fin

def expectPats (siP soP : List String) : List Blk → Dict → List Pat
  | [], _ => []
  | b :: r, fin => closeAll siP soP (pick siP b.lu) b.launch (cleanDict b.ca) r fin

def callsOf (bs : List Blk) (fin : Dict) : List Call := bs.flatMap Blk.calls ++ [⟨"load_unload", fin⟩]

theorem callsOf_nil (fin : Dict) : callsOf [] fin = [⟨"load_unload", fin⟩] := rfl
theorem callsOf_cons (b : Blk) (r : List Blk) (fin : Dict) :
    callsOf (b :: r) fin = lus b.pre ++ ⟨"load_unload", b.lu⟩ :: (b.tail ++ callsOf r fin) := by
  simp [callsOf, Blk.calls]

theorem lu_not_launch : endsWith "load_unload" "_launch" = false := by decide
theorem lu_not_capture : endsWith "load_unload" "_capture" = false := by decide

theorem xstep_lu_pending (siP soP : List String) (st : XSt) (ps : Dict) (h : st.capture.length > 0) :
    xstep siP soP st ⟨"load_unload", ps⟩ =
      { launch := [], capture := [], sload := pick siP ps,
        pats := st.pats ++ [⟨st.sload, st.launch, st.capture, pick soP ps⟩] } := by
  simp [xstep, lu_not_launch, lu_not_capture, h]

theorem xstep_lu_idle (siP soP : List String) (st : XSt) (ps : Dict) (h : st.capture = []) :
    xstep siP soP st ⟨"load_unload", ps⟩ = { st with sload := pick siP ps } := by
  simp [xstep, lu_not_launch, lu_not_capture, h]

theorem lus_idle (siP soP : List String) (ds : List Dict) (st : XSt) (h : st.capture = []) :
    ∃ sl, (lus ds).foldl (xstep siP soP) st = { st with sload := sl } := by
  induction ds generalizing st with
  | nil => exact ⟨st.sload, rfl⟩
  | cons d r ih =>
    obtain ⟨sl, hsl⟩ := ih { st with sload := pick siP d } h
    refine ⟨sl, ?_⟩
    show (lus r).foldl (xstep siP soP) (xstep siP soP st ⟨"load_unload", d⟩) = _
    rw [xstep_lu_idle siP soP st d h, hsl]

theorem heads_idle (siP soP : List String) (b : Blk) (st : XSt) (h : st.capture = []) :
    xstep siP soP ((lus b.pre).foldl (xstep siP soP) st) ⟨"load_unload", b.lu⟩ = { st with sload := pick siP b.lu } := by
  obtain ⟨sl, hsl⟩ := lus_idle siP soP b.pre st h
  rw [hsl, xstep_lu_idle siP soP { st with sload := sl } b.lu h]

theorem heads_pending (siP soP : List String) (b : Blk) (st : XSt) (h : st.capture.length > 0) :
    xstep siP soP ((lus b.pre).foldl (xstep siP soP) st) ⟨"load_unload", b.lu⟩ =
      { launch := [], capture := [], sload := pick siP b.lu,
        pats := st.pats ++ [⟨st.sload, st.launch, st.capture, pick soP b.unloadSrc⟩] } := by
  unfold Blk.unloadSrc
  cases hp : b.pre with
  | nil => exact xstep_lu_pending siP soP st b.lu h
  | cons d r =>
    show xstep siP soP ((lus r).foldl (xstep siP soP) (xstep siP soP st ⟨"load_unload", d⟩)) ⟨"load_unload", b.lu⟩ = _
    rw [xstep_lu_pending siP soP st d h]
    obtain ⟨sl, hsl⟩ := lus_idle siP soP r
      ⟨[], [], pick siP d, st.pats ++ [⟨st.sload, st.launch, st.capture, pick soP d⟩]⟩ rfl
    rw [hsl, xstep_lu_idle _ _ _ _ rfl]

theorem xstep_launch (siP soP : List String) (st : XSt) (n : String) (d : Dict)
    (h1 : endsWith n "_launch" = true) (h2 : endsWith n "_capture" = false) (h3 : (n == "load_unload") = false) :
    xstep siP soP st ⟨n, d⟩ = { st with launch := cleanDict d } := by
  simp [xstep, h1, h2, h3]

theorem xstep_capture (siP soP : List String) (st : XSt) (n : String) (d : Dict)
    (h1 : endsWith n "_capture" = true) (h2 : endsWith n "_launch" = false) (h3 : (n == "load_unload") = false) :
    xstep siP soP st ⟨n, d⟩ = { st with capture := cleanDict d } := by
  simp [xstep, h1, h2, h3]

theorem Blk.ok_capture {b : Blk} (h : b.ok = true) : (cleanDict b.ca).length > 0 := by
  simp only [Blk.ok, Bool.and_eq_true, decide_eq_true_eq] at h
  simpa [cleanDict] using h.2

theorem block_tail (siP soP : List String) (st : XSt) (b : Blk) (hb : b.ok = true) (hl : st.launch = []) :
    b.tail.foldl (xstep siP soP) st = { st with launch := b.launch, capture := cleanDict b.ca } := by
  unfold Blk.tail
  unfold Blk.ok at hb
  simp only [Bool.and_eq_true, Bool.not_eq_true', decide_eq_true_eq] at hb
  obtain ⟨⟨⟨⟨hla, hc1⟩, hc2⟩, hc3⟩, _⟩ := hb
  cases hb' : b.la with
  | none =>
    simp only [List.nil_append, List.foldl_cons, List.foldl_nil]
    rw [xstep_capture siP soP st _ _ hc1 hc2 hc3]
    simp [Blk.launch, hb', hl]
  | some nd =>
    obtain ⟨n, d⟩ := nd
    rw [hb'] at hla
    simp only [Bool.and_eq_true, Bool.not_eq_true'] at hla
    simp only [List.cons_append, List.nil_append, List.foldl_cons, List.foldl_nil]
    rw [xstep_launch siP soP st n d hla.1.1 hla.1.2 hla.2, xstep_capture siP soP _ _ _ hc1 hc2 hc3]
    simp [Blk.launch, hb']

theorem foldl_pending (siP soP : List String) (bs : List Blk) (fin : Dict) (st : XSt) (hb : ∀ b ∈ bs, b.ok = true)
    (h : st.capture.length > 0) :
    ((callsOf bs fin).foldl (xstep siP soP) st).pats = st.pats ++ closeAll siP soP st.sload st.launch st.capture bs fin := by
  induction bs generalizing st with
  | nil =>
    rw [callsOf_nil, List.foldl_cons, List.foldl_nil, xstep_lu_pending siP soP st fin h]
    rfl
  | cons b r ih =>
    have hbk := hb b List.mem_cons_self
    rw [callsOf_cons, List.foldl_append, List.foldl_cons, List.foldl_append, heads_pending siP soP b st h,
      block_tail siP soP _ b hbk rfl]
    have := ih { launch := b.launch, capture := cleanDict b.ca, sload := pick siP b.lu,
                 pats := st.pats ++ [⟨st.sload, st.launch, st.capture, pick soP b.unloadSrc⟩] }
      (fun b' hb' => hb b' (List.mem_cons_of_mem _ hb')) (Blk.ok_capture hbk)
    rw [this]
    simp only [closeAll, List.append_assoc, List.singleton_append]

/-- **pattern assembly**: on `load_unload [launch] capture … load_unload` the pattern list is `expectPats` -/
theorem extract_blocks (groups : List (String × List String)) (chains : List Chain) (bs : List Blk) (fin : Dict)
    (hb : ∀ b ∈ bs, b.ok = true) :
    extract ⟨groups, chains, callsOf bs fin⟩ = expectPats (chains.map (·.si)) (chains.map (·.so)) bs fin := by
  unfold extract
  simp only []
  cases bs with
  | nil =>
    rw [callsOf_nil, List.foldl_cons, List.foldl_nil, xstep_lu_idle _ _ _ _ rfl]
    rfl
  | cons b r =>
    have hbk := hb b List.mem_cons_self
    rw [callsOf_cons, List.foldl_append, List.foldl_cons, List.foldl_append, heads_idle _ _ b _ rfl, block_tail _ _ _ b hbk rfl]
    have := foldl_pending (chains.map (·.si)) (chains.map (·.so)) r fin
      { launch := b.launch, capture := cleanDict b.ca, sload := pick (chains.map (·.si)) b.lu, pats := [] }
      (fun b' hb' => hb b' (List.mem_cons_of_mem _ hb')) (Blk.ok_capture hbk)
    rw [this]
    simp only [expectPats, List.nil_append]

theorem closeAll_length (siP soP : List String) (sl la ca : Dict) (bs : List Blk) (fin : Dict) :
    (closeAll siP soP sl la ca bs fin).length = bs.length + 1 := by
  induction bs generalizing sl la ca with
  | nil => rfl
  | cons b r ih => simp only [closeAll, List.length_cons, ih]

theorem expectPats_length (siP soP : List String) (bs : List Blk) (fin : Dict) : (expectPats siP soP bs fin).length = bs.length := by
  cases bs with
  | nil => rfl
  | cons b r => simp only [expectPats, closeAll_length, List.length_cons]

theorem closeAll_get (siP soP : List String) (sl la ca : Dict) (bs : List Blk) (fin : Dict) (k : Nat) (hk : k < bs.length + 1) :
    (closeAll siP soP sl la ca bs fin)[k]'(by rw [closeAll_length]; exact hk) =
      ⟨(match k with | 0 => sl | j + 1 => pick siP (bs.getD j default).lu),
       (match k with | 0 => la | j + 1 => (bs.getD j default).launch),
       (match k with | 0 => ca | j + 1 => cleanDict (bs.getD j default).ca),
       pick soP (if k < bs.length then (bs.getD k default).unloadSrc else fin)⟩ := by
  induction bs generalizing sl la ca k with
  | nil =>
    have : k = 0 := by simpa using hk
    subst this; rfl
  | cons b r ih =>
    cases k with
    | zero => simp [closeAll]
    | succ j =>
      simp only [closeAll, List.getElem_cons_succ]
      rw [ih _ _ _ j (by simpa using hk)]
      cases j with
      | zero => simp
      | succ i => simp

theorem expectPats_get (siP soP : List String) (bs : List Blk) (fin : Dict) (k : Nat) (hk : k < bs.length) :
    (expectPats siP soP bs fin)[k]'(by rw [expectPats_length]; exact hk) =
      ⟨pick siP bs[k].lu, bs[k].launch, cleanDict bs[k].ca,
       pick soP (if h : k + 1 < bs.length then bs[k + 1].unloadSrc else fin)⟩ := by
  cases bs with
  | nil => exact absurd hk (by simp)
  | cons b r =>
    simp only [expectPats]
    rw [closeAll_get siP soP _ _ _ r fin k (by simpa using hk)]
    cases k with
    | zero =>
      cases r with
      | nil => simp
      | cons b' r' => simp
    | succ j =>
      have hj : j < r.length := by simpa using hk
      simp only [List.getElem_cons_succ, List.length_cons, Nat.add_lt_add_iff_right]
      rw [show r.getD j default = r[j] from by simp [List.getD, hj]]
      by_cases h2 : j + 1 < r.length
      · simp [h2, List.getD]
      · simp [h2]

end KV.Stil
