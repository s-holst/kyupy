import KyupyVerif.Proofs.NetLabelling
import KyupyVerif.Proofs.CycleStrip
/-! C01: the k-cycle statement against the INDEPENDENT next-state specification.

* `consistentB_asg` — the acceptance check reads the assignment only at the `s_nodes` positions of line drivers; there the memory
  after `s_to_c` holds `s[0]`: the check can be stated with the plain assignment `p ↦ s[0][p]` (no index tables);
* `simLabel_accepted` — EXISTENCE: the labelling the simulator model computes, read on the lines, is accepted by `consistentB`;
* `nextState_spec_gen` — one step, any value domain, any merge, against `nextStateFromM` (`= nextStateFrom` for copy);
* `cycleK_spec_gen` — k steps: `s[0]` after `cycle(k)` = the k-fold iterate of the specification's next-state function, for any
  labelling family accepted at the iterates; `specStep_total`, `specStep_functional` — the one-step relation of the specification is
  total and functional, so the iterate does not depend on the family;
* `cycleK_spec_run` — the run of `cycle` is THE run of the specification (`SpecStep` links consecutive `s[0]`; every sequence that follows
  `SpecStep` for `k` steps ends in `s[0]` after `cycle(k)`);
* list form for the driver's `eval2`: `specF`, `nextState_list`, `iterState_list` (`KV.iterState` is the k-fold iterate of `specF`),
  `iterAccepted_list`; `consistentB_asg_default` (the default of the assignment list is never read). -/
namespace KV
/-- the executable next-state function of the driver (`eval2`) is `nextStateFrom` of the labelling the evaluator `evalAll` returns
(which the driver submits to the acceptance check `consistentB` on every request) -/
theorem nextState_eq_from_main (net : Net) (a : Nat → Bool) (j : Nat) (hj : j < net.sNodes.length) :
    nextState net a j =
      (nextStateFrom net false (evalAll net false (!·) prim2 a) ((List.range net.sNodes.length).map a)).getD j false := by
  unfold nextState nextStateFrom evalCaptures evalCapturesG
  have hg : net.sNodes.getD j 0 = net.sNodes[j] := by simp [List.getD, List.getElem?_eq_getElem hj]
  simp only [List.getD_eq_getElem?_getD, List.getElem?_mapIdx, List.getElem?_map, List.getElem?_range hj, Option.map_some,
    Option.getD_some, Array.getD_eq_getD_getElem?, List.getElem?_toArray, List.getElem?_eq_getElem hj]
  by_cases hp : net.io.length ≤ j
  · simp only [hp, if_true]
    simp only [List.getD_eq_getElem?_getD, List.getElem?_eq_getElem hj, Option.getD_some] at hg ⊢
    cases (net.node net.sNodes[j]).inPin 0 <;> rfl
  · simp only [hp, if_false]
end KV

namespace KV
open KV.Cycle KV.Sig KV.Netlist

theorem consistentB_congr_asg {α} [BEq α] (net : Net) (z : α) (neg : α → α) (prim : String → α → α → α → α → α)
    (a1 a2 : Nat → α) (v : Array α)
    (h : ∀ l p, l < net.lines.size → net.sPosTable.getD (net.line l).driver none = some p → a1 p = a2 p) :
    consistentB net z neg prim a1 v = consistentB net z neg prim a2 v := by
  have hle : ∀ l, l < net.lines.size →
      lineEq net (fun n => net.sPosTable.getD n none) z neg prim a1 (fun i => v.getD i z) l =
        lineEq net (fun n => net.sPosTable.getD n none) z neg prim a2 (fun i => v.getD i z) l := by
    intro l hl'
    unfold lineEq
    cases hsp : net.sPosTable.getD (net.line l).driver none with
    | none => simp only [hsp]
    | some p => simp only [hsp, h l p hl' hsp]
  unfold consistentB
  rw [Bool.eq_iff_iff]
  simp only [List.all_eq_true, List.mem_range]
  constructor <;> intro hh l hl
  · rw [← hle l hl]; exact hh l hl
  · rw [hle l hl]; exact hh l hl

theorem sToC_at_driver {α} (net : Net) (order : List Nat) (hwf : net.wfB = true) (ho : orderOKB net order = true)
    (hall : linesDrivenB Gen.kindPrefixes net order = true) (d : α) (a : List α) (env : Nat → α)
    (l p : Nat) (hl : l < net.lines.size) (hsp : net.sPosTable.getD (net.line l).driver none = some p) :
    sToC (tabsOf net false) d a env (net.idx.ppi + p) = a.getD p d := by
  obtain ⟨hnlt, pin, hpin⟩ := line_driver_out net order hwf ho hall l hl
  rw [sPosTable_getD net hnlt] at hsp
  have hget := sPosIn_some' _ _ _ hsp
  have hp := (List.getElem?_eq_some_iff.mp hget).1
  have houts : 0 < (sNodeAt net p).outs.length := by
    unfold sNodeAt
    rw [List.getD_eq_getElem?_getD, hget, Option.getD_some]
    have := (List.getElem?_eq_some_iff.mp hpin).1
    omega
  rw [sToC_apply]
  have hm : net.idx.ppi + p ∈ (tabsOf net false).pippi.map (·.2) :=
    List.mem_map.2 ⟨(p, _), (mem_pippi net false _).2 ⟨⟨hp, houts⟩, rfl⟩, rfl⟩
  rw [if_pos hm]
  congr 1
  omega

theorem sToC_zero {α} (net : Net) (d : α) (a : List α) (env : Nat → α) :
    sToC (tabsOf net false) d a env net.idx.zero = env net.idx.zero := by
  obtain ⟨hz, _, hp⟩ := idx_vals net
  rw [sToC_apply, if_neg]
  intro hm
  obtain ⟨px, hpx, he⟩ := List.mem_map.1 hm
  have := pippi_sig net false px hpx
  omega

/-- the constant-0 slot is an input of the equation system: every solution reads there what the memory held before -/
theorem sol_zero_slot {α} (tbl : List PrefixRow) (net : Net) (order : List Nat)
    (hwf : net.wfB = true) (ho : orderOKB net order = true) (sem : Op → List α → α) (d : α) (a : List α) (env val : Nat → α)
    (hval : SolvesJ (Jt net) sem ((genOps tbl net order false).map OpRow.toOp) (sToC (tabsOf net false) d a env) val) :
    val net.idx.zero = env net.idx.zero := by
  obtain ⟨hz, ht, hp⟩ := idx_vals net
  have hj : Jt net net.idx.zero = false := by simp only [Jt, beq_eq_false_iff_ne]; omega
  rw [hval.1 _ hj (fun o ho' => genOps_out_ne_zero tbl net order hwf (orderOK_lt ho) o ho'), sToC_zero]

/-- **the acceptance check without index tables**: for the assignment in the (P)PI slots after `s_to_c` = for the plain
assignment `p ↦ s[0][p]`, constant = content of the constant slot -/
theorem consistentB_asg {α} [BEq α] (net : Net) (order : List Nat) (hwf : net.wfB = true) (ho : orderOKB net order = true)
    (hall : linesDrivenB Gen.kindPrefixes net order = true) (neg : α → α) (prim : String → α → α → α → α → α)
    (d : α) (a : List α) (env : Nat → α) (v : Array α) :
    consistentB net (sToC (tabsOf net false) d a env net.idx.zero) neg prim
        (fun p => sToC (tabsOf net false) d a env (net.idx.ppi + p)) v =
      consistentB net (env net.idx.zero) neg prim (fun p => a.getD p d) v := by
  rw [sToC_zero]
  exact consistentB_congr_asg net _ neg prim _ _ v fun l p hl hsp => sToC_at_driver net order hwf ho hall d a env l p hl hsp

def simLabel {α} (sem : Nat → List α → α) (net : Net) (order : List Nat) (d : α) (env : Nat → α) (a : List α) : Array α :=
  Array.ofFn (n := net.lines.size) fun i =>
    exec sem ((genOps Gen.kindPrefixes net order false).map OpRow.toOp) (sToC (tabsOf net false) d a env) i.val

theorem simLabel_getD {α} (sem : Nat → List α → α) (net : Net) (order : List Nat) (d : α) (env : Nat → α) (a : List α)
    (z : α) (i : Nat) (hi : i < net.lines.size) :
    (simLabel sem net order d env a).getD i z =
      exec sem ((genOps Gen.kindPrefixes net order false).map OpRow.toOp) (sToC (tabsOf net false) d a env) i := by
  unfold simLabel
  simp [Array.getD_eq_getD_getElem?, hi]

/-- **existence of an accepted labelling**: for every well-formed netlist, topological order that schedules every line, every
assignment and memory, the labelling the simulator model computes is accepted by the specification's check `consistentB` -/
theorem simLabel_accepted {α} [BEq α] [LawfulBEq α] (sem spec : Nat → List α → α)
    (heq : ∀ code, KnownCode code → ∀ xs, sem code xs = spec code xs) (neg : α → α) (prim : String → α → α → α → α → α)
    (hs : SemSpec spec neg prim) (net : Net) (order : List Nat) (hwf : net.wfB = true) (ho : orderOKB net order = true)
    (hfk : forksOKB net order = true) (hall : linesDrivenB Gen.kindPrefixes net order = true)
    (d : α) (env : Nat → α) (a : List α) :
    consistentB net (env net.idx.zero) neg prim (fun p => a.getD p d) (simLabel sem net order d env a) = true := by
  rw [← consistentB_asg net order hwf ho hall neg prim d a env]
  have hdrv : ∀ l, l < net.lines.size → (net.line l).driver < net.nodes.size :=
    fun l hl => (line_driver_out net order hwf ho hall l hl).1
  rw [netLabelling_iff_consistentB net hdrv]
  have h1 := (sim_is_the_labelling sem spec heq neg prim hs net order hwf ho hfk hall (sToC (tabsOf net false) d a env)).1
  intro i hi
  show (simLabel sem net order d env a).getD i _ = _
  rw [simLabel_getD sem net order d env a _ i hi, h1 i hi]
  apply lineEq_congr
  · rfl
  · intro k l' hk
    have hl' : l' < net.lines.size := (wf_in hwf (hdrv i hi) (inPin_some hk)).1
    rw [simLabel_getD sem net order d env a _ l' hl']

/-- independent next-state specification with a merge (m = 8: `s_ppo_to_ppi` builds a transition from old and captured value):
ports keep their value; a state element takes `merge old (v of its data line)`; an open data pin reads the constant `z` -/
def nextStateFromM {α} (net : Net) (merge : α → α → α) (z : α) (v : Array α) (a : List α) : List α :=
  a.mapIdx fun p x => if net.io.length ≤ p then
    merge x (match (net.node (net.sNodes.getD p 0)).inPin 0 with | some l => v.getD l z | none => z) else x

theorem nextStateFromM_copy (net : Net) (z : Bool) (v : Array Bool) (a : List Bool) :
    nextStateFromM net mergeCopy z v a = nextStateFrom net z v a := rfl

theorem nextStateFromM_length {α} (net : Net) (merge : α → α → α) (z : α) (v : Array α) (a : List α) :
    (nextStateFromM net merge z v a).length = a.length := by
  simp [nextStateFromM]

theorem nextStateFromM_congr {α} (net : Net) (hwf : net.wfB = true) (merge : α → α → α) (z : α) (v w : Array α) (a : List α)
    (h : ∀ l, l < net.lines.size → v.getD l z = w.getD l z) :
    nextStateFromM net merge z v a = nextStateFromM net merge z w a := by
  unfold nextStateFromM
  rw [List.mapIdx_eq_mapIdx_iff]
  intro p _
  by_cases hp : net.io.length ≤ p
  · simp only [hp, if_true]
    cases hl : (net.node (net.sNodes.getD p 0)).inPin 0 with
    | none => rfl
    | some l =>
      simp only
      rw [h l (inPin_lt hwf hl).2]
  · simp only [hp, if_false]

theorem nextState_spec_gen {α} [BEq α] [LawfulBEq α] (sem spec : Nat → List α → α)
    (heq : ∀ code, KnownCode code → ∀ xs, sem code xs = spec code xs) (neg : α → α) (prim : String → α → α → α → α → α)
    (hs : SemSpec spec neg prim) (net : Net) (order : List Nat) (hwf : net.wfB = true) (ho : orderOKB net order = true)
    (hfk : forksOKB net order = true) (hall : linesDrivenB Gen.kindPrefixes net order = true)
    (merge : α → α → α) (d : α) (env : Nat → α) (a : List α) (v : Array α)
    (hc : consistentB net (env net.idx.zero) neg prim (fun p => a.getD p d) v = true) :
    Cycle.nextState (fun op => sem op.code) (sigOps Gen.kindPrefixes net order false) net false merge d env a =
      nextStateFromM net merge (env net.idx.zero) v a := by
  rw [← consistentB_asg net order hwf ho hall neg prim d a env] at hc
  have hdrv : ∀ l, l < net.lines.size → (net.line l).driver < net.nodes.size :=
    fun l hl => (line_driver_out net order hwf ho hall l hl).1
  have h2 := (sim_is_the_labelling sem spec heq neg prim hs net order hwf ho hfk hall (sToC (tabsOf net false) d a env)).2 _
    ((netLabelling_iff_consistentB net hdrv _ neg prim _ v).mp hc)
  rw [sToC_zero] at h2
  unfold Cycle.nextState nextRow nextStateFromM
  rw [List.mapIdx_eq_mapIdx_iff]
  intro p _
  by_cases hp : net.io.length ≤ p
  · simp only [hp, if_true]
    congr 1
    rw [capSig_false]
    unfold sNodeAt solOf
    rw [sigOps_false, ← exec_eq_execG]
    cases hl : (net.node (net.sNodes.getD p 0)).inPin 0 with
    | none =>
      simp only
      rw [exec_eq_execG, execG_frame _ _ _ _ (genOps_out_ne_zero Gen.kindPrefixes net order hwf (orderOK_lt ho)), sToC_zero]
    | some l =>
      simp only
      exact (h2 l (inPin_lt hwf hl).2).symm
  · rw [if_neg hp, if_neg hp]


/-- the `s[0]` clause of C01 `cycle_iter` -/
theorem cycleK_s0_iter {α} (tbl : List PrefixRow) (net : Net) (order : List Nat)
    (hwf : net.wfB = true) (ho : orderOKB net order = true) (sem : Op → List α → α) (merge : α → α → α) (d : α)
    (st : St α) (h0 : st.s.s0.length = net.sNodes.length) (h1 : st.s.s1.length = net.sNodes.length) (k : Nat) :
    (cycleK sem (sigOps tbl net order false) (tabsOf net false) merge d k st).s.s0 =
      iter (Cycle.nextState sem (sigOps tbl net order false) net false merge d st.env) k st.s.s0 := by
  rw [cycleK_s (Jt net) sem _ (sigOps_false_WOJ tbl net order hwf ho) net false (capSig_notJunk net hwf) merge d st.env k st h0 h1 (Agree.refl _ _ _)]
  exact iter_stepS_s0 _ _ _ _ _ _ _ _ _

theorem iter_congr_along {β} (N F : β → β) : ∀ (k : Nat) (a : β), (∀ j, j < k → N (iter F j a) = F (iter F j a)) →
    iter N k a = iter F k a
  | 0, _, _ => rfl
  | k + 1, a, h => by
    show iter N k (N a) = iter F k (F a)
    rw [show N a = F a from h 0 (Nat.succ_pos k)]
    exact iter_congr_along N F k (F a) fun j hj => h (j + 1) (Nat.succ_lt_succ hj)

/-- **k cycles against the independent specification, any value domain, any merge.**  For ANY family `v` of labellings (one per
assignment) that the specification's check accepts at the iterates `0 … k-1`, `s[0]` after `cycle(k)` is the k-fold iterate of the
specification's next-state function under that family. -/
theorem cycleK_spec_gen {α} [BEq α] [LawfulBEq α] (sem spec : Nat → List α → α)
    (heq : ∀ code, KnownCode code → ∀ xs, sem code xs = spec code xs) (neg : α → α) (prim : String → α → α → α → α → α)
    (hs : SemSpec spec neg prim) (net : Net) (order : List Nat) (hwf : net.wfB = true) (ho : orderOKB net order = true)
    (hfk : forksOKB net order = true) (hall : linesDrivenB Gen.kindPrefixes net order = true)
    (merge : α → α → α) (d : α) (st : St α) (h0 : st.s.s0.length = net.sNodes.length)
    (h1 : st.s.s1.length = net.sNodes.length) (k : Nat) (v : List α → Array α)
    (hv : ∀ j, j < k → consistentB net (st.env net.idx.zero) neg prim
        (fun p => (iter (fun a => nextStateFromM net merge (st.env net.idx.zero) (v a) a) j st.s.s0).getD p d)
        (v (iter (fun a => nextStateFromM net merge (st.env net.idx.zero) (v a) a) j st.s.s0)) = true) :
    (cycleK (fun op => sem op.code) (sigOps Gen.kindPrefixes net order false) (tabsOf net false) merge d k st).s.s0 =
      iter (fun a => nextStateFromM net merge (st.env net.idx.zero) (v a) a) k st.s.s0 := by
  rw [cycleK_s0_iter Gen.kindPrefixes net order hwf ho _ merge d st h0 h1 k]
  apply iter_congr_along
  intro j hj
  exact nextState_spec_gen sem spec heq neg prim hs net order hwf ho hfk hall merge d st.env _ _ (hv j hj)

def SpecStep {α} [BEq α] (net : Net) (neg : α → α) (prim : String → α → α → α → α → α) (merge : α → α → α) (z d : α)
    (a a' : List α) : Prop :=
  ∃ v : Array α, consistentB net z neg prim (fun p => a.getD p d) v = true ∧ a' = nextStateFromM net merge z v a

theorem specStep_total {α} [BEq α] [LawfulBEq α] (spec : Nat → List α → α) (neg : α → α) (prim : String → α → α → α → α → α)
    (hs : SemSpec spec neg prim) (net : Net) (order : List Nat) (hwf : net.wfB = true) (ho : orderOKB net order = true)
    (hfk : forksOKB net order = true) (hall : linesDrivenB Gen.kindPrefixes net order = true)
    (merge : α → α → α) (z d : α) (a : List α) : ∃ a', SpecStep net neg prim merge z d a a' :=
  ⟨_, simLabel spec net order d (fun _ => z) a,
    simLabel_accepted spec spec (fun _ _ _ => rfl) neg prim hs net order hwf ho hfk hall d (fun _ => z) a, rfl⟩

theorem specStep_functional {α} [BEq α] [LawfulBEq α] (spec : Nat → List α → α) (neg : α → α)
    (prim : String → α → α → α → α → α)
    (hs : SemSpec spec neg prim) (net : Net) (order : List Nat) (hwf : net.wfB = true) (ho : orderOKB net order = true)
    (hfk : forksOKB net order = true) (hall : linesDrivenB Gen.kindPrefixes net order = true)
    (merge : α → α → α) (z d : α) (a a1 a2 : List α)
    (s1 : SpecStep net neg prim merge z d a a1) (s2 : SpecStep net neg prim merge z d a a2) : a1 = a2 := by
  obtain ⟨v, hv, rfl⟩ := s1
  obtain ⟨w, hw, rfl⟩ := s2
  rw [← nextState_spec_gen spec spec (fun _ _ _ => rfl) neg prim hs net order hwf ho hfk hall merge d (fun _ => z) a v hv,
    ← nextState_spec_gen spec spec (fun _ _ _ => rfl) neg prim hs net order hwf ho hfk hall merge d (fun _ => z) a w hw]

/-- **the run of `cycle` is THE run of the specification**: (a) consecutive `s[0]` rows of the simulator are related by the
specification's step; (b) every sequence of assignments that starts at `s[0]` and follows the specification's step for `k` steps ends
in `s[0]` after `cycle(k)`. -/
theorem cycleK_spec_run {α} [BEq α] [LawfulBEq α] (sem spec : Nat → List α → α)
    (heq : ∀ code, KnownCode code → ∀ xs, sem code xs = spec code xs) (neg : α → α) (prim : String → α → α → α → α → α)
    (hs : SemSpec spec neg prim) (net : Net) (order : List Nat) (hwf : net.wfB = true) (ho : orderOKB net order = true)
    (hfk : forksOKB net order = true) (hall : linesDrivenB Gen.kindPrefixes net order = true)
    (merge : α → α → α) (d : α) (st : St α) (h0 : st.s.s0.length = net.sNodes.length)
    (h1 : st.s.s1.length = net.sNodes.length) :
    let run := fun k => (cycleK (fun op => sem op.code) (sigOps Gen.kindPrefixes net order false) (tabsOf net false) merge d k st).s.s0
    (∀ k, SpecStep net neg prim merge (st.env net.idx.zero) d (run k) (run (k + 1))) ∧
    (∀ (seq : Nat → List α) (k : Nat), seq 0 = st.s.s0 →
      (∀ j, j < k → SpecStep net neg prim merge (st.env net.idx.zero) d (seq j) (seq (j + 1))) → seq k = run k) := by
  intro run
  have hrun : ∀ k, run k = iter (Cycle.nextState (fun op => sem op.code) (sigOps Gen.kindPrefixes net order false) net false
      merge d st.env) k st.s.s0 := fun k => cycleK_s0_iter Gen.kindPrefixes net order hwf ho _ merge d st h0 h1 k
  constructor
  · intro k
    have hacc := simLabel_accepted sem spec heq neg prim hs net order hwf ho hfk hall d st.env (run k)
    refine ⟨simLabel sem net order d st.env (run k), hacc, ?_⟩
    rw [← nextState_spec_gen sem spec heq neg prim hs net order hwf ho hfk hall merge d st.env (run k) _ hacc]
    rw [hrun (k + 1), iter_succ', ← hrun k]
  · intro seq k hs0 hstep
    induction k with
    | zero => rw [hs0]; rfl
    | succ k ih =>
      obtain ⟨v, hv, he⟩ := hstep k (Nat.lt_succ_self k)
      rw [he, ih (fun j hj => hstep j (Nat.lt_succ_of_lt hj))]
      rw [← nextState_spec_gen sem spec heq neg prim hs net order hwf ho hfk hall merge d st.env (run k) v
        (by rw [← ih (fun j hj => hstep j (Nat.lt_succ_of_lt hj))]; exact hv)]
      rw [hrun (k + 1), iter_succ', ← hrun k]


theorem sPosTable_some_lt (net : Net) (n p : Nat) (h : net.sPosTable.getD n none = some p) : p < net.sNodes.length := by
  by_cases hn : n < net.nodes.size
  · rw [sPosTable_getD net hn] at h
    exact (List.getElem?_eq_some_iff.mp (sPosIn_some' _ _ _ h)).1
  · unfold Net.sPosTable at h
    simp only [Array.getD_eq_getD_getElem?, List.getElem?_toArray, List.getElem?_map] at h
    rw [List.getElem?_eq_none (by simpa using hn)] at h
    cases h

theorem consistentB_asg_default {α} [BEq α] (net : Net) (z : α) (neg : α → α) (prim : String → α → α → α → α → α)
    (a : List α) (ha : a.length = net.sNodes.length) (d d' : α) (v : Array α) :
    consistentB net z neg prim (fun p => a.getD p d) v = consistentB net z neg prim (fun p => a.getD p d') v := by
  apply consistentB_congr_asg
  intro l p _ hsp
  have hp := sPosTable_some_lt net _ p hsp
  rw [List.getD_eq_getElem?_getD, List.getD_eq_getElem?_getD, List.getElem?_eq_getElem (by omega)]
  rfl

def specF (net : Net) (l : List Bool) : List Bool :=
  nextStateFrom net false (evalAll net false (!·) prim2 (fun j => l.getD j false)) l

theorem specF_length (net : Net) (l : List Bool) : (specF net l).length = l.length := by
  simp [specF, nextStateFrom]

theorem iter_specF_length (net : Net) (k : Nat) (l : List Bool) : (iter (specF net) k l).length = l.length :=
  iter_inv (P := fun l' => l'.length = l.length) (fun l' h => (specF_length net l').trans h) k l rfl

theorem nextState_list (net : Net) (l : List Bool) (hl : l.length = net.sNodes.length) :
    (fun j => ((List.range net.sNodes.length).map (nextState net fun j => l.getD j false)).toArray.getD j false) =
      fun j => (specF net l).getD j false := by
  have e : (List.range net.sNodes.length).map (nextState net (fun j => l.getD j false)) = specF net l := by
    apply List.ext_getElem
    · simp [specF_length, hl]
    · intro j h1 h2
      have hj : j < net.sNodes.length := by simpa using h1
      rw [List.getElem_map, List.getElem_range, nextState_eq_from_main net _ j hj]
      have hr : (List.range net.sNodes.length).map (fun j => l.getD j false) = l := by
        apply List.ext_getElem
        · simp [hl]
        · intro i a1 a2
          simp [List.getD_eq_getElem?_getD, List.getElem?_eq_getElem a2]
      rw [hr, List.getD_eq_getElem?_getD]
      show (specF net l)[j]?.getD false = _
      rw [List.getElem?_eq_getElem h2]
      rfl
  rw [e]
  funext j
  simp [Array.getD_eq_getD_getElem?, List.getD_eq_getElem?_getD]

/-- **`KV.iterState` (what the driver's `eval2` evaluates) is the k-fold iterate of `specF`** -/
theorem iterState_list (net : Net) (k : Nat) (l : List Bool) (hl : l.length = net.sNodes.length) :
    iterState net k (fun j => l.getD j false) = fun j => (iter (specF net) k l).getD j false := by
  induction k generalizing l with
  | zero => rfl
  | succ k ih =>
    show iterState net k (fun j => ((List.range net.sNodes.length).map (nextState net fun j => l.getD j false)).toArray.getD j false) = _
    rw [nextState_list net l hl, ih (specF net l) (by rw [specF_length, hl])]
    rfl

theorem iterAccepted_list (net : Net) (k : Nat) (l : List Bool) (hl : l.length = net.sNodes.length)
    (h : iterAccepted net k (fun j => l.getD j false) = true) :
    ∀ j, j ≤ k → consistentB net false (!·) prim2 (fun p => (iter (specF net) j l).getD p false)
      (evalAll net false (!·) prim2 (fun p => (iter (specF net) j l).getD p false)) = true := by
  induction k generalizing l with
  | zero =>
    intro j hj
    have : j = 0 := by omega
    subst this
    exact h
  | succ k ih =>
    intro j hj
    have h' : (consistentB net false (!·) prim2 (fun j => l.getD j false) (evalAll net false (!·) prim2 fun j => l.getD j false) &&
        iterAccepted net k (fun j => ((List.range net.sNodes.length).map (nextState net fun j => l.getD j false)).toArray.getD j false)) = true := h
    rw [Bool.and_eq_true, nextState_list net l hl] at h'
    cases j with
    | zero => exact h'.1
    | succ j =>
      exact ih (specF net l) (by rw [specF_length, hl]) h'.2 j (by omega)

/-- **`cycle(k)` = `KV.iterState`**: the 2-valued simulator's `s[0]` after k cycles is, position by position, what the driver's
executable specification `iterState` (the oracle's expected values) computes — provided the evaluator's labelling is accepted at the
iterates `0 … k-1` (the flag `iterAccepted` of the driver's `eval2` request for `k-1`) and the constant slot holds 0. -/
theorem cycleK_iterState (sem : Nat → List Bool → Bool) (heq : ∀ code, KnownCode code → ∀ xs, sem code xs = specL2 code xs)
    (net : Net) (order : List Nat) (hwf : net.wfB = true) (ho : orderOKB net order = true)
    (hfk : forksOKB net order = true) (hall : linesDrivenB Gen.kindPrefixes net order = true)
    (d : Bool) (st : St Bool) (h0 : st.s.s0.length = net.sNodes.length) (h1 : st.s.s1.length = net.sNodes.length)
    (hz : st.env net.idx.zero = false) (k : Nat)
    (hacc : k = 0 ∨ iterAccepted net (k - 1) (fun p => st.s.s0.getD p false) = true) (p : Nat) :
    (cycleK (fun op => sem op.code) (sigOps Gen.kindPrefixes net order false) (tabsOf net false) mergeCopy d k st).s.s0.getD p false =
      iterState net k (fun p => st.s.s0.getD p false) p := by
  rw [iterState_list net k _ h0]
  show _ = (iter (specF net) k st.s.s0).getD p false
  congr 1
  have := cycleK_spec_gen sem specL2 heq (!·) prim2 semSpec2 net order hwf ho hfk hall mergeCopy d st h0 h1 k
    (fun a => evalAll net false (!·) prim2 (fun j => a.getD j false))
  rw [hz] at this
  apply this
  intro j hj
  rcases hacc with hk | hacc
  · omega
  · show consistentB net false (!·) prim2 (fun p => (iter (specF net) j st.s.s0).getD p d)
      (evalAll net false (!·) prim2 (fun p => (iter (specF net) j st.s.s0).getD p false)) = true
    rw [consistentB_asg_default net false (!·) prim2 _ (by rw [iter_specF_length, h0]) d false]
    exact iterAccepted_list net (k - 1) _ h0 hacc j (by omega)

end KV
