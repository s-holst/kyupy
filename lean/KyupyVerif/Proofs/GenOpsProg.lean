import KyupyVerif.Proofs.MemMapSpec
import KyupyVerif.Proofs.StripLinkOps
import KyupyVerif.Proofs.StripLinkMem
import KyupyVerif.Proofs.Levelise
/-! The program facts `ProgOK` (Proofs/MemMapSpec.lean) for the scheduler model: for every well-formed netlist, every
topological order and the op program `genOps` with the stems `stemsOf` and the level table of `levelise`, `simops_progOK` proves the
record field by field (the level fields `lev`, `starts` from Proofs/Levelise.lean); the lemmas before it are what the
fields `branch`, `stem_opnd`, `stem_cap`, `ppo`, `opnd` need about forks, stems and the position of a row in the program. -/
namespace KV
open KV.Sig

theorem stems_none_slot {net : Net} (hwf : net.wfB = true) (strip : Bool) {x : Nat} (h : net.lines.size ≤ x) :
    (stemsOf net strip).getD x none = none := by
  cases strip with
  | false => exact stems_false_none net x
  | true => exact stems_none_ge hwf h

theorem viaStem_some {st : Array (Option Nat)} {x t : Nat} (h : st.getD x none = some t) : viaStem st x = t := by
  unfold viaStem; rw [h]; rfl

theorem mem_opSrcs {st : Array (Option Nat)} {o : OpRow} {x : Nat} (h : x ∈ opSrcs st o) :
    ∃ i ∈ o.ins, x = viaStem st i := by
  obtain ⟨i, hi, rfl⟩ := List.mem_map.mp (show x ∈ o.ins.map (viaStem st) from h)
  exact ⟨i, hi, rfl⟩


theorem stem_of_stem_none {net : Net} {order : List Nat} (hwf : net.wfB = true) (ho : orderOKB net order = true)
    {i t : Nat} (hst : (stemsOf net true).getD i none = some t) (hmem : (net.line i).driver ∈ order) :
    (stemsOf net true).getD t none = none := by
  obtain ⟨l0, _, _, hp, _, ht, _⟩ := stems_some hwf hst
  rw [ht]
  exact (stemWalk_facts hwf ho hmem (stems_some_driven hwf hst) hp).2.2.1

theorem readsDriven_spec {tbl : List PrefixRow} {net : Net} {order : List Nat}
    (hr : readsDrivenB tbl net order = true) :
    (∀ n ∈ order, isSrcNode net net.sNodes n = false → ∀ (pin l : Nat),
      (net.node n).ins[pin]? = some (some l) → l ∈ (genOps tbl net order false).map (·.out)) ∧
    (∀ n ∈ net.sNodes, ∀ l, (net.node n).inPin 0 = some l → l ∈ (genOps tbl net order false).map (·.out)) := by
  unfold readsDrivenB at hr
  simp only [Bool.and_eq_true, List.all_eq_true, Bool.or_eq_true] at hr
  obtain ⟨h1, h2⟩ := hr
  constructor
  · intro n hn hns pin l hpin
    rcases h1 n hn with h | h
    · rw [hns] at h; cases h
    · have := h (some l) (List.mem_of_getElem? hpin)
      simpa using this
  · intro n hn l hp
    have := h2 n hn
    rw [hp] at this
    simpa using this

theorem driven_writer {tbl : List PrefixRow} {net : Net} {order : List Nat} (hwf : net.wfB = true)
    (ho : orderOKB net order = true) {l : Nat} (hl : l < net.lines.size)
    (h : l ∈ (genOps tbl net order false).map (·.out)) :
    (net.line l).driver ∈ order ∧ ∃ o' ∈ nodeOpsS tbl net net.sNodes net.idx false (net.line l).driver, o'.out = l := by
  obtain ⟨_, hlt, _⟩ := orderOK_spec ho
  obtain ⟨_, ht, _⟩ := idx_vals net
  obtain ⟨o', hmem, he⟩ := List.mem_map.mp h
  obtain ⟨m, hm, _, hr, _, _, _, hd, _⟩ := genOps_line_row hwf hlt hmem (by omega)
  rw [he] at hd
  rw [hd]
  exact ⟨hm, o', hr, he⟩

theorem flatMap_getElem?_before {α β} (f : α → List β) (l : List α) (k : Nat) (o : β)
    (h : (l.flatMap f)[k]? = some o) :
    ∃ (j : Nat) (a : α), l[j]? = some a ∧ o ∈ f a ∧ ∀ (j' : Nat) (a' : α), j' < j → l[j']? = some a' → ∀ o' ∈ f a',
      ∃ k' : Nat, k' < k ∧ (l.flatMap f)[k']? = some o' := by
  induction l generalizing k with
  | nil => simp at h
  | cons a r ih =>
    rw [List.flatMap_cons] at h ⊢
    by_cases hk : k < (f a).length
    · rw [List.getElem?_append_left hk] at h
      refine ⟨0, a, rfl, List.mem_of_getElem? h, ?_⟩
      intro j' a' hj'
      omega
    · have hk' : (f a).length ≤ k := Nat.le_of_not_lt hk
      rw [List.getElem?_append_right hk'] at h
      obtain ⟨j, a2, hj, ho, hb⟩ := ih _ h
      refine ⟨j + 1, a2, by simpa using hj, ho, ?_⟩
      intro j' a' hj' ha' o' ho'
      cases j' with
      | zero =>
        simp only [List.getElem?_cons_zero, Option.some.injEq] at ha'
        subst ha'
        obtain ⟨k', hk'lt, hk'e⟩ := List.getElem_of_mem ho'
        refine ⟨k', by omega, ?_⟩
        rw [List.getElem?_append_left hk'lt, List.getElem?_eq_getElem hk'lt, hk'e]
      | succ j'' =>
        simp only [List.getElem?_cons_succ] at ha'
        obtain ⟨k'', hlt, he⟩ := hb j'' a' (by omega) ha' o' ho'
        refine ⟨k'' + (f a).length, by omega, ?_⟩
        rw [List.getElem?_append_right (by omega)]
        simpa using he

theorem genOps_pos {tbl : List PrefixRow} {net : Net} {order : List Nat} {strip : Bool} (hnd : order.Nodup)
    {k : Nat} {o : OpRow} (h : (genOps tbl net order strip)[k]? = some o) :
    ∃ n ∈ order, o ∈ nodeOpsS tbl net net.sNodes net.idx strip n ∧
      ∀ d, order.idxOf d < order.idxOf n → ∀ o' ∈ nodeOpsS tbl net net.sNodes net.idx strip d,
        ∃ k', k' < k ∧ (genOps tbl net order strip)[k']? = some o' := by
  unfold genOps at h ⊢
  simp only at h ⊢
  obtain ⟨j, n, hj, ho, hb⟩ := flatMap_getElem?_before _ _ _ _ h
  refine ⟨n, List.mem_of_getElem? hj, ho, ?_⟩
  intro d hd o' ho'
  have hdm := mem_of_idxOf_lt hd
  obtain ⟨hjl, rfl⟩ := List.getElem?_eq_some_iff.mp hj
  rw [hnd.idxOf_getElem j hjl] at hd
  exact hb _ d hd (getElem?_idxOf hdm) o' ho'


/-- following the stem walk from the line a driven fork of the order reads, one arrives at a line that again a driven
    fork of the order (no later) reads on pin 0 -/
theorem stemWalk_reader {net : Net} {order : List Nat} (ho : orderOKB net order = true) :
    ∀ (fuel l0 g0 : Nat), g0 ∈ order → drivenFork net g0 = true → (net.node g0).inPin 0 = some l0 →
      order.idxOf (net.line l0).driver < fuel →
      ∃ g ∈ order, drivenFork net g = true ∧ (net.node g).inPin 0 = some (stemWalk net fuel l0) ∧
        order.idxOf g ≤ order.idxOf g0 := by
  obtain ⟨_, hlt, hdrv⟩ := orderOK_spec ho
  intro fuel
  induction fuel with
  | zero => intro l0 g0 _ _ _ h; omega
  | succ fuel ih =>
    intro l0 g0 hg0 hdf0 hp0 hfuel
    rw [stemWalk_succ]
    cases hdf : drivenFork net (net.line l0).driver with
    | false =>
      simp only [Bool.false_eq_true, if_false]
      exact ⟨g0, hg0, hdf0, hp0, Nat.le_refl _⟩
    | true =>
      rw [if_pos rfl]
      obtain ⟨_, l1, hp1⟩ := drivenFork_spec hdf
      rw [hp1, Option.getD_some]
      have h01 := hdrv g0 hg0 (drivenFork_not_src hdf0) 0 l0 (inPin_some hp0)
      have hg1 := mem_of_idxOf_lt h01
      have h12 := hdrv _ hg1 (drivenFork_not_src hdf) 0 l1 (inPin_some hp1)
      obtain ⟨g, hg, hdg, hpg, hle⟩ := ih l1 _ hg1 hdf hp1 (by omega)
      exact ⟨g, hg, hdg, hpg, by omega⟩

theorem src_writer {tbl : List PrefixRow} {net : Net} {order : List Nat} (strip : Bool)
    (hwf : net.wfB = true) (ho : orderOKB net order = true)
    (hf : strip = true → forksOKB net order = true) (hr : readsDrivenB tbl net order = true)
    {l : Nat} (hl : l < net.lines.size) (hout : l ∈ (genOps tbl net order false).map (·.out)) :
    viaStem (stemsOf net strip) l < net.lines.size ∧
    ∃ d ∈ order, order.idxOf d ≤ order.idxOf (net.line l).driver ∧
      ∃ o' ∈ nodeOpsS tbl net net.sNodes net.idx strip d, o'.out = viaStem (stemsOf net strip) l := by
  obtain ⟨_, hlt, hdrv⟩ := orderOK_spec ho
  obtain ⟨hdo, o', ho', he'⟩ := driven_writer hwf ho hl hout
  cases strip with
  | false =>
    rw [viaStem_false]
    exact ⟨hl, _, hdo, Nat.le_refl _, o', ho', he'⟩
  | true =>
    have hfk := hf rfl
    cases hst : (stemsOf net true).getD l none with
    | none =>
      rw [viaStem_none hst]
      refine ⟨hl, _, hdo, Nat.le_refl _, o', ?_, he'⟩
      rw [nodeOps_strip_filter tbl net order hwf hfk _ hdo (hlt _ hdo), List.mem_filter]
      refine ⟨ho', ?_⟩
      simp [isBranchRow, he', hst]
    | some t =>
      rw [viaStem_some hst]
      obtain ⟨l0, _, _, hp, _, ht, _⟩ := stems_some hwf hst
      have hdf := stems_some_driven hwf hst
      obtain ⟨f1, htl, hstt, _, hfuel⟩ := stemWalk_facts hwf ho hdo hdf hp
      obtain ⟨g, hg, hdg, hpg, hle⟩ := stemWalk_reader ho net.nodes.size l0 _ hdo hdf hp hfuel
      rw [← ht] at f1 htl hstt hpg
      have hgns : isSrcNode net net.sNodes g = false := drivenFork_not_src hdg
      have htout := (readsDriven_spec hr).1 g hg hgns 0 t (inPin_some hpg)
      obtain ⟨hdt, ot, hot, het⟩ := driven_writer hwf ho htl htout
      refine ⟨htl, _, hdt, by omega, ot, ?_, het⟩
      rw [nodeOps_strip_filter tbl net order hwf hfk _ hdt (hlt _ hdt), List.mem_filter]
      refine ⟨hot, ?_⟩
      simp [isBranchRow, het, hstt]


theorem srcNode_rows_outs {tbl : List PrefixRow} {net : Net} {sn : List Nat} {ix : Idx} {strip : Bool} {n : Nat}
    {o : OpRow} (h : o ∈ nodeOpsS tbl net sn ix strip n) (hsrc : isSrcNode net sn n = true) :
    (net.node n).outs.length > 0 := by
  rcases mem_nodeOpsS h with ⟨_, _, k, _, hk, _⟩ | ⟨hns, _⟩
  · exact Nat.lt_of_le_of_lt (Nat.zero_le k) (List.getElem?_eq_some_iff.mp hk).1
  · rw [hsrc] at hns
    cases hns

theorem ppiSlot_of_sPos (p : MapIn) {n q : Nat} (hq : sPosIn p.net.sNodes n = some q)
    (hout : (p.net.node n).outs.length > 0) : p.ix.ppi + q ∈ p.ppiSlots :=
  MapSound.mem_ppiSlots.mpr ⟨n, q, List.mem_zipIdx_iff_getElem?.mpr (sPosIn_some' _ _ _ hq), hout, rfl⟩

theorem simops_progOK (tbl : List PrefixRow) (p : MapIn) (order : List Nat)
    (hwf : p.net.wfB = true) (ho : orderOKB p.net order = true)
    (hf : p.strip = true → forksOKB p.net order = true) (hr : readsDrivenB tbl p.net order = true)
    (hops : p.ops = genOps tbl p.net order p.strip)
    (hst : p.starts = (levelise p.ix.len p.stems p.ops).starts.reverse) : ProgOK p :=
  have hout : ∀ o ∈ p.ops, o.out = p.ix.tmp ∨ o.out < p.ix.zero := fun o hmem =>
    genOps_out tbl p.net order p.strip hwf (orderOK_lt ho) o (hops ▸ hmem)
  have hfirst : ∀ (k : Nat) (o : OpRow), p.ops[k]? = some o → o.out ≠ p.ix.tmp →
      p.ops.findIdx? (fun o' => o'.out == o.out) = some k := by
    intro k o hk hnt
    have hw := (genOps_WOJ tbl p.net order p.strip hwf ho).1
    rw [← hops, List.pairwise_map, List.pairwise_iff_getElem] at hw
    obtain ⟨hlen, hget⟩ := List.getElem?_eq_some_iff.mp hk
    rw [List.findIdx?_eq_some_iff_getElem]
    refine ⟨hlen, ?_, ?_⟩
    · rw [hget]; simp
    · intro j hj
      have := (hw j k (by omega) hlen hj).1
      rw [hget] at this
      simp only [beq_iff_eq]
      intro he
      have hj' : Jt p.net (p.ops[j]'(by omega)).toOp.out = false := by
        simp only [Jt, OpRow.toOp, beq_eq_false_iff_ne, ne_eq]
        rw [he]; exact hnt
      exact this hj' he.symm
  { out_ok := hout
    first := hfirst
    cap_lt := fun n i l _ hp => (inPin_lt hwf hp).2
    branch := by
      obtain ⟨_, hlt, _⟩ := orderOK_spec ho
      obtain ⟨hz, ht, _⟩ := idx_vals p.net
      intro l t hst
      unfold MapIn.stems at hst
      cases hs : p.strip with
      | false => rw [hs, stems_false_none] at hst; cases hst
      | true =>
        rw [hs] at hst
        obtain ⟨l0, _, hfk, hp, _, _, hl⟩ := stems_some hwf hst
        refine ⟨hl, ?_⟩
        intro o hmem he
        rw [hops, hs] at hmem
        obtain ⟨n, _, _, hr, _, _, _, hd, _⟩ := genOps_line_row hwf hlt hmem (by omega)
        rw [he] at hd
        rw [hd] at hfk hp
        have hdf : drivenFork p.net n = true := by simp [drivenFork, hfk, hp]
        rw [nodeOps_fork _ _ _ _ _ _ hdf] at hr
        simp at hr
    stem_opnd := by
      obtain ⟨_, hlt, hdrv⟩ := orderOK_spec ho
      obtain ⟨hz, _, hpp⟩ := idx_vals p.net
      intro o hmem i hi t hst
      unfold MapIn.stems at hst ⊢
      cases hs : p.strip with
      | false => exact stems_false_none _ _
      | true =>
        rw [hs] at hst
        rw [hops, hs] at hmem
        obtain ⟨n, hn, hr⟩ := mem_genOps.mp hmem
        rcases nodeOps_ins _ _ _ _ _ _ _ hr i hi with h | ⟨_, q, _, h⟩ | ⟨hns, pin, hpin⟩
        · rw [stems_none_ge hwf (by omega)] at hst; cases hst
        · rw [stems_none_ge hwf (by omega)] at hst; cases hst
        · exact stem_of_stem_none hwf ho hst (mem_of_idxOf_lt (hdrv n hn hns pin i hpin))
    stem_cap := by
      intro n i l hni hp t hst
      unfold MapIn.stems at hst ⊢
      cases hs : p.strip with
      | false => exact stems_false_none _ _
      | true =>
        rw [hs] at hst
        have hn : n ∈ p.net.sNodes := List.mem_of_getElem? (mem_zipIdx_getElem? hni)
        have hout := (readsDriven_spec hr).2 n hn l hp
        exact stem_of_stem_none hwf ho hst (driven_writer hwf ho (inPin_lt hwf hp).2 hout).1
    ppo := by
      intro j s hjs
      obtain ⟨n, i, l, hni, hp, _, rfl⟩ := mem_ppoSrcs_elim hjs
      have hn : n ∈ p.net.sNodes := List.mem_of_getElem? (mem_zipIdx_getElem? hni)
      have hout := (readsDriven_spec hr).2 n hn l hp
      obtain ⟨hlt, d, hd, _, o', ho', he'⟩ := src_writer p.strip hwf ho hf hr (inPin_lt hwf hp).2 hout
      refine ⟨hlt, o', ?_, he'⟩
      rw [hops]
      exact mem_genOps.mpr ⟨d, hd, ho'⟩
    opnd := by
      obtain ⟨hnd, hlt, hdrv⟩ := orderOK_spec ho
      obtain ⟨hz, _, hpp⟩ := idx_vals p.net
      intro k o hk x hx
      obtain ⟨i, hi, hxi⟩ := mem_opSrcs hx
      unfold MapIn.stems at hxi
      rw [hops] at hk
      obtain ⟨n, hn, hrow, hbefore⟩ := genOps_pos hnd hk
      rcases nodeOps_ins _ _ _ _ _ _ _ hrow i hi with h | ⟨hsrc, q, hq, h⟩ | ⟨hns, pin, hpin⟩
      · left
        rw [hxi, viaStem_none (stems_none_slot hwf _ (by omega)), h]
        rfl
      · right; left
        rw [hxi, viaStem_none (stems_none_slot hwf _ (by omega)), h]
        exact ppiSlot_of_sPos p hq (srcNode_rows_outs hrow hsrc)
      · right; right
        have hil := (wf_in hwf (hlt n hn) hpin).1
        have hout := (readsDriven_spec hr).1 n hn hns pin i hpin
        have hdn := hdrv n hn hns pin i hpin
        obtain ⟨hxl, d, _, hdle, o', ho', he'⟩ := src_writer p.strip hwf ho hf hr hil hout
        rw [← hxi] at hxl he'
        refine ⟨hxl, ?_⟩
        obtain ⟨k', hk', hke⟩ := hbefore d (by omega) o' ho'
        exact ⟨k', o', hk', by rw [hops]; exact hke, he'⟩
    lev := by
      intro k' k o' o hlt hk' hk ht hread
      have hall : ∀ q ∈ p.ops, q.out < p.ix.len := fun q hq => by
        have : p.ix.tmp < p.ix.len ∧ p.ix.zero < p.ix.len := by simp only [MapIn.ix, Net.idx]; omega
        rcases hout q hq with h | h <;> omega
      have := levelise_writer_before_reader p.ix.len p.stems p.ops hall k' k o' o hlt hk' hk hread (by
        intro j oj h1 _ hj he
        have e1 := hfirst j oj hj (he ▸ ht)
        have e2 := hfirst k' o' hk' ht
        rw [he, e2] at e1
        simp only [Option.some.injEq] at e1
        omega)
      unfold MapIn.levelOf
      rw [hst]
      exact this
    starts := by
      rw [hst]
      exact levelise_startsOK _ _ _ }

end KV
