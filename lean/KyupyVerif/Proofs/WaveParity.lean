import KyupyVerif.Model.Wave
/-! The loop of `_wave_eval` (`Wave.run` over `Wave.step`): the normal form of one iteration, what an iteration can do
(`step_ind`), the rules by which the invariants of the loop are established (`run_inv`, `run_rel`), and the parity invariant.
The state has a cursor half (`r`, `k`, `inp`) and an output half (`z`, `prev`, `zval`, `ovf`). An iteration moves one cursor on
(`St.adv`) and does one of four things to the output: nothing, push, pop with the overflow count, pop. Invariants are proved
against `step_ind`, one answer per action; equations between two iterations (rigid motion, delay congruence) rewrite both to
`stepCore` and compare. -/
namespace KV.Wave

/-- the cursor half of an iteration: operand `i` moves on by one entry and its input bit toggles -/
def St.adv (s : St) (i : Fin 4) : St :=
  { s with r := upd s.r i (s.r i).tail, k := upd s.k i (s.k i + 1), inp := upd s.inp i (!s.inp i) }

/-- the output half: push a kept toggle, or pop (`p` = the new `prev`); both flip the output value -/
def St.push (s : St) (c : T) : St := { s with z := c :: s.z, prev := c, zval := !s.zval }
def St.pop (s : St) (p : T) : St := { s with z := s.z.tail, prev := p, zval := !s.zval }
def St.over (s : St) : St := { s with ovf := s.ovf + 1 }

/-- threshold of the pulse filter and time of the next edge on the same operand, as `step` computes them -/
def thresh (D : Delays) (s : St) (i : Fin 4) : Int := D i ((s.k i + 1) % 2 == 1) s.zval
def nextT (D : Delays) (terms : Fin 4 → T) (s : St) (i : Fin 4) : T :=
  (headT (s.r i).tail (terms i)).add (D i (!((s.k i + 1) % 2 == 1)) (!s.zval))

def stepCore (c : T) (i : Fin 4) (b1 b2 b3 : Bool) (st : St) : St :=
  let s1 := st.adv i
  if b1 then
    if b2 then
      if b3 then { s1 with z := c :: st.z, prev := c, zval := !st.zval }
      else { s1 with z := st.z.tail, prev := headT st.z .tmin, ovf := st.ovf + 1, zval := !st.zval }
    else { s1 with z := st.z.tail, prev := headT st.z.tail .tmin, zval := !st.zval }
  else s1

/-- does the output toggle? -/
def dec1 (lut : Nat) (st : St) (i : Fin 4) : Bool := (st.z.length % 2 == 1) != lutBit lut (upd st.inp i (!st.inp i))
/-- is the toggle kept (pushed) rather than cancelled against the previous one (pulse filter)? -/
def dec2 (D : Delays) (terms : Fin 4 → T) (st : St) (c : T) (i : Fin 4) : Bool :=
  st.z.length == 0 || T.lt (nextT D terms st i) c || T.widerThan c st.prev (thresh D st i)
def dec3 (zcap : Nat) (st : St) : Bool := decide (st.z.length < zcap - 1)

theorem step_eq_core (lut : Nat) (D : Delays) (terms : Fin 4 → T) (zcap : Nat) (st : St) :
    step lut D terms zcap st =
      stepCore (cur D terms st) (pick D terms st) (dec1 lut st (pick D terms st))
        (dec2 D terms st (cur D terms st) (pick D terms st)) (dec3 zcap st) st := by
  unfold step stepCore dec1 dec2 dec3 St.adv nextT thresh
  simp only [decide_eq_true_eq]

/-- **what an iteration can do.** To prove `P` of the next state, prove it of the four things an iteration does to `s.adv i`
    (`i` = the operand whose entry is due, `c` = its time): nothing (the LUT value does not change); push `c` (kept: the stack is
    empty, the next edge of the operand is earlier, or the pulse is wider than the threshold; and there is room); pop with the
    overflow count (kept, no room); pop (cancelled against the previous toggle).
    The operations are plain functions and not `{ s.adv i with … }`: a structure update of a term elaborates to a `have` in
    the statement, behind which `simp` and `rw` do not see the fields. -/
theorem step_ind {P : St → Prop} (lut : Nat) (D : Delays) (terms : Fin 4 → T) (zcap : Nat) (s : St)
    (skip : dec1 lut s (pick D terms s) = false → P (s.adv (pick D terms s)))
    (emit : dec1 lut s (pick D terms s) = true →
      (s.z = [] ∨ T.lt (nextT D terms s (pick D terms s)) (cur D terms s) = true ∨
        T.widerThan (cur D terms s) s.prev (thresh D s (pick D terms s)) = true) →
      s.z.length < zcap - 1 →
      P ((s.adv (pick D terms s)).push (cur D terms s)))
    (ovfl : dec1 lut s (pick D terms s) = true → zcap - 1 ≤ s.z.length →
      P ((s.adv (pick D terms s)).pop (headT s.z .tmin)).over)
    (filt : dec1 lut s (pick D terms s) = true → s.z ≠ [] →
      T.lt (nextT D terms s (pick D terms s)) (cur D terms s) = false →
      T.widerThan (cur D terms s) s.prev (thresh D s (pick D terms s)) = false →
      P ((s.adv (pick D terms s)).pop (headT s.z.tail .tmin))) :
    P (step lut D terms zcap s) := by
  rw [step_eq_core]
  cases h1 : dec1 lut s (pick D terms s) with
  | false => exact skip h1
  | true =>
    cases h2 : dec2 D terms s (cur D terms s) (pick D terms s) with
    | false =>
      simp only [dec2, Bool.or_eq_false_iff, beq_eq_false_iff_ne, ne_eq, List.length_eq_zero_iff] at h2
      exact filt h1 h2.1.1 h2.1.2 h2.2
    | true =>
      simp only [dec2, Bool.or_eq_true, beq_iff_eq, List.length_eq_zero_iff] at h2
      cases h3 : dec3 zcap s with
      | true => exact emit h1 (or_assoc.mp h2) (by simpa [dec3] using h3)
      | false => exact ovfl h1 (by simpa [dec3] using h3)

theorem step_skip {lut : Nat} {D : Delays} {terms : Fin 4 → T} {s : St} (zcap : Nat) (h : dec1 lut s (pick D terms s) = false) :
    step lut D terms zcap s = s.adv (pick D terms s) := by
  rw [step_eq_core, h]; rfl

theorem stepCore_r (c i b1 b2 b3) (s : St) : (stepCore c i b1 b2 b3 s).r = upd s.r i (s.r i).tail := by
  cases b1 <;> cases b2 <;> cases b3 <;> rfl
theorem stepCore_k (c i b1 b2 b3) (s : St) : (stepCore c i b1 b2 b3 s).k = upd s.k i (s.k i + 1) := by
  cases b1 <;> cases b2 <;> cases b3 <;> rfl
theorem stepCore_inp (c i b1 b2 b3) (s : St) : (stepCore c i b1 b2 b3 s).inp = upd s.inp i (!s.inp i) := by
  cases b1 <;> cases b2 <;> cases b3 <;> rfl

theorem step_r (lut D terms zcap) (s : St) :
    (step lut D terms zcap s).r = upd s.r (pick D terms s) (s.r (pick D terms s)).tail := by
  rw [step_eq_core, stepCore_r]

theorem step_k (lut D terms zcap) (s : St) :
    (step lut D terms zcap s).k = upd s.k (pick D terms s) (s.k (pick D terms s) + 1) := by
  rw [step_eq_core, stepCore_k]

theorem step_inp (lut D terms zcap) (s : St) :
    (step lut D terms zcap s).inp = upd s.inp (pick D terms s) (!s.inp (pick D terms s)) := by
  rw [step_eq_core, stepCore_inp]

theorem upd_tail_sublist (r : Fin 4 → List T) (i j : Fin 4) : (upd r i (r i).tail j).Sublist (r j) := by
  unfold upd; split
  · rename_i h; subst h; exact List.tail_sublist _
  · exact List.Sublist.refl _

theorem run_inv {lut : Nat} {D : Delays} {terms : Fin 4 → T} {zcap : Nat} {P : St → Prop}
    (hstep : ∀ s, P s → T.lt (cur D terms s) .tmax = true → P (step lut D terms zcap s))
    (fuel : Nat) (s : St) (h : P s) : P (run lut D terms zcap fuel s) := by
  induction fuel generalizing s with
  | zero => exact h
  | succ n ih =>
    unfold run; split
    · rename_i hlt; exact ih _ (hstep s h hlt)
    · exact h

theorem run_rel {lut lut' : Nat} {D D' : Delays} {terms terms' : Fin 4 → T} {zcap zcap' : Nat} {R : St → St → Prop}
    (hguard : ∀ s s', R s s' → T.lt (cur D' terms' s') .tmax = T.lt (cur D terms s) .tmax)
    (hstep : ∀ s s', R s s' → T.lt (cur D terms s) .tmax = true → R (step lut D terms zcap s) (step lut' D' terms' zcap' s'))
    (fuel : Nat) (s s' : St) (h : R s s') : R (run lut D terms zcap fuel s) (run lut' D' terms' zcap' fuel s') := by
  induction fuel generalizing s s' with
  | zero => exact h
  | succ n ih =>
    unfold run
    rw [hguard s s' h]
    split
    · rename_i hlt; exact ih _ _ (hstep s s' h hlt)
    · exact h

/-- parity invariant: the stack holds an odd number of entries exactly when the output value is 1, and the output value is the
    LUT value of the current input bits -/
def PInv (lut : Nat) (s : St) : Prop :=
  (s.z.length % 2 == 1) = s.zval ∧ s.zval = lutBit lut s.inp

theorem odd_succ (n : Nat) : ((n + 1) % 2 == 1) = !(n % 2 == 1) := by
  rcases Nat.mod_two_eq_zero_or_one n with h | h <;> simp [Nat.add_mod, h]

theorem odd_pred {n : Nat} (h : 1 ≤ n) : ((n - 1) % 2 == 1) = !(n % 2 == 1) := by
  obtain ⟨m, rfl⟩ : ∃ m, n = m + 1 := ⟨n - 1, by omega⟩
  rw [Nat.add_sub_cancel, odd_succ, Bool.not_not]

/-- the output toggles exactly when stack parity and new LUT value differ, and push and pop both flip the parity
    (a pop needs a non-empty stack) -/
theorem step_inv (lut : Nat) (D : Delays) (terms : Fin 4 → T) (zcap : Nat) (hc : 2 ≤ zcap) (s : St)
    (h : PInv lut s) : PInv lut (step lut D terms zcap s) := by
  obtain ⟨h1, h2⟩ := h
  have flip : ∀ b : Bool, dec1 lut s (pick D terms s) = true → b = !(s.z.length % 2 == 1) →
      b = (!s.zval) ∧ (!s.zval) = lutBit lut (upd s.inp (pick D terms s) (!s.inp (pick D terms s))) := by
    intro b hd hb; subst hb; rw [h1]; refine ⟨rfl, ?_⟩
    simp only [dec1, h1] at hd
    cases hz : s.zval <;> simp_all
  refine step_ind (P := PInv lut) lut D terms zcap s (fun hd => ⟨h1, ?_⟩) (fun hd _ _ => flip _ hd (odd_succ _))
    (fun hd hl => flip _ hd ?_) (fun hd hne _ _ => flip _ hd ?_)
  · simp only [dec1, h1] at hd; simp only [St.adv]; cases hz : s.zval <;> simp_all
  · simp only [St.over, St.pop, St.adv, List.length_tail]; exact odd_pred (by omega)
  · simp only [St.pop, St.adv, List.length_tail]; exact odd_pred (List.length_pos_iff.mpr hne)

/-- an input bit is the parity of the number of entries consumed from its operand -/
def KInv (s : St) : Prop := ∀ i, s.inp i = (s.k i % 2 == 1)

theorem step_kinv (lut D terms zcap) (s : St) (h : KInv s) : KInv (step lut D terms zcap s) := by
  intro i
  rw [step_inp, step_k]
  unfold upd
  split
  · rw [odd_succ, ← h]
  · exact h i

end KV.Wave
