import KyupyVerif.Proofs.FormatEquiv4
import KyupyVerif.Model.VerilogText
/-! The Verilog rendering `verilogOf nl` as a MODULE of the text level (`VModule`, Model/VerilogText.lean): `nlModule name nl` is the
parse tree whose printed text is
  `module name(p…); input a; output y; … kind inst(.o(name), .i0(d0), …); … endmodule`,
`toRs` of its statements is `nlRs nl`, and `transform` of those is `verilogOf nl` — so `verilog_text_to_net` speaks about it. -/
namespace KV.Netlist
open KV KV.VerilogText

def primVPins : List String → List VPin
  | [] => []
  | [d0] => [.named "i0" (some (.sig d0 none))]
  | [d0, d1] => [.named "i0" (some (.sig d0 none)), .named "i1" (some (.sig d1 none))]
  | [d0, d1, d2] => [.named "i0" (some (.sig d0 none)), .named "i1" (some (.sig d1 none)), .named "i2" (some (.sig d2 none))]
  | d0 :: d1 :: d2 :: d3 :: _ => [.named "i0" (some (.sig d0 none)), .named "i1" (some (.sig d1 none)),
      .named "i2" (some (.sig d2 none)), .named "i3" (some (.sig d3 none))]

def primRPins : List String → List (String × Option Sel)
  | [] => []
  | [d0] => [("i0", some (.name d0))]
  | [d0, d1] => [("i0", some (.name d0)), ("i1", some (.name d1))]
  | [d0, d1, d2] => [("i0", some (.name d0)), ("i1", some (.name d1)), ("i2", some (.name d2))]
  | d0 :: d1 :: d2 :: d3 :: _ => [("i0", some (.name d0)), ("i1", some (.name d1)), ("i2", some (.name d2)), ("i3", some (.name d3))]

def nlVDecl (p : Bool × String) : VStmt := .decl (if p.1 then .output else .input) none [p.2]
def nlVInst (g : NlGate) : VStmt := .inst g.kind g.inst (.named "o" (some (.sig g.name none)) :: primVPins g.drv)
def nlRDecl (p : Bool × String) : RStmt := .decl (if p.1 then .output else .input) none [p.2]
def nlRInst (g : NlGate) : RStmt := .inst g.kind g.inst (("o", some (.name g.name)) :: primRPins g.drv)

def nlModule (name : String) (nl : Nl) : VModule := ⟨name, nl.portNames, nl.ports.map nlVDecl ++ nl.gates.map nlVInst⟩
/-- the statement list the transformer callbacks receive -/
def nlRs (nl : Nl) : List RStmt := nl.ports.map nlRDecl ++ nl.gates.map nlRInst

/-- no signal name contains an apostrophe (such a word is read as a sized constant or is unsupported: `toSel`) -/
def noAposB (nl : Nl) : Bool :=
  nl.gates.all fun g => !g.name.toList.contains '\'' && g.drv.all fun d => !d.toList.contains '\''

theorem toSel_name (n : String) (h : n.toList.contains '\'' = false) : toSel (.sig n none) = some (.name n) := by
  rw [toSel, h]; rfl

theorem toPins_primVPins (drv : List String) (h : ∀ d ∈ drv, d.toList.contains '\'' = false) :
    toPins (primVPins drv) = some (primRPins drv) := by
  match drv, h with
  | [], _ => rfl
  | [d0], h => simp [primVPins, primRPins, toPins, toSel_name d0 (h d0 (by simp))]
  | [d0, d1], h => simp [primVPins, primRPins, toPins, toSel_name d0 (h d0 (by simp)), toSel_name d1 (h d1 (by simp))]
  | [d0, d1, d2], h =>
    simp [primVPins, primRPins, toPins, toSel_name d0 (h d0 (by simp)), toSel_name d1 (h d1 (by simp)), toSel_name d2 (h d2 (by simp))]
  | d0 :: d1 :: d2 :: d3 :: _, h =>
    simp [primVPins, primRPins, toPins, toSel_name d0 (h d0 (by simp)), toSel_name d1 (h d1 (by simp)), toSel_name d2 (h d2 (by simp)),
      toSel_name d3 (h d3 (by simp))]

theorem toRs_append (a b : List VStmt) (ra rb : List RStmt) (ha : toRs a = some ra) (hb : toRs b = some rb) :
    toRs (a ++ b) = some (ra ++ rb) := by
  induction a generalizing ra with
  | nil => cases ha; exact hb
  | cons x r ih =>
    rw [toRs] at ha
    cases hx : toR x with
    | none => rw [hx] at ha; cases ha
    | some y =>
      cases hr : toRs r with
      | none => rw [hx, hr] at ha; cases ha
      | some l =>
        rw [hx, hr] at ha
        cases ha
        rw [List.cons_append, toRs, hx, ih l hr]
        rfl

theorem toRs_map {α} (f : α → VStmt) (g : α → RStmt) (l : List α) (h : ∀ x ∈ l, toR (f x) = some (g x)) :
    toRs (l.map f) = some (l.map g) := by
  induction l with
  | nil => rfl
  | cons x r ih =>
    rw [List.map_cons, toRs, h x List.mem_cons_self, ih (fun y hy => h y (List.mem_cons_of_mem _ hy))]
    rfl

theorem toRs_nlModule (name : String) (nl : Nl) (h : noAposB nl = true) : toRs (nlModule name nl).stmts = some (nlRs nl) := by
  simp only [noAposB, List.all_eq_true, Bool.and_eq_true, Bool.not_eq_true'] at h
  apply toRs_append
  · apply toRs_map
    intro p _
    rw [nlVDecl, nlRDecl]
    cases p.1 <;> rfl
  · apply toRs_map
    intro g hg
    rw [nlVInst, nlRInst, toR, toPins, toSel_name g.name (h g hg).1, toPins_primVPins g.drv (h g hg).2]
    rfl

theorem instantiation_prim (nm : String) (drv : List String) :
    instantiation (("o", some (.name nm)) :: primRPins drv) = ("o", .one nm) :: primInPins drv := by
  match drv with
  | [] => rfl
  | [_] => rfl
  | [_, _] => rfl
  | [_, _, _] => rfl
  | _ :: _ :: _ :: _ :: _ => rfl

theorem transform_nlRs (nl : Nl) : (nlRs nl).map transform = verilogOf nl := by
  rw [nlRs, verilogOf, List.map_append, List.map_map, List.map_map]
  have h1 : nl.ports.map (transform ∘ nlRDecl) = nl.ports.map fun p => Stmt.decls [nlDecl p] := by
    apply List.map_congr_left
    intro p _
    simp only [Function.comp, nlRDecl, transform, declaration, nlDecl]
    cases p.1 <;> rfl
  have h2 : nl.gates.map (transform ∘ nlRInst) = nl.gates.map fun g => Stmt.inst g.kind g.inst (nlInst g).pins := by
    apply List.map_congr_left
    intro g _
    simp only [Function.comp, nlRInst, transform, instantiation_prim]
    rfl
  rw [h1, h2]

theorem hasPos_nlModule (name : String) (nl : Nl) : (nlModule name nl).stmts.any VStmt.hasPos = false := by
  rw [List.any_eq_false]
  intro st hst
  rcases List.mem_append.mp hst with h | h
  · obtain ⟨p, _, rfl⟩ := List.mem_map.mp h
    simp [nlVDecl, VStmt.hasPos]
  · obtain ⟨g, _, rfl⟩ := List.mem_map.mp h
    simp only [nlVInst, VStmt.hasPos, List.any_cons, VPin.isPos, Bool.false_or, Bool.not_eq_true]
    match g.drv with
    | [] => rfl
    | [_] => rfl
    | [_, _] => rfl
    | [_, _, _] => rfl
    | _ :: _ :: _ :: _ :: _ => rfl

theorem ok_nlRs (nl : Nl) : (nlRs nl).all RStmt.ok = true := by
  rw [List.all_eq_true]
  intro st hst
  rcases List.mem_append.mp hst with h | h
  · obtain ⟨p, _, rfl⟩ := List.mem_map.mp h
    rfl
  · obtain ⟨g, _, rfl⟩ := List.mem_map.mp h
    simp only [nlRInst, RStmt.ok, List.all_cons, Sel.ok, Bool.true_and]
    match g.drv with
    | [] => rfl
    | [_] => rfl
    | [_, _] => rfl
    | [_, _, _] => rfl
    | _ :: _ :: _ :: _ :: _ => rfl

end KV.Netlist
