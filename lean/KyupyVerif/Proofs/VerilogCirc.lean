import KyupyVerif.Proofs.NetlistBF
import KyupyVerif.Proofs.CircSNodes
/-! The circuit `module cfg tl ports stmts` in closed form for the fragment `verilogOKB` (Model/VerilogSem.lean), pass by pass: what each pass
appends to the node list and the line list (`NL`, `*_nl`); put together in Proofs/VerilogFlat.lean. -/
namespace KV.Netlist
open KV

/-- `C'` is `C` with nodes `ns` and lines `ls` appended (`N`odes and `L`ines): `Grows` read on these two fields (`Grows.nl`) -/
def NL (C C' : Circ) (ns : List NodeM) (ls : List LineM) : Prop := C'.nodes = C.nodes ++ ns ∧ C'.lines = C.lines ++ ls

theorem NL.refl (C : Circ) : NL C C [] [] := ⟨by simp, by simp⟩

theorem NL.trans {A B C : Circ} {n1 n2 : List NodeM} {l1 l2 : List LineM} (h1 : NL A B n1 l1) (h2 : NL B C n2 l2) :
    NL A C (n1 ++ n2) (l1 ++ l2) := ⟨by rw [h2.1, h1.1, List.append_assoc], by rw [h2.2, h1.2, List.append_assoc]⟩

theorem NL.of_eq {A B : Circ} {n1 n2 : List NodeM} {l1 l2 : List LineM} (h : NL A B n1 l1) (hn : n1 = n2) (hl : l1 = l2) : NL A B n2 l2 :=
  hn ▸ hl ▸ h

theorem nl_foldl {α} (Inv : Circ → Prop) (step : Circ → α → Circ) (fn : α → List NodeM) (fl : α → List LineM) (l : List α)
    (h : ∀ C x, x ∈ l → Inv C → NL C (step C x) (fn x) (fl x) ∧ Inv (step C x)) (C : Circ) (hC : Inv C) :
    NL C (l.foldl step C) (l.flatMap fn) (l.flatMap fl) ∧ Inv (l.foldl step C) := by
  induction l generalizing C with
  | nil => exact ⟨NL.refl C, hC⟩
  | cons x xs ih =>
    obtain ⟨h1, h2⟩ := h C x List.mem_cons_self hC
    obtain ⟨h3, h4⟩ := ih (fun C y hy => h C y (List.mem_cons_of_mem _ hy)) (step C x) h2
    exact ⟨(h1.trans h3).of_eq (by simp) (by simp), h4⟩

theorem Grows.nl {A B : Circ} {d : Delta} (h : Grows A B d) : NL A B d.nodes d.lines := ⟨h.nodes, h.lines⟩

theorem pass1Pin_nl (tl : TL) (ds : List Decl) (ty nm : String) (C : Circ) (ps : String × SelVal) :
    NL C (pass1Pin tl ds ty nm C ps) ((p1Out tl ds ty ps).toList.map fun o => forkN o.2)
      ((p1Out tl ds ty ps).toList.map fun o => ⟨.cell nm o.1, .fork o.2, none⟩) := (pass1Pin_grows tl ds ty nm C ps).nl

def p1Nodes (tl : TL) (ds : List Decl) (i : VInst) : List NodeM := ⟨i.ty, i.name, false⟩ :: (outConn tl ds i).map fun o => forkN o.2
def p1Lines (tl : TL) (ds : List Decl) (i : VInst) : List LineM := (outConn tl ds i).map fun o => ⟨.cell i.name o.1, .fork o.2, none⟩

theorem pass1Stmt_nl (tl : TL) (ds : List Decl) (C : Circ) (s : Stmt) :
    NL C (pass1Stmt tl ds C s) ((instOf s).toList.flatMap (p1Nodes tl ds)) ((instOf s).toList.flatMap (p1Lines tl ds)) := by
  cases s with
  | inst ty nm pins =>
    have h0 : NL C (C.addCell ty nm) [⟨ty, nm, false⟩] [] := ⟨by simp, by simp⟩
    have h1 := (nl_foldl (fun _ => True) (pass1Pin tl ds ty nm) _ _ pins
      (fun C x _ _ => ⟨pass1Pin_nl tl ds ty nm C x, trivial⟩) (C.addCell ty nm) trivial).1
    refine (h0.trans h1).of_eq ?_ ?_
    · simp [instOf, p1Nodes, outConn, flatMap_toList_map]
    · simp [instOf, p1Lines, outConn, flatMap_toList_map]
  | decls _ => exact NL.refl C
  | assign _ _ => exact NL.refl C
  | other => exact NL.refl C

theorem flatMap_instOf {β} (f : VInst → List β) (stmts : List Stmt) :
    (stmts.flatMap fun s => (instOf s).toList.flatMap f) = (vInsts stmts).flatMap f := by
  unfold vInsts
  induction stmts with
  | nil => rfl
  | cons s r ih =>
    simp only [List.flatMap_cons, List.filterMap_cons, ih]
    cases instOf s <;> simp

theorem pass1_nl (tl : TL) (ds : List Decl) (stmts : List Stmt) (C : Circ) :
    NL C (stmts.foldl (pass1Stmt tl ds) C) ((vInsts stmts).flatMap (p1Nodes tl ds)) ((vInsts stmts).flatMap (p1Lines tl ds)) := by
  have := (nl_foldl (fun _ => True) (pass1Stmt tl ds) _ _ stmts (fun C x _ _ => ⟨pass1Stmt_nl tl ds C x, trivial⟩) C trivial).1
  exact this.of_eq (flatMap_instOf _ _) (flatMap_instOf _ _)

def portNodes1 (k : DKind) (n : String) : List NodeM :=
  if k == .input then [⟨k.str, n, false⟩, forkN n] else [⟨k.str, n, false⟩]
def portLines1 (k : DKind) (n : String) : List LineM :=
  if k == .input then [⟨.cell n 0, .fork n, none⟩] else []

theorem portName_nl (pn : List String) (k : DKind) (C : Circ) (n : String) :
    NL C (portName pn k C n) (portNodes1 k n) (portLines1 k n) :=
  (portName_grows pn k C n).nl.of_eq (by unfold portNameΔ portNodes1; split <;> rfl) rfl

def portNodes (d : Decl) : List NodeM := if d.kind == .wire then [] else d.names.flatMap (portNodes1 d.kind)
def portLines (d : Decl) : List LineM := if d.kind == .wire then [] else d.names.flatMap (portLines1 d.kind)

theorem portDecl_nl (pn : List String) (C : Circ) (d : Decl) : NL C (portDecl pn C d) (portNodes d) (portLines d) := by
  unfold portDecl portNodes portLines
  by_cases hk : d.kind == DKind.wire
  · simp only [hk, if_true]; exact NL.refl C
  · simp only [hk, Bool.false_eq_true, if_false]
    exact (nl_foldl (fun _ => True) (portName pn d.kind) _ _ d.names (fun C x _ _ => ⟨portName_nl pn d.kind C x, trivial⟩) C trivial).1

theorem portPass_nl (pn : List String) (ds : List Decl) (C : Circ) :
    NL C (portPass pn ds C) (ds.flatMap portNodes) (ds.flatMap portLines) :=
  (nl_foldl (fun _ => True) (portDecl pn) _ _ ds (fun C x _ _ => ⟨portDecl_nl pn C x, trivial⟩) C trivial).1

theorem portLines_flat (ds : List Decl) :
    ds.flatMap portLines = (inputNames ds).map fun n => (⟨.cell n 0, .fork n, none⟩ : LineM) := by
  unfold inputNames
  induction ds with
  | nil => rfl
  | cons d r ih =>
    simp only [List.flatMap_cons, List.filter_cons, ih]
    unfold portLines
    cases hk : d.kind <;> simp [portLines1, List.flatMap_cons, List.map_flatMap]
    · exact List.map_eq_flatMap.symm

universe u1 u2 u3 u4

theorem nl_foldl_st {α : Type u1} {σ : Type u4} (Inv : σ → Circ → Prop) (step : Circ → α → Circ) (next : σ → α → σ) (fn : σ → α → List NodeM)
    (fl : σ → α → List LineM) (l : List α)
    (h : ∀ st C x, x ∈ l → Inv st C → NL C (step C x) (fn st x) (fl st x) ∧ Inv (next st x) (step C x)) (st : σ) (C : Circ)
    (hC : Inv st C) :
    NL C (l.foldl step C) (walk next fn st l) (walk next fl st l) ∧ Inv (l.foldl next st) (l.foldl step C) := by
  induction l generalizing st C with
  | nil => exact ⟨NL.refl C, hC⟩
  | cons x xs ih =>
    obtain ⟨h1, h2⟩ := h st C x List.mem_cons_self hC
    obtain ⟨h3, h4⟩ := ih (fun st C y hy => h st C y (List.mem_cons_of_mem _ hy)) (next st x) (step C x) h2
    exact ⟨(h1.trans h3).of_eq rfl rfl, h4⟩

def optNext {α : Type u1} {β : Type u2} {σ : Type u4} (p : α → Option β) (next : σ → β → σ) : σ → α → σ :=
  fun st x => match p x with | some y => next st y | none => st
def optList {α : Type u1} {β : Type u2} {γ : Type u3} {σ : Type u4} (p : α → Option β) (g : σ → β → List γ) : σ → α → List γ :=
  fun st x => match p x with | some y => g st y | none => []

theorem walk_filterMap {α : Type u1} {β : Type u2} {γ : Type u3} {σ : Type u4} (p : α → Option β) (next : σ → β → σ) (g : σ → β → List γ) (st : σ) (l : List α) :
    walk (optNext p next) (optList p g) st l = walk next g st (l.filterMap p) := by
  induction l generalizing st with
  | nil => rfl
  | cons a r ih =>
    simp only [walk, List.filterMap_cons, optNext, optList]
    cases p a with
    | none => simp only [List.nil_append]; exact ih st
    | some y => simp only [walk]; rw [ih]

theorem foldl_filterMap' {α : Type u1} {β : Type u2} {σ : Type u4} (p : α → Option β) (next : σ → β → σ) (st : σ) (l : List α) :
    l.foldl (optNext p next) st = (l.filterMap p).foldl next st := by
  induction l generalizing st with
  | nil => rfl
  | cons a r ih =>
    simp only [List.foldl_cons, List.filterMap_cons, optNext]
    cases p a with
    | none => exact ih st
    | some y => simp only [List.foldl_cons]; exact ih _

theorem mem_walk {α : Type u1} {β : Type u2} {σ : Type u4} (next : σ → α → σ) (f : σ → α → List β) (st : σ) (l : List α) (t : β) :
    t ∈ walk next f st l ↔ ∃ pre x post, l = pre ++ x :: post ∧ t ∈ f (pre.foldl next st) x := by
  induction l generalizing st with
  | nil => simp [walk]
  | cons a r ih =>
    simp only [walk, List.mem_append, ih]
    constructor
    · rintro (h | ⟨pre, x, post, hl, ht⟩)
      · exact ⟨[], a, r, rfl, h⟩
      · exact ⟨a :: pre, x, post, by rw [hl]; rfl, ht⟩
    · rintro ⟨pre, x, post, hl, ht⟩
      cases pre with
      | nil =>
        simp only [List.nil_append, List.cons.injEq] at hl
        obtain ⟨rfl, rfl⟩ := hl
        exact Or.inl ht
      | cons b pre' =>
        simp only [List.cons_append, List.cons.injEq] at hl
        obtain ⟨rfl, rfl⟩ := hl
        exact Or.inr ⟨pre', x, post, rfl, ht⟩

theorem walk_of_mem {α : Type u1} {β : Type u2} {σ : Type u4} (next : σ → α → σ) (f : σ → α → List β) (st : σ) (l : List α) (x : α) (hx : x ∈ l) :
    ∃ st', ∀ t ∈ f st' x, t ∈ walk next f st l := by
  obtain ⟨pre, post, rfl⟩ := List.append_of_mem hx
  exact ⟨pre.foldl next st, fun t ht => (mem_walk next f st _ t).mpr ⟨pre, x, post, rfl, ht⟩⟩

theorem walk_congr {α : Type u1} {β : Type u2} {σ : Type u4} (next : σ → α → σ) (f f' : σ → α → List β) (h : ∀ st x, f st x = f' st x)
    (st : σ) (l : List α) : walk next f st l = walk next f' st l := by
  induction l generalizing st with
  | nil => rfl
  | cons a r ih => simp only [walk, h, ih]

theorem map_filter_walk {α : Type u1} {β : Type u2} {γ : Type u3} {σ : Type u4} (next : σ → α → σ) (f : σ → α → List β) (p : β → Bool)
    (g : β → γ) (st : σ) (l : List α) :
    ((walk next f st l).filter p).map g = walk next (fun st x => ((f st x).filter p).map g) st l := by
  induction l generalizing st with
  | nil => rfl
  | cons a r ih => simp only [walk, List.filter_append, List.map_append, ih]

theorem mem_walk_all {α β σ : Type} (next : σ → α → σ) (f : σ → α → List β) (st : σ) (l : List α) (t : β) (h : t ∈ walk next f st l) :
    ∃ st' x, x ∈ l ∧ t ∈ f st' x ∧ ∀ {γ : Type} (g : σ → α → List γ) (n : γ), n ∈ g st' x → n ∈ walk next g st l := by
  obtain ⟨pre, x, post, rfl, ht⟩ := (mem_walk next f st l t).mp h
  exact ⟨_, x, by simp, ht, fun g n hn => (mem_walk next g st _ n).mpr ⟨pre, x, post, rfl, hn⟩⟩

theorem mem_connWalk_all {β : Type} (tl : TL) (f : Nat → VInst × (String × Nat × String) → List β) (k0 : Nat) (insts : List VInst) (t : β)
    (h : t ∈ connWalk tl f k0 insts) :
    ∃ k i c, i ∈ insts ∧ c ∈ inConn tl i ∧ t ∈ f k (i, c) ∧
      ∀ {γ : Type} (g : Nat → VInst × (String × Nat × String) → List γ) (n : γ), n ∈ g k (i, c) → n ∈ connWalk tl g k0 insts := by
  unfold connWalk at h
  obtain ⟨k1, i, hi, h1, h2⟩ := mem_walk_all _ _ _ _ _ h
  obtain ⟨k2, c, hc, h3, h4⟩ := mem_walk_all _ _ _ _ _ h1
  refine ⟨k2, i, c, hi, hc, h3, fun g n hn => ?_⟩
  unfold connWalk
  exact h2 _ n (h4 (fun k c => g k (i, c)) n hn)

theorem connWalk_of_mem {tl : TL} {β} (f : Nat → VInst × (String × Nat × String) → List β) (k0 : Nat) (insts : List VInst) (i : VInst)
    (hi : i ∈ insts) (c : String × Nat × String) (hc : c ∈ inConn tl i) : ∃ k, ∀ t ∈ f k (i, c), t ∈ connWalk tl f k0 insts := by
  unfold connWalk
  obtain ⟨k1, h1⟩ := walk_of_mem (fun k i => (inConn tl i).foldl (fun k c => nextK k c.2.2) k)
    (fun k i => walk (fun k c => nextK k c.2.2) (fun k c => f k (i, c)) k (inConn tl i)) k0 insts i hi
  obtain ⟨k2, h2⟩ := walk_of_mem (fun k c => nextK k c.2.2) (fun k c => f k (i, c)) k1 (inConn tl i) c hc
  exact ⟨k2, fun t ht => h1 t (h2 t ht)⟩

theorem isConstBit_of_lit (s : String) (h : isConstLit s = true) : isConstBit s = true := by
  unfold isConstLit at h
  simp only [Bool.or_eq_true, beq_iff_eq] at h
  rcases h with rfl | rfl <;> decide +kernel

theorem isConstLit_of_not_bit (s : String) (h : isConstBit s = false) : isConstLit s = false := by
  cases hl : isConstLit s with
  | false => rfl
  | true => rw [isConstBit_of_lit _ hl] at h; cases h

theorem constKind_cases (s : String) (h : isConstLit s = true) : constKind s = "__const0__" ∨ constKind s = "__const1__" := by
  unfold isConstLit at h
  simp only [Bool.or_eq_true, beq_iff_eq] at h
  rcases h with rfl | rfl
  · left; decide +kernel
  · right; decide +kernel

theorem constKind_ne_fork (s : String) (h : isConstLit s = true) : constKind s ≠ forkKind := by
  rcases constKind_cases s h with e | e <;> rw [e] <;> decide +kernel

def pairNodes (k : Nat) (ts : String × String) : List NodeM :=
  if isConstLit ts.2 then [⟨constKind ts.2, constName ts.2 k, false⟩, forkN ts.1] else [forkN ts.1]
def pairLinesM (k : Nat) (ts : String × String) : List LineM :=
  if isConstLit ts.2 then [⟨.cell (constName ts.2 k) 0, .fork ts.1, none⟩] else [⟨.fork ts.2, .fork ts.1, none⟩]

def ForksAre (F : List String) (C : Circ) : Prop := ∀ x, C.isFork x = F.contains x

theorem assignStep_nl (F : List String) (k : Nat) (C : Circ) (ts : String × String) (hcc : C.cc = k) (hF : ForksAre F C)
    (hFc : ∀ x, F.contains x = true → isConstBit x = false)
    (h1 : F.contains ts.1 = false) (h2 : isConstLit ts.2 = true ∨ (isConstBit ts.2 = false ∧ F.contains ts.2 = true)) :
    NL C (assignStep C ts) (pairNodes k ts) (pairLinesM k ts) ∧ (assignStep C ts).cc = nextK k ts.2 ∧
      ForksAre (F ++ [ts.1]) (assignStep C ts) ∧ handled C ts = true := by
  subst hcc
  have g := assignStep_grows C ts
  have ht : C.isFork ts.1 = false := by rw [hF]; exact h1
  -- under the invariant the `if / elif / elif` chain takes the second branch (driven source) or the third (constant)
  have hd : assignStepΔ C ts = { nodes := pairNodes C.cc ts, lines := pairLinesM C.cc ts, cc := nextK C.cc ts.2 - C.cc } ∧
      handled C ts = true := by
    unfold assignStepΔ pairNodes pairLinesM nextK handled
    rcases h2 with hc | ⟨hnc, hs⟩
    · have hcb := isConstBit_of_lit _ hc
      have hsf : C.isFork ts.2 = false := by
        rw [hF]
        cases hfc : F.contains ts.2 with
        | false => rfl
        | true => rw [hFc _ hfc] at hcb; cases hcb
      simp [ht, hsf, hcb, hc]
    · have hsf : C.isFork ts.2 = true := by rw [hF]; exact hs
      have hnl := isConstLit_of_not_bit _ hnc
      simp [ht, hsf, hnl]
  rw [hd.1] at g
  refine ⟨g.nl, by rw [g.cc]; unfold nextK; split <;> simp, fun x => ?_, hd.2⟩
  rw [g.isFork, hF, contains_append_single]
  congr 1
  unfold pairNodes
  by_cases hc : isConstLit ts.2 = true
  · have h' : ¬ forkKind = constKind ts.2 := fun e => constKind_ne_fork _ hc e.symm
    simp [hc, forkN, h', Bool.beq_comm]
  · simp [hc, forkN, Bool.beq_comm]

theorem assignsOK_cons (F : List String) (ts : String × String) (r : List (String × String)) (h : assignsOK F (ts :: r) = true) :
    F.contains ts.1 = false ∧ isConstBit ts.1 = false ∧
    (isConstLit ts.2 = true ∨ (isConstBit ts.2 = false ∧ F.contains ts.2 = true)) ∧ assignsOK (F ++ [ts.1]) r = true := by
  unfold assignsOK at h
  simp only [Bool.and_eq_true, Bool.not_eq_true'] at h
  refine ⟨h.1.1.1, h.1.1.2, ?_, h.2⟩
  by_cases hc : isConstLit ts.2 = true
  · exact Or.inl hc
  · right
    have := h.1.2
    simp only [hc, Bool.false_eq_true, if_false, Bool.and_eq_true, Bool.not_eq_true'] at this
    exact this

theorem pass15_fold_nl : ∀ (pairs : List (String × String)) (F : List String) (k : Nat) (C : Circ), C.cc = k → ForksAre F C →
    (∀ x, F.contains x = true → isConstBit x = false) → assignsOK F pairs = true →
    NL C (pairs.foldl assignStep C) (walk (fun k ts => nextK k ts.2) pairNodes k pairs) (walk (fun k ts => nextK k ts.2) pairLinesM k pairs) ∧
      (pairs.foldl assignStep C).cc = pairs.foldl (fun k ts => nextK k ts.2) k ∧
      ForksAre (F ++ pairs.map (·.1)) (pairs.foldl assignStep C) ∧
      (assignRound C pairs = (pairs.foldl assignStep C, []))
  | [], F, k, C, hcc, hF, _, _ => ⟨NL.refl C, hcc, by simpa using hF, rfl⟩
  | ts :: r, F, k, C, hcc, hF, hFc, hok => by
    obtain ⟨h1, h1c, h2, h3⟩ := assignsOK_cons F ts r hok
    obtain ⟨hn, hc, hf, hh⟩ := assignStep_nl F k C ts hcc hF hFc h1 h2
    have hFc' : ∀ x, (F ++ [ts.1]).contains x = true → isConstBit x = false := by
      intro x hx
      simp only [List.contains_append, Bool.or_eq_true, List.contains_cons, List.contains_nil, Bool.or_false, beq_iff_eq] at hx
      rcases hx with hx | rfl
      · exact hFc x hx
      · exact h1c
    obtain ⟨in1, in2, in3, in4⟩ := pass15_fold_nl r (F ++ [ts.1]) (nextK k ts.2) (assignStep C ts) hc hf hFc' h3
    refine ⟨(hn.trans in1).of_eq rfl rfl, in2, ?_, ?_⟩
    · simpa [List.append_assoc] using in3
    · unfold assignRound at in4 ⊢
      simp only [List.foldl_cons]
      have : roundStep (C, []) ts = (assignStep C ts, []) := by unfold roundStep; simp [hh]
      rw [this]
      exact in4

theorem pass15_nl (cfg : Cfg) (pairs : List (String × String)) (F : List String) (C : Circ) (hcc : C.cc = 0) (hF : ForksAre F C)
    (hFc : ∀ x, F.contains x = true → isConstBit x = false) (hok : assignsOK F pairs = true) :
    NL C (pass15 cfg C pairs) (walk (fun k ts => nextK k ts.2) pairNodes 0 pairs) (walk (fun k ts => nextK k ts.2) pairLinesM 0 pairs) ∧
      (pass15 cfg C pairs).cc = pairs.foldl (fun k ts => nextK k ts.2) 0 ∧
      ForksAre (F ++ pairs.map (·.1)) (pass15 cfg C pairs) := by
  obtain ⟨h1, h2, h3, h4⟩ := pass15_fold_nl pairs F 0 C hcc hF hFc hok
  have : pass15 cfg C pairs = pairs.foldl assignStep C := by
    unfold pass15
    cases cfg.assignFix with
    | false => rfl
    | true =>
      simp only [if_true]
      -- under `assignsOK` the first round handles every pair (`h4`: nothing is deferred), so the second call sees `[]` and stops
      cases pairs with
      | nil => simp [assignFix]
      | cons ts r =>
        simp only [List.length_cons, assignFix, List.isEmpty_cons, Bool.false_eq_true, if_false, h4, List.length_nil]
        have hne : ((0 : Nat) == r.length + 1) = false := by simp
        simp only [hne, Bool.false_eq_true, if_false]
        cases r with
        | nil => simp
        | cons _ _ => simp
  rw [this]
  exact ⟨h1, h2, h3⟩

def connNodes (bf : Bool) (k : Nat) (ic : VInst × (String × Nat × String)) : List NodeM :=
  (if isConstLit ic.2.2.2 then [⟨constKind ic.2.2.2, constName ic.2.2.2 k, false⟩, forkN (constName ic.2.2.2 k)] else []) ++
  (if bf then [branchN (branchName (srcFork k ic.2) ic.1.name ic.2.1)] else [])
def connLinesM (bf : Bool) (k : Nat) (ic : VInst × (String × Nat × String)) : List LineM :=
  (if isConstLit ic.2.2.2 then [⟨.cell (constName ic.2.2.2 k) 0, .fork (constName ic.2.2.2 k), none⟩] else []) ++
  [⟨.fork (srcFork k ic.2), .cell ic.1.name ic.2.2.1, if bf then some (branchName (srcFork k ic.2) ic.1.name ic.2.1) else none⟩]

def ForksIn (D : List String) (C : Circ) : Prop := ∀ s ∈ D, C.isFork s = true

theorem ForksIn.mono {D : List String} {C C' : Circ} (h : ForksIn D C) (hs : Sub C C') : ForksIn D C' :=
  fun s hsD => hs.isFork (h s hsD)

def P2Inv (D : List String) (k : Nat) (C : Circ) : Prop := C.cc = k ∧ ForksIn D C

theorem readerOneΔ_frag (cfg : Cfg) (ds : List Decl) (i : VInst) (c : String × Nat × String) (C : Circ)
    (hs : isConstLit c.2.2 = true ∨ (isConstBit c.2.2 = false ∧ C.isFork c.2.2 = true)) :
    (readerOneΔ cfg ds i.name c.1 c.2.1 C c.2.2).nodes = connNodes cfg.bf C.cc (i, c) ∧
    (readerOneΔ cfg ds i.name c.1 c.2.1 C c.2.2).lines = connLinesM cfg.bf C.cc (i, c) ∧
    C.cc + (readerOneΔ cfg ds i.name c.1 c.2.1 C c.2.2).cc = nextK C.cc c.2.2 := by
  rcases hs with hc | ⟨hnc, hf⟩
  · have hcb := isConstBit_of_lit _ hc
    have e : (constPin C c.2.2).2 = constName c.2.2 C.cc := by unfold constPin; simp [hcb]
    have hfk : (constPin C c.2.2).1.isFork (constName c.2.2 C.cc) = true := by
      rw [(constPin_grows C c.2.2).isFork]; simp [constPinΔ, hcb, forkN]
    have hr := resolveRead_of_isFork cfg ds _ _ hfk
    simp only [readerOneΔ, forkForΔ, e, hr, constPinΔ, hcb, connΔ, connNodes, connLinesM, srcFork, hc, nextK, if_true,
      Bool.false_eq_true, if_false]
    cases cfg.bf <;> exact ⟨rfl, rfl, rfl⟩
  · have hcl := isConstLit_of_not_bit _ hnc
    have e : constPin C c.2.2 = (C, c.2.2) := by unfold constPin; simp [hnc]
    have hr := resolveRead_of_isFork cfg ds C _ hf
    simp only [readerOneΔ, forkForΔ, e, hr, constPinΔ, hnc, connΔ, connNodes, connLinesM, srcFork, hcl, nextK,
      Bool.false_eq_true, if_false]
    cases cfg.bf <;> exact ⟨rfl, rfl, rfl⟩

/-- `pinOK` on an input-pin connection: a constant literal, or a name in `D` that is no constant -/
theorem pinOK_p2In {tl : TL} {ds : List Decl} {D : List String} {ty : String} {ps : String × SelVal} {c : String × Nat × String}
    (hp : p2In tl ty ps = some c) (hok : pinOK tl ds D ty ps = true) :
    isConstLit c.2.2 = true ∨ (isConstBit c.2.2 = false ∧ c.2.2 ∈ D) := by
  unfold p2In at hp
  unfold pinOK at hok
  cases h1 : tl ty ps.1 with
  | none => rw [h1] at hp; cases hp
  | some v =>
    obtain ⟨idx, o⟩ := v
    rw [h1] at hp hok
    cases o with
    | true => cases ps.2 <;> cases hp
    | false =>
      cases h2 : ps.2 with
      | many _ => rw [h2] at hp; cases hp
      | one s =>
        rw [h2] at hp hok
        cases hp
        simpa using hok

theorem readerPin_nl (cfg : Cfg) (tl : TL) (ds : List Decl) (D : List String) (i : VInst) (k : Nat) (C : Circ) (ps : String × SelVal)
    (hok : pinOK tl ds D i.ty ps = true) (hI : P2Inv D k C) :
    NL C (readerPin cfg tl ds i.ty i.name C ps)
      (optList (p2In tl i.ty) (fun k c => connNodes cfg.bf k (i, c)) k ps)
      (optList (p2In tl i.ty) (fun k c => connLinesM cfg.bf k (i, c)) k ps) ∧
    P2Inv D (optNext (p2In tl i.ty) (fun k c => nextK k c.2.2) k ps) (readerPin cfg tl ds i.ty i.name C ps) := by
  obtain ⟨hcc, hD⟩ := hI
  subst hcc
  have hg := readerPin_grows cfg tl ds i.ty i.name C ps
  have hfk : ForksIn D (readerPin cfg tl ds i.ty i.name C ps) := hD.mono hg.sub
  unfold readerPinΔ at hg
  unfold optList optNext
  cases hp : p2In tl i.ty ps with
  | none => rw [hp] at hg; exact ⟨hg.nl, by rw [hg.cc]; rfl, hfk⟩
  | some c =>
    rw [hp] at hg
    have hs : isConstLit c.2.2 = true ∨ (isConstBit c.2.2 = false ∧ C.isFork c.2.2 = true) :=
      (pinOK_p2In hp hok).imp id fun hh => ⟨hh.1, hD _ hh.2⟩
    obtain ⟨e1, e2, e3⟩ := readerOneΔ_frag cfg ds i c C hs
    exact ⟨hg.nl.of_eq e1 e2, by rw [hg.cc]; exact e3, hfk⟩

theorem pass2Stmt_nl (cfg : Cfg) (tl : TL) (ds : List Decl) (D : List String) (k : Nat) (C : Circ) (s : Stmt)
    (hok : ∀ i, instOf s = some i → (i.pins.all (pinOK tl ds D i.ty)) = true) (hI : P2Inv D k C) :
    NL C (pass2Stmt cfg tl ds C s)
      (optList instOf (fun k i => walk (fun k c => nextK k c.2.2) (fun k c => connNodes cfg.bf k (i, c)) k (inConn tl i)) k s)
      (optList instOf (fun k i => walk (fun k c => nextK k c.2.2) (fun k c => connLinesM cfg.bf k (i, c)) k (inConn tl i)) k s) ∧
    P2Inv D (optNext instOf (fun k i => (inConn tl i).foldl (fun k c => nextK k c.2.2) k) k s) (pass2Stmt cfg tl ds C s) := by
  cases s with
  | inst ty nm pins =>
    have hp := hok ⟨ty, nm, pins⟩ rfl
    have h1 := nl_foldl_st (P2Inv D) (readerPin cfg tl ds ty nm)
      (optNext (p2In tl ty) (fun k c => nextK k c.2.2))
      (optList (p2In tl ty) (fun k c => connNodes cfg.bf k (⟨ty, nm, pins⟩, c)))
      (optList (p2In tl ty) (fun k c => connLinesM cfg.bf k (⟨ty, nm, pins⟩, c))) pins
      (fun k C x hx hC => readerPin_nl cfg tl ds D ⟨ty, nm, pins⟩ k C x (List.all_eq_true.mp hp x hx) hC) k C hI
    rw [walk_filterMap, walk_filterMap, foldl_filterMap'] at h1
    exact h1
  | decls _ => exact ⟨NL.refl C, hI⟩
  | assign _ _ => exact ⟨NL.refl C, hI⟩
  | other => exact ⟨NL.refl C, hI⟩

theorem pass2_nl (cfg : Cfg) (tl : TL) (ds : List Decl) (D : List String) (stmts : List Stmt) (k : Nat) (C : Circ)
    (hok : ((vInsts stmts).all fun i => i.pins.all (pinOK tl ds D i.ty)) = true) (hI : P2Inv D k C) :
    NL C (stmts.foldl (pass2Stmt cfg tl ds) C) (connWalk tl (connNodes cfg.bf) k (vInsts stmts)) (connWalk tl (connLinesM cfg.bf) k (vInsts stmts)) ∧
      ForksIn D (stmts.foldl (pass2Stmt cfg tl ds) C) := by
  -- the state function and the two list functions are read off `pass2Stmt_nl` (written out, the unifier compares them at great cost)
  have := nl_foldl_st (P2Inv D) (pass2Stmt cfg tl ds) _ _ _ stmts
    (fun k C x hx hC => pass2Stmt_nl cfg tl ds D k C x
      (fun i hi => List.all_eq_true.mp hok i (List.mem_filterMap.mpr ⟨x, hx, hi⟩)) hC) k C hI
  rw [walk_filterMap, walk_filterMap] at this
  exact ⟨this.1, this.2.2⟩

theorem outName_nl (D : List String) (C : Circ) (n : String) (hn : n ∈ D) (hD : ForksIn D C) :
    NL C (outName C n) [] [⟨.fork n, .cell n 0, none⟩] ∧ ForksIn D (outName C n) :=
  ⟨(outName_grows C n).nl.of_eq (by simp [outNameΔ, hD n hn]) (by simp [outNameΔ, hD n hn]), hD.mono (outName_grows C n).sub⟩

def outLines (d : Decl) : List LineM := if d.kind == .output then d.names.map fun n => ⟨.fork n, .cell n 0, none⟩ else []

theorem outDecl_nl (D : List String) (C : Circ) (d : Decl) (hd : d.kind = .output → ∀ n ∈ d.names, n ∈ D) (hD : ForksIn D C) :
    NL C (outDecl C d) [] (outLines d) ∧ ForksIn D (outDecl C d) := by
  unfold outDecl outLines
  by_cases hk : d.kind == DKind.output
  · simp only [hk, if_true]
    have := nl_foldl (ForksIn D) outName (fun _ => []) (fun n => [⟨.fork n, .cell n 0, none⟩]) d.names
      (fun C n hn hC => outName_nl D C n (hd (by simpa using hk) n hn) hC) C hD
    exact ⟨this.1.of_eq (by simp) List.map_eq_flatMap.symm, this.2⟩
  · simp only [hk, Bool.false_eq_true, if_false]
    exact ⟨NL.refl C, hD⟩

theorem outPass_nl (D : List String) (ds : List Decl) (C : Circ) (hd : ∀ n ∈ outputNames ds, n ∈ D) (hD : ForksIn D C) :
    NL C (outPass ds C) [] (ds.flatMap outLines) := by
  have := nl_foldl (ForksIn D) outDecl (fun _ => []) outLines ds (fun C d hdm hC => outDecl_nl D C d (by
    intro hk n hn
    apply hd
    unfold outputNames
    exact List.mem_flatMap.mpr ⟨d, List.mem_filter.mpr ⟨hdm, by simp [hk]⟩, hn⟩) hC) C hD
  exact this.1.of_eq (by simp) rfl

theorem outLines_flat (ds : List Decl) :
    ds.flatMap outLines = (outputNames ds).map fun n => (⟨.fork n, .cell n 0, none⟩ : LineM) := by
  unfold outputNames
  induction ds with
  | nil => rfl
  | cons d r ih =>
    simp only [List.flatMap_cons, List.filter_cons, ih]
    unfold outLines
    cases hk : d.kind <;> simp

end KV.Netlist
