import KyupyVerif.Proofs.Cycle
import KyupyVerif.Proofs.StripLinkMem
/-! Facts about the tables of a well-formed netlist (`sigOps`, `capSig`, `tabsOf`, `isPoppo`, `captureRow`, `nextRow`), `sol_eq_val` (the
program `genOps` of a well-formed netlist in a topological order computes what any solution of the gate equations says, off the scratch
slot), `iter_stepS_s1` (`s[1]` along the iterated one-cycle map), and the array form of the loop (`cycleKA`, what the compiled
driver runs): it leaves the same `s` as `cycleK` (`cycleKA_eq`). -/
namespace KV.Cycle
open KV KV.Sig

theorem sigOps_false (tbl : List PrefixRow) (net : Net) (order : List Nat) :
    sigOps tbl net order false = (genOps tbl net order false).map OpRow.toOp := by
  unfold sigOps
  apply List.map_congr_left
  intro r _
  simp only [viaStem_false, OpRow.toOp]

theorem sigOps_false_WOJ (tbl : List PrefixRow) (net : Net) (order : List Nat) (hwf : net.wfB = true)
    (ho : orderOKB net order = true) : WOJ (Jt net) (sigOps tbl net order false) := by
  rw [sigOps_false]; exact genOps_WOJ tbl net order false hwf ho

/-- "the row with its operands resolved through the stems" is written `MapSound.sigOp p r` for a map record, is the element of
    `Cycle.sigOps` for the clock loop, and `⟨r.lut, r.out, r.ins.map (viaStem (stemsOf net strip))⟩` in the property statements;
    the three unfold to the same term -/
theorem map_sigOp (tbl : List PrefixRow) (p : MapIn) (order : List Nat) (hops : p.ops = genOps tbl p.net order p.strip) :
    p.ops.map (MapSound.sigOp p) = sigOps tbl p.net order p.strip := by
  rw [hops]
  rfl

theorem capSig_false (net : Net) (p : Nat) :
    capSig net false p = match (sNodeAt net p).inPin 0 with | some l => l | none => net.idx.zero := by
  unfold capSig capSigW
  split <;> simp [viaStem_false, *]

/-- with `strip_forks` the captured signal is the value source of the captured signal without (the constant slot is no branch) -/
theorem capSig_true (net : Net) (hwf : net.wfB = true) (p : Nat) :
    capSig net true p = viaStem (stemsOf net true) (capSig net false p) := by
  rw [capSig_false]
  unfold capSig capSigW
  cases (sNodeAt net p).inPin 0 with
  | none => simp only [viaStem, stems_none_ge hwf (show net.lines.size ≤ net.idx.zero by simp [Net.idx]), Option.getD_none]
  | some l => rfl

theorem capSig_notJunk (net : Net) (hwf : net.wfB = true) (p : Nat) : Jt net (capSig net false p) = false := by
  rw [capSig_false]
  obtain ⟨hz, ht, _⟩ := idx_vals net
  simp only [Jt, beq_eq_false_iff_ne]
  cases h : (sNodeAt net p).inPin 0 with
  | none => simp only; omega
  | some l => have := (inPin_lt hwf h).2; simp only; omega

theorem genOps_out_ne_zero (tbl : List PrefixRow) (net : Net) (order : List Nat) (hwf : net.wfB = true)
    (hlt : ∀ n ∈ order, n < net.nodes.size) (o : Op) (ho : o ∈ (genOps tbl net order false).map OpRow.toOp) :
    o.out ≠ net.idx.zero := by
  obtain ⟨r, hr, rfl⟩ := List.mem_map.1 ho
  obtain ⟨hz, ht, _⟩ := idx_vals net
  have := genOps_out tbl net order false hwf hlt r hr
  show r.out ≠ _
  omega

theorem sigOps_out (tbl : List PrefixRow) (net : Net) (order : List Nat) (strip : Bool) (hwf : net.wfB = true)
    (hlt : ∀ n ∈ order, n < net.nodes.size) (o : Op) (ho : o ∈ sigOps tbl net order strip) : o.out < net.idx.len := by
  unfold sigOps at ho
  obtain ⟨r, hr, rfl⟩ := List.mem_map.1 ho
  have := genOps_out tbl net order strip hwf hlt r hr
  simp only [Net.idx] at this ⊢
  omega

theorem pippi_lt (net : Net) (strip : Bool) (px : Nat × Nat) (h : px ∈ (tabsOf net strip).pippi) : px.2 < net.idx.len := by
  obtain ⟨⟨hlt, _⟩, he⟩ := (mem_pippi net strip px).1 h
  simp only [Net.idx] at he ⊢
  omega

theorem isPoppo_of (net : Net) (p : Nat) (hp : p < net.sNodes.length)
    (hc : net.io.length ≤ p ∨ ((sNodeAt net p).inPin 0).isSome = true) : isPoppo net p = true := by
  unfold isPoppo
  split
  · rcases hc with h' | h'
    · omega
    · exact h'
  · simpa using hp

theorem captureRow_skip {α} (net : Net) (strip : Bool) (sol : Nat → α) (s1 : List α) (p : Nat)
    (hc : isPoppo net p = false) : (captureRow net strip sol s1)[p]? = s1[p]? := by
  unfold captureRow
  rw [List.getElem?_mapIdx]
  cases s1[p]? <;> simp [hc]

theorem nextRow_state {α} (net : Net) (strip : Bool) (merge : α → α → α) (d : α) (sol : Nat → α) (a : List α) (p : Nat)
    (hio : net.io.length ≤ p) (hp : p < a.length) :
    (nextRow net strip merge sol a)[p]? = some (merge (a.getD p d) (sol (capSig net strip p))) := by
  unfold nextRow
  rw [List.getElem?_mapIdx, List.getElem?_eq_getElem hp, List.getD_eq_getElem?_getD, List.getElem?_eq_getElem hp]
  simp [hio]

theorem captureRow_captureRow {α} (net : Net) (strip : Bool) (sol sol' : Nat → α) (s1 : List α) :
    captureRow net strip sol' (captureRow net strip sol s1) = captureRow net strip sol' s1 := by
  unfold captureRow
  rw [List.mapIdx_mapIdx, List.mapIdx_eq_mapIdx_iff]
  intro i _
  by_cases h : isPoppo net i = true <;> simp [h]

theorem sol_eq_val {α} (tbl : List PrefixRow) (net : Net) (order : List Nat) (hwf : net.wfB = true)
    (ho : orderOKB net order = true) (sem : Op → List α → α) (e val : Nat → α)
    (hval : SolvesJ (Jt net) sem ((genOps tbl net order false).map OpRow.toOp) e val) :
    ∀ x, Jt net x = false → execG sem (sigOps tbl net order false) e x = val x := by
  intro x hx
  rw [sigOps_false]
  exact (solution_uniqueJ (Jt net) sem _ (genOps_WOJ tbl net order false hwf ho) e val hval x hx).symm

/-- `s[1]` after j + 1 applications of the one-cycle map: the capture of the labelling of the j-th assignment, on top of the
    ORIGINAL `s[1]` (positions nobody captures keep their content for ever) -/
theorem iter_stepS_s1 {α} (sem : Op → List α → α) (ops : List Op) (net : Net) (strip : Bool) (merge : α → α → α) (d : α)
    (env : Nat → α) (j : Nat) (s : S α) :
    (iter (stepS sem ops net strip merge d env) (j + 1) s).s1 =
      captureRow net strip (solOf sem ops (tabsOf net strip) d env (iter (nextState sem ops net strip merge d env) j s.s0)) s.s1 := by
  have key := iter_inv (P := fun s' : S α => ∀ sol', captureRow net strip sol' s'.s1 = captureRow net strip sol' s.s1)
    (f := stepS sem ops net strip merge d env)
    (fun s' h sol' => (captureRow_captureRow net strip _ sol' s'.s1).trans (h sol')) j s (fun _ => rfl)
  rw [iter_succ']
  show captureRow net strip _ _ = _
  rw [key, iter_stepS_s0]

/-! ### the array form `cycleKA` (what the compiled driver evaluates in the correspondence runs) computes the same `s` as the
function form `cycleK` -/

def envOf {α} (d : α) (a : Array α) : Nat → α := fun i => a.getD i d

def toSt {α} (d : α) (st : StA α) : St α := ⟨envOf d st.env, st.s⟩

theorem sToCA_size {α} (T : Tabs) (d : α) (s0 : List α) (env : Array α) : (sToCA T d s0 env).size = env.size :=
  foldl_inv _ (fun e : Array α => e.size = env.size) (fun e px _ h => by simpa using h) rfl

theorem envOf_set {α} (d : α) (env : Array α) (x : Nat) (v : α) (hx : x < env.size) :
    envOf d (env.setIfInBounds x v) = upd (envOf d env) x v := by
  funext j
  simp only [envOf, upd, getD_setIfInBounds, hx, and_true, eq_comm]

theorem sToCA_eq {α} (T : Tabs) (d : α) (s0 : List α) (env : Array α) (hp : ∀ px ∈ T.pippi, px.2 < env.size) :
    envOf d (sToCA T d s0 env) = sToC T d s0 (envOf d env) := by
  unfold sToCA sToC
  generalize T.pippi = l at hp
  induction l generalizing env with
  | nil => rfl
  | cons px r ih =>
    simp only [List.foldl_cons]
    rw [ih _ (fun q hq => by simp; exact hp q (List.mem_cons_of_mem _ hq)),
      envOf_set d env px.2 _ (hp px List.mem_cons_self)]

theorem execArrG_size {α} (d : α) (sem : Op → List α → α) (ops : List Op) (env : Array α) :
    (execArrG d sem ops env).size = env.size :=
  foldl_inv _ (fun e : Array α => e.size = env.size) (fun e o _ h => by rw [execArrStep_size, h]) rfl

/-- `s_to_c; c_prop` on the array memory = on the function memory -/
theorem propA_eq {α} (sem : Op → List α → α) (ops : List Op) (T : Tabs) (d : α) (s0 : List α) (env : Array α)
    (hb : ∀ op ∈ ops, op.out < env.size) (hp : ∀ px ∈ T.pippi, px.2 < env.size) :
    envOf d (execArrG d sem ops (sToCA T d s0 env)) = execG sem ops (sToC T d s0 (envOf d env)) ∧
    (execArrG d sem ops (sToCA T d s0 env)).size = env.size := by
  refine ⟨?_, by rw [execArrG_size, sToCA_size]⟩
  funext l
  show (execArrG d sem ops _).getD l d = _
  rw [execArrG_eq d sem ops _ (fun op ho => by rw [sToCA_size]; exact hb op ho) l]
  have := sToCA_eq T d s0 env hp
  unfold envOf at this
  rw [this]; rfl

theorem cycle1A_eq {α} (sem : Op → List α → α) (ops : List Op) (T : Tabs) (merge : α → α → α) (d : α) (n : Nat)
    (hb : ∀ op ∈ ops, op.out < n) (hp : ∀ px ∈ T.pippi, px.2 < n) (sta : StA α) (st : St α)
    (h : toSt d sta = st ∧ sta.env.size = n) :
    toSt d (cycle1A sem ops T merge d sta) = cycle1 sem ops T merge d st ∧ (cycle1A sem ops T merge d sta).env.size = n := by
  obtain ⟨rfl, rfl⟩ := h
  obtain ⟨he, hs⟩ := propA_eq sem ops T d sta.s.s0 sta.env hb hp
  refine ⟨?_, hs⟩
  have hc : ∀ (arr : Array α) (s1 : List α), cToSA T d arr s1 = cToS T (envOf d arr) s1 := fun _ _ => rfl
  unfold toSt cycle1A cycle1
  simp only [hc, he]

/-- **the driver's array form = the model**: `cycleKA` and `cycleK` leave the same `s`, provided the array covers every index
    that is written (op outputs and (P)PI slots; the driver allocates `c_locs_len` entries) -/
theorem cycleKA_eq {α} (sem : Op → List α → α) (ops : List Op) (T : Tabs) (merge : α → α → α) (d : α) (n : Nat)
    (hb : ∀ op ∈ ops, op.out < n) (hp : ∀ px ∈ T.pippi, px.2 < n) :
    ∀ (k : Nat) (st : StA α), st.env.size = n →
      toSt d (cycleKA sem ops T merge d k st) = cycleK sem ops T merge d k (toSt d st) := by
  intro k st hn
  rw [eq_iter (cycleKA sem ops T merge d) _ (fun _ => rfl) (fun _ _ => rfl) k, cycleK_eq_iter]
  exact (iter_rel (cycle1A_eq sem ops T merge d n hb hp) k st (toSt d st) ⟨rfl, hn⟩).1

end KV.Cycle
