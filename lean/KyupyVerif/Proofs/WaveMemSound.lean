import KyupyVerif.Proofs.WaveMem
import KyupyVerif.Proofs.MapSoundRel
/-! WaveSim on the REAL memory layout: memory-level execution of the op rows (operand waveforms read from
`[c_locs[i], c_locs[i] + c_caps[i])` up to their terminator, `waveEval`, result written into the region of the output)
against the signal-level model `Wave.simWave`, for every map record accepted by the certificate `MapIn.check`. -/
namespace KV.Wave
open KV KV.Sig KV.MapSound

/-- an op row of `SimOps` as a row of the waveform model: value sources = the operands resolved through the stems (the
    signals whose memory the operand indices denote), delay lines = the operand indices themselves (eight-index form of
    `opDelays`; without fork stripping both halves coincide) -/
def wvOp (p : MapIn) (o : OpRow) : Op := ⟨o.lut, o.out, o.ins.map p.src ++ o.ins⟩

def waveProg (p : MapIn) : List Op := p.ops.map (wvOp p)

/-- configuration of a run: the delay table of the selected data set; capacities are `c_caps` (the evaluator uses
    `c_caps[z_idx]` as the capacity of its output) -/
def wcfg (p : MapIn) (delay : Nat → Bool → Bool → Int) : WCfg := ⟨delay, p.cap⟩

/-- what `_wave_eval` computes for row `o` from the four operand waveforms -/
def waveRow (cfg : WCfg) (p : MapIn) (o : OpRow) (args : List Wv) : Wv := waveSem cfg (wvOp p o) args

/-- **contract of one `_wave_eval` call on memory** (one lane): cells outside the region of the output keep their
    contents, and the region of the output then holds — up to its first terminator — the evaluator's result for the
    waveforms the four operand regions held before. Cells behind the terminator are unconstrained. -/
def WaveStep (p : MapIn) (cfg : WCfg) (o : OpRow) (m m' : Int → T) : Prop :=
  (∀ a, ¬ (p.loc o.out ≤ a ∧ a < p.loc o.out + (p.cap o.out : Int)) → m' a = m a) ∧
  rdWave (p.loc o.out) (p.cap o.out) m' =
    waveSem cfg (wvOp p o) (o.ins.map fun i => rdWave (p.loc i) (p.cap i) m)

/-- a sequence of such calls. The contract does not mention the cells behind the terminator, so the `junk` argument of `waveRW` is
    immaterial (`runOK_junk`); `keepJunk` merely fills it. -/
def WaveRun (p : MapIn) (cfg : WCfg) (rows : List OpRow) (m m' : Int → T) : Prop :=
  RunOK p (waveRW keepJunk) (waveRow cfg p) rows m m'

theorem waveStep_iff (p : MapIn) (cfg : WCfg) (junk) (o : OpRow) (m m' : Int → T) :
    StepOK p (waveRW junk) (waveRow cfg p) o m m' ↔ WaveStep p cfg o m m' := Iff.rfl

theorem runOK_junk (p : MapIn) (cfg : WCfg) (junk junk') (rows : List OpRow) (m m' : Int → T)
    (h : RunOK p (waveRW junk) (waveRow cfg p) rows m m') : RunOK p (waveRW junk') (waveRow cfg p) rows m m' := by
  induction h with
  | nil m => exact RunOK.nil m
  | cons hstep _ ih => exact RunOK.cons hstep ih

theorem waveRun_nil (p : MapIn) (cfg : WCfg) (m : Int → T) : WaveRun p cfg [] m m := RunOK.nil m
theorem waveRun_cons (p : MapIn) (cfg : WCfg) (o : OpRow) (rows : List OpRow) (m m1 m2 : Int → T)
    (h1 : WaveStep p cfg o m m1) (h2 : WaveRun p cfg rows m1 m2) : WaveRun p cfg (o :: rows) m m2 := RunOK.cons h1 h2

theorem waveRun_head {p : MapIn} {cfg : WCfg} {o : OpRow} {rows : List OpRow} {m m' : Int → T}
    (h : WaveRun p cfg (o :: rows) m m') : ∃ m1, WaveStep p cfg o m m1 ∧ WaveRun p cfg rows m1 m' := by
  cases h with
  | cons h1 h2 => exact ⟨_, h1, h2⟩


theorem getD_append4 {α} (xs ys : List α) (h : xs.length = 4) (i : Nat) (hi : i < 4) (d : α) :
    (xs ++ ys).getD i d = xs.getD i d := by
  rw [List.getD_eq_getElem?_getD, List.getD_eq_getElem?_getD, List.getElem?_append_left (by omega)]

theorem slot_append (xs ys : List Wv) (h : xs.length = 4) (i : Fin 4) : slot (xs ++ ys) i = slot xs i :=
  getD_append4 xs ys h i.val i.isLt Wv.empty

theorem ins_length (o : OpRow) : o.ins.length = 4 := rfl

theorem sigStep_eq_execOpG (cfg : WCfg) (p : MapIn) (env : Nat → Wv) (o : OpRow) :
    sigStep p (waveRow cfg p) env o = execOpG (waveSem cfg) env (wvOp p o) := by
  funext j
  show (if j = o.out then waveSem cfg (wvOp p o) (o.ins.map fun i => env (p.src i)) else env j) =
    (if j = o.out then waveSem cfg (wvOp p o) ((o.ins.map p.src ++ o.ins).map env) else env j)
  by_cases hj : j = o.out
  · rw [if_pos hj, if_pos hj]
    refine (waveRow_congr cfg o.lut o.out (fun _ _ _ => rfl) fun i => ?_).1
    rw [List.map_append, List.map_map, slot_append _ _ (by simp [ins_length])]
    rfl
  · rw [if_neg hj, if_neg hj]

theorem sigRun_eq_simWave (cfg : WCfg) (p : MapIn) (rows : List OpRow) (env : Nat → Wv) :
    sigRun p (waveRow cfg p) rows env = simWave cfg (rows.map (wvOp p)) env := by
  induction rows generalizing env with
  | nil => rfl
  | cons o rows ih =>
    simp only [sigRun, List.foldl_cons, List.map_cons, simWave, execG] at ih ⊢
    rw [sigStep_eq_execOpG]
    exact ih _

theorem wcfg_good (p : MapIn) (hc : p.check = none) (h4 : 4 ≤ p.capsMin) (delay : Nat → Bool → Bool → Int)
    (hd : ∀ l a b, 0 ≤ delay l a b) : (wcfg p delay).Good (waveProg p) := by
  refine ⟨hd, ?_⟩
  intro op hop
  obtain ⟨o, ho, rfl⟩ := List.mem_map.1 hop
  have := cap_ge_of_check p hc o ho
  show 4 ≤ p.cap o.out
  omega

theorem wcfg_opOK (p : MapIn) (hc : p.check = none) (h4 : 4 ≤ p.capsMin) (delay : Nat → Bool → Bool → Int)
    (hd : ∀ l a b, 0 ≤ delay l a b) {o : OpRow} (ho : o ∈ p.ops) {args : List Wv} (hargs : ∀ a ∈ args, a.ok) :
    OpOK (wcfg p delay) (wvOp p o) args :=
  (wcfg_good p hc h4 delay hd).opOK (List.mem_map_of_mem ho) hargs

theorem nodupB_of_nodup (l : List Nat) (h : l.Nodup) : Sig.nodupB l = true :=
  (nodupB_iff Sig.nodupB rfl (fun _ _ => rfl) l).mpr h

/-- **such runs exist**: the deterministic run (`MapSound.memRun` with the storage discipline `waveRW junk`, any
    left-overs `junk` behind the terminators) honours the contract at every step — every result fits the region of its
    output because the evaluator never stores more than `cap - 1` entries and operands stay well formed -/
theorem wave_memRun_ok (p : MapIn) (hc : p.check = none) (h4 : 4 ≤ p.capsMin) (delay : Nat → Bool → Bool → Int)
    (hd : ∀ l a b, 0 ≤ delay l a b) (junk : Int → Nat → Wv → (Int → T) → Int → T)
    (sched : List Nat) (hs : Sched p sched) (m0 : Int → T) (env0 : Nat → Wv) (henv : ∀ x, (env0 x).ok)
    (h0 : ∀ x ∈ p.tracked, (∀ o ∈ p.ops, o.out ≠ x) → rdWave (p.loc x) (p.cap x) m0 = env0 x) :
    WaveRun p (wcfg p delay) (schedOps p sched) m0
      (memRun p (waveRW junk) (waveRow (wcfg p delay) p) (schedOps p sched) m0) := by
  apply runOK_junk p (wcfg p delay) junk keepJunk
  refine memRun_runOK p hc (waveRW junk) (waveRow (wcfg p delay) p) sched hs Wv.ok ?_ ?_ m0 env0 henv h0
  · intro o ho args hargs
    exact waveSem_ok (wcfg_opOK p hc h4 delay hd ho hargs)
  · intro o ho args m hargs
    exact waveRW_fit junk _ _ _ m (wcfg_opOK p hc h4 delay hd ho hargs).fits

/-- signal environment read off the initial memory: the waveforms in the input slots and the zero slot; any other
    index (written by a row before it is read) starts empty -/
def inputEnv (p : MapIn) (m0 : Int → T) : Nat → Wv := fun x =>
  if x ∈ p.ppiSlots ∨ x = p.ix.zero then rdWave (p.loc x) (p.cap x) m0 else Wv.empty

theorem inputEnv_ok (p : MapIn) (m0 : Int → T)
    (hin : ∀ x, x ∈ p.ppiSlots ∨ x = p.ix.zero → (rdWave (p.loc x) (p.cap x) m0).ok) : ∀ x, (inputEnv p m0 x).ok := by
  intro x
  unfold inputEnv
  split
  · rename_i h; exact hin x h
  · exact Wv.empty_ok

/-- `m'` is reachable from `m0` by `_wave_eval` calls honouring the contract `WaveStep`, along SOME schedule `schedOKB` accepts (every row once,
    no row of a later level before one of an earlier level) -/
def Propagated (p : MapIn) (delay : Nat → Bool → Bool → Int) (m0 m' : Int → T) : Prop :=
  ∃ sched, p.schedOKB sched = true ∧ WaveRun p (wcfg p delay) (schedOps p sched) m0 m'

/-- the start memory holds the waveform `env0 x` in the region of every tracked signal `x` that no row writes (inputs, constants) -/
def Stimulus (p : MapIn) (m0 : Int → T) (env0 : Nat → Wv) : Prop :=
  ∀ x ∈ p.tracked, (∀ o ∈ p.ops, o.out ≠ x) → rdWave (p.loc x) (p.cap x) m0 = env0 x

theorem stimulus_inputEnv (p : MapIn) (m0 : Int → T) : Stimulus p m0 (inputEnv p m0) := by
  intro x hx hnw
  rcases mem_tracked.mp hx with ⟨⟨o, ho, rfl⟩, _⟩ | hx | hx
  · exact absurd rfl (hnw o ho)
  · simp [inputEnv, hx]
  · simp [inputEnv, hx]

theorem stimulus_aff (k s : Int) (p : MapIn) (m0 : Int → T) (env0 : Nat → Wv) (h : Stimulus p m0 env0) :
    Stimulus p (fun a => (m0 a).aff k s) (fun x => (env0 x).aff k s) := by
  intro x hx hnw
  rw [rdWave_aff, h x hx hnw]

/-- **memory level = signal level, any implementation, any level-respecting order.** Accepted certificate: in EVERY memory `m'`
    reachable from `m0` by running the rows along a duplicate-free schedule that respects `level_starts`, each `_wave_eval` call
    honouring `WaveStep`, the region of every output slot `j` reads — up to its terminator — as the waveform `simWave` computes
    (program order, no memory) for the captured signal `s` -/
theorem propagated_eq_sim (p : MapIn) (hc : p.check = none) (delay : Nat → Bool → Bool → Int) (m0 m' : Int → T)
    (env0 : Nat → Wv) (hst : Stimulus p m0 env0) (hpr : Propagated p delay m0 m') :
    ∀ j s, (j, s) ∈ p.ppoSrcs → rdWave (p.loc j) (p.cap j) m' = simWave (wcfg p delay) (waveProg p) env0 s := by
  obtain ⟨sched, hs, hrun⟩ := hpr
  intro j s hjs
  have := check_sound_rel_prog p hc (waveRW keepJunk) (waveRow (wcfg p delay) p) sched (schedOKB_sound p sched hs).1
    (schedOKB_sound p sched hs).2 m0 m' env0 hst hrun j s hjs
  rw [sigRun_eq_simWave] at this
  exact this

theorem schedOKB_range (p : MapIn) : p.schedOKB (List.range p.ops.length) = true := by
  have h := sched_range p
  simp only [MapIn.schedOKB, Bool.and_eq_true, List.all_eq_true, decide_eq_true_eq, Bool.or_eq_true,
    Bool.not_eq_true', decide_eq_false_iff_not]
  refine ⟨⟨⟨fun k hk => by simpa using hk, fun k hk => by simpa using hk⟩, nodupB_of_nodup _ List.nodup_range⟩, ?_⟩
  intro a ha b hb
  by_cases hab : a.2 ≤ b.2
  · exact .inr (h.mono a.2 b.2 a.1 b.1 hab (List.mem_zipIdx_iff_getElem?.1 ha) (List.mem_zipIdx_iff_getElem?.1 hb))
  · exact .inl hab

theorem propagated_exists (p : MapIn) (hc : p.check = none) (h4 : 4 ≤ p.capsMin) (delay : Nat → Bool → Bool → Int)
    (hd : ∀ l a b, 0 ≤ delay l a b) (junk : Int → Nat → Wv → (Int → T) → Int → T) (m0 : Int → T) (env0 : Nat → Wv)
    (henv : ∀ x, (env0 x).ok) (hst : Stimulus p m0 env0) :
    Propagated p delay m0 (memRun p (waveRW junk) (waveRow (wcfg p delay) p) p.ops m0) := by
  refine ⟨List.range p.ops.length, schedOKB_range p, ?_⟩
  have := wave_memRun_ok p hc h4 delay hd junk _ (sched_range p) m0 env0 henv hst
  rw [schedOps_range] at this ⊢
  exact this

theorem first4_lutSem : First4 lutSem := by
  intro code xs ys h
  unfold lutSem
  rw [getD_append4 xs ys h 0 (by omega), getD_append4 xs ys h 1 (by omega), getD_append4 xs ys h 2 (by omega),
    getD_append4 xs ys h 3 (by omega)]

/-- a logic simulation of the eight-index program is the logic simulation of the four-index rows `MapSound.sigOp` (what
    `LogicSim` runs: operands resolved through the stems) -/
theorem exec_waveProg {α} (f : Nat → List α → α) (hf : First4 f) (p : MapIn) (rows : List OpRow) (env : Nat → α) :
    exec f (rows.map (wvOp p)) env = exec f (rows.map (sigOp p)) env :=
  exec_first4 f hf OpRow.lut OpRow.out (fun o => o.ins.map p.src) OpRow.ins (fun _ => rfl) rows env

end KV.Wave
