import KyupyVerif.Proofs.SubstDirections
import KyupyVerif.Proofs.SubstCoreCert
import KyupyVerif.Proofs.Densify
/-! C10 (`substitute_sem`): the decidable side conditions decoded (`implOKB`, `noIgnoredB`, `keepsAllB`); a run of
`remove_dangling_nodes` in which every root is kept returns its circuit (`AllKept`, `removeDangling_kept`); the two directions
`SubstFw` / `SubstBw` of the statement under the certificate (`SubstCert.forward`, `SubstCert.backward`); the certificate for the
circuit `substituteCore` builds (`substituteCore_cert`) and for the result of `substitute` when nothing is removed (`SubstCertD`,
`substitute_cert`: through the loop `densify`).  When dangling logic is removed, the result embeds into the circuit `substituteCore`
builds (`substitute_removing`, for `substitute_sem_removing`). -/
namespace KV.Transform
open KV

theorem implGenOKB_spec (m : NNet) (hok : implGenOKB m = true) :
    ∃ sh, implShape m = some sh ∧ m.net.io.Nodup ∧ (∀ p ∈ m.net.io, isSeqKind (m.net.node p).kind = false) ∧
    (∀ p ∈ m.net.io, 0 < (m.net.node p).ins.length → 0 < (m.net.node p).outs.length → (m.net.node p).isFork = true) := by
  unfold implGenOKB at hok
  split at hok
  · exact absurd hok (by simp)
  · rename_i sh hs
    simp only [Bool.and_eq_true, decide_eq_true_eq, List.all_eq_true, Bool.not_eq_true', Bool.or_eq_true] at hok
    obtain ⟨h2, h3⟩ := hok
    refine ⟨sh, hs, h2, fun p hp => (h3 p hp).1, fun p hp hi ho => ?_⟩
    rcases (h3 p hp).2 with h4 | h4
    · simp [hi, ho] at h4
    · exact h4

theorem implOKB_spec (m : NNet) (mw : WF m) (sh : Shape) (dn : Nat) (hs : implShape m = some sh) (hd : sh.des = some dn)
    (hok : implOKB m = true) :
    dn ∉ m.net.io ∧ m.net.io.Nodup ∧ (∀ p ∈ m.net.io, isSeqKind (m.net.node p).kind = false) ∧
    (∀ p ∈ m.net.io, 0 < (m.net.node p).ins.length → 0 < (m.net.node p).outs.length → (m.net.node p).isFork = true) := by
  -- `implOKB` is "a designated cell exists" and `implGenOKB`
  have hg : implGenOKB m = true := by
    unfold implOKB at hok
    unfold implGenOKB
    rw [hs] at hok ⊢
    simp only [Bool.and_eq_true] at hok ⊢
    exact ⟨hok.1.2, hok.2⟩
  obtain ⟨_, _, h2, h3, h4⟩ := implGenOKB_spec m hg
  exact ⟨implShape_des_notPort m mw sh dn hs hd h3, h2, h3, h4⟩

/-- `remove_dangling_nodes` returns at once for every pending root -/
def AllKept (nn : NNet) (own : List Nat) (stack : List (Option Nat)) : Prop :=
  (stack.all fun o => match o with
    | none => true
    | some root => keptRoot nn own root) = true

theorem removeDangling_kept (nn : NNet) (own : List Nat) : ∀ (fuel : Nat) (stack : List (Option Nat)), stack.length < fuel →
    AllKept nn own stack → removeDangling fuel nn own stack = some nn
  | 0, _, h, _ => by omega
  | fuel + 1, [], _, _ => by simp [removeDangling]
  | fuel + 1, none :: rest, h, ha => by
    simp only [removeDangling]
    exact removeDangling_kept nn own fuel rest (by simpa using h) (by simpa [AllKept] using ha)
  | fuel + 1, some root :: rest, h, ha => by
    simp only [AllKept, List.all_cons, Bool.and_eq_true] at ha
    rw [removeDangling_cons_some, if_pos ha.1]
    exact removeDangling_kept nn own fuel rest (by simpa using h) ha.2

theorem noIgnoredB_spec (h : NNet) (c : Nat) (m : NNet) (hr : noIgnoredB h c m = true) :
    ∃ sh dn, implShape m = some sh ∧ sh.des = some dn ∧
      NoIgnored m (sh.inPorts.zip (padTo (h.net.node c).ins sh.inPorts.length)) := by
  unfold noIgnoredB at hr
  split at hr
  · exact absurd hr (by simp)
  · rename_i sh hs
    simp only [Bool.and_eq_true] at hr
    obtain ⟨h1, h2⟩ := hr
    cases hd : sh.des with
    | none => rw [hd] at h1; simp at h1
    | some dn =>
      refine ⟨sh, dn, hs, hd, ?_⟩
      intro p hp hsome
      have := List.all_eq_true.mp h2 p hp
      simpa [hsome] using this

theorem keepsAllB_noIgnored (h : NNet) (c : Nat) (m : NNet) (hr : keepsAllB h c m = true) : noIgnoredB h c m = true := by
  unfold keepsAllB at hr
  split at hr
  · rename_i sh h5 map dang hs hcore
    simp only [Bool.and_eq_true] at hr
    unfold noIgnoredB
    rw [hs]
    simp only [Bool.and_eq_true]
    exact ⟨hr.1.1, hr.1.2⟩
  · exact absurd hr (by simp)

theorem keepsAllB_allKept {h : NNet} {c : Nat} {m h5 : NNet} {map : Array (Option Nat)} {dang : List (Option Nat)}
    (hr : keepsAllB h c m = true) (hcore : substituteCore h c m = some (h5, map, dang)) :
    AllKept h5 (map.toList.filterMap id) dang := by
  unfold keepsAllB at hr
  rw [hcore] at hr
  split at hr
  · rename_i heq
    cases heq
    simp only [Bool.and_eq_true] at hr
    exact hr.2
  · exact absurd hr (by simp)

theorem keepsAllB_core {h : NNet} {c : Nat} {m : NNet} (hr : keepsAllB h c m = true) : (substituteCore h c m).isSome = true := by
  unfold keepsAllB at hr
  split at hr
  · rename_i hcore; rw [hcore]; rfl
  · exact absurd hr (by simp)

theorem substitute_of_core (h : NNet) (c : Nat) (m h' h5 : NNet) (map : Array (Option Nat)) (dang : List (Option Nat))
    (hcore : substituteCore h c m = some (h5, map, dang)) (w5 : WF h5)
    (hk : AllKept h5 (map.toList.filterMap id) dang)
    (he : substitute h c m = some h') : h' = densNN h5 (map.toList.filterMap id) := by
  unfold substitute at he
  rw [hcore] at he
  dsimp only at he
  obtain ⟨d, _⟩ := densNN_dens (map.toList.filterMap id) h5 w5
  have hk' : AllKept (densNN h5 (map.toList.filterMap id)) (map.toList.filterMap id) dang := by
    simp only [AllKept, List.all_eq_true] at hk ⊢
    intro o ho
    have := hk o ho
    cases o with
    | none => rfl
    | some root => simpa only [keptRoot_dens d] using this
  have he' : removeDangling (dang.length + h5.net.lines.size + 1) (densNN h5 (map.toList.filterMap id))
      (map.toList.filterMap id) dang = some h' := he
  rw [removeDangling_kept _ _ _ dang (by omega) hk'] at he'
  exact (Option.some.inj he').symm

theorem regularB_keepsAll (h : NNet) (c : Nat) (m h' : NNet) (hr : regularB h c m = true) (he : substitute h c m = some h') :
    keepsAllB h c m = true := by
  obtain ⟨sh, dn, map, h5, hs, hd, hcore, _, hni⟩ := substitute_regular_eq' h c m h' hr he
  unfold keepsAllB
  rw [hs, hcore]
  simp only [hd, Option.isSome_some, Bool.true_and, List.all_nil, Bool.and_true, List.all_eq_true, Bool.or_eq_true,
    Bool.not_eq_true']
  intro p hp
  cases hp2 : p.2 with
  | none => left; rfl
  | some x =>
    right
    have := hni p hp (by rw [hp2]; rfl)
    simpa using this

/-- direction (1) of the semantic statement, result ⇒ host with hole + implementation: a labelling of `h'` that is consistent outside
    `S` is, on the host, consistent outside `S ∪ {c}` and comes with a matching labelling of the implementation that agrees
    with it on the copies; every copied node reads what its original reads -/
def SubstFw {α : Type _} (h : NNet) (c : Nat) (m : NNet) (sh : Shape) (map : Array (Option Nat)) (h' : NNet)
    (z : α) (neg : α → α) (prim : String → α → α → α → α → α) : Prop :=
  ∀ (S : Nat → Prop), (∀ s, S s → s < h.net.nodes.size ∧ s ≠ c) → ∀ an' v' : Nat → α, ConsOff h' S z neg prim an' v' →
    ConsOff h (fun d => S d ∨ d = c) z neg prim an' v' ∧
    ∃ anm vm, ImplMatches h c m sh z neg prim anm vm v' ∧
      (∀ j x, j ∉ m.net.io → map.getD j none = some x → anm j = an' x) ∧
      (∀ t (ht : t < (copiedLines m map).length), vm (copiedLines m map)[t] = v' (h.net.lines.size + t)) ∧
      (∀ j x k, map.getD j none = some x → ¬ (j ∈ m.net.io ∧ (m.net.node j).ins.length = 0) →
        ((h'.net.node x).inPin k).map v' = (((cutIns m (deadLine h c m sh)).net.node j).inPin k).map vm)

/-- direction (2), gluing: a labelling of the host consistent outside `S ∪ {c}` and a matching labelling of the implementation
    give a labelling of `h'` consistent outside `S` that extends both -/
def SubstBw {α : Type _} (h : NNet) (c : Nat) (m : NNet) (sh : Shape) (map : Array (Option Nat)) (h' : NNet)
    (z : α) (neg : α → α) (prim : String → α → α → α → α → α) : Prop :=
  ∀ (S : Nat → Prop) (an v anm vm : Nat → α), ConsOff h (fun d => S d ∨ d = c) z neg prim an v →
    ImplMatches h c m sh z neg prim anm vm v →
    ∃ an' v', ConsOff h' S z neg prim an' v' ∧ (∀ l, l < h.net.lines.size → v' l = v l) ∧
      (∀ d, d < h.net.nodes.size → d ≠ c → an' d = an d) ∧
      (∀ j x, j ∉ m.net.io → map.getD j none = some x → an' x = anm j) ∧
      (∀ t (ht : t < (copiedLines m map).length), v' (h.net.lines.size + t) = vm (copiedLines m map)[t]) ∧
      (∀ j x k, map.getD j none = some x → ¬ (j ∈ m.net.io ∧ (m.net.node j).ins.length = 0) →
        ((h'.net.node x).inPin k).map v' = (((cutIns m (deadLine h c m sh)).net.node j).inPin k).map vm)

section cert
variable {h : NNet} {c : Nat} {m : NNet} {sh : Shape} {dn : Nat} {map : Array (Option Nat)} {h' : NNet}
variable (ct : SubstCert h c m sh dn map h')
include ct

theorem SubstCert.forward {α : Type _} (z : α) (neg : α → α) (prim : String → α → α → α → α → α) :
    SubstFw h c m sh map h' z neg prim := by
  intro S hS an' v' hc'
  refine ⟨ct.fw_hole z neg prim an' v' S hc', anmOf h c m sh map z an' v', vmOf h c m sh map z neg prim an' v',
    ⟨ct.fw_cons z neg prim an' v' S hS hc', (ct.fw_link z neg prim an' v').port,
      ct.fw_outs z neg prim an' v' S hS hc'⟩,
    (ct.fw_link z neg prim an' v').asg, ?_, ?_⟩
  · intro t ht; exact (ct.fw_agree z neg prim an' v' _ _ (ct.new_fields t ht).1 (imgLine_copied ht)).symm
  · intro j x k hm hnp
    exact ct.reads_eq j x hm (fun hc => hnp ((mem_inPorts ct.shape _).mp hc)) v' _ (ct.fw_agree z neg prim an' v') k

theorem SubstCert.backward {α : Type _} (z : α) (neg : α → α) (prim : String → α → α → α → α → α) :
    SubstBw h c m sh map h' z neg prim := by
  intro S an v anm vm hH hM
  refine ⟨glueA h c m map an anm, glueV h m map v vm, ct.bw_cons z neg prim an v anm vm S hH hM,
    bw_host v vm, bw_hostA an anm, fun j x _ hm => (ct.bw_hA an anm j x hm).symm, bw_new v vm, ?_⟩
  intro j x k hm hnp
  exact ct.reads_eq j x hm (fun hc => hnp ((mem_inPorts ct.shape _).mp hc)) _ vm (ct.bw_agree z neg prim v anm vm hM) k

end cert

/-- the certificate for the RESULT of `substitute` when nothing is removed: what `SubstCert` says of the circuit `h5` that
    `substituteCore` builds, for `h5` with the outputs of the copied forks made dense (`densify`; the same circuit when no copied
    fork has a gap, `denseB`) — the loop keeps sizes, kinds, ports, input pins and the consistent labellings (Proofs/Densify.lean) -/
structure SubstCertD (h : NNet) (c : Nat) (m : NNet) (sh : Shape) (dn : Nat) (map : Array (Option Nat)) (h' : NNet) : Prop where
  shape : implShape m = some sh
  des : sh.des = some dn
  mapDn : map.getD dn none = some c
  mapM : ∀ j x, map.getD j none = some x → j < m.net.nodes.size
  mapGe : ∀ j x, map.getD j none = some x → x = c ∨ h.net.nodes.size ≤ x
  mapInj : ∀ j1 j2 x, map.getD j1 none = some x → map.getD j2 none = some x → j1 = j2
  wf' : WF h'
  nsize : h.net.nodes.size ≤ h'.net.nodes.size
  lsize : h'.net.lines.size = h.net.lines.size + (copiedLines m map).length
  io' : h'.net.io = h.net.io
  mapLt : ∀ j x, map.getD j none = some x → x < h'.net.nodes.size
  kind' : ∀ j x, map.getD j none = some x →
    (h'.net.node x).kind = if j ∈ m.net.io then "__fork__" else (m.net.node j).kind
  frameNode : ∀ d, d < h.net.nodes.size → d ≠ c → h'.net.node d = h.net.node d
  keyFrame : ∀ d, d < h.net.nodes.size → h'.key d = h.key d
  core : ∃ h5, SubstCert h c m sh dn map h5 ∧ WF h5 ∧ h' = densNN h5 (map.toList.filterMap id)

theorem SubstCert.dens {h : NNet} {c : Nat} {m : NNet} {sh : Shape} {dn : Nat} {map : Array (Option Nat)} {h5 : NNet}
    (c5 : SubstCert h c m sh dn map h5) (w5 : WF h5) (hdl : dn < m.net.nodes.size) :
    SubstCertD h c m sh dn map (densNN h5 (map.toList.filterMap id)) := by
  obtain ⟨dd, wd⟩ := densNN_dens (map.toList.filterMap id) h5 w5
  refine { shape := c5.shape, des := c5.des hdl, mapDn := c5.mapDn hdl, mapM := c5.mapM, mapGe := c5.mapGe, mapInj := c5.mapInj,
           wf' := wd, nsize := by rw [dd.nsize]; exact c5.nsize, lsize := by rw [dd.lsize]; exact c5.lsize,
           io' := dd.io.trans c5.io', mapLt := by rw [dd.nsize]; exact c5.mapLt,
           kind' := fun j x hm => by rw [dd.kind]; exact c5.kind' j x hm, frameNode := fun d hd hne => ?_, keyFrame := fun d hd => ?_,
           core := ⟨h5, c5, w5, rfl⟩ }
  · -- the loop touches only images of `node_map`
    rw [dd.frame d, c5.frameNode d hd hne]
    intro hmem
    obtain ⟨k, hk⟩ := (mem_map_values map d).1 hmem
    rcases c5.mapGe k d hk with h1 | h1
    · exact hne h1
    · omega
  · rw [← c5.keyFrame d hd]
    simp only [NNet.key, dd.names, NodeD.isFork, dd.kind]

theorem SubstCertD.forward {h : NNet} {c : Nat} {m : NNet} {sh : Shape} {dn : Nat} {map : Array (Option Nat)} {h' : NNet}
    (ct : SubstCertD h c m sh dn map h') {α : Type _} (z : α) (neg : α → α) (prim : String → α → α → α → α → α) :
    SubstFw h c m sh map h' z neg prim := by
  intro S hS an' v' hc'
  obtain ⟨h5, c5, w5, e⟩ := ct.core
  subst e
  have dd := (densNN_dens (map.toList.filterMap id) h5 w5).1
  obtain ⟨f1, anm, vm, g1, g2, g3, g4⟩ := c5.forward z neg prim S hS an' v' ((dd.consOff_iff w5.toWFm S z neg prim an' v').mp hc')
  refine ⟨f1, anm, vm, g1, g2, g3, fun j x k hm hnp => ?_⟩
  rw [← g4 j x k hm hnp]
  simp only [NodeD.inPin, dd.ins]

theorem SubstCertD.backward {h : NNet} {c : Nat} {m : NNet} {sh : Shape} {dn : Nat} {map : Array (Option Nat)} {h' : NNet}
    (ct : SubstCertD h c m sh dn map h') {α : Type _} (z : α) (neg : α → α) (prim : String → α → α → α → α → α) :
    SubstBw h c m sh map h' z neg prim := by
  intro S an v anm vm hH hM
  obtain ⟨h5, c5, w5, e⟩ := ct.core
  subst e
  have dd := (densNN_dens (map.toList.filterMap id) h5 w5).1
  obtain ⟨an', v', g0, g1, g2, g3, g4, g5⟩ := c5.backward z neg prim S an v anm vm hH hM
  refine ⟨an', v', (dd.consOff_iff w5.toWFm S z neg prim an' v').mpr g0, g1, g2, g3, g4, fun j x k hm hnp => ?_⟩
  rw [← g5 j x k hm hnp]
  simp only [NodeD.inPin, dd.ins]

theorem substituteCore_cert (h m : NNet) (c : Nat) (hw : WF h) (mw : WF m) (hc : c < h.net.nodes.size)
    (hio : h.net.io.contains c = false) (hcf : (h.net.node c).isFork = false)
    (hr : noIgnoredB h c m = true) (hok : implOKB m = true)
    (h5 : NNet) (map : Array (Option Nat)) (dang : List (Option Nat)) (he : substituteCore h c m = some (h5, map, dang)) :
    ∃ sh dn, SubstCert h c m sh dn map h5 ∧ WF h5 ∧ dn < m.net.nodes.size := by
  obtain ⟨sh, dn, hs, hd, hni⟩ := noIgnoredB_spec h c m hr
  obtain ⟨hdn, hnd, hps, hpf⟩ := implOKB_spec m mw sh dn hs hd hok
  have hio : c ∉ h.net.io := by simpa using hio
  obtain ⟨hdl, hdnf⟩ := implShape_des m mw sh dn hs hd
  obtain ⟨h2, net4, ren, net5, hil, hol, hfold, hci, hco, e⟩ := substituteCore_inv h c m sh hs h5 map dang he
  rw [hd] at hfold
  have key : SubstCert h c m sh dn map h5 ∧ WF h5 := by
    obtain ⟨ct, htr⟩ := substituteCore_certP h c m sh dn hw.toWFr mw hc hio hcf hs (fun _ => hd) (hdnf hdn) hdn hnd hps hpf hni h5 map dang
      h2 net4 net5 ren hil hol hfold hci hco e
    refine ⟨ct, ct.wf'.names, ct.wf'.nodup, ct.wf'.io, fun l hl => ?_, ct.wf'.fwdIn, ct.wf'.fwdOut, fun x hx => ?_⟩
    · obtain ⟨b1, b2, b3⟩ := ct.wf'.back l hl
      refine ⟨b1, b2, b3, ct.backR l hl ?_⟩
      by_cases hlt : l < h.net.lines.size
      · exact Or.inr (hw.back l hlt).2.2.2
      · exact Or.inl (by omega)
    · by_cases hown : ownN h c x
      · exact htr x hx hown
      · obtain ⟨h2', h1⟩ := not_or.mp hown
        rw [ct.frameNode x (by omega) h2']; exact hw.trail x (by omega)
  exact ⟨sh, dn, key.1, key.2, hdl⟩

theorem substitute_cert (h m h' : NNet) (c : Nat) (hw : WF h) (mw : WF m) (hc : c < h.net.nodes.size)
    (hio : h.net.io.contains c = false) (hcf : (h.net.node c).isFork = false)
    (hr : keepsAllB h c m = true) (hok : implOKB m = true) (he : substitute h c m = some h') :
    ∃ sh dn map, SubstCertD h c m sh dn map h' := by
  obtain ⟨⟨h5, map, dang⟩, hcore⟩ := Option.isSome_iff_exists.mp (keepsAllB_core hr)
  obtain ⟨sh, dn, ct, w5, hdl⟩ := substituteCore_cert h m c hw mw hc hio hcf (keepsAllB_noIgnored h c m hr) hok h5 map dang hcore
  exact ⟨sh, dn, map, substitute_of_core h c m h' h5 map dang hcore w5 (keepsAllB_allKept hr hcore) he ▸ ct.dens w5 hdl⟩

/-- `substitute` = the circuit `substituteCore` builds, the outputs of its copied forks made dense (`densify`: same nodes, same
    lines, only driver pins at forks change), with dangling logic removed; it embeds into the circuit `substituteCore` builds -/
theorem substitute_removing {α : Type _} (z : α) (neg : α → α) (prim : String → α → α → α → α → α)
    (h m h' : NNet) (c : Nat) (hw : WF h) (mw : WF m) (hc : c < h.net.nodes.size)
    (hio : h.net.io.contains c = false) (hcf : (h.net.node c).isFork = false)
    (hr : noIgnoredB h c m = true) (hok : implOKB m = true) (he : substitute h c m = some h') :
    ∃ h5 map dang sh dn r, substituteCore h c m = some (h5, map, dang) ∧ SubstCert h c m sh dn map h5 ∧ WF h5 ∧ dn < m.net.nodes.size ∧
      WFm h' ∧ Emb h5 h' r ∧
      (∀ j, j < h5.net.nodes.size → isSeqKind (h5.net.node j).kind = true → ∃ j', j' < h'.net.nodes.size ∧ r.node j' = j) ∧
      ExtP z neg prim h5 h' r := by
  cases hcore : substituteCore h c m with
  | none => simp [substitute, hcore] at he
  | some p =>
    obtain ⟨h5, map, dang⟩ := p
    obtain ⟨sh, dn, ct, w5, hdl⟩ := substituteCore_cert h m c hw mw hc hio hcf hr hok h5 map dang hcore
    obtain ⟨w', r, e, _, sq, x⟩ := substitute_tail z neg prim hcore he w5.toWFm ct.mapLt
    exact ⟨h5, map, dang, sh, dn, r, rfl, ct, w5, hdl, w', e, sq, x⟩

end KV.Transform
