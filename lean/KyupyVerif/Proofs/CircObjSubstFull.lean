import KyupyVerif.Proofs.CircObjSubstStatic
import KyupyVerif.Proofs.CircObjInv
/-! C09: one walk through the calls of `substitute` under `substStatic` (`substStatic_calls`) gives the run-time pin guards and
that the fork outputs of the result are gap-free, so that `substStatic` alone gives `WFc`.

Forks that are not images of `node_map` (the forks of the host, `OldFF`): only `Line.remove` of an ignored input touches their
output lists, and the squeeze keeps them gap-free; every other call of `substCalls` writes output pins of images.
Images that are forks: after the connecting loops their output lists may have a gap (an unconnected output pin of the
instance); the loop that follows makes them dense again (`densify`).  The removal of the dangling logic keeps all forks
gap-free. -/
namespace KV.CircObj
open Call

/-- after `densify` every fork is gap-free: the images by the loop, the others by `OldFF` -/
theorem densify_ffull {nm : NMap} {c5 : Circ} (f : OldFF nm c5) : FFull (densify c5 nm) := by
  intro j hj hk
  obtain ⟨hn, hx⟩ := densify_spec (nm.map (·.2)) c5
  obtain ⟨k1, _, k3⟩ := hx j
  unfold densify at hj hk ⊢
  rw [hn] at hj; rw [k1] at hk
  refine k3 hk ?_
  by_cases hjv : j ∈ nm.map (·.2)
  · exact Or.inl hjv
  · exact Or.inr (f j hj (fun e he hej => hjv (List.mem_map.2 ⟨e, he, hej⟩)) hk)

theorem substStatic_parts {c : Circ} {i : Nat} {m : Circ} (hst : substStatic c i m = true) :
    i ∈ c.nodes ∧ substKinds c i m = true ∧ noSelfLoop c i = true ∧ WFc0 m ∧ m.io.Nodup ∧
    ∀ sh, implShape m = some sh → ∀ dn, sh.des = some dn → inIos m dn = false := by
  unfold substStatic implStatic at hst
  simp only [Bool.and_eq_true, List.contains_eq_mem, decide_eq_true_eq] at hst
  obtain ⟨⟨⟨hi, hk⟩, hloop⟩, ⟨hinv, hioN⟩, hdesNP⟩ := hst
  refine ⟨hi, hk, hloop, ((invOK_iff m).1 hinv).toWFc0, hioN, ?_⟩
  intro sh hs dn hd
  unfold desNotPort at hdesNP
  simp only [hs, hd, Bool.not_eq_true'] at hdesNP
  exact hdesNP

/-- Under `substStatic`, after the loop over the implementation nodes: every pin guard of `substCalls` holds, and their run ends
well formed up to gap-freeness, with `node_map` holding nodes of the circuit and the forks of the host still gap-free. -/
theorem substStatic_calls {c : Circ} {i : Nat} {m : Circ} {sh : Shape} {c2 : Circ} {nm : NMap} (wfc : WFc0 c)
    (hst : substStatic c i m = true) (hs : implShape m = some sh)
    (har : arityOK c i sh = true)
    (h2 : foldO (addImplNode m (c.nobj i).name sh.des) (phase1 c i m sh.des) m.nodes = some (c2, nm)) :
    foldG Call.run Call.guard c2 (substCalls m nm (sh.inPorts.zip (padTo (c.nobj i).ins sh.inPorts.length))
      (sh.outLines.zip (padTo (c.nobj i).outs sh.outLines.length))) = true ∧
    ∀ c5, foldO Call.run c2 (substCalls m nm (sh.inPorts.zip (padTo (c.nobj i).ins sh.inPorts.length))
      (sh.outLines.zip (padTo (c.nobj i).outs sh.outLines.length))) = some c5 →
      WFc0 c5 ∧ (∀ e ∈ nm, e.2 ∈ c5.nodes) ∧ (FFull c → OldFF nm c5) := by
  obtain ⟨hi, hk, hloop, wf, hioN, hdes'⟩ := substStatic_parts hst
  unfold arityOK at har
  simp only [Bool.and_eq_true, decide_eq_true_eq] at har
  have hdes := hdes' sh hs
  obtain ⟨hsp1, hsp2, _⟩ := implShape_spec hs
  obtain ⟨i2, nmi⟩ := foldO_inv (addImplNode m (c.nobj i).name sh.des)
    (fun st rest => CopyInv (InL c i) (OutL c i) st.1 st.2 ∧ NmInv (FFull c) m sh.des st.1 st.2 rest)
    (fun s a rest s' hinv hf => ⟨addImplNode_inv hinv.1 hf, addImplNode_nm wf hdes hinv.2 hf⟩)
    m.nodes _ _ ⟨phase1_inv wfc hi hk hs, phase1_nm wfc hi wf hs hdes⟩ h2
  simp only at i2 nmi
  have hinN : sh.inPorts.Nodup := by rw [hsp1]; exact hioN.sublist List.filter_sublist
  have houtN : sh.outLines.Nodup := by
    rw [hsp2, List.filterMap_map]
    apply nodup_filterMap_of_inj _ _ (hioN.sublist List.filter_sublist)
    intro a ha b hb y h1 h2'
    simp only [Function.comp, id] at h1 h2'
    have r1 := (wf.insBack a (wf.ioIn a (List.mem_filter.1 ha).1) 0 y h1).2.1
    have r2 := (wf.insBack b (wf.ioIn b (List.mem_filter.1 hb).1) 0 y h2').2.1
    rw [r1] at r2; exact Option.some.inj r2
  -- the images have empty pin lists: nothing is written yet
  have hempty : ∀ {k}, k ∈ substCalls m nm (sh.inPorts.zip (padTo (c.nobj i).ins sh.inPorts.length))
      (sh.outLines.zip (padTo (c.nobj i).outs sh.outLines.length)) → ∀ w, k.outWrite = some w ∨ k.inWrite = some w →
      (c2.nobj w.1).ins = [] ∧ (c2.nobj w.1).outs = [] :=
    fun hk _ hw => by obtain ⟨e, he, h⟩ := substCalls_img hk hw; exact h ▸ nmi.empty e he
  have st0 : StaticInv (FFull c) nm c2 c2 (substCalls m nm (sh.inPorts.zip (padTo (c.nobj i).ins sh.inPorts.length))
      (sh.outLines.zip (padTo (c.nobj i).outs sh.outLines.length))) :=
    ⟨substCalls_runInv wfc hi hloop har.1 har.2 i2, fun v p hm => by
        obtain ⟨k, hk, hw⟩ := List.mem_filterMap.1 hm
        rw [(hempty hk _ (Or.inl hw)).2]; exact pin_nil p,
      fun v p hm => by
        obtain ⟨k, hk, hw⟩ := List.mem_filterMap.1 hm
        rw [(hempty hk _ (Or.inr hw)).1]; exact pin_nil p,
      substCalls_wo wf nmi.ok nmi.keyCond (fun pr hpr => by
        have := (List.of_mem_zip hpr).1
        rw [hsp2] at this
        simp only [List.mem_filterMap, List.mem_map, List.mem_filter, id] at this
        obtain ⟨a, ⟨O, ⟨hO, hOl⟩, hOa⟩, ha⟩ := this
        subst ha
        exact ⟨O, hO, by simpa using hOl, hOa⟩) (houtN.sublist (zip_fst_sublist _ _)),
      substCalls_wi wf nmi.ok nmi.keyCond (fun pr hpr => by
        have := (List.of_mem_zip hpr).1
        rw [hsp1, List.mem_filter] at this
        exact ⟨this.1, by simpa using this.2⟩) (hinN.sublist (zip_fst_sublist _ _)),
      fun k hk w hw => substCalls_img hk (Or.inl hw),
      fun e he p y hp => by rw [(nmi.empty e he).2] at hp; simp at hp,
      nmi.ff⟩
  obtain ⟨g, k⟩ := foldG_foldO_of_inv Call.run Call.guard (StaticInv (FFull c) nm c2) (fun _ _ _ h => h.guard)
    (fun _ _ _ _ h r => h.step r) _ c2 st0
  exact ⟨g, fun c5 h5 => ⟨(k c5 h5).wf0, fun e he => (k c5 h5).nn ▸ i2.nm e he, (k c5 h5).ff⟩⟩

theorem substGuards_of_static {c : Circ} {i : Nat} {m : Circ} (wfc : WFc0 c) (hst : substStatic c i m = true) :
    substGuards c i m = true := by
  unfold substGuards
  cases hs : implShape m with
  | none => rfl
  | some sh =>
    simp only
    split
    · rfl
    rename_i har
    have har' : arityOK c i sh = true := by simpa using har
    cases h2 : foldO (addImplNode m (c.nobj i).name sh.des) (phase1 c i m sh.des) m.nodes with
    | none => rfl
    | some st2 => exact (substCalls_guards m st2.2 _ _ st2.1).trans (substStatic_calls wfc hst hs har' h2).1

theorem substPre0_of_static {c : Circ} {i : Nat} {m : Circ} (wfc : WFc0 c) (hst : substStatic c i m = true) :
    substPre0 c i m = true := by
  obtain ⟨hi, hk, hloop, _⟩ := substStatic_parts hst
  unfold substPre0
  simp [hi, hk, hloop, substGuards_of_static wfc hst]

theorem substituteObj_ffull {c c' : Circ} {i : Nat} {m : Circ} (wfc : WFc c) (hst : substStatic c i m = true)
    (h : substituteObj c i m = some c') : FFull c' := by
  obtain ⟨sh, c2, nm, c3, c4, c5, dang, hs, har, h2, h3, h4, h5, h⟩ := substituteObj_some h
  obtain ⟨wf5, hnm, ff5⟩ := (substStatic_calls wfc.toWFc0 hst hs har h2).2 c5 (substCalls_run m nm _ _ h3 h4 h5)
  exact (substTail_inv wf5 hnm (fun n hn => by obtain ⟨e, he, rfl⟩ := connectOut_dang h5 n hn; exact hnm e he) h).2
    (densify_ffull (ff5 wfc.forkFull))

theorem substituteObj_wf_static {c c' : Circ} {i : Nat} {m : Circ} (wfc : WFc c) (hst : substStatic c i m = true)
    (h : substituteObj c i m = some c') : WFc c' :=
  ⟨substituteObj_wf0 wfc.toWFc0 (substPre0_of_static wfc.toWFc0 hst) h, substituteObj_ffull wfc hst h⟩

theorem substPre_of_static {c : Circ} {i : Nat} {m : Circ} (wfc : WFc c) (hst : substStatic c i m = true) :
    substPre c i m = true := by
  unfold substPre
  rw [substPre0_of_static wfc.toWFc0 hst, Bool.true_and]
  cases h : substituteObj c i m with
  | none => rfl
  | some c' => exact forksFull_iff.2 (substituteObj_ffull wfc hst h)

theorem resolvePre_of_static {lib : Lib} {c : Circ} (wf : WFc c) (h : resolveStatic lib c = true) : resolvePre lib c = true := by
  unfold resolveStatic at h
  unfold resolvePre
  refine foldG_mono (resolveStep lib) _ _ (fun cc => WFc cc) ?_ ?_ c.nodes c wf h
  · intro s a hs hg
    cases hl : lib.find (s.nobj a).kind with
    | none => rfl
    | some mm =>
      simp only [hl] at hg ⊢
      exact substPre_of_static hs hg
  · intro s a s' hs hg hf
    unfold resolveStep at hf
    cases hl : lib.find (s.nobj a).kind with
    | none => simp only [hl, Option.some.injEq] at hf; exact hf ▸ hs
    | some mm =>
      simp only [hl] at hf hg
      exact substituteObj_wf_static hs hg hf

end KV.CircObj
