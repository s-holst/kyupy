import KyupyVerif.Model.VerilogLib
import KyupyVerif.Proofs.VerilogEnd
import KyupyVerif.Proofs.ImplDatasheet
/-! Library capstone (C11 ∘ C10 ∘ C19): the parsed Verilog circuit as an `NNet` (`verilogNNet`) and which nodes of the net are the
library cells: exactly the nodes of the library instances (`libHole_iff_inst`), which is the hypothesis on the hole set of
`verilog_parsed_sem_holes`; for any such pair of an instance set and a node set, the node of an end point is in the node set iff the
end point belongs to an instance of the set (`hole_driver_iff`; `libHole_iff` is the case of the library).  Then the **hole-set
`verilog_parsed_sem` in the vocabulary of C10**: the labellings of the parsed circuit (as `NNet`) that are consistent outside the
library-cell nodes (`ConsOff … (libHole lib …)`) are exactly the labellings of the environments that satisfy every equation of the
module except those of the library instances (`VModelOff`). -/
namespace KV.Netlist
open KV KV.Transform

universe u
variable {cfg : Cfg} {tl : TL} {ports : List String} {stmts : List Stmt}


theorem verilogNNet_net : (verilogNNet cfg tl ports stmts).net = verilogNet cfg tl ports stmts := rfl

/-- the library-cell nodes of a dump: the hole set of `C10.resolve_sem` -/
def libHole (lib : Lib) (nn : NNet) (x : Nat) : Prop := x < nn.net.nodes.size ∧ (lib.find (nn.net.node x).kind).isSome = true

theorem verilogNet_kind (e : Ep) (he : (module cfg tl ports stmts).resolved e) :
    ((verilogNet cfg tl ports stmts).node ((module cfg tl ports stmts).nodeIdx e)).kind = (module cfg tl ports stmts).kindOf e :=
  toNet_kind _ _ e he

theorem v_driver_cases (hok : VOK cfg tl ports stmts) (t : VLine) (ht : t ∈ vFlat cfg tl (sigDecls stmts) stmts) :
    (∃ i ∈ vInsts stmts, ∃ o ∈ outConn tl (sigDecls stmts) i, t = ⟨.cell i.name o.1, .fork o.2, o.2⟩) ∨
    ∀ HI, ¬ holeEp stmts HI t.d := by
  cases vFlat_cases hok t ht with
  | instOut i hi o ho => exact .inl ⟨i, hi, o, ho, rfl⟩
  | input n hn => exact .inr fun HI => not_hole_input hok HI n hn 0
  | pairConst k ts st hc => exact .inr fun HI => not_hole_const hok HI _ (st.cname hc) 0
  | connConst k i c st hc => exact .inr fun HI => not_hole_const hok HI _ (st.cname hc) 0
  | _ => exact .inr fun HI => not_hole_fork HI _

structure LibClean (lib : Lib) (stmts : List Stmt) : Prop where
  input : lib.find "input" = none
  output : lib.find "output" = none
  fork : lib.find forkKind = none
  c0 : lib.find "__const0__" = none
  c1 : lib.find "__const1__" = none
  noSeq : ∀ i ∈ vInsts stmts, (lib.find i.ty).isSome = true → isSeqKind i.ty = false

theorem libClean_of {lib : Lib} (h : libCleanB lib stmts = true) : LibClean lib stmts := by
  unfold libCleanB at h
  simp only [Bool.and_eq_true, Option.isNone_iff_eq_none, List.all_eq_true, Bool.not_eq_true'] at h
  obtain ⟨⟨⟨⟨⟨h1, h2⟩, h3⟩, h4⟩, h5⟩, h6⟩ := h
  refine ⟨h1, h2, h3, h4, h5, fun i hi hs => ?_⟩
  have := h6 i hi
  rw [hs] at this
  simpa using this

theorem inst_node_kind (hok : VOK cfg tl ports stmts) (i : VInst) (hi : i ∈ vInsts stmts) :
    ((verilogNNet cfg tl ports stmts).net.node ((module cfg tl ports stmts).nodeIdx (.cell i.name 0))).kind = i.ty := by
  rw [verilogNNet_net, verilogNet_kind _ (v_resolved_inst hok i hi 0), v_kindOf_inst hok i hi]

def isLibInst (lib : Lib) (i : VInst) : Prop := (lib.find i.ty).isSome = true

theorem libHole_inst (hok : VOK cfg tl ports stmts) (lib : Lib) (i : VInst) (hi : i ∈ vInsts stmts) (p : Nat) :
    libHole lib (verilogNNet cfg tl ports stmts) ((module cfg tl ports stmts).nodeIdx (.cell i.name p)) ↔ isLibInst lib i := by
  have hres := v_resolved_inst hok i hi p
  unfold libHole isLibInst
  rw [verilogNNet_net, verilogNet_kind _ hres, v_kindOf_inst hok i hi]
  constructor
  · exact fun h => h.2
  · intro h
    refine ⟨?_, h⟩
    exact verilogNet_idx_lt hres

theorem libHole_is_inst (hok : VOK cfg tl ports stmts) (lib : Lib) (hcl : LibClean lib stmts) (c : Nat)
    (hc : libHole lib (verilogNNet cfg tl ports stmts) c) :
    ∃ i ∈ vInsts stmts, isLibInst lib i ∧ c = (module cfg tl ports stmts).nodeIdx (.cell i.name 0) := by
  obtain ⟨hlt, hk⟩ := hc
  have hlt' : c < (module cfg tl ports stmts).nodes.length := by
    have : c < (verilogNet cfg tl ports stmts).nodes.size := hlt
    unfold verilogNet at this; rwa [toNet_nodes_size] at this
  have hkind : ((verilogNNet cfg tl ports stmts).net.node c).kind = ((module cfg tl ports stmts).nodes[c]).kind :=
    toNet_node_kind _ _ c hlt'
  rw [hkind] at hk
  by_cases hf : ((module cfg tl ports stmts).nodes[c]).kind = forkKind
  · rw [hf, hcl.fork] at hk; cases hk
  · have hmem : (module cfg tl ports stmts).nodes[c] ∈ cellsOf (module cfg tl ports stmts) := by
      unfold cellsOf
      exact List.mem_filter.mpr ⟨List.getElem_mem _, by simp [hf]⟩
    have hidx := nodeIdx_cell_unique _ (module_cells_nodup hok) c _ (List.getElem?_eq_getElem hlt') hf 0
    rw [module_cells hok] at hmem
    simp only [List.mem_append, List.mem_map, List.mem_flatMap] at hmem
    rcases hmem with (⟨i, hi, hx⟩ | ⟨d, hd, hx⟩) | hx
    · refine ⟨i, hi, ?_, ?_⟩
      · unfold isLibInst; rw [← hx] at hk; exact hk
      · rw [← hidx, ← hx]; rfl
    · exfalso
      unfold portCells at hx
      split at hx
      · cases hx
      · obtain ⟨n, _, hn⟩ := List.mem_map.mp hx
        rw [← hn] at hk
        simp only at hk
        cases hdk : d.kind with
        | input => rw [hdk] at hk; simp only [DKind.str] at hk; rw [hcl.input] at hk; cases hk
        | output => rw [hdk] at hk; simp only [DKind.str] at hk; rw [hcl.output] at hk; cases hk
        | wire => rename_i hw _; rw [hdk] at hw; simp at hw
    · exfalso
      obtain ⟨s, hs, hks⟩ := constCells_kind _ _ _ _ _ hx
      rw [hks] at hk
      rcases constKind_cases s hs with h | h <;> rw [h] at hk
      · rw [hcl.c0] at hk; cases hk
      · rw [hcl.c1] at hk; cases hk

theorem hole_driver_iff (hok : VOK cfg tl ports stmts) (HI : VInst → Prop) (S : Nat → Prop)
    (hS : ∀ n, S n ↔ ∃ i ∈ vInsts stmts, HI i ∧ n = (module cfg tl ports stmts).nodeIdx (.cell i.name 0))
    (d : Ep) : S ((module cfg tl ports stmts).nodeIdx d) ↔ holeEp stmts HI d := by
  constructor
  · intro h
    obtain ⟨i, hi, hH, hidx⟩ := (hS _).mp h
    rcases ep_driver_inj _ _ _ (v_resolved_inst hok i hi 0) hidx with ⟨f, h1, _⟩ | ⟨n, p, p', h1, h2⟩
    · cases h1
    · simp only [Ep.cell.injEq] at h1
      obtain ⟨rfl, rfl⟩ := h1
      exact ⟨i, hi, hH, p', h2⟩
  · rintro ⟨i, hi, hH, p, rfl⟩
    exact (hS _).mpr ⟨i, hi, hH, rfl⟩

theorem libHole_iff_inst (hok : VOK cfg tl ports stmts) (lib : Lib) (hcl : LibClean lib stmts) (c : Nat) :
    libHole lib (verilogNNet cfg tl ports stmts) c ↔
      ∃ i ∈ vInsts stmts, isLibInst lib i ∧ c = (module cfg tl ports stmts).nodeIdx (.cell i.name 0) :=
  ⟨libHole_is_inst hok lib hcl c, fun ⟨i, hi, h, e⟩ => e ▸ (libHole_inst hok lib i hi 0).mpr h⟩

theorem libHole_iff (hok : VOK cfg tl ports stmts) (lib : Lib) (hcl : LibClean lib stmts) (t : VLine)
    (ht : t ∈ vFlat cfg tl (sigDecls stmts) stmts) :
    libHole lib (verilogNNet cfg tl ports stmts) ((module cfg tl ports stmts).nodeIdx t.d) ↔
      holeEp stmts (fun i => (lib.find i.ty).isSome = true) t.d :=
  -- true of every end point, on a line or not
  have _ := ht
  hole_driver_iff hok (isLibInst lib) _ (libHole_iff_inst hok lib hcl) t.d

theorem verilog_model_consOff {α : Type u} (hok : VOK cfg tl ports stmts) (lib : Lib) (z : α) (neg : α → α)
    (prim : String → α → α → α → α → α) (a : Nat → α) (σ : String → α)
    (hm : VModelOff (isLibInst lib) tl ports stmts z neg prim a σ) :
    ConsOff (verilogNNet cfg tl ports stmts) (libHole lib (verilogNNet cfg tl ports stmts)) z neg prim
      (fun n => a ((verilogNet cfg tl ports stmts).sNodes.idxOf n)) (vLabel cfg tl stmts z prim σ) := by
  apply (consOff_iff_labellingOff (verilogNNet cfg tl ports stmts) _ z neg prim a _ (fun _ _ => rfl) _).mpr
  exact v_model_labelling_off hok (isLibInst lib) _ (fun i hi h => (libHole_inst hok lib i hi 0).mpr h) z neg prim a σ hm

theorem verilog_consOff_model {α : Type u} (hok : VOK cfg tl ports stmts) (lib : Lib) (hcl : LibClean lib stmts) (z : α)
    (neg : α → α) (prim : String → α → α → α → α → α) (an v : Nat → α)
    (hc : ConsOff (verilogNNet cfg tl ports stmts) (libHole lib (verilogNNet cfg tl ports stmts)) z neg prim an v) :
    ∃ σ, VModelOff (isLibInst lib) tl ports stmts z neg prim (fun p => an ((verilogNet cfg tl ports stmts).sNodes.getD p 0)) σ ∧
      ∀ i, i < (verilogNet cfg tl ports stmts).lines.size → v i = vLabel cfg tl stmts z prim σ i := by
  have h1 := (consOff_iff_labellingOff (verilogNNet cfg tl ports stmts) _ z neg prim
    (fun p => an ((verilogNet cfg tl ports stmts).sNodes.getD p 0)) an (fun n hn => by
      have hn' : n ∈ (verilogNet cfg tl ports stmts).sNodes := hn
      show an n = an ((verilogNet cfg tl ports stmts).sNodes.getD ((verilogNet cfg tl ports stmts).sNodes.idxOf n) 0)
      rw [List.getD_eq_getElem?_getD, List.getElem?_eq_getElem (List.idxOf_lt_length_iff.mpr hn')]
      simp) v).mp hc
  exact v_labelling_model_off hok (isLibInst lib) _ (fun t ht h => (libHole_iff hok lib hcl t ht).mp h) z neg prim _ v h1

end KV.Netlist
