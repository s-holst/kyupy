import KyupyVerif.Model.Grid
/-! The mock-GPU launch covers the work items exactly: after the guards, the launched threads are a duplicate-free
enumeration of `{(x, y) | x < n ∧ y < m}` — a permutation of the CPU double loop — for every block shape. -/
namespace KV.Grid

theorem cdiv_spec (x y : Nat) (hy : 0 < y) : x ≤ cdiv x y * y ∧ (0 < x → (cdiv x y - 1) * y < x) := by
  unfold cdiv
  have h1 := Nat.div_add_mod (x + y - 1) y
  have h2 := Nat.mod_lt (x + y - 1) hy
  have hc : y * ((x + y - 1) / y) = (x + y - 1) / y * y := Nat.mul_comm _ _
  constructor
  · omega
  · intro hx
    have hpos : 0 < (x + y - 1) / y := Nat.div_pos (by omega) hy
    have : ((x + y - 1) / y - 1) * y = (x + y - 1) / y * y - y := by
      rw [Nat.sub_mul]; simp
    omega

theorem mem_launch {gx gy bx by_ : Nat} {p : Nat × Nat} :
    p ∈ launch gx gy bx by_ ↔ ∃ a < gx, ∃ b < gy, ∃ c < bx, ∃ d < by_, p = (a * bx + c, b * by_ + d) := by
  simp only [launch, List.mem_flatMap, List.mem_map, List.mem_range]
  constructor
  · rintro ⟨a, ha, b, hb, c, hc, d, hd, rfl⟩; exact ⟨a, ha, b, hb, c, hc, d, hd, rfl⟩
  · rintro ⟨a, ha, b, hb, c, hc, d, hd, rfl⟩; exact ⟨a, ha, b, hb, c, hc, d, hd, rfl⟩

theorem divmod_unique {b a c a' c' : Nat} (hc : c < b) (hc' : c' < b) (h : a * b + c = a' * b + c') : a = a' ∧ c = c' := by
  have hb : 0 < b := by omega
  have e1 : (a * b + c) / b = a := by
    rw [Nat.mul_comm, Nat.mul_add_div hb, Nat.div_eq_of_lt hc]; simp
  have e2 : (a' * b + c') / b = a' := by
    rw [Nat.mul_comm, Nat.mul_add_div hb, Nat.div_eq_of_lt hc']; simp
  have : a = a' := by rw [← e1, ← e2, h]
  subst this
  exact ⟨rfl, by omega⟩

theorem launch_sorted (gx gy bx by_ : Nat) :
    (launch gx gy bx by_).Pairwise (fun p q => p.1 = q.1 → p.2 < q.2) := by
  unfold launch
  simp only [List.pairwise_flatMap, List.pairwise_map]
  refine ⟨fun a _ => ⟨fun b _ => ⟨fun c _ => ?_, ?_⟩, ?_⟩, ?_⟩
  · refine List.Pairwise.imp ?_ (List.pairwise_lt_range (n := by_))
    intro d d' hlt _
    show b * by_ + d < b * by_ + d'
    omega
  · refine List.Pairwise.imp ?_ (List.pairwise_lt_range (n := bx))
    intro c c' hlt x hx y hy
    simp only [List.mem_map, List.mem_range] at hx hy
    obtain ⟨d, _, rfl⟩ := hx; obtain ⟨d', _, rfl⟩ := hy
    intro h; simp only at h; omega
  · refine List.Pairwise.imp_of_mem ?_ (List.pairwise_lt_range (n := gy))
    intro b b' _ _ hlt x hx y hy
    simp only [List.mem_flatMap, List.mem_map, List.mem_range] at hx hy
    obtain ⟨c, _, d, hd, rfl⟩ := hx; obtain ⟨c', _, d', hd', rfl⟩ := hy
    intro _
    show b * by_ + d < b' * by_ + d'
    have : (b + 1) * by_ ≤ b' * by_ := Nat.mul_le_mul_right _ hlt
    rw [Nat.add_mul] at this
    omega
  · refine List.Pairwise.imp_of_mem ?_ (List.pairwise_lt_range (n := gx))
    intro a a' _ _ hlt x hx y hy
    simp only [List.mem_flatMap, List.mem_map, List.mem_range] at hx hy
    obtain ⟨b, _, c, hc, d, _, rfl⟩ := hx; obtain ⟨b', _, c', hc', d', _, rfl⟩ := hy
    intro h; simp only at h
    have := (divmod_unique hc hc' h).1
    omega

theorem cpuLoop_sorted (n m : Nat) : (cpuLoop n m).Pairwise (fun p q => p.1 = q.1 → p.2 < q.2) := by
  unfold cpuLoop
  simp only [List.pairwise_flatMap, List.pairwise_map]
  refine ⟨fun y _ => ?_, ?_⟩
  · refine List.Pairwise.imp ?_ (List.pairwise_lt_range (n := n))
    intro a b hlt h
    have : a = b := h
    omega
  · refine List.Pairwise.imp ?_ (List.pairwise_lt_range (n := m))
    intro a b hlt x hx y hy
    simp only [List.mem_map, List.mem_range] at hx hy
    obtain ⟨_, _, rfl⟩ := hx; obtain ⟨_, _, rfl⟩ := hy
    intro _; exact hlt

theorem nodup_of_sorted {l : List (Nat × Nat)} (h : l.Pairwise (fun p q => p.1 = q.1 → p.2 < q.2)) : l.Nodup :=
  h.imp fun hpq e => by subst e; exact absurd (hpq rfl) (Nat.lt_irrefl _)

theorem launch_nodup (gx gy bx by_ : Nat) : (launch gx gy bx by_).Nodup := nodup_of_sorted (launch_sorted gx gy bx by_)

theorem cpuLoop_nodup (n m : Nat) : (cpuLoop n m).Nodup := nodup_of_sorted (cpuLoop_sorted n m)

theorem mem_cpuLoop {n m : Nat} {p : Nat × Nat} : p ∈ cpuLoop n m ↔ p.1 < n ∧ p.2 < m := by
  simp only [cpuLoop, List.mem_flatMap, List.mem_map, List.mem_range]
  constructor
  · rintro ⟨y, hy, x, hx, rfl⟩; exact ⟨hx, hy⟩
  · rintro ⟨hx, hy⟩; exact ⟨p.2, hy, p.1, hx, rfl⟩

theorem split_index {x g b : Nat} (hb : 0 < b) (hx : x < g * b) : ∃ a < g, ∃ c < b, x = a * b + c := by
  refine ⟨x / b, ?_, x % b, Nat.mod_lt _ hb, ?_⟩
  · exact (Nat.div_lt_iff_lt_mul hb).mpr hx
  · have := Nat.div_add_mod x b; rw [Nat.mul_comm] at this; omega

theorem mem_kernelThreads {n m bx by_ : Nat} (hbx : 0 < bx) (hby : 0 < by_) {p : Nat × Nat} :
    p ∈ kernelThreads n m bx by_ ↔ p.1 < n ∧ p.2 < m := by
  simp only [kernelThreads, active, List.mem_filter, Bool.and_eq_true, decide_eq_true_eq, mem_launch]
  constructor
  · exact fun h => h.2
  · rintro ⟨hx, hy⟩
    refine ⟨?_, hx, hy⟩
    obtain ⟨a, ha, c, hc, ex⟩ := split_index hbx (Nat.lt_of_lt_of_le hx (cdiv_spec n bx hbx).1)
    obtain ⟨b, hb, d, hd, ey⟩ := split_index hby (Nat.lt_of_lt_of_le hy (cdiv_spec m by_ hby).1)
    exact ⟨a, ha, b, hb, c, hc, d, hd, by rw [← ex, ← ey]⟩

theorem kernelThreads_nodup (n m bx by_ : Nat) : (kernelThreads n m bx by_).Nodup :=
  (launch_nodup _ _ _ _).filter _

theorem kernelThreads_perm (n m bx by_ : Nat) (hbx : 0 < bx) (hby : 0 < by_) :
    (kernelThreads n m bx by_).Perm (cpuLoop n m) :=
  (List.perm_ext_iff_of_nodup (kernelThreads_nodup n m bx by_) (cpuLoop_nodup n m)).mpr fun p => by
    rw [mem_kernelThreads hbx hby, mem_cpuLoop]

/-- no surplus block: the last block row / column contains an active thread (the grid is not larger than needed) -/
theorem grid_tight (n b : Nat) (hb : 0 < b) (hn : 0 < n) : (cdiv n b - 1) * b < n := (cdiv_spec n b hb).2 hn

end KV.Grid
