import KyupyVerif.Proofs.MemMapAccept
import KyupyVerif.Proofs.Cycle
/-! C01: the table condition `Cycle.zeroCapB` of `cycle_on_memory` / `cycle_end_to_end` holds for the tables the `SimOps` model
builds (`simopsMap`): the last pass of `memMap` copies the row of the constant-0 slot into the (P)PO slot of every flip-flop /
latch with open data pin (sim.py: known finding D9). -/
namespace KV
open KV.Cycle

theorem mapAliases_zero (net : Net) (st : Array (Option Nat)) (s : MapSt)
    (hl : s.locs.size = net.idx.len) (hc : s.caps.size = net.idx.len)
    (q : Nat) (hq : q < net.sNodes.length) (hio : net.io.length ≤ q) (hpin : (sNodeAt net q).inPin 0 = none) :
    (mapAliases net st s).locs.getD (net.idx.ppo + q) (-1) = (mapAliases net st s).locs.getD net.idx.zero (-1) := by
  rw [mapAliases_eq]
  obtain ⟨hz, hlen⟩ := idx_facts net
  obtain ⟨_, a2, a3⟩ := aliasFold_basic s (stemPairs st)
  have hlow := ppoPairs_dst net net.idx.zero hz
  have hmem : (net.idx.ppo + q, net.idx.zero) ∈ ppoPairs net := by
    unfold ppoPairs
    rw [List.mem_filterMap]
    refine ⟨(net.sNodes[q], q), List.mem_zipIdx_iff_getElem?.2 (by simp [hq]), ?_⟩
    unfold sNodeAt at hpin
    rw [List.getD_eq_getElem?_getD, List.getElem?_eq_getElem hq] at hpin
    simp only [Option.getD_some] at hpin
    unfold ppoPairF
    simp only [hpin, hio, if_true]
  exact (Prod.mk.inj ((aliasFold_reg_set (aliasFold s (stemPairs st)) (ppoPairs net) (net.idx.ppo + q) net.idx.zero
    (ppoPairs_pairwise net) hmem hlow (by omega) (by omega)).trans
    (aliasFold_reg_keep (aliasFold s (stemPairs st)) (ppoPairs net) net.idx.zero hlow).symm)).1

theorem zeroCapB_simopsMap (tbl : List PrefixRow) (net : Net) (order : List Nat) (strip : Bool) (capsIn : Nat → Nat)
    (capsMin : Nat) (reuse : Bool) (hwf : net.wfB = true) (ho : orderOKB net order = true)
    (hf : strip = true → forksOKB net order = true) (hr : readsDrivenB tbl net order = true) (hpos : 0 < capsMin) :
    zeroCapB (simopsMap tbl net order strip capsIn capsMin reuse) = true := by
  let p := simopsMap tbl net order strip capsIn capsMin reuse
  have hp : ProgOK p := simops_progOK tbl p order hwf ho hf hr rfl rfl
  have hM := mapLevels_inv hp hpos reuse capsIn (levelise p.ix.len p.stems p.ops) rfl
    (levelise_inv _ _ _).rsz (fun x hx => levelise_refc _ _ _ x hx)
  obtain ⟨hA, _⟩ := hM
  have hlocs : p.locs = (mapAliases p.net p.stems (mapLevels p.net p.ops p.stems (levelise p.ix.len p.stems p.ops) capsIn
      p.capsMin reuse)).locs := by
    show (memMap _ _ _ _ _ _ _).locs = _
    rw [memMap_eq_fold]; rfl
  show zeroCapB p = true
  unfold zeroCapB
  rw [List.all_eq_true]
  intro q hq
  obtain ⟨hio, hlt⟩ := (mem_ppioS p.net q).1 hq
  cases hpin : (sNodeAt p.net q).inPin 0 with
  | some l => rfl
  | none =>
    simp only [Option.isSome_none, Bool.false_or, beq_iff_eq]
    unfold MapIn.loc
    rw [hlocs]
    exact mapAliases_zero p.net p.stems _ hA.szl hA.szc q hlt hio hpin
end KV
