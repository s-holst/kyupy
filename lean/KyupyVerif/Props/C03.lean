import KyupyVerif.Proofs.WaveMemDemo
import KyupyVerif.Props.C08
import KyupyVerif.Proofs.WaveBridge
/-! # C03 — timing simulation settles to the Boolean function for any delays/capacity

Model (M, tied by correspondence with `wave_eval_cpu` and whole `WaveSim` runs): `Wave.waveEval` is a
transcription of `wave_sim._wave_eval` (four cursors, toggle mask, output stack, pulse filtering, overflow
branch, terminator); `Wave.simWave` runs it over an op program with per-line delay tables and per-signal
capacities.  Time is exact integer ticks plus the sentinels `tmin < fin _ < tmax < tovl` (the real code
uses float32; the tie holds on a dyadic grid, see DESIGN.md section 3).

**Memory level** (second half of this file). The theorems of the first half speak about signals (`simWave`: an environment
`Nat → Wv`). The real simulator keeps every waveform in the flat array `c` inside the region
`[c_locs[i], c_locs[i] + c_caps[i])` of its signal: entries, one terminator, stale cells behind it; regions are shared by
stripped fork branches and their stems and, with `c_reuse`, re-used once a signal is dead. `Wave.rdWave` reads a region
the way `_wave_eval`, `wave_capture_cpu` and the harness do (up to the first cell `≥ TMAX`, never beyond the capacity),
`Wave.wrWave junk` writes entries + terminator and ANY left-overs `junk` behind it, `Wave.WaveStep` is the contract of
one `_wave_eval` call on memory (only the output region changes; it then reads as `waveEval` of what the four operand
regions — addressed through `c_locs/c_caps` of the operand INDEX, so a stripped branch reads its stem's memory — read
before), `Wave.WaveRun` a sequence of such calls.
THEOREMS: `wave_storage_roundtrip`, `wave_result_fits` (the evaluator's result always fits the capacity of its output:
at most `cap - 1` entries + terminator), `wave_memory_sound` (accepted map certificate ⇒ in every memory reachable by
such calls in any duplicate-free order that respects `level_starts`, every output slot's region reads as the waveform
`simWave` computes for the captured signal), `wave_memory_run_exists` (the deterministic read-evaluate-write run is such a
run, for every choice of left-overs — the statement is not vacuous), `wave_memory_settles`,
`wave_sim_end_to_end_all_circuits` (for the tables of the `SimOps` model — every well-formed netlist, topological order,
`strip_forks`/`c_reuse` setting, capacity vector, `c_caps_min ≥ 4`, delays ≥ 0, well-formed input waveforms — the
certificate is the theorem `C08.simops_map_accepted`, and what `c_to_s` finds in the region of output slot `i` starts /
ends at the value THE solution of the netlist's gate equations gives to the captured line for the initial / final input
values; also the captured `s[3]`, `s[6]`).
STILL CORRESPONDENCE: that the real `_wave_eval` honours `WaveStep` (its result is `waveEval`'s: gate-level and
whole-run correspondence of C03; its writes stay inside the output region: guard cells in the gate-level check), that the
real tables are the model's tables (C08), float32 vs exact time. The harness additionally compares, on every whole run
(also with `c_reuse`), the real memory at every output slot read through `c_locs/c_caps` of the SLOT index with the model's
signal-level waveform of the captured signal. -/
namespace KV.C03
open KV KV.Sig KV.Wave

/-- gate level, ONE loop iteration (any LUT, any delays — no sign restriction —, capacity ≥ 2, any state, overflow or not)
    preserves the parity invariant: the number of entries on the output stack has the parity of the LUT value of the toggled
    inputs. The whole-loop statements (`Wave.wave_gate_final`, `wave_settles`) assume delays ≥ 0, capacity ≥ 4 and well-formed
    operands, which the initial-value half needs. -/
theorem gate_parity (lut : Nat) (D : Delays) (terms : Fin 4 → T) (zcap : Nat) (hc : 2 ≤ zcap) (s : St)
    (h : PInv lut s) : PInv lut (step lut D terms zcap s) := step_inv lut D terms zcap hc s h

/-- **every circuit (op program), every delay annotation ≥ 0, every capacity vector ≥ 4, every input
    waveform**: each signal's waveform is well formed, starts at the Boolean (LUT) function of the inputs'
    initial values and — by transition parity — ends at the Boolean function of their final values. -/
theorem wave_settles (cfg : WCfg) (ops : List Op) (hg : cfg.Good ops) (env : Nat → Wv)
    (henv : ∀ l, (env l).ok) (l : Nat) :
    (simWave cfg ops env l).ok ∧
    (simWave cfg ops env l).init = exec lutSem ops (fun x => (env x).init) l ∧
    (simWave cfg ops env l).final = exec lutSem ops (fun x => (env x).final) l :=
  ⟨simWave_ok cfg ops hg env henv l,
   simWave_val cfg ops hg Wv.init rfl
     (fun _ hop _ hx => (waveSem_init_final (hg.opOK hop hx)).1) env henv l,
   simWave_val cfg ops hg Wv.final rfl
     (fun _ hop _ hx => (waveSem_init_final (hg.opOK hop hx)).2) env henv l⟩

/-- stimulus waveforms built by `s_to_c` are well formed and encode (initial, final) -/
theorem stim_ok (i f : Bool) (t : Int) : (stimWave i t f).ok ∧ (stimWave i t f).init = i ∧ (stimWave i t f).final = f := by
  cases i <;> cases f <;> simp [stimWave, Wv.ok, WfRem, Wv.init, Wv.final, T.isFin, T.isTerm]

/-- with capacity 2 the initial-value statement is FALSE (the overflow branch drops the leading `tmin`):
    the hypothesis `4 ≤ cap` (kyupy's `c_caps_min`) is needed. A buffer on `[tmin, 5, 9]` (initially 1)
    yields `[9]`, which reads as initially 0. -/
example : (waveEval 0xAAAA (fun _ _ _ => 0) (fun i => if i = 0 then [T.tmin, T.fin 5, T.fin 9] else []) (fun _ => T.tmax) 2).1
    = [T.fin 9] := by decide +kernel

-- With capacity 3 it is false too, by another way: the overflow pop leaves one entry, `[tmin]`, and sets `previous_t` to the popped
-- time, so the next narrow pulse is measured against that time and pops `tmin` itself; with one more cell two entries remain and
-- `tmin` is out of reach (`InvB.jj`).  Witness: an XOR2 (0x6666) with delays 0 / 2 on `[0, 1]` (initially 0) and `[tmin, 0]`
-- (initially 1) at capacity 3 yields `[]`, which reads as initially 0.

/-- non-vacuity: a NAND2 whose second operand rises at 3 while the first is high from the start; delays 1 -/
example : (waveSem ⟨fun _ _ _ => 1, fun _ => 4⟩ ⟨0x7777, 7, [0, 1, 9, 9]⟩ [⟨[T.tmin], T.tmax⟩, ⟨[T.fin 3], T.tmax⟩, Wv.empty, Wv.empty])
    = ⟨[T.tmin, T.fin 4], T.tmax⟩ := by decide +kernel

/-! ## memory level -/
open KV.MapSound

/-- storing and reading back: a waveform with fewer than `c` entries, none of them a terminator, and a genuine
    terminator is read back exactly from a region of capacity `c`, whatever is left in the cells behind the terminator
    and whatever the rest of memory holds; nothing outside the region changes -/
theorem wave_storage_roundtrip (junk : Int → T) (l : Int) (c : Nat) (w : Wv) (m : Int → T) (hf : Fits c w) :
    rdWave l c (wrWave junk l c w m) = w ∧
    ∀ a, ¬ (l ≤ a ∧ a < l + (c : Int)) → wrWave junk l c w m a = m a :=
  ⟨rd_wr_fit junk l c w m hf, fun a h => wrWave_frame junk l c w m a h⟩

/-- non-vacuity: a two-entry waveform fits a region of capacity 4 (not one of capacity 2) -/
example : Fits 4 ⟨[T.tmin, T.fin 8], T.tmax⟩ ∧ ¬ Fits 2 ⟨[T.tmin, T.fin 8], T.tmax⟩ := by
  refine ⟨⟨by decide, by decide, rfl⟩, fun h => absurd h.1 (by decide)⟩

/-- **writes stay inside the capacity**: for delays ≥ 0, output capacity ≥ 4 and well-formed operands the evaluator's
    result has at most `cap - 1` entries, none of them a terminator, and a terminator — it fits the output region -/
theorem wave_result_fits (cfg : WCfg) (op : Op) (xs : List Wv) (hd : ∀ l p q, 0 ≤ cfg.delay l p q)
    (hc : 4 ≤ cfg.cap op.out) (hx : ∀ x ∈ xs, x.ok) : Fits (cfg.cap op.out) (waveSem cfg op xs) :=
  waveSem_fits cfg op xs hd hc hx

/-- an input slot as `s_to_c` fills it (three cells) reads as the stimulus waveform (freshly allocated memory reads as the constant
    0 everywhere: `Wave.rdWave_fresh`) -/
theorem stimulus_in_memory (l : Int) (c : Nat) (m : Int → T) (i f : Bool) (t : Int)
    (h : (cells l c m).take 3 = stimCells i t f) : rdWave l c m = stimWave i t f := rdWave_stim l c m i f t h

/-- the initial memory of a simulation — `s_to_c` has written its three cells into every input slot (initial value, transition
    time, final value per slot: `stim`), the zero slot still starts with the `TMAX` of the freshly allocated array — satisfies
    the stimulus hypothesis of the theorems below: all these regions read as well-formed waveforms, namely the stimulus
    waveforms `stimWave` and the constant 0 -/
theorem stimulus_memory_ok (p : MapIn) (m0 : Int → T) (stim : Nat → Bool × Int × Bool)
    (hs : ∀ x ∈ p.ppiSlots, (cells (p.loc x) (p.cap x) m0).take 3 = stimCells (stim x).1 (stim x).2.1 (stim x).2.2)
    (hz : (cells (p.loc p.ix.zero) (p.cap p.ix.zero) m0).head? = some T.tmax) :
    (∀ x, x ∈ p.ppiSlots ∨ x = p.ix.zero → (rdWave (p.loc x) (p.cap x) m0).ok) ∧
    (∀ x ∈ p.ppiSlots, inputEnv p m0 x = stimWave (stim x).1 (stim x).2.1 (stim x).2.2) := by
  constructor
  · intro x hx
    by_cases hxp : x ∈ p.ppiSlots
    · rw [rdWave_stim _ _ _ _ _ _ (hs x hxp)]; exact stimWave_ok _ _ _
    · rcases hx with h | h
      · exact absurd h hxp
      · subst h; rw [rdWave_tmax_head _ _ _ hz]; exact Wv.empty_ok
  · intro x hx
    unfold inputEnv
    rw [if_pos (Or.inl hx)]
    exact rdWave_stim _ _ _ _ _ _ (hs x hx)

/-- for an accepted map the region a row writes overlaps the region of none of its operands — so "read the four operand
    waveforms, evaluate, store the result" (the step of the memory model) describes an evaluator that, like `_wave_eval`,
    reads operand cells and writes output cells interleaved -/
theorem operands_disjoint_from_output (p : MapIn) (hc : p.check = none) (k : Nat) (o : OpRow) (hk : p.ops[k]? = some o)
    (i : Nat) (hi : i ∈ o.ins) : p.overlap i o.out = false :=
  operand_output_disjoint (good_of_check p hc) hk hi

/-- **memory level = signal level** (any map the certificate accepts, any implementation of the evaluator calls that
    honours `WaveStep`, any duplicate-free execution order that respects `level_starts`): the region of every output slot
    `j` reads as the waveform `simWave` computes — in program order, without any memory — for the captured signal `s`.
    `env0`: any signal environment that agrees with the initial memory on the signals no row writes (input slots, zero
    slot). No hypothesis on delays or capacities is needed here: a run that honours the contract is given. -/
theorem wave_memory_sound (p : MapIn) (hc : p.check = none) (delay : Nat → Bool → Bool → Int)
    (sched : List Nat) (hsched : p.schedOKB sched = true) (m0 m' : Int → T) (env0 : Nat → Wv)
    (h0 : ∀ x ∈ p.tracked, (∀ o ∈ p.ops, o.out ≠ x) → rdWave (p.loc x) (p.cap x) m0 = env0 x)
    (hrun : WaveRun p (wcfg p delay) (schedOps p sched) m0 m') :
    ∀ j s, (j, s) ∈ p.ppoSrcs → rdWave (p.loc j) (p.cap j) m' = simWave (wcfg p delay) (waveProg p) env0 s :=
  propagated_eq_sim p hc delay m0 m' env0 h0 ⟨sched, hsched, hrun⟩

/-- **such runs exist**: with `c_caps_min ≥ 4`, delays ≥ 0 and well-formed input waveforms, reading the four operand
    regions, evaluating `waveEval` and storing the result into the output region (with ANY left-overs `junk` behind the
    terminator) honours the contract at every step: every result fits, the operands stay well formed -/
theorem wave_memory_run_exists (p : MapIn) (hc : p.check = none) (h4 : 4 ≤ p.capsMin) (delay : Nat → Bool → Bool → Int)
    (hd : ∀ l a b, 0 ≤ delay l a b) (junk : Int → Nat → Wv → (Int → T) → Int → T)
    (sched : List Nat) (hsched : p.schedOKB sched = true) (m0 : Int → T) (env0 : Nat → Wv) (henv : ∀ x, (env0 x).ok)
    (h0 : ∀ x ∈ p.tracked, (∀ o ∈ p.ops, o.out ≠ x) → rdWave (p.loc x) (p.cap x) m0 = env0 x) :
    WaveRun p (wcfg p delay) (schedOps p sched) m0
      (memRun p (waveRW junk) (waveRow (wcfg p delay) p) (schedOps p sched) m0) :=
  wave_memRun_ok p hc h4 delay hd junk sched (schedOKB_sound p sched hsched).1 m0 env0 henv h0

/-- `wave_settles` on memory: what the region of output slot `j` holds after the run is a well-formed waveform that
    starts at the Boolean function (2-valued simulation of the rows `LogicSim` runs, operands resolved through the stems)
    of the inputs' initial values and ends at the Boolean function of their final values -/
theorem wave_memory_settles (p : MapIn) (hc : p.check = none) (h4 : 4 ≤ p.capsMin) (delay : Nat → Bool → Bool → Int)
    (hd : ∀ l a b, 0 ≤ delay l a b) (sched : List Nat) (hsched : p.schedOKB sched = true) (m0 m' : Int → T)
    (env0 : Nat → Wv) (henv : ∀ x, (env0 x).ok)
    (h0 : ∀ x ∈ p.tracked, (∀ o ∈ p.ops, o.out ≠ x) → rdWave (p.loc x) (p.cap x) m0 = env0 x)
    (hrun : WaveRun p (wcfg p delay) (schedOps p sched) m0 m') (j s : Nat) (hjs : (j, s) ∈ p.ppoSrcs) :
    (rdWave (p.loc j) (p.cap j) m').ok ∧
    (rdWave (p.loc j) (p.cap j) m').init = exec lutSem (p.ops.map (sigOp p)) (fun x => (env0 x).init) s ∧
    (rdWave (p.loc j) (p.cap j) m').final = exec lutSem (p.ops.map (sigOp p)) (fun x => (env0 x).final) s := by
  rw [wave_memory_sound p hc delay sched hsched m0 m' env0 h0 hrun j s hjs]
  have := wave_settles (wcfg p delay) (waveProg p) (wcfg_good p hc h4 delay hd) env0 henv s
  unfold waveProg at this ⊢
  rw [exec_waveProg lutSem first4_lutSem, exec_waveProg lutSem first4_lutSem] at this
  exact this

/-- **end to end on the real memory layout, ALL circuits, no per-instance certificate.** `p` = the map record the
    `SimOps` model builds (`genOps`, `stemsOf`, `levelise`, `memMap` with the first-fit allocator; equal to the real `ops`,
    `level_starts`, `c_locs`, `c_caps`, `c_len` by exact correspondence) for ANY netlist with `Net.wfB`, topological order,
    `strip_forks` setting (`forksOKB` when on), `c_reuse` setting, capacity vector, `c_caps_min ≥ 4` (WaveSim passes 4);
    delays ≥ 0; initial memory `m0` whose input slots and zero slot hold well-formed waveforms; `m'` ANY memory reached by
    evaluator calls honouring `WaveStep` in ANY order certified by `schedOKB` (program order, or a permutation inside the
    levels). Then for every interface node `n` (output port, flip-flop, latch) at position `i` whose data pin reads line
    `l`, the region of output slot `i` — what `c_to_s` scans — holds a well-formed waveform `w` that IS the signal-level
    waveform of the captured signal, whose initial value is `vi l` and whose final value is `vf l`, where `vi` / `vf` are
    ANY solution of the netlist's gate equations (rows of the un-stripped program, 2-valued LUT semantics) for the
    initial / final values of the input waveforms; and `wave_capture_cpu` / `wave_capture_gpu` return exactly these as `s[3]`, `s[6]` for every
    capture time. -/
theorem wave_sim_end_to_end_all_circuits (tbl : List PrefixRow) (net : Net) (order : List Nat) (strip : Bool)
    (capsIn : Nat → Nat) (capsMin : Nat) (reuse : Bool) (p : MapIn)
    (hp : p = simopsMap tbl net order strip capsIn capsMin reuse)
    (hwf : net.wfB = true) (ho : orderOKB net order = true) (hf : strip = true → forksOKB net order = true)
    (hr : readsDrivenB tbl net order = true) (h4 : 4 ≤ capsMin)
    (delay : Nat → Bool → Bool → Int) (hd : ∀ l a b, 0 ≤ delay l a b)
    (sched : List Nat) (hsched : p.schedOKB sched = true) (m0 m' : Int → T)
    (hin : ∀ x, x ∈ p.ppiSlots ∨ x = p.ix.zero → (rdWave (p.loc x) (p.cap x) m0).ok)
    (hrun : WaveRun p (wcfg p delay) (schedOps p sched) m0 m')
    (vi vf : Nat → Bool)
    (hvi : SolvesJ (Jt net) (fun op => lutSem op.code) ((genOps tbl net order false).map OpRow.toOp)
      (fun x => (inputEnv p m0 x).init) vi)
    (hvf : SolvesJ (Jt net) (fun op => lutSem op.code) ((genOps tbl net order false).map OpRow.toOp)
      (fun x => (inputEnv p m0 x).final) vf)
    (n i l : Nat) (hn : (n, i) ∈ net.sNodes.zipIdx) (hl : (net.node n).inPin 0 = some l) (time : T) :
    let w := rdWave (p.loc (net.idx.ppo + i)) (p.cap (net.idx.ppo + i)) m'
    w = simWave (wcfg p delay) (waveProg p) (inputEnv p m0) (p.src l) ∧
    w.ok ∧ w.init = vi l ∧ w.final = vf l ∧
    (captureWv w time).init = vi l ∧ (captureWv w time).final = vf l := by
  intro w
  subst hp
  have hc := simopsMap_accepted strip capsIn capsMin reuse hwf ho hf hr (by omega)
  have hjs := mem_ppoSrcs (simopsMap tbl net order strip capsIn capsMin reuse) hn hl
  have hsound := wave_memory_sound _ hc delay sched hsched m0 m' _ (stimulus_inputEnv _ m0) hrun _ _ hjs
  obtain ⟨hok, hi, hfin⟩ := wave_memory_settles _ hc h4 delay hd sched hsched m0 m' _
    (inputEnv_ok _ m0 hin) (stimulus_inputEnv _ m0) hrun _ _ hjs
  have hci : w.init = vi l :=
    hi.trans (captured_logic hwf ho hf hr lutSem false lutSem_buf1 hvi hn hl)
  have hcf : w.final = vf l :=
    hfin.trans (captured_logic hwf ho hf hr lutSem false lutSem_buf1 hvf hn hl)
  refine ⟨hsound, hok, hci, hcf, ?_, ?_⟩
  · rw [capture_spec]; exact hci
  · rw [capture_spec]; exact hcf

/-! ### non-vacuity of the memory-level theorems
`Wave.memDemo` (Proofs/WaveMemDemo.lean): `o = INV1(AND2(a, b))` with a fork behind each input as
`WaveSim(c_caps=4, c_reuse=True, strip_forks=True)` lays it out (branches alias their stems, line 5 and the output slot re-use
the region of line 0 at cells 20…23); input `a` rises at 5, `b` is constant 1. -/

/-- every hypothesis of `wave_sim_end_to_end_all_circuits` holds for it — the run is the deterministic one of
    `wave_memory_run_exists`, executed with the two input rows swapped, with arbitrary left-overs behind the terminators —
    and the conclusion is not trivial: the region of the output slot (cells 20…23, first used by line 0) ends up holding
    `[TMIN, 8]`: the output is initially 1 and falls at 5 + 3 gate delays -/
example (junk : Int → Nat → Wv → (Int → T) → Int → T) :
    rdWave 20 4 (memRun memDemo (waveRW junk) (waveRow (wcfg memDemo memDemoDelay) memDemo)
      (schedOps memDemo [1, 0, 2, 3]) memDemoM0) = ⟨[T.tmin, T.fin 8], T.tmax⟩ := by
  have hw := genOps_WOJ Gen.kindPrefixes memDemoNet memDemoOrder false memDemo_hyps.1 memDemo_hyps.2.1
  have key := (wave_sim_end_to_end_all_circuits Gen.kindPrefixes memDemoNet memDemoOrder true (fun _ => 4) 4 true memDemo rfl
    memDemo_hyps.1 memDemo_hyps.2.1 (fun _ => memDemo_hyps.2.2.1) memDemo_hyps.2.2.2 (by decide)
    memDemoDelay memDemoDelay_nonneg [1, 0, 2, 3] memDemo_tables.2.2.2.2.2 memDemoM0 _ memDemo_inputs (memDemo_run junk) _ _
    (execG_solution _ _ _ hw _) (execG_solution _ _ _ hw _) 6 2 5 (by decide +kernel) (by decide +kernel) T.tmax).1
  rw [show memDemoNet.idx.ppo + 2 = 14 by decide +kernel, memDemo_out.1, memDemo_out.2.1] at key
  rw [key]
  exact memDemo_sim

/-- the demo memory is what `s_to_c` leaves for `a = (0, 5, 1)`, `b = (1, ·, 1)` (hypotheses of `stimulus_memory_ok`), and the
    regions written by the rows avoid their operands' regions although line 5 re-uses the region of line 0 -/
example :
    let stim : Nat → Bool × Int × Bool := fun x => if x = 9 then (false, 5, true) else (true, 0, true)
    (∀ x ∈ memDemo.ppiSlots, (cells (memDemo.loc x) (memDemo.cap x) memDemoM0).take 3 =
      stimCells (stim x).1 (stim x).2.1 (stim x).2.2) ∧
    (cells (memDemo.loc memDemo.ix.zero) (memDemo.cap memDemo.ix.zero) memDemoM0).head? = some T.tmax ∧
    memDemo.loc 5 = memDemo.loc 0 ∧
    (memDemo.ops.all fun o => o.ins.all fun i => !memDemo.overlap i o.out) = true := by
  intro stim
  rw [memDemo_tables.2.2.1]
  decide +kernel

/-! ## the code-path model is such a run
The memory-level theorems above speak about ANY run whose evaluator calls honour `WaveStep`. `WaveIO.cpuCProp` / `gpuCProp`
(Model/WaveIO.lean: `WaveSim.c_prop` / `WaveSimCuda.c_prop` as the code has them — nested loops / kernel launches over lanes, the waveform
evaluator `evWave` reading and writing the lane's column; run by the driver on the raw memory, tables, delays and `simctl` of real `WaveSim` / `WaveSimCuda` objects: C06 clause `path-tie-cprop`, driver `wio-cprop` — the waveform every region READS AS and every accumulator, every lane; cells behind a terminator are not compared, the real evaluator leaves popped entries there) is one: -/
open KV.WaveIO in
/-- **a lane of `c_prop` is a propagation in the sense of the memory theorems**: `p` an accepted map record with `c_caps_min ≥ 4`,
    delays ≥ 0, the op / level tables of the run list the rows of `p` in an order certified by `schedOKB` (`hrows`), lane `k < sims`,
    the lane's initial column holds well-formed stimulus waveforms — then the lane's column after `cpuCProp` with the waveform
    evaluator is `Propagated` from its initial column -/
theorem cprop_is_propagation (p : MapIn) (hc : p.check = none) (h4 : 4 ≤ p.capsMin) (delay : Nat → Bool → Bool → Int)
    (hd : ∀ l a b, 0 ≤ delay l a b) (ops : List AOp) (levels : List (Nat × Nat)) (sims : Nat) (S : Nat → LaneSt) (k : Nat)
    (hk : k < sims) (order : List Nat) (horder : p.schedOKB order = true)
    (hrows : (WaveIO.sched ops levels).map (·.op) = schedOps p order)
    (env0 : Nat → Wv) (henv : ∀ x, (env0 x).ok) (h0 : Stimulus p (S k).c env0) :
    Propagated p delay (S k).c (cpuCProp (evWave (fun _ => wcfg p delay) p.loc) ops levels sims S k).c := by
  refine ⟨order, horder, ?_⟩
  rw [cpuCProp_lane, if_pos hk, laneRun_c]
  have hcap : ∀ o ∈ WaveIO.sched ops levels, 2 ≤ p.cap o.op.out := by
    intro o ho
    have hmem : o.op ∈ schedOps p order := by rw [← hrows]; exact List.mem_map_of_mem ho
    have := cap_ge_of_check p hc o.op (mem_schedOps hmem)
    omega
  rw [laneMem_eq_memRun p delay k _ _ hcap, hrows]
  exact wave_memory_run_exists p hc h4 delay hd keepJunk order horder (S k).c env0 henv h0

open KV.WaveIO in
/-- **the propagation of the code-path model computes the signal-level waveforms** (both paths, every block shape): under the
    hypotheses of `cprop_is_propagation` the region of every output slot `j` of lane `k` — read as `c_to_s` (`wave_capture_cpu` / `wave_capture_gpu`) scans it —
    holds the waveform `simWave` assigns to the captured signal -/
theorem cprop_memory_sound (p : MapIn) (hc : p.check = none) (h4 : 4 ≤ p.capsMin) (delay : Nat → Bool → Bool → Int)
    (hd : ∀ l a b, 0 ≤ delay l a b) (ops : List AOp) (levels : List (Nat × Nat)) (sims bx by_ : Nat) (hbx : 0 < bx) (hby : 0 < by_)
    (S : Nat → LaneSt) (k : Nat) (hk : k < sims) (order : List Nat) (horder : p.schedOKB order = true)
    (hrows : (WaveIO.sched ops levels).map (·.op) = schedOps p order)
    (env0 : Nat → Wv) (henv : ∀ x, (env0 x).ok) (h0 : Stimulus p (S k).c env0) (j s : Nat) (hjs : (j, s) ∈ p.ppoSrcs) :
    readWave (rdCells (cpuCProp (evWave (fun _ => wcfg p delay) p.loc) ops levels sims S k).c (p.loc j) (p.cap j)) =
        simWave (wcfg p delay) (waveProg p) env0 s ∧
    gpuCProp (evWave (fun _ => wcfg p delay) p.loc) ops levels sims bx by_ S =
        cpuCProp (evWave (fun _ => wcfg p delay) p.loc) ops levels sims S := by
  refine ⟨?_, gpuCProp_eq_cpuCProp _ ops levels sims bx by_ hbx hby S⟩
  rw [readWave_rdCells_eq]
  exact propagated_eq_sim p hc delay _ _ env0 h0
    (cprop_is_propagation p hc h4 delay hd ops levels sims S k hk order horder hrows env0 henv h0) j s hjs

open KV.WaveIO in
/-- non-vacuity on `Wave.memDemo` (strip + reuse): its four rows as the op table of the code-path model, levels `[0,2) [2,3) [3,4)`,
    two lanes, program order — the hypotheses of `cprop_memory_sound` hold and output slot 14 of lane 0 reads as the signal-level
    waveform of line 5 -/
example :
    let ops : List AOp := memDemo.ops.map fun o => ⟨o, -1, 0, 0⟩
    let S : Nat → LaneSt := fun _ => ⟨memDemoM0, fun _ => 0⟩
    readWave (rdCells (cpuCProp (evWave (fun _ => wcfg memDemo memDemoDelay) memDemo.loc) ops [(0, 2), (2, 3), (3, 4)] 2 S 0).c
        (memDemo.loc 14) (memDemo.cap 14)) =
      simWave (wcfg memDemo memDemoDelay) (waveProg memDemo) (inputEnv memDemo memDemoM0) 5 := by
  intro ops S
  exact (cprop_memory_sound memDemo memDemo_check (by decide) memDemoDelay memDemoDelay_nonneg ops [(0, 2), (2, 3), (3, 4)] 2 1 1
    (by decide) (by decide) S 0 (by decide) [0, 1, 2, 3] (by decide +kernel) (by decide +kernel)
    (inputEnv memDemo memDemoM0) (inputEnv_ok memDemo memDemoM0 memDemo_inputs) (stimulus_inputEnv memDemo memDemoM0) 14 5
    (by rw [memDemo_tables.2.2.2.1]; exact List.mem_singleton.2 rfl)).1

open KV.WaveIO in
/-- **program order, hypotheses on the tables only**: the op table of the run lists the rows of `p` (`ops.map (·.op) = p.ops`), the
    level table is `zip(level_starts, level_stops)` of boundaries `0 = b₀ ≤ b₁ ≤ … ≤ b_m = len(ops)` (what the levelisation produces:
    `C07.levels_contiguous`) — then every output slot of every lane `k < sims` reads, after `c_prop` of either path, as the
    signal-level waveform of the captured signal -/
theorem cprop_program_order_sound (p : MapIn) (hc : p.check = none) (h4 : 4 ≤ p.capsMin) (delay : Nat → Bool → Bool → Int)
    (hd : ∀ l a b, 0 ≤ delay l a b) (ops : List AOp) (hops : ops.map (·.op) = p.ops) (bs : List Nat)
    (hbs : List.Pairwise (· ≤ ·) (0 :: bs)) (hlast : (bs.getLast?).getD 0 = ops.length)
    (sims bx by_ : Nat) (hbx : 0 < bx) (hby : 0 < by_) (S : Nat → LaneSt) (k : Nat) (hk : k < sims)
    (env0 : Nat → Wv) (henv : ∀ x, (env0 x).ok) (h0 : Stimulus p (S k).c env0) (j s : Nat) (hjs : (j, s) ∈ p.ppoSrcs) :
    readWave (rdCells (gpuCProp (evWave (fun _ => wcfg p delay) p.loc) ops (WaveIO.levelPairs 0 bs) sims bx by_ S k).c (p.loc j) (p.cap j)) =
      simWave (wcfg p delay) (waveProg p) env0 s := by
  obtain ⟨h1, h2⟩ := cprop_memory_sound p hc h4 delay hd ops (WaveIO.levelPairs 0 bs) sims bx by_ hbx hby S k hk
    (List.range p.ops.length) (schedOKB_range p)
    (by rw [sched_contiguous ops bs hbs hlast, hops, schedOps_range]) env0 henv h0 j s hjs
  rw [h2, h1]

end KV.C03
