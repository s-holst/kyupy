import KyupyVerif.Proofs.HeapInv
import KyupyVerif.Proofs.HeapCanon
import KyupyVerif.Proofs.MemRef
import KyupyVerif.Model.MapCert
import KyupyVerif.Proofs.MapSound
import KyupyVerif.Proofs.MemMapAccept
import KyupyVerif.Proofs.MemMapFrees
import KyupyVerif.Gen.Tables
import KyupyVerif.Proofs.AllCircDemo
/-! # C08 — signal-memory map and allocator never let live data overlap

**Allocator** (all alloc/free histories INSIDE THE DOMAIN — theorems): `Heap` is an address-ordered list model of `sim.Heap`
(start of a chunk = sum of the sizes before it; tied to the code by exact correspondence of the whole state after
every operation). **Domain:** positive requests and releases of the START OF A LIVE CHUNK only (`histOkB`:
each operation is checked in the state it is applied to). The real `Heap.free(loc)` does not check this: `Heap.free(0)` twice
raises nothing and corrupts the tables (API misuse) — the model's `free` returns `none` there and the
history runner `runOp` totalises it as a no-op, which says nothing about the code. `allocator_invariant` is therefore stated under
`histOkB` and adds that nothing was totalised (`runStrict` succeeds with the same state); `allocator_invariant_totalised` is the
model-only statement with failing releases as no-ops. `memMap_frees_live`: the scheduler model never leaves the domain — every release `memMap` performs
(per level, with `c_reuse`) is of a non-negative location that is the start of a live chunk at that moment and succeeds, so the
"failing release changes nothing" branch of `freeAll` and `(-1).toNat = 0` are never reached. `hist_hwm`: after a whole history
the reported maximum is the running maximum of the managed size. The real-heap harness keeps releases inside the domain. **Map** (circuits × capacity vectors × options): `MapIn.check` is a certificate checker that is
evaluated on the REAL `ops`, `level_starts`, `c_locs`, `c_caps`, `c_len` of every generated instance, and it is
SOUND (`map_certificate_sound`, `map_certificate_sound_logic`): whenever it accepts, running the real op rows on memory
— operands read through `c_locs/c_caps` of the operand index, results written to the region of the output index, in
program order or any other order that respects `level_starts` — leaves in every observed region (input slots, the zero
slot, every output slot) exactly the value signal-level execution computes, which does not mention the map.
**The scheduler always passes the certificate** (`simops_map_accepted`, theorem for ALL circuits): for every netlist
whose pin tables and line records refer to each other (`Net.wfB`), every topological order (`orderOKB`), both
`strip_forks` settings (with `forksOKB` when stripping), both `c_reuse` settings, every capacity vector and every
`c_caps_min > 0`, the tables computed by the Lean model of `SimOps.__init__` (`genOps`, `stemsOf`, `levelise`, `memMap`
incl. the first-fit allocator; hand model of sim.py:159-333, tied to the real code by exact correspondence of `ops`,
`level_starts`, `c_locs`, `c_caps`, `c_len` on every generated instance) are accepted by `MapIn.check` — under the
domain hypothesis `readsDrivenB`: every line read by a scheduled gate or captured by an interface node is written by
a row of the program (no reader hangs on a cell of unknown kind, on an output pin `SimOps` does not schedule, or on a
node outside the order; `readsDriven_needed` shows the map of such a netlist is rejected, in the model and in the real
code). Consequences without any per-instance certificate: `simops_memory_sound`, `simops_memory_sound_logic`
(and `C01.logic_sim_end_to_end_all_circuits`, `C07.memory_any_schedule_all_circuits`). What stays correspondence: that the
real `SimOps.__init__` computes the tables of the model (compared exactly on every generated instance; the certificate is
still evaluated on the real tables as an independent check); the hypotheses `wfB`, `orderOKB`, `forksOKB`, `readsDrivenB`
are evaluated by the driver on the real circuit and the real topological order (`simopscert`).
`mem_refines` is an abstract form of the soundness argument (any layout, any separation certificate; Proofs/MemRef.lean), not
instantiated for `MapIn.check`. -/
namespace KV.C08
open KV KV.Heap

/-- the invariant holds after **every** history from the empty heap that stays inside the domain (`histOkB`: allocations of
    positive sizes, releases of the start of a chunk that is LIVE at that moment): sizes positive, adjacent free regions
    coalesced (no two adjacent free chunks, no trailing free chunk), reported maximum ≥ current size; and no release of the
    history failed (`runStrict`, which totalises nothing, succeeds with the same state) -/
theorem allocator_invariant (ops : List HOp) (hok : histOkB { cs := [], maxSz := 0 } ops = true) :
    HInv (ops.foldl runOp { cs := [], maxSz := 0 }) ∧
    runStrict { cs := [], maxSz := 0 } ops = some (ops.foldl runOp { cs := [], maxSz := 0 }) :=
  hist_strict ops _ empty_inv hok

/-- a history inside the domain (the third allocation re-uses the released first chunk) and a misuse history
    (second release of address 0: no live chunk starts there any more) outside it -/
example : histOkB { cs := [], maxSz := 0 } [.alloc 4, .alloc 4, .free 0, .alloc 4, .free 4, .free 0] = true ∧
    histOkB { cs := [], maxSz := 0 } [.alloc 4, .alloc 4, .alloc 4, .free 0, .free 0] = false := by decide

/-- model-only form: with failing releases TOTALISED as no-ops the invariant holds after every history of
    positive allocations and arbitrary releases. Says nothing about the real `Heap` outside the domain of `allocator_invariant`
    (a release of a dead address corrupts the real tables). -/
theorem allocator_invariant_totalised (ops : List HOp) (hok : ∀ op ∈ ops, OpOk op) :
    HInv (ops.foldl runOp { cs := [], maxSz := 0 }) := hist_inv ops hok

/-- **high-water mark of whole histories**: inside the domain, the reported maximum after the history is the running maximum
    of the managed size over all intermediate states (`peak`) -/
theorem hist_hwm (ops : List HOp) (hok : histOkB { cs := [], maxSz := 0 } ops = true) :
    (ops.foldl runOp { cs := [], maxSz := 0 }).maxSz = peak { cs := [], maxSz := 0 } 0 ops :=
  hist_maxSz_eq_peak ops (opOk_of_histOk ops _ hok) _ empty_inv

example : peak { cs := [], maxSz := 0 } 0 [.alloc 4, .alloc 4, .free 4, .alloc 2, .free 0] = 8 ∧
    ([HOp.alloc 4, .alloc 4, .free 4, .alloc 2, .free 0].foldl runOp { cs := [], maxSz := 0 }).maxSz = 8 ∧
    total ([HOp.alloc 4, .alloc 4, .free 4, .alloc 2, .free 0].foldl runOp { cs := [], maxSz := 0 }).cs = 6 := by decide

/-- an allocation never returns a region overlapping a live one; the region becomes live, nothing else changes,
    and it lies inside the managed range -/
theorem alloc_never_overlaps (h : Heap) (n : Nat) :
    (∀ r, r ∈ (h.alloc n).2.used ↔ r = ((h.alloc n).1, n) ∨ r ∈ h.used) ∧
    (∀ r ∈ h.used, r.1 + r.2 ≤ (h.alloc n).1 ∨ (h.alloc n).1 + n ≤ r.1) ∧
    (h.alloc n).1 + n ≤ total (h.alloc n).2.cs := alloc_spec h n

/-- a release removes exactly the released region from the live set and never grows the managed range -/
theorem free_releases_exactly (h h' : Heap) (loc : Nat) (hi : HInv h) (hf : h.free loc = some h') :
    ∃ n, (loc, n) ∈ h.used ∧ (∀ r, r ∈ h.used ↔ r = (loc, n) ∨ r ∈ h'.used) ∧ total h'.cs ≤ total h.cs :=
  free_spec h h' loc hi hf

/-- exact release, sharpened: after a release the live regions are precisely the former ones that do not start at the
    released address (in particular the released region is gone) -/
theorem free_removes_exactly (h h' : Heap) (loc : Nat) (hi : HInv h) (hf : h.free loc = some h') :
    ∀ r, r ∈ h'.used ↔ r ∈ h.used ∧ r.1 ≠ loc := free_used_iff h h' loc hi hf

/-- in the model a release fails (`none`) only when no live region starts at the address — i.e. only outside the domain -/
theorem free_fails_only_on_dead (h : Heap) (hi : HInv h) (loc : Nat) (hf : h.free loc = none) : ∀ r ∈ h.used, r.1 ≠ loc :=
  free_none_no_start h hi loc hf

/-- canonical form: under the invariant the whole chunk table is a function of the SET of live regions (free chunks are
    exactly the maximal gaps between them) -/
theorem heap_determined_by_live_set (h1 h2 : Heap) (i1 : HInv h1) (i2 : HInv h2) (he : ∀ r, r ∈ h1.used ↔ r ∈ h2.used) :
    h1.cs = h2.cs := cs_of_used h1 h2 i1 i2 he

/-- releasing a collection of locations (as `SimOps` does at the end of a level, iterating a Python `set`): the resulting
    heap — chunk table and high-water mark — depends only on the set of locations, not on the iteration order -/
theorem release_order_irrelevant (h : Heap) (hi : HInv h) (l1 l2 : List Int)
    (he : ∀ x, x ∈ l1.map Int.toNat ↔ x ∈ l2.map Int.toNat) : freeAll h l1 = freeAll h l2 :=
  freeAll_order_irrelevant h hi l1 l2 he

example : let h : Heap := { cs := [⟨2, false⟩, ⟨3, false⟩, ⟨1, false⟩, ⟨4, false⟩, ⟨2, false⟩], maxSz := 12 }
    (freeAll h [2, 6, 5]).cs = [⟨2, false⟩, ⟨8, true⟩, ⟨2, false⟩] ∧ (freeAll h [5, 2, 6]).cs = [⟨2, false⟩, ⟨8, true⟩, ⟨2, false⟩] ∧
    (freeAll h [6, 5, 2, 2, 7]).cs = [⟨2, false⟩, ⟨8, true⟩, ⟨2, false⟩] ∧ (freeAll h [2, 6, 5]).maxSz = 12 := by decide

/-- live regions are pairwise disjoint, ordered, and inside `[0, current size)` (the gaps between them are the free chunks) -/
theorem regions_tile (h : Heap) :
    h.used.Pairwise (fun a b => a.1 + a.2 ≤ b.1) ∧ ∀ r ∈ h.used, r.1 + r.2 ≤ total h.cs := by
  refine ⟨usedFrom_sorted 0 h.cs, ?_⟩
  intro r hr; have := usedFrom_bounds 0 h.cs r hr; omega

/-- the reported maximum is a true high-water mark: never below the current size, and it only changes when an
    allocation extends the range, to exactly the new size or stays -/
theorem high_water_mark (h : Heap) (n : Nat) (hi : HInv h) :
    total (h.alloc n).2.cs ≤ (h.alloc n).2.maxSz ∧ h.maxSz ≤ (h.alloc n).2.maxSz ∧
    ((h.alloc n).2.maxSz = h.maxSz ∨ (h.alloc n).2.maxSz = total (h.alloc n).2.cs) := alloc_hwm h n hi

/-- what a liveness-separated map guarantees (abstract form): level-wise execution on memory agrees with
    signal-level execution at every live signal — see `MemRef.prog_I` for the statement with its hypotheses -/
theorem mem_refines {α C : Type} (L : MemRef.Layout α C) (c : MemRef.Cert L) :
    ∀ (levels : List (List (MemRef.Op α))) (k : Nat) (m : MemRef.Mem C) (env : Nat → α),
    (∀ j (hj : j < levels.length), let ops := levels[j]
        (∀ o ∈ ops, c.dfn o.out = k + j ∧ ∀ i ∈ o.ins, c.dfn i < k + j ∧ k + j ≤ c.last i) ∧
        (ops.map (·.out)).Nodup ∧ (∀ x, c.dfn x = k + j → x ∈ ops.map (·.out))) →
    MemRef.I L c k m env →
    MemRef.I L c (k + levels.length) (levels.foldl (MemRef.runMem L) m) (levels.foldl MemRef.runSig env) :=
  MemRef.prog_I L c

/-- **the certificate is sound** (any value domain, any op semantics, any storage discipline `R` whose reads depend on
    and whose writes change only the signal's region): if `MapIn.check` accepts the tables, then after all op rows have run
    on memory in program order, every observed signal — pinned: zero slot, input slots, captured signals — reads back as
    the value signal-level execution computes, and every output slot reads the value of the signal it captures.
    Hypotheses: each result fits its region (`hfit`; for waveforms: the model value is the stored, capacity-limited
    one), memory and signal environment agree initially on signals no op writes (`h0`, the stimulus). -/
theorem map_certificate_sound {α C : Type} (p : MapIn) (hc : p.check = none) (R : MapSound.RW α C)
    (sem : OpRow → List α → α)
    (hfit : ∀ o ∈ p.ops, ∀ args m,
      R.rd (p.loc o.out) (p.cap o.out) (R.wr (p.loc o.out) (p.cap o.out) (sem o args) m) = sem o args)
    (m0 : Int → C) (env0 : Nat → α)
    (h0 : ∀ x ∈ p.tracked, (∀ o ∈ p.ops, o.out ≠ x) → MapSound.rdS p R x m0 = env0 x) :
    (∀ x ∈ p.tracked, p.pinned x = true →
      MapSound.rdS p R x (MapSound.memRun p R sem p.ops m0) = MapSound.sigRun p sem p.ops env0 x) ∧
    (∀ j s, (j, s) ∈ p.ppoSrcs →
      MapSound.rdS p R j (MapSound.memRun p R sem p.ops m0) = MapSound.sigRun p sem p.ops env0 s) :=
  MapSound.check_sound p hc R sem hfit m0 env0 h0

/-- the same for LogicSim's storage (one row per signal) in terms of the signal-level executor `Sig.exec` the theorems
    of C01/C02 are about: the row of output slot `j` holds what `Sig.exec` computes for the captured signal `s` -/
theorem map_certificate_sound_logic {α : Type} [Inhabited α] (p : MapIn) (hc : p.check = none) (hpos : 0 < p.capsMin)
    (f : Nat → List α → α) (m0 : Int → α) (env0 : Nat → α)
    (h0 : ∀ x ∈ p.tracked, (∀ o ∈ p.ops, o.out ≠ x) → m0 (p.loc x) = env0 x) :
    ∀ j s, (j, s) ∈ p.ppoSrcs →
      MapSound.memRun p (MapSound.rowRW α) (fun o => f o.lut) p.ops m0 (p.loc j)
        = Sig.exec f (p.ops.map (MapSound.sigOp p)) env0 s :=
  MapSound.check_sound_rows p hc hpos f m0 env0 h0

/-- the driver evaluates `checkFast` (derived tables computed once); it is the same function -/
theorem checker_fast_eq (p : MapIn) : p.checkFast = p.check := MapIn.checkFast_eq p

/-- non-vacuity, on REAL tables: the two-input AND with an inverter of `C01.demoNet`, `SimOps(c_reuse=True)`:
    location 5 is used by line 0, then by line 4, location 6 by line 1, then by line 5 and the output slot; with `strip_forks` lines 2/3 alias lines 0/1 -/
def demoNet : Net :=
  { nodes := #[⟨"input", [], [some 0]⟩, ⟨"__fork__", [some 0], [some 2]⟩, ⟨"input", [], [some 1]⟩, ⟨"__fork__", [some 1], [some 3]⟩,
               ⟨"AND2", [some 2, some 3], [some 4]⟩, ⟨"INV1", [some 4], [some 5]⟩, ⟨"output", [some 5], []⟩],
    lines := #[⟨0, 0, 1, 0⟩, ⟨2, 0, 3, 0⟩, ⟨1, 0, 4, 0⟩, ⟨3, 0, 4, 1⟩, ⟨4, 0, 5, 0⟩, ⟨5, 0, 6, 0⟩],
    io := [0, 2, 6] }
def demoMap : MapIn :=
  { net := demoNet, strip := false,
    ops := [⟨43690, 0, 9, 6, 6, 6⟩, ⟨43690, 1, 10, 6, 6, 6⟩, ⟨43690, 2, 0, 6, 6, 6⟩, ⟨43690, 3, 1, 6, 6, 6⟩,
            ⟨34952, 4, 2, 3, 6, 6⟩, ⟨21845, 5, 4, 6, 6, 6⟩],
    starts := [0, 2, 4, 5], locs := #[5, 6, 7, 8, 5, 6, 0, 1, 2, 3, 4, -1, -1, -1, 6],
    caps := #[1, 1, 1, 1, 1, 1, 1, 1, 1, 1, 1, 0, 0, 0, 1], cLen := 9, capsMin := 1 }
def demoMapStrip : MapIn :=
  { net := demoNet, strip := true,
    ops := [⟨43690, 0, 9, 6, 6, 6⟩, ⟨43690, 1, 10, 6, 6, 6⟩, ⟨34952, 4, 2, 3, 6, 6⟩, ⟨21845, 5, 4, 6, 6, 6⟩],
    starts := [0, 2, 3], locs := #[5, 6, 5, 6, 7, 5, 0, 1, 2, 3, 4, -1, -1, -1, 5],
    caps := #[1, 1, 1, 1, 1, 1, 1, 1, 1, 1, 1, 0, 0, 0, 1], cLen := 8, capsMin := 1 }
example : demoMap.check = none ∧ demoMapStrip.check = none ∧ demoMap.ppoSrcs = [(14, 5)] := by decide +kernel
/-- … and the checker is not trivially accepting: moving line 4 onto the still-live line 2 is rejected -/
example : ({ demoMap with locs := #[5, 6, 7, 8, 7, 6, 0, 1, 2, 3, 4, -1, -1, -1, 6] } : MapIn).check
    = some "live signals overlap" := by decide +kernel


/-- **for ALL circuits**: the memory map `SimOps.__init__` builds (Lean model `genOps` / `stemsOf` / `levelise` / `memMap`
    with the first-fit allocator, equal to the real `ops`, `level_starts`, `c_locs`, `c_caps`, `c_len` by exact
    correspondence) passes the map certificate — every well-formed netlist, every topological order, `strip_forks` on or
    off (`forksOKB` when on), `c_reuse` on or off, every capacity vector `capsIn`, every positive `c_caps_min`.
    `readsDrivenB`: every line that is read or captured is written by a row (known cell kinds, scheduled output pins).
    The record is assembled exactly as the harness does from the real tables (`cLen` = the heap's `max_size`). -/
theorem simops_map_accepted (tbl : List PrefixRow) (net : Net) (order : List Nat) (strip : Bool) (capsIn : Nat → Nat)
    (capsMin : Nat) (reuse : Bool) (hwf : net.wfB = true) (ho : orderOKB net order = true)
    (hf : strip = true → forksOKB net order = true) (hr : readsDrivenB tbl net order = true) (hpos : 0 < capsMin) :
    let ops := genOps tbl net order strip
    let st := stemsOf net strip
    let lev := levelise net.idx.len st ops
    let m := memMap net ops st lev capsIn capsMin reuse
    ({ net := net, strip := strip, ops := ops, starts := lev.starts.reverse, locs := m.locs, caps := m.caps,
       cLen := m.heap.maxSz, capsMin := capsMin } : MapIn).check = none :=
  simopsMap_accepted strip capsIn capsMin reuse hwf ho hf hr hpos

/-- the case `c_reuse = False` (nothing is ever released: all regions pairwise disjoint) -/
theorem simops_map_accepted_noreuse (tbl : List PrefixRow) (net : Net) (order : List Nat) (strip : Bool)
    (capsIn : Nat → Nat) (capsMin : Nat) (hwf : net.wfB = true) (ho : orderOKB net order = true)
    (hf : strip = true → forksOKB net order = true) (hr : readsDrivenB tbl net order = true) (hpos : 0 < capsMin) :
    (simopsMap tbl net order strip capsIn capsMin false).check = none :=
  simopsMap_accepted strip capsIn capsMin false hwf ho hf hr hpos

/-- the facts about the generated program the acceptance proof rests on (`ProgOK`): one writer per line, every operand
    (through stems) is the zero slot, an input slot or a line written by an earlier row in a strictly earlier level,
    `level_starts` begins with 0 and increases, captured signals are written lines, stems are no branches -/
theorem simops_program_facts (tbl : List PrefixRow) (net : Net) (order : List Nat) (strip : Bool) (capsIn : Nat → Nat)
    (capsMin : Nat) (reuse : Bool) (hwf : net.wfB = true) (ho : orderOKB net order = true)
    (hf : strip = true → forksOKB net order = true) (hr : readsDrivenB tbl net order = true) :
    ProgOK (simopsMap tbl net order strip capsIn capsMin reuse) :=
  simops_progOK tbl (simopsMap tbl net order strip capsIn capsMin reuse) order hwf ho hf hr rfl rfl

/-- **`SimOps` stays inside the allocator's domain**: for every well-formed netlist, topological order, `strip_forks` /
    `c_reuse` setting, capacity vector and `c_caps_min > 0`, every release the model `memMap` performs — at the end of every
    level, in the order `freeAll` performs them — is the release of a non-negative location that is the start of a chunk live
    at that moment, and it succeeds (`memMapFreesLiveB`, Proofs/MemMapFrees.lean: the Boolean conjunction of exactly these
    three facts over all releases). -/
theorem memMap_frees_live (tbl : List PrefixRow) (net : Net) (order : List Nat) (strip : Bool) (capsIn : Nat → Nat)
    (capsMin : Nat) (reuse : Bool) (hwf : net.wfB = true) (ho : orderOKB net order = true)
    (hf : strip = true → forksOKB net order = true) (hr : readsDrivenB tbl net order = true) (hpos : 0 < capsMin) :
    memMapFreesLiveB net (genOps tbl net order strip) (stemsOf net strip)
      (levelise net.idx.len (stemsOf net strip) (genOps tbl net order strip)) capsIn capsMin reuse = true :=
  simops_frees_live tbl net order strip capsIn capsMin reuse hwf ho hf hr hpos

/-- **memory-level execution = signal-level execution for the map `SimOps` builds — no per-instance certificate**:
    `map_certificate_sound` with the hypothesis `p.check = none` discharged by `simops_map_accepted` -/
theorem simops_memory_sound {α C : Type} (tbl : List PrefixRow) (net : Net) (order : List Nat) (strip : Bool)
    (capsIn : Nat → Nat) (capsMin : Nat) (reuse : Bool) (hwf : net.wfB = true) (ho : orderOKB net order = true)
    (hf : strip = true → forksOKB net order = true) (hr : readsDrivenB tbl net order = true) (hpos : 0 < capsMin)
    (R : MapSound.RW α C) (sem : OpRow → List α → α)
    (hfit : ∀ o ∈ (simopsMap tbl net order strip capsIn capsMin reuse).ops, ∀ args m,
      R.rd ((simopsMap tbl net order strip capsIn capsMin reuse).loc o.out)
        ((simopsMap tbl net order strip capsIn capsMin reuse).cap o.out)
        (R.wr ((simopsMap tbl net order strip capsIn capsMin reuse).loc o.out)
          ((simopsMap tbl net order strip capsIn capsMin reuse).cap o.out) (sem o args) m) = sem o args)
    (m0 : Int → C) (env0 : Nat → α)
    (h0 : ∀ x ∈ (simopsMap tbl net order strip capsIn capsMin reuse).tracked,
      (∀ o ∈ (simopsMap tbl net order strip capsIn capsMin reuse).ops, o.out ≠ x) →
        MapSound.rdS (simopsMap tbl net order strip capsIn capsMin reuse) R x m0 = env0 x) :
    let p := simopsMap tbl net order strip capsIn capsMin reuse
    (∀ x ∈ p.tracked, p.pinned x = true →
      MapSound.rdS p R x (MapSound.memRun p R sem p.ops m0) = MapSound.sigRun p sem p.ops env0 x) ∧
    (∀ j s, (j, s) ∈ p.ppoSrcs →
      MapSound.rdS p R j (MapSound.memRun p R sem p.ops m0) = MapSound.sigRun p sem p.ops env0 s) :=
  map_certificate_sound _ (simopsMap_accepted strip capsIn capsMin reuse hwf ho hf hr hpos) R sem hfit m0 env0 h0

/-- the same for LogicSim's storage (one row per signal): the row of output slot `j` holds what `Sig.exec` computes -/
theorem simops_memory_sound_logic {α : Type} [Inhabited α] (tbl : List PrefixRow) (net : Net) (order : List Nat)
    (strip : Bool) (capsIn : Nat → Nat) (capsMin : Nat) (reuse : Bool) (hwf : net.wfB = true)
    (ho : orderOKB net order = true) (hf : strip = true → forksOKB net order = true)
    (hr : readsDrivenB tbl net order = true) (hpos : 0 < capsMin)
    (f : Nat → List α → α) (m0 : Int → α) (env0 : Nat → α)
    (h0 : ∀ x ∈ (simopsMap tbl net order strip capsIn capsMin reuse).tracked,
      (∀ o ∈ (simopsMap tbl net order strip capsIn capsMin reuse).ops, o.out ≠ x) →
        m0 ((simopsMap tbl net order strip capsIn capsMin reuse).loc x) = env0 x) :
    let p := simopsMap tbl net order strip capsIn capsMin reuse
    ∀ j s, (j, s) ∈ p.ppoSrcs →
      MapSound.memRun p (MapSound.rowRW α) (fun o => f o.lut) p.ops m0 (p.loc j)
        = Sig.exec f (p.ops.map (MapSound.sigOp p)) env0 s :=
  map_certificate_sound_logic _ (simopsMap_accepted strip capsIn capsMin reuse hwf ho hf hr hpos) hpos
    f m0 env0 h0

/-- non-vacuity: `demoNet` in its natural order satisfies every hypothesis … -/
def demoOrder : List Nat := [0, 2, 1, 3, 4, 5, 6]
theorem demo_hyps : demoNet.wfB = true ∧ orderOKB demoNet demoOrder = true ∧ forksOKB demoNet demoOrder = true ∧
    readsDrivenB Gen.kindPrefixes demoNet demoOrder = true := by
  rw [show demoNet = Demo.demoNet from rfl, show demoOrder = Demo.demoOrder from rfl]
  exact Demo.demo_hyps
/-- … the record of the model IS the record of the REAL tables above (`SimOps(c_reuse=True)`, with and without
    `strip_forks`) … -/
example : (simopsMap Gen.kindPrefixes demoNet demoOrder false (fun _ => 1) 1 true).ops = demoMap.ops ∧
   (simopsMap Gen.kindPrefixes demoNet demoOrder false (fun _ => 1) 1 true).starts = demoMap.starts ∧
   (simopsMap Gen.kindPrefixes demoNet demoOrder false (fun _ => 1) 1 true).locs = demoMap.locs ∧
   (simopsMap Gen.kindPrefixes demoNet demoOrder false (fun _ => 1) 1 true).caps = demoMap.caps ∧
   (simopsMap Gen.kindPrefixes demoNet demoOrder false (fun _ => 1) 1 true).cLen = demoMap.cLen ∧
   (simopsMap Gen.kindPrefixes demoNet demoOrder true (fun _ => 1) 1 true).ops = demoMapStrip.ops ∧
   (simopsMap Gen.kindPrefixes demoNet demoOrder true (fun _ => 1) 1 true).starts = demoMapStrip.starts ∧
   (simopsMap Gen.kindPrefixes demoNet demoOrder true (fun _ => 1) 1 true).locs = demoMapStrip.locs ∧
   (simopsMap Gen.kindPrefixes demoNet demoOrder true (fun _ => 1) 1 true).caps = demoMapStrip.caps ∧
   (simopsMap Gen.kindPrefixes demoNet demoOrder true (fun _ => 1) 1 true).cLen = demoMapStrip.cLen := by decide +kernel
/-- … and the theorem applies, for every capacity vector and both options -/
example (strip reuse : Bool) (capsIn : Nat → Nat) :
    (simopsMap Gen.kindPrefixes demoNet demoOrder strip capsIn 4 reuse).check = none :=
  simops_map_accepted Gen.kindPrefixes demoNet demoOrder strip capsIn 4 reuse demo_hyps.1 demo_hyps.2.1
    (fun _ => demo_hyps.2.2.1) demo_hyps.2.2.2 (by decide)

/-- `memMap_frees_live` applies to `demoNet` (every setting); with `c_reuse` releases really happen there: the heap of the
    model ends smaller than without reuse -/
example (strip reuse : Bool) (capsIn : Nat → Nat) := memMap_frees_live Gen.kindPrefixes demoNet demoOrder strip capsIn 4 reuse
  demo_hyps.1 demo_hyps.2.1 (fun _ => demo_hyps.2.2.1) demo_hyps.2.2.2 (by decide)
example : (simopsMap Gen.kindPrefixes demoNet demoOrder false (fun _ => 1) 1 true).cLen <
    (simopsMap Gen.kindPrefixes demoNet demoOrder false (fun _ => 1) 1 false).cLen := by decide +kernel

/-- the hypothesis `readsDrivenB` cannot be dropped: a cell of unknown kind writes nothing (`SimOps` prints
    "unknown cell type" and goes on), the output port captures a line that never gets memory (`c_locs = -1`, the same in the
    real code), and the certificate rejects the map -/
def unknownNet : Net :=
  { nodes := #[⟨"input", [], [some 0]⟩, ⟨"MYSTERY", [some 0], [some 1]⟩, ⟨"output", [some 1], []⟩],
    lines := #[⟨0, 0, 1, 0⟩, ⟨1, 0, 2, 0⟩], io := [0, 2] }
theorem readsDriven_needed : unknownNet.wfB = true ∧ orderOKB unknownNet [0, 1, 2] = true ∧
    forksOKB unknownNet [0, 1, 2] = true ∧ readsDrivenB Gen.kindPrefixes unknownNet [0, 1, 2] = false ∧
    (simopsMap Gen.kindPrefixes unknownNet [0, 1, 2] false (fun _ => 1) 1 false).locs = #[4, -1, 0, 1, 2, 3, -1, -1, -1] ∧
    (simopsMap Gen.kindPrefixes unknownNet [0, 1, 2] false (fun _ => 1) 1 false).check
      = some "output slot alias is not exact" := by decide +kernel

/-- non-vacuity: a heap with two free chunks between used ones satisfies the invariant -/
example : HInv { cs := [⟨2, false⟩, ⟨3, true⟩, ⟨1, false⟩, ⟨4, true⟩, ⟨2, false⟩], maxSz := 12 } :=
  ⟨by intro c hc; simp at hc; rcases hc with rfl | rfl | rfl | rfl | rfl <;> decide, by simp [NoAdj], by decide⟩

end KV.C08
