import KyupyVerif.Proofs.CircObjHistory
import KyupyVerif.Proofs.CircObjStats
/-! # C09 — circuit graph stays consistent under every edit history

Object of the theorems: the hand-written object-level model `KV.CircObj` (Model/CircObj.lean) of `kyupy/circuit.py`:
`GrowingList` (`growSet`, `freeIndex`), `IndexList.__delitem__` (`idxDel`: move the last element into the hole and rewrite
its `index`), `Node.__init__/remove`, `Line.__init__/remove` (implicit and explicit pins, fork output squeeze with
`driver_pin` renumbering), `io_nodes.append`, `get_or_add_fork`, `eliminate_1to1_forks`, `copy`, `__getstate__` /
`__setstate__`, `stats`.  Python object identity is modelled by explicit ids into two heaps; removed objects stay in the heap.

`WFc c` (Model/CircObj.lean) is the invariant of DESIGN.md C09: node/line indices equal list positions (hence no
duplicates), `cells`/`forks` are dictionaries that map exactly the names of the nodes of that class to them, each line's
driver and reader are nodes of the circuit whose recorded pins hold that line, every non-`None` pin entry is a line of
the circuit that records exactly that node and pin (so a line is referenced from those two places and from nowhere else),
fork outputs contain no `None`, ports are nodes of the circuit (plus model bookkeeping: ids are allocated, objects alive).

* **Theorem** (kernel-checked; the proofs are in Proofs/CircObj*.lean, this file states the results): every operation preserves `WFc` under its decidable well-formed-use
  precondition (`addNode_wf`, `addLine_wf`, `removeLine_wf`, `removeNode_wf`, `ioAppend_wf`, `getOrAddFork_wf`, `elim_wf`,
  `copy_wf`, `pickle_wf`, uniformly `step_wf`); every history from the empty circuit does (`history_wf`); the heart:
  swap-with-last deletion keeps "index = position" (`indexList_delete`); `copy` computes exactly the pickle round trip
  (`copy_eq_pickle`); the Boolean checker decides the invariant (`invOK_iff`); statistics: under `WFc` the dictionaries are
  permutations of the node list split by class, so sizes and every count taken over `cells.values()` equal the counts over
  the node list (`cells_perm`, `forks_perm`, `stats_sizes`, `stats_kind_count`), and the literal `defaultdict` computation
  of `stats` returns base value + those counts for every key (`stats_value`, `stats_seq`).
  `substitute`, `remove_dangling_nodes`, `resolve_tlib_cells` are modelled at object level too (Model/CircObjSub.lean:
  `substituteObj`, `removeDanglingObj`, `resolveObj`, statement by statement over the same primitives `addNode`, `addLine`
  with explicit pins, `removeLine`, `removeNode`; node-keyed sets and dictionaries compare by `Node.__eq__`; `none` where
  Python raises).  Inside these operations `WFc` does not hold (lines keep a stale end while the node's pin lists are
  already cleared or the node is already removed): the proofs go through the weaker invariant `SInv`
  (Proofs/CircObjSInv.lean) with the pending line ends as parameters.  Proved:
  - `removeDangling_wf`: any node of any well-formed circuit, whenever the model returns a circuit (no theorem says that it always does);
  - `substitute_wf0_static`: well-formed host AND implementation + the structural precondition `substStatic` (the node is
    a cell and stays one / is not a port when it gets removed, no line from the node to itself, port list of the
    implementation without duplicates, designated cell not a port — which holds by itself unless a
    port of the implementation is a flip-flop/latch, `designated_not_port`) ⇒ the result satisfies `WFc0` = everything of `WFc`
    except gap-freeness of fork outputs — all arities, unconnected and ignored pins, ports read internally, state elements,
    removal of dangling logic included; via `substStatic_pre0` (structure ⇒ the run-time pin guards `substGuards`: the
    assignments after the node loop are a static list, all into pins of images, which start empty, and no two write the same pin —
    `node_map` is injective, two implementation lines or two instance pins with the same end coincide, a copied line never meets
    an instance pin);
  - `substitute_wf_static` / `substStatic_pre`: the same hypotheses give `WFc` of the result (and `substStatic` implies the
    run-time precondition `substPre`): forks of the host stay gap-free (only `Line.remove` of an ignored input touches them),
    copied forks are made dense again by the loop after the connecting loops (`densify`; an unconnected output pin of the
    instance would otherwise leave a gap), the removal of the dangling logic keeps all forks gap-free;
    nothing is evaluated along the run;
  - `substitute_wf0` / `substitute_wf`: the same conclusions from the decidable run-time preconditions `substPre0` /
    `substPre` (kinds, no self loop, pin guards, `forksFull` of the result) with NO hypothesis on the implementation;
  - `resolve_wf` (`resolvePre`), `resolve_wf_static` (`resolveStatic`), uniformly `step2_wf`, and `history_wf2` /
    `history_wf2_prefix` for histories over all twelve operations.  NOTE: `pre2` of `substitute` / `resolve`
    is `substPre` / `resolvePre`, which contain `forksFull` of the RESULT (a conjunct of the conclusion) and the pin guards
    evaluated along the run — for these two operations `history_wf2` proves only the remaining clauses of `WFc` (`WFc0`);
  - `history_wf2_static` (+ `history_static_is_history`): the same for histories replayed under the STRUCTURAL
    preconditions `pre2s` (Proofs/CircObjHistory.lean: `substStatic` for `substitute`, `resolveStatic` for
    `resolve_tlib_cells`, `pre` / index-in-range for the rest): nothing about the result of a substitution is assumed.
    (`resolveStatic` still checks `substStatic` on the circuit as it is when each substitution of the loop starts.)
* **Correspondence** (harness/c09.py, differential, not proof): the model against the real `kyupy.circuit` API on random
  edit histories — canonical dump after EVERY step (node kinds, names, pin lists as line indices, line ends, `io_nodes`,
  `cells`/`forks` in dictionary order, `stats`) must be equal, `pre` must accept every generated operation, and `invOK` of
  the model state is reported.
  The three operations of Model/CircObjSub.lean are part of the random histories (and run on the hosts × implementations
  of the C10 generators and with the built-in library objects): same dump after the call, `none` exactly when the real code
  raises; the value of `substPre` / `resolvePre` is reported per call, and where it is true `invOK` must be true.
* **Oracle** (harness/c09.py): `WFc` stated directly over the Python objects (identity, not `Node.__eq__`) after every
  step (also after `substitute` / `resolve_tlib_cells` / `remove_dangling_nodes`); this, not the model, decides violations.
  `exGap` below is a use of `substitute` with an open output pin at a copied fork (finding D30): the model follows the
  loop of the code that makes the outputs of copied forks dense again.
* Outside the theorems: what Python does outside well-formed use (explicit pin on an occupied position, removing a node
  that still has lines or is a port, `eliminate_1to1_forks` on a 1:1 fork with several input lines,
  `substitute` of a cell with a line from its own output to its own input) — probed by the harness and recorded as notes.
  A 1:1 fork without an input line is passed over by the code (circuit.py:371) and by `elimStep`, but `elimPre` does not
  admit it: `elim_wf` and the histories say nothing about that use.
  A feed-through implementation (an output port driven through forks only by an input port; finding D32) has no designated
  cell, in the code and in the model (`implShape`); the use is inside `substStatic` (`designated_not_port`, `exFeed`) and is
  part of the fixed histories of the harness (`FEEDTHROUGH_WITNESS`). -/
namespace KV.C09
open KV.CircObj

/-! ## the heart: `IndexList.__delitem__` -/
/-- Deleting position `k` of an `IndexList` whose elements carry their own position (`idx l[p] = p`): after moving the
last element into the hole and rewriting its `index` to `k`, again every element carries its position; the members are
exactly the old ones without `l[k]`; the length drops by one. -/
theorem indexList_delete (l : List Nat) (idx : Nat → Nat) (hidx : ∀ p (h : p < l.length), idx l[p] = p)
    (k : Nat) (hk : k < l.length) :
    (∀ p (h : p < (idxDel l k).1.length),
        (if (idxDel l k).2 = some (idxDel l k).1[p] then k else idx (idxDel l k).1[p]) = p) ∧
    (∀ j, j ∈ (idxDel l k).1 ↔ j ∈ l ∧ j ≠ l[k]) ∧
    (idxDel l k).1.length = l.length - 1 :=
  ⟨(idxDel_spec l idx hidx k hk).1, (idxDel_spec l idx hidx k hk).2.1, idxDel_length l k hk⟩

example : idxDel [10, 11, 12, 13] 1 = ([10, 13, 12], some 13) ∧ idxDel [10, 11, 12, 13] 3 = ([10, 11, 12], none) := by
  decide

theorem empty_wf : WFc empty := KV.CircObj.empty_wf

/-- `Node(c, name, kind)` under the constructor's own assertion (name not yet used in that class) -/
theorem addNode_wf {c : Circ} {name kind : String} (wf : WFc c) (h : nameFree c name kind = true) :
    WFc (addNode c name kind) := KV.CircObj.addNode_wf wf h

/-- `Line(c, driver, reader)` with implicit pins (`none`: `free_index`) or explicit pins (`some p`); well-formed use:
both nodes belong to the circuit, an explicit pin is a free position, and on a fork output it is exactly `len(outs)` -/
theorem addLine_wf {c : Circ} {d r : Nat} {dp rp : Option Nat} (wf : WFc c) (hd : d ∈ c.nodes) (hr : r ∈ c.nodes)
    (hdp : outPinOK (c.nobj d) dp = true) (hrp : inPinOK (c.nobj r) rp = true) : WFc (addLine c d dp r rp) :=
  addLine_wf_of_pinOK wf hd hr hdp hrp

/-- `line.remove()` for any line of the circuit: both pins are `None`-ed, fork outputs are squeezed and renumbered,
the line list is repaired by swap-with-last -/
theorem removeLine_wf {c : Circ} {l : Nat} (wf : WFc c) (hl : l ∈ c.lines) : WFc (removeLine c l) :=
  KV.CircObj.removeLine_wf wf hl

/-- `node.remove()` for a node of the circuit without lines that is not a port -/
theorem removeNode_wf {c : Circ} {i : Nat} (wf : WFc c) (hi : i ∈ c.nodes)
    (hins : (c.nobj i).ins.all (·.isNone) = true) (houts : (c.nobj i).outs.all (·.isNone) = true)
    (hio : c.io.contains i = false) : WFc (removeNode c i) :=
  KV.CircObj.removeNode_wf wf hi (all_isNone_pin hins) (all_isNone_pin houts) (by simpa using hio)

theorem ioAppend_wf {c : Circ} {i : Nat} (wf : WFc c) (hi : i ∈ c.nodes) : WFc (ioAppend c i) :=
  KV.CircObj.ioAppend_wf wf hi

theorem getOrAddFork_wf {c : Circ} (wf : WFc c) (name : String) : WFc (getOrAddFork c name) :=
  KV.CircObj.getOrAddFork_wf wf name

/-- `eliminate_1to1_forks()`; well-formed use (`elimPre`): every non-port fork with exactly one output has exactly one
input line, at pin 0. (The loop over the snapshot `list(self.forks.values())` is handled by a loop invariant; a 1:1 fork
that is a self loop is covered.) -/
theorem elim_wf {c : Circ} (wf : WFc c) (h : elimPre c = true) : WFc (elim c) := KV.CircObj.elim_wf wf h

/-- `pickle.loads(pickle.dumps(c))` = `__setstate__(__getstate__())`: no precondition beyond `WFc` -/
theorem pickle_wf {c : Circ} (wf : WFc c) : WFc (pickle c) := KV.CircObj.pickle_wf wf

/-- on a well-formed circuit `copy()` (name look-ups) builds exactly what the pickle round trip (index look-ups) builds -/
theorem copy_eq_pickle {c : Circ} (wf : WFc c) : copy c = pickle c := KV.CircObj.copy_eq_pickle wf

theorem copy_wf {c : Circ} (wf : WFc c) : WFc (copy c) := KV.CircObj.copy_wf wf

/-- `__setstate__` builds a well-formed circuit from every well-formed state, and `__getstate__` delivers one -/
theorem setState_wf {s : State} (ok : StateOK s) : WFc (setState s) := KV.CircObj.setState_wf ok
theorem getState_ok {c : Circ} (wf : WFc c) : StateOK (getState c) := KV.CircObj.getState_ok wf

/-- every operation, operands chosen by current index, preserves `WFc` under its decidable precondition `pre` -/
theorem step_wf {c : Circ} (wf : WFc c) (op : Op) (h : pre c op = true) : WFc (step c op) := KV.CircObj.step_wf wf op h

/-- every finite history of well-formed uses that starts from the empty circuit ends in a well-formed circuit (a history of
the nine basic operations is a history of all twelve, `run2_base`, so this is `run2_wf`) -/
theorem history_wf (ops : List Op) (c : Circ) (h : run empty ops = some c) : WFc c :=
  run2_wf (ops.map .base) empty c KV.CircObj.empty_wf (by rw [run2_base]; exact h)

/-- ... and so does every prefix: the invariant holds after EVERY step of the history -/
theorem history_wf_prefix (ops rest : List Op) (c : Circ) (h : run empty (ops ++ rest) = some c) :
    ∃ c', run empty ops = some c' ∧ WFc c' := by
  obtain ⟨c', hc'⟩ := run2_prefix (ops.map .base) (rest.map .base) empty c (by rw [← List.map_append, run2_base]; exact h)
  rw [run2_base] at hc'
  exact ⟨c', hc', history_wf ops c' hc'⟩

/-- the Boolean checker evaluated by the driver decides the invariant -/
theorem invOK_iff (c : Circ) : invOK c = true ↔ WFc c := KV.CircObj.invOK_iff c

/-! ### the preconditions are satisfiable: a history that uses every operation (fork with three outputs, removal of
the middle one, explicit pins that grow the pin list, node removal after its lines, 1:1 fork elimination, copy, pickle) -/
def exHistory : List Op :=
  [.addNode "a" "input", .addNode "a" FORK, .addLine 0 none 1 none, .addNode "g" "AND2",
   .addLine 1 none 2 (some 1), .addLine 1 none 2 (some 0), .addNode "b" FORK, .addLine 1 (some 2) 3 (some 3),
   .removeLine 1, .removeLine 0, .ioAppend 0, .addNode "o" "output", .addLine 2 (some 4) 4 (some 2), .removeLine 1,
   .removeNode 3, .copy, .pickle, .getFork "a", .getFork "n", .addLine 0 none 1 none, .addLine 2 none 4 none,
   .addLine 4 none 3 none, .elim]

example : (run empty exHistory).isSome = true := by decide +kernel
example : ((run empty exHistory).map fun c => (c.nodes.length, c.lines.length, invOK c)) = some (3, 3, true) := by
  decide +kernel
/-- an ill-formed use is rejected by `pre`: explicit pin on an occupied position, node removal before its lines -/
example : (run empty [.addNode "a" "AND2", .addNode "b" FORK, .addLine 1 none 0 (some 0), .addLine 1 none 0 (some 0)]).isSome = false := by
  decide +kernel
example : (run empty [.addNode "a" "AND2", .addNode "b" FORK, .addLine 1 none 0 (some 0), .removeNode 0]).isSome = false := by
  decide +kernel

/-! ## `substitute`, `remove_dangling_nodes`, `resolve_tlib_cells` (object-level model: Model/CircObjSub.lean) -/
/-- `c.remove_dangling_nodes(root)` for ANY node of a well-formed circuit: the recursion over the drivers (depth first;
nodes met again after their removal; ports, state elements and nodes with an output line stay) ends in a well-formed
circuit.  The theorem is conditional on the model returning a circuit: `none` stands for "the fuel of the model is exhausted"
as well as for "the real code raises", and no theorem says that `none` does not occur on well-formed circuits. -/
theorem removeDangling_wf {c c' : Circ} {root : Nat} (wf : WFc c) (hroot : root ∈ c.nodes)
    (h : removeDanglingObj c root = some c') : WFc c' := KV.CircObj.removeDanglingObj_wf wf hroot h

/-- `c.substitute(node, impl)` keeps everything of `WFc` except possibly gap-freeness of fork outputs (`WFc0`) under the
decidable precondition `substPre0`: the node is a cell of the circuit and stays a cell (the designated cell of the
implementation is not a fork; without a designated cell the node is removed and must not be a port), no line runs from
the node to itself, and no explicit pin assignment of `substitute` hits a pin that holds a line (`substGuards`,
evaluated along the run; `substStatic_pre0` derives it from structural conditions). No hypothesis on `impl`. -/
theorem substitute_wf0 {c c' : Circ} {i : Nat} {impl : Circ} (wf : WFc c) (hpre : substPre0 c i impl = true)
    (h : substituteObj c i impl = some c') : WFc0 c' := KV.CircObj.substituteObj_wf0 wf.toWFc0 hpre h

/-- the run-time pin guards follow from structure: on a well-formed host, `substStatic` (the node is a cell and stays
one / is not a port when it gets removed, no self loop, the implementation is a well-formed circuit whose port list has no
duplicates and whose designated cell is not a port) implies `substPre0`.  Nothing is evaluated along the run. -/
theorem substStatic_pre0 {c : Circ} {i : Nat} {impl : Circ} (wf : WFc c) (hst : substStatic c i impl = true) :
    substPre0 c i impl = true := KV.CircObj.substPre0_of_static wf.toWFc0 hst

/-- hence: `substitute` on well-formed host and implementation under the structural precondition keeps everything of
`WFc` except possibly gap-freeness of fork outputs — for every arity, unconnected pins, ignored inputs, outputs read
internally, removal of dangling logic included -/
theorem substitute_wf0_static {c c' : Circ} {i : Nat} {impl : Circ} (wf : WFc c) (hst : substStatic c i impl = true)
    (h : substituteObj c i impl = some c') : WFc0 c' := substitute_wf0 wf (substStatic_pre0 wf hst) h

/-- ... and `WFc` when in addition the fork outputs of the result are gap-free (`substPre` = `substPre0` + `forksFull` of
the result; without hypotheses on the implementation a fork of the implementation with a gap is copied with it) -/
theorem substitute_wf {c c' : Circ} {i : Nat} {impl : Circ} (wf : WFc c) (hpre : substPre c i impl = true)
    (h : substituteObj c i impl = some c') : WFc c' := KV.CircObj.substituteObj_wf wf hpre h

/-- structural precondition only: well-formed host and implementation + `substStatic` give `WFc` of the result.  Instance
pins may be unconnected, inputs may be ignored by the implementation, ports may be read internally, the implementation may
contain forks and state elements, dangling logic behind open outputs is removed; nothing is evaluated along the run. -/
theorem substitute_wf_static {c c' : Circ} {i : Nat} {impl : Circ} (wf : WFc c) (hst : substStatic c i impl = true)
    (h : substituteObj c i impl = some c') : WFc c' := KV.CircObj.substituteObj_wf_static wf hst h

/-- ... in other words the structural condition implies the run-time precondition `substPre` -/
theorem substStatic_pre {c : Circ} {i : Nat} {impl : Circ} (wf : WFc c) (hst : substStatic c i impl = true) :
    substPre c i impl = true := KV.CircObj.substPre_of_static wf hst

/-- When the walk from the first output of the implementation ends at one of its PORTS (a feed-through cell
`input A -> fork -> output X`) the implementation has no designated cell.  Hence the clause "the designated cell is not a
port" of `substStatic` (`desNotPort`) holds by itself for every implementation none of whose ports is a flip-flop/latch:
feed-through implementations are inside the structural theorems (`exFeed` below). -/
theorem designated_not_port {impl : Circ} (h : (impl.io.all fun p => !(isSeqKind (impl.nobj p).kind)) = true) :
    desNotPort impl = true := by
  unfold desNotPort
  cases hs : implShape impl with
  | none => rfl
  | some sh =>
    cases hd : sh.des with
    | none => simp only [hd]
    | some dn =>
      simp only [hd, Bool.not_eq_true']
      apply implShape_des_notPort hs hd
      intro p hp
      have := List.all_eq_true.mp h p hp
      simpa using this

/-- `c.resolve_tlib_cells(tlib)`: the loop over the snapshot `list(self.nodes)`; `resolvePre` = every substitution it
performs is a well-formed use -/
theorem resolve_wf {lib : Lib} {c c' : Circ} (wf : WFc c) (hpre : resolvePre lib c = true) (h : resolveObj lib c = some c') :
    WFc c' := KV.CircObj.resolveObj_wf wf hpre h

/-- `resolve_tlib_cells` when every substitution it performs satisfies the structural precondition (`resolveStatic`:
`substStatic` on the circuit as it is when that substitution starts) -/
theorem resolve_wf_static {lib : Lib} {c c' : Circ} (wf : WFc c) (hst : resolveStatic lib c = true)
    (h : resolveObj lib c = some c') : WFc c' := resolve_wf wf (KV.CircObj.resolvePre_of_static wf hst) h

/-- every operation of the extended repertoire preserves `WFc` under its decidable precondition `pre2` -/
theorem step2_wf {c c' : Circ} (wf : WFc c) (op : Op2) (hpre : pre2 c op = true) (h : step2 c op = some c') : WFc c' :=
  KV.CircObj.step2_wf wf op hpre h

/-- every finite history of well-formed uses of ALL modelled operations (the nine of `Op`, `substitute`,
`remove_dangling_nodes`, `resolve_tlib_cells`) that starts from the empty circuit ends in a well-formed circuit -/
theorem history_wf2 (ops : List Op2) (c : Circ) (h : run2 empty ops = some c) : WFc c :=
  run2_wf ops empty c KV.CircObj.empty_wf h

/-- ... and so does every prefix -/
theorem history_wf2_prefix (ops rest : List Op2) (c : Circ) (h : run2 empty (ops ++ rest) = some c) :
    ∃ c', run2 empty ops = some c' ∧ WFc c' := by
  obtain ⟨c', hc'⟩ := run2_prefix ops rest empty c h
  exact ⟨c', hc', history_wf2 ops c' hc'⟩

/-- every finite history of STRUCTURAL well-formed uses (`pre2s`: `substStatic` for `substitute`, `resolveStatic` for
`resolve_tlib_cells` — no clause about the result of a substitution, no guard evaluated inside one) that starts from the
empty circuit ends in a well-formed circuit.  Non-circular form of `history_wf2`. -/
theorem history_wf2_static (ops : List Op2) (c : Circ) (h : run2s empty ops = some c) : WFc c :=
  run2s_wf ops empty c KV.CircObj.empty_wf h

/-- ... and it is a history of `history_wf2` with the same result: `pre2s` implies `pre2` along the whole run -/
theorem history_static_is_history (ops : List Op2) (c : Circ) (h : run2s empty ops = some c) : run2 empty ops = some c :=
  run2_of_run2s ops empty c KV.CircObj.empty_wf h

/-! ### the preconditions are satisfiable: a half adder instance is substituted by an implementation with a port read
internally (a fork is made for it), an input with two readers (a fork is made) and one with a single reader; then an
instance of a library cell is added and resolved, and a dangling gate is removed together with the logic behind it -/
/-- X = AND2(A, B), Y = OR2(A, X); ports A, B, X, Y are forks (as `TechLib` builds them) -/
def exImpl : Circ := setState
  { nodes := [("A", FORK), ("B", FORK), ("X", "AND2"), ("X", FORK), ("Y", "OR2"), ("Y", FORK)],
    lines := [(0, 0, 2, 0), (1, 0, 2, 1), (2, 0, 3, 0), (0, 1, 4, 0), (3, 0, 4, 1), (4, 0, 5, 0)],
    io := [0, 1, 3, 5] }
/-- Z = INV1(A) -/
def exImpl2 : Circ := setState
  { nodes := [("A", FORK), ("Z", "INV1"), ("Z", FORK)], lines := [(0, 0, 1, 0), (1, 0, 2, 0)], io := [0, 2] }

def exHistory2 : List Op2 :=
  [.base (.addNode "a" "input"), .base (.addNode "b" "input"), .base (.addNode "u" "HA"), .base (.addNode "ox" "output"),
   .base (.addNode "oy" "output"), .base (.addLine 0 none 2 (some 0)), .base (.addLine 1 none 2 (some 1)),
   .base (.addLine 2 (some 0) 3 none), .base (.addLine 2 (some 1) 4 none), .base (.ioAppend 0), .base (.ioAppend 1),
   .base (.ioAppend 3), .base (.ioAppend 4), .substitute 2 exImpl,
   .base (.addNode "v" "INVX"), .base (.addNode "w" FORK), .base (.addLine 6 none 8 (some 0)), .base (.addLine 8 (some 0) 9 none),
   .base (.addNode "g" "BUF1"), .base (.addLine 9 none 10 none), .resolve [("INVX", exImpl2)], .removeDangling 10, .base .copy]

/-- after `substitute`: 8 nodes, 8 lines; after `resolve`: 11 nodes, 11 lines; `remove_dangling_nodes` takes away the
gate, the fork and the resolved cell behind it -/
example : ((run2 empty (exHistory2.take 14)).map fun c => (c.nodes.length, c.lines.length, invOK c)) = some (8, 8, true) := by
  decide +kernel
example : ((run2 empty (exHistory2.take 21)).map fun c => (c.nodes.length, c.lines.length, invOK c)) = some (11, 11, true) := by
  decide +kernel
example : ((run2 empty exHistory2).map fun c => (c.nodes.length, c.lines.length, invOK c)) = some (8, 8, true) := by
  decide +kernel
/-- the whole history (a `substitute`, a `resolve`, a `remove_dangling_nodes`, a `copy`) is a history of STRUCTURAL
well-formed uses: hypothesis of `history_wf2_static` -/
example : ((run2s empty exHistory2).map fun c => (c.nodes.length, c.lines.length)) = some (8, 8) := by decide +kernel
/-- the structural preconditions hold for the substitution and for the resolution in this history -/
example : ((run2 empty (exHistory2.take 13)).map fun c => substStatic c 2 exImpl) = some true := by decide +kernel
example : ((run2 empty (exHistory2.take 20)).map fun c => resolveStatic [("INVX", exImpl2)] c) = some true := by decide +kernel

/-- An open output pin whose implementation line leaves a fork at a pin below another kept output of that fork (fork
`F` drives the output port `O1` at pin 0 and a gate at pin 1; the instance pin of `O1` is open).  The structural precondition
holds; the copied fork is made dense again (`F.outs = [line]`, its `driver_pin` renumbered to 0): 4 nodes, 3 lines, `WFc`. -/
def exGap : Circ := setState
  { nodes := [("A", "input"), ("F", FORK), ("X", "INV1"), ("O1", "output"), ("O2", "output")],
    lines := [(0, 0, 1, 0), (1, 0, 3, 0), (1, 1, 2, 0), (2, 0, 4, 0)], io := [0, 4, 3] }
def exHistoryGap : List Op2 :=
  [.base (.addNode "a" "input"), .base (.addNode "u" "CELLX1"), .base (.addNode "o" "output"),
   .base (.addLine 0 none 1 none), .base (.addLine 1 (some 0) 2 none), .base (.ioAppend 0), .base (.ioAppend 2)]
example : ((run2 empty exHistoryGap).map fun c => (substStatic c 1 exGap, substPre c 1 exGap)) = some (true, true) := by
  decide +kernel
example : ((run2 empty (exHistoryGap ++ [.substitute 1 exGap])).map fun c =>
    (c.nodes.length, c.lines.length, invOK c, c.nodes.map fun j => (c.nobj j).outs.length)) = some (4, 3, true, [1, 1, 0, 1]) := by
  decide +kernel

/-- The feed-through implementation `input A -> fork a -> output X`.  The walk for the designated cell ends at
the port `A`, so there is none: the instance is removed, the fork `u~a` takes its place between the instance's lines — the
structural precondition holds and the result (3 nodes, 2 lines) is well-formed. -/
def exFeed : Circ := setState
  { nodes := [("A", "input"), ("a", FORK), ("X", "output")], lines := [(0, 0, 1, 0), (1, 0, 2, 0)], io := [0, 2] }
example : (implShape exFeed).map (·.des) = some none ∧
    ((run2 empty exHistoryGap).map fun c => (substStatic c 1 exFeed, substPre c 1 exFeed)) = some (true, true) := by
  decide +kernel
example : ((run2 empty (exHistoryGap ++ [.substitute 1 exFeed])).map fun c =>
    (c.nodes.length, c.lines.length, invOK c, c.nodes.map fun j => (c.nobj j).kind)) =
      some (3, 2, true, ["input", "output", FORK]) := by
  decide +kernel

/-- an open output pin with dangling logic behind it: the half adder of `exHistory2` with its second output open — the OR
gate behind it is removed together with its two input lines (two fork squeezes): 6 nodes, 5 lines -/
def exHistoryOpen : List Op2 :=
  [.base (.addNode "a" "input"), .base (.addNode "b" "input"), .base (.addNode "u" "HA"), .base (.addNode "ox" "output"),
   .base (.addLine 0 none 2 (some 0)), .base (.addLine 1 none 2 (some 1)), .base (.addLine 2 (some 0) 3 none),
   .base (.ioAppend 0), .base (.ioAppend 1), .base (.ioAppend 3)]
example : ((run2 empty exHistoryOpen).map fun c => substStatic c 2 exImpl) = some true := by decide +kernel
example : ((run2 empty (exHistoryOpen ++ [.substitute 2 exImpl])).map fun c => (c.nodes.length, c.lines.length, invOK c)) =
    some (6, 5, true) := by decide +kernel

/-- `cells.values()` is a permutation of the non-fork nodes, `forks.values()` of the fork nodes -/
theorem cells_perm {c : Circ} (wf : WFc c) :
    (c.cells.map (·.2)).Perm (c.nodes.filter fun i => (c.nobj i).kind != FORK) := KV.CircObj.cells_perm wf.toWFc0
theorem forks_perm {c : Circ} (wf : WFc c) :
    (c.forks.map (·.2)).Perm (c.nodes.filter fun i => (c.nobj i).kind == FORK) := KV.CircObj.forks_perm wf.toWFc0

/-- `stats['__cell__']`, `stats['__fork__']` (the dictionary sizes) are the numbers of nodes of each class and add up to
`stats['__node__']` -/
theorem stats_sizes {c : Circ} (wf : WFc c) :
    c.cells.length = c.nodes.countP (fun i => (c.nobj i).kind != FORK) ∧
    c.forks.length = c.nodes.countP (fun i => (c.nobj i).kind == FORK) ∧
    c.cells.length + c.forks.length = c.nodes.length := KV.CircObj.stats_sizes wf.toWFc0

/-- every count that `stats` takes over `cells.values()` equals the count over the non-fork nodes of the node list -/
theorem stats_kind_count {c : Circ} (wf : WFc c) (p : String → Bool) :
    c.cells.countP (fun e => p (c.nobj e.2).kind) =
    c.nodes.countP (fun i => (c.nobj i).kind != FORK && p (c.nobj i).kind) := KV.CircObj.stats_kind_count wf.toWFc0 p

/-- the literal `defaultdict` computation: the value reported under any key other than `__seq__` is the base value
(container size for the five size keys) plus the number of cells counted under that key (own kind, `__dff__`,
`__latch__`, `__comb__` classification), counted over the NODE LIST -/
theorem stats_value {c : Circ} (wf : WFc c) (k : String) (hk : k ≠ "__seq__") :
    statVal (stats c) k = statBase c k + c.nodes.countP (fun i => (c.nobj i).kind != FORK && countsFor k (c.nobj i).kind) +
      c.nodes.countP (fun i => (c.nobj i).kind != FORK && classFor k (c.nobj i).kind) :=
  KV.CircObj.stats_value wf.toWFc0 k hk

/-- `stats['__seq__'] = stats['__dff__'] + stats['__latch__']` -/
theorem stats_seq (c : Circ) :
    statVal (stats c) "__seq__" = statVal (stats c) "__dff__" + statVal (stats c) "__latch__" := by
  unfold stats
  simp only []
  rw [statVal_setKey, statVal_setKey, statVal_setKey]
  have h1 : ("__seq__" == "__dff__") = false := by decide
  have h2 : ("__seq__" == "__latch__") = false := by decide
  simp only [beq_self_eq_true, if_true, h1, h2, Bool.false_eq_true, if_false]
  rfl

end KV.C09
