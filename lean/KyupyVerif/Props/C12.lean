import KyupyVerif.Proofs.MvChk
import KyupyVerif.Gen.Bp
import KyupyVerif.Gen.MvTables
/-! # C12 — multi-valued operators agree across both storage formats and the algebra

`Gen.bp8v_*k` / `Gen.bp4v_*k` are the expressions recorded from the real `logic.bp8v_*` / `logic.bp4v_*`
called with `k` operands; `Gen.mv_*k` are the complete tables of the real `logic._mv_*` (and `Gen.mvpub_*`
of the public wrappers).  All statements quantify over **all** operand values; the lane-wise statements
over every lane count `w` and lane `k < w`.
`V3`, `V2`, `spec*`: Model/Val.lean; `P3.ofV3` / `P3.toV3`, `BHom`, `lane`: Model/BAlg.lean; `tab t i` (Proofs/MvChk.lean) is entry `i`
of a table packed three bits per entry, and operand `j` of a table has weight `8^j` in `i`.

The documented algebra `spec*` (operand lists of any length) comes first: it does not depend on the operand order
(`spec*_perm`), and one more operand in front is the 2-operand operator applied to it and the result for the rest
(`spec*_cons`).  The real operators of one and two operands are compared with it on every operand tuple (complete
enumeration in the kernel), and so are the 4-valued bit-parallel operators of three and four operands (64 / 256
tuples).  The 8-valued operators of three and four operands are compared with the nested real 2-operand operator,
again on every operand tuple: the bit-parallel ones on all 8^3 / 8^4 tuples in one evaluation each (`nest3`, `nest4` of
`Proofs/MvChk.lean`), the tables block by block (`mv3_of_mv2`, `mv4_of_mv3`); that they equal the algebra is then a
consequence of `spec*_cons` and `spec*_perm`. -/
namespace KV.C12
open KV KV.Gen

/-- What `logic.bp8v_buf` / `logic.bp4v_buf` compute (logic.py:292-304): UNASSIGNED becomes UNKNOWN, every other value
is kept.  That is the library function only: the simulators' BUF1 copies its operand, UNASSIGNED included
(`Model/Comp.lean`), so no primitive is composed from it and it is specified here, beside the one theorem about it,
not with the algebra in `Model/Val.lean`. -/
def specBuf (v : V3) : V3 := if v.unk then V3.unknown else v
def spec4Buf (v : V2) : V2 := V2.ofV3 (specBuf v.toV3)

/-! ## the documented algebra is order-independent for lists of any length -/
theorem foldl_xor_perm {α : Type} (f : α → Bool) {xs ys : List α} (h : xs.Perm ys) (acc : Bool) :
    xs.foldl (fun a v => a ^^ f v) acc = ys.foldl (fun a v => a ^^ f v) acc :=
  h.foldl_eq' (fun x _ y _ a => by cases a <;> cases f x <;> cases f y <;> rfl) acc

theorem specAnd_perm {xs ys : List V3} (h : xs.Perm ys) : specAnd xs = specAnd ys := by
  simp only [specAnd, h.any_eq, h.all_eq]
theorem specOr_perm {xs ys : List V3} (h : xs.Perm ys) : specOr xs = specOr ys := by
  simp only [specOr, h.any_eq]
theorem specXor_perm {xs ys : List V3} (h : xs.Perm ys) : specXor xs = specXor ys := by
  simp only [specXor, h.any_eq, foldl_xor_perm (·.p0) h, foldl_xor_perm (·.p1) h]

/-! ## any number of operands: one more operand in front is the 2-operand operator

`spec*_cons` (lists of ANY length): putting one more operand in front equals the 2-operand operator applied to
that operand and the result for the rest.  Each operator looks at its operands through a few Booleans only (is there a
controlling constant, an unknown, what are the planes: `andOf`, `orOf`, `xorOf`), which a further operand updates.  Not
every combination of these Booleans comes from a list (`*_key`, by induction), and for those that do the claim is a
finite check (`*_step`). -/
def andOf (z u p q r : Bool) : V3 := if z then V3.zero else if u then V3.unknown else ⟨p, q, r⟩
def orOf (o u p q r : Bool) : V3 := if o then V3.one else if u then V3.unknown else ⟨p, q, r⟩
def xorOf (u p q r : Bool) : V3 := if u then V3.unknown else ⟨p, q, r⟩

/-- Without a ZERO and without an unknown operand the planes `⟨all p0, all p1, any p2⟩` are themselves neither ZERO
nor unknown:
1. no activity ⇒ every final value is 1,
2. no activity ⇒ every initial value is 1 (with 1: without activity every operand is ONE, so the planes are not ZERO),
3. the planes are not UNKNOWN / UNASSIGNED (this follows from 1 and 2). -/
theorem and_key (xs : List V3) (h0 : xs.any V3.isZero = false) (hu : xs.any V3.unk = false) :
    ((xs.all (·.p0) || xs.any (·.p2)) = true) ∧ ((xs.all (·.p1) || xs.any (·.p2)) = true) ∧
    (((xs.all (·.p0) ^^ xs.all (·.p1)) && !xs.any (·.p2)) = false) := by
  induction xs with
  | nil => decide
  | cons x xs ih =>
    simp only [List.any_cons, List.all_cons] at h0 hu ⊢
    generalize xs.any V3.isZero = z, xs.any V3.unk = u, xs.all (·.p0) = p, xs.all (·.p1) = q,
      xs.any (·.p2) = r at ih h0 hu ⊢
    revert x z u p q r
    decide +kernel

/-- The hypothesis is the conclusion of `and_key` word for word, third conjunct included, so that `and_key xs` is
the argument. -/
theorem and_step : ∀ (x : V3) (z u p q r : Bool),
    (z = false → u = false → (p || r) = true ∧ (q || r) = true ∧ ((p ^^ q) && !r) = false) →
    andOf (x.isZero || z) (x.unk || u) (x.p0 && p) (x.p1 && q) (x.p2 || r) = specAnd [x, andOf z u p q r] := by
  decide +kernel

/- What carries the proof: `List.any` / `List.all` on `x :: xs` compute, so `specAnd (x :: xs)` unfolds to
`andOf (x.isZero || xs.any ..) (x.unk || xs.any ..) (x.p0 && xs.all ..) ..` and `specAnd xs` to `andOf (xs.any ..) ..`;
the statement IS an instance of `and_step`, up to unfolding.  Likewise `specOr_cons`. -/
theorem specAnd_cons (x : V3) (xs : List V3) : specAnd (x :: xs) = specAnd [x, specAnd xs] :=
  and_step x _ _ _ _ _ (and_key xs)

/-- Without a ONE and without an unknown operand:
1. the planes are not ONE,
2. nor UNKNOWN / UNASSIGNED (with 1: without activity every operand is ZERO). -/
theorem or_key (xs : List V3) (h1 : xs.any V3.isOne = false) (hu : xs.any V3.unk = false) :
    ((xs.any (·.p0) && xs.any (·.p1) && !xs.any (·.p2)) = false) ∧
    (((xs.any (·.p0) ^^ xs.any (·.p1)) && !xs.any (·.p2)) = false) := by
  induction xs with
  | nil => decide
  | cons x xs ih =>
    simp only [List.any_cons] at h1 hu ⊢
    generalize xs.any V3.isOne = o, xs.any V3.unk = u, xs.any (·.p0) = p, xs.any (·.p1) = q,
      xs.any (·.p2) = r at ih h1 hu ⊢
    revert x o u p q r
    decide +kernel

theorem or_step : ∀ (x : V3) (o u p q r : Bool),
    (o = false → u = false → (p && q && !r) = false ∧ ((p ^^ q) && !r) = false) →
    orOf (x.isOne || o) (x.unk || u) (x.p0 || p) (x.p1 || q) (x.p2 || r) = specOr [x, orOf o u p q r] := by
  decide +kernel

theorem specOr_cons (x : V3) (xs : List V3) : specOr (x :: xs) = specOr [x, specOr xs] :=
  or_step x _ _ _ _ _ (or_key xs)

theorem foldl_xor_acc {α : Type} (f : α → Bool) (xs : List α) (acc : Bool) :
    xs.foldl (fun a v => a ^^ f v) acc = (acc ^^ xs.foldl (fun a v => a ^^ f v) false) := by
  induction xs generalizing acc with
  | nil => simp
  | cons x xs ih =>
    simp only [List.foldl_cons]
    rw [ih (acc ^^ f x), ih (false ^^ f x)]
    cases acc <;> cases f x <;> simp

/-- Without an unknown operand the planes are not UNKNOWN / UNASSIGNED: without activity every operand is ZERO or
ONE, so both planes hold the same parity. -/
theorem xor_key (xs : List V3) (hu : xs.any V3.unk = false) :
    (((xs.foldl (fun a v => a ^^ v.p0) false ^^ xs.foldl (fun a v => a ^^ v.p1) false) && !xs.any (·.p2)) = false) := by
  induction xs with
  | nil => decide
  | cons x xs ih =>
    simp only [List.any_cons, List.foldl_cons] at hu ⊢
    rw [foldl_xor_acc (·.p0) xs, foldl_xor_acc (·.p1) xs]
    generalize xs.any V3.unk = u, xs.foldl (fun a v => a ^^ v.p0) false = p,
      xs.foldl (fun a v => a ^^ v.p1) false = q, xs.any (·.p2) = r at ih hu ⊢
    revert x u p q r
    decide +kernel

/-- `List.foldl` on `x :: xs` starts, by definition, from `false ^^ x.p0`; `foldl_xor_acc` moves that start value
out in front, which gives the planes `(false ^^ x.p0) ^^ p` here. -/
theorem xor_step : ∀ (x : V3) (u p q r : Bool), (u = false → ((p ^^ q) && !r) = false) →
    xorOf (x.unk || u) ((false ^^ x.p0) ^^ p) ((false ^^ x.p1) ^^ q) (x.p2 || r) = specXor [x, xorOf u p q r] := by
  decide +kernel

theorem specXor_cons (x : V3) (xs : List V3) : specXor (x :: xs) = specXor [x, specXor xs] := by
  have h := xor_step x _ _ _ _ (xor_key xs)
  -- back to the form `xs.foldl _ (false ^^ x.p0)` that `specXor (x :: xs)` unfolds to
  rw [← foldl_xor_acc, ← foldl_xor_acc] at h
  exact h

/-! ## grouping is irrelevant: a consequence of `spec*_perm` and `spec*_cons` alone -/
theorem nested3 {f : List V3 → V3} (perm : ∀ {xs ys : List V3}, xs.Perm ys → f xs = f ys)
    (cons : ∀ x xs, f (x :: xs) = f [x, f xs]) (a b c : V3) : f [a, b, c] = f [f [a, b], c] :=
  (perm (List.perm_append_comm (l₁ := [a, b]) (l₂ := [c]))).trans
    ((cons c [a, b]).trans (perm (List.Perm.swap (f [a, b]) c [])))
theorem nested4 {f : List V3 → V3} (perm : ∀ {xs ys : List V3}, xs.Perm ys → f xs = f ys)
    (cons : ∀ x xs, f (x :: xs) = f [x, f xs]) (a b c d : V3) : f [a, b, c, d] = f [f [a, b], f [c, d]] := by
  rw [cons a [b, c, d], cons b [c, d], ← cons a [b, f [c, d]]]
  exact nested3 perm cons a b (f [c, d])

theorem specAnd3_nested (a b c : V3) : specAnd [a, b, c] = specAnd [specAnd [a, b], c] :=
  nested3 specAnd_perm specAnd_cons a b c
theorem specOr3_nested (a b c : V3) : specOr [a, b, c] = specOr [specOr [a, b], c] :=
  nested3 specOr_perm specOr_cons a b c
theorem specXor3_nested (a b c : V3) : specXor [a, b, c] = specXor [specXor [a, b], c] :=
  nested3 specXor_perm specXor_cons a b c
theorem specAnd4_nested (a b c d : V3) : specAnd [a, b, c, d] = specAnd [specAnd [a, b], specAnd [c, d]] :=
  nested4 specAnd_perm specAnd_cons a b c d
theorem specOr4_nested (a b c d : V3) : specOr [a, b, c, d] = specOr [specOr [a, b], specOr [c, d]] :=
  nested4 specOr_perm specOr_cons a b c d
theorem specXor4_nested (a b c d : V3) : specXor [a, b, c, d] = specXor [specXor [a, b], specXor [c, d]] :=
  nested4 specXor_perm specXor_cons a b c d

/-! ## De Morgan duality between AND and OR under NOT, on all eight values: any number of operands, and 1..4 -/
theorem de_morgan_and2 (a b : V3) :
    specNot (specAnd [a, b]) = specOr [specNot a, specNot b] := by
  revert a b
  decide +kernel
theorem de_morgan_or2 (a b : V3) :
    specNot (specOr [a, b]) = specAnd [specNot a, specNot b] := by
  revert a b
  decide +kernel

/-- De Morgan for operand lists of ANY length (the 1..4-operand statements are instances) -/
theorem de_morgan_and_any (xs : List V3) : specNot (specAnd xs) = specOr (xs.map specNot) := by
  induction xs with
  | nil => rfl
  | cons x xs ih => rw [specAnd_cons, de_morgan_and2, ih, List.map_cons, ← specOr_cons]
theorem de_morgan_or_any (xs : List V3) : specNot (specOr xs) = specAnd (xs.map specNot) := by
  induction xs with
  | nil => rfl
  | cons x xs ih => rw [specOr_cons, de_morgan_or2, ih, List.map_cons, ← specAnd_cons]

theorem de_morgan_and1 (a : V3) :
    specNot (specAnd [a]) = specOr [specNot a] :=
  de_morgan_and_any [a]
theorem de_morgan_and3 (a b c : V3) :
    specNot (specAnd [a, b, c]) = specOr [specNot a, specNot b, specNot c] :=
  de_morgan_and_any [a, b, c]
theorem de_morgan_and4 (a b c d : V3) :
    specNot (specAnd [a, b, c, d]) = specOr [specNot a, specNot b, specNot c, specNot d] :=
  de_morgan_and_any [a, b, c, d]
theorem de_morgan_or1 (a : V3) :
    specNot (specOr [a]) = specAnd [specNot a] :=
  de_morgan_or_any [a]
theorem de_morgan_or3 (a b c : V3) :
    specNot (specOr [a, b, c]) = specAnd [specNot a, specNot b, specNot c] :=
  de_morgan_or_any [a, b, c]
theorem de_morgan_or4 (a b c d : V3) :
    specNot (specOr [a, b, c, d]) = specAnd [specNot a, specNot b, specNot c, specNot d] :=
  de_morgan_or_any [a, b, c, d]

/-! ## bit-parallel operators (8-valued) equal the documented algebra

One and two operands: all 8 / 64 tuples. -/
theorem bp8_not_spec (a : V3) : (bp8v_not1 (.ofV3 a)).toV3 = specNot a := by
  revert a
  decide +kernel
theorem bp8_buf_spec (a : V3) : (bp8v_buf1 (.ofV3 a)).toV3 = specBuf a := by
  revert a
  decide +kernel
theorem bp8_and1_spec (a : V3) : (bp8v_and1 (.ofV3 a)).toV3 = specAnd [a] := by
  revert a
  decide +kernel
theorem bp8_and2_spec (a b : V3) : (bp8v_and2 (.ofV3 a) (.ofV3 b)).toV3 = specAnd [a, b] := by
  revert a b
  decide +kernel
theorem bp8_or1_spec (a : V3) : (bp8v_or1 (.ofV3 a)).toV3 = specOr [a] := by
  revert a
  decide +kernel
theorem bp8_or2_spec (a b : V3) : (bp8v_or2 (.ofV3 a) (.ofV3 b)).toV3 = specOr [a, b] := by
  revert a b
  decide +kernel
theorem bp8_xor1_spec (a : V3) : (bp8v_xor1 (.ofV3 a)).toV3 = specXor [a] := by
  revert a
  decide +kernel
theorem bp8_xor2_spec (a b : V3) : (bp8v_xor2 (.ofV3 a) (.ofV3 b)).toV3 = specXor [a, b] := by
  revert a b
  decide +kernel

/-! The same without `toV3`, for rewriting where a result is an operand again. -/
theorem bp8v_not1_ofV3 (a : V3) : bp8v_not1 (.ofV3 a) = .ofV3 (specNot a) := P3.of_toV3 (bp8_not_spec a)
theorem bp8v_and2_ofV3 (a b : V3) : bp8v_and2 (.ofV3 a) (.ofV3 b) = .ofV3 (specAnd [a, b]) :=
  P3.of_toV3 (bp8_and2_spec a b)
theorem bp8v_or2_ofV3 (a b : V3) : bp8v_or2 (.ofV3 a) (.ofV3 b) = .ofV3 (specOr [a, b]) :=
  P3.of_toV3 (bp8_or2_spec a b)
theorem bp8v_xor2_ofV3 (a b : V3) : bp8v_xor2 (.ofV3 a) (.ofV3 b) = .ofV3 (specXor [a, b]) :=
  P3.of_toV3 (bp8_xor2_spec a b)

/-! Three and four operands: the recorded expression equals the nested 2-operand ones as a bit-parallel function, checked
on all operand tuples at once. -/
theorem bp8_and3_nested (a b c : V3) :
    (bp8v_and3 (.ofV3 a) (.ofV3 b) (.ofV3 c)).toV3 = (bp8v_and2 (bp8v_and2 (.ofV3 a) (.ofV3 b)) (.ofV3 c)).toV3 :=
  congrArg P3.toV3 (nest3 bp8v_and2_hom bp8v_and3_hom (by decide +kernel) a b c)
theorem bp8_or3_nested (a b c : V3) :
    (bp8v_or3 (.ofV3 a) (.ofV3 b) (.ofV3 c)).toV3 = (bp8v_or2 (bp8v_or2 (.ofV3 a) (.ofV3 b)) (.ofV3 c)).toV3 :=
  congrArg P3.toV3 (nest3 bp8v_or2_hom bp8v_or3_hom (by decide +kernel) a b c)
theorem bp8_xor3_nested (a b c : V3) :
    (bp8v_xor3 (.ofV3 a) (.ofV3 b) (.ofV3 c)).toV3 = (bp8v_xor2 (bp8v_xor2 (.ofV3 a) (.ofV3 b)) (.ofV3 c)).toV3 :=
  congrArg P3.toV3 (nest3 bp8v_xor2_hom bp8v_xor3_hom (by decide +kernel) a b c)

theorem bp8_and4_nested (a b c d : V3) :
    (bp8v_and4 (.ofV3 a) (.ofV3 b) (.ofV3 c) (.ofV3 d)).toV3 =
      (bp8v_and2 (bp8v_and2 (.ofV3 a) (.ofV3 b)) (bp8v_and2 (.ofV3 c) (.ofV3 d))).toV3 :=
  congrArg P3.toV3 (nest4 bp8v_and2_hom bp8v_and4_hom (by decide +kernel) a b c d)
theorem bp8_or4_nested (a b c d : V3) :
    (bp8v_or4 (.ofV3 a) (.ofV3 b) (.ofV3 c) (.ofV3 d)).toV3 =
      (bp8v_or2 (bp8v_or2 (.ofV3 a) (.ofV3 b)) (bp8v_or2 (.ofV3 c) (.ofV3 d))).toV3 :=
  congrArg P3.toV3 (nest4 bp8v_or2_hom bp8v_or4_hom (by decide +kernel) a b c d)
theorem bp8_xor4_nested (a b c d : V3) :
    (bp8v_xor4 (.ofV3 a) (.ofV3 b) (.ofV3 c) (.ofV3 d)).toV3 =
      (bp8v_xor2 (bp8v_xor2 (.ofV3 a) (.ofV3 b)) (bp8v_xor2 (.ofV3 c) (.ofV3 d))).toV3 :=
  congrArg P3.toV3 (nest4 bp8v_xor2_hom bp8v_xor4_hom (by decide +kernel) a b c d)

theorem bp8_and3_spec (a b c : V3) : (bp8v_and3 (.ofV3 a) (.ofV3 b) (.ofV3 c)).toV3 = specAnd [a, b, c] := by
  rw [bp8_and3_nested, bp8v_and2_ofV3, bp8_and2_spec, specAnd3_nested]
theorem bp8_and4_spec (a b c d : V3) : (bp8v_and4 (.ofV3 a) (.ofV3 b) (.ofV3 c) (.ofV3 d)).toV3 = specAnd [a, b, c, d] := by
  rw [bp8_and4_nested, bp8v_and2_ofV3 a b, bp8v_and2_ofV3 c d, bp8_and2_spec, specAnd4_nested]
theorem bp8_or3_spec (a b c : V3) : (bp8v_or3 (.ofV3 a) (.ofV3 b) (.ofV3 c)).toV3 = specOr [a, b, c] := by
  rw [bp8_or3_nested, bp8v_or2_ofV3, bp8_or2_spec, specOr3_nested]
theorem bp8_or4_spec (a b c d : V3) : (bp8v_or4 (.ofV3 a) (.ofV3 b) (.ofV3 c) (.ofV3 d)).toV3 = specOr [a, b, c, d] := by
  rw [bp8_or4_nested, bp8v_or2_ofV3 a b, bp8v_or2_ofV3 c d, bp8_or2_spec, specOr4_nested]
theorem bp8_xor3_spec (a b c : V3) : (bp8v_xor3 (.ofV3 a) (.ofV3 b) (.ofV3 c)).toV3 = specXor [a, b, c] := by
  rw [bp8_xor3_nested, bp8v_xor2_ofV3, bp8_xor2_spec, specXor3_nested]
theorem bp8_xor4_spec (a b c d : V3) : (bp8v_xor4 (.ofV3 a) (.ofV3 b) (.ofV3 c) (.ofV3 d)).toV3 = specXor [a, b, c, d] := by
  rw [bp8_xor4_nested, bp8v_xor2_ofV3 a b, bp8v_xor2_ofV3 c d, bp8_xor2_spec, specXor4_nested]

/-! ## bit-parallel operators (4-valued) equal the 4-valued algebra, all 4^k tuples -/
theorem bp4_not_spec (a : V2) : (bp4v_not1 (.ofV2 a)).toV2 = spec4Not a := by
  revert a
  decide +kernel
theorem bp4_buf_spec (a : V2) : (bp4v_buf1 (.ofV2 a)).toV2 = spec4Buf a := by
  revert a
  decide +kernel
theorem bp4_and1_spec (a : V2) : (bp4v_and1 (.ofV2 a)).toV2 = spec4And [a] := by
  revert a
  decide +kernel
theorem bp4_and2_spec (a b : V2) : (bp4v_and2 (.ofV2 a) (.ofV2 b)).toV2 = spec4And [a, b] := by
  revert a b
  decide +kernel
theorem bp4_and3_spec (a b c : V2) : (bp4v_and3 (.ofV2 a) (.ofV2 b) (.ofV2 c)).toV2 = spec4And [a, b, c] := by
  revert a b c
  decide +kernel
theorem bp4_and4_spec (a b c d : V2) : (bp4v_and4 (.ofV2 a) (.ofV2 b) (.ofV2 c) (.ofV2 d)).toV2 = spec4And [a, b, c, d] := by
  revert a b c d
  decide +kernel
theorem bp4_or1_spec (a : V2) : (bp4v_or1 (.ofV2 a)).toV2 = spec4Or [a] := by
  revert a
  decide +kernel
theorem bp4_or2_spec (a b : V2) : (bp4v_or2 (.ofV2 a) (.ofV2 b)).toV2 = spec4Or [a, b] := by
  revert a b
  decide +kernel
theorem bp4_or3_spec (a b c : V2) : (bp4v_or3 (.ofV2 a) (.ofV2 b) (.ofV2 c)).toV2 = spec4Or [a, b, c] := by
  revert a b c
  decide +kernel
theorem bp4_or4_spec (a b c d : V2) : (bp4v_or4 (.ofV2 a) (.ofV2 b) (.ofV2 c) (.ofV2 d)).toV2 = spec4Or [a, b, c, d] := by
  revert a b c d
  decide +kernel
theorem bp4_xor1_spec (a : V2) : (bp4v_xor1 (.ofV2 a)).toV2 = spec4Xor [a] := by
  revert a
  decide +kernel
theorem bp4_xor2_spec (a b : V2) : (bp4v_xor2 (.ofV2 a) (.ofV2 b)).toV2 = spec4Xor [a, b] := by
  revert a b
  decide +kernel
theorem bp4_xor3_spec (a b c : V2) : (bp4v_xor3 (.ofV2 a) (.ofV2 b) (.ofV2 c)).toV2 = spec4Xor [a, b, c] := by
  revert a b c
  decide +kernel
theorem bp4_xor4_spec (a b c d : V2) : (bp4v_xor4 (.ofV2 a) (.ofV2 b) (.ofV2 c) (.ofV2 d)).toV2 = spec4Xor [a, b, c, d] := by
  revert a b c d
  decide +kernel

/-! ## array operators: the complete tables of the real functions equal the algebra

One and two operands: all rows.  The table of three (four) operands has, for every value of the last two operands, the
rows that the table of two (three) operands has for their result. -/
theorem mv_not_spec (a : V3) : tab mv_not1 a.code = (specNot a).code := by
  revert a
  decide +kernel
theorem mv_and1_spec (a : V3) : tab mv_and1 a.code = (specAnd [a]).code := by
  revert a
  decide +kernel
theorem mv_and2_spec (a b : V3) : tab mv_and2 (a.code + 8 * b.code) = (specAnd [a, b]).code := by
  revert a b
  decide +kernel
theorem mv_and3_spec (a b c : V3) : tab mv_and3 (a.code + 8 * b.code + 64 * c.code) = (specAnd [a, b, c]).code :=
  mv3_of_mv2 (by decide +kernel) mv_and2_spec specAnd_cons a b c
theorem mv_and4_spec (a b c d : V3) :
    tab mv_and4 (a.code + 8 * b.code + 64 * c.code + 512 * d.code) = (specAnd [a, b, c, d]).code :=
  mv4_of_mv3 (by decide +kernel) mv_and2_spec mv_and3_spec specAnd_cons a b c d
theorem mv_or1_spec (a : V3) : tab mv_or1 a.code = (specOr [a]).code := by
  revert a
  decide +kernel
theorem mv_or2_spec (a b : V3) : tab mv_or2 (a.code + 8 * b.code) = (specOr [a, b]).code := by
  revert a b
  decide +kernel
theorem mv_or3_spec (a b c : V3) : tab mv_or3 (a.code + 8 * b.code + 64 * c.code) = (specOr [a, b, c]).code :=
  mv3_of_mv2 (by decide +kernel) mv_or2_spec specOr_cons a b c
theorem mv_or4_spec (a b c d : V3) :
    tab mv_or4 (a.code + 8 * b.code + 64 * c.code + 512 * d.code) = (specOr [a, b, c, d]).code :=
  mv4_of_mv3 (by decide +kernel) mv_or2_spec mv_or3_spec specOr_cons a b c d
theorem mv_xor1_spec (a : V3) : tab mv_xor1 a.code = (specXor [a]).code := by
  revert a
  decide +kernel
theorem mv_xor2_spec (a b : V3) : tab mv_xor2 (a.code + 8 * b.code) = (specXor [a, b]).code := by
  revert a b
  decide +kernel
theorem mv_xor3_spec (a b c : V3) : tab mv_xor3 (a.code + 8 * b.code + 64 * c.code) = (specXor [a, b, c]).code :=
  mv3_of_mv2 (by decide +kernel) mv_xor2_spec specXor_cons a b c
theorem mv_xor4_spec (a b c d : V3) :
    tab mv_xor4 (a.code + 8 * b.code + 64 * c.code + 512 * d.code) = (specXor [a, b, c, d]).code :=
  mv4_of_mv3 (by decide +kernel) mv_xor2_spec mv_xor3_spec specXor_cons a b c d

/-! the public wrappers `mv_not/mv_and/mv_or/mv_xor` (fresh result array) -/
theorem mvpub_not_spec (a : V3) : tab mvpub_not1 a.code = (specNot a).code := by
  revert a
  decide +kernel
theorem mvpub_and_spec (a b : V3) : tab mvpub_and2 (a.code + 8 * b.code) = (specAnd [a, b]).code := by
  revert a b
  decide +kernel
theorem mvpub_or_spec (a b : V3) : tab mvpub_or2 (a.code + 8 * b.code) = (specOr [a, b]).code := by
  revert a b
  decide +kernel
theorem mvpub_xor_spec (a b : V3) : tab mvpub_xor2 (a.code + 8 * b.code) = (specXor [a, b]).code := by
  revert a b
  decide +kernel

/-! ## the two storage formats agree (corollaries) -/
theorem bp8_eq_mv_and2 (a b : V3) :
    ((bp8v_and2 (.ofV3 a) (.ofV3 b)).toV3).code = tab mv_and2 (a.code + 8 * b.code) := by
  rw [bp8_and2_spec, mv_and2_spec]
theorem bp8_eq_mv_and3 (a b c : V3) :
    ((bp8v_and3 (.ofV3 a) (.ofV3 b) (.ofV3 c)).toV3).code = tab mv_and3 (a.code + 8 * b.code + 64 * c.code) := by
  rw [bp8_and3_spec, mv_and3_spec]
theorem bp8_eq_mv_and4 (a b c d : V3) :
    ((bp8v_and4 (.ofV3 a) (.ofV3 b) (.ofV3 c) (.ofV3 d)).toV3).code =
      tab mv_and4 (a.code + 8 * b.code + 64 * c.code + 512 * d.code) := by
  rw [bp8_and4_spec, mv_and4_spec]
theorem bp8_eq_mv_or2 (a b : V3) :
    ((bp8v_or2 (.ofV3 a) (.ofV3 b)).toV3).code = tab mv_or2 (a.code + 8 * b.code) := by
  rw [bp8_or2_spec, mv_or2_spec]
theorem bp8_eq_mv_or3 (a b c : V3) :
    ((bp8v_or3 (.ofV3 a) (.ofV3 b) (.ofV3 c)).toV3).code = tab mv_or3 (a.code + 8 * b.code + 64 * c.code) := by
  rw [bp8_or3_spec, mv_or3_spec]
theorem bp8_eq_mv_or4 (a b c d : V3) :
    ((bp8v_or4 (.ofV3 a) (.ofV3 b) (.ofV3 c) (.ofV3 d)).toV3).code =
      tab mv_or4 (a.code + 8 * b.code + 64 * c.code + 512 * d.code) := by
  rw [bp8_or4_spec, mv_or4_spec]
theorem bp8_eq_mv_xor2 (a b : V3) :
    ((bp8v_xor2 (.ofV3 a) (.ofV3 b)).toV3).code = tab mv_xor2 (a.code + 8 * b.code) := by
  rw [bp8_xor2_spec, mv_xor2_spec]
theorem bp8_eq_mv_xor3 (a b c : V3) :
    ((bp8v_xor3 (.ofV3 a) (.ofV3 b) (.ofV3 c)).toV3).code = tab mv_xor3 (a.code + 8 * b.code + 64 * c.code) := by
  rw [bp8_xor3_spec, mv_xor3_spec]
theorem bp8_eq_mv_xor4 (a b c d : V3) :
    ((bp8v_xor4 (.ofV3 a) (.ofV3 b) (.ofV3 c) (.ofV3 d)).toV3).code =
      tab mv_xor4 (a.code + 8 * b.code + 64 * c.code + 512 * d.code) := by
  rw [bp8_xor4_spec, mv_xor4_spec]
theorem bp8_eq_mv_not (a : V3) : ((bp8v_not1 (.ofV3 a)).toV3).code = tab mv_not1 a.code := by
  rw [bp8_not_spec, mv_not_spec]

/-! 4-valued bit-parallel = array operator on the low two bits: stated for the two-operand forms only -/
theorem bp4_eq_mv_and2 (a b : V2) :
    ((bp4v_and2 (.ofV2 a) (.ofV2 b)).toV2).code = tab mv_and2 (a.toV3.code + 8 * b.toV3.code) % 4 := by
  rw [bp4_and2_spec, mv_and2_spec]
  exact V2.code_ofV3 _
theorem bp4_eq_mv_or2 (a b : V2) :
    ((bp4v_or2 (.ofV2 a) (.ofV2 b)).toV2).code = tab mv_or2 (a.toV3.code + 8 * b.toV3.code) % 4 := by
  rw [bp4_or2_spec, mv_or2_spec]
  exact V2.code_ofV3 _
theorem bp4_eq_mv_xor2 (a b : V2) :
    ((bp4v_xor2 (.ofV2 a) (.ofV2 b)).toV2).code = tab mv_xor2 (a.toV3.code + 8 * b.toV3.code) % 4 := by
  rw [bp4_xor2_spec, mv_xor2_spec]
  exact V2.code_ofV3 _

/-! ## restricted to 0/1 the algebra `spec*` is the Boolean operators — for operand lists of ANY length -/
theorem bool_not (a : Bool) : specNot (V3.ofBool a) = V3.ofBool (!a) := by cases a <;> rfl

theorem bool_and (xs : List Bool) : specAnd (xs.map V3.ofBool) = V3.ofBool (xs.all (·)) := by
  induction xs with
  | nil => rfl
  | cons x xs ih =>
    rw [List.map_cons, specAnd_cons, ih, List.all_cons]
    cases x <;> cases xs.all (·) <;> rfl

theorem bool_or (xs : List Bool) : specOr (xs.map V3.ofBool) = V3.ofBool (xs.any (·)) := by
  induction xs with
  | nil => rfl
  | cons x xs ih =>
    rw [List.map_cons, specOr_cons, ih, List.any_cons]
    cases x <;> cases xs.any (·) <;> rfl

theorem bool_xor (xs : List Bool) : specXor (xs.map V3.ofBool) = V3.ofBool (xs.foldl (· ^^ ·) false) := by
  induction xs with
  | nil => rfl
  | cons x xs ih =>
    rw [List.map_cons, specXor_cons, ih, List.foldl_cons, foldl_xor_acc (fun b => b) xs (false ^^ x)]
    cases x <;> cases xs.foldl (· ^^ ·) false <;> rfl

/-! ## De Morgan for the real bit-parallel code, two to four operands, and the dual (NOT of OR = AND of NOTs)

The inner operator is the algebra's (`*_spec`), so is every NOT and then the outer operator; what remains is De Morgan
in the algebra. -/
theorem bp8_de_morgan2 (a b : V3) :
    (bp8v_not1 (bp8v_and2 (.ofV3 a) (.ofV3 b))).toV3 =
      (bp8v_or2 (bp8v_not1 (.ofV3 a)) (bp8v_not1 (.ofV3 b))).toV3 := by
  rw [bp8v_and2_ofV3]
  simp only [bp8v_not1_ofV3, P3.toV3_ofV3, bp8_or2_spec, de_morgan_and2]
theorem bp8_de_morgan3 (a b c : V3) :
    (bp8v_not1 (bp8v_and3 (.ofV3 a) (.ofV3 b) (.ofV3 c))).toV3 =
      (bp8v_or3 (bp8v_not1 (.ofV3 a)) (bp8v_not1 (.ofV3 b)) (bp8v_not1 (.ofV3 c))).toV3 := by
  rw [P3.of_toV3 (bp8_and3_spec a b c)]
  simp only [bp8v_not1_ofV3, P3.toV3_ofV3, bp8_or3_spec, de_morgan_and3]
theorem bp8_de_morgan4 (a b c d : V3) :
    (bp8v_not1 (bp8v_and4 (.ofV3 a) (.ofV3 b) (.ofV3 c) (.ofV3 d))).toV3 =
      (bp8v_or4 (bp8v_not1 (.ofV3 a)) (bp8v_not1 (.ofV3 b)) (bp8v_not1 (.ofV3 c)) (bp8v_not1 (.ofV3 d))).toV3 := by
  rw [P3.of_toV3 (bp8_and4_spec a b c d)]
  simp only [bp8v_not1_ofV3, P3.toV3_ofV3, bp8_or4_spec, de_morgan_and4]
theorem bp8_de_morgan_dual2 (a b : V3) :
    (bp8v_not1 (bp8v_or2 (.ofV3 a) (.ofV3 b))).toV3 =
      (bp8v_and2 (bp8v_not1 (.ofV3 a)) (bp8v_not1 (.ofV3 b))).toV3 := by
  rw [bp8v_or2_ofV3]
  simp only [bp8v_not1_ofV3, P3.toV3_ofV3, bp8_and2_spec, de_morgan_or2]
theorem bp8_de_morgan_dual3 (a b c : V3) :
    (bp8v_not1 (bp8v_or3 (.ofV3 a) (.ofV3 b) (.ofV3 c))).toV3 =
      (bp8v_and3 (bp8v_not1 (.ofV3 a)) (bp8v_not1 (.ofV3 b)) (bp8v_not1 (.ofV3 c))).toV3 := by
  rw [P3.of_toV3 (bp8_or3_spec a b c)]
  simp only [bp8v_not1_ofV3, P3.toV3_ofV3, bp8_and3_spec, de_morgan_or3]
theorem bp8_de_morgan_dual4 (a b c d : V3) :
    (bp8v_not1 (bp8v_or4 (.ofV3 a) (.ofV3 b) (.ofV3 c) (.ofV3 d))).toV3 =
      (bp8v_and4 (bp8v_not1 (.ofV3 a)) (bp8v_not1 (.ofV3 b)) (bp8v_not1 (.ofV3 c)) (bp8v_not1 (.ofV3 d))).toV3 := by
  rw [P3.of_toV3 (bp8_or4_spec a b c d)]
  simp only [bp8v_not1_ofV3, P3.toV3_ofV3, bp8_and4_spec, de_morgan_or4]

/-! ## lane-wise: every lane count `w`, every lane `k < w`

The generated `Gen.bp8v_*_hom` / `Gen.bp4v_*_hom` at `h := lane w k hk`, for NOT and the forms of two to four operands; the
one-operand forms (`buf1`, `and1`, `or1`, `xor1`) have a generated `_hom` lemma and no instance here. -/

theorem bp8v_not_lane (w k : Nat) (hk : k < w) (a : P3 (BitVec w)) :
    (lane w k hk).f3 (bp8v_not1 a) = bp8v_not1 ((lane w k hk).f3 a) := bp8v_not1_hom _ a
theorem bp8v_and2_lane (w k : Nat) (hk : k < w) (a b : P3 (BitVec w)) :
    (lane w k hk).f3 (bp8v_and2 a b) = bp8v_and2 ((lane w k hk).f3 a) ((lane w k hk).f3 b) := bp8v_and2_hom _ a b
theorem bp8v_and3_lane (w k : Nat) (hk : k < w) (a b c : P3 (BitVec w)) :
    (lane w k hk).f3 (bp8v_and3 a b c) =
      bp8v_and3 ((lane w k hk).f3 a) ((lane w k hk).f3 b) ((lane w k hk).f3 c) := bp8v_and3_hom _ a b c
theorem bp8v_and4_lane (w k : Nat) (hk : k < w) (a b c d : P3 (BitVec w)) :
    (lane w k hk).f3 (bp8v_and4 a b c d) =
      bp8v_and4 ((lane w k hk).f3 a) ((lane w k hk).f3 b) ((lane w k hk).f3 c) ((lane w k hk).f3 d) :=
  bp8v_and4_hom _ a b c d
theorem bp8v_or2_lane (w k : Nat) (hk : k < w) (a b : P3 (BitVec w)) :
    (lane w k hk).f3 (bp8v_or2 a b) = bp8v_or2 ((lane w k hk).f3 a) ((lane w k hk).f3 b) := bp8v_or2_hom _ a b
theorem bp8v_or3_lane (w k : Nat) (hk : k < w) (a b c : P3 (BitVec w)) :
    (lane w k hk).f3 (bp8v_or3 a b c) =
      bp8v_or3 ((lane w k hk).f3 a) ((lane w k hk).f3 b) ((lane w k hk).f3 c) := bp8v_or3_hom _ a b c
theorem bp8v_or4_lane (w k : Nat) (hk : k < w) (a b c d : P3 (BitVec w)) :
    (lane w k hk).f3 (bp8v_or4 a b c d) =
      bp8v_or4 ((lane w k hk).f3 a) ((lane w k hk).f3 b) ((lane w k hk).f3 c) ((lane w k hk).f3 d) :=
  bp8v_or4_hom _ a b c d
theorem bp8v_xor2_lane (w k : Nat) (hk : k < w) (a b : P3 (BitVec w)) :
    (lane w k hk).f3 (bp8v_xor2 a b) = bp8v_xor2 ((lane w k hk).f3 a) ((lane w k hk).f3 b) := bp8v_xor2_hom _ a b
theorem bp8v_xor3_lane (w k : Nat) (hk : k < w) (a b c : P3 (BitVec w)) :
    (lane w k hk).f3 (bp8v_xor3 a b c) =
      bp8v_xor3 ((lane w k hk).f3 a) ((lane w k hk).f3 b) ((lane w k hk).f3 c) := bp8v_xor3_hom _ a b c
theorem bp8v_xor4_lane (w k : Nat) (hk : k < w) (a b c d : P3 (BitVec w)) :
    (lane w k hk).f3 (bp8v_xor4 a b c d) =
      bp8v_xor4 ((lane w k hk).f3 a) ((lane w k hk).f3 b) ((lane w k hk).f3 c) ((lane w k hk).f3 d) :=
  bp8v_xor4_hom _ a b c d
theorem bp4v_not_lane (w k : Nat) (hk : k < w) (a : P2 (BitVec w)) :
    (lane w k hk).f2 (bp4v_not1 a) = bp4v_not1 ((lane w k hk).f2 a) := bp4v_not1_hom _ a
theorem bp4v_and2_lane (w k : Nat) (hk : k < w) (a b : P2 (BitVec w)) :
    (lane w k hk).f2 (bp4v_and2 a b) = bp4v_and2 ((lane w k hk).f2 a) ((lane w k hk).f2 b) := bp4v_and2_hom _ a b
theorem bp4v_and3_lane (w k : Nat) (hk : k < w) (a b c : P2 (BitVec w)) :
    (lane w k hk).f2 (bp4v_and3 a b c) =
      bp4v_and3 ((lane w k hk).f2 a) ((lane w k hk).f2 b) ((lane w k hk).f2 c) := bp4v_and3_hom _ a b c
theorem bp4v_and4_lane (w k : Nat) (hk : k < w) (a b c d : P2 (BitVec w)) :
    (lane w k hk).f2 (bp4v_and4 a b c d) =
      bp4v_and4 ((lane w k hk).f2 a) ((lane w k hk).f2 b) ((lane w k hk).f2 c) ((lane w k hk).f2 d) :=
  bp4v_and4_hom _ a b c d
theorem bp4v_or2_lane (w k : Nat) (hk : k < w) (a b : P2 (BitVec w)) :
    (lane w k hk).f2 (bp4v_or2 a b) = bp4v_or2 ((lane w k hk).f2 a) ((lane w k hk).f2 b) := bp4v_or2_hom _ a b
theorem bp4v_or3_lane (w k : Nat) (hk : k < w) (a b c : P2 (BitVec w)) :
    (lane w k hk).f2 (bp4v_or3 a b c) =
      bp4v_or3 ((lane w k hk).f2 a) ((lane w k hk).f2 b) ((lane w k hk).f2 c) := bp4v_or3_hom _ a b c
theorem bp4v_or4_lane (w k : Nat) (hk : k < w) (a b c d : P2 (BitVec w)) :
    (lane w k hk).f2 (bp4v_or4 a b c d) =
      bp4v_or4 ((lane w k hk).f2 a) ((lane w k hk).f2 b) ((lane w k hk).f2 c) ((lane w k hk).f2 d) :=
  bp4v_or4_hom _ a b c d
theorem bp4v_xor2_lane (w k : Nat) (hk : k < w) (a b : P2 (BitVec w)) :
    (lane w k hk).f2 (bp4v_xor2 a b) = bp4v_xor2 ((lane w k hk).f2 a) ((lane w k hk).f2 b) := bp4v_xor2_hom _ a b
theorem bp4v_xor3_lane (w k : Nat) (hk : k < w) (a b c : P2 (BitVec w)) :
    (lane w k hk).f2 (bp4v_xor3 a b c) =
      bp4v_xor3 ((lane w k hk).f2 a) ((lane w k hk).f2 b) ((lane w k hk).f2 c) := bp4v_xor3_hom _ a b c
theorem bp4v_xor4_lane (w k : Nat) (hk : k < w) (a b c d : P2 (BitVec w)) :
    (lane w k hk).f2 (bp4v_xor4 a b c d) =
      bp4v_xor4 ((lane w k hk).f2 a) ((lane w k hk).f2 b) ((lane w k hk).f2 c) ((lane w k hk).f2 d) :=
  bp4v_xor4_hom _ a b c d

/-- non-vacuity: a concrete 5-lane instance (lane count not a multiple of 8) -/
example : (lane 5 3 (by decide)).f3 (bp8v_and2 ⟨0b01011#5, 0b01001#5, 0b00100#5⟩ ⟨0b11111#5, 0b11111#5, 0#5⟩)
    = (⟨true, true, false⟩ : P3 Bool) := by decide

end KV.C12
