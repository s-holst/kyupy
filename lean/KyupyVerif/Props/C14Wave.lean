import KyupyVerif.Props.C14
import KyupyVerif.Props.C04
import KyupyVerif.Props.C08
import KyupyVerif.Proofs.SdfWaveBounds
import KyupyVerif.Proofs.StaPath
import KyupyVerif.Proofs.SdfWaveNet
import KyupyVerif.Proofs.SdfWaveDemo
/-! # C14 ∘ C04/C03 — the timing data path: from an SDF description to WaveSim waveforms

`WaveSim(circuit, delays = df.iopaths(circuit, tlib) + df.interconnects(circuit, tlib))` with `df = sdf.parse(text)`.
The models composed here: `KV.SdfText` (grammar of `sdf.py`), `KV.Sdf` (`sdf.py` after lark: `start`, `iopaths`,
`interconnects` over the pin / fork tables of the circuit), the `SimOps` model (`simopsMap`: op rows, levels, memory map
of EVERY circuit) and the waveform model `KV.Wave` (`_wave_eval`, propagation on the real memory layout).
`Model/SdfWave.lean`: `sdfDelay` = the sum of the two annotated arrays for data set `d` as the delay table
`delays[d, line, inpol, outpol]` of a run (`WCfg.delay`); unit: one tick = one thousandth of the SDF time unit, as
`Model/Sdf.lean` keeps the numbers — no scaling between the models.
`sdfDelay` / `sdfCfg` / `textDelay` are PARTIAL, as `Sdf.interconnects` is: `none` exactly when `interconnects = none`, i.e. for
a file without a block that has no INSTANCE name, where the real `df.interconnects(c, tlib)` raises `TypeError` and the sum is
never formed (`sdf_cfg_none_iff`, `sdf_cfg_raises_iff`). This is the only raise kept as `none`: an unknown cell, an unknown pin and a
name with two `/` raise in the code and are "no line" in `netPinLine` / `netIcLine` (Restrictions). Every theorem about a run is stated for a
configuration `cfg` with the explicit hypothesis `sdfCfg … = some cfg` (`sdf_cfg_is_array`: then `cfg.delay = iopaths[d] + ic[d]`
for the array `ic` that `interconnects` answers; `sdf_cfg_exists`: a top-level block suffices).

* **Theorem** (kernel-checked, this file):
  - `sdf_cfg_is_array`, `sdf_cfg_none_iff`, `sdf_cfg_raises_iff`, `sdf_cfg_exists`, `wavesim_reads_line_delays`: there is a
    configuration exactly when `interconnects` answers (⇔ the file has a top-level block) and it is that array; for operand
    slot `i` of op row `o` the evaluator uses the four entries of line `o.ins[i]`;
  - `sdf_delays_are_wave_delays` (IOPATH: entry of block `inst`, input pin `ipin`, qualifier polarities, data set `d` ⇒ the
    WaveSim delay of the line at that pin), `sdf_interconnect_delays_are_wave_delays` (the fork line), `sdf_other_lines_zero`
    — from `iopath_lands_file`, `interconnect_lands_file`, `others_zero_*`; `sdf_delays_nonneg`;
  - `sdf_delays_are_wave_delays_net`, `sdf_interconnect_delays_are_wave_delays_net`, `sdf_untabled_lines_zero_net`: the same with
    the two tables READ OFF THE NETLIST (`netPinLine`, `netIcLine` in Model/SdfWave.lean: `circuit.cells.get(name)`,
    `cell.ins[tlib.pin_index(kind, pin)]`, the fork search of `interconnects`, over the canonical dump `Net`, the node names and
    `pin_index`) for EVERY well-formed netlist: the IOPATH line is the line whose reader is the named cell at the library's pin
    position, the INTERCONNECT line ends at a fork, and the side condition "no line is reached by both loops" is a theorem;
  - `sdf_sta_window`: EVERY well-formed netlist, topological order, `strip_forks` / `c_reuse` setting, capacity vector,
    `c_caps_min ≥ 4` (the hypotheses of `C04.wave_timing_all_circuits`), every block list without negative numbers, every data
    set, every propagation on the real memory layout: the waveform in the region of every output slot has all its transitions
    inside the static-timing window `execG (staSem cfg) (waveProg p) win` computed with the SDF-derived delays;
  - `sdf_path_window` / `sdf_chain_arrival`: along a sensitised path (side inputs without transitions) that window is the
    input window moved by the sums of the smallest / largest of the four entries of each line on the path; when those lines
    have polarity-independent delays and the input has a single transition time `t`, every transition at the output slot
    happens at exactly `t + Σ delay(line)`, each summand being an SDF value by the landing theorems;
  - from the TEXT: `sdf_text_delays` (`sdf_text_roundtrip_raw`: the delays read from the printed text of a block list are
    the delays of the block list), `sdf_text_sta_window`, `sdf_text_chain_arrival` (every text the grammar model reads);
  - non-vacuity: `demo*` — the circuit `z = NAND2_X1(INV_X1(a), b)` as `verilog.parse(…, branchforks=True)` builds it (12 nodes,
    11 lines), an SDF text with distinct IOPATH and INTERCONNECT values, `a` rising at 1.000: the output rises at 4.875 =
    1.000 + 0.125 + 1.000 + 0.250 + 2.000 + 0.500, computed by `decide +kernel`, with every hypothesis discharged.
* **Correspondence** (harness/c14.py, clause `sdf-wave`): on generated circuits and SDF texts with values on the dyadic grid the
  real `WaveSim(c, delays=df.iopaths(c, tlib) + df.interconnects(c, tlib))` (all three data sets, both `strip_forks` settings,
  random multi-transition stimuli) against the composition of the models through the driver — `sdftabs`: `netPinLine` / `netIcLine`
  on the dump of the real circuit == the tables exported from the real circuit by structural search (independent of `sdf.py`);
  `sdfwave`: text → grammar model → block list → `sdfDelay` with these tables → `simWave` on the op rows of the `SimOps` model
  (== the real `ops`, `c_locs`, `c_caps`): the delay array cell by cell, the waveform in the region of EVERY output slot and of
  every written signal; on files without top-level block (every 8th case) the real `df.interconnects()` raises `TypeError` and
  the driver must answer `raise:interconnects` (`sdfDelay = none`) — a Python exception of the two annotation calls agrees with
  that error token only, an exception anywhere else with nothing. A mismatch is a broken tie.
  **Hypotheses evaluated per case:** for every compared `sdf-wave` case the driver evaluates the hypotheses of
  `sdf_sta_window` / `sdf_path_window` / `sdf_text_sta_window` on the REAL objects: `Net.wfB`, `orderOKB`, `forksOKB` (when
  stripping), `readsDrivenB` on the real circuit and its real topological order (`simopscert`, tag `hyp:sdfwave:net:*`) and
  `rawNonneg` on the model's reading of the real SDF text (`sdfwavehyp`, tag `hyp:sdfwave:nonneg:*`); `4 ≤ capsMin` is fixed by the
  harness (`c_caps_min = 4`). The generator promises scheduled cells and values ≥ 0: a case outside is a broken tie.
* **Restrictions (stated, not proved away):**
  - `huniq` of `sdf_delays_are_wave_delays(_net)` / `sdf_interconnect_delays_are_wave_delays(_net)` — all entries that land on
    the same (line, input polarity) carry the same normalised value lists — EXCLUDES cells where two IOPATH entries name the
    same input pin with DIFFERENT values, in particular multi-output cells (`(IOPATH A Z …) (IOPATH A ZN …)`, a full adder's
    `A → S` and `A → CO`): WaveSim keeps one delay per input LINE, the code lets the LAST entry of the file win (array level: `Sdf.applyAll_eq`), and the
    landing theorems do not follow it — for such files they are silent (the tie `sdfwave` still compares the arrays);
  - the STA theorems (`sdf_sta_window`, `sdf_path_window`, `sdf_text_sta_window`) use the SDF data only through `≥ 0`
    (`sdfDelay_nonneg`): they are `C04.wave_timing_all_circuits` at the SDF-derived table; the link "window / arrival =
    sum of the SDF values of the entries naming the path lines" is the conjunction with the landing theorems, carried out only
    in the demo (`decide +kernel`), not as a general corollary;
  - `netPinLine` / `netIcLine` answer `none` both where the code warns-and-skips and where it raises.
* **Trusted / sampled**: that lark reads the grammar as the model does, that the tables describe the real circuit (exported by
  structural search), that the real `SimOps` / `_wave_eval` compute the model's rows and results (C01/C03/C08 correspondences),
  `float32` exactness on the grid. -/
namespace KV.C14
open KV KV.Sig KV.Sdf KV.SdfText KV.Wave KV.MapSound KV.SdfWave
open KV.C04 (Win Within WRel staSem)

/-! ## (1) the configuration

`interconnects` is PARTIAL (Model/Sdf.lean: `none` = the real `df.interconnects(c, tlib)` raises `TypeError` because the file
has no block without INSTANCE name), so `sdfDelay` / `sdfCfg` are: `none` = the expression `df.iopaths(..) + df.interconnects(..)`
raises and no simulator is built. Every statement about a run below is about a configuration `cfg` with
`sdfCfg … = some cfg`; `sdf_cfg_is_array` / `sdf_cfg_none_iff` / `sdf_cfg_raises_iff` say exactly when there is one and what it is. -/

/-- the delay table of the run is the sum of the two annotated arrays at data set `d`: there is a configuration exactly when
`interconnects` answers an array `ic`, and then it is `delays[d] = iopaths[d] + ic[d]` with the given capacities -/
theorem sdf_cfg_is_array (pinLine : PinTable) (icLine : IcTable) (df : DelayFile) (d : Nat) (cap : Nat → Nat) (cfg : WCfg) :
    sdfCfg pinLine icLine df d cap = some cfg ↔
      ∃ ic, interconnects icLine df = some ic ∧
        cfg = ⟨fun l ip op => iopaths pinLine df d l ip op + ic d l ip op, cap⟩ := by
  unfold sdfCfg sdfDelay
  rw [Option.map_map, Option.map_eq_some_iff]
  exact ⟨fun ⟨ic, h, e⟩ => ⟨ic, h, e.symm⟩, fun ⟨ic, h, e⟩ => ⟨ic, h, e.symm⟩⟩

theorem sdfCfg_eq {pinLine : PinTable} {icLine : IcTable} {df : DelayFile} {d : Nat} {cap : Nat → Nat} {cfg : WCfg}
    (h : sdfCfg pinLine icLine df d cap = some cfg) : cfg = ⟨cfg.delay, cap⟩ ∧ sdfDelay pinLine icLine df d = some cfg.delay := by
  unfold sdfCfg at h
  obtain ⟨del, hdel, rfl⟩ := Option.map_eq_some_iff.mp h
  exact ⟨rfl, hdel⟩

/-- no silent totalisation: the composition answers `none` exactly when `interconnects` does -/
theorem sdf_cfg_none_iff (pinLine : PinTable) (icLine : IcTable) (df : DelayFile) (d : Nat) (cap : Nat → Nat) :
    (sdfCfg pinLine icLine df d cap = none ↔ interconnects icLine df = none) ∧
    (sdfDelay pinLine icLine df d = none ↔ interconnects icLine df = none) := by
  unfold sdfCfg sdfDelay
  simp only [Option.map_eq_none_iff, and_self]

/-- … i.e. (both readings of `start`) exactly for the files without a block that has no INSTANCE name — where the real
`df.interconnects(c, tlib)` raises `TypeError` (`interconnects_none_iff`); every other file has a configuration -/
theorem sdf_cfg_raises_iff (m : Mode) (pinLine : PinTable) (icLine : IcTable) (B : List RawCell) (d : Nat) (cap : Nat → Nat) :
    sdfCfg pinLine icLine (parse m B) d cap = none ↔ ∀ c ∈ B, c.insts.head? ≠ none := by
  rw [(sdf_cfg_none_iff pinLine icLine (parse m B) d cap).1]
  exact interconnects_none_iff m icLine B

theorem sdf_cfg_exists (m : Mode) (pinLine : PinTable) (icLine : IcTable) (B : List RawCell) (d : Nat) (cap : Nat → Nat)
    (c : RawCell) (hc : c ∈ B) (hn : c.insts.head? = none) : ∃ cfg, sdfCfg pinLine icLine (parse m B) d cap = some cfg := by
  cases h : sdfCfg pinLine icLine (parse m B) d cap with
  | some cfg => exact ⟨cfg, rfl⟩
  | none => exact absurd hn ((sdf_cfg_raises_iff m pinLine icLine B d cap).mp h c hc)

/-- which entries `_wave_eval` reads: for operand slot `i` of op row `o` the four entries `delays[d, o.ins[i], ·, ·]` — the
row's own operand index (with `strip_forks` the fan-out branch, not the stem whose waveform is read) -/
theorem wavesim_reads_line_delays (cfg : WCfg) (p : MapIn) (o : OpRow) (i : Nat) (hi : i < 4) (ip op : Bool) :
    opDelays cfg (wvOp p o) i ip op = cfg.delay (o.ins.getD i 0) ip op := by
  rw [opDelays_wvOp cfg p o i hi]

/-! ## (2) the SDF values are the WaveSim delays -/

/-- **IOPATH.** For every entry `x` of every CELL block `c` (instance name `n`) of the file, every input polarity `ip` its
qualifier selects, output polarity `op` and data set `d < 3`: the delay WaveSim uses on the line `l` at that instance's input
pin is the entry's `d`-th value of its rising (`op = 0`) / falling value list. Hypotheses: `cfg` is the configuration of the run
(`hcfg`: `interconnects` does not raise), entries covering the same (line, input polarity) agree (`huniq`, as in
`iopath_lands_file`: one delay per line by design), and `l` is not a fork line of the INTERCONNECT table (a line has one
reader: a cell pin or a fork). -/
theorem sdf_delays_are_wave_delays (pinLine : PinTable) (icLine : IcTable) (B : List RawCell) (c : RawCell) (n : String)
    (x : RawEntry) (l d : Nat) (ip op : Bool) (cap : Nat → Nat) (cfg : WCfg)
    (hcfg : sdfCfg pinLine icLine (parse .merge B) d cap = some cfg)
    (hc : c ∈ B) (hn : c.insts.head? = some n) (hne : n ≠ "") (hx : x ∈ c.delays.flatten)
    (hline : pinLine (stripBackslash n) (pinOf (sanitize x).a) = some l)
    (hip : ip ∈ polsOf (sanitize x).a) (hd : d < 3)
    (huniq : ∀ c' ∈ B, ∀ n', c'.insts.head? = some n' → ∀ x' ∈ c'.delays.flatten,
      pinLine (stripBackslash n') (pinOf (sanitize x').a) = some l → ip ∈ polsOf (sanitize x').a →
      norm (sanitize x').r = norm (sanitize x).r ∧ norm (sanitize x').f = norm (sanitize x).f)
    (hdisj : ∀ c1 p1 c2 p2, icLine c1 p1 c2 p2 ≠ some l) :
    cfg.delay l ip op = (norm (if op then (sanitize x).f else (sanitize x).r)).getD d 0 := by
  obtain ⟨ic, hic, rfl⟩ := (sdf_cfg_is_array _ _ _ _ _ _).mp hcfg
  show iopaths pinLine (parse .merge B) d l ip op + ic d l ip op = _
  rw [iopath_lands_file pinLine B c n x l d ip op hc hn hne hx hline hip hd huniq,
    interconnects_zero_of_table icLine _ ic hic l d ip op hdisj, Int.add_zero]

/-- **INTERCONNECT.** For every entry of every block without instance name that the loop does not skip (`icSkip`:
skipped only when all values are zero): the delay WaveSim uses on the fork line `l` between the two pins is the
entry's value, for BOTH input polarities. (The block `c` makes `interconnects` answer: `sdf_cfg_exists` gives a `cfg`.) -/
theorem sdf_interconnect_delays_are_wave_delays (pinLine : PinTable) (icLine : IcTable) (B : List RawCell) (c : RawCell)
    (x : RawEntry) (l d : Nat) (ip op : Bool) (cap : Nat → Nat) (cfg : WCfg)
    (hcfg : sdfCfg pinLine icLine (parse .merge B) d cap = some cfg)
    (hc : c ∈ B) (hn : c.insts.head? = none) (hx : x ∈ c.delays.flatten)
    (hskip : icSkip (norm (sanitize x).r) (norm (sanitize x).f) = false)
    (hline : icLine (stripBackslash (splitSlash (sanitize x).a).1) (splitSlash (sanitize x).a).2
                    (stripBackslash (splitSlash (sanitize x).b).1) (splitSlash (sanitize x).b).2 = some l)
    (hd : d < 3)
    (huniq : ∀ c' ∈ B, c'.insts.head? = none → ∀ x' ∈ c'.delays.flatten,
      ∀ w, icWrite icLine (sanitize x') = some w → w.line = l →
      norm (sanitize x').r = norm (sanitize x).r ∧ norm (sanitize x').f = norm (sanitize x).f)
    (hdisj : ∀ c' p', pinLine c' p' ≠ some l) :
    cfg.delay l ip op = (norm (if op then (sanitize x).f else (sanitize x).r)).getD d 0 := by
  obtain ⟨ic, hic, rfl⟩ := (sdf_cfg_is_array _ _ _ _ _ _).mp hcfg
  have key := interconnect_lands_file icLine B c x l d ip op hc hn hx ((icSkip_false_iff _ _).mp hskip) hline hd huniq
  rw [hic] at key
  simp only [Option.map_some, Option.some.injEq] at key
  show iopaths pinLine (parse .merge B) d l ip op + ic d l ip op = _
  rw [key, iopaths_zero_of_table pinLine _ l d ip op hdisj, Int.zero_add]

/-- **every other line has delay 0**: a coordinate that no IOPATH entry and no INTERCONNECT entry of the file names (both
modes of `start`); `es` = the entries of the top-level block(s) as `DelayFile.__init__` keeps them -/
theorem sdf_other_lines_zero (pinLine : PinTable) (icLine : IcTable) (df : DelayFile) (l d : Nat) (ip op : Bool)
    (cap : Nat → Nat) (cfg : WCfg) (hcfg : sdfCfg pinLine icLine df d cap = some cfg)
    (hio : ∀ p ∈ namedEntries df, ∀ w, ioWrite pinLine p.1 p.2 = some w → w.covers l ip = false)
    (es : List Entry) (hes : icEntries df = some es)
    (hic : ∀ e ∈ es, ∀ w, icWrite icLine e = some w → w.line ≠ l) :
    cfg.delay l ip op = 0 := by
  obtain ⟨ic, hic', rfl⟩ := (sdf_cfg_is_array _ _ _ _ _ _).mp hcfg
  have key := others_zero_interconnects icLine df es l d ip op hes hic
  rw [hic'] at key
  simp only [Option.map_some, Option.some.injEq] at key
  show iopaths pinLine df d l ip op + ic d l ip op = 0
  rw [others_zero_iopaths pinLine df l d ip op hio, key]
  rfl

/-- in particular a line outside the range of both tables (e.g. the line from a cell output to its signal fork) -/
theorem sdf_untabled_lines_zero (pinLine : PinTable) (icLine : IcTable) (df : DelayFile) (l d : Nat) (ip op : Bool)
    (cap : Nat → Nat) (cfg : WCfg) (hcfg : sdfCfg pinLine icLine df d cap = some cfg)
    (h1 : ∀ c p, pinLine c p ≠ some l) (h2 : ∀ c1 p1 c2 p2, icLine c1 p1 c2 p2 ≠ some l) :
    cfg.delay l ip op = 0 := by
  obtain ⟨ic, hic, rfl⟩ := (sdf_cfg_is_array _ _ _ _ _ _).mp hcfg
  show iopaths pinLine df d l ip op + ic d l ip op = 0
  rw [iopaths_zero_of_table pinLine df l d ip op h1, interconnects_zero_of_table icLine df ic hic l d ip op h2]
  rfl

/-- a file without negative numbers gives non-negative delays (the hypothesis `delays ≥ 0` of C03/C04/C05), both modes -/
theorem sdf_delays_nonneg (m : Mode) (pinLine : PinTable) (icLine : IcTable) (B : List RawCell) (h : rawNonneg B = true)
    (d : Nat) (cap : Nat → Nat) (cfg : WCfg) (hcfg : sdfCfg pinLine icLine (parse m B) d cap = some cfg) :
    ∀ l ip op, 0 ≤ cfg.delay l ip op :=
  sdfDelay_nonneg m pinLine icLine B h d cfg.delay (sdfCfg_eq hcfg).2

/-! ### the tables read off the netlist

`netPinLine` / `netIcLine` (Model/SdfWave.lean): the pin table and the fork table as `iopaths` / `interconnects` compute them
from the circuit — node names, `tlib.pin_index`, `cell.ins[…]`, the fork search — over the canonical dump `Net` that the
`SimOps` model schedules. For every well-formed netlist the side condition "no line is reached by both loops" is a theorem. -/

/-- **IOPATH, tables of the netlist** (every `Net.wfB` netlist, names, `pin_index`): the value of the entry is the delay WaveSim
uses on line `l`, and `l` IS the line whose reader is the cell named by the block (not a fork) at the pin position the library
gives for the entry's input pin -/
theorem sdf_delays_are_wave_delays_net (net : Net) (hwf : net.wfB = true) (names : Array String) (pinIdx : SdfWave.PinIdx)
    (B : List RawCell) (c : RawCell) (n : String) (x : RawEntry) (l d : Nat) (ip op : Bool) (cap : Nat → Nat) (cfg : WCfg)
    (hcfg : sdfCfg (netPinLine net names pinIdx) (netIcLine net names pinIdx) (parse .merge B) d cap = some cfg)
    (hc : c ∈ B) (hn : c.insts.head? = some n) (hne : n ≠ "") (hx : x ∈ c.delays.flatten)
    (hline : netPinLine net names pinIdx (stripBackslash n) (pinOf (sanitize x).a) = some l)
    (hip : ip ∈ polsOf (sanitize x).a) (hd : d < 3)
    (huniq : ∀ c' ∈ B, ∀ n', c'.insts.head? = some n' → ∀ x' ∈ c'.delays.flatten,
      netPinLine net names pinIdx (stripBackslash n') (pinOf (sanitize x').a) = some l → ip ∈ polsOf (sanitize x').a →
      norm (sanitize x').r = norm (sanitize x).r ∧ norm (sanitize x').f = norm (sanitize x).f) :
    cfg.delay l ip op = (norm (if op then (sanitize x).f else (sanitize x).r)).getD d 0 ∧
    ∃ i k, names.getD i "" = stripBackslash n ∧ (net.node i).isFork = false ∧
      pinIdx (net.node i).kind (pinOf (sanitize x).a) = some k ∧ (net.line l).reader = i ∧ (net.line l).rpin = k := by
  refine ⟨sdf_delays_are_wave_delays _ _ B c n x l d ip op cap cfg hcfg hc hn hne hx hline hip hd huniq
    (net_tables_disjoint hwf names pinIdx hline), ?_⟩
  obtain ⟨i, k, _, h1, h2, h3, _, h4, h5⟩ := netPinLine_spec hwf hline
  exact ⟨i, k, h1, h2, h3, h4, h5⟩

/-- **INTERCONNECT, tables of the netlist**: the value of the entry is the delay WaveSim uses on line `l`, whose reader is a fork -/
theorem sdf_interconnect_delays_are_wave_delays_net (net : Net) (hwf : net.wfB = true) (names : Array String)
    (pinIdx : SdfWave.PinIdx) (B : List RawCell) (c : RawCell) (x : RawEntry) (l d : Nat) (ip op : Bool) (cap : Nat → Nat) (cfg : WCfg)
    (hcfg : sdfCfg (netPinLine net names pinIdx) (netIcLine net names pinIdx) (parse .merge B) d cap = some cfg)
    (hc : c ∈ B) (hn : c.insts.head? = none) (hx : x ∈ c.delays.flatten)
    (hskip : icSkip (norm (sanitize x).r) (norm (sanitize x).f) = false)
    (hline : netIcLine net names pinIdx (stripBackslash (splitSlash (sanitize x).a).1) (splitSlash (sanitize x).a).2
                    (stripBackslash (splitSlash (sanitize x).b).1) (splitSlash (sanitize x).b).2 = some l)
    (hd : d < 3)
    (huniq : ∀ c' ∈ B, c'.insts.head? = none → ∀ x' ∈ c'.delays.flatten,
      ∀ w, icWrite (netIcLine net names pinIdx) (sanitize x') = some w → w.line = l →
      norm (sanitize x').r = norm (sanitize x).r ∧ norm (sanitize x').f = norm (sanitize x).f) :
    cfg.delay l ip op = (norm (if op then (sanitize x).f else (sanitize x).r)).getD d 0 ∧
    (net.node (net.line l).reader).isFork = true :=
  ⟨sdf_interconnect_delays_are_wave_delays _ _ B c x l d ip op cap cfg hcfg hc hn hx hskip hline hd huniq
    (fun _ _ h2 => net_tables_disjoint hwf names pinIdx h2 _ _ _ _ hline), (netIcLine_reader_fork hwf hline).2⟩

/-- a line whose reader is a cell pin no IOPATH names, or a fork no INTERCONNECT names, … : every line outside the range of both
netlist tables has delay 0 -/
theorem sdf_untabled_lines_zero_net (net : Net) (names : Array String) (pinIdx : SdfWave.PinIdx) (df : DelayFile) (l d : Nat)
    (ip op : Bool) (cap : Nat → Nat) (cfg : WCfg)
    (hcfg : sdfCfg (netPinLine net names pinIdx) (netIcLine net names pinIdx) df d cap = some cfg)
    (h1 : ∀ c p, netPinLine net names pinIdx c p ≠ some l)
    (h2 : ∀ c1 p1 c2 p2, netIcLine net names pinIdx c1 p1 c2 p2 ≠ some l) :
    cfg.delay l ip op = 0 :=
  sdf_untabled_lines_zero _ _ df l d ip op cap cfg hcfg h1 h2

/-! ## (3) the static-timing window with the SDF delays, every circuit -/

/-- what the theorems of C04 / Proofs/StaPath.lean ask of a map record, for the `SimOps` model of every circuit: the certificate
(`simopsMap_accepted`), the program facts (`simops_progOK`) and the capacity bound -/
theorem simopsMap_ok {tbl : List PrefixRow} {net : Net} {order : List Nat} (strip : Bool)
    (capsIn : Nat → Nat) (capsMin : Nat) (reuse : Bool) (hwf : net.wfB = true) (ho : orderOKB net order = true)
    (hf : strip = true → forksOKB net order = true) (hr : readsDrivenB tbl net order = true) (h4 : 4 ≤ capsMin) :
    (simopsMap tbl net order strip capsIn capsMin reuse).check = none ∧ ProgOK (simopsMap tbl net order strip capsIn capsMin reuse) ∧
      4 ≤ (simopsMap tbl net order strip capsIn capsMin reuse).capsMin :=
  ⟨simopsMap_accepted strip capsIn capsMin reuse hwf ho hf hr (by omega),
   C08.simops_program_facts tbl net order strip capsIn capsMin reuse hwf ho hf hr, h4⟩

/-- `p` = the map record the `SimOps` model builds for ANY netlist with `Net.wfB`, topological order,
`strip_forks` (`forksOKB` when on) / `c_reuse` setting, capacity vector and `c_caps_min ≥ 4` (what `WaveSim` passes); `B` ANY
block list without negative numbers, `pinLine` / `icLine` ANY tables, `d` any data set; `m1` ANY memory reached from `m0` by a
propagation (`Propagated`: evaluator calls honouring `WaveStep`, any order certified by `schedOKB`) that uses the delays
`cfg.delay`, `cfg` the configuration `sdfCfg … (parse .merge B) d p.cap` (`hcfg`: there is one, the file has a top-level
block — `sdf_cfg_raises_iff`); `win` windows for the transitions of the stimulus. Then the waveform found in the region of
output slot `j` has every finite transition between the minimum and the maximum that static timing analysis — the recursion
`staSem` of C04 (hull over the operands of `window + [min, max] of the four entries of the operand's line`) run through the
same program with the SDF-derived delays `cfg` — computes for the captured signal `c`: the earliest / latest, over the
combinational paths from the inputs, of input transition time + sum of the SDF delays of the lines on the path. -/
theorem sdf_sta_window (tbl : List PrefixRow) (net : Net) (order : List Nat) (strip : Bool)
    (capsIn : Nat → Nat) (capsMin : Nat) (reuse : Bool) (p : MapIn)
    (hp : p = simopsMap tbl net order strip capsIn capsMin reuse)
    (hwf : net.wfB = true) (ho : orderOKB net order = true) (hf : strip = true → forksOKB net order = true)
    (hr : readsDrivenB tbl net order = true) (h4 : 4 ≤ capsMin)
    (pinLine : PinTable) (icLine : IcTable) (B : List RawCell) (hnn : rawNonneg B = true) (d : Nat)
    (cfg : WCfg) (hcfg : sdfCfg pinLine icLine (parse .merge B) d p.cap = some cfg)
    (m0 m1 : Int → T) (env0 : Nat → Wv) (hst : Stimulus p m0 env0)
    (hpr : Propagated p cfg.delay m0 m1)
    (win : Nat → Win) (hw : ∀ l, WRel (env0 l) (win l)) (j c : Nat) (hjc : (j, c) ∈ p.ppoSrcs) :
    Within (rdWave (p.loc j) (p.cap j) m1) (execG (staSem cfg) (waveProg p) win c) := by
  subst hp
  obtain ⟨hc, _, h4'⟩ := simopsMap_ok strip capsIn capsMin reuse hwf ho hf hr h4
  obtain ⟨hce, hdel⟩ := sdfCfg_eq hcfg
  rw [hce]
  exact (C04.sta_window_mem _ hc h4' cfg.delay (sdfDelay_nonneg .merge pinLine icLine B hnn d _ hdel) m0 m1 env0 win hst hpr hw j c hjc
    T.tmax).1

/-- **window equations, every circuit**: the static-timing recursion assigns to the output of every row the hull of its
operands' windows moved by the smallest / largest entry of the operand LINES -/
theorem sta_window_equations (tbl : List PrefixRow) (net : Net) (order : List Nat) (strip : Bool)
    (capsIn : Nat → Nat) (capsMin : Nat) (reuse : Bool) (p : MapIn)
    (hp : p = simopsMap tbl net order strip capsIn capsMin reuse)
    (hwf : net.wfB = true) (ho : orderOKB net order = true) (hf : strip = true → forksOKB net order = true)
    (hr : readsDrivenB tbl net order = true) (cfg : WCfg) (win : Nat → Win) (o : OpRow) (ho' : o ∈ p.ops)
    (hne : o.out ≠ p.ix.tmp) :
    let W := execG (staSem cfg) (waveProg p) win
    W o.out =
      Win.hull (Win.hull ((W (p.src o.i0)).shift (lineDmin cfg.delay o.i0) (lineDmax cfg.delay o.i0))
                         ((W (p.src o.i1)).shift (lineDmin cfg.delay o.i1) (lineDmax cfg.delay o.i1)))
               (Win.hull ((W (p.src o.i2)).shift (lineDmin cfg.delay o.i2) (lineDmax cfg.delay o.i2))
                         ((W (p.src o.i3)).shift (lineDmin cfg.delay o.i3) (lineDmax cfg.delay o.i3))) := by
  intro W
  have hprog : ProgOK p := hp ▸ C08.simops_program_facts tbl net order strip capsIn capsMin reuse hwf ho hf hr
  show execG (staSem cfg) (waveProg p) win o.out = _
  rw [sta_equations cfg p hprog win o ho' hne, staSem_wvOp]

/-- Every circuit, hypotheses of `sdf_sta_window`. Along a sensitised path `x → … → pathEnd x path`
of op rows (each row reads the signal before it in one operand slot — through the stem when stripped —, its other value sources
have the empty window: constant side inputs, unused slots) ending at the signal output slot `j` captures: every transition
found in that slot's region lies in the window of `x` moved by `Σ min` / `Σ max` over the four entries
`delays[d, l, ·, ·]` (= `cfg.delay l · ·`) of the lines `l` on the path (`pathLines`: the operand indices of the rows). -/
theorem sdf_path_window (tbl : List PrefixRow) (net : Net) (order : List Nat) (strip : Bool)
    (capsIn : Nat → Nat) (capsMin : Nat) (reuse : Bool) (p : MapIn)
    (hp : p = simopsMap tbl net order strip capsIn capsMin reuse)
    (hwf : net.wfB = true) (ho : orderOKB net order = true) (hf : strip = true → forksOKB net order = true)
    (hr : readsDrivenB tbl net order = true) (h4 : 4 ≤ capsMin)
    (pinLine : PinTable) (icLine : IcTable) (B : List RawCell) (hnn : rawNonneg B = true) (d : Nat)
    (cfg : WCfg) (hcfg : sdfCfg pinLine icLine (parse .merge B) d p.cap = some cfg)
    (m0 m1 : Int → T) (env0 : Nat → Wv) (hst : Stimulus p m0 env0)
    (hpr : Propagated p cfg.delay m0 m1)
    (win : Nat → Win) (hw : ∀ l, WRel (env0 l) (win l))
    (x : Nat) (path : List (OpRow × Nat))
    (hpath : PathOK p (execG (staSem cfg) (waveProg p) win) x path)
    (j : Nat) (hj : (j, pathEnd x path) ∈ p.ppoSrcs) :
    Within (rdWave (p.loc j) (p.cap j) m1)
      ((execG (staSem cfg) (waveProg p) win x).shift
        ((pathLines path).map (lineDmin cfg.delay)).sum ((pathLines path).map (lineDmax cfg.delay)).sum) := by
  subst hp
  obtain ⟨hc, hprog, h4'⟩ := simopsMap_ok strip capsIn capsMin reuse hwf ho hf hr h4
  obtain ⟨hce, hdel⟩ := sdfCfg_eq hcfg
  rw [hce] at hpath ⊢
  exact C04.path_window_mem _ hc hprog h4' cfg.delay (sdfDelay_nonneg .merge pinLine icLine B hnn d _ hdel) m0 m1 env0 hst hpr win hw
    x path hpath j hj

/-- Exact arrival time along a single sensitised path. As `sdf_path_window`, with the path starting at
an input signal `x` (no row writes it) whose transitions all happen at time `t` (`win x = [t, t]`), and polarity-independent
delays on the lines of the path: every transition WaveSim leaves in the region of the output slot happens at EXACTLY
`t + Σ_{l on the path} delays[d, l, 0, 0]` — input time plus the SDF values of the lines on the path
(`sdf_delays_are_wave_delays`, `sdf_interconnect_delays_are_wave_delays`, 0 elsewhere). -/
theorem sdf_chain_arrival (tbl : List PrefixRow) (net : Net) (order : List Nat) (strip : Bool)
    (capsIn : Nat → Nat) (capsMin : Nat) (reuse : Bool) (p : MapIn)
    (hp : p = simopsMap tbl net order strip capsIn capsMin reuse)
    (hwf : net.wfB = true) (ho : orderOKB net order = true) (hf : strip = true → forksOKB net order = true)
    (hr : readsDrivenB tbl net order = true) (h4 : 4 ≤ capsMin)
    (pinLine : PinTable) (icLine : IcTable) (B : List RawCell) (hnn : rawNonneg B = true) (d : Nat)
    (cfg : WCfg) (hcfg : sdfCfg pinLine icLine (parse .merge B) d p.cap = some cfg)
    (m0 m1 : Int → T) (env0 : Nat → Wv) (hst : Stimulus p m0 env0)
    (hpr : Propagated p cfg.delay m0 m1)
    (win : Nat → Win) (hw : ∀ l, WRel (env0 l) (win l))
    (x : Nat) (path : List (OpRow × Nat))
    (hpath : PathOK p (execG (staSem cfg) (waveProg p) win) x path)
    (j : Nat) (hj : (j, pathEnd x path) ∈ p.ppoSrcs)
    (hx : ∀ o ∈ p.ops, o.out ≠ x) (t : Int) (hwx : win x = some (t, t))
    (hpol : ∀ l ∈ pathLines path, ∀ a b, cfg.delay l a b = cfg.delay l false false) :
    ∀ u, T.fin u ∈ (rdWave (p.loc j) (p.cap j) m1).ents →
      u = t + ((pathLines path).map fun l => cfg.delay l false false).sum := by
  subst hp
  obtain ⟨hc, hprog, h4'⟩ := simopsMap_ok strip capsIn capsMin reuse hwf ho hf hr h4
  obtain ⟨hce, hdel⟩ := sdfCfg_eq hcfg
  rw [hce] at hpath
  exact C04.chain_arrival_mem _ hc hprog h4' cfg.delay (sdfDelay_nonneg .merge pinLine icLine B hnn d _ hdel) m0 m1 env0 hst hpr win hw
    x path hpath j hj hx t hwx hpol

/-! ## (4) from the SDF TEXT -/

theorem textDelay_of_raw (pinLine : PinTable) (icLine : IcTable) (text : String) (B : List RawCell)
    (hB : rawOfText text = some B) (d : Nat) :
    textDelay pinLine icLine text d = sdfDelay pinLine icLine (parse .merge B) d := by
  unfold textDelay fileOfText
  rw [hB]
  rfl

/-- the delays read from the printed text of a block list are the delays of the block list (`sdf_text_roundtrip_raw`) — as
partial results: both sides are `none` together (no top-level block: `interconnects` raises) -/
theorem sdf_text_delays (pinLine : PinTable) (icLine : IcTable) (B : List RawCell) (hs : rawShapeOK B = true)
    (hv : (ofRaw B).valid = true) (d : Nat) :
    rawOfText (printSdf (ofRaw B)) = some B ∧
    textDelay pinLine icLine (printSdf (ofRaw B)) d = sdfDelay pinLine icLine (parse .merge B) d := by
  have h : rawOfText (printSdf (ofRaw B)) = some B := sdf_text_roundtrip_raw B hs hv
  exact ⟨h, textDelay_of_raw pinLine icLine _ B h d⟩

/-- **from the text, every circuit.** `text`: ANY SDF text that the grammar model reads (scanner, reader, transformer guards)
as a block list `B` without negative numbers — in particular the printed text of every printable block list
(`sdf_text_delays`). With `delay = (sdf.parse(text).iopaths(c, tlib) + sdf.parse(text).interconnects(c, tlib))[d]` (model:
`textDelay`; `hdel`: the text is read and `interconnects` does not raise) as the delay table of the run, every transition in the region of every output slot lies inside the static-timing
window computed with these delays. -/
theorem sdf_text_sta_window (tbl : List PrefixRow) (net : Net) (order : List Nat) (strip : Bool)
    (capsIn : Nat → Nat) (capsMin : Nat) (reuse : Bool) (p : MapIn)
    (hp : p = simopsMap tbl net order strip capsIn capsMin reuse)
    (hwf : net.wfB = true) (ho : orderOKB net order = true) (hf : strip = true → forksOKB net order = true)
    (hr : readsDrivenB tbl net order = true) (h4 : 4 ≤ capsMin)
    (pinLine : PinTable) (icLine : IcTable) (text : String) (B : List RawCell) (hB : rawOfText text = some B)
    (hnn : rawNonneg B = true) (d : Nat) (delay : Nat → Bool → Bool → Int)
    (hdel : textDelay pinLine icLine text d = some delay)
    (m0 m1 : Int → T) (env0 : Nat → Wv) (hst : Stimulus p m0 env0) (hpr : Propagated p delay m0 m1)
    (win : Nat → Win) (hw : ∀ l, WRel (env0 l) (win l)) (j c : Nat) (hjc : (j, c) ∈ p.ppoSrcs) :
    Within (rdWave (p.loc j) (p.cap j) m1) (execG (staSem (wcfg p delay)) (waveProg p) win c) := by
  subst hp
  obtain ⟨hc, _, h4'⟩ := simopsMap_ok strip capsIn capsMin reuse hwf ho hf hr h4
  rw [textDelay_of_raw pinLine icLine text B hB d] at hdel
  exact (C04.sta_window_mem _ hc h4' delay (sdfDelay_nonneg .merge pinLine icLine B hnn d _ hdel) m0 m1 env0 win hst hpr hw j c hjc
    T.tmax).1

/-- the same for the exact arrival time along a sensitised path -/
theorem sdf_text_chain_arrival (tbl : List PrefixRow) (net : Net) (order : List Nat) (strip : Bool)
    (capsIn : Nat → Nat) (capsMin : Nat) (reuse : Bool) (p : MapIn)
    (hp : p = simopsMap tbl net order strip capsIn capsMin reuse)
    (hwf : net.wfB = true) (ho : orderOKB net order = true) (hf : strip = true → forksOKB net order = true)
    (hr : readsDrivenB tbl net order = true) (h4 : 4 ≤ capsMin)
    (pinLine : PinTable) (icLine : IcTable) (text : String) (B : List RawCell) (hB : rawOfText text = some B)
    (hnn : rawNonneg B = true) (d : Nat) (delay : Nat → Bool → Bool → Int)
    (hdel : textDelay pinLine icLine text d = some delay)
    (m0 m1 : Int → T) (env0 : Nat → Wv) (hst : Stimulus p m0 env0) (hpr : Propagated p delay m0 m1)
    (win : Nat → Win) (hw : ∀ l, WRel (env0 l) (win l))
    (x : Nat) (path : List (OpRow × Nat))
    (hpath : PathOK p (execG (staSem (wcfg p delay)) (waveProg p) win) x path)
    (j : Nat) (hj : (j, pathEnd x path) ∈ p.ppoSrcs)
    (hx : ∀ o ∈ p.ops, o.out ≠ x) (t : Int) (hwx : win x = some (t, t))
    (hpol : ∀ l ∈ pathLines path, ∀ a b, delay l a b = delay l false false) :
    ∀ u, T.fin u ∈ (rdWave (p.loc j) (p.cap j) m1).ents →
      u = t + ((pathLines path).map fun l => delay l false false).sum := by
  subst hp
  obtain ⟨hc, hprog, h4'⟩ := simopsMap_ok strip capsIn capsMin reuse hwf ho hf hr h4
  rw [textDelay_of_raw pinLine icLine text B hB d] at hdel
  exact C04.chain_arrival_mem _ hc hprog h4' delay (sdfDelay_nonneg .merge pinLine icLine B hnn d _ hdel) m0 m1 env0 hst hpr win hw
    x path hpath j hj hx t hwx hpol

/-! ## non-vacuity: `z = NAND2_X1(INV_X1(a), b)` with an SDF text (Proofs/SdfWaveDemo.lean)

The circuit as `verilog.parse(…, branchforks=True)` builds it, `WaveSim(c, delays, c_caps=16)`; the text `demoText`
(`demoText_eq` shows it) gives every IOPATH and INTERCONNECT its own value; `a` rises at 1.000, `b` is constant 1. -/

/-- the demo file has a top-level block, so the composition answers a configuration (`demo_cfg`: it is `demoDelayD d` with the
given capacities) — the hypothesis `sdfCfg … = some cfg` of the theorems above is satisfiable; without the top-level block
(the two instance blocks alone) the composition answers `none`, as the real `interconnects()` raises -/
example : (sdfCfg demoPins demoIc (parse .merge demoB) 1 demo.cap).isSome = true ∧
    sdfCfg demoPins demoIc (parse .merge (demoB.drop 1)) 1 demo.cap = none :=
  ⟨by rw [demo_cfg]; rfl, (sdf_cfg_raises_iff .merge demoPins demoIc _ 1 demo.cap).mpr (by decide +kernel)⟩

example : ∃ cfg, sdfCfg demoPins demoIc (parse .merge demoB) 1 demo.cap = some cfg :=
  sdf_cfg_exists .merge demoPins demoIc demoB 1 demo.cap (demoB[0]) (by decide +kernel) (by decide +kernel)

example (cfg : WCfg) : sdfCfg demoPins demoIc (parse .merge demoB) 1 demo.cap = some cfg ↔ cfg = ⟨demoDelayD 1, demo.cap⟩ := by
  rw [demo_cfg]
  exact ⟨fun h => (Option.some.inj h).symm, fun h => h ▸ rfl⟩

/-- the IOPATH `u2: A1 → ZN (2.000:2.500:3.000)` is the WaveSim delay of line 7 (branch fork → `u2.A1`), data set 1, for both
input polarities — every hypothesis of `sdf_delays_are_wave_delays` holds -/
example : (sdfCfg demoPins demoIc (parse .merge demoB) 1 demo.cap).map (·.delay 7 true false) = some 2500 := by
  rw [demo_cfg 1 demo.cap]
  exact congrArg some (sdf_delays_are_wave_delays demoPins demoIc demoB (demoB[2]) "u2"
    ⟨"A1", "ZN", [[some 2000, some 2500, some 3000]]⟩ 7 1 true false demo.cap _ (demo_cfg 1 demo.cap)
    (by decide +kernel) (by decide +kernel) (by decide +kernel) (by decide +kernel) (by decide +kernel)
    (by decide +kernel) (by decide) (by decide +kernel)
    (fun c1 p1 c2 p2 h => by have := demoIc_range c1 p1 c2 p2 7 h; omega))

/-- the edge-qualified IOPATH `u2: (posedge A2) → ZN (1.5…) (1.75…)` fills input polarity 0 of line 9 only: falling output 1.750 -/
example : (sdfCfg demoPins demoIc (parse .merge demoB) 0 demo.cap).map (·.delay 9 false true) = some 1750 := by
  rw [demo_cfg 0 demo.cap]
  exact congrArg some (sdf_delays_are_wave_delays demoPins demoIc demoB (demoB[2]) "u2"
    ⟨"(posedge A2)", "ZN", [[some 1500, some 1500, some 1500], [some 1750, some 1750, some 1750]]⟩ 9 0 false true
    demo.cap _ (demo_cfg 0 demo.cap)
    (by decide +kernel) (by decide +kernel) (by decide +kernel) (by decide +kernel) (by decide +kernel)
    (by decide +kernel) (by decide) (by decide +kernel)
    (fun c1 p1 c2 p2 h => by have := demoIc_range c1 p1 c2 p2 9 h; omega))

/-- the INTERCONNECT `u1/ZN → u2/A1 (0.250:0.375:0.500)` is the WaveSim delay of line 6 (fork `n1` → branch fork), data set 2 -/
example : (sdfCfg demoPins demoIc (parse .merge demoB) 2 demo.cap).map (·.delay 6 false true) = some 500 := by
  rw [demo_cfg 2 demo.cap]
  exact congrArg some (sdf_interconnect_delays_are_wave_delays demoPins demoIc demoB (demoB[0])
    ⟨"u1/ZN", "u2/A1", [[some 250, some 375, some 500]]⟩
    6 2 false true demo.cap _ (demo_cfg 2 demo.cap) (by decide +kernel) (by decide +kernel) (by decide +kernel) (by decide +kernel)
    (by decide +kernel) (by decide) (by decide +kernel)
    (fun c p h => by have := demoPins_range c p 6 h; omega))

/-- line 0 (`u1.ZN` → fork `n1`) is named by no entry: delay 0 -/
example : (sdfCfg demoPins demoIc (parse .merge demoB) 0 demo.cap).map (·.delay 0 true true) = some 0 := by
  rw [demo_cfg 0 demo.cap]
  exact congrArg some (sdf_untabled_lines_zero demoPins demoIc _ 0 0 true true demo.cap _ (demo_cfg 0 demo.cap)
    (fun c p h => by have := demoPins_range c p 0 h; omega)
    (fun c1 p1 c2 p2 h => by have := demoIc_range c1 p1 c2 p2 0 h; omega))

/-- the netlist tables answer on the demo too (same file: the top-level block is there) -/
theorem demo_cfg_net (d : Nat) (cap : Nat → Nat) :
    ∃ cfg, sdfCfg (netPinLine demoNet demoNames demoPinIdx) (netIcLine demoNet demoNames demoPinIdx) (parse .merge demoB) d cap
      = some cfg :=
  sdf_cfg_exists .merge _ _ demoB d cap (demoB[0]) (by decide +kernel) (by decide +kernel)

/-- the same with the tables READ OFF THE NETLIST (`demo_tables_net`: they are the demo's tables on every name of the file):
line 7 is the line whose reader is `u2` at pin position `pin_index(NAND2_X1, A1) = 0`; line 6 ends at a fork -/
example : (sdfCfg (netPinLine demoNet demoNames demoPinIdx) (netIcLine demoNet demoNames demoPinIdx) (parse .merge demoB) 1
      demo.cap).map (·.delay 7 true false) = some 2500 ∧ (demoNet.line 7).reader = 2 ∧ (demoNet.line 7).rpin = 0 := by
  obtain ⟨cfg, hcfg⟩ := demo_cfg_net 1 demo.cap
  rw [hcfg]
  exact ⟨congrArg some (sdf_delays_are_wave_delays_net demoNet demo_hyps.1 demoNames demoPinIdx demoB (demoB[2]) "u2"
    ⟨"A1", "ZN", [[some 2000, some 2500, some 3000]]⟩ 7 1 true false demo.cap cfg hcfg (by decide +kernel) (by decide +kernel)
    (by decide +kernel) (by decide +kernel) (by decide +kernel) (by decide +kernel) (by decide) (by decide +kernel)).1,
   by decide +kernel, by decide +kernel⟩
example : (sdfCfg (netPinLine demoNet demoNames demoPinIdx) (netIcLine demoNet demoNames demoPinIdx) (parse .merge demoB) 2
      demo.cap).map (·.delay 6 false true) = some 500 ∧ (demoNet.node (demoNet.line 6).reader).isFork = true := by
  obtain ⟨cfg, hcfg⟩ := demo_cfg_net 2 demo.cap
  rw [hcfg]
  have key := sdf_interconnect_delays_are_wave_delays_net demoNet demo_hyps.1 demoNames demoPinIdx demoB (demoB[0])
    ⟨"u1/ZN", "u2/A1", [[some 250, some 375, some 500]]⟩ 6 2 false true demo.cap cfg hcfg (by decide +kernel) (by decide +kernel)
    (by decide +kernel) (by decide +kernel) (by decide +kernel) (by decide) (by decide +kernel)
  exact ⟨congrArg some key.1, key.2⟩

/-- `(posedge A2)` names input polarity 0 of line 9 only: the coordinates with input polarity 1 are named by no entry -/
example : (sdfCfg demoPins demoIc (parse .merge demoB) 0 demo.cap).map (·.delay 9 true false) = some 0 := by
  rw [demo_cfg 0 demo.cap]
  exact congrArg some (sdf_other_lines_zero demoPins demoIc _ 9 0 true false demo.cap _ (demo_cfg 0 demo.cap) (by decide +kernel)
    ((icEntries (parse .merge demoB)).get (by decide +kernel)) (Option.some_get _).symm (by decide +kernel))

/-- line 10 (fork `z` → output port): its reader is the port cell, for which the library has no pin, and it is no fork -/
example : (sdfCfg (netPinLine demoNet demoNames demoPinIdx) (netIcLine demoNet demoNames demoPinIdx) (parse .merge demoB) 0
    demo.cap).map (·.delay 10 false true) = some 0 := by
  obtain ⟨cfg, hcfg⟩ := demo_cfg_net 0 demo.cap
  rw [hcfg]
  refine congrArg some (sdf_untabled_lines_zero_net demoNet demoNames demoPinIdx (parse .merge demoB) 10 0 false true demo.cap cfg hcfg ?_ ?_)
  · intro c p h
    obtain ⟨i, k, _, _, _, hk, _, hr, _⟩ := netPinLine_spec demo_hyps.1 h
    have hi : i = 8 := by rw [← hr]; decide +kernel
    subst hi
    have : (demoNet.node 8).kind = "output" := by decide +kernel
    rw [this] at hk
    simp [demoPinIdx] at hk
  · intro c1 p1 c2 p2 h
    have := (netIcLine_reader_fork demo_hyps.1 h).2
    revert this
    decide +kernel

example : (sdfCfg demoPins demoIc (parse .merge demoB) 2 demo.cap).isSome = true ∧
    ∀ cfg, sdfCfg demoPins demoIc (parse .merge demoB) 2 demo.cap = some cfg → ∀ l ip op, 0 ≤ cfg.delay l ip op :=
  ⟨by rw [demo_cfg]; rfl, fun cfg hcfg => sdf_delays_nonneg .merge demoPins demoIc demoB demoB_ok.2.2 2 demo.cap cfg hcfg⟩

/-- the facts about the demo's program and static-timing run that the three examples below use, evaluated together: the NAND
row, the extreme delays of its operand lines, the window of the captured line, the sensitised path and the delays along it -/
theorem demo_sta_facts :
    ((⟨30583, 1, 7, 9, 11, 11⟩ : OpRow) ∈ demo.ops ∧ (1 : Nat) ≠ demo.ix.tmp) ∧
    (lineDmin demoDelay 7 = 2000 ∧ lineDmax demoDelay 7 = 2000 ∧ lineDmin demoDelay 9 = 0 ∧ lineDmax demoDelay 9 = 1750
      ∧ lineDmin demoDelay 11 = 0 ∧ lineDmax demoDelay 11 = 0) ∧
    execG (staSem (wcfg demo demoDelay)) (waveProg demo) demoWin 10 = some (4875, 4875) ∧
    pathOKB demo (execG (staSem (wcfg demo demoDelay)) (waveProg demo) demoWin) 14 demoPath = true ∧
    (∀ o ∈ demo.ops, o.out ≠ 14) ∧
    (∀ l ∈ pathLines demoPath, ∀ a b, demoDelay l a b = demoDelay l false false) ∧
    ((pathLines demoPath).map fun l => demoDelay l false false).sum = 3875 := by decide +kernel

/-- the window equation of the NAND row of the demo: window of line 1 = hull of (window of line 7 + [2000, 2000]) and
(window of line 9 + [0, 1750]) -/
example (win : Nat → Win) :
    let W := execG (staSem (wcfg demo demoDelay)) (waveProg demo) win
    W 1 = Win.hull (Win.hull ((W 7).shift 2000 2000) ((W 9).shift 0 1750)) (Win.hull ((W 11).shift 0 0) ((W 11).shift 0 0)) := by
  intro W
  have key := sta_window_equations Gen.kindPrefixes demoNet demoOrder false (fun _ => 16) 4 false demo rfl demo_hyps.1
    demo_hyps.2.1 (fun h => by cases h) demo_hyps.2.2.2 (wcfg demo demoDelay) win ⟨30583, 1, 7, 9, 11, 11⟩ demo_sta_facts.1.1
    demo_sta_facts.1.2
  have h7 := demo_sta_facts.2.1
  have hs : ∀ x, demo.src x = x := fun x => by
    show (simopsMap Gen.kindPrefixes demoNet demoOrder false (fun _ => 16) 4 false).src x = x
    rw [simopsMap_src, viaStem_false]
  have hd : (wcfg demo demoDelay).delay = demoDelay := rfl
  simp only [hs, hd, h7.1, h7.2.1, h7.2.2.1, h7.2.2.2.1, h7.2.2.2.2.1, h7.2.2.2.2.2] at key
  exact key
/-- the delays read from the TEXT are the demo's delay table -/
theorem demo_text_delay : textDelay demoPins demoIc demoText 0 = some demoDelay :=
  (sdf_text_delays demoPins demoIc demoB demoB_ok.1 demoB_ok.2.1 0).2.trans (demo_sdfDelay 0)

/-- what the three examples below read from `demo_tables`: the captured line and the region of its output slot -/
theorem demo_out : (19, 10) ∈ demo.ppoSrcs ∧ demo.loc 19 = 180 ∧ demo.cap 19 = 16 := by
  obtain ⟨_, hppo, _, _, _, _, _, hloc, hcap, _⟩ := demo_tables
  exact ⟨by rw [hppo]; exact List.mem_singleton.mpr rfl, hloc, hcap⟩

/-- **end to end on the demo**: after the propagation with the delays read from the text, the region of the output slot
(cells 180 … 195 of the real layout) holds exactly one transition, the rise at 4.875 = 1.000 + 0.125 (a → u1/I) + 1.000
(u1: I → ZN) + 0.250 (u1/ZN → u2/A1) + 2.000 (u2: A1 → ZN) + 0.500 (u2/ZN → z); the memory-level run is never evaluated:
`C03.wave_memory_sound` reduces it to the signal-level value computed by `decide +kernel` (`demo_sim`) -/
example (junk : Int → Nat → Wv → (Int → T) → Int → T) :
    rdWave 180 16 (memRun demo (waveRW junk) (waveRow (wcfg demo demoDelay) demo) demo.ops demoM0) = ⟨[T.fin 4875], T.tmax⟩ := by
  have h := propagated_eq_sim demo demo_check demoDelay demoM0 _ _ (stimulus_inputEnv _ _) (demo_propagated junk) 19 10
    demo_out.1
  rw [demo_out.2.1, demo_out.2.2] at h
  rw [h]
  exact demo_sim

/-- every hypothesis of `sdf_text_sta_window` holds for the demo, and the window static timing analysis computes from the
text's delays for the captured line is the single point 4875 -/
example (junk : Int → Nat → Wv → (Int → T) → Int → T) :
    Within (rdWave 180 16 (memRun demo (waveRW junk) (waveRow (wcfg demo demoDelay) demo) demo.ops demoM0))
      (some (4875, 4875)) := by
  have key := sdf_text_sta_window Gen.kindPrefixes demoNet demoOrder false (fun _ => 16) 4 false demo rfl demo_hyps.1
    demo_hyps.2.1 (fun h => by cases h) demo_hyps.2.2.2 (by decide) demoPins demoIc demoText demoB
    (sdf_text_delays demoPins demoIc demoB demoB_ok.1 demoB_ok.2.1 0).1 demoB_ok.2.2 0 demoDelay demo_text_delay
    demoM0 _ (inputEnv demo demoM0) (stimulus_inputEnv _ _) (demo_propagated junk) demoWin demo_win_ok 19 10
    demo_out.1
  rw [demo_out.2.1, demo_out.2.2, demo_sta_facts.2.2.1] at key
  exact key

/-- every hypothesis of `sdf_text_chain_arrival` holds for the demo (`demoPath`: the eight rows from input slot 14 to the
captured line 10, side input `b` without transition, polarity-independent delays on the path although line 9 is
polarity dependent): any transition in the output region happens at 1000 + 3875 -/
example (junk : Int → Nat → Wv → (Int → T) → Int → T) :
    ∀ u, T.fin u ∈ (rdWave 180 16 (memRun demo (waveRW junk) (waveRow (wcfg demo demoDelay) demo) demo.ops demoM0)).ents →
      u = 1000 + 3875 := by
  obtain ⟨_, _, _, hpath, hx, hpol, hsum⟩ := demo_sta_facts
  have key := sdf_text_chain_arrival Gen.kindPrefixes demoNet demoOrder false (fun _ => 16) 4 false demo rfl demo_hyps.1
    demo_hyps.2.1 (fun h => by cases h) demo_hyps.2.2.2 (by decide) demoPins demoIc demoText demoB
    (sdf_text_delays demoPins demoIc demoB demoB_ok.1 demoB_ok.2.1 0).1 demoB_ok.2.2 0 demoDelay demo_text_delay
    demoM0 _ (inputEnv demo demoM0) (stimulus_inputEnv _ _) (demo_propagated junk) demoWin demo_win_ok 14 demoPath
    (pathOKB_sound _ _ _ _ hpath) 19
    demo_out.1 hx 1000 rfl hpol
  rw [demo_out.2.1, demo_out.2.2, hsum] at key
  exact key

end KV.C14
