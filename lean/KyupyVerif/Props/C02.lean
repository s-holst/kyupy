import KyupyVerif.Proofs.SemL
import KyupyVerif.Proofs.SpecRel
import KyupyVerif.Proofs.AllCircMem
import KyupyVerif.Proofs.AllCircDemo
import KyupyVerif.Proofs.NetLabelling
/-! # C02 — 4- and 8-valued simulation follows the documented algebra and is X-sound

`semL4`/`semL8` are what the real `LogicSim.c_prop` dispatch chains compute for one op row (generated by
symbolic execution of the unmodified code), `specL4`/`specL8` the documented composition of the
primitive.

**Theorem, per program** (parts 1–4 and the lanes section): all statements hold for every op program over known op codes, every stimulus and —
being per-lane statements about a lane-wise simulator (`Gen.sem8_hom`/`Gen.sem4_hom` at a lane: `C06.lane_independent8/4`; whole programs: `sim8_lanes`/`sim4_lanes`) — every
batch size.

**Theorem, per NETLIST** (part "ALL circuits"): for every well-formed netlist (`Net.wfB`), every topological order
(`orderOKB`) and the op program of the `SimOps` model with the generated prefix table
* `genOps_known` — every emitted op code is one of the 33 primitives (so `KnownProg` is not a hypothesis of the netlist-level theorems);
* `sim8_all_circuits`, `sim4_all_circuits` (`sim2_all_circuits`) — the simulation result is THE solution of the netlist's gate
  equations in the documented algebra (`comp8`/`comp4` compositions of `specNot/And/Or/Xor`; Boolean: the truth tables);
  `…_stripped`: the `strip_forks` schedule computes the same solution on every signal that is not a stripped branch;
* `xsound8_all_circuits`, `xsound4_all_circuits`, `const_not_contradicted_all_circuits` — `x ⊑ b` on the inputs ⇒ on every
  line the multi-valued result `⊑` the Boolean function of the netlist (the unique Boolean solution);
* `components_all_circuits` — final / initial component of the 8-valued result = Boolean solution for the final / initial
  components of the stimulus;
* memory level, `sim8_memory_all_circuits`, `sim4_memory_all_circuits`, `xsound8_memory_all_circuits`,
  `xsound4_memory_all_circuits`, `components_memory_all_circuits` — the same about the memory row of every output slot (what
  `c_to_s` captures) after the op rows have run on memory through the map the `SimOps` model builds, for BOTH `strip_forks`
  and both `c_reuse` settings, every capacity vector (composition with `C08.simops_map_accepted`; domain hypotheses
  `readsDrivenB`, `forksOKB` as in C08/C06);
* `sim8_lanes_all_circuits`, `sim4_lanes_all_circuits` — lane `k` of the bit-parallel run on any number of lanes is the solution for lane `k`'s stimulus.
"The gate equations of the netlist" are stated twice and proved equivalent: (i) the equations of the rows `SimOps` generates for
it (`SolvesJ`; one row per driven line), (ii) the equations `lineEq` of the SPECIFICATION evaluator (Model/Net.lean, written
independently of `SimOps`: interface nodes, flip-flop QN, forks, longest matching kind family, arity by connected pins,
unconnected pins read 0) — `gate_equations_are_netlist` (all three algebras; rests on `select_all_kinds`: first match in the
generated prefix table = longest specified family, EVERY kind string), `sim8_netlist_all_circuits`,
`sim4_netlist_all_circuits`, `sim2_netlist_all_circuits` (the simulation result is THE labelling consistent with the netlist),
`oracle_labelling_is_simulation` (every labelling of the lines accepted by the oracle's checker `consistentB` equals the
simulation result; hypothesis `linesDrivenB`). **Correspondence (not theorem):** that the real `SimOps.__init__` produces the
rows and tables of the model (`genOps`/`memMap` compared exactly on every generated instance, C01/C08), and the domain
hypotheses `wfB`, `orderOKB`, `forksOKB`, `readsDrivenB`, `linesDrivenB`, which the driver evaluates on every real circuit and
order (tags `allcirc-hyp`, `netspec-hyp`). **Oracle:** captured values of the real simulator against the specification
evaluator `evalAll`, whose labelling is checked by `consistentB` on every case (so, by `oracle_labelling_is_simulation`, the
expected values ARE the model's simulation result; what the oracle decides per case is real code = model). -/
namespace KV.C02
open KV KV.Sig

/-- (1) per primitive: the dispatched code equals the documented composition, all operand tuples -/
theorem op8_eq_comp {name : String} {code : Nat} (h : (name, code) ∈ Gen.prims) :
    ∃ f, comp8 name = some f ∧ ∀ a b c d : V3,
      (Gen.sem8 code (.ofV3 a) (.ofV3 b) (.ofV3 c) (.ofV3 d)).toV3 = f a b c d := sem8_eq_comp h
theorem op4_eq_comp {name : String} {code : Nat} (h : (name, code) ∈ Gen.prims) :
    ∃ f, comp4 name = some f ∧ ∀ a b c d : V2,
      (Gen.sem4 code (.ofV2 a) (.ofV2 b) (.ofV2 c) (.ofV2 d)).toV2 = f a b c d := sem4_eq_comp h

/-- (2) every program: simulation with the real dispatch = gate-by-gate composition of the documented operators -/
theorem sim8_eq_spec (ops : List Op) (hk : KnownProg ops) (env : Nat → V3) :
    ∀ l, exec semL8 ops env l = exec specL8 ops env l :=
  exec_eq_of_known semL8 specL8 (fun _ h xs => semL8_eq_spec h xs) ops hk env

theorem sim4_eq_spec (ops : List Op) (hk : KnownProg ops) (env : Nat → V2) :
    ∀ l, exec semL4 ops env l = exec specL4 ops env l :=
  exec_eq_of_known semL4 specL4 (fun _ h xs => semL4_eq_spec h xs) ops hk env

/-- primitive-level X-soundness of the real 8-valued dispatch against the real 2-valued dispatch -/
theorem op8_refines {code : Nat} (h : KnownCode code) (xs : List V3) (ys : List Bool)
    (hxy : All2 V3.refines xs ys) : (semL8 code xs).refines (semL2n code ys) :=
  semL8_rel refines8_rel (fun _ => rfl) h hxy

theorem op4_refines {code : Nat} (h : KnownCode code) (xs : List V2) (ys : List Bool)
    (hxy : All2 V2.refines xs ys) : (semL4 code xs).refines (semL2n code ys) :=
  semL4_rel refines4_rel (fun _ => rfl) h hxy

/-- (3) X-soundness for every program: if the 2-valued stimulus `e2` is a completion of the multi-valued
stimulus `e8` (every known value keeps its final bit), then on every signal a known result of the
8-valued simulation equals the 2-valued simulation of the completion: a 0/1 result is never contradicted. -/
theorem xsound8 (ops : List Op) (hk : KnownProg ops) (e8 : Nat → V3) (e2 : Nat → Bool)
    (h : ∀ l, (e8 l).refines (e2 l)) : ∀ l, (exec semL8 ops e8 l).refines (exec semL2n ops e2 l) :=
  exec_rel_on V3.refines semL8 semL2n ops (fun op hop xs ys hxy => op8_refines (hk op hop) xs ys hxy) e8 e2 h

theorem xsound4 (ops : List Op) (hk : KnownProg ops) (e4 : Nat → V2) (e2 : Nat → Bool)
    (h : ∀ l, (e4 l).refines (e2 l)) : ∀ l, (exec semL4 ops e4 l).refines (exec semL2n ops e2 l) :=
  exec_rel_on V2.refines semL4 semL2n ops (fun op hop xs ys hxy => op4_refines (hk op hop) xs ys hxy) e4 e2 h

/-- corollary in the words of the property: a plain 0/1 result is the 2-valued result of every completion -/
theorem const_result_not_contradicted (ops : List Op) (hk : KnownProg ops) (e8 : Nat → V3) (e2 : Nat → Bool)
    (h : ∀ l, (e8 l).refines (e2 l)) (l : Nat) (b : Bool) (hb : exec semL8 ops e8 l = V3.ofBool b) :
    exec semL2n ops e2 l = b := by
  have := xsound8 ops hk e8 e2 h l
  rw [hb] at this
  exact (this (by cases b <;> rfl)).symm

/-- (4) components: on waveform values the final (initial) plane of every 8-valued result is the
2-valued simulation of the final (initial) planes of the stimulus -/
theorem sim8_components (ops : List Op) (hk : KnownProg ops) (e8 : Nat → V3)
    (hw : ∀ l, (e8 l).isWave = true) (l : Nat) :
    (exec semL8 ops e8 l).isWave = true ∧
    (exec semL8 ops e8 l).p0 = exec semL2n ops (fun x => (e8 x).p0) l ∧
    (exec semL8 ops e8 l).p1 = exec semL2n ops (fun x => (e8 x).p1) l := by
  have plane : ∀ k : Bool, planeIs k (exec semL8 ops e8 l) (exec semL2n ops (fun x => if k then (e8 x).p1 else (e8 x).p0) l) = true :=
    fun k => exec_rel_on (fun v b => planeIs k v b = true) semL8 semL2n ops
      (fun op hop _ _ hxy => semL8_rel (plane_rel k) (by cases k <;> rfl) (hk op hop) hxy) e8 _ (fun x => by simp [planeIs, hw x]) l
  have h0 := plane false
  have h1 := plane true
  simp only [planeIs, Bool.and_eq_true, beq_iff_eq, Bool.false_eq_true, ite_false, ite_true] at h0 h1
  exact ⟨h0.1, h0.2, h1.2⟩

/-! ## ALL circuits

From here on the statements start from a NETLIST: every `net` whose pin tables and line records refer to each other
(`Net.wfB`), every topological `order` of its nodes (`orderOKB`), the op program `genOps Gen.kindPrefixes net order strip`
(model of `SimOps`, equal to the real `ops` by exact correspondence, C01) with the generated prefix table. `SolvesJ (Jt net)
sem ops env val` says: `val` keeps the stimulus `env` on every signal no row writes (input slots, the constant-0 slot) and
satisfies the equation `val out = sem (val ins)` of EVERY row — the gate equations of the netlist; `Jt net` excludes only the
scratch slot that rows of cells without a connected output write. Well-orderedness of the program (`genOps_WOJ`, C01) makes
the solution unique, so "the result of the simulation" and "the solution of the gate equations" are the same thing and no
execution order appears in the statements. -/

/-- known kinds: every op code `SimOps` emits for ANY netlist is one of the 33 primitives — interface rows carry
    `BUF1`/`INV1`, fork rows `BUF1`, cell rows a code of the generated prefix table, all of whose codes are in `sim.names` -/
theorem genOps_known (net : Net) (order : List Nat) (strip : Bool) :
    KnownProg ((genOps Gen.kindPrefixes net order strip).map OpRow.toOp) := KV.genOps_known net order strip

/-- (A8) **every netlist, every topological order, every stimulus**: the 8-valued simulation (real dispatch `semL8`) computes
    THE solution of the netlist's gate equations in the documented algebra (`specL8` = `comp8` composition of
    `specNot/And/Or/Xor` of the primitive named by the code): it solves them, and every solution equals it on every signal
    except the scratch slot. -/
theorem sim8_all_circuits (net : Net) (order : List Nat) (hwf : net.wfB = true) (ho : orderOKB net order = true)
    (env : Nat → V3) :
    let ops := (genOps Gen.kindPrefixes net order false).map OpRow.toOp
    SolvesJ (Jt net) (fun op => specL8 op.code) ops env (exec semL8 ops env) ∧
    ∀ val, SolvesJ (Jt net) (fun op => specL8 op.code) ops env val → ∀ x, Jt net x = false → val x = exec semL8 ops env x :=
  logic_all_circuits semL8 specL8 (fun _ h xs => semL8_eq_spec h xs) net order false hwf ho env

/-- (A4) the same for the 4-valued simulation and `comp4` -/
theorem sim4_all_circuits (net : Net) (order : List Nat) (hwf : net.wfB = true) (ho : orderOKB net order = true)
    (env : Nat → V2) :
    let ops := (genOps Gen.kindPrefixes net order false).map OpRow.toOp
    SolvesJ (Jt net) (fun op => specL4 op.code) ops env (exec semL4 ops env) ∧
    ∀ val, SolvesJ (Jt net) (fun op => specL4 op.code) ops env val → ∀ x, Jt net x = false → val x = exec semL4 ops env x :=
  logic_all_circuits semL4 specL4 (fun _ h xs => semL4_eq_spec h xs) net order false hwf ho env

/-- (A2) the Boolean function of the netlist: the 2-valued simulation computes THE solution of the gate equations with the
    sixteen-bit truth tables (`specL2`; equal to the documented formulas, `C01.op2_njit`) — the reference of (B), (C) -/
theorem sim2_all_circuits (net : Net) (order : List Nat) (hwf : net.wfB = true) (ho : orderOKB net order = true)
    (env : Nat → Bool) :
    let ops := (genOps Gen.kindPrefixes net order false).map OpRow.toOp
    SolvesJ (Jt net) (fun op => specL2 op.code) ops env (exec semL2n ops env) ∧
    ∀ val, SolvesJ (Jt net) (fun op => specL2 op.code) ops env val → ∀ x, Jt net x = false → val x = exec semL2n ops env x :=
  logic_all_circuits semL2n specL2 (fun _ h xs => semL2n_eq_spec h xs) net order false hwf ho env

/-- (A') with `strip_forks` (domain hypothesis `forksOKB`, C06): the stripped schedule — fork rows dropped, operands resolved
    through the stems whose memory the branches share — computes the same solution on every signal that is not a stripped
    branch (a branch has no value of its own then: it IS its stem, see the memory-level statements below) -/
theorem sim8_all_circuits_stripped (net : Net) (order : List Nat) (hwf : net.wfB = true) (ho : orderOKB net order = true)
    (hf : forksOKB net order = true) (env val : Nat → V3)
    (hval : SolvesJ (Jt net) (fun op => specL8 op.code) ((genOps Gen.kindPrefixes net order false).map OpRow.toOp) env val)
    (x : Nat) (hj : Jt net x = false) (hx : (stemsOf net true).getD x none = none) :
    exec semL8 ((genOps Gen.kindPrefixes net order true).map
        (fun r => (⟨r.lut, r.out, r.ins.map (viaStem (stemsOf net true))⟩ : Op))) env x = val x :=
  logic_all_circuits_stripped semL8 specL8 (fun _ h xs => semL8_eq_spec h xs) default semL8_buf1 net order hwf ho hf env val hval
    x hj hx

theorem sim4_all_circuits_stripped (net : Net) (order : List Nat) (hwf : net.wfB = true) (ho : orderOKB net order = true)
    (hf : forksOKB net order = true) (env val : Nat → V2)
    (hval : SolvesJ (Jt net) (fun op => specL4 op.code) ((genOps Gen.kindPrefixes net order false).map OpRow.toOp) env val)
    (x : Nat) (hj : Jt net x = false) (hx : (stemsOf net true).getD x none = none) :
    exec semL4 ((genOps Gen.kindPrefixes net order true).map
        (fun r => (⟨r.lut, r.out, r.ins.map (viaStem (stemsOf net true))⟩ : Op))) env x = val x :=
  logic_all_circuits_stripped semL4 specL4 (fun _ h xs => semL4_eq_spec h xs) default semL4_buf1 net order hwf ho hf env val hval
    x hj hx

/-- (B8) **X-soundness on the netlist**: if the Boolean stimulus `e2` is a completion of the 8-valued stimulus `e8`
    (`x ⊑ b` on every input), then on every line the 8-valued simulation result `⊑` the Boolean function of the netlist —
    `val2` is ANY (= the unique) Boolean solution of the gate equations for `e2`. Every netlist, order, stimulus, completion. -/
theorem xsound8_all_circuits (net : Net) (order : List Nat) (hwf : net.wfB = true) (ho : orderOKB net order = true)
    (e8 : Nat → V3) (e2 : Nat → Bool) (h : ∀ l, (e8 l).refines (e2 l)) (val2 : Nat → Bool)
    (h2 : SolvesJ (Jt net) (fun op => specL2 op.code) ((genOps Gen.kindPrefixes net order false).map OpRow.toOp) e2 val2)
    (x : Nat) (hx : Jt net x = false) :
    (exec semL8 ((genOps Gen.kindPrefixes net order false).map OpRow.toOp) e8 x).refines (val2 x) :=
  logic_refines_all_circuits _ semL8 (fun _ hk => op8_refines hk) net order hwf ho e8 e2 h val2 h2 x hx

/-- (B4) the same for the 4-valued simulation -/
theorem xsound4_all_circuits (net : Net) (order : List Nat) (hwf : net.wfB = true) (ho : orderOKB net order = true)
    (e4 : Nat → V2) (e2 : Nat → Bool) (h : ∀ l, (e4 l).refines (e2 l)) (val2 : Nat → Bool)
    (h2 : SolvesJ (Jt net) (fun op => specL2 op.code) ((genOps Gen.kindPrefixes net order false).map OpRow.toOp) e2 val2)
    (x : Nat) (hx : Jt net x = false) :
    (exec semL4 ((genOps Gen.kindPrefixes net order false).map OpRow.toOp) e4 x).refines (val2 x) :=
  logic_refines_all_circuits _ semL4 (fun _ hk => op4_refines hk) net order hwf ho e4 e2 h val2 h2 x hx

/-- (B') in the words of the property, on the netlist: a plain 0/1 in ANY solution of the 8-valued gate equations is the
    value of the line in the Boolean solution of EVERY completion of the stimulus -/
theorem const_not_contradicted_all_circuits (net : Net) (order : List Nat) (hwf : net.wfB = true)
    (ho : orderOKB net order = true) (e8 val8 : Nat → V3) (e2 val2 : Nat → Bool) (h : ∀ l, (e8 l).refines (e2 l))
    (h8 : SolvesJ (Jt net) (fun op => specL8 op.code) ((genOps Gen.kindPrefixes net order false).map OpRow.toOp) e8 val8)
    (h2 : SolvesJ (Jt net) (fun op => specL2 op.code) ((genOps Gen.kindPrefixes net order false).map OpRow.toOp) e2 val2)
    (x : Nat) (hx : Jt net x = false) (b : Bool) (hb : val8 x = V3.ofBool b) : val2 x = b := by
  have := xsound8_all_circuits net order hwf ho e8 e2 h val2 h2 x hx
  rw [← (sim8_all_circuits net order hwf ho e8).2 val8 h8 x hx, hb] at this
  exact (this (by cases b <;> rfl)).symm

/-- (C) **components on the netlist**: for a stimulus over the six waveform values, on every line the 8-valued result is a
    waveform value whose final (initial) component is the Boolean function of the netlist applied to the final (initial)
    components of the stimulus — `valF`, `valI` are the Boolean solutions for the two component stimuli -/
theorem components_all_circuits (net : Net) (order : List Nat) (hwf : net.wfB = true) (ho : orderOKB net order = true)
    (e8 : Nat → V3) (hw : ∀ l, (e8 l).isWave = true) (valF valI : Nat → Bool)
    (hF : SolvesJ (Jt net) (fun op => specL2 op.code) ((genOps Gen.kindPrefixes net order false).map OpRow.toOp)
      (fun x => (e8 x).p0) valF)
    (hI : SolvesJ (Jt net) (fun op => specL2 op.code) ((genOps Gen.kindPrefixes net order false).map OpRow.toOp)
      (fun x => (e8 x).p1) valI)
    (x : Nat) (hx : Jt net x = false) :
    (exec semL8 ((genOps Gen.kindPrefixes net order false).map OpRow.toOp) e8 x).isWave = true ∧
    (exec semL8 ((genOps Gen.kindPrefixes net order false).map OpRow.toOp) e8 x).p0 = valF x ∧
    (exec semL8 ((genOps Gen.kindPrefixes net order false).map OpRow.toOp) e8 x).p1 = valI x := by
  rw [(sim2_all_circuits net order hwf ho _).2 valF hF x hx, (sim2_all_circuits net order hwf ho _).2 valI hI x hx]
  exact sim8_components _ (KV.genOps_known net order false) e8 hw x

/-! ### the netlist reading: the row equations ARE the gate equations of the specification evaluator

`lineEq` (Model/Net.lean) is the specification's equation of one line, written independently of `SimOps`: an interface node
(port, flip-flop, latch) drives its lines with its stimulus value `a p` (a flip-flop's second output inverted), a fork passes
the line on its input pin, any other node applies the primitive NAMED by the longest matching kind family
(`specFamilies`/`specPrimName`, arity by the connected pins) to the lines on its input pins, unconnected pins read constant 0.
`NetConsistent net order neg prim env val`: `val` keeps the stimulus on every signal no row writes and satisfies `lineEq` on
every line a row writes — with `linesDrivenB` (every line is written) this is, on the lines, the acceptance predicate
`consistentB` the oracle's evaluator `evalAll` is checked against on every case. Domain hypothesis `forksOKB` (C06): a node
scheduled as a fork (lower-cased kind) is a fork for the specification (exact kind).
Domain hypothesis `Net.arityOKB` (known finding D33; Model/Net.lean): every node that is neither fork nor state
element has at most four input pin slots.  `lineEq` reads pins 0..3 — exactly as `SimOps` does — so the theorems below are TRUE for
every netlist, but only inside this domain are the equations of `lineEq` the equations the netlist describes; a gate with a fifth
input pin is, for specification and simulator alike, the 4-input primitive of its first four pins
(`C11.wide_gate_not_simulated`).  The hypothesis is not used by the proofs; it states the domain of the reading "the netlist". -/

/-- selection of the primitive, EVERY kind string and pin-connection pattern (`C01.select_vocab` is the restriction to a listed vocabulary): the
    first match in the generated, ordered `kind_prefixes` is the code of the member of the longest matching specified family -/
theorem select_all_kinds (k : String) (c2 c3 : Bool) :
    selectPrim Gen.kindPrefixes k c2 c3 = (specPrimName k c2 c3).bind primCode := select_is_spec k c2 c3

/-- (N) for every well-formed netlist and topological order, in each of the three documented algebras: a labelling solves
    the equations of the generated rows iff it is consistent with the netlist in the sense of the specification evaluator -/
theorem gate_equations_are_netlist (net : Net) (order : List Nat) (hwf : net.wfB = true) (ho : orderOKB net order = true)
    (hfk : forksOKB net order = true) (_har : net.arityOKB = true) :
    let ops := (genOps Gen.kindPrefixes net order false).map OpRow.toOp
    (∀ env val : Nat → V3, SolvesJ (Jt net) (fun op => specL8 op.code) ops env val ↔
      NetConsistent net order specNot prim8 env val) ∧
    (∀ env val : Nat → V2, SolvesJ (Jt net) (fun op => specL4 op.code) ops env val ↔
      NetConsistent net order spec4Not prim4 env val) ∧
    (∀ env val : Nat → Bool, SolvesJ (Jt net) (fun op => specL2 op.code) ops env val ↔
      NetConsistent net order (!·) prim2 env val) :=
  ⟨fun env val => solves_iff_consistent net order hwf ho hfk specL8 specNot prim8 semSpec8 env val,
   fun env val => solves_iff_consistent net order hwf ho hfk specL4 spec4Not prim4 semSpec4 env val,
   fun env val => solves_iff_consistent net order hwf ho hfk specL2 (!·) prim2 semSpec2 env val⟩

/-- (N8) **the 8-valued simulation result is THE labelling consistent with the netlist** (specification evaluator's gate
    equations over `specNot` / `prim8`): it is consistent, and every consistent labelling equals it on every signal except
    the scratch slot -/
theorem sim8_netlist_all_circuits (net : Net) (order : List Nat) (hwf : net.wfB = true) (ho : orderOKB net order = true)
    (hfk : forksOKB net order = true) (har : net.arityOKB = true) (env : Nat → V3) :
    let ops := (genOps Gen.kindPrefixes net order false).map OpRow.toOp
    NetConsistent net order specNot prim8 env (exec semL8 ops env) ∧
    ∀ val, NetConsistent net order specNot prim8 env val → ∀ x, x ≠ net.idx.tmp → val x = exec semL8 ops env x := by
  have _ := har
  exact logic_netlist_all_circuits semL8 specL8 (fun _ h xs => semL8_eq_spec h xs) specNot prim8 semSpec8 net order hwf ho hfk env

/-- (N4) the same for the 4-valued simulation -/
theorem sim4_netlist_all_circuits (net : Net) (order : List Nat) (hwf : net.wfB = true) (ho : orderOKB net order = true)
    (hfk : forksOKB net order = true) (har : net.arityOKB = true) (env : Nat → V2) :
    let ops := (genOps Gen.kindPrefixes net order false).map OpRow.toOp
    NetConsistent net order spec4Not prim4 env (exec semL4 ops env) ∧
    ∀ val, NetConsistent net order spec4Not prim4 env val → ∀ x, x ≠ net.idx.tmp → val x = exec semL4 ops env x := by
  have _ := har
  exact logic_netlist_all_circuits semL4 specL4 (fun _ h xs => semL4_eq_spec h xs) spec4Not prim4 semSpec4 net order hwf ho hfk env

/-- (N2) … and for the Boolean reference of (B), (C): the 2-valued simulation result is THE labelling consistent with the
    netlist over the documented formulas (`prim2` = `formula`) -/
theorem sim2_netlist_all_circuits (net : Net) (order : List Nat) (hwf : net.wfB = true) (ho : orderOKB net order = true)
    (hfk : forksOKB net order = true) (har : net.arityOKB = true) (env : Nat → Bool) :
    let ops := (genOps Gen.kindPrefixes net order false).map OpRow.toOp
    NetConsistent net order (!·) prim2 env (exec semL2n ops env) ∧
    ∀ val, NetConsistent net order (!·) prim2 env val → ∀ x, x ≠ net.idx.tmp → val x = exec semL2n ops env x := by
  have _ := har
  exact logic_netlist_all_circuits semL2n specL2 (fun _ h xs => semL2n_eq_spec h xs) (!·) prim2 semSpec2 net order hwf ho hfk env

/-- (NO) **the oracle's expected values are the simulation result**: if every line of the netlist is written by a row
    (`linesDrivenB`), then EVERY labelling of the lines that passes the acceptance predicate `consistentB` of the specification
    evaluator (the driver evaluates it on the labelling `evalAll` returns, on every case) equals the 8- / 4-valued simulation
    result on every line -/
theorem oracle_labelling_is_simulation (net : Net) (order : List Nat) (hwf : net.wfB = true)
    (ho : orderOKB net order = true) (hfk : forksOKB net order = true) (hall : linesDrivenB Gen.kindPrefixes net order = true) :
    let ops := (genOps Gen.kindPrefixes net order false).map OpRow.toOp
    (∀ (env : Nat → V3) (v : Array V3),
      consistentB net (env net.idx.zero) specNot prim8 (fun p => env (net.idx.ppi + p)) v = true →
      ∀ l, l < net.lines.size → v.getD l (env net.idx.zero) = exec semL8 ops env l) ∧
    (∀ (env : Nat → V2) (v : Array V2),
      consistentB net (env net.idx.zero) spec4Not prim4 (fun p => env (net.idx.ppi + p)) v = true →
      ∀ l, l < net.lines.size → v.getD l (env net.idx.zero) = exec semL4 ops env l) := by
  intro ops
  refine ⟨fun env v hc l hl => ?_, fun env v hc l hl => ?_⟩
  · rw [sim8_eq_spec ops (KV.genOps_known net order false) env l]
    exact consistentB_unique net order hwf ho hfk hall specL8 specNot prim8 semSpec8 env v hc l hl
  · rw [sim4_eq_spec ops (KV.genOps_known net order false) env l]
    exact consistentB_unique net order hwf ho hfk hall specL4 spec4Not prim4 semSpec4 env v hc l hl

/-! ### memory level: what `c_to_s` reads from the output slots

`p = simopsMap …` is the record of the tables the `SimOps` model builds (op rows, `level_starts`, `c_locs`, `c_caps`, `c_len`;
first-fit allocator; equal to the real tables by exact correspondence, C08) for `strip_forks = strip`, `c_reuse = reuse`, the
capacity vector `capsIn` and `c_caps_min = capsMin`; `MapSound.memRun p (rowRW _) …` runs the op rows ON MEMORY (one row per
signal, operands read at `c_locs` of the operand index, result written at `c_locs` of the output index). `h0`: the initial
memory holds the stimulus on the signals no row writes (input slots, constant-0 slot — what `s_to_c` writes). The `i`-th
interface node `n` (`s_nodes` position) captures the line `l` on its input pin 0; its output slot is `ppo + i`. No
per-instance certificate: `C08.simops_map_accepted` is a theorem; `readsDrivenB`: every read or captured line is written by a
row (known cell kinds). BOTH `strip_forks` settings (`forksOKB` when stripping) and both `c_reuse` settings. The record is a
variable `p` with the equation `hp : p = simopsMap …` so that the statements mention the long term once; the proofs `subst` it. -/

/-- (M8) the memory row of every output slot holds the value of the captured line in THE solution of the 8-valued gate
    equations of the (un-stripped) netlist -/
theorem sim8_memory_all_circuits (net : Net) (order : List Nat) (strip : Bool) (capsIn : Nat → Nat) (capsMin : Nat)
    (reuse : Bool) (hwf : net.wfB = true) (ho : orderOKB net order = true)
    (hf : strip = true → forksOKB net order = true) (hr : readsDrivenB Gen.kindPrefixes net order = true)
    (hpos : 0 < capsMin) (p : MapIn) (hp : p = simopsMap Gen.kindPrefixes net order strip capsIn capsMin reuse)
    (m0 : Int → V3) (env0 : Nat → V3)
    (h0 : ∀ x ∈ p.tracked, (∀ o ∈ p.ops, o.out ≠ x) → m0 (p.loc x) = env0 x) (val : Nat → V3)
    (hval : SolvesJ (Jt net) (fun op => specL8 op.code) ((genOps Gen.kindPrefixes net order false).map OpRow.toOp) env0 val)
    (n i l : Nat) (hn : (n, i) ∈ net.sNodes.zipIdx) (hl : (net.node n).inPin 0 = some l) :
    MapSound.memRun p (MapSound.rowRW V3) (fun o => semL8 o.lut) p.ops m0 (p.loc (net.idx.ppo + i)) = val l := by
  subst hp
  rw [simops_mem_value hwf ho hf hr hpos semL8 default
    (fun _ => semL8_buf1) h0 hn hl]
  exact ((sim8_all_circuits net order hwf ho env0).2 val hval l (captured_not_junk hwf hl)).symm

/-- (M4) the same for the 4-valued simulation -/
theorem sim4_memory_all_circuits (net : Net) (order : List Nat) (strip : Bool) (capsIn : Nat → Nat) (capsMin : Nat)
    (reuse : Bool) (hwf : net.wfB = true) (ho : orderOKB net order = true)
    (hf : strip = true → forksOKB net order = true) (hr : readsDrivenB Gen.kindPrefixes net order = true)
    (hpos : 0 < capsMin) (p : MapIn) (hp : p = simopsMap Gen.kindPrefixes net order strip capsIn capsMin reuse)
    (m0 : Int → V2) (env0 : Nat → V2)
    (h0 : ∀ x ∈ p.tracked, (∀ o ∈ p.ops, o.out ≠ x) → m0 (p.loc x) = env0 x) (val : Nat → V2)
    (hval : SolvesJ (Jt net) (fun op => specL4 op.code) ((genOps Gen.kindPrefixes net order false).map OpRow.toOp) env0 val)
    (n i l : Nat) (hn : (n, i) ∈ net.sNodes.zipIdx) (hl : (net.node n).inPin 0 = some l) :
    MapSound.memRun p (MapSound.rowRW V2) (fun o => semL4 o.lut) p.ops m0 (p.loc (net.idx.ppo + i)) = val l := by
  subst hp
  rw [simops_mem_value hwf ho hf hr hpos semL4 default
    (fun _ => semL4_buf1) h0 hn hl]
  exact ((sim4_all_circuits net order hwf ho env0).2 val hval l (captured_not_junk hwf hl)).symm

/-- (MB8) X-soundness of what is captured: the memory row of every output slot after the 8-valued run `⊑` the value of the
    captured line in the Boolean solution of every completion `e2` of the stimulus -/
theorem xsound8_memory_all_circuits (net : Net) (order : List Nat) (strip : Bool) (capsIn : Nat → Nat) (capsMin : Nat)
    (reuse : Bool) (hwf : net.wfB = true) (ho : orderOKB net order = true)
    (hf : strip = true → forksOKB net order = true) (hr : readsDrivenB Gen.kindPrefixes net order = true)
    (hpos : 0 < capsMin) (p : MapIn) (hp : p = simopsMap Gen.kindPrefixes net order strip capsIn capsMin reuse)
    (m0 : Int → V3) (env0 : Nat → V3)
    (h0 : ∀ x ∈ p.tracked, (∀ o ∈ p.ops, o.out ≠ x) → m0 (p.loc x) = env0 x)
    (e2 val2 : Nat → Bool) (h : ∀ x, (env0 x).refines (e2 x))
    (h2 : SolvesJ (Jt net) (fun op => specL2 op.code) ((genOps Gen.kindPrefixes net order false).map OpRow.toOp) e2 val2)
    (n i l : Nat) (hn : (n, i) ∈ net.sNodes.zipIdx) (hl : (net.node n).inPin 0 = some l) :
    (MapSound.memRun p (MapSound.rowRW V3) (fun o => semL8 o.lut) p.ops m0 (p.loc (net.idx.ppo + i))).refines (val2 l) := by
  subst hp
  rw [simops_mem_value hwf ho hf hr hpos semL8 default
    (fun _ => semL8_buf1) h0 hn hl]
  exact xsound8_all_circuits net order hwf ho env0 e2 h val2 h2 l (captured_not_junk hwf hl)

/-- (MB4) the same for the 4-valued run -/
theorem xsound4_memory_all_circuits (net : Net) (order : List Nat) (strip : Bool) (capsIn : Nat → Nat) (capsMin : Nat)
    (reuse : Bool) (hwf : net.wfB = true) (ho : orderOKB net order = true)
    (hf : strip = true → forksOKB net order = true) (hr : readsDrivenB Gen.kindPrefixes net order = true)
    (hpos : 0 < capsMin) (p : MapIn) (hp : p = simopsMap Gen.kindPrefixes net order strip capsIn capsMin reuse)
    (m0 : Int → V2) (env0 : Nat → V2)
    (h0 : ∀ x ∈ p.tracked, (∀ o ∈ p.ops, o.out ≠ x) → m0 (p.loc x) = env0 x)
    (e2 val2 : Nat → Bool) (h : ∀ x, (env0 x).refines (e2 x))
    (h2 : SolvesJ (Jt net) (fun op => specL2 op.code) ((genOps Gen.kindPrefixes net order false).map OpRow.toOp) e2 val2)
    (n i l : Nat) (hn : (n, i) ∈ net.sNodes.zipIdx) (hl : (net.node n).inPin 0 = some l) :
    (MapSound.memRun p (MapSound.rowRW V2) (fun o => semL4 o.lut) p.ops m0 (p.loc (net.idx.ppo + i))).refines (val2 l) := by
  subst hp
  rw [simops_mem_value hwf ho hf hr hpos semL4 default
    (fun _ => semL4_buf1) h0 hn hl]
  exact xsound4_all_circuits net order hwf ho env0 e2 h val2 h2 l (captured_not_junk hwf hl)

/-- (MC) components of what is captured: for a stimulus over the waveform values, the memory row of every output slot is a
    waveform value whose final / initial component is the Boolean solution for the final / initial components -/
theorem components_memory_all_circuits (net : Net) (order : List Nat) (strip : Bool) (capsIn : Nat → Nat) (capsMin : Nat)
    (reuse : Bool) (hwf : net.wfB = true) (ho : orderOKB net order = true)
    (hf : strip = true → forksOKB net order = true) (hr : readsDrivenB Gen.kindPrefixes net order = true)
    (hpos : 0 < capsMin) (p : MapIn) (hp : p = simopsMap Gen.kindPrefixes net order strip capsIn capsMin reuse)
    (m0 : Int → V3) (env0 : Nat → V3)
    (h0 : ∀ x ∈ p.tracked, (∀ o ∈ p.ops, o.out ≠ x) → m0 (p.loc x) = env0 x)
    (hw : ∀ x, (env0 x).isWave = true) (valF valI : Nat → Bool)
    (hF : SolvesJ (Jt net) (fun op => specL2 op.code) ((genOps Gen.kindPrefixes net order false).map OpRow.toOp)
      (fun x => (env0 x).p0) valF)
    (hI : SolvesJ (Jt net) (fun op => specL2 op.code) ((genOps Gen.kindPrefixes net order false).map OpRow.toOp)
      (fun x => (env0 x).p1) valI)
    (n i l : Nat) (hn : (n, i) ∈ net.sNodes.zipIdx) (hl : (net.node n).inPin 0 = some l) :
    (MapSound.memRun p (MapSound.rowRW V3) (fun o => semL8 o.lut) p.ops m0 (p.loc (net.idx.ppo + i))).isWave = true ∧
    (MapSound.memRun p (MapSound.rowRW V3) (fun o => semL8 o.lut) p.ops m0 (p.loc (net.idx.ppo + i))).p0 = valF l ∧
    (MapSound.memRun p (MapSound.rowRW V3) (fun o => semL8 o.lut) p.ops m0 (p.loc (net.idx.ppo + i))).p1 = valI l := by
  subst hp
  rw [simops_mem_value hwf ho hf hr hpos semL8 default
    (fun _ => semL8_buf1) h0 hn hl]
  exact components_all_circuits net order hwf ho env0 hw valF valI hF hI l (captured_not_junk hwf hl)

/-! ### lanes, whole programs (hence every circuit): the bit-parallel simulator on `w` lanes is the per-lane simulator -/

def semLw8 (w : Nat) (code : Nat) (xs : List (P3 (BitVec w))) : P3 (BitVec w) :=
  Gen.sem8 code (arg xs 0 ⟨0, 0, 0⟩) (arg xs 1 ⟨0, 0, 0⟩) (arg xs 2 ⟨0, 0, 0⟩) (arg xs 3 ⟨0, 0, 0⟩)
def semLw4 (w : Nat) (code : Nat) (xs : List (P2 (BitVec w))) : P2 (BitVec w) :=
  Gen.sem4 code (arg xs 0 ⟨0, 0⟩) (arg xs 1 ⟨0, 0⟩) (arg xs 2 ⟨0, 0⟩) (arg xs 3 ⟨0, 0⟩)

theorem semLw8_lane (w k : Nat) (hk : k < w) (code : Nat) (xs : List (P3 (BitVec w))) (ys : List V3)
    (hxy : All2 (fun v b => ((lane w k hk).f3 v).toV3 = b) xs ys) : ((lane w k hk).f3 (semLw8 w code xs)).toV3 = semL8 code ys := by
  have hd : ((lane w k hk).f3 (⟨0, 0, 0⟩ : P3 (BitVec w))).toV3 = (default : V3) := by
    have hz : (0 : BitVec w).getLsbD k = false := by simp
    show (⟨(0 : BitVec w).getLsbD k, (0 : BitVec w).getLsbD k, (0 : BitVec w).getLsbD k⟩ : V3) = _
    rw [hz]; rfl
  refine op_lanes (fun v => ((lane w k hk).f3 v).toV3) ⟨0, 0, 0⟩ default hd (Gen.sem8 code)
    (fun a b c e => (Gen.sem8 code (.ofV3 a) (.ofV3 b) (.ofV3 c) (.ofV3 e)).toV3) (fun a b c e => ?_) xs ys hxy
  show ((lane w k hk).f3 (Gen.sem8 code a b c e)).toV3 = _
  rw [Gen.sem8_hom]
  rfl

theorem semLw4_lane (w k : Nat) (hk : k < w) (code : Nat) (xs : List (P2 (BitVec w))) (ys : List V2)
    (hxy : All2 (fun v b => ((lane w k hk).f2 v).toV2 = b) xs ys) : ((lane w k hk).f2 (semLw4 w code xs)).toV2 = semL4 code ys := by
  have hd : ((lane w k hk).f2 (⟨0, 0⟩ : P2 (BitVec w))).toV2 = (default : V2) := by
    have hz : (0 : BitVec w).getLsbD k = false := by simp
    show (⟨(0 : BitVec w).getLsbD k, (0 : BitVec w).getLsbD k⟩ : V2) = _
    rw [hz]; rfl
  refine op_lanes (fun v => ((lane w k hk).f2 v).toV2) ⟨0, 0⟩ default hd (Gen.sem4 code)
    (fun a b c e => (Gen.sem4 code (.ofV2 a) (.ofV2 b) (.ofV2 c) (.ofV2 e)).toV2) (fun a b c e => ?_) xs ys hxy
  show ((lane w k hk).f2 (Gen.sem4 code a b c e)).toV2 = _
  rw [Gen.sem4_hom]
  rfl

/-- (L8) every program, every lane count `w`, every lane `k < w`, every signal: lane `k` of the bit-parallel 8-valued
    simulation is the per-lane simulation of lane `k` of the stimulus — any batch size, lanes independent, padding lanes
    irrelevant -/
theorem sim8_lanes (w k : Nat) (hk : k < w) (ops : List Op) (env : Nat → P3 (BitVec w)) (l : Nat) :
    ((lane w k hk).f3 (exec (semLw8 w) ops env l)).toV3 =
      exec semL8 ops (fun x => ((lane w k hk).f3 (env x)).toV3) l :=
  exec_rel_on (fun (v : P3 (BitVec w)) (b : V3) => ((lane w k hk).f3 v).toV3 = b) (semLw8 w) semL8 ops
    (fun op _ => semLw8_lane w k hk op.code) env _ (fun _ => rfl) l

/-- (L4) the same for the 4-valued simulation -/
theorem sim4_lanes (w k : Nat) (hk : k < w) (ops : List Op) (env : Nat → P2 (BitVec w)) (l : Nat) :
    ((lane w k hk).f2 (exec (semLw4 w) ops env l)).toV2 =
      exec semL4 ops (fun x => ((lane w k hk).f2 (env x)).toV2) l :=
  exec_rel_on (fun (v : P2 (BitVec w)) (b : V2) => ((lane w k hk).f2 v).toV2 = b) (semLw4 w) semL4 ops
    (fun op _ => semLw4_lane w k hk op.code) env _ (fun _ => rfl) l

/-- (LA) lanes on the netlist: lane `k` of the bit-parallel 8-valued simulation of ANY netlist on ANY number of lanes is
    THE solution of the gate equations for lane `k` of the stimulus -/
theorem sim8_lanes_all_circuits (w k : Nat) (hk : k < w) (net : Net) (order : List Nat) (hwf : net.wfB = true)
    (ho : orderOKB net order = true) (env : Nat → P3 (BitVec w)) (val : Nat → V3)
    (hval : SolvesJ (Jt net) (fun op => specL8 op.code) ((genOps Gen.kindPrefixes net order false).map OpRow.toOp)
      (fun x => ((lane w k hk).f3 (env x)).toV3) val) (x : Nat) (hx : Jt net x = false) :
    ((lane w k hk).f3 (exec (semLw8 w) ((genOps Gen.kindPrefixes net order false).map OpRow.toOp) env x)).toV3 = val x := by
  rw [sim8_lanes]
  exact ((sim8_all_circuits net order hwf ho _).2 val hval x hx).symm

/-- (LA4) the same for the 4-valued simulation -/
theorem sim4_lanes_all_circuits (w k : Nat) (hk : k < w) (net : Net) (order : List Nat) (hwf : net.wfB = true)
    (ho : orderOKB net order = true) (env : Nat → P2 (BitVec w)) (val : Nat → V2)
    (hval : SolvesJ (Jt net) (fun op => specL4 op.code) ((genOps Gen.kindPrefixes net order false).map OpRow.toOp)
      (fun x => ((lane w k hk).f2 (env x)).toV2) val) (x : Nat) (hx : Jt net x = false) :
    ((lane w k hk).f2 (exec (semLw4 w) ((genOps Gen.kindPrefixes net order false).map OpRow.toOp) env x)).toV2 = val x := by
  rw [sim4_lanes]
  exact ((sim4_all_circuits net order hwf ho _).2 val hval x hx).symm

/-! non-vacuity: a reconvergent three-op program over known codes, an unknown input, a 0/1 result -/
def demoOps : List Op := [⟨34952, 10, [0, 1, 9, 9]⟩, ⟨21845, 11, [10, 9, 9, 9]⟩, ⟨61166, 12, [10, 11, 9, 9]⟩]
example : KnownProg demoOps := by
  intro op hop
  simp only [demoOps, List.mem_cons, List.mem_nil_iff, or_false] at hop
  rcases hop with rfl | rfl | rfl
  · exact ⟨"AND2", by decide +kernel⟩
  · exact ⟨"INV1", by decide +kernel⟩
  · exact ⟨"OR2", by decide +kernel⟩
example : exec semL8 demoOps (fun l => if l = 0 then V3.zero else if l = 1 then V3.unknown else V3.zero) 12 = V3.one := by
  decide +kernel

/-! ### non-vacuity of the all-circuits statements (netlists of `Proofs/AllCircDemo.lean` = `C01.demoNet`, `C06.forkNet`) -/

/-- AND2 + INV1: input `a` (slot 9) is 0, input `b` (slot 10) unknown; completions of `b` -/
def demoE8 : Nat → V3 := fun l => if l = 10 then V3.unknown else V3.zero
def demoE2 (b : Bool) : Nat → Bool := fun l => if l = 10 then b else false
theorem demoE_refines (b : Bool) (l : Nat) : (demoE8 l).refines (demoE2 b l) := by
  unfold demoE8 demoE2
  split
  · intro h; cases h
  · intro _; rfl

/-- (A8), (A2) apply to `demoNet`; the solution is not trivial: the AND output (line 4) is 0 although `b` is unknown, the
    inverter output (line 5) is 1 -/
example : exec semL8 ((genOps Gen.kindPrefixes Demo.demoNet Demo.demoOrder false).map OpRow.toOp) demoE8 4 = V3.zero ∧
    exec semL8 ((genOps Gen.kindPrefixes Demo.demoNet Demo.demoOrder false).map OpRow.toOp) demoE8 5 = V3.one ∧
    exec semL8 ((genOps Gen.kindPrefixes Demo.demoNet Demo.demoOrder false).map OpRow.toOp) demoE8 3 = V3.unknown := by
  decide +kernel

/-- (B'), hence (A8), (A2), (B8): every hypothesis is satisfied at once — the solutions are the simulation results — and
    the conclusion is the Boolean value of line 5 for BOTH completions of `b` -/
example (b : Bool) :
    exec semL2n ((genOps Gen.kindPrefixes Demo.demoNet Demo.demoOrder false).map OpRow.toOp) (demoE2 b) 5 = true :=
  const_not_contradicted_all_circuits Demo.demoNet Demo.demoOrder Demo.demo_hyps.1 Demo.demo_hyps.2.1 demoE8 _ (demoE2 b) _
    (demoE_refines b) (sim8_all_circuits Demo.demoNet Demo.demoOrder Demo.demo_hyps.1 Demo.demo_hyps.2.1 demoE8).1
    (sim2_all_circuits Demo.demoNet Demo.demoOrder Demo.demo_hyps.1 Demo.demo_hyps.2.1 (demoE2 b)).1 5 (by decide +kernel)
    true (by decide +kernel)

/-- (B4) on `demoNet` -/
example (b : Bool) :
    (exec semL4 ((genOps Gen.kindPrefixes Demo.demoNet Demo.demoOrder false).map OpRow.toOp)
      (fun l => if l = 10 then ⟨true, false⟩ else ⟨false, false⟩) 5).refines
    (exec semL2n ((genOps Gen.kindPrefixes Demo.demoNet Demo.demoOrder false).map OpRow.toOp) (demoE2 b) 5) :=
  xsound4_all_circuits Demo.demoNet Demo.demoOrder Demo.demo_hyps.1 Demo.demo_hyps.2.1 _ (demoE2 b)
    (fun l => by unfold demoE2; split; (· intro h; cases h); (· intro _; rfl)) _
    (sim2_all_circuits Demo.demoNet Demo.demoOrder Demo.demo_hyps.1 Demo.demo_hyps.2.1 (demoE2 b)).1 5 (by decide +kernel)

/-- (C) on `demoNet`: `a` rises, `b` is 1 — the inverter output falls -/
def demoW8 : Nat → V3 := fun l => if l = 9 then ⟨true, false, true⟩ else if l = 10 then V3.one else V3.zero
theorem demoW8_wave (l : Nat) : (demoW8 l).isWave = true := by
  unfold demoW8; repeat' split
  all_goals rfl
example : exec semL8 ((genOps Gen.kindPrefixes Demo.demoNet Demo.demoOrder false).map OpRow.toOp) demoW8 5 = ⟨false, true, true⟩ := by
  decide +kernel
example := components_all_circuits Demo.demoNet Demo.demoOrder Demo.demo_hyps.1 Demo.demo_hyps.2.1 demoW8 demoW8_wave _ _
  (sim2_all_circuits Demo.demoNet Demo.demoOrder Demo.demo_hyps.1 Demo.demo_hyps.2.1 _).1
  (sim2_all_circuits Demo.demoNet Demo.demoOrder Demo.demo_hyps.1 Demo.demo_hyps.2.1 _).1 5 (by decide +kernel)

/-- `forkNet` (two-branch fork, chained fork): `a` (slot 12) is 1, `b` (slot 13) unknown — the AND output (line 6) is unknown,
    the OR output (line 7) and the captured branch 8 are 1 -/
def forkE8 : Nat → V3 := fun l => if l = 12 then V3.one else if l = 13 then V3.unknown else V3.zero
def forkE2 (b : Bool) : Nat → Bool := fun l => if l = 12 then true else if l = 13 then b else false
theorem forkE_refines (b : Bool) (l : Nat) : (forkE8 l).refines (forkE2 b l) := by
  unfold forkE8 forkE2
  repeat' split
  · intro _; rfl
  · intro h; cases h
  · intro _; rfl

example : exec semL8 ((genOps Gen.kindPrefixes Demo.forkNet Demo.forkOrder false).map OpRow.toOp) forkE8 6 = V3.unknown ∧
    exec semL8 ((genOps Gen.kindPrefixes Demo.forkNet Demo.forkOrder false).map OpRow.toOp) forkE8 8 = V3.one := by
  decide +kernel

/-- (A') applies: the stripped schedule computes the solution on the OR output, line 7 (not a branch) -/
example : exec semL8 ((genOps Gen.kindPrefixes Demo.forkNet Demo.forkOrder true).map
      (fun r => (⟨r.lut, r.out, r.ins.map (viaStem (stemsOf Demo.forkNet true))⟩ : Op))) forkE8 7 =
    exec semL8 ((genOps Gen.kindPrefixes Demo.forkNet Demo.forkOrder false).map OpRow.toOp) forkE8 7 :=
  sim8_all_circuits_stripped Demo.forkNet Demo.forkOrder Demo.fork_hyps.1 Demo.fork_hyps.2.1 Demo.fork_hyps.2.2.1 forkE8 _
    (sim8_all_circuits Demo.forkNet Demo.forkOrder Demo.fork_hyps.1 Demo.fork_hyps.2.1 forkE8).1 7
    (by decide +kernel) (by decide +kernel)

/-- (N8), (NO) on `demoNet`: hypotheses hold; the labelling the specification evaluator `evalAll` computes for the stimulus
    "`a` = 0, `b` unknown" passes `consistentB` and, by (NO), is the simulation result on all six lines -/
example : linesDrivenB Gen.kindPrefixes Demo.demoNet Demo.demoOrder = true ∧
    consistentB Demo.demoNet V3.zero specNot prim8 (fun p => demoE8 (Demo.demoNet.idx.ppi + p))
      (evalAll Demo.demoNet V3.zero specNot prim8 (fun p => demoE8 (Demo.demoNet.idx.ppi + p))) = true ∧
    evalAll Demo.demoNet V3.zero specNot prim8 (fun p => demoE8 (Demo.demoNet.idx.ppi + p)) =
      #[V3.zero, V3.unknown, V3.zero, V3.unknown, V3.zero, V3.one] := by decide +kernel
example (l : Nat) (hl : l < Demo.demoNet.lines.size) :
    (evalAll Demo.demoNet V3.zero specNot prim8 (fun p => demoE8 (Demo.demoNet.idx.ppi + p))).getD l V3.zero =
      exec semL8 ((genOps Gen.kindPrefixes Demo.demoNet Demo.demoOrder false).map OpRow.toOp) demoE8 l :=
  (oracle_labelling_is_simulation Demo.demoNet Demo.demoOrder Demo.demo_hyps.1 Demo.demo_hyps.2.1 Demo.demo_hyps.2.2.1
    (by decide +kernel)).1 demoE8 _ (by decide +kernel) l hl
example := sim8_netlist_all_circuits Demo.forkNet Demo.forkOrder Demo.fork_hyps.1 Demo.fork_hyps.2.1 Demo.fork_hyps.2.2.1 (by decide +kernel) forkE8

/-- memory level with `strip_forks` AND `c_reuse`: the tables of the model for `forkNet` (branches 1, 2, 3 share location 5
    with line 0; lines 4, 5, 7, 8 and the output slot 17 share location 6), an initial memory that holds the stimulus in
    the input slots (locations 3, 4) — hypothesis `h0` holds —, output slot of interface node 8 (position 2, captures 8) -/
def forkMapSR : MapIn := simopsMap Gen.kindPrefixes Demo.forkNet Demo.forkOrder true (fun _ => 1) 1 true
def forkM0 : Int → V3 := fun a => if a = 3 then V3.one else if a = 4 then V3.unknown else V3.zero
theorem forkM0_ok : ∀ x ∈ forkMapSR.tracked, (∀ o ∈ forkMapSR.ops, o.out ≠ x) → forkM0 (forkMapSR.loc x) = forkE8 x := by
  decide +kernel

/-- (M8): the captured value is the solution's value of line 8, a plain 1 -/
example : MapSound.memRun forkMapSR (MapSound.rowRW V3) (fun o => semL8 o.lut) forkMapSR.ops forkM0
    (forkMapSR.loc (Demo.forkNet.idx.ppo + 2)) = V3.one :=
  (sim8_memory_all_circuits Demo.forkNet Demo.forkOrder true (fun _ => 1) 1 true Demo.fork_hyps.1 Demo.fork_hyps.2.1
    (fun _ => Demo.fork_hyps.2.2.1) Demo.fork_hyps.2.2.2 (by decide) forkMapSR rfl forkM0 forkE8 forkM0_ok _
    (sim8_all_circuits Demo.forkNet Demo.forkOrder Demo.fork_hyps.1 Demo.fork_hyps.2.1 forkE8).1 8 2 8
    (by decide +kernel) (by decide +kernel)).trans (by decide +kernel)

/-- (MB8): … and it is not contradicted by the Boolean solution of either completion of `b` -/
example (b : Bool) : (MapSound.memRun forkMapSR (MapSound.rowRW V3) (fun o => semL8 o.lut) forkMapSR.ops forkM0
    (forkMapSR.loc (Demo.forkNet.idx.ppo + 2))).refines
    (exec semL2n ((genOps Gen.kindPrefixes Demo.forkNet Demo.forkOrder false).map OpRow.toOp) (forkE2 b) 8) :=
  xsound8_memory_all_circuits Demo.forkNet Demo.forkOrder true (fun _ => 1) 1 true Demo.fork_hyps.1 Demo.fork_hyps.2.1
    (fun _ => Demo.fork_hyps.2.2.1) Demo.fork_hyps.2.2.2 (by decide) forkMapSR rfl forkM0 forkE8 forkM0_ok (forkE2 b) _
    (forkE_refines b) (sim2_all_circuits Demo.forkNet Demo.forkOrder Demo.fork_hyps.1 Demo.fork_hyps.2.1 (forkE2 b)).1 8 2 8
    (by decide +kernel) (by decide +kernel)

/-- (L8) on two lanes: lane 1 of the AND of `a = (lane0: 1, lane1: 1)` and `b = (lane0: 0, lane1: unknown)` is unknown -/
example : ((lane 2 1 (by decide)).f3 (exec (semLw8 2) demoOps
    (fun l => if l = 0 then ⟨3#2, 3#2, 0#2⟩ else if l = 1 then ⟨2#2, 0#2, 0#2⟩ else ⟨0#2, 0#2, 0#2⟩) 10)).toV3 = V3.unknown := by
  rw [sim8_lanes]; decide +kernel

end KV.C02
