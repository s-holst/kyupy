import KyupyVerif.Proofs.Def
import KyupyVerif.Proofs.DefText
import KyupyVerif.Proofs.DefPartial
/-! # C20 — DEF data is extracted as written, with wildcards and via arrays expanded

**Theorem (this file, for ALL point lists / wires / nets of the model `Model/Def.lean`):**
* `wildcard_prev`, `wildcard_inherits`, `wire_points_resolved`: in the resolved point list of a wire every coordinate is
  the most recent explicit value on its axis (equivalently: an explicit coordinate is kept, a `*` takes the resolved
  value of the previous point); the optional third value is carried unchanged; vias never appear in the list.
* `via_location`: each via entry is placed at the resolved location of the last point before it.
* DOMAIN: the total functions `wirePoints`, `viasD`, `netViasD`, `netWires` seed a `*` in the FIRST point of a
  wire with 0 — the grammar accepts `( * 5 )` there, DEF does not, and the code then puts `None` into the listing or raises
  `TypeError`. The TIED functions are the partial ones (`Wire.wirePoints?`, `Wire.vias?`, `netVias?`, `netWiresR`, `netViasR`,
  Model/Def.lean): defined exactly where the real property returns a listing of integers. Hypothesis `hs : w.startOK = true`
  (decidable: both coordinates of the first point explicit) of `via_location`, `wire_vias`, `via_array_in_wire`,
  `via_plain_in_wire`, `agg_vias`, `wire_points_resolved`, `wire_points_wildcard` puts a theorem inside that domain and its
  conclusion speaks about the partial function; `wire_vias_defined`, `agg_vias` (2nd part), `agg_vias_keys_defined`, `wires_ok_iff`
  cover every other input on which the real property is a listing; `agg_vias_none_iff`, `wires_outcomes` say what else can happen.
  The harness generates first points with `*` (tag `dom-hyp:start-wildcard`) and compares the model's outcome (`!start`) with
  the real one (`None` in the listing / `TypeError`).
* `wires_raises_iff`, `wires_ok_iff`, `wires_listing`, `wires_text_raises_iff`, `vias_ignore_width`: the
  records carry the RAW width token; `DefNet.wires` raises `ValueError` exactly when a LISTED wire (one with a second point) has
  a token `int()` rejects, otherwise lists `int(token)`; `DefNet.vias` never reads the token.
* `via_array`, `via_array_order`, `via_array_in_wire`: `DO n BY m STEP dx dy` at `p` yields exactly
  `{p + (i·dx, j·dy) : i < n, j < m}`, `n·m` entries, orientation `N`, x-major order, pairwise distinct whenever each
  axis with more than one copy has a non-zero step.
* `wire_vias`: the per-type dictionary built by the loop of `DefWire.vias` is the grouping of the ordered via list by
  type (values, key set, keys distinct).
* `agg_wires`, `agg_wires_asis`, `agg_vias` (+ `_keys`, `_append`): the per-layer / per-type lists of a net are the
  concatenation over its wire segments in order; wires without a second point contribute nothing; identical for
  special nets (`width = some _`) and regular nets (`width = none`).
* `asis_eq_spec`: the reading `netWiresAsIs` (see Correspondence) coincides with the demanded one (`netWires`) when every
  listed wire has a width and no `*` (sufficient; the converse is not proved).

**Correspondence (harness/c20.py, sampled):** the model functions evaluated by the compiled driver equal the OUTCOME of the real
`DefWire.vias`, `DefNet.vias` (`Wire.vias?`, `netViasR`), `DefWire.wire_points`, `DefNet.wires` (`Wire.wirePoints?`, `netWiresR`) on
every generated routing description — exact, including dictionary key order, and including the cases where the real property
raises (`ValueError` of kyupy's own `int(width)`: the request carries the raw token, the harness converts nothing) or lists
`None`. The tree under /repo computes the DEMANDED readings (def_file.py:18 `routed = []`, :23 `None` width listed, :42-45 `*`
resolved in `wire_points`). The readings without these three lines (`netWiresAsIs`, `netWiresRaw`, `Wire.wirePointsRaw`: no `routed` attribute without
`+ ROUTED`, a listed wire without width raises, `*` left unresolved) are kept as model switches; which reading the tree under test shows is probed once per run on three hand-made nets and every
case is then compared with exactly that one. The oracle compares with ground truth and reports those readings as violations
(classes `regular-net-wires`, `wildcard-in-wires`, `unrouted-net-wires`).
**Oracle (sampled):** every attribute that `def_file.parse` extracts from a generated DEF text equals the generator's AST
(units, die area, rows, tracks, via definitions, components, pins, net pins/options, raw wire entries), and
`wires`/`vias` equal the generator's ground-truth geometry.
**Theorem, text level** (section `text`, model `KV.DefText` in Model/DefText.lean = the whole grammar of `def_file.py` read as
lark reads it: contextual scanner with the per-state terminal order of the real `Lark` object, string terminals `(` `;` `NEW`
`DO` folded into `ID` and re-typed on a whole match, the merged scanner after every point / orientation / `DO` statement,
ORIENTATION with look-ahead, NUMBER / SIGNED_NUMBER / STRING as their expressions; then `DefFile.ok` = the `int()` calls of
`DefTransformer`): `def_text_roundtrip` — `parseDef (printDef f) = some f` for every valid syntax tree; `def_text_roundtrip_tree`
(grammar alone), `def_text_valid_ok`.  `DefFile.netsRouted` hands the wires of ALL wiring statements of every net (`+ COVER | FIXED |
ROUTED | NOSHIELD`, file order, as `DefNet.routed` of def_file.py:18 holds them) to the routing model above, as `DWire` records with the RAW width
token (total hand-over; `toWire_isSome_iff` says where `int()` of a record would succeed, `wires_text_raises_iff` where the code
actually calls it and raises). `wiring_concat`, `wiring_part`, `wiring_none_lost`, `routed_handover`, `routed_two_statements` are
`simp`/`rfl` unfoldings of the DEFINITION `TNet.wiresT = parts.flatMap …` : they document the model. That the code
hands over every wiring statement is carried by the model definition + the sampled tie `defparse` (generated texts with
1–3 wiring statements, `HANDOVER_TEXTS`, `HANDOVER_AUDIT2`: records AND the outcomes of `wires`/`vias` of every net) + oracle class
`wiring-statements`; text-level link for printer texts: `routed_text` (with `def_text_roundtrip`), for other texts the
kernel-checked instances below (two wiring statements, a bad width token on an unlisted wire, `*` in a first point).
`wiring_last_only_loses` = what keeping only the last `+ ROUTED` statement (`wiresTOld`) loses. `DefWire.kind` is not modelled (attribute oracle only).
**Correspondence, text level (harness/c20.py, sampled):** the model reader (driver `defparse`) against the real lark grammar — parse
tree with ALL tokens kept, every rule and every token text — and the real `def_file.parse` (accept / raise) on generated files,
hand-written corner cases (missing blanks, `(10`, `NEWVIA`, `3;`, escaped strings, comments) and mutated texts; for generated
files also the hand-over: `netsRouted` = the real `DefWire` records of every net (raw width token), `netWiresR` / `netViasR` of them =
the real outcome of `dnet.wires` / `dnet.vias` (tags `tie-hyp:text-net-*`).
**Still trusted:** that lark implements the grammar as the hand-written reader does (LALR tables, `re` semantics) — checked by the
text correspondence, not proved; the transformer's record building (attribute oracle above). -/
namespace KV.C20
open KV.Def

/-! ## wildcards -/

/-- Resolution of a point sequence whose first point is explicit: coordinate `i` on each axis is the value written at the
most recent index `j ≤ i` that is explicit on that axis (every index between `j` and `i` carries `*`).
Holds for every seed location `loc` (the seed is never read because point 0 is explicit). -/
theorem wildcard_prev (loc : Loc) (ps : List RPt) (i : Nat) (hi : i < ps.length)
    (h0x : (ps[0]'(by omega)).x.isSome = true) (h0y : (ps[0]'(by omega)).y.isSome = true) :
    ∃ hr : i < (resolveFrom loc ps).length,
      (∃ j, ∃ hj : j < ps.length, j ≤ i ∧ ps[j].x = some ((resolveFrom loc ps)[i]).1 ∧
          ∀ k, ∀ hk : k < ps.length, j < k → k ≤ i → ps[k].x = none) ∧
      (∃ j, ∃ hj : j < ps.length, j ≤ i ∧ ps[j].y = some ((resolveFrom loc ps)[i]).2 ∧
          ∀ k, ∀ hk : k < ps.length, j < k → k ≤ i → ps[k].y = none) := by
  have hr : i < (resolveFrom loc ps).length := by rw [length_resolveFrom]; exact hi
  refine ⟨hr, ?_, ?_⟩
  · rcases resolve_prev (·.x) (·.1) (fun _ _ => rfl) loc ps i hi hr with h | ⟨hall, _⟩
    · exact h
    · have := hall 0 (by omega) (by omega); rw [this] at h0x; simp at h0x
  · rcases resolve_prev (·.y) (·.2) (fun _ _ => rfl) loc ps i hi hr with h | ⟨hall, _⟩
    · exact h
    · have := hall 0 (by omega) (by omega); rw [this] at h0y; simp at h0y

/-- local form ("a `*` inherits the previous point's value"): point `i+1` keeps its explicit coordinates and takes the
resolved coordinates of point `i` where it has `*` -/
theorem wildcard_inherits (loc : Loc) (ps : List RPt) (i : Nat) (h1 : i + 1 < ps.length) :
    ∃ (hr0 : i < (resolveFrom loc ps).length) (hr1 : i + 1 < (resolveFrom loc ps).length),
      ((resolveFrom loc ps)[i + 1]).1 = (ps[i + 1].x).getD ((resolveFrom loc ps)[i]).1 ∧
      ((resolveFrom loc ps)[i + 1]).2 = (ps[i + 1].y).getD ((resolveFrom loc ps)[i]).2 := by
  have hr0 : i < (resolveFrom loc ps).length := by rw [length_resolveFrom]; omega
  have hr1 : i + 1 < (resolveFrom loc ps).length := by rw [length_resolveFrom]; omega
  refine ⟨hr0, hr1, ?_⟩
  rw [resolve_succ loc ps i h1 hr0 hr1]
  exact ⟨rfl, rfl⟩

/-- `wirePoints` (what `DefNet.wires` must list) is the resolution of `wirePointsRaw` (what `DefWire.wire_points` holds):
same length, resolved coordinates, third value unchanged; the list is the first point followed by the later *points*
(via entries skipped), or empty when there is no later point.  Guard: the listing `wirePoints` is what the real
`DefWire.wire_points` returns (`wirePoints?`, the tied function) whenever the first point is explicit; the only other case is a
listed wire whose first point carries `*` — there the real listing starts with a `None` coordinate (`wirePoints? = none`). -/
theorem wire_points_resolved (w : Wire) :
    w.wirePointsRaw = (if (ptsOf w.rest).isEmpty then [] else w.start :: ptsOf w.rest) ∧
    w.wirePoints.length = w.wirePointsRaw.length ∧
    (∀ i, ∀ hi : i < w.wirePointsRaw.length, ∃ (h1 : i < w.wirePoints.length)
        (h2 : i < (resolveFrom (0, 0) w.wirePointsRaw).length),
      w.wirePoints[i] = ⟨((resolveFrom (0, 0) w.wirePointsRaw)[i]).1, ((resolveFrom (0, 0) w.wirePointsRaw)[i]).2,
                          (w.wirePointsRaw[i]).ext⟩) ∧
    (w.startOK = true → w.wirePoints? = some w.wirePoints) ∧
    (w.wirePoints? = none ↔ w.wirePointsRaw.isEmpty = false ∧ w.startOK = false) := by
  have hl : w.wirePoints.length = w.wirePointsRaw.length :=
    length_attachExt _ _ (length_resolveFrom _ _)
  refine ⟨rfl, hl, fun i hi => ?_, fun hs => ?_, ?_⟩
  · have h2 : i < (resolveFrom (0, 0) w.wirePointsRaw).length := by rw [length_resolveFrom]; exact hi
    exact ⟨by rw [hl]; exact hi, h2, getElem_attachExt _ _ i h2 hi _⟩
  · unfold Wire.wirePoints?
    split
    · rename_i he
      have : w.wirePoints = [] := by
        have h0 : w.wirePoints.length = 0 := by rw [hl]; simpa using he
        exact List.eq_nil_of_length_eq_zero h0
      rw [this]
    · rfl
  · unfold Wire.wirePoints?
    cases w.wirePointsRaw.isEmpty <;> cases w.startOK <;> simp

/-- the two statements combined, on the wire listing itself: for a wire whose first point is explicit, coordinate `i` of
`wirePoints` is the most recent explicit value on that axis in `wirePointsRaw` -/
theorem wire_points_wildcard (w : Wire) (hs : w.startOK = true) (i : Nat) (hi : i < w.wirePointsRaw.length) :
    ∃ h1 : i < w.wirePoints.length,
      (∃ j, ∃ hj : j < w.wirePointsRaw.length, j ≤ i ∧ (w.wirePointsRaw[j]).x = some (w.wirePoints[i]).x ∧
          ∀ k, ∀ hk : k < w.wirePointsRaw.length, j < k → k ≤ i → (w.wirePointsRaw[k]).x = none) ∧
      (∃ j, ∃ hj : j < w.wirePointsRaw.length, j ≤ i ∧ (w.wirePointsRaw[j]).y = some (w.wirePoints[i]).y ∧
          ∀ k, ∀ hk : k < w.wirePointsRaw.length, j < k → k ≤ i → (w.wirePointsRaw[k]).y = none) ∧
      (w.wirePoints[i]).ext = (w.wirePointsRaw[i]).ext := by
  obtain ⟨_, _, hres, _⟩ := wire_points_resolved w
  obtain ⟨h1, h2, he⟩ := hres i hi
  have h0 : w.wirePointsRaw[0]'(by omega) = w.start := by
    have : w.wirePointsRaw = w.start :: ptsOf w.rest := by
      unfold Wire.wirePointsRaw at hi ⊢
      split
      · rename_i h; simp [h] at hi
      · rfl
    simp [this]
  simp only [Wire.startOK, Bool.and_eq_true] at hs
  obtain ⟨_, hx, hy⟩ := wildcard_prev (0, 0) w.wirePointsRaw i hi (by rw [h0]; exact hs.1) (by rw [h0]; exact hs.2)
  refine ⟨h1, ?_, ?_, ?_⟩
  · rw [he]; exact hx
  · rw [he]; exact hy
  · rw [he]

/-! ## vias -/

/-- resolved location of the last point of `start :: points(pre)` (the list is never empty; the default is not used) -/
def lastLoc (w : Wire) (pre : List Item) : Loc :=
  ((resolveFrom (0, 0) (w.start :: ptsOf pre)).getLast?).getD (0, 0)

theorem lastLoc_eq (w : Wire) (pre : List Item) : lastLoc w pre = endLoc w.loc0 pre :=
  (endLoc_eq_last (0, 0) (.pt w.start :: pre)).symm

/-- A via entry `it` that follows the entries `pre` is placed at the resolved location of the last point of
`start :: points(pre)`; everything before and after it is unaffected.  `hs` (first point explicit) is sufficient for the
real `DefWire.vias` to be a listing of integers (`Wire.vias?`, the tied function) — then it is `viasD`, the grouping of `viasFlat`. -/
theorem via_location (w : Wire) (hs : w.startOK = true) (pre post : List Item) (it : Item) (hw : w.rest = pre ++ it :: post) :
    w.vias? = some w.viasD ∧ (∀ t, w.viasD.get t = selectKey t w.viasFlat) ∧
    w.viasFlat = viasFlat w.loc0 pre ++ emit (lastLoc w pre) it ++ viasFlat (endLoc (lastLoc w pre) [it]) post := by
  refine ⟨vias?_of_startOK w hs, viasD_get w, ?_⟩
  rw [Wire.viasFlat, hw, viasFlat_append, viasFlat_cons, lastLoc_eq, List.append_assoc]

/-- `DO n BY m STEP dx dy` at `p`: exactly the positions `p + (i·dx, j·dy)`, `i < n`, `j < m`, all with orientation `N`;
`n·m` entries; pairwise distinct when every axis that is repeated has a non-zero step -/
theorem via_array (p : Loc) (n m : Nat) (dx dy : Int) :
    (∀ v, v ∈ arrayAt p n m dx dy ↔
        ∃ i j : Nat, i < n ∧ j < m ∧ v = (p.1 + (i : Int) * dx, p.2 + (j : Int) * dy, "N")) ∧
    (arrayAt p n m dx dy).length = n * m ∧
    ((n ≤ 1 ∨ dx ≠ 0) → (m ≤ 1 ∨ dy ≠ 0) → (arrayAt p n m dx dy).Nodup) :=
  ⟨mem_arrayAt p n m dx dy, length_arrayAt p n m dx dy, nodup_arrayAt p n m dx dy⟩

/-- the order the code produces: x index outer, y index inner -/
theorem via_array_order (p : Loc) (n m : Nat) (dx dy : Int) (i j : Nat) (hi : i < n) (hj : j < m) :
    ∃ h : i * m + j < (arrayAt p n m dx dy).length,
      (arrayAt p n m dx dy)[i * m + j] = (p.1 + (i : Int) * dx, p.2 + (j : Int) * dy, "N") := by
  have h : i * m + j < (arrayAt p n m dx dy).length := by
    rw [length_arrayAt]
    calc i * m + j < i * m + m := by omega
      _ = (i + 1) * m := by rw [Nat.succ_mul]
      _ ≤ n * m := Nat.mul_le_mul_right _ hi
  exact ⟨h, getElem_arrayAt p n m dx dy i j hi hj h⟩

/-- the dictionary returned by `DefWire.vias`: per type the ordered sub-list of the wire's vias, keys = types that occur,
no key twice -/
theorem wire_vias (w : Wire) (hs : w.startOK = true) :
    ∃ d, w.vias? = some d ∧
    (∀ t, d.get t = selectKey t w.viasFlat) ∧
    (∀ t, t ∈ d.keys ↔ ∃ e ∈ w.viasFlat, e.1 = t) ∧
    d.keys.Nodup :=
  ⟨w.viasD, vias?_of_startOK w hs, viasD_get w, mem_viasD_keys w, viasD_keys_nodup w⟩

/-- without the guard: WHEREVER the real `DefWire.vias` is a listing of integers (`vias? = some d`; e.g. a `*` in the first point
that is overwritten before the first via) it is the total model's dictionary: the value and the distinct-keys clauses hold of it -/
theorem wire_vias_defined (w : Wire) (d : Dict ViaLoc) (h : w.vias? = some d) :
    d = w.viasD ∧ (∀ t, d.get t = selectKey t w.viasFlat) ∧ d.keys.Nodup := by
  have := vias?_eq_viasD w d h
  subst this
  exact ⟨rfl, viasD_get w, viasD_keys_nodup w⟩

/-- a via array inside a wire: under its type the wire lists what came before, then the `n·m` expanded positions at the
resolved location of the last point, then what comes after -/
theorem via_array_in_wire (w : Wire) (hs : w.startOK = true) (pre post : List Item) (name : String) (n m : Nat) (dx dy : Int)
    (hw : w.rest = pre ++ Item.arr name n m dx dy :: post) :
    ∃ d, w.vias? = some d ∧
    d.get name = selectKey name (viasFlat w.loc0 pre) ++ arrayAt (lastLoc w pre) n m dx dy ++
      selectKey name (viasFlat (lastLoc w pre) post) := by
  refine ⟨w.viasD, vias?_of_startOK w hs, ?_⟩
  rw [viasD_get, (via_location w hs pre post _ hw).2.2, selectKey_append, selectKey_append, selectKey_emit]
  simp [endLoc]

/-- plain vias: `(x, y, orient)` at the current location; no orientation given (special nets) reads `N` -/
theorem via_plain_in_wire (w : Wire) (hs : w.startOK = true) (pre post : List Item) (name : String) (o : Option String)
    (hw : w.rest = pre ++ Item.via name o :: post) :
    ∃ d, w.vias? = some d ∧
    d.get name = selectKey name (viasFlat w.loc0 pre) ++ [((lastLoc w pre).1, (lastLoc w pre).2, orientOf o)] ++
      selectKey name (viasFlat (lastLoc w pre) post) := by
  refine ⟨w.viasD, vias?_of_startOK w hs, ?_⟩
  rw [viasD_get, (via_location w hs pre post _ hw).2.2, selectKey_append, selectKey_append, selectKey_emit]
  simp [endLoc]

/-! ## per-net aggregation -/

/-- `DefNet.wires` (demanded reading): under each layer, the `(width, points)` pairs of the wire segments on that layer that
have at least two points, in segment order -/
theorem agg_wires (ws : List Wire) (layer : String) :
    (netWires ws).get layer =
      ws.flatMap (fun w => if w.layer = layer ∧ ¬ w.wirePoints.isEmpty then [(w.width, w.wirePoints)] else []) :=
  get_netWiresD Wire.wirePoints ws layer

theorem agg_wires_keys (ws : List Wire) :
    (∀ k, k ∈ (netWires ws).keys ↔ ∃ w ∈ ws, w.layer = k ∧ ¬ w.wirePoints.isEmpty) ∧ (netWires ws).keys.Nodup :=
  keys_netWiresD Wire.wirePoints ws

/-- the same for the reading `netWiresAsIs`, whenever it does not raise -/
theorem agg_wires_asis (ws : List Wire) (d : Dict (Option Nat × List RPt)) (h : netWiresAsIs (some ws) = .ok d)
    (layer : String) :
    d.get layer =
      ws.flatMap (fun w => if w.layer = layer ∧ ¬ w.wirePointsRaw.isEmpty then [(w.width, w.wirePointsRaw)] else []) := by
  simp only [netWiresAsIs] at h
  split at h
  · cases h
  · cases h
    exact get_netWiresD Wire.wirePointsRaw ws layer

/-- concatenation over segments in order (both for special nets, `width = some _`, and regular nets, `width = none`) -/
theorem agg_wires_append (a b : List Wire) (layer : String) :
    (netWires (a ++ b)).get layer = (netWires a).get layer ++ (netWires b).get layer := by
  simp [agg_wires]

/-- the total model `netViasD` (seed `(0,0)` for a `*` in a first point — NOT the code there, see `agg_vias`): under each via type
the concatenation, in segment order, of what each segment lists under that type -/
theorem agg_vias_total (ws : List Wire) (t : String) :
    (netViasD ws).get t = ws.flatMap (fun w => w.viasD.get t) ∧
    (netViasD ws).get t = ws.flatMap (fun w => selectKey t w.viasFlat) := by
  refine ⟨get_netViasD ws t, ?_⟩
  rw [get_netViasD]; congr 1; funext w; exact viasD_get w t

/-- `DefNet.vias` (the tied partial function `netVias?`): for a net whose wires all start with an explicit point the real property
is a listing of integers, and under each via type it is the concatenation, in segment order, of what each segment lists under
that type.  Second part: WHEREVER the real property is such a listing (`netVias? ws = some d`) the same holds. -/
theorem agg_vias (ws : List Wire) (t : String) :
    ((∀ w ∈ ws, w.startOK = true) → netVias? ws = some (netViasD ws)) ∧
    (∀ d, netVias? ws = some d →
      d.get t = ws.flatMap (fun w => w.viasD.get t) ∧ d.get t = ws.flatMap (fun w => selectKey t w.viasFlat)) := by
  refine ⟨netVias?_of_startOK ws, fun d h => ?_⟩
  rw [netVias?_eq ws d h]
  exact agg_vias_total ws t

/-- where it is not: some wire's own `vias` is not a listing of integers (`None` in a tuple / `TypeError`) -/
theorem agg_vias_none_iff (ws : List Wire) : netVias? ws = none ↔ ∃ w ∈ ws, w.vias? = none := by
  rw [netVias?_eq_ite]; split <;> simp_all [Option.isSome_iff_ne_none]

theorem agg_vias_keys (ws : List Wire) :
    (∀ k, k ∈ (netViasD ws).keys ↔ ∃ w ∈ ws, ∃ e ∈ w.viasFlat, e.1 = k) ∧ (netViasD ws).keys.Nodup := by
  refine ⟨fun k => ?_, (keys_netViasD ws).2⟩
  simp only [(keys_netViasD ws).1, mem_viasD_keys]

theorem agg_vias_append (a b : List Wire) (t : String) :
    (netViasD (a ++ b)).get t = (netViasD a).get t ++ (netViasD b).get t := by
  simp [(agg_vias_total _ t).1]

theorem agg_vias_keys_defined (ws : List Wire) (d : Dict ViaLoc) (h : netVias? ws = some d) :
    (∀ k, k ∈ d.keys ↔ ∃ w ∈ ws, ∃ e ∈ w.viasFlat, e.1 = k) ∧ d.keys.Nodup := by
  rw [netVias?_eq ws d h]; exact agg_vias_keys ws

/-! ## the real properties on the raw `DefWire` records (width token unconverted)

`netWiresR` / `netViasR` (Model/Def.lean) are the tied functions for `DefNet.wires` / `DefNet.vias`. -/

/-- `DefNet.wires` raises `ValueError` exactly when a LISTED wire (one with a second point) has a width token `int()` rejects:
a bad token on a wire without second point is never converted -/
theorem wires_raises_iff (ws : List DWire) :
    netWiresR ws = .error "value" ↔ ∃ w ∈ ws, w.listed = true ∧ w.widthVal = none := by
  rw [netWiresR_eq]
  split
  · split <;> simp_all [Option.isSome_iff_ne_none]
  · simp_all [Option.isSome_iff_ne_none]

/-- `DefNet.wires` returns a listing of integers exactly when every listed wire has a width `int()` accepts (or none: regular
net) and an explicit first point; the listing is then the demanded one (`netWires`, to which `agg_wires`, `agg_wires_keys`,
`agg_wires_append`, `wire_points_wildcard` apply) of the converted records; unlisted wires with a bad token simply drop out -/
theorem wires_ok_iff (ws : List DWire) (d : Dict (Option Nat × List Pt3)) :
    netWiresR ws = .ok d ↔
      (∀ w ∈ ws, w.listed = true → w.widthVal.isSome = true ∧ w.geom.startOK = true) ∧
      d = netWires (ws.filterMap DWire.conv) := netWiresR_ok_iff ws d

/-- the only other outcome: it returns, but the listing contains `None` (a listed wire starts with `*`) -/
theorem wires_outcomes (ws : List DWire) :
    (∃ d, netWiresR ws = .ok d) ∨ netWiresR ws = .error "value" ∨ netWiresR ws = .error "start" := by
  rw [netWiresR_eq]
  split
  · split <;> simp
  · simp

/-- the per-layer listing stated on the raw records directly -/
theorem wires_listing (ws : List DWire) (d : Dict (Option Nat × List Pt3)) (h : netWiresR ws = .ok d) (layer : String) :
    d.get layer = ws.flatMap (fun w => if w.layer = layer ∧ w.listed = true
                                        then [(w.widthVal.getD none, w.geom.wirePoints)] else []) := by
  obtain ⟨hall, rfl⟩ := (netWiresR_ok_iff ws d).1 h
  -- `agg_wires` of the converted records, pushed through `filterMap conv` wire by wire
  rw [agg_wires, flatMap_filterMap, List.flatMap_def, List.flatMap_def]
  refine congrArg List.flatten (List.map_congr_left fun w hm => ?_)
  have hlist : w.geom.wirePoints.isEmpty = !w.listed := by rw [isEmpty_wirePoints]; simp [DWire.listed]
  cases hv : w.widthVal with
  | none =>
    have hl : w.listed = false := by have := hall w hm; cases hl : w.listed <;> simp_all
    simp [DWire.conv, hv, hl]
  | some wd =>
    simp only [DWire.conv, hv, Option.map_some, Option.getD_some, wirePoints_geom, hlist]
    cases w.listed <;> simp

/-- `DefNet.vias` never reads the width: replacing the width tokens by anything changes nothing; it is total on nets whose
wires start with an explicit point, whatever the tokens -/
theorem vias_ignore_width (ws : List DWire) (f : DWire → Option String) :
    netViasR (ws.map fun w => { w with width := f w }) = netViasR ws ∧
    ((∀ w ∈ ws, w.geom.startOK = true) → netViasR ws = some (netViasD (ws.map DWire.geom))) := by
  constructor
  · simp only [netViasR, List.map_map]; rfl
  · intro hs
    exact netVias?_of_startOK _ (by simpa using hs)

/-! ## the reading `netWiresAsIs` vs. the demanded one -/

def RPt.explicit (p : RPt) : Bool := p.x.isSome && p.y.isSome
def liftPt (p : Pt3) : RPt := ⟨some p.x, some p.y, p.ext⟩

theorem resolve_explicit (loc : Loc) (ps : List RPt) (h : ps.all RPt.explicit = true) :
    (attachExt (resolveFrom loc ps) ps).map liftPt = ps := by
  induction ps generalizing loc with
  | nil => rfl
  | cons p ps ih =>
    simp only [List.all_cons, Bool.and_eq_true] at h
    obtain ⟨hp, hps⟩ := h
    obtain ⟨x, y, e⟩ := p
    simp only [RPt.explicit, Bool.and_eq_true, Option.isSome_iff_exists] at hp
    obtain ⟨⟨vx, rfl⟩, ⟨vy, rfl⟩⟩ := hp
    simp [resolveFrom, attachExt, liftPt, RPt.onto, ih _ hps]

/-- If every wire of a routed net has a width and no `*`, the reading `netWiresAsIs` returns exactly the demanded listing.
Together with the definition of `netWiresAsIs` (error `"attr"` without `+ ROUTED`, error `"type"` for a listed wire without width,
`*` left as `none`) this says the observed defects are the only deviations. -/
theorem asis_eq_spec (ws : List Wire)
    (hw : ws.all (fun w => w.width.isSome) = true)
    (hp : ws.all (fun w => w.wirePointsRaw.all RPt.explicit) = true) :
    netWiresAsIs (some ws) =
      .ok ((netWires ws).map fun kv => (kv.1, kv.2.map fun e => (e.1, e.2.map liftPt))) := by
  have hany : ws.any (fun w => !w.wirePointsRaw.isEmpty && w.width.isNone) = false := by
    rw [List.any_eq_false]; intro w hmem
    have := List.all_eq_true.1 hw w hmem
    cases hwd : w.width <;> simp_all
  simp only [netWiresAsIs, hany, Bool.false_eq_true, if_false]
  congr 1
  rw [netWires, ← netWiresD_map, netWiresD_eq, netWiresD_eq]
  refine congrArg (Dict.extendAll []) ?_
  rw [List.flatMap_def, List.flatMap_def]
  refine congrArg List.flatten (List.map_congr_left fun w hm => ?_)
  have : w.wirePoints.map liftPt = w.wirePointsRaw := resolve_explicit (0, 0) _ (List.all_eq_true.1 hp w hm)
  rw [this]

/-! ## non-vacuity: concrete objects satisfying the hypotheses / exercising every clause -/

/-- special-net wire `( 10 20 ) ( 100 * ) via1 ( * 300 7 ) via1 DO 2 BY 3 STEP 10 -20 ( * * )` -/
def exWire : Wire :=
  { layer := "metal1", width := some 480, start := ⟨some 10, some 20, none⟩,
    rest := [.pt ⟨some 100, none, none⟩, .via "via1" none, .pt ⟨none, some 300, some 7⟩,
             .arr "via1" 2 3 10 (-20), .pt ⟨none, none, none⟩] }
/-- regular-net wire `( 5 5 ) v2 FS` (no second point: not listed in `wires`, but its via is) -/
def exWire2 : Wire :=
  { layer := "metal2", width := none, start := ⟨some 5, some 5, none⟩, rest := [.via "v2" (some "FS")] }

example : exWire.startOK = true := by decide
example : exWire.wirePointsRaw.length = 4 := by decide
example : exWire.wirePoints = [⟨10, 20, none⟩, ⟨100, 20, none⟩, ⟨100, 300, some 7⟩, ⟨100, 300, none⟩] := by decide
example : exWire.viasD = [("via1", [(100, 20, "N"), (100, 300, "N"), (100, 280, "N"), (100, 260, "N"),
                                    (110, 300, "N"), (110, 280, "N"), (110, 260, "N")])] := by decide +kernel
example : (arrayAt (100, 300) 2 3 10 (-20)).Nodup ∧ (arrayAt (100, 300) 2 3 10 (-20)).length = 6 :=
  ⟨(via_array _ 2 3 10 (-20)).2.2 (Or.inr (by decide)) (Or.inr (by decide)), (via_array _ 2 3 10 (-20)).2.1⟩
/-- the usual one-dimensional array `DO 4 BY 1 STEP 100 0` is covered by the distinctness clause -/
example : (arrayAt (0, 0) 4 1 100 0).Nodup :=
  (via_array _ 4 1 100 0).2.2 (Or.inr (by decide)) (Or.inl (by decide))
/-- … and the hypothesis is needed: a repeated axis with step 0 does produce duplicates -/
example : ¬ (arrayAt (0, 0) 2 1 0 0).Nodup := by decide +kernel
example : exWire.rest = [.pt ⟨some 100, none, none⟩, .via "via1" none, .pt ⟨none, some 300, some 7⟩] ++
    Item.arr "via1" 2 3 10 (-20) :: [.pt ⟨none, none, none⟩] := by decide
example : lastLoc exWire [.pt ⟨some 100, none, none⟩, .via "via1" none, .pt ⟨none, some 300, some 7⟩] = (100, 300) := by
  decide +kernel
example : netWires [exWire, exWire2, { exWire with width := some 100 }] =
    [("metal1", [(some 480, exWire.wirePoints), (some 100, exWire.wirePoints)])] := by decide +kernel
example : netViasD [exWire2, exWire, exWire2] =
    [("v2", [(5, 5, "FS"), (5, 5, "FS")]), ("via1", exWire.viasD.get "via1")] := by decide +kernel
/-- the reading `netWiresAsIs`: `*` survives as `none`; a listed regular-net wire raises; no `+ ROUTED` raises -/
example : netWiresAsIs (some [exWire]) = .ok [("metal1", [(some 480,
    [⟨some 10, some 20, none⟩, ⟨some 100, none, none⟩, ⟨none, some 300, some 7⟩, ⟨none, none, none⟩])])] := by decide +kernel
example : netWiresAsIs (some [{ exWire with width := none }]) = .error "type" := by decide +kernel
example : netWiresAsIs (some [exWire2]) = .ok [] := by decide +kernel
example : netWiresAsIs none = .error "attr" := by decide
/-- hypotheses of `asis_eq_spec` are satisfiable by a two-segment net -/
def exPlain : Wire :=
  { layer := "m3", width := some 50, start := ⟨some 1, some 1, none⟩, rest := [.pt ⟨some 2, some 2, some 4⟩, .via "v" none] }
example : [exPlain, exPlain].all (fun w => w.width.isSome) = true ∧
    [exPlain, exPlain].all (fun w => w.wirePointsRaw.all RPt.explicit) = true := by decide

/-! ## text level: the grammar of `def_file.py` (Model/DefText.lean) -/
section text
open KV.DefText
set_option synthInstance.maxSize 4096   -- `Decidable` of the nested listing types in the examples (section-local)
set_option synthInstance.maxHeartbeats 200000

/-- Print/parse round trip of the DEF text model: for every syntax tree `f` of the grammar (head comment, VERSION /
DIVIDERCHAR / BUSBITCHARS, DESIGN with UNITS, DIEAREA, ROW, TRACKS, PROPERTYDEFINITIONS, VIAS, NONDEFAULTRULES,
COMPONENTS, PINS, PINPROPERTIES, SPECIALNETS, NETS incl. all wiring forms) whose tokens are tokens of the grammar
(`DefFile.valid`: names without white space that the scanner does not read as something else at their place, unsigned /
signed integers, plain strings, option keywords of their statement, no pin directly after wiring), reading the
canonical text (every token preceded by a blank) gives back exactly `f` — through the scanner with lark's per-state
terminal order and its folding of `(`, `;`, `NEW`, `DO` into `ID`, the reader for the grammar, and the transformer's
raise conditions (`DefFile.ok`). -/
theorem def_text_roundtrip (f : DefFile) (h : f.valid = true) : parseDef (printDef f) = some f := by
  simp [parseDef, printDef, String.toList_ofList, parseDefL_print f h]

/-- the same at the grammar level alone (what lark's parse tree contains, no transformer) -/
theorem def_text_roundtrip_tree (f : DefFile) (h : f.valid = true) : parseTree (printDefL f) = some f :=
  parseTree_print f h

/-- a valid tree never makes the transformer raise -/
theorem def_text_valid_ok (f : DefFile) (h : f.valid = true) : f.ok = true := DefFile.ok_of_valid f h

private def t (s : String) : Txt := s.toList
private def pt (x y : Option String) (e : Option String := none) : TPoint := ⟨x.map t, y.map t, e.map t⟩

/-- a file with every statement kind: special and regular nets, wildcards, a third point value, a via array with signed
steps, orientations, TAPER / TAPERRULE / STYLE, several wires per statement, a net without parts -/
def exText : DefFile :=
  { head := some (t "# generated"),
    stmts := [.version (t "5.8"), .dividerchar (t "\"/\""), .busbitchars (t "\"[]\""),
      .design (t "top") [
        .units (t "DISTANCE") (t "MICRONS") (t "1000"),
        .diearea [pt (some "0") (some "0"), pt (some "100") (some "200")],
        .row (t "ROW_1") (t "core") (t "0") (t "0") (t "N") ⟨t "10", t "1", t "380", t "0"⟩,
        .tracks (t "X") (t "190") (t "20") (t "380") (t "metal1"),
        .propdef [(t "foo", t "STRING")],
        .vias (t "1") [⟨t "via1_0", [⟨.Viarule, [t "r"]⟩, ⟨.Cutsize, [t "1", t "2"]⟩, ⟨.Layers, [t "a", t "b", t "c"]⟩,
          ⟨.Enclosure, [t "1", t "2", t "3", t "4"]⟩]⟩],
        .nondef (t "1") [(t "rule1", [.hard, .layer (t "m1") (t "10") (t "20"), .via (t "v1")])],
        .comps (t "1") [⟨t "u1", t "NAND2_X1", pt (some "10") (some "20"), t "FS"⟩],
        .pins (t "1") [⟨t "io1", [.word .Net (t "n1"), .flag .Special, .word .Direction (t "INPUT"),
          .layer (t "m1") (pt (some "0") (some "0")) (pt (some "1") (some "1")), .flag .Port,
          .placed (pt (some "5") (some "5")) (t "N")]⟩],
        .pinprop (t "1") [(t "io1", t "foo", t "\"b c\"")],
        .spnets (t "1") [⟨t "VDD", [.pin (t "*") (t "VDD"), .opt .Use (t "POWER"),
            .wiring .Routed [⟨t "metal1", some (t "100"), [(true, t "RING"), (false, t "1")], .none, none, pt (some "0") (some "0"),
               [.via (t "via1_0") none, .arr (t "via1_0") ⟨t "2", t "3", t "+10", t "-20"⟩, .pt (pt none (some "50") (some "7"))]⟩,
              ⟨t "metal2", some (t "5"), [], .none, none, pt (some "1") (some "1"), [.via (t "v2") none]⟩]]⟩],
        .nets (t "2") [⟨t "n1", [.pin (t "u1") (t "A"), .pin (t "PIN") (t "io1"),
            .wiring .Routed [⟨t "metal1", none, [], .taper, some (t "2"), pt (some "0") (some "0"),
               [.pt (pt (some "5") none), .via (t "via1_0") (some (t "FS")), .via (t "v3") none, .via (t "v4") none, .pt (pt none none)]⟩,
              ⟨t "metal2", none, [], .rule (t "r1"), none, pt (some "1") (some "1"), [.via (t "v2") none]⟩],
            .opt .Use (t "SIGNAL"),
            .wiring .Noshield [⟨t "m3", none, [], .none, some (t "0"), pt (some "1") (some "1"), [.via (t "v2") (some (t "N"))]⟩]]⟩,
          ⟨t "n2", []⟩]]] }

theorem exText_valid : exText.valid = true := by decide +kernel
example : exText.valid = true := exText_valid
example : parseDef (printDef exText) = some exText := def_text_roundtrip exText exText_valid

/-! ### hand-over to the routing model: every wiring statement of a net, in file order -/

/-- the wires handed over are those of ALL wiring statements (`+ COVER | FIXED | ROUTED | NOSHIELD`), statement after
statement in file order: the collection distributes over the parts of the net statement … -/
theorem wiring_concat (name : Txt) (p q : List NetPart) :
    TNet.wiresT ⟨name, p ++ q⟩ = TNet.wiresT ⟨name, p⟩ ++ TNet.wiresT ⟨name, q⟩ := by
  simp [TNet.wiresT]

/-- … a wiring statement contributes exactly its wires, pins and options contribute nothing … -/
theorem wiring_part (name : Txt) (k : Kw) (ws : List TWire) (a b v : Txt) (ko : Kw) :
    TNet.wiresT ⟨name, [.wiring k ws]⟩ = ws ∧ TNet.wiresT ⟨name, [.pin a b]⟩ = [] ∧ TNet.wiresT ⟨name, [.opt ko v]⟩ = [] := by
  simp [TNet.wiresT]

/-- … so no wire of any wiring statement is lost: around the statement `+ k ws` the list is (wires before) ++ ws ++ (wires after) -/
theorem wiring_none_lost (name : Txt) (p q : List NetPart) (k : Kw) (ws : List TWire) :
    TNet.wiresT ⟨name, p ++ .wiring k ws :: q⟩ = TNet.wiresT ⟨name, p⟩ ++ ws ++ TNet.wiresT ⟨name, q⟩ := by
  simp [TNet.wiresT]

/-- The hand-over `toWire` is total and carries the RAW width token. `int(width)` of THIS record (`DWire.conv`, `DWire.widthVal`)
succeeds exactly when the token, if any, is plain digits — and then gives `natOf` of it, never a made-up number. Whether the
real code ever evaluates it is a different matter: `DefNet.wires` does so only for LISTED wires (`wires_text_raises_iff`),
`DefNet.vias` never (`vias_ignore_width`). -/
theorem toWire_isSome_iff (sp : Bool) (w : TWire) :
    ((w.toWire sp).conv.isSome = true ↔ ∀ t, w.width = some t → intOK t = true) ∧
    (w.toWire sp).widthVal = (match w.width with
      | none => some none
      | some t => if intOK t then some (some (natOf t)) else none) := by
  refine ⟨?_, toWire_widthVal sp w⟩
  simp only [KV.Def.DWire.conv, Option.isSome_map, toWire_widthVal]
  cases hw : w.width with
  | none => simp
  | some t => by_cases h : intOK t = true <;> simp [h]

/-- text level of `wires_raises_iff`: `DefNet.wires` of a parsed net raises `ValueError` exactly when one of its wires — of any
wiring statement — has a second point AND a width token that is not plain digits -/
theorem wires_text_raises_iff (sp : Bool) (n : TNet) :
    netWiresR (n.routed sp) = .error "value" ↔
      ∃ w ∈ n.wiresT, (w.toWire sp).listed = true ∧ ∃ t, w.width = some t ∧ intOK t = false := by
  rw [wires_raises_iff]
  have key : ∀ w : TWire, (w.toWire sp).widthVal = none ↔ ∃ t, w.width = some t ∧ intOK t = false := by
    intro w
    rw [toWire_widthVal]
    cases hw : w.width with
    | none => simp
    | some t => cases h : intOK t <;> simp
  constructor
  · rintro ⟨dw, hm, hl, hv⟩
    simp only [TNet.routed, List.mem_map] at hm
    obtain ⟨w, hmw, rfl⟩ := hm
    exact ⟨w, hmw, hl, (key w).1 hv⟩
  · rintro ⟨w, hm, hl, ht⟩
    exact ⟨w.toWire sp, by simp only [TNet.routed, List.mem_map]; exact ⟨w, hm, rfl⟩, hl, (key w).2 ht⟩

/-- `dnet.routed` as the routing model receives it (always — no width token can prevent it): one record per wire of every
wiring statement, in order (index-aligned with `wiresT`), each the record of its wire -/
theorem routed_handover (sp : Bool) (n : TNet) :
    (n.routed sp).length = n.wiresT.length ∧
    ∀ i (hi : i < n.wiresT.length), (n.routed sp)[i]? = some ((n.wiresT[i]).toWire sp) := by
  unfold TNet.routed
  refine ⟨by simp, fun i hi => ?_⟩
  simp [List.getElem?_map, List.getElem?_eq_getElem hi]

/-- … hence the per-layer / per-type listings of the net are those of the concatenation (with `agg_wires_append`,
`agg_vias_append`): for two wiring statements the listing of the net is built from the wires of the first followed by the
wires of the second. -/
theorem routed_two_statements (sp : Bool) (name : Txt) (k1 k2 : Kw) (ws1 ws2 : List TWire) :
    TNet.routed sp ⟨name, [.wiring k1 ws1, .wiring k2 ws2]⟩ =
      TNet.routed sp ⟨name, [.wiring k1 ws1]⟩ ++ TNet.routed sp ⟨name, [.wiring k2 ws2]⟩ := by
  simp [TNet.routed, TNet.wiresT]

/-- the text-level link: reading the canonical text of a valid tree hands over exactly the records of the tree — so what
`wiring_*` / `routed_*` say about the tree is said about the parse of its text (`def_text_roundtrip`).  For texts the printer
does not produce the link is the sampled tie `defparse` (and the kernel-checked instances below). -/
theorem routed_text (f : DefFile) (h : f.valid = true) :
    (parseDef (printDef f)).map DefFile.netsRouted = some f.netsRouted := by
  rw [def_text_roundtrip f h]; rfl

/-- keeping only the last `+ ROUTED` statement (`wiresTOld`) loses wires: in `+ ROUTED m1 .. + ROUTED m2 ..` the m1 segment
is gone, and a `+ FIXED` statement is never listed -/
theorem wiring_last_only_loses :
    let w1 : TWire := ⟨t "m1", some (t "100"), [], .none, none, pt (some "0") (some "0"), [.pt (pt (some "50") none)]⟩
    let w2 : TWire := ⟨t "m2", some (t "100"), [], .none, none, pt (some "0") (some "0"), [.pt (pt none (some "70"))]⟩
    TNet.wiresTOld ⟨t "VDD", [.wiring .Routed [w1], .wiring .Routed [w2]]⟩ = [w2]
    ∧ TNet.wiresT ⟨t "VDD", [.wiring .Routed [w1], .wiring .Routed [w2]]⟩ = [w1, w2]
    ∧ TNet.wiresTOld ⟨t "VDD", [.wiring .Fixed [w1]]⟩ = []
    ∧ TNet.wiresT ⟨t "VDD", [.wiring .Fixed [w1]]⟩ = [w1] := by decide +kernel

/-- `parseDef` of a string literal without decoding it: a literal is `String.ofList` of its characters, and evaluating `toList` on it
in the kernel (UTF-8 decoding of the byte array) costs time quadratic in its length -/
theorem parseDef_ofList (l : List Char) : parseDef (String.ofList l) = parseDefL l := by rw [parseDef, String.toList_ofList]

/-- outcome of `DefNet.wires` (type ascription helper for the examples) -/
abbrev WRes := Res (Dict (Option Nat × List Pt3))
def WRes.ok (d : Dict (Option Nat × List Pt3)) : WRes := Res.ok d
def WRes.error (e : String) : WRes := Res.error e

/-- `int("1.5")` raises in `DefNet.wires` (the wire is listed): `ValueError`, no made-up width;
`15` is converted -/
example : netWiresR [TWire.toWire true ⟨t "m1", some (t "1.5"), [], .none, none, pt (some "0") (some "0"), [.pt (pt (some "50") none)]⟩]
      = WRes.error "value"
    ∧ netWiresR [TWire.toWire true ⟨t "m1", some (t "15"), [], .none, none, pt (some "0") (some "0"), [.pt (pt (some "50") none)]⟩]
      = WRes.ok [("m1", [(some 15, [⟨0, 0, none⟩, ⟨50, 0, none⟩])])] := by decide +kernel

/-- from the TEXT: the width `1.5` sits on a wire without second point, so the real
`wires` AND `vias` return data (ran the real code: `{'m2': [(7, [(1,1),(2,1)])]}`, `{'v1': [(0,0,'N')], 'v2': [(2,1,'N'),(5,1,'N')]}`)
— and so does the model -/
example : (parseDef "DESIGN t ; SPECIALNETS 1 ; - VDD + ROUTED m1 1.5 ( 0 0 ) v1 NEW m2 7 ( 1 1 ) ( 2 * ) v2 DO 2 BY 1 STEP 3 0 ; END SPECIALNETS END DESIGN").map
      (fun f => f.netsRouted.map fun r => (netWiresR r.2.2, netViasR r.2.2))
    = some [(WRes.ok [("m2", [(some 7, [⟨1, 1, none⟩, ⟨2, 1, none⟩])])],
             some [("v1", [(0, 0, "N")]), ("v2", [(2, 1, "N"), (5, 1, "N")])])] := by
  rw [parseDef_ofList]
  decide +kernel

/-- two wiring statements in the TEXT read by the text model: both wire lists, in file
order; a `*` in a first point (`( * 5 )`, accepted by the grammar, not DEF): outside the domain of `vias` (`None` in the tuple) -/
example : (parseDef "DESIGN t ; SPECIALNETS 1 ; - VDD + ROUTED m1 100 ( 0 0 ) ( 50 * ) + FIXED m2 100 ( 0 0 ) ( * 70 ) v1 ; END SPECIALNETS END DESIGN").map
      (fun f => f.netsRouted.map fun r => (netWiresR r.2.2, netViasR r.2.2))
    = some [(WRes.ok [("m1", [(some 100, [⟨0, 0, none⟩, ⟨50, 0, none⟩])]), ("m2", [(some 100, [⟨0, 0, none⟩, ⟨0, 70, none⟩])])],
             some [("v1", [(0, 70, "N")])])]
  ∧ (parseDef "DESIGN t ; SPECIALNETS 1 ; - VDD + ROUTED m1 100 ( * 5 ) v1 ; END SPECIALNETS END DESIGN").map
      (fun f => f.netsRouted.map fun r => (netWiresR r.2.2, netViasR r.2.2)) = some [(WRes.ok [], none)]
  ∧ (parseDef "DESIGN t ; SPECIALNETS 1 ; - VDD + ROUTED m1 100 ( * 5 ) ( 7 * ) v1 ; END SPECIALNETS END DESIGN").map
      (fun f => f.netsRouted.map fun r => (netWiresR r.2.2, netViasR r.2.2))
    = some [(WRes.error "start", some [("v1", [(7, 5, "N")])])] := by
  refine ⟨?_, ?_, ?_⟩
  all_goals
    rw [parseDef_ofList]
    decide +kernel

/-- regular net `n1` of `exText` (`+ ROUTED` with two wires, `+ USE`, `+ NOSHIELD` with one wire): all three wires are
handed over in file order, and what the routing theorems above say about them (`*` resolved, third value carried, vias at
the last point; the via `v2` of the NOSHIELD wire is listed behind that of the ROUTED wire) -/
def exRouted : Option (List DWire) := (exText.netsRouted.find? (·.2.1 == t "n1")).map (·.2.2)
example : exRouted.map (·.map (·.layer)) = some ["metal1", "metal2", "m3"]
    ∧ exRouted.map (fun ws => (ws.headD default).geom.wirePoints.map (fun p => (p.x, p.y))) = some [(0, 0), (5, 0), (5, 0)]
    ∧ exRouted.map netViasR
      = some (some [("via1_0", [(5, 0, "FS")]), ("v3", [(5, 0, "N")]), ("v4", [(5, 0, "N")]), ("v2", [(1, 1, "N"), (1, 1, "N")])]) := by
  decide +kernel

/-- the reader on texts the printer does not produce: no blank before `;` after a NUMBER, a comment, `(10` after a point
is a via name (`(` is folded into `ID`), `NEWVIA` is a name, an orientation needs white space behind it -/
example : parseDef "DESIGN t ; VIAS 1; END VIAS # c\nEND DESIGN" = some ⟨none, [.design (t "t") [.vias (t "1") []]]⟩ := by
  rw [parseDef_ofList]
  decide +kernel
example : parseDef "DESIGN t ; NETS 1 ; - n + ROUTED m1 ( 0 0 ) (10 NEWVIA N ; END NETS END DESIGN"
    = some ⟨none, [.design (t "t") [.nets (t "1") [⟨t "n", [.wiring .Routed
        [⟨t "m1", none, [], .none, none, pt (some "0") (some "0"), [.via (t "(10") none, .via (t "NEWVIA") (some (t "N"))]⟩]]⟩]]]⟩ := by
  rw [parseDef_ofList]
  decide +kernel
example : parseDef "DESIGN t ; NETS 1 ; - n + ROUTED m1 ( 0 0 ) v N; END NETS END DESIGN" = none := by
  rw [parseDef_ofList]
  decide +kernel
/-- `int("1.5")` raises in the transformer; the grammar accepts the text -/
example : parseDef "DESIGN t ; UNITS DISTANCE MICRONS 1.5 ; END DESIGN" = none
    ∧ (parseTree "DESIGN t ; UNITS DISTANCE MICRONS 1.5 ; END DESIGN".toList).isSome = true := by
  rw [parseDef_ofList, String.toList_ofList]
  decide +kernel
end text

end KV.C20
