import KyupyVerif.Props.C01
import KyupyVerif.Props.C02
import KyupyVerif.Props.C04
import KyupyVerif.Props.C03
import KyupyVerif.Proofs.WaveStrip
import KyupyVerif.Props.C13
import KyupyVerif.Proofs.LevelMem
/-! # C06 — results do not depend on performance options, lane position or code path

What is theorem here:
* lanes / batch size / restriction to the first k lanes (LogicSim): the bit-parallel simulator is lane-wise for
  every lane count, so lane `k` of a run depends only on lane `k` of the stimulus (`lane_independent2` for a whole 2-valued
  run; `lane_independent4/8` say it of ONE operator, the whole 4- and 8-valued runs are `C02.sim4_lanes` / `C02.sim8_lanes`);
* memory reuse: under a liveness-separation certificate memory-level execution equals signal-level execution,
  which does not mention the map: `reuse_irrelevant_logic` (two accepted maps for the same rows — reuse off / on —
  leave the same values in every output slot; from the soundness theorem of the map certificate, C08; the certificate is
  evaluated on the real tables of every instance) and the abstract form `reuse_irrelevant` = `mem_refines`;
* code paths of 2-valued propagation agree for every program over known op codes (`paths_agree`);
* delay data-set selection: `WaveIO.selectDataset` models `_wave_eval` lines 165-176 per lane (modes 0 and 1 with
  bounds; `none` = index out of range, empty table, mode ≥ 2 — outside), tied to the code by the driver command `wio-dataset`
  (the index the real `_wave_eval` applies to `delays`, per lane, mixed modes, out-of-range values); `select_mode0/1`,
  `select_in_bounds`; connected to the propagation through `cfgSel`: `dataset_lane` (lane `k` of a run with per-lane configurations =
  lane `k` of the run with `cfg k` alone), `dataset_lane_select` (… = the run with the data set `selectDataset` gives for lane `k`),
  `dataset_alone` (mode 0 on all lanes: the whole run is the run with data set `seed`);
* WaveSim lanes (model `cpuCProp` of `Model/WaveIO.lean`, EVERY evaluator function): `cprop_lane_position` (lane `j` of `k` lanes =
  lane `j'` of `k'` lanes when the two lanes start equal and are evaluated alike), `cprop_first_k` (`c_prop(sims=k)` = the first `k`
  lanes of the full run), `cprop_lane_permutation`;
* WaveSim memory reuse: `wave_reuse_irrelevant` (corollary of `C03.wave_memory_sound`: two accepted maps for the same rows and
  capacities, any contract-honouring runs in any level-respecting orders, leave the same waveform in every output slot).
* fork stripping of the timing simulator (WaveSim, `strip_forks`), in the waveform model `Wave.simWave`:
  - gate level `buf0_identity`: a buffer (LUT `BUF1`) whose operand line has zero delay copies a strictly
    increasing operand waveform exactly — entries, terminator (an overflow marker is passed on), activity
    counts — whenever the waveform and its terminator fit the output capacity (`length + 1 ≤ cap`); the bound is
    sharp: `buf0_overflow` (otherwise the terminator is `tovl` and entries are lost);
  - program level `strip_equiv`: for every op program with fork rows (certificate `stripOkB`, evaluated on the
    real rows) the stripped program `stripOps` (fork rows dropped, readers take the stem as value source and keep
    the branch as delay line — the eight-index rows of `opDelays`) computes the same waveform on every signal that
    is not a removed branch, provided every stem waveform of the UN-STRIPPED run is strictly increasing and fits
    the branch capacity (`ForkIn`) and the lines read by forks have zero delay;
  - `strip_equiv_polind`: the run-time hypothesis follows from checkable ones — polarity-independent delays
    (⇒ all waveforms strictly increasing, `C04.mono_timestamps`), capacity of a stem ≤ capacity of its branches;
  - `zero_delay_buffer_not_identity`: without monotonicity the gate-level statement is FALSE (the proved reason
    for known finding D13: polarity-dependent delays can produce a non-monotone stem waveform).
* fork stripping for ALL circuits — the link between the scheduler model and the program transformation, for every
  netlist whose pin tables and line records refer to each other (`Net.wfB`), every topological order (`orderOKB`) and
  `forksOKB` (every node scheduled as a fork has kind exactly `__fork__`, nothing on input pins 1–3, and reads a line listed
  on its driver's output pin or is an undriven interface node):
  - `stems_characterised`: what the `stems` array of `SimOps` (`stemsOf net true`) holds, chained forks included
    (`stemWalk` ends, within the fuel `SimOps` uses, at the first driver that is not a driven fork; it stands earlier);
  - `genOps_strip_link`: the rows scheduled with `strip_forks=True`, as eight-index rows (value sources = operands
    resolved through the stems, delay lines = the operands), ARE `stripOps` of the rows scheduled with
    `strip_forks=False`, and the un-stripped rows carry the certificate `stripOkB` for `stemList net` — the structural
    hypothesis of `strip_equiv(_polind)` holds for all circuits; `genOps_strip_rows` (stripped rows = un-stripped rows
    minus the branch writers), `genOps_strip_link_sig` (the same in terms of `MapSound.sigOp`, for C08);
  - `strip_irrelevant_logic` (LogicSim): for any value domain and op semantics in which `BUF1` returns its first operand
    (`buf1_first_operand`: the generated 2-, 4-, 8-valued dispatchers do), signal-level execution of the stripped and
    of the un-stripped schedule agree on every non-branch signal and branch(un-stripped) = stem(stripped);
    instances `strip_irrelevant_logic2/4/8`; `strip_irrelevant_logic_mem`: composed with the soundness of the map certificate
    (C08) — two accepted map records, one of the un-stripped and one of the stripped simulator, leave the same value in every
    output slot after memory-level execution (LogicSim storage, model rows);
  - `strip_equiv_all_circuits` (WaveSim): `strip_equiv_polind` with the structural hypotheses proved and the numeric ones
    stated on the netlist (zero delay on lines read by forks, capacity of that line ≤ capacity of each branch, …);
    `strip_equiv_all_circuits_run` likewise from `strip_equiv` (run-time hypothesis `ForkIn`);
  - `forksOKB` cannot be dropped: `badForkNet` (a node of kind `__FORK__` is scheduled as a fork but gets no stems:
    with `strip_forks=True` its rows vanish and its readers are not redirected — reproduced on the real code).
* CPU vs GPU-kernel code path of the timing simulator (section "code paths"; models `Model/WaveIO.lean`, state kept lane by lane
  because every array access of the modelled functions has the lane as last index):
  - `s_to_c`: `assign_thresholds` (the CPU tests `!= 0`, the kernel `>= 0.5`: they agree iff the value is 0 or ≥ 1/2),
    `assign_cells_agree` (same flags ⇒ the same three raw cells at offsets 0, 1, 2, closed form; no other cell is written by
    either path), `read_stale_irrelevant` (reading a region stops at the first cell ≥ TMAX: stale cells behind it are
    irrelevant), `assign_paths_agree` (one (s_node, lane) item, ANY previous contents of the two memories: same waveform read
    back, raw cells 0–2 equal, cells ≥ 3 keep the old — stale — content), `assign_reads_stimulus` (= `Wave.stimWave`, the
    stimulus of the waveform model), `s_to_c_gpu_lane` (what the launch does, no hypotheses), `s_to_c_paths_agree` (whole
    array `c`, every block shape; hypotheses: disjoint (P)PI regions, values 0 or ≥ 1/2); state elements without connected
    outputs (`c_locs = -1`, `orphanTab`) are skipped by both paths (`pippi_s_locs` lists only rows with (P)PI memory; a store through the −1
    would hit `c[-1]`, `c[0]`, `c[1]`: known finding D31);
  - `s_ppo_to_ppi`: `ppo_to_ppi_rows` (exactly which rows each path transfers, no hypotheses), `ppo_to_ppi_paths_agree` (equal
    when the rows with both slots are the state-element rows), `ppo_to_ppi_keeps_domain`; `inoutTab`: the hypothesis is needed;
  - propagation: `eval_thread_eq` (kernel thread = guarded CPU loop body, for EVERY evaluator function — both paths call the
    same `_wave_eval`), `level_paths_agree` (a kernel launch = `level_eval_cpu` on all of `c` and `abuf`, every block shape, no
    independence assumption: the launcher keeps the op order inside a lane), `c_prop_paths_agree` (induction over the levels),
    `level_any_thread_order` (every permutation of the threads of a level, under footprint independence of its ops; accumulation
    commutes) with the instance `level_any_thread_order_wave` for the evaluator `evWave` built from `Wave.waveSem` (equal accumulators and equal memory OUTSIDE the scratch regions, under footprint conditions modulo scratch that follow from the map certificate — `C07.level_threads_any_order`; the whole-memory form under `opsIndepB`, false for two scratch writers in a level, is `level_any_thread_order_wave_exact`);
    `eval_reads_back` (one `evWave` evaluation: the output region reads back as `Wave.waveSem` of the operand waveforms read
    from memory, counts = `Wave.waveCounts`, nothing outside the output region changes);
  - capture (`sd = 0`): `capture_paths_agree` (index loop = slice scan = `captureWv` of the waveform the region encodes, i.e. the
    model of C13), `c_to_s_paths_agree` (same rows, same records);
  - `simulate_paths_agree`: `s_to_c; c_prop; c_to_s` of `WaveSimCuda` = of `WaveSim` on all arrays.
What is correspondence (harness/pathtie.py, clause `path-tie`): the models of BOTH paths of `s_to_c`, `s_ppo_to_ppi`, of the capture
scan and of the whole `c_to_s` (`cpuCToS` / `gpuCToS`, driver `wio-ctos`: captured records of every row and lane on random raw memory)
against the real `WaveSim` / `WaveSimCuda` (kernels under `MockCuda`, random block shapes): raw arrays equal cell by cell,
on random tables (incl. `c_locs = -1` rows), values off {0, 1}, random previous memory contents; the table hypotheses of
the whole-array theorems (`regionsDisjointB`, `flagsOKB`, `transferRowsB`, `stateRowsCapturedB`, `capsPositiveB`) are evaluated BY THE
DRIVER (`wio-hyp`) on the real tables and the real `s` and, where they hold, the two real arrays must be equal.
Also tied: a whole `c_prop` — clause `path-tie-cprop`, driver `wio-cprop` runs `cpuCProp` / `gpuCProp
(evWave cfgSel loc)` with `accAdd` on the raw memory, `ops` (incl. the accumulation columns), `level_starts/stops`, `c_locs`, `c_caps`, all
delay data sets and `simctl_int` of real objects of both classes (objects with a history, `c_prop(sims=k)`, mixed per-lane modes, zero /
negative weights): the waveform every region READS AS and every accumulator of every lane are equal (cells behind a terminator are not
compared — the real evaluator leaves popped entries there, the instance `evWave` leaves them unchanged), lanes `≥ k` untouched; the two real
paths are compared on the same cases as an oracle (class `config-code-path-cprop`). The kernel
launch is tied in C07 (`grid`), `_wave_eval` in C03 (gate calls and whole runs of both classes), accumulation in C13.
Not covered by a theorem: that the shared Python function `_wave_eval` is a function of the lane's memory with footprints inside
the regions of its op (it is the parameter `ev` of the propagation theorems; its waveform-level model `Wave.waveEval` is tied by
C03); the raw cells `_wave_eval` leaves behind the terminator of its output (the instance `evWave` leaves them unchanged);
`sd > 0` (the two capture paths seed the sampling
differently: `c_loc` vs `2 y`); NaN / infinite values in `s`.
What is correspondence (harness/c06.py, clause `wave-strip`): `genOps`, `stemsOf` = the real `ops` / `c_locs` (C01, exact);
per case additionally: the real un-stripped rows satisfy `stripOkB` for the real branch ↦ stem map (read off `c_locs`),
`stripOps` of the real un-stripped rows equals the real stripped rows, `Net.wfB` / `orderOKB` / `forksOKB` hold for the real
circuit and the real topological order and `stemList` of the model equals the real branch ↦ stem map (driver command
`forkcert`); the numeric hypotheses (zero delay on fork inputs, capacities, polarity independence, monotone stems of the real
un-stripped run) are evaluated per case and, when they hold, the two real runs must agree on every non-branch waveform.
Memory-level execution (the stripped rows read the stem's memory through `c_locs`): `C03.wave_memory_sound`,
`C03.wave_sim_end_to_end_all_circuits` with `strip = true`, `C03.cprop_memory_sound` for the code-path model; for LogicSim
`strip_irrelevant_logic_mem`.
What is oracle only (harness/c06.py): LogicSim fork stripping on the real code (the theorem `strip_irrelevant_logic` is about
the model), whole CPU vs mock-GPU runs on the same simulator objects incl. a second assignment after a first one (the path
theorems above are about the models), WaveSim lanes / `c_prop(sims=k)` / data sets / reuse ON THE REAL CODE (the theorems
`cprop_first_k`, `cprop_lane_permutation`, `dataset_lane_select`, `wave_reuse_irrelevant` are about the models), fork stripping with
non-monotone stems (known finding D13). -/
namespace KV.C06
open KV KV.Sig KV.Wave

theorem lane_independent2 (w k : Nat) (hk : k < w) (ops : List Op) (env : Nat → BitVec w) (l : Nat) :
    (exec (C01.semLw w) ops env l).getLsbD k = exec semL2n ops (fun x => (env x).getLsbD k) l :=
  C01.sim2_lanes w k hk ops env l

theorem lane_independent8 (w k : Nat) (hk : k < w) (code : Nat) (a b c d : P3 (BitVec w)) :
    (lane w k hk).f3 (Gen.sem8 code a b c d) =
      Gen.sem8 code ((lane w k hk).f3 a) ((lane w k hk).f3 b) ((lane w k hk).f3 c) ((lane w k hk).f3 d) :=
  Gen.sem8_hom _ code a b c d

theorem lane_independent4 (w k : Nat) (hk : k < w) (code : Nat) (a b c d : P2 (BitVec w)) :
    (lane w k hk).f2 (Gen.sem4 code a b c d) =
      Gen.sem4 code ((lane w k hk).f2 a) ((lane w k hk).f2 b) ((lane w k hk).f2 c) ((lane w k hk).f2 d) :=
  Gen.sem4_hom _ code a b c d

/-- permuting lanes permutes results; padding lanes and the number of allocated lanes are irrelevant: two runs
    with (possibly different) lane counts agree on lane k/k' whenever their stimuli agree there -/
theorem lane_position_irrelevant (w w' k k' : Nat) (hk : k < w) (hk' : k' < w') (ops : List Op)
    (env : Nat → BitVec w) (env' : Nat → BitVec w') (h : ∀ x, (env x).getLsbD k = (env' x).getLsbD k') (l : Nat) :
    (exec (C01.semLw w) ops env l).getLsbD k = (exec (C01.semLw w') ops env' l).getLsbD k' := by
  rw [lane_independent2 w k hk, lane_independent2 w' k' hk']
  congr 1; funext x; exact h x

theorem paths_agree (ops : List Op) (hk : KnownProg ops) (env : Nat → Bool) (l : Nat) :
    exec semL2n ops env l = exec semL2p ops env l ∧ exec semL2p ops env l = exec semL2c ops env l := by
  obtain ⟨h1, h2, h3⟩ := C01.sim2_paths ops hk env l
  exact ⟨h1.trans h2.symm, h2.trans h3.symm⟩

open KV.WaveIO (selectDataset)

theorem select_mode0 (nsets seed s0 : Nat) (h : 1 < nsets) (hs : seed < nsets) : selectDataset nsets 0 seed s0 = some seed := by
  simp [selectDataset, hs]; omega
theorem select_mode1 (nsets seed s0 : Nat) (h : 1 < nsets) (hs : s0 < nsets) : selectDataset nsets 1 seed s0 = some s0 := by
  simp [selectDataset, hs]; omega
/-- a selected index is in bounds -/
theorem select_in_bounds (nsets mode seed s0 d : Nat) (h : selectDataset nsets mode seed s0 = some d) : d < nsets := by
  unfold selectDataset at h
  repeat' split at h
  all_goals first | (cases h; done) | (cases h; omega)
example : selectDataset 3 0 17 0 = none ∧ selectDataset 3 2 1 1 = none ∧ selectDataset 3 1 17 2 = some 2 ∧ selectDataset 1 1 17 9 = some 0 := by decide

/-- memory reuse: under a liveness-separation certificate the memory-level result at every live signal is the
    signal-level result — which does not depend on the map (see `C08.mem_refines`) -/
theorem reuse_irrelevant {α C : Type} (L : MemRef.Layout α C) (c : MemRef.Cert L)
    (levels : List (List (MemRef.Op α))) (k : Nat) (m : MemRef.Mem C) (env : Nat → α)
    (h : ∀ j (hj : j < levels.length), let ops := levels[j]
        (∀ o ∈ ops, c.dfn o.out = k + j ∧ ∀ i ∈ o.ins, c.dfn i < k + j ∧ k + j ≤ c.last i) ∧
        (ops.map (·.out)).Nodup ∧ (∀ x, c.dfn x = k + j → x ∈ ops.map (·.out)))
    (h0 : MemRef.I L c k m env) :
    MemRef.I L c (k + levels.length) (levels.foldl (MemRef.runMem L) m) (levels.foldl MemRef.runSig env) :=
  C08.mem_refines L c levels k m env h h0

/-- memory reuse, concrete: two memory maps for the same circuit, options and op rows (e.g. `c_reuse` off and on, or two
    different allocators) that both pass the map certificate leave the same value in every output slot — each equals
    the signal-level result, which does not mention the map. The tables of the `SimOps` model pass the certificate for every circuit
    (`C08.simops_map_accepted`); on the real tables it is evaluated on every generated case (C08). One-row-per-signal storage (LogicSim), any value domain and op semantics. -/
theorem reuse_irrelevant_logic {α : Type} [Inhabited α] (p1 p2 : MapIn)
    (hnet : p1.net = p2.net) (hstrip : p1.strip = p2.strip) (hops : p1.ops = p2.ops)
    (h1 : p1.check = none) (h2 : p2.check = none) (hp1 : 0 < p1.capsMin) (hp2 : 0 < p2.capsMin)
    (f : Nat → List α → α) (m1 m2 : Int → α) (env0 : Nat → α)
    (h01 : ∀ x ∈ p1.tracked, (∀ o ∈ p1.ops, o.out ≠ x) → m1 (p1.loc x) = env0 x)
    (h02 : ∀ x ∈ p2.tracked, (∀ o ∈ p2.ops, o.out ≠ x) → m2 (p2.loc x) = env0 x) :
    ∀ j s, (j, s) ∈ p1.ppoSrcs →
      MapSound.memRun p1 (MapSound.rowRW α) (fun o => f o.lut) p1.ops m1 (p1.loc j)
        = MapSound.memRun p2 (MapSound.rowRW α) (fun o => f o.lut) p2.ops m2 (p2.loc j) := by
  obtain ⟨net1, strip1, ops1, st1, l1, c1, n1, cm1⟩ := p1
  obtain ⟨net2, strip2, ops2, st2, l2, c2, n2, cm2⟩ := p2
  simp only at hnet hstrip hops
  subst hnet hstrip hops
  intro j s hjs
  rw [C08.map_certificate_sound_logic _ h1 hp1 f m1 env0 h01 j s hjs,
      C08.map_certificate_sound_logic _ h2 hp2 f m2 env0 h02 j s hjs]
  rfl

/-- a zero-delay buffer is NOT the identity on a non-monotone waveform: `[51, 44, 57]` becomes `[57]`
    (the two out-of-order edges cancel). This is why stripping forks changes timing results when a stem
    waveform is non-monotone (possible only with polarity-dependent delays, see `C04.mono_timestamps`). -/
theorem zero_delay_buffer_not_identity :
    (waveEval 0xAAAA (fun _ _ _ => 0) (fun i => if i = 0 then [T.fin 51, T.fin 44, T.fin 57] else []) (fun _ => T.tmax) 16).1
      ≠ [T.fin 51, T.fin 44, T.fin 57] := by decide +kernel


/-! ## fork stripping of the timing simulator -/

/-- **zero-delay buffer = identity on strictly increasing waveforms.**
    Any LUT that is a buffer on operand 0 (`IsBuf`, e.g. `sim.BUF1 = 0xAAAA`), non-negative delays, delay 0 for all
    four polarity combinations of operand 0 (hence pulse-filter threshold 0), capacity ≥ 4 (`c_caps_min`), all
    operand waveforms well formed (finite entries, optional leading `tmin`), operand 0 strictly increasing and
    `length + 1 ≤ capacity` (entries plus terminator fit). Operands 1–3 may be anything well formed.
    Then the produced waveform has exactly the entries of operand 0; its terminator is the largest operand
    terminator (so `tovl` on the operand is passed on); `nrise`/`nfall` are those of the copied waveform. -/
theorem buf0_identity (lut : Nat) (hbuf : IsBuf lut) (D : Delays) (hD : ∀ i p q, 0 ≤ D i p q)
    (hz : ∀ p q, D 0 p q = 0) (ws : Fin 4 → List T) (terms : Fin 4 → T) (zcap : Nat) (hcap : 4 ≤ zcap)
    (hwf : ∀ i, WfRem (ws i)) (hterm : ∀ i, (terms i).isTerm = true)
    (hinc : Incr (ws 0)) (hlen : (ws 0).length + 1 ≤ zcap) :
    waveEval lut D ws terms zcap =
      (ws 0, T.max (T.max (terms 0) (terms 1)) (T.max (terms 2) (terms 3)),
       ((ws 0).length + 1) / 2 - startsHigh (ws 0), (ws 0).length / 2) :=
  waveEval_buf0 ⟨lut, D, terms, zcap, hcap, hD, hterm⟩ hbuf hz ws hwf hinc (show (ws 0).length < zcap by omega)

theorem buf1_isBuf : IsBuf 0xAAAA := isBuf_BUF1

/-- the capacity hypothesis of `buf0_identity` is sharp: under the same hypotheses but `capacity ≤ length` (entries plus
    terminator do not fit) the buffer overflows — the terminator becomes `tovl` and entries are lost -/
theorem buf0_overflow (lut : Nat) (hbuf : IsBuf lut) (D : Delays) (hD : ∀ i p q, 0 ≤ D i p q)
    (hz : ∀ p q, D 0 p q = 0) (ws : Fin 4 → List T) (terms : Fin 4 → T) (zcap : Nat) (hcap : 4 ≤ zcap)
    (hwf : ∀ i, WfRem (ws i)) (hterm : ∀ i, (terms i).isTerm = true)
    (hinc : Incr (ws 0)) (hlen : zcap ≤ (ws 0).length) :
    (waveEval lut D ws terms zcap).2.1 = T.tovl ∧ (waveEval lut D ws terms zcap).1.length < (ws 0).length := by
  have hov := buf0_overflow_run ⟨lut, D, terms, zcap, hcap, hD, hterm⟩ hbuf hz ws hwf hinc hlen
  have h2 := run_zlen lut D terms zcap (totalLen ws) (init lut ws) (init_zlen _ _ _ (by omega))
  unfold waveEval
  simp only [hov, if_true, List.length_reverse, true_and]
  omega

/-- … for instance four transitions into capacity 4: `[1, 2, 3, 4]` becomes `[1, 2]` with the overflow marker -/
example : waveEval 0xAAAA (fun _ _ _ => 0) (fun i => if i = 0 then [T.fin 1, T.fin 2, T.fin 3, T.fin 4] else []) (fun _ => T.tmax) 4
    = ([T.fin 1, T.fin 2], T.tovl, 1, 1) := by decide +kernel

/-- the row form: a `BUF1` row whose operand line has zero delay and whose other operands carry no overflow marker
    (the `zero` slot) returns operand 0 unchanged -/
theorem fork_row_copies (cfg : WCfg) (op : Op) (xs : List Wv) (hd : ∀ l p q, 0 ≤ cfg.delay l p q)
    (hc : 4 ≤ cfg.cap op.out) (hbuf : IsBuf op.code) (hz : ∀ p q, opDelays cfg op 0 p q = 0)
    (hx : ForkIn cfg op xs) : waveSem cfg op xs = slot xs 0 :=
  waveSem_buf0 cfg op xs hd hc hbuf hz hx

/-- non-vacuity of `buf0_identity`: initially-high operand with two transitions, other operands toggling, capacity 4 -/
example : waveEval 0xAAAA (fun i _ _ => if i = 0 then 0 else 3)
    (fun i => if i = 0 then [T.tmin, T.fin 3, T.fin 7] else if i = 1 then [T.fin 2, T.fin 5] else [])
    (fun i => if i = 2 then T.tovl else T.tmax) 4 = ([T.tmin, T.fin 3, T.fin 7], T.tovl, 1, 1) := by
  have h := buf0_identity 0xAAAA buf1_isBuf (fun i _ _ => if i = 0 then 0 else 3) (by intro i p q; split <;> omega)
    (by intro p q; rfl)
    (fun i => if i = 0 then [T.tmin, T.fin 3, T.fin 7] else if i = 1 then [T.fin 2, T.fin 5] else [])
    (fun i => if i = 2 then T.tovl else T.tmax) 4 (by omega)
    (by intro i; simp only [WfRem]; split <;> (try split) <;> simp [T.isFin])
    (by intro i; split <;> rfl)
    (by simp [Incr, T.lt, T.rank])
    (by simp)
  exact h

/-- the same instance by evaluation of the model -/
example : waveEval 0xAAAA (fun i _ _ => if i = 0 then 0 else 3)
    (fun i => if i = 0 then [T.tmin, T.fin 3, T.fin 7] else if i = 1 then [T.fin 2, T.fin 5] else [])
    (fun i => if i = 2 then T.tovl else T.tmax) 4 = ([T.tmin, T.fin 3, T.fin 7], T.tovl, 1, 1) := by decide +kernel

/-- **fork stripping, every program.** `ops` is a program with fork rows for the branch ↦ stem map `st`
    (`stripOkB`: every row has four operands; a row writing a branch `b ↦ s` is `BUF1(b; x, zero, zero, zero)` with `x`
    the stem `s` or an already written branch of `s`; `s`, `x` and `zero` are not written at or after it; every other
    row reads only branches that are already written). Delays ≥ 0, capacities ≥ 4, delay 0 on every line read by
    a fork row. If in the UN-STRIPPED run every fork row's operands are well formed, its stem waveform is strictly
    increasing and fits the branch capacity and the `zero` slot carries terminator `tmax` (`ForkIn`), then the stripped
    program `stripOps st ops` — fork rows dropped, readers redirected to the stem as value source, keeping the branch
    as delay line — yields the same waveform as `ops` on every signal that is not a branch; and what the un-stripped
    run leaves on a branch (where an output port or flip-flop captures it) is what the stripped run leaves on the stem
    (whose memory the branch shares after stripping). -/
theorem strip_equiv (cfg : WCfg) (st : List (Nat × Nat)) (zidx : Nat) (ops : List Op) (env : Nat → Wv)
    (hg : cfg.Good ops) (hs : stripOkB st zidx [] ops = true)
    (hz : ∀ op ∈ ops, (st.lookup op.out).isSome = true → ∀ p q, cfg.delay (op.ins.getD 0 0) p q = 0)
    (hrun : ∀ op ∈ ops, (st.lookup op.out).isSome = true → ForkIn cfg op (op.ins.map (simWave cfg ops env))) :
    (∀ l, st.lookup l = none → simWave cfg (stripOps st ops) env l = simWave cfg ops env l) ∧
    (∀ b s, st.lookup b = some s → (∃ p ∈ ops, p.out = b) →
      simWave cfg (stripOps st ops) env s = simWave cfg ops env b) := by
  have key := strip_wave cfg st zidx ops env hs ?_
  · exact ⟨key.1, fun b s hb hw => (key.2 b s hb hw).symm⟩
  intro pre op post hops hb _ hlen
  subst hops
  obtain ⟨hcode, hins, hfinal⟩ := stripOkB_fork hs hb
  -- operands of the fork row are not written at or after the row: their final value is the value read
  have hfin : ∀ y ∈ op.ins, simWave cfg (pre ++ op :: post) env y = execG (waveSem cfg) pre env y := fun y hy => by
    show execG _ _ _ _ = _
    rw [execG_append]; exact execG_frame _ _ _ _ (hfinal y hy)
  have hmem : op ∈ pre ++ op :: post := by simp
  rw [← List.map_congr_left hfin,
    waveSem_buf0 cfg op _ hg.delay_nonneg (hg.cap_ge op hmem) (hcode ▸ isBuf_BUF1)
      (fun p q => by rw [opDelays_four cfg op hlen]; exact hz op hmem hb p q) (hrun op hmem hb)]
  show (op.ins.map _).getD 0 Wv.empty = _
  rw [getD_map_lt _ _ _ _ 0 (by omega)]
  exact hfin _ (by rw [hins]; simp)

/-- a signal after a program holds its input value or the result of a row that writes it -/
theorem execG_cases {α} (sem : Op → List α → α) (ops : List Op) (env : Nat → α) (l : Nat) :
    execG sem ops env l = env l ∨ ∃ op ∈ ops, op.out = l ∧ ∃ xs, execG sem ops env l = sem op xs := by
  induction ops generalizing env with
  | nil => exact Or.inl rfl
  | cons p rest ih =>
    have hcons : execG sem (p :: rest) env = execG sem rest (execOpG sem env p) := rfl
    rw [hcons]
    rcases ih (execOpG sem env p) with h | ⟨op, hop, ho, xs, hx⟩
    · rw [h]
      by_cases hl : l = p.out
      · right; exact ⟨p, List.mem_cons_self, hl.symm, p.ins.map env, by simp [execOpG, Sig.upd, hl]⟩
      · left; simp [execOpG, Sig.upd, hl]
    · right; exact ⟨op, List.mem_cons_of_mem _ hop, ho, xs, hx⟩

/-- **fork stripping under checkable hypotheses**: polarity-independent delays (⇒ every waveform of the run is
    strictly increasing), strictly increasing well-formed input waveforms, capacity of the line a fork reads ≤ capacity
    of each branch, input waveforms on fork-read lines fit the branch, and the `zero` slot holds terminator `tmax`. -/
theorem strip_equiv_polind (cfg : WCfg) (hpol : C04.PolIndep cfg) (st : List (Nat × Nat)) (zidx : Nat) (ops : List Op)
    (env : Nat → Wv) (hg : cfg.Good ops) (hs : stripOkB st zidx [] ops = true)
    (hz : ∀ op ∈ ops, (st.lookup op.out).isSome = true → ∀ p q, cfg.delay (op.ins.getD 0 0) p q = 0)
    (hcap : ∀ op ∈ ops, (st.lookup op.out).isSome = true → cfg.cap (op.ins.getD 0 0) ≤ cfg.cap op.out)
    (henv : ∀ l, C04.MonoOk (env l))
    (hlen : ∀ op ∈ ops, (st.lookup op.out).isSome = true → (env (op.ins.getD 0 0)).ents.length < cfg.cap op.out)
    (hzero : (env zidx).term = T.tmax) :
    (∀ l, st.lookup l = none → simWave cfg (stripOps st ops) env l = simWave cfg ops env l) ∧
    (∀ b s, st.lookup b = some s → (∃ p ∈ ops, p.out = b) →
      simWave cfg (stripOps st ops) env s = simWave cfg ops env b) := by
  apply strip_equiv cfg st zidx ops env hg hs hz ?_
  intro op hop hb
  -- every waveform of the un-stripped run is well formed and strictly increasing
  have hmono : ∀ x, C04.MonoOk (simWave cfg ops env x) :=
    execG_inv_on C04.MonoOk (waveSem cfg) ops
      (fun o ho xs hx => C04.gate_mono cfg hpol o hg.delay_nonneg (hg.cap_ge o ho) xs hx) env henv
  obtain ⟨pre, post, hsplit⟩ := List.append_of_mem hop
  rw [(stripOkB_fork (hsplit ▸ hs) hb).2.1]
  refine ⟨fun i => ?_, (hmono _).2, ?_, fun i hi => ?_⟩
  · match i with
    | 0 | 1 | 2 | 3 => exact (hmono _).1
  · show (execG (waveSem cfg) ops env (op.ins.getD 0 0)).ents.length < _
    rcases execG_cases (waveSem cfg) ops env (op.ins.getD 0 0) with h | ⟨o, ho, hout, xs, hx⟩
    · rw [h]; exact hlen op hop hb
    · rw [hx]
      have h1 := waveSem_len cfg o xs (by have := hg.cap_ge o ho; omega)
      have h2 := hcap op hop hb
      rw [hout] at h1
      omega
  · have : (simWave cfg ops env zidx).term = T.tmax := by
      show (execG (waveSem cfg) ops env zidx).term = _
      rw [execG_frame (waveSem cfg) ops env zidx (stripOkB_out_ne hs)]
      exact hzero
    match i, hi with
    | 1, _ | 2, _ | 3, _ => exact this


/-! ### non-vacuity: `10 = AND(0,1)` is a stem with branches 11, 12 and — through a chained fork reading 12 — 13;
`14 = XOR(11, 2)`, `15 = OR(13, 14)`; slot 9 is the `zero` slot; the lines read by forks (10, 12) have zero delay -/
def exOps : List Op := [⟨0x8888, 10, [0, 1, 9, 9]⟩, ⟨0xAAAA, 11, [10, 9, 9, 9]⟩, ⟨0xAAAA, 12, [10, 9, 9, 9]⟩,
  ⟨0xAAAA, 13, [12, 9, 9, 9]⟩, ⟨0x6666, 14, [11, 2, 9, 9]⟩, ⟨0xEEEE, 15, [13, 14, 9, 9]⟩]
def exSt : List (Nat × Nat) := [(11, 10), (12, 10), (13, 10)]
/-- polarity-independent delays -/
def exCfg : WCfg := ⟨fun l _ _ => if l = 10 ∨ l = 12 then 0 else if l = 13 then 7 else 2, fun _ => 8⟩
/-- polarity-dependent delays -/
def exCfg2 : WCfg := ⟨fun l p q => if l = 10 ∨ l = 12 then 0 else if p then (if q then 4 else 3) else 1, fun _ => 8⟩
def exEnv : Nat → Wv := fun l => if l = 0 then stimWave false 5 true else if l = 1 then stimWave true 40 false
  else if l = 2 then stimWave true 20 false else Wv.empty

theorem ex_ok : stripOkB exSt 9 [] exOps = true := by decide +kernel

example : stripOps exSt exOps =
    [⟨0x8888, 10, [0, 1, 9, 9, 0, 1, 9, 9]⟩, ⟨0x6666, 14, [10, 2, 9, 9, 11, 2, 9, 9]⟩, ⟨0xEEEE, 15, [10, 14, 9, 9, 13, 14, 9, 9]⟩] := rfl

theorem ex_good (c : WCfg) (hd : ∀ l p q, 0 ≤ c.delay l p q) (hc : c.cap = fun _ => 8) : c.Good exOps :=
  ⟨hd, fun op _ => by rw [hc]; show 4 ≤ 8; decide⟩

theorem ex_cfg_nonneg : ∀ l p q, 0 ≤ exCfg.delay l p q := by
  intro l p q
  show (0 : Int) ≤ if l = 10 ∨ l = 12 then 0 else if l = 13 then 7 else 2
  repeat' split
  all_goals omega

theorem ex_cfg2_nonneg : ∀ l p q, 0 ≤ exCfg2.delay l p q := by
  intro l p q
  show (0 : Int) ≤ if l = 10 ∨ l = 12 then 0 else if p then (if q then 4 else 3) else 1
  repeat' split
  all_goals omega

theorem ex_env_mono (l : Nat) : C04.MonoOk (exEnv l) := by
  unfold exEnv
  repeat' split
  all_goals simp [C04.MonoOk, Wv.ok, WfRem, Incr, stimWave, Wv.empty, T.isFin, T.isTerm, T.lt, T.rank]

/-- `strip_equiv_polind` applies: all hypotheses hold for the example -/
example (l : Nat) (hl : exSt.lookup l = none) : simWave exCfg (stripOps exSt exOps) exEnv l = simWave exCfg exOps exEnv l :=
  (strip_equiv_polind exCfg (fun _ _ _ => rfl) exSt 9 exOps exEnv
    (ex_good exCfg ex_cfg_nonneg rfl)
    ex_ok (by decide +kernel) (by decide +kernel) ex_env_mono (by decide +kernel) rfl).1 l hl

/-- … and the common result is not trivial -/
example : simWave exCfg exOps exEnv 15 = ⟨[T.tmin, T.fin 49], T.tmax⟩ ∧
    simWave exCfg (stripOps exSt exOps) exEnv 15 = ⟨[T.tmin, T.fin 49], T.tmax⟩ ∧
    simWave exCfg exOps exEnv 14 = ⟨[T.tmin, T.fin 9, T.fin 22, T.fin 44], T.tmax⟩ := by decide +kernel

/-- `strip_equiv` applies with polarity-DEPENDENT delays: the run-time hypothesis `ForkIn` (stem waveforms of the
    un-stripped run strictly increasing and short enough) is evaluated on the run -/
example (l : Nat) (hl : exSt.lookup l = none) : simWave exCfg2 (stripOps exSt exOps) exEnv l = simWave exCfg2 exOps exEnv l :=
  (strip_equiv exCfg2 exSt 9 exOps exEnv
    (ex_good exCfg2 ex_cfg2_nonneg rfl)
    ex_ok (by decide +kernel) (by simp only [ForkIn, Wv.ok, WfRem, Incr]; decide +kernel)).1 l hl

example : simWave exCfg2 exOps exEnv 15 = ⟨[T.tmin, T.fin 52], T.tmax⟩ ∧
    simWave exCfg2 (stripOps exSt exOps) exEnv 15 = ⟨[T.tmin, T.fin 52], T.tmax⟩ := by decide +kernel


/-! ## fork stripping for ALL circuits: the scheduler model and the program transformation

`stemList net` is the branch ↦ stem association list read off the `stems` array of `SimOps` (`stemsOf net true`);
`forksOKB net order` says that every node of the order that `SimOps` schedules as a fork (lower-cased kind `__fork__`) is a
fork for `Circuit.forks` too (kind exactly `__fork__`), has nothing connected to input pins 1–3, and either reads a line
that is listed on the output pin of that line's driver or — undriven — is an interface node. -/

/-- what `stemList` is: its lookup is the `stems` array, its value-source function is `viaStem` (the resolution used by
    levelisation, the memory map and the map certificate `MapIn.src`) -/
theorem stemList_spec (net : Net) :
    (∀ b, (stemList net).lookup b = (stemsOf net true).getD b none) ∧
    (∀ x, Wave.src (stemList net) x = viaStem (stemsOf net true) x) :=
  ⟨stemList_lookup net, src_stemList net⟩

/-- what the `stems` array is, for every well-formed netlist: index `x` carries a stem iff `x` is an output line of a
    `__fork__` node with connected input pin 0 (then that node is the line's driver), and the stem is `stemWalk` from the
    line the fork reads; along a topological order the walk ends at the first line whose driver is not such a fork
    (chained forks), that driver stands before the fork, and the stem is not itself a branch -/
theorem stems_characterised (net : Net) (order : List Nat) (hwf : net.wfB = true) (ho : orderOKB net order = true)
    (hf : forksOKB net order = true) :
    (∀ x s, (stemsOf net true).getD x none = some s →
      ∃ l0, drivenFork net (net.line x).driver = true ∧ (net.node (net.line x).driver).inPin 0 = some l0 ∧
        some x ∈ (net.node (net.line x).driver).outs ∧ s = stemWalk net net.nodes.size l0) ∧
    (∀ n l0 x, n < net.nodes.size → drivenFork net n = true → (net.node n).inPin 0 = some l0 →
      some x ∈ (net.node n).outs → (stemsOf net true).getD x none = some (stemWalk net net.nodes.size l0)) ∧
    (∀ n l0, n ∈ order → drivenFork net n = true → (net.node n).inPin 0 = some l0 →
      drivenFork net (net.line (stemWalk net net.nodes.size l0)).driver = false ∧
      order.idxOf (net.line (stemWalk net net.nodes.size l0)).driver < order.idxOf n ∧
      (stemsOf net true).getD (stemWalk net net.nodes.size l0) none = none ∧
      viaStem (stemsOf net true) l0 = stemWalk net net.nodes.size l0) := by
  refine ⟨?_, ?_, ?_⟩
  · intro x s h
    obtain ⟨l0, _, hfk, hp, hout, hs, _⟩ := stems_some hwf h
    exact ⟨l0, by simp [drivenFork, hfk, hp], hp, hout, hs⟩
  · intro n l0 x hn hdf hp hx
    exact stems_of_fork hwf hn (drivenFork_spec hdf).1 hp hx
  · intro n l0 hn hdf hp
    obtain ⟨h1, _, h3, h4⟩ := stem_facts hwf ho hf hn hdf hp
    obtain ⟨_, _, _, hmem0, hfuel⟩ := stemWalk_facts hwf ho hn hdf hp
    exact ⟨(stemWalk_spec hwf ho net.nodes.size l0 hmem0 hfuel).1, h1, h3, h4⟩

/-- **(1) scheduler ↔ program transformation, every well-formed netlist, every topological order.**
    The rows `SimOps` schedules with `strip_forks=True` (`genOps … true`), written as eight-index rows — value sources =
    operands resolved through the stems (`viaStem (stemsOf net true)`), delay lines = the operands themselves (the
    branches) — ARE `stripOps` of the rows scheduled with `strip_forks=False`; and the un-stripped rows carry the
    certificate `stripOkB` for the same branch ↦ stem list (chained forks included), i.e. the structural hypothesis of
    `strip_equiv` / `strip_equiv_polind` holds for all circuits. -/
theorem genOps_strip_link (tbl : List PrefixRow) (net : Net) (order : List Nat) (hwf : net.wfB = true)
    (ho : orderOKB net order = true) (hf : forksOKB net order = true) :
    (genOps tbl net order true).map (fun r => redirect (stemList net) r.toOp) =
      stripOps (stemList net) ((genOps tbl net order false).map OpRow.toOp) ∧
    stripOkB (stemList net) net.idx.zero [] ((genOps tbl net order false).map OpRow.toOp) = true :=
  ⟨genOps_strip_map tbl hwf ho hf (redirect (stemList net)), genOps_stripOk tbl hwf ho hf⟩

/-- the same at the level of the raw rows: the stripped schedule is the un-stripped schedule without the rows that write a
    branch (nothing else changes: same rows, same order, same operand indices) -/
theorem genOps_strip_rows (tbl : List PrefixRow) (net : Net) (order : List Nat) (hwf : net.wfB = true)
    (ho : orderOKB net order = true) (hf : forksOKB net order = true) :
    genOps tbl net order true =
      (genOps tbl net order false).filter (fun r => ((stemsOf net true).getD r.out none).isNone) := by
  rw [genOps_strip_filter tbl net order hwf ho hf]
  congr 1
  funext r
  unfold isBranchRow
  cases (stemsOf net true).getD r.out none <;> rfl

/-- … and in terms of the signal-level rows of the memory-map theorems (`MapSound.sigOp`: operands resolved through
    `MapIn.src`): for a map record of the stripped simulator, the signal-level program `C08.map_certificate_sound_logic`
    speaks about is the four-index stripped program of the un-stripped schedule -/
theorem genOps_strip_link_sig (tbl : List PrefixRow) (p : MapIn) (order : List Nat) (hstrip : p.strip = true)
    (hwf : p.net.wfB = true) (ho : orderOKB p.net order = true) (hf : forksOKB p.net order = true) :
    (genOps tbl p.net order true).map (MapSound.sigOp p) =
      stripOps4 (stemList p.net) ((genOps tbl p.net order false).map OpRow.toOp) := by
  rw [← genOps_strip_eq_stripOps4 tbl hwf ho hf]
  apply List.map_congr_left
  intro r _
  unfold MapSound.sigOp MapIn.src MapIn.stems
  rw [hstrip]

/-- **(2) LogicSim: results do not depend on `strip_forks`, every well-formed netlist, every topological order.**
    Any value domain and any code-indexed op semantics `f` in which `BUF1` returns its first operand. Signal-level
    execution of the stripped schedule (operands resolved through the stems — the signals whose memory they share) and of
    the un-stripped schedule agree on every signal that is not a stripped branch; and what the un-stripped run leaves
    on a written branch (where an output port or flip-flop captures it) is what the stripped run leaves on its stem. -/
theorem strip_irrelevant_logic {α : Type} (tbl : List PrefixRow) (net : Net) (order : List Nat) (hwf : net.wfB = true)
    (ho : orderOKB net order = true) (hf : forksOKB net order = true)
    (f : Nat → List α → α) (dflt : α) (hbuf : ∀ xs, f BUF1 xs = xs.getD 0 dflt) (env : Nat → α) :
    let st := stemsOf net true
    let un := (genOps tbl net order false).map OpRow.toOp
    let sp := (genOps tbl net order true).map (fun r => (⟨r.lut, r.out, r.ins.map (viaStem st)⟩ : Op))
    (∀ x, st.getD x none = none → exec f sp env x = exec f un env x) ∧
    (∀ b s, st.getD b none = some s → (∃ p ∈ un, p.out = b) → exec f un env b = exec f sp env s) :=
  strip_sig_logic tbl net order hwf ho hf f dflt hbuf env

/-- the three logics of `LogicSim` (generated dispatchers): `BUF1` returns its first operand -/
theorem buf1_first_operand :
    (∀ xs, semL2n BUF1 xs = xs.getD 0 false) ∧ (∀ xs, semL4 BUF1 xs = xs.getD 0 default) ∧
    (∀ xs, semL8 BUF1 xs = xs.getD 0 default) := ⟨semL2n_buf1, semL4_buf1, semL8_buf1⟩

/-- (2) for 8-valued `LogicSim` (the 2- and 4-valued instances are obtained the same way from `buf1_first_operand`) -/
theorem strip_irrelevant_logic8 (net : Net) (order : List Nat) (hwf : net.wfB = true)
    (ho : orderOKB net order = true) (hf : forksOKB net order = true) (env : Nat → V3) (x : Nat)
    (hx : (stemsOf net true).getD x none = none) :
    exec semL8 ((genOps Gen.kindPrefixes net order true).map
        (fun r => (⟨r.lut, r.out, r.ins.map (viaStem (stemsOf net true))⟩ : Op))) env x =
      exec semL8 ((genOps Gen.kindPrefixes net order false).map OpRow.toOp) env x :=
  (strip_irrelevant_logic Gen.kindPrefixes net order hwf ho hf semL8 default semL8_buf1 env).1 x hx

theorem strip_irrelevant_logic2 (net : Net) (order : List Nat) (hwf : net.wfB = true)
    (ho : orderOKB net order = true) (hf : forksOKB net order = true) (env : Nat → Bool) (x : Nat)
    (hx : (stemsOf net true).getD x none = none) :
    exec semL2n ((genOps Gen.kindPrefixes net order true).map
        (fun r => (⟨r.lut, r.out, r.ins.map (viaStem (stemsOf net true))⟩ : Op))) env x =
      exec semL2n ((genOps Gen.kindPrefixes net order false).map OpRow.toOp) env x :=
  (strip_irrelevant_logic Gen.kindPrefixes net order hwf ho hf semL2n false semL2n_buf1 env).1 x hx

theorem strip_irrelevant_logic4 (net : Net) (order : List Nat) (hwf : net.wfB = true)
    (ho : orderOKB net order = true) (hf : forksOKB net order = true) (env : Nat → V2) (x : Nat)
    (hx : (stemsOf net true).getD x none = none) :
    exec semL4 ((genOps Gen.kindPrefixes net order true).map
        (fun r => (⟨r.lut, r.out, r.ins.map (viaStem (stemsOf net true))⟩ : Op))) env x =
      exec semL4 ((genOps Gen.kindPrefixes net order false).map OpRow.toOp) env x :=
  (strip_irrelevant_logic Gen.kindPrefixes net order hwf ho hf semL4 default semL4_buf1 env).1 x hx

/-- **(2') LogicSim at memory level.** Two map records for the same well-formed netlist and topological order — `p1` of the
    un-stripped simulator (`strip = false`, rows `genOps … false`), `p2` of the stripped one (`strip = true`, rows
    `genOps … true`, branches aliased to their stems) — that both pass the map certificate (`MapIn.check`, evaluated on the
    real tables of every instance, C08): after the rows have run on memory, the output slot of every interface node holds
    the same value in both, provided the captured line is not a branch or is written by the un-stripped schedule (it is
    when its fork belongs to the order). Any value domain, any op semantics in which `BUF1` returns its first operand. -/
theorem strip_irrelevant_logic_mem {α : Type} [Inhabited α] (tbl : List PrefixRow) (p1 p2 : MapIn) (order : List Nat)
    (hnet : p2.net = p1.net) (hs1 : p1.strip = false) (hs2 : p2.strip = true)
    (hops1 : p1.ops = genOps tbl p1.net order false) (hops2 : p2.ops = genOps tbl p1.net order true)
    (hwf : p1.net.wfB = true) (ho : orderOKB p1.net order = true) (hf : forksOKB p1.net order = true)
    (h1 : p1.check = none) (h2 : p2.check = none) (hp1 : 0 < p1.capsMin) (hp2 : 0 < p2.capsMin)
    (f : Nat → List α → α) (dflt : α) (hbuf : ∀ xs, f BUF1 xs = xs.getD 0 dflt) (m1 m2 : Int → α) (env0 : Nat → α)
    (h01 : ∀ x ∈ p1.tracked, (∀ o ∈ p1.ops, o.out ≠ x) → m1 (p1.loc x) = env0 x)
    (h02 : ∀ x ∈ p2.tracked, (∀ o ∈ p2.ops, o.out ≠ x) → m2 (p2.loc x) = env0 x)
    (n i l : Nat) (hn : (n, i) ∈ p1.net.sNodes.zipIdx) (hp : (p1.net.node n).inPin 0 = some l)
    (hwr : (stemsOf p1.net true).getD l none = none ∨ ∃ o ∈ p1.ops, o.out = l) :
    MapSound.memRun p1 (MapSound.rowRW α) (fun o => f o.lut) p1.ops m1 (p1.loc (p1.net.idx.ppo + i))
      = MapSound.memRun p2 (MapSound.rowRW α) (fun o => f o.lut) p2.ops m2 (p2.loc (p1.net.idx.ppo + i)) := by
  have e1 := C08.map_certificate_sound_logic p1 h1 hp1 f m1 env0 h01 _ _ (mem_ppoSrcs p1 hn hp)
  have e2 := C08.map_certificate_sound_logic p2 h2 hp2 f m2 env0 h02 _ _
    (mem_ppoSrcs p2 (by rw [hnet]; exact hn) (by rw [hnet]; exact hp))
  have hix1 : p1.ix = p1.net.idx := rfl
  have hix2 : p2.ix = p1.net.idx := by show p2.net.idx = _; rw [hnet]
  rw [hix1] at e1
  rw [hix2] at e2
  rw [e1, e2]
  have hsrc1 : p1.src l = l := by
    show viaStem (stemsOf p1.net p1.strip) l = l
    rw [hs1]; exact viaStem_false _ _
  have hsrc2 : p2.src l = viaStem (stemsOf p1.net true) l := by
    show viaStem (stemsOf p2.net p2.strip) l = _
    rw [hs2, hnet]
  have hun : p1.ops.map (MapSound.sigOp p1) = (genOps tbl p1.net order false).map OpRow.toOp := by
    rw [hops1]
    exact List.map_congr_left (fun r _ => sigOp_unstripped p1 hs1 r)
  have hsp : p2.ops.map (MapSound.sigOp p2) = (genOps tbl p1.net order true).map
      (fun r => (⟨r.lut, r.out, r.ins.map (viaStem (stemsOf p1.net true))⟩ : Op)) := by
    rw [hops2]
    apply List.map_congr_left
    intro r _
    unfold MapSound.sigOp MapIn.src MapIn.stems
    rw [hs2, hnet]
  rw [hsrc1, hsrc2, hun, hsp]
  refine (strip_sig_read tbl p1.net order hwf ho hf f dflt hbuf env0 l (hwr.imp_right ?_)).symm
  rintro ⟨o, ho', hoo⟩
  exact ⟨o.toOp, List.mem_map_of_mem (hops1 ▸ ho'), hoo⟩

/-- **(3) WaveSim: fork stripping for ALL circuits.** Every well-formed netlist, every topological order; the structural
    hypotheses of `strip_equiv_polind` are proved (`genOps_strip_link`), the numeric ones are stated on the netlist:
    delays ≥ 0 and capacities ≥ 4 (`cfg.Good`), polarity-independent delays, zero delay on every line read by a driven fork,
    capacity of that line ≤ capacity of each branch, strictly increasing well-formed input waveforms that fit the
    branches where a fork reads an input slot directly, terminator `tmax` in the `zero` slot. Then the waveform model of the
    stripped simulator (eight-index rows: stems as value sources, branches as delay lines) and of the un-stripped
    simulator agree on every signal that is not a stripped branch, and a written branch of the un-stripped run carries the
    waveform the stripped run leaves on its stem. -/
theorem strip_equiv_all_circuits (tbl : List PrefixRow) (net : Net) (order : List Nat) (hwf : net.wfB = true)
    (ho : orderOKB net order = true) (hf : forksOKB net order = true)
    (cfg : WCfg) (hpol : C04.PolIndep cfg) (env : Nat → Wv)
    (hg : cfg.Good ((genOps tbl net order false).map OpRow.toOp))
    (hz : ∀ n ∈ order, drivenFork net n = true → ∀ l0, (net.node n).inPin 0 = some l0 → ∀ p q, cfg.delay l0 p q = 0)
    (hcap : ∀ n ∈ order, drivenFork net n = true → ∀ l0, (net.node n).inPin 0 = some l0 →
      ∀ b, some b ∈ (net.node n).outs → cfg.cap l0 ≤ cfg.cap b)
    (henv : ∀ l, C04.MonoOk (env l))
    (hlen : ∀ n ∈ order, drivenFork net n = true → ∀ l0, (net.node n).inPin 0 = some l0 →
      ∀ b, some b ∈ (net.node n).outs → (env l0).ents.length < cfg.cap b)
    (hzero : (env net.idx.zero).term = T.tmax) :
    let st := stemList net
    let un := (genOps tbl net order false).map OpRow.toOp
    let sp := (genOps tbl net order true).map (fun r => redirect st r.toOp)
    (∀ l, st.lookup l = none → simWave cfg sp env l = simWave cfg un env l) ∧
    (∀ b s, st.lookup b = some s → (∃ p ∈ un, p.out = b) → simWave cfg sp env s = simWave cfg un env b) := by
  intro st un sp
  obtain ⟨hlink, hok⟩ := genOps_strip_link tbl net order hwf ho hf
  have hsp : sp = stripOps st un := hlink
  rw [hsp]
  apply strip_equiv_polind cfg hpol st net.idx.zero un env hg hok
  · intro op hop hb
    obtain ⟨n, hn, hdf, l0, hp, hi0, _⟩ := fork_row_of_branch tbl hwf ho hop hb
    rw [hi0]; exact hz n hn hdf l0 hp
  · intro op hop hb
    obtain ⟨n, hn, hdf, l0, hp, hi0, hout⟩ := fork_row_of_branch tbl hwf ho hop hb
    rw [hi0]; exact hcap n hn hdf l0 hp _ hout
  · exact henv
  · intro op hop hb
    obtain ⟨n, hn, hdf, l0, hp, hi0, hout⟩ := fork_row_of_branch tbl hwf ho hop hb
    rw [hi0]; exact hlen n hn hdf l0 hp _ hout
  · exact hzero

/-- (3) with the run-time hypothesis of `strip_equiv` instead of polarity independence: every fork row of the UN-STRIPPED
    run reads a well-formed, strictly increasing waveform that fits the branch (`ForkIn`) -/
theorem strip_equiv_all_circuits_run (tbl : List PrefixRow) (net : Net) (order : List Nat) (hwf : net.wfB = true)
    (ho : orderOKB net order = true) (hf : forksOKB net order = true) (cfg : WCfg) (env : Nat → Wv)
    (hg : cfg.Good ((genOps tbl net order false).map OpRow.toOp))
    (hz : ∀ n ∈ order, drivenFork net n = true → ∀ l0, (net.node n).inPin 0 = some l0 → ∀ p q, cfg.delay l0 p q = 0)
    (hrun : ∀ op ∈ (genOps tbl net order false).map OpRow.toOp, ((stemList net).lookup op.out).isSome = true →
      ForkIn cfg op (op.ins.map (simWave cfg ((genOps tbl net order false).map OpRow.toOp) env))) :
    let st := stemList net
    let un := (genOps tbl net order false).map OpRow.toOp
    let sp := (genOps tbl net order true).map (fun r => redirect st r.toOp)
    (∀ l, st.lookup l = none → simWave cfg sp env l = simWave cfg un env l) ∧
    (∀ b s, st.lookup b = some s → (∃ p ∈ un, p.out = b) → simWave cfg sp env s = simWave cfg un env b) := by
  intro st un sp
  obtain ⟨hlink, hok⟩ := genOps_strip_link tbl net order hwf ho hf
  have hsp : sp = stripOps st un := hlink
  rw [hsp]
  apply strip_equiv cfg st net.idx.zero un env hg hok ?_ hrun
  intro op hop hb
  obtain ⟨n, hn, hdf, l0, hp, hi0, _⟩ := fork_row_of_branch tbl hwf ho hop hb
  rw [hi0]; exact hz n hn hdf l0 hp

/-! ### non-vacuity: a netlist with a two-branch fork and a chained fork
`a` (node 0) drives line 0, read by fork 1 with branches 1 and 2; branch 2 is read by the chained fork 2 with branch 3;
`b` (node 3) drives line 4, fork 4 has branch 5; `6 = AND2(1, 5)`, `7 = OR2(3, 6)`, fork 7 with branch 8 feeds the output. -/
def forkNet : Net :=
  { nodes := #[⟨"input", [], [some 0]⟩, ⟨"__fork__", [some 0], [some 1, some 2]⟩, ⟨"__fork__", [some 2], [some 3]⟩,
               ⟨"input", [], [some 4]⟩, ⟨"__fork__", [some 4], [some 5]⟩, ⟨"AND2", [some 1, some 5], [some 6]⟩,
               ⟨"OR2", [some 3, some 6], [some 7]⟩, ⟨"__fork__", [some 7], [some 8]⟩, ⟨"output", [some 8], []⟩],
    lines := #[⟨0, 0, 1, 0⟩, ⟨1, 0, 5, 0⟩, ⟨1, 1, 2, 0⟩, ⟨2, 0, 6, 0⟩, ⟨3, 0, 4, 0⟩, ⟨4, 0, 5, 1⟩, ⟨5, 0, 6, 1⟩,
               ⟨6, 0, 7, 0⟩, ⟨7, 0, 8, 0⟩],
    io := [0, 3, 8] }
def forkOrder : List Nat := [0, 3, 1, 4, 2, 5, 6, 7, 8]

theorem forkNet_eq : forkNet = Demo.forkNet ∧ forkOrder = Demo.forkOrder := ⟨rfl, rfl⟩

theorem forkNet_ok : forkNet.wfB = true ∧ orderOKB forkNet forkOrder = true ∧ forksOKB forkNet forkOrder = true := by
  rw [forkNet_eq.1, forkNet_eq.2]
  exact ⟨Demo.fork_hyps.1, Demo.fork_hyps.2.1, Demo.fork_hyps.2.2.1⟩

theorem forkNet_stems : stemList forkNet = [(1, 0), (2, 0), (3, 0), (5, 4), (8, 7)] := by decide +kernel

/-- the stems: branches 1, 2 and — through the chained fork — 3 share line 0; 5 ↦ 4; 8 ↦ 7 -/
example : stemList forkNet = [(1, 0), (2, 0), (3, 0), (5, 4), (8, 7)] := forkNet_stems

theorem forkNet_rows : genOps Gen.kindPrefixes forkNet forkOrder false =
    [⟨0xAAAA, 0, 12, 9, 9, 9⟩, ⟨0xAAAA, 4, 13, 9, 9, 9⟩, ⟨0xAAAA, 1, 0, 9, 9, 9⟩, ⟨0xAAAA, 2, 0, 9, 9, 9⟩,
     ⟨0xAAAA, 5, 4, 9, 9, 9⟩, ⟨0xAAAA, 3, 2, 9, 9, 9⟩, ⟨0x8888, 6, 1, 5, 9, 9⟩, ⟨0xEEEE, 7, 3, 6, 9, 9⟩,
     ⟨0xAAAA, 8, 7, 9, 9, 9⟩] ∧
    genOps Gen.kindPrefixes forkNet forkOrder true =
    [⟨0xAAAA, 0, 12, 9, 9, 9⟩, ⟨0xAAAA, 4, 13, 9, 9, 9⟩, ⟨0x8888, 6, 1, 5, 9, 9⟩, ⟨0xEEEE, 7, 3, 6, 9, 9⟩] := by
  rw [forkNet_eq.1, forkNet_eq.2]
  exact ⟨Demo.fork_ops.1, Demo.fork_ops.2.1⟩

/-- the two schedules of the example (`zero` = 9, input slots 12 and 13) -/
example : genOps Gen.kindPrefixes forkNet forkOrder false =
    [⟨0xAAAA, 0, 12, 9, 9, 9⟩, ⟨0xAAAA, 4, 13, 9, 9, 9⟩, ⟨0xAAAA, 1, 0, 9, 9, 9⟩, ⟨0xAAAA, 2, 0, 9, 9, 9⟩,
     ⟨0xAAAA, 5, 4, 9, 9, 9⟩, ⟨0xAAAA, 3, 2, 9, 9, 9⟩, ⟨0x8888, 6, 1, 5, 9, 9⟩, ⟨0xEEEE, 7, 3, 6, 9, 9⟩,
     ⟨0xAAAA, 8, 7, 9, 9, 9⟩] ∧
    genOps Gen.kindPrefixes forkNet forkOrder true =
    [⟨0xAAAA, 0, 12, 9, 9, 9⟩, ⟨0xAAAA, 4, 13, 9, 9, 9⟩, ⟨0x8888, 6, 1, 5, 9, 9⟩, ⟨0xEEEE, 7, 3, 6, 9, 9⟩] := forkNet_rows

/-- `genOps_strip_link` applies to it -/
example : stripOkB (stemList forkNet) 9 [] ((genOps Gen.kindPrefixes forkNet forkOrder false).map OpRow.toOp) = true :=
  (genOps_strip_link Gen.kindPrefixes forkNet forkOrder forkNet_ok.1 forkNet_ok.2.1 forkNet_ok.2.2).2

/-- `strip_irrelevant_logic` applies to it (8-valued): the OR output, line 7, is the same with and without stripping -/
example (env : Nat → V3) :
    exec semL8 ((genOps Gen.kindPrefixes forkNet forkOrder true).map
        (fun r => (⟨r.lut, r.out, r.ins.map (viaStem (stemsOf forkNet true))⟩ : Op))) env 7 =
      exec semL8 ((genOps Gen.kindPrefixes forkNet forkOrder false).map OpRow.toOp) env 7 :=
  strip_irrelevant_logic8 forkNet forkOrder forkNet_ok.1 forkNet_ok.2.1 forkNet_ok.2.2 env 7
    (by rw [← (stemList_spec forkNet).1, forkNet_stems]; rfl)

/-- … and the captured branch 8 of the un-stripped run is the stem 7 of the stripped run -/
example (env : Nat → Bool) :
    exec semL2n ((genOps Gen.kindPrefixes forkNet forkOrder false).map OpRow.toOp) env 8 =
      exec semL2n ((genOps Gen.kindPrefixes forkNet forkOrder true).map
        (fun r => (⟨r.lut, r.out, r.ins.map (viaStem (stemsOf forkNet true))⟩ : Op))) env 7 :=
  (strip_irrelevant_logic Gen.kindPrefixes forkNet forkOrder forkNet_ok.1 forkNet_ok.2.1 forkNet_ok.2.2
    semL2n false semL2n_buf1 env).2 8 7 (by rw [← (stemList_spec forkNet).1, forkNet_stems]; rfl)
    ⟨OpRow.toOp ⟨0xAAAA, 8, 7, 9, 9, 9⟩, List.mem_map_of_mem (by rw [forkNet_rows.1]; decide), rfl⟩

/-- map records of the example as the `SimOps` model builds them (levelisation + memory map, `c_reuse` on) -/
def forkMap (strip : Bool) : MapIn :=
  let ops := genOps Gen.kindPrefixes forkNet forkOrder strip
  let stems := stemsOf forkNet strip
  let lev := levelise forkNet.idx.len stems ops
  let m := memMap forkNet ops stems lev (fun _ => 1) 1 true
  { net := forkNet, strip := strip, ops := ops, starts := lev.starts.reverse, locs := m.locs, caps := m.caps,
    cLen := m.heap.maxSz, capsMin := 1 }

theorem forkMap_eq (strip : Bool) : forkMap strip = simopsMap Gen.kindPrefixes forkNet forkOrder strip (fun _ => 1) 1 true := rfl

/-- both pass the map certificate (by `simopsMap_accepted`, not by evaluation); the stripped one aliases the branches 1, 2, 3 to
    line 0 and needs less memory (next `example`) -/
theorem forkMap_ok : (forkMap false).check = none ∧ (forkMap true).check = none := by
  simp only [forkMap_eq, forkNet_eq.1, forkNet_eq.2]
  obtain ⟨hw, ho, hf, hr⟩ := Demo.fork_hyps
  exact ⟨simopsMap_accepted _ _ _ _ hw ho (fun h => by cases h) hr (by decide),
    simopsMap_accepted _ _ _ _ hw ho (fun _ => hf) hr (by decide)⟩
example : (forkMap false).cLen = 10 ∧ (forkMap true).cLen = 8 ∧
    [0, 1, 2, 3].map (forkMap true).loc = [5, 5, 5, 5] ∧ forkNet.idx.ppo = 15 := by decide +kernel

/-- `strip_irrelevant_logic_mem` applies: the output slot (interface position 2, node 8, captured branch 8) -/
example (m1 m2 : Int → V3) (env0 : Nat → V3)
    (h01 : ∀ x ∈ (forkMap false).tracked, (∀ o ∈ (forkMap false).ops, o.out ≠ x) → m1 ((forkMap false).loc x) = env0 x)
    (h02 : ∀ x ∈ (forkMap true).tracked, (∀ o ∈ (forkMap true).ops, o.out ≠ x) → m2 ((forkMap true).loc x) = env0 x) :
    MapSound.memRun (forkMap false) (MapSound.rowRW V3) (fun o => semL8 o.lut) (forkMap false).ops m1 ((forkMap false).loc (forkNet.idx.ppo + 2))
      = MapSound.memRun (forkMap true) (MapSound.rowRW V3) (fun o => semL8 o.lut) (forkMap true).ops m2 ((forkMap true).loc (forkNet.idx.ppo + 2)) :=
  strip_irrelevant_logic_mem Gen.kindPrefixes (forkMap false) (forkMap true) forkOrder rfl rfl rfl rfl rfl
    forkNet_ok.1 forkNet_ok.2.1 forkNet_ok.2.2 forkMap_ok.1 forkMap_ok.2 (by decide) (by decide)
    semL8 default semL8_buf1 m1 m2 env0 h01 h02 8 2 8 (by decide +kernel) (by decide +kernel)
    (Or.inr ⟨⟨0xAAAA, 8, 7, 9, 9, 9⟩, by show _ ∈ genOps Gen.kindPrefixes forkNet forkOrder false; rw [forkNet_rows.1]; decide, rfl⟩)

/-- polarity-independent delays, zero on the lines read by forks (0, 2, 4, 7) -/
def forkCfg : WCfg := ⟨fun l _ _ => if l = 0 ∨ l = 2 ∨ l = 4 ∨ l = 7 then 0 else if l = 3 then 7 else 2, fun _ => 8⟩
def forkEnv : Nat → Wv := fun l => if l = 12 then stimWave false 5 true else if l = 13 then stimWave true 40 false else Wv.empty

theorem forkEnv_mono (l : Nat) : C04.MonoOk (forkEnv l) := by
  unfold forkEnv
  repeat' split
  all_goals simp [C04.MonoOk, Wv.ok, WfRem, Incr, stimWave, Wv.empty, T.isFin, T.isTerm, T.lt, T.rank]

theorem forkEnv_len (l : Nat) : (forkEnv l).ents.length < 8 := by
  unfold forkEnv
  repeat' split
  all_goals simp [stimWave, Wv.empty]

theorem forkCfg_nonneg : ∀ l p q, 0 ≤ forkCfg.delay l p q := by
  intro l p q
  show (0 : Int) ≤ if l = 0 ∨ l = 2 ∨ l = 4 ∨ l = 7 then 0 else if l = 3 then 7 else 2
  repeat' split
  all_goals omega

/-- `strip_equiv_all_circuits` applies to it: all hypotheses hold -/
example (l : Nat) (hl : (stemList forkNet).lookup l = none) :
    simWave forkCfg ((genOps Gen.kindPrefixes forkNet forkOrder true).map (fun r => redirect (stemList forkNet) r.toOp)) forkEnv l =
      simWave forkCfg ((genOps Gen.kindPrefixes forkNet forkOrder false).map OpRow.toOp) forkEnv l :=
  (strip_equiv_all_circuits Gen.kindPrefixes forkNet forkOrder forkNet_ok.1 forkNet_ok.2.1 forkNet_ok.2.2
    forkCfg (fun _ _ _ => rfl) forkEnv ⟨forkCfg_nonneg, fun _ _ => by show 4 ≤ 8; decide⟩
    (by decide +kernel) (fun _ _ _ _ _ _ _ => Nat.le_refl _) forkEnv_mono (fun _ _ _ l0 _ _ _ => forkEnv_len l0) rfl).1 l hl

/-- … and the common result is not trivial: the AND output (line 6) rises at 5 + 2 + 2 and falls at 40 + 2 + 2, the OR output
    rises two units later and stays high (branch 3, with its own delay 7, has risen at 14) -/
example : simWave forkCfg ((genOps Gen.kindPrefixes forkNet forkOrder false).map OpRow.toOp) forkEnv 7 = ⟨[T.fin 11], T.tmax⟩ ∧
    simWave forkCfg ((genOps Gen.kindPrefixes forkNet forkOrder false).map OpRow.toOp) forkEnv 6 = ⟨[T.fin 9, T.fin 44], T.tmax⟩ ∧
    simWave forkCfg ((genOps Gen.kindPrefixes forkNet forkOrder true).map (fun r => redirect (stemList forkNet) r.toOp)) forkEnv 7
      = ⟨[T.fin 11], T.tmax⟩ := by decide +kernel

/-- the hypothesis `forksOKB` cannot be dropped: a node whose kind is `__FORK__` is scheduled as a fork (the kind is
    lower-cased) but gets no stems (`Circuit.forks` holds nodes of kind exactly `__fork__`): with `strip_forks=True` its rows
    are dropped and its readers are NOT redirected — they read a signal nobody writes (reproduced on the real code: LogicSim output 3333… instead of 0303…) -/
def badForkNet : Net :=
  { nodes := #[⟨"input", [], [some 0]⟩, ⟨"INV1", [some 0], [some 1]⟩, ⟨"__FORK__", [some 1], [some 2]⟩,
               ⟨"INV1", [some 2], [some 3]⟩, ⟨"output", [some 3], []⟩],
    lines := #[⟨0, 0, 1, 0⟩, ⟨1, 0, 2, 0⟩, ⟨2, 0, 3, 0⟩, ⟨3, 0, 4, 0⟩],
    io := [0, 4] }
example : badForkNet.wfB = true ∧ orderOKB badForkNet [0, 1, 2, 3, 4] = true ∧ forksOKB badForkNet [0, 1, 2, 3, 4] = false ∧
    stemList badForkNet = [] ∧
    (genOps Gen.kindPrefixes badForkNet [0, 1, 2, 3, 4] true).map (·.out) = [0, 1, 3] ∧
    (genOps Gen.kindPrefixes badForkNet [0, 1, 2, 3, 4] false).map (·.out) = [0, 1, 2, 3] := by decide +kernel


/-! ## code paths: `WaveSim` (NumPy statements, `njit` loops) vs `WaveSimCuda` (`cuda.jit` kernels under the launcher)

Models: `Model/WaveIO.lean` (both paths of `s_to_c`, `s_ppo_to_ppi`, a level and `c_prop`, the capture scan), tied to the real
`WaveSim` and `WaveSimCuda` by exact correspondence of the raw arrays (harness clause `path-tie`); the kernel launch is
`Grid.launch` (C07). The state is kept lane by lane (`Nat → Col`, `Nat → LaneSt`): every array access of these functions has
the lane as its last index. -/
section CodePaths
open KV.WaveIO KV.Grid

/-! ### `s_to_c`: waveform construction from (initial, time, final) -/

/-- the thresholds: the CPU path tests `!= 0`, the kernel `>= 0.5`; on a value `v / den` they agree iff `v = 0` or `v / den ≥ 1/2`
    (in particular on `0` and `1`) -/
theorem assign_thresholds (den : Nat) (hden : 0 < den) (v : Int) : cpuFlag v = gpuFlag den v ↔ FlagOK den v :=
  flags_agree_iff den hden v

/-- … and they do NOT agree in between: `0.25` is a `1` for `WaveSim` and a `0` for `WaveSimCuda` (reproduced on the real code) -/
example : cpuFlag 1 = true ∧ gpuFlag 4 1 = false ∧ FlagOK 4 0 ∧ FlagOK 4 4 ∧ FlagOK 4 2 ∧ ¬ FlagOK 4 1 ∧ ¬ FlagOK 4 (-4) := by decide

/-- the raw cells: with the same flags both paths store the same three cells at offsets 0, 1, 2 — in closed form
    `[TMIN if initial else (t if final else TMAX), t if initial and not final else TMAX, TMAX]`; no other cell is written -/
theorem assign_cells_agree (i f : Bool) (t : T) :
    gpuCells i f t = cpuCells i f t ∧
    gpuCells i f t = [if i then T.tmin else if f then t else T.tmax, if i && !f then t else T.tmax, T.tmax] := by
  refine ⟨(cpuCells_eq_gpuCells i f t).symm, ?_⟩
  cases i <;> cases f <;> rfl

/-- **reading is insensitive to stale cells behind the terminator**: entries (no cell `≥ TMAX`), a terminator cell, then
    anything — e.g. what an earlier, longer waveform left there -/
theorem read_stale_irrelevant (pre : List T) (e : T) (s1 s2 : List T) (hpre : ∀ x ∈ pre, isEnd x = false)
    (he : isEnd e = true) : readWave (pre ++ e :: s1) = readWave (pre ++ e :: s2) ∧ readWave (pre ++ e :: s1) = ⟨pre, e⟩ :=
  ⟨WaveIO.read_stale_irrelevant pre e s1 s2 hpre he, readWave_prefix pre e s1 hpre he⟩

example : readWave [T.tmin, T.fin 7, T.tmax, T.fin 3, T.tovl] = ⟨[T.tmin, T.fin 7], T.tmax⟩ ∧
    readWave [T.tmin, T.fin 7, T.tmax, T.tmax, T.fin 99] = ⟨[T.tmin, T.fin 7], T.tmax⟩ := by decide

/-- **`assign_paths_agree`, one (s_node, lane) work item.** Logic values `v / den` that are `0` or at least one half
    (`FlagOK`), any time, any region capacity ≥ 3 (`c_caps_min = 4` in `WaveSim`), ANY previous contents `c1`, `c2` of the
    two memories: the waveform read back from the region the kernel thread has written equals the one read back from the
    region the CPU statements have written. Raw cells: the three written cells are equal; every other cell (offset 3 and
    beyond: stale) keeps what the respective memory held, so with the same history the two memories are identical. -/
theorem assign_paths_agree (den : Nat) (hden : 0 < den) (r : SRow) (hi : FlagOK den r.ini) (hf : FlagOK den r.fin)
    (c1 c2 : Col) (loc : Int) (cap : Nat) (hcap : 3 ≤ cap) :
    readWave (rdCells (write3 c1 loc (gpuCells (gpuFlag den r.ini) (gpuFlag den r.fin) r.time)) loc cap) =
      readWave (rdCells (write3 c2 loc (cpuCells (cpuFlag r.ini) (cpuFlag r.fin) r.time)) loc cap) ∧
    write3 c1 loc (gpuCells (gpuFlag den r.ini) (gpuFlag den r.fin) r.time) =
      write3 c1 loc (cpuCells (cpuFlag r.ini) (cpuFlag r.fin) r.time) ∧
    ∀ a, ¬ (loc ≤ a ∧ a < loc + 3) → write3 c1 loc (gpuCells (gpuFlag den r.ini) (gpuFlag den r.fin) r.time) a = c1 a := by
  rw [(flags_agree_iff den hden _).mpr hi, (flags_agree_iff den hden _).mpr hf, cpuCells_eq_gpuCells]
  refine ⟨?_, rfl, fun a ha => ?_⟩
  · obtain ⟨n, rfl⟩ : ∃ n, cap = 3 + n := ⟨cap - 3, by omega⟩
    rw [gpuCells_getD (gpuFlag den r.ini) (gpuFlag den r.fin) r.time, rdCells_write3, rdCells_write3, ← gpuCells_getD,
      read_assign_stale, read_assign_stale]
  · unfold write3 updI
    have a1 : ¬ a = loc + 2 := by omega
    have a2 : ¬ a = loc + 1 := by omega
    have a3 : ¬ a = loc := by omega
    simp only [a1, a2, a3, if_false]

/-- what is read back, for a finite time: the stimulus waveform `Wave.stimWave` of the waveform model (C03) -/
theorem assign_reads_stimulus (c : Col) (loc : Int) (cap : Nat) (hcap : 3 ≤ cap) (i f : Bool) (τ : Int) :
    readWave (rdCells (write3 c loc (gpuCells i f (T.fin τ))) loc cap) = stimWave i τ f := by
  obtain ⟨n, rfl⟩ : ∃ n, cap = 3 + n := ⟨cap - 3, by omega⟩
  rw [gpuCells_getD, rdCells_write3, ← gpuCells_getD]
  cases i <;> cases f <;> simp [gpuCells, readWave, isEnd, stimWave]

/-- non-vacuity: initial 1, final 0, falling at 7 over a region that held a longer waveform: `[TMIN, 7, TMAX | 9, TMAX_OVL]` -/
example : rdCells (write3 (fun a => if a = 24 then T.tovl else T.fin a) 20 (gpuCells (gpuFlag 4 4) (gpuFlag 4 0) (T.fin 7))) 20 5
      = [T.tmin, T.fin 7, T.tmax, T.fin 23, T.tovl] ∧
    readWave (rdCells (write3 (fun a => if a = 24 then T.tovl else T.fin a) 20 (cpuCells (cpuFlag 4) (cpuFlag 0) (T.fin 7))) 20 5)
      = stimWave true 7 false := by decide +kernel

/-- **`s_to_c`, the kernel launch, lane by lane — no hypotheses**: for every block shape, lane `k < sims` receives the three
    cells of every row `y < s_len` whose (P)PI slot has memory (`c_locs[ppi_offset + y] ≥ 0`), in increasing row order; lanes
    `≥ sims` are untouched -/
theorem s_to_c_gpu_lane (tb : Tab) (den sims bx by_ : Nat) (hbx : 0 < bx) (hby : 0 < by_) (s : Nat → Nat → SRow)
    (c : Nat → Col) (k : Nat) :
    gpuSToC tb den sims bx by_ s c k =
      if k < sims then (List.range tb.sLen).foldl (fun col y => assignWork tb den s k y col) (c k) else c k :=
  gpuSToC_lane tb den sims bx by_ hbx hby s c k

/-- **`s_to_c`, whole arrays.** Tables whose (P)PI regions are pairwise disjoint (`regionsDisjointB`), logic values `0` or `≥ 1/2`
    on every used row and lane (`flagsOKB`): the kernel launch (every block shape) and the three NumPy statements leave the
    same array `c` — every cell of every lane. State elements without (P)PI memory (no connected output, `c_locs = -1`) are
    skipped by both paths (see `orphanTab`). -/
theorem s_to_c_paths_agree (tb : Tab) (den sims bx by_ : Nat) (hbx : 0 < bx) (hby : 0 < by_) (hden : 0 < den)
    (s : Nat → Nat → SRow) (c : Nat → Col) (hio : tb.nIo ≤ tb.sLen)
    (hdisj : regionsDisjointB tb = true) (hflags : flagsOKB tb den sims s = true) :
    gpuSToC tb den sims bx by_ s c = cpuSToCAll tb sims s c := by
  funext k
  rw [gpuSToC_lane tb den sims bx by_ hbx hby]
  unfold cpuSToCAll
  by_cases hk : k < sims
  · rw [if_pos hk, if_pos hk, cpuSToC_rowwise tb (s k) (c k) hio (regionsDisjointB_sound hdisj)]
    -- the same rows with the same cells
    refine foldl_congr (fun y hy col => ?_) _
    unfold assignWork
    by_cases hl0 : 0 ≤ tb.ppiLoc y
    · obtain ⟨f1, f2⟩ := flagsOKB_sound hflags k y hk (List.mem_range.mp hy) hl0
      rw [if_pos hl0, if_pos hl0, cpuCells_eq_gpuCells, (flags_agree_iff den hden _).mpr f1,
        (flags_agree_iff den hden _).mpr f2]
    · rw [if_neg hl0, if_neg hl0]
  · rw [if_neg hk, if_neg hk]

/-! non-vacuity: rows 0 (input), 1 (output), 2, 3 (flip-flops); three lanes; blocks of 2 × 3 threads -/
def pathTab : Tab :=
  { sLen := 4, nIo := 2, cLen := 40, ppiLoc := fun y => [12, -1, 16, 20].getD y (-1), ppoLoc := fun y => [-1, 24, 28, 32].getD y (-1),
    ppoCap := fun _ => 4 }
def pathS : Nat → Nat → SRow := fun x y =>
  let v := ([[(0, 4), (4, 4), (4, 0), (4, 0)], [(4, 0), (0, 0), (0, 4), (4, 4)], [(4, 4), (4, 0), (0, 0), (0, 4)]].getD x []).getD y (0, 0)
  ⟨v.1, T.fin (3 * x + y), v.2, if (x + y) % 2 = 0 then 4 else 0⟩
def pathC : Nat → Col := fun x a => T.fin (100 * x + a)

example : gpuSToC pathTab 4 3 2 3 pathS pathC = cpuSToCAll pathTab 3 pathS pathC :=
  s_to_c_paths_agree pathTab 4 3 2 3 (by decide) (by decide) (by decide) pathS pathC (by decide) (by decide) (by decide)

example : rdCells (gpuSToC pathTab 4 3 2 3 pathS pathC 1) 12 12 =
    [T.tmin, T.fin 3, T.tmax, T.fin 115, T.fin 5, T.tmax, T.tmax, T.fin 119, T.tmin, T.tmax, T.tmax, T.fin 123] := by decide +kernel

/-- a flip-flop without connected outputs has `c_locs[ppi_offset + y] = -1`: both paths skip the row (a store through
    the −1 would hit `c[-1]`, `c[0]`, `c[1]` — the last cell of the array and the memory of the constant-0 signal: known finding D31) -/
def orphanTab : Tab := { pathTab with ppiLoc := fun y => [12, -1, 16, -1].getD y (-1) }
example : stateRowsAllocatedB orphanTab = false ∧
    rdCells (cpuSToCAll orphanTab 3 pathS pathC 0) 0 2 = [T.fin 0, T.fin 1] ∧ cpuSToCAll orphanTab 3 pathS pathC 0 39 = T.fin 39 ∧
    rdCells (gpuSToC orphanTab 4 3 2 3 pathS pathC 0) 0 2 = [T.fin 0, T.fin 1] ∧ gpuSToC orphanTab 4 3 2 3 pathS pathC 0 39 = T.fin 39 := by
  decide +kernel
example : gpuSToC orphanTab 4 3 2 3 pathS pathC = cpuSToCAll orphanTab 3 pathS pathC :=
  s_to_c_paths_agree orphanTab 4 3 2 3 (by decide) (by decide) (by decide) pathS pathC (by decide) (by decide) (by decide)

/-! ### `s_ppo_to_ppi` -/

/-- **which rows are transferred — no hypotheses.** The kernel transfers row `y` of lane `x` (`s[0] ← s[2]`, `s[1] ← time`,
    `s[2] ← s[8]`) iff `x < sims`, `y < s_len` and BOTH `c_locs[ppi_offset + y] ≥ 0` and `c_locs[ppo_offset + y] ≥ 0`; the CPU
    method transfers exactly the state-element rows `len(io_nodes) ≤ y < s_len`. -/
theorem ppo_to_ppi_rows (tb : Tab) (time : T) (sims bx by_ : Nat) (hbx : 0 < bx) (hby : 0 < by_) (s : Nat → Nat → SRow)
    (x y : Nat) :
    gpuPpoToPpi tb time sims bx by_ s x y =
      (if x < sims ∧ y < tb.sLen ∧ 0 ≤ tb.ppiLoc y ∧ 0 ≤ tb.ppoLoc y then ppoToPpiRow time (s x y) else s x y) ∧
    cpuPpoToPpiAll tb time sims s x y =
      (if x < sims ∧ tb.nIo ≤ y ∧ y < tb.sLen then ppoToPpiRow time (s x y) else s x y) :=
  ⟨gpuPpoToPpi_spec tb time sims bx by_ hbx hby s x y, cpuPpoToPpi_spec tb time sims s x y⟩

/-- **`ppo_to_ppi_paths_agree`.** When the rows with both slots are exactly the state-element rows (`transferRowsB`: no port
    has both a (P)PI and a (P)PO slot, every state element has both), the two paths leave the same `s[0]`, `s[1]`, `s[2]` (and
    touch nothing else) — every row, every lane, every block shape, every time. -/
theorem ppo_to_ppi_paths_agree (tb : Tab) (time : T) (sims bx by_ : Nat) (hbx : 0 < bx) (hby : 0 < by_)
    (s : Nat → Nat → SRow) (hrows : transferRowsB tb = true) :
    gpuPpoToPpi tb time sims bx by_ s = cpuPpoToPpiAll tb time sims s := by
  have hr := transferRowsB_sound hrows
  funext x y
  rw [gpuPpoToPpi_spec tb time sims bx by_ hbx hby, cpuPpoToPpi_spec]
  by_cases h : x < sims ∧ y < tb.sLen ∧ 0 ≤ tb.ppiLoc y ∧ 0 ≤ tb.ppoLoc y
  · rw [if_pos h, if_pos ⟨h.1, (hr y h.2.1).mpr h.2.2, h.2.1⟩]
  · rw [if_neg h, if_neg (fun g => h ⟨g.1, g.2.2, (hr y g.2.2).mp g.2.1⟩)]

/-- the transfer keeps the logic values in the domain where the assignment paths agree, provided the captured value does -/
theorem ppo_to_ppi_keeps_domain (den : Nat) (time : T) (r : SRow) (h2 : FlagOK den r.fin) (h8 : FlagOK den r.cap) :
    FlagOK den (ppoToPpiRow time r).ini ∧ FlagOK den (ppoToPpiRow time r).fin := ⟨h2, h8⟩

example : gpuPpoToPpi pathTab (T.fin 0) 3 2 3 pathS = cpuPpoToPpiAll pathTab (T.fin 0) 3 pathS :=
  ppo_to_ppi_paths_agree pathTab (T.fin 0) 3 2 3 (by decide) (by decide) pathS (by decide)
example : gpuPpoToPpi pathTab (T.fin 0) 3 2 3 pathS 1 2 = ⟨4, T.fin 0, 0, 0⟩ ∧ pathS 1 2 = ⟨0, T.fin 5, 4, 0⟩ ∧
    gpuPpoToPpi pathTab (T.fin 0) 3 2 3 pathS 2 3 = ⟨4, T.fin 0, 0, 0⟩ ∧ pathS 2 3 = ⟨0, T.fin 9, 4, 0⟩ ∧
    gpuPpoToPpi pathTab (T.fin 0) 3 2 3 pathS 2 0 = pathS 2 0 := by decide +kernel

/-- the hypothesis cannot be dropped, in both directions: a port with both slots (a driven port fork, e.g. a bench output
    that is read inside the circuit) is transferred by the kernel only; a state element without (P)PI memory by the CPU only -/
def inoutTab : Tab := { pathTab with ppiLoc := fun y => [12, 36, 16, -1].getD y (-1) }
example : transferRowsB inoutTab = false ∧
    gpuPpoToPpi inoutTab (T.fin 0) 3 2 3 pathS 0 1 ≠ cpuPpoToPpiAll inoutTab (T.fin 0) 3 pathS 0 1 ∧
    gpuPpoToPpi inoutTab (T.fin 0) 3 2 3 pathS 0 3 ≠ cpuPpoToPpiAll inoutTab (T.fin 0) 3 pathS 0 3 := by decide +kernel

/-! ### propagation: thread, level, `c_prop` -/

/-- **`eval_thread_eq`.** For every evaluator function `ev` (the shared `_wave_eval`), op table and bounds: thread `(x, y)` of
    `wave_eval_gpu` does nothing if `sim_start + x ≥ sim_stop` or `op_start + y ≥ op_stop`; otherwise it performs exactly the
    body of the two CPU loops for `sim = sim_start + x`, `op_idx = op_start + y` — the same evaluation on lane `sim`, the same
    addition to `abuf[a_loc, sim]` when `a_loc ≥ 0` — and touches no other lane. -/
theorem eval_thread_eq (ev : Ev) (ops : List AOp) (opStart opStop simStart simStop x y : Nat) (S : Nat → LaneSt) :
    gpuEvalThread ev ops opStart opStop simStart simStop x y S =
      if simStart + x < simStop ∧ opStart + y < opStop then
        onLane S (simStart + x) (cpuBody ev (ops.getD (opStart + y) default) (simStart + x))
      else S := gpuEvalThread_eq ev ops opStart opStop simStart simStop x y S

/-- **`level_paths_agree`.** One kernel launch of `WaveSimCuda.c_prop` (grid `_grid_dim(sims, op_stop - op_start)`, every block
    shape) leaves the same `c` and `abuf` as `level_eval_cpu` — all lanes, all cells, stale ones and scratch slots included —
    for every evaluator function, op table, level range and lane count. No independence of the ops of the level is needed for
    the launcher modelled here: it keeps the op order inside every lane (`Grid.launch_sorted`), and lanes do not interact.
    (For an arbitrary thread order see `level_any_thread_order`.) Lane `k` sees the ops `op_start … op_stop - 1` in order. -/
theorem level_paths_agree (ev : Ev) (ops : List AOp) (opStart opStop sims bx by_ : Nat) (hbx : 0 < bx) (hby : 0 < by_)
    (S : Nat → LaneSt) :
    gpuLevel ev ops opStart opStop sims bx by_ S = cpuLevel ev ops opStart opStop 0 sims S ∧
    ∀ k, cpuLevel ev ops opStart opStop 0 sims S k =
      if k < sims then (List.range (opStop - opStart)).foldl (fun st y => cpuBody ev (ops.getD (opStart + y) default) k st) (S k)
      else S k :=
  ⟨gpuLevel_eq_cpuLevel ev ops opStart opStop sims bx by_ hbx hby S, cpuLevel_lane ev ops opStart opStop sims S⟩

/-- **whole `c_prop`**, by induction over `zip(level_starts, level_stops)`; lanes `≥ sims` (the `k` of `c_prop(sims=k)`) stay untouched -/
theorem c_prop_paths_agree (ev : Ev) (ops : List AOp) (levels : List (Nat × Nat)) (sims bx by_ : Nat)
    (hbx : 0 < bx) (hby : 0 < by_) (S : Nat → LaneSt) :
    gpuCProp ev ops levels sims bx by_ S = cpuCProp ev ops levels sims S ∧
    ∀ k, sims ≤ k → cpuCProp ev ops levels sims S k = S k :=
  ⟨gpuCProp_eq_cpuCProp ev ops levels sims bx by_ hbx hby S, fun k hk => by rw [cpuCProp_lane, if_neg (by omega)]⟩

/-! ### lanes, `c_prop(sims=k)` and data sets of WaveSim -/

/-- **lane position**: lane `j` of a propagation over `k` lanes and lane `j'` of a propagation over `k'` lanes (same rows and
    levels) agree when the two lanes start from the same memory and the evaluator treats them alike — whatever the other lanes
    hold, wherever the lane sits, however many lanes there are -/
theorem cprop_lane_position (ev ev' : Ev) (ops : List AOp) (levels : List (Nat × Nat)) (k k' j j' : Nat) (hj : j < k) (hj' : j' < k')
    (hev : ∀ o c, ev o j c = ev' o j' c) (S S' : Nat → LaneSt) (h : S j = S' j') :
    cpuCProp ev ops levels k S j = cpuCProp ev' ops levels k' S' j' := by
  rw [cpuCProp_lane, cpuCProp_lane, if_pos hj, if_pos hj', h, laneRun_congr ev ev' j j' hev]

/-- **`c_prop(sims=k)` = the first `k` lanes of the full run**: lane `j < k` of `c_prop(sims=k)`
    equals lane `j` of `c_prop(sims=k')` for every `k' > j`, and depends only on lane `j` of the state -/
theorem cprop_first_k (ev : Ev) (ops : List AOp) (levels : List (Nat × Nat)) (k k' j : Nat) (hj : j < k) (hj' : j < k')
    (S S' : Nat → LaneSt) (h : S j = S' j) :
    cpuCProp ev ops levels k S j = cpuCProp ev ops levels k' S' j :=
  cprop_lane_position ev ev ops levels k k' j j hj hj' (fun _ _ => rfl) S S' h

/-- **lane permutation** (WaveSim, an evaluator that does not look at the lane number — `evWave` with one configuration for
    all lanes): running on a state whose lanes are rearranged by `π` rearranges the results by `π` -/
theorem cprop_lane_permutation (ev : Ev) (hev : ∀ o x x' c, ev o x c = ev o x' c) (ops : List AOp) (levels : List (Nat × Nat))
    (sims : Nat) (π : Nat → Nat) (hπ : ∀ j, j < sims → π j < sims) (S : Nat → LaneSt) (j : Nat) (hj : j < sims) :
    cpuCProp ev ops levels sims (fun x => S (π x)) j = cpuCProp ev ops levels sims S (π j) :=
  cprop_lane_position ev ev ops levels sims sims j (π j) hj (hπ j hj) (fun o c => hev o j (π j) c) _ S rfl

/-- **data set per lane**: lane `k` of a propagation in which every lane has its own configuration
    (`cfg sim` = delays of the data set selected for lane `sim`) = lane `k` of a propagation with that configuration on all lanes -/
theorem dataset_lane (cfg : Nat → WCfg) (loc : Nat → Int) (ops : List AOp) (levels : List (Nat × Nat)) (sims k : Nat)
    (S : Nat → LaneSt) :
    cpuCProp (evWave cfg loc) ops levels sims S k = cpuCProp (evWave (fun _ => cfg k) loc) ops levels sims S k := by
  rw [cpuCProp_lane, cpuCProp_lane, laneRun_congr (evWave cfg loc) (evWave (fun _ => cfg k) loc) k k (fun _ _ => rfl)]

/-- the per-lane configuration `_wave_eval` uses: data set `selectDataset …` of lane `sim` (index 0 where the selection is
    outside the model) -/
def cfgSel (sets : Nat → WCfg) (nsets : Nat) (mode simctl0 : Nat → Nat) (seed : Nat) : Nat → WCfg :=
  fun sim => sets ((selectDataset nsets (mode sim) seed (simctl0 sim)).getD 0)

/-- **selection connected to the propagation**: with per-lane modes and choices (mixed modes allowed), lane `k` of the
    propagation equals lane `k` of the propagation that uses the data set `d` selected for lane `k` ALONE on all lanes -/
theorem dataset_lane_select (sets : Nat → WCfg) (nsets : Nat) (mode simctl0 : Nat → Nat) (seed : Nat) (loc : Nat → Int)
    (ops : List AOp) (levels : List (Nat × Nat)) (sims k d : Nat) (S : Nat → LaneSt)
    (hsel : selectDataset nsets (mode k) seed (simctl0 k) = some d) :
    cpuCProp (evWave (cfgSel sets nsets mode simctl0 seed) loc) ops levels sims S k =
      cpuCProp (evWave (fun _ => sets d) loc) ops levels sims S k := by
  rw [dataset_lane]
  simp only [cfgSel, hsel, Option.getD_some]

/-- mode 0 on all lanes: the whole run IS the run with data set `seed` alone -/
theorem dataset_alone (sets : Nat → WCfg) (nsets seed : Nat) (h1 : 1 < nsets) (hs : seed < nsets) (simctl0 : Nat → Nat)
    (loc : Nat → Int) (ops : List AOp) (levels : List (Nat × Nat)) (sims : Nat) (S : Nat → LaneSt) :
    cpuCProp (evWave (cfgSel sets nsets (fun _ => 0) simctl0 seed) loc) ops levels sims S =
      cpuCProp (evWave (fun _ => sets seed) loc) ops levels sims S := by
  have : cfgSel sets nsets (fun _ => 0) simctl0 seed = fun _ => sets seed := by
    funext sim; simp only [cfgSel, select_mode0 nsets seed _ h1 hs, Option.getD_some]
  rw [this]

/-- **memory reuse of WaveSim** (corollary of `C03.wave_memory_sound`): two accepted map records for the same netlist, `strip_forks`
    setting, rows and capacities (`c_reuse` off and on, or any two allocators), ANY two runs honouring the evaluator contract in
    ANY level-respecting orders: the region of every output slot reads as the same waveform — the results at the output slots do
    not depend on `c_reuse` -/
theorem wave_reuse_irrelevant (p1 p2 : MapIn) (hnet : p1.net = p2.net) (hstrip : p1.strip = p2.strip) (hops : p1.ops = p2.ops)
    (hcaps : p1.caps = p2.caps) (h1 : p1.check = none) (h2 : p2.check = none) (delay : Nat → Bool → Bool → Int)
    (sched1 sched2 : List Nat) (hs1 : p1.schedOKB sched1 = true) (hs2 : p2.schedOKB sched2 = true)
    (m1 m1' m2 m2' : Int → T) (env0 : Nat → Wv)
    (h01 : ∀ x ∈ p1.tracked, (∀ o ∈ p1.ops, o.out ≠ x) → rdWave (p1.loc x) (p1.cap x) m1 = env0 x)
    (h02 : ∀ x ∈ p2.tracked, (∀ o ∈ p2.ops, o.out ≠ x) → rdWave (p2.loc x) (p2.cap x) m2 = env0 x)
    (hr1 : WaveRun p1 (wcfg p1 delay) (MapSound.schedOps p1 sched1) m1 m1')
    (hr2 : WaveRun p2 (wcfg p2 delay) (MapSound.schedOps p2 sched2) m2 m2') :
    ∀ j s, (j, s) ∈ p1.ppoSrcs → rdWave (p1.loc j) (p1.cap j) m1' = rdWave (p2.loc j) (p2.cap j) m2' := by
  obtain ⟨net1, strip1, ops1, st1, l1, c1, n1, cm1⟩ := p1
  obtain ⟨net2, strip2, ops2, st2, l2, c2, n2, cm2⟩ := p2
  simp only at hnet hstrip hops hcaps
  subst hnet hstrip hops hcaps
  intro j s hjs
  rw [C03.wave_memory_sound _ h1 delay sched1 hs1 m1 m1' env0 h01 hr1 j s hjs,
      C03.wave_memory_sound _ h2 delay sched2 hs2 m2 m2' env0 h02 hr2 j s hjs]
  rfl

/-! non-vacuity with the evaluator built from the waveform model (`evWave`): `10 = AND(0, 1)`, `11 = XOR(1, 2)` (level 1),
`12 = OR(10, 11)` (level 2); signal `i` lives at address `8 i` with capacity 8, slot 9 is the constant 0; activity of 10 and 12
is accumulated in `abuf[0]` with weights (1, 1) and (2, 3); three lanes with different stimuli; 2 × 2 blocks -/
def pathOps : List AOp := [⟨⟨0x8888, 10, 0, 1, 9, 9⟩, 0, 1, 1⟩, ⟨⟨0x6666, 11, 1, 2, 9, 9⟩, -1, 0, 0⟩, ⟨⟨0xEEEE, 12, 10, 11, 9, 9⟩, 0, 2, 3⟩]
def pathCfg : WCfg := ⟨fun l _ _ => if l = 1 then 3 else 2, fun _ => 8⟩
def pathEv : Ev := evWave (fun _ => pathCfg) (fun i => 8 * i)
def pathS0 : Nat → LaneSt := fun x =>
  ⟨write3 (write3 (write3 (fun _ => T.tmax) 0 (gpuCells false true (T.fin (5 + x)))) 8 (gpuCells (x == 1) (x != 1) (T.fin 20)))
      16 (gpuCells true false (T.fin (9 + 2 * x))), fun _ => 0⟩

example : gpuCProp pathEv pathOps [(0, 2), (2, 3)] 3 2 2 pathS0 = cpuCProp pathEv pathOps [(0, 2), (2, 3)] 3 pathS0 :=
  (c_prop_paths_agree pathEv pathOps [(0, 2), (2, 3)] 3 2 2 (by decide) (by decide) pathS0).1

example : readWave (rdCells (gpuCProp pathEv pathOps [(0, 2), (2, 3)] 3 2 2 pathS0 0).c 96 8) = ⟨[T.tmin, T.fin 13, T.fin 25], T.tmax⟩ ∧
    (gpuCProp pathEv pathOps [(0, 2), (2, 3)] 3 2 2 pathS0 0).ab 0 = 6 ∧
    readWave (rdCells (cpuCProp pathEv pathOps [(0, 2), (2, 3)] 3 pathS0 1).c 96 8) = ⟨[T.fin 10, T.fin 25], T.tmax⟩ ∧
    (cpuCProp pathEv pathOps [(0, 2), (2, 3)] 3 pathS0 1).ab 0 = 7 := by decide +kernel

/-- **what one evaluation leaves in memory, for the evaluator built from the waveform model**: delays ≥ 0, output capacity ≥ 4
    (`c_caps_min`), well-formed operand waveforms in the operand regions — the output region then reads back as `Wave.waveSem` of
    the operand waveforms read from memory (the op semantics all signal-level theorems of C03–C05 and C13 are about), the
    returned `(nrise, nfall)` is `Wave.waveCounts`, and no cell outside the output region has changed -/
theorem eval_reads_back (g : WCfg) (loc : Nat → Int) (o : OpRow) (sim : Nat) (c : Col)
    (hd : ∀ l p q, 0 ≤ g.delay l p q) (hc : 4 ≤ g.cap o.out)
    (hx : ∀ i ∈ o.ins, (readWave (rdCells c (loc i) (g.cap i))).ok) :
    readWave (rdCells (evWave (fun _ => g) loc o sim c).1 (loc o.out) (g.cap o.out)) =
      waveSem g ⟨o.lut, o.out, o.ins⟩ (o.ins.map fun i => readWave (rdCells c (loc i) (g.cap i))) ∧
    (evWave (fun _ => g) loc o sim c).2 =
      waveCounts g ⟨o.lut, o.out, o.ins⟩ (o.ins.map fun i => readWave (rdCells c (loc i) (g.cap i))) ∧
    ∀ a, ¬ inRegion loc g.cap o.out a → (evWave (fun _ => g) loc o sim c).1 a = c a :=
  evWave_reads_back g loc o sim c hd hc hx

/-- non-vacuity: the AND of the example on lane 0 (inputs rise at 5 and at 20, delays 2 and 3) -/
example : readWave (rdCells (pathEv ⟨0x8888, 10, 0, 1, 9, 9⟩ 0 (pathS0 0).c).1 80 8) =
    waveSem pathCfg ⟨0x8888, 10, [0, 1, 9, 9]⟩ ([0, 1, 9, 9].map fun i => readWave (rdCells (pathS0 0).c (8 * (i : Int)) 8)) :=
  (eval_reads_back pathCfg (fun i => 8 * i) ⟨0x8888, 10, 0, 1, 9, 9⟩ 0 (pathS0 0).c
    (by intro l p q; show (0 : Int) ≤ if l = 1 then 3 else 2; split <;> omega) (by decide)
    (by
      intro i hi
      simp only [OpRow.ins, List.mem_cons, List.not_mem_nil, or_false] at hi
      rcases hi with rfl | rfl | rfl | rfl <;> (simp only [Wv.ok, WfRem]; decide +kernel))).1
example : readWave (rdCells (pathEv ⟨0x8888, 10, 0, 1, 9, 9⟩ 0 (pathS0 0).c).1 80 8) = ⟨[T.fin 23], T.tmax⟩ := by decide +kernel

/-- **`level_any_thread_order`: a level under an ARBITRARY thread order** (a real GPU gives none). Every list of threads that is
    a permutation of the work items `(sim, op)` of the level leaves the same `c` and `abuf` as `level_eval_cpu`, for every
    evaluator whose reads are confined to `rd o` and whose writes to `wr o` (`EvLocal`), provided the ops of the level are
    pairwise footprint-independent (`OpsIndep`: the write set of each is disjoint from the read and write sets of the other —
    which the level partition and the memory map give for the rows that write signals, NOT for two rows of a level that both
    write the scratch slot: for the real tables see `level_any_thread_order_wave`). Work items of different lanes always commute;
    accumulation into a shared `abuf` cell commutes because it is an addition. -/
theorem level_any_thread_order (ev : Ev) (rd wr : OpRow → Int → Prop) (hev : EvLocal ev rd wr) (ops : List AOp)
    (opStart opStop sims : Nat)
    (hind : ∀ y y', y < opStop - opStart → y' < opStop - opStart → y ≠ y' →
      OpsIndep rd wr (ops.getD (opStart + y) default).op (ops.getD (opStart + y') default).op)
    (l : List (Nat × Nat)) (hl : l.Perm (cpuLoop sims (opStop - opStart))) (S : Nat → LaneSt) :
    runLanes (evalWork ev ops opStart) l S = cpuLevel ev ops opStart opStop 0 sims S := by
  -- the statement modulo a set of addresses (`level_any_order_modJ`), for the empty set
  funext k
  exact (level_any_order_modJ ev (fun _ => False) rd wr ops opStart opStop sims (fun _ _ => hev.opLocal _) (fun _ _ _ _ => id)
    (fun y y' hy hy' hne => ⟨fun x hx => ((hind y y' hy hy' hne).1 x hx).1, fun x hx hx' => ((hind y y' hy hy' hne).1 x hx).2 hx'⟩)
    l hl S k).eq_of_empty

/-- **… instantiated with the evaluator built from the waveform model, on tables as `SimOps` builds them.**
    Footprints of a row: the regions `c_locs[i] … + c_caps[i]` of the operand indices (read) and of the output index (written;
    cells behind the stored waveform are kept). Several rows of one level may write the scratch slot `t1 = tmp_idx` (every gate
    with an unconnected output, sim.py:198; `t2 = tmp2_idx`), so the whole memory is NOT order independent; the statement is
    about everything else. Hypotheses, all Boolean on `c_locs` / `c_caps` (`Model/LevelMem.lean`): output capacities ≥ 2;
    no row of the level reads a scratch region (`rowScrFreeB`); two different rows are independent modulo scratch
    (`pairIndepJB`: unless a row writes scratch, its output region is disjoint from the operand regions and — unless that one
    writes scratch — the output region of the other). Conclusion: every permutation of the (sim, op) work items leaves on every
    lane the same accumulators and the same memory cell at every address OUTSIDE the two scratch regions as `level_eval_cpu`.
    The hypotheses are consequences of the map certificate (`C07.level_conditions_of_certificate`; `C07.level_threads_any_order`
    is this theorem with `MapIn.check = none` in their place) and are evaluated on the real tables (driver `opsindep`). -/
theorem level_any_thread_order_wave (g : WCfg) (loc : Nat → Int) (t1 t2 : Nat) (ops : List AOp) (opStart opStop sims : Nat)
    (hcap : ∀ y, y < opStop - opStart → 2 ≤ g.cap (ops.getD (opStart + y) default).op.out)
    (hscr : ∀ y, y < opStop - opStart → rowScrFreeB loc g.cap t1 t2 (ops.getD (opStart + y) default).op = true)
    (hind : ∀ y y', y < opStop - opStart → y' < opStop - opStart → y ≠ y' →
      pairIndepJB loc g.cap t1 t2 (ops.getD (opStart + y) default).op (ops.getD (opStart + y') default).op = true)
    (l : List (Nat × Nat)) (hl : l.Perm (cpuLoop sims (opStop - opStart))) (S : Nat → LaneSt) (k : Nat) :
    (runLanes (evalWork (evWave (fun _ => g) loc) ops opStart) l S k).ab =
      (cpuLevel (evWave (fun _ => g) loc) ops opStart opStop 0 sims S k).ab ∧
    ∀ a, ¬ scrAddr loc g.cap t1 t2 a →
      (runLanes (evalWork (evWave (fun _ => g) loc) ops opStart) l S k).c a =
        (cpuLevel (evWave (fun _ => g) loc) ops opStart opStop 0 sims S k).c a :=
  level_any_order_wave_modscratch g loc t1 t2 ops opStart opStop sims hcap hscr hind l hl S k

/-- the WHOLE memory (scratch regions included), under the stronger footprint condition `opsIndepB` (output region of each row
    disjoint from the output AND operand regions of the other): holds for levels with at most one scratch writer and is FALSE
    for two rows writing the scratch slot (`example` below, and `C07.scrMap`) -/
theorem level_any_thread_order_wave_exact (g : WCfg) (loc : Nat → Int) (hcap : ∀ i, 2 ≤ g.cap i) (ops : List AOp)
    (opStart opStop sims : Nat)
    (hind : ∀ y y', y < opStop - opStart → y' < opStop - opStart → y ≠ y' →
      opsIndepB loc g.cap (ops.getD (opStart + y) default).op (ops.getD (opStart + y') default).op = true)
    (l : List (Nat × Nat)) (hl : l.Perm (cpuLoop sims (opStop - opStart))) (S : Nat → LaneSt) :
    runLanes (evalWork (evWave (fun _ => g) loc) ops opStart) l S = cpuLevel (evWave (fun _ => g) loc) ops opStart opStop 0 sims S :=
  level_any_thread_order _ _ _ (evWave_local g loc hcap) ops opStart opStop sims
    (fun y y' hy hy' hne => opsIndepB_sound (hind y y' hy hy' hne)) l hl S

/-- two rows writing the scratch slot 7: `opsIndepB` fails, `pairIndepJB` holds -/
example : opsIndepB (fun i => 8 * i) (fun _ => 8) ⟨0x8888, 7, 0, 1, 9, 9⟩ ⟨0x6666, 7, 1, 2, 9, 9⟩ = false ∧
    pairIndepJB (fun i => 8 * i) (fun _ => 8) 7 8 ⟨0x8888, 7, 0, 1, 9, 9⟩ ⟨0x6666, 7, 1, 2, 9, 9⟩ = true ∧
    rowScrFreeB (fun i => 8 * i) (fun _ => 8) 7 8 ⟨0x8888, 7, 0, 1, 9, 9⟩ = true := by decide

/-- non-vacuity: level 1 of the example (`10 = AND(0,1)`, `11 = XOR(1,2)`, regions of 8 cells, scratch slots 13, 14) with its six
    threads in a scrambled order -/
example : runLanes (evalWork pathEv pathOps 0) [(2, 1), (0, 0), (1, 1), (2, 0), (0, 1), (1, 0)] pathS0 =
    cpuLevel pathEv pathOps 0 2 0 3 pathS0 :=
  level_any_thread_order_wave_exact pathCfg (fun i => 8 * i) (fun _ => (by decide : 2 ≤ 8)) pathOps 0 2 3
    (by
      intro y y' hy hy' hne
      have h1 : y = 0 ∨ y = 1 := by omega
      have h2 : y' = 0 ∨ y' = 1 := by omega
      rcases h1 with rfl | rfl <;> rcases h2 with rfl | rfl
      · exact absurd rfl hne
      · decide
      · decide
      · exact absurd rfl hne)
    _ (by decide) pathS0

/-- non-vacuity of `level_any_thread_order_wave`: a level whose two rows BOTH write the scratch slot 13 (`pathOps` with the outputs
    renamed), six threads in a scrambled order -/
def scrOps : List AOp := [⟨⟨0x8888, 13, 0, 1, 9, 9⟩, 0, 1, 1⟩, ⟨⟨0x6666, 13, 1, 2, 9, 9⟩, -1, 0, 0⟩]
example (k : Nat) := level_any_thread_order_wave pathCfg (fun i => 8 * i) 13 14 scrOps 0 2 3 (fun _ _ => (by decide : 2 ≤ 8))
    (by
      intro y hy
      have h1 : y = 0 ∨ y = 1 := by omega
      rcases h1 with rfl | rfl <;> decide)
    (by
      intro y y' hy hy' hne
      have h1 : y = 0 ∨ y = 1 := by omega
      have h2 : y' = 0 ∨ y' = 1 := by omega
      rcases h1 with rfl | rfl <;> rcases h2 with rfl | rfl
      · exact absurd rfl hne
      · decide
      · decide
      · exact absurd rfl hne)
    [(2, 1), (0, 0), (1, 1), (2, 0), (0, 1), (1, 0)] (by decide) pathS0 k

/-! ### capture (`c_to_s`, `sd = 0`) -/

/-- **`capture_paths_agree`, one work item.** For every memory, region (`c_caps ≥ 1`) and capture time the index loop of
    `wave_capture_gpu` and the slice scan of `wave_capture_cpu` return the same record (initial value, earliest arrival, latest
    stabilisation, final value, captured value, overflow flag), and it is the capture record `captureWv` of the waveform the
    region encodes (entries before the first cell `≥ TMAX`; cells behind it are not looked at) — whose meaning is
    `C13.capture_faithful`. -/
theorem capture_paths_agree (c : Col) (loc : Int) (len : Nat) (hlen : 0 < len) (time : T) :
    gpuCapture c loc len time = cpuCapture c loc len time ∧
    cpuCapture c loc len time = captureWv (readWave (rdCells c loc len)) time := by
  refine ⟨capture_paths c loc len hlen time, ?_⟩
  show capOf ((rdCells c loc len).head? == some T.tmin) ((rdCells c loc len).foldl (scanStep time) scanInit) = _
  unfold captureWv capOf
  obtain ⟨h1, h2⟩ := scan_spec time (rdCells c loc len) { eat := T.tmax, lst := T.tmin, final := false, val := false }
  simp only [scanInit] at *
  rw [h1, h2, head_readWave]

/-- whole arrays: tables in which every state-element row has (P)PO memory and captured regions are not empty — the kernel
    launch writes, on every lane `x < sims`, exactly the rows and records the CPU loops write -/
theorem c_to_s_paths_agree (tb : Tab) (time : T) (sims bx by_ : Nat) (hbx : 0 < bx) (hby : 0 < by_) (c : Nat → Col)
    (res : Nat → Nat → Option Cap) (hio : tb.nIo ≤ tb.sLen) (hrows : stateRowsCapturedB tb = true)
    (hcap : capsPositiveB tb = true) (x : Nat) (hx : x < sims) :
    gpuCToS tb time sims bx by_ c res x = cpuCToS tb time (c x) (res x) := by
  funext y
  rw [gpuCToS_spec tb time sims bx by_ hbx hby, cpuCToS_spec]
  by_cases h : y < tb.sLen ∧ 0 ≤ tb.ppoLoc y
  · have hm : y ∈ cpuCaptureRows tb := (mem_cpuCaptureRows tb y).mpr (by
      by_cases hn : y < tb.nIo
      · exact Or.inl ⟨hn, h.2⟩
      · exact Or.inr ⟨by omega, h.1⟩)
    rw [if_pos ⟨hx, h⟩, if_pos hm, capture_paths _ _ _ (capsPositiveB_sound hcap y h.1 h.2)]
  · rw [if_neg (fun g => h g.2), if_neg (fun g => h (((mem_cpuCaptureRows tb y).mp g).elim
      (fun a => ⟨by omega, a.2⟩) (fun a => ⟨a.2, stateRowsCapturedB_sound hrows y a.1 a.2⟩)))]

/-- non-vacuity: a region `[TMIN, 4, 9, TMAX_OVL]` captured at 6, and the captured rows of `pathTab` -/
example : gpuCapture (fun a => [T.tmin, T.fin 4, T.fin 9, T.tovl].getD (a - 24).toNat T.tmax) 24 4 (T.fin 6) =
    { init := true, eat := T.fin 4, lst := T.fin 9, final := true, val := false, ovl := true } := by decide +kernel
example : stateRowsCapturedB pathTab = true ∧ capsPositiveB pathTab = true ∧
    (List.range 5).map (fun y => (gpuCToS pathTab T.tmax 3 2 3 pathC (fun _ _ => none) 1 y).isSome) = [false, true, true, true, false] := by
  decide +kernel

/-! ### one simulation: `s_to_c`, `c_prop`, `c_to_s` on each class -/

/-- `WaveSim`: assignment, propagation, capture; returns the final lanes of `c` / `abuf` and the captured records -/
def cpuSimulate (tb : Tab) (sims : Nat) (ev : Ev) (ops : List AOp) (levels : List (Nat × Nat)) (time : T)
    (s : Nat → Nat → SRow) (c : Nat → Col) (ab : Nat → Int → Int) (res : Nat → Nat → Option Cap) :
    (Nat → LaneSt) × (Nat → Nat → Option Cap) :=
  let c1 := cpuSToCAll tb sims s c
  let S := cpuCProp ev ops levels sims (fun x => ⟨c1 x, ab x⟩)
  (S, fun x => if x < sims then cpuCToS tb time (S x).c (res x) else res x)

/-- `WaveSimCuda`: the same three steps through the kernels -/
def gpuSimulate (tb : Tab) (den sims bx by_ : Nat) (ev : Ev) (ops : List AOp) (levels : List (Nat × Nat)) (time : T)
    (s : Nat → Nat → SRow) (c : Nat → Col) (ab : Nat → Int → Int) (res : Nat → Nat → Option Cap) :
    (Nat → LaneSt) × (Nat → Nat → Option Cap) :=
  let c1 := gpuSToC tb den sims bx by_ s c
  let S := gpuCProp ev ops levels sims bx by_ (fun x => ⟨c1 x, ab x⟩)
  (S, gpuCToS tb time sims bx by_ (fun x => (S x).c) res)

/-- **one whole simulation on the two classes**: under the table hypotheses of the three steps and logic values `0` or
    `≥ 1/2`, `WaveSimCuda` (every block shape) ends with the same `c`, the same `abuf` and the same captured records on
    every row and lane as `WaveSim` — for every evaluator function, op table, level table, capture time and previous
    contents of all arrays -/
theorem simulate_paths_agree (tb : Tab) (den sims bx by_ : Nat) (hbx : 0 < bx) (hby : 0 < by_) (hden : 0 < den)
    (ev : Ev) (ops : List AOp) (levels : List (Nat × Nat)) (time : T)
    (s : Nat → Nat → SRow) (c : Nat → Col) (ab : Nat → Int → Int) (res : Nat → Nat → Option Cap) (hio : tb.nIo ≤ tb.sLen)
    (hdisj : regionsDisjointB tb = true) (hflags : flagsOKB tb den sims s = true)
    (hrows' : stateRowsCapturedB tb = true) (hcap : capsPositiveB tb = true) :
    gpuSimulate tb den sims bx by_ ev ops levels time s c ab res = cpuSimulate tb sims ev ops levels time s c ab res := by
  unfold gpuSimulate cpuSimulate
  simp only
  rw [s_to_c_paths_agree tb den sims bx by_ hbx hby hden s c hio hdisj hflags,
    (c_prop_paths_agree ev ops levels sims bx by_ hbx hby _).1]
  congr 1
  funext x
  by_cases hx : x < sims
  · rw [if_pos hx]
    exact c_to_s_paths_agree tb time sims bx by_ hbx hby _ res hio hrows' hcap x hx
  · rw [if_neg hx]
    funext y
    rw [gpuCToS_spec tb time sims bx by_ hbx hby]
    exact if_neg (fun h => hx h.1)

/-! non-vacuity: index 0 = constant 0, 1 = (P)PI slot of the input (row 0), 2 = (P)PI slot of the flip-flop (row 2),
`3 = AND(1, 2)`, captured by the output (row 1) and by the flip-flop; regions of 8 cells at `8 i`; the memory holds stale data
everywhere except in the constant's region; two lanes, capture at time 9 -/
def simTab : Tab :=
  { sLen := 3, nIo := 2, cLen := 32, ppiLoc := fun y => [8, -1, 16].getD y (-1), ppoLoc := fun y => [-1, 24, 24].getD y (-1), ppoCap := fun _ => 8 }
def simEv : Ev := evWave (fun _ => ⟨fun _ _ _ => 2, fun _ => 8⟩) (fun i => 8 * i)
def simOps : List AOp := [⟨⟨0x8888, 3, 1, 2, 0, 0⟩, 0, 1, 1⟩]
def simS : Nat → Nat → SRow := fun x y => ⟨if y = 0 then 0 else 4, T.fin (5 + x + 3 * y), if y = 0 then 4 else if x = 1 then 4 else 0, 0⟩
def simC : Nat → Col := fun x a => if a < 8 then T.tmax else T.fin (100 * x + a)

example : gpuSimulate simTab 4 2 2 2 simEv simOps [(0, 1)] (T.fin 9) simS simC (fun _ _ => 0) (fun _ _ => none) =
    cpuSimulate simTab 2 simEv simOps [(0, 1)] (T.fin 9) simS simC (fun _ _ => 0) (fun _ _ => none) :=
  simulate_paths_agree simTab 4 2 2 2 (by decide) (by decide) (by decide) simEv simOps [(0, 1)] (T.fin 9) simS simC _ _
    (by decide) (by decide) (by decide) (by decide) (by decide)

/-- … lane 0: the AND output rises at 7 and falls at 13 (captured value at 9: 1, one rise + one fall accumulated); behind the
    terminator the stale cells are still there -/
example : (gpuSimulate simTab 4 2 2 2 simEv simOps [(0, 1)] (T.fin 9) simS simC (fun _ _ => 0) (fun _ _ => none)).2 0 1 =
      some { init := false, eat := T.fin 7, lst := T.fin 13, final := false, val := true, ovl := false } ∧
    ((gpuSimulate simTab 4 2 2 2 simEv simOps [(0, 1)] (T.fin 9) simS simC (fun _ _ => 0) (fun _ _ => none)).1 0).ab 0 = 2 ∧
    rdCells ((gpuSimulate simTab 4 2 2 2 simEv simOps [(0, 1)] (T.fin 9) simS simC (fun _ _ => 0) (fun _ _ => none)).1 0).c 24 5 =
      [T.fin 7, T.fin 13, T.tmax, T.fin 27, T.fin 28] := by decide +kernel

end CodePaths

end KV.C06
