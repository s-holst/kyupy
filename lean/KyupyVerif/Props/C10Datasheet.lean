import KyupyVerif.Props.C10
import KyupyVerif.Proofs.InstCertChk
/-! # C10 (continued) — composition with C19: resolved library cells carry their DATASHEET function

`C10.resolve_sem` (Props/C10.lean) gives every library cell of a circuit the RELATIONAL meaning of its implementation circuit
(`ImplMatches`: there is a consistent labelling of the implementation whose ports carry the values at the instance's pins).
C19 (`C19.family_function`, Props/C19Fun.lean) proves, on the generated tables of the five built-in libraries, that the REAL `SimOps`
program of every implementation of a listed family computes the datasheet function.  This file composes them.

* **Glue (Proofs/ImplDatasheet.lean, ImplDescribes.lean, ImplDatasheet2.lean), any netlist:** for a well-formed implementation
  netlist with a topological order in which every line is written by a row (acyclic, known kinds: `Net.wfB`, `orderOKB`,
  `forksOKB`, `linesDrivenB`), the node-indexed consistent labellings `ConsN` of C10 exist and are unique: they are the result of
  the `SimOps` program (`consN_exec`, `consN_unique`).  Hence, for an instance with all input pins connected (`pinsFitB`) of a cell
  whose table row describes that netlist (`describesB`, Model/ImplCert.lean: op rows = `genOps` rows, port list = `io_nodes` with
  names, driven flags, (P)PI slots / captured lines, no state element, distinct ports — i.e. the row IS `dump_techlib.describe` of
  the netlist), `ImplMatches` ⇔ "every connected output pin `k` carries `fs[k]` of the values on the input pins"
  (`implMatches_iff_datasheet`), `fs` = `DS.datasheet` of the row's family and pins, which `family_function` identifies with the
  program on ALL rows of the tables.
* **`resolve_datasheet_sem` (this file):** for every well-formed circuit, every library `lib` and result `h'` of
  `resolve_tlib_cells` under `resolveOKB` (as `resolve_sem`), if every library-cell instance has the certificate `InstCert`,
  then the consistent 2-valued labellings of `h'` are EXACTLY the labellings of the original circuit that are consistent outside
  the library cells and give each instance its datasheet function (`CellDatasheet`): (1) restriction, (2) extension.
* **`resolve_datasheet_sem_general`**: the same along the index maps of `resolve_sem_general` under `resolveGenOKB`
  (substitutions may remove lines, instances, dangling logic; host `wfNoTrail`) — the hypothesis `resolveOKB` of the first form holds
  on few generated cases, the general form raises the coverage (tags `ds-hyp:covered` / `ds-hyp:covered-general`).
* **Which cells are covered:** `InstCert` is decidable clause by clause; the harness (harness/c10.py, stream `ds-cert`, driver
  `dscell` + `netcert` + `netspeccert`) evaluates the cell-level clauses for every key of the five libraries on every run:
  all 656 keys of the listed families (AND/OR/NAND/NOR/XOR/XNOR, buffers, inverters, AO/OA/AOI/OAI, multiplexers, half/full
  adders) pass; the 293 keys outside the listed families (sequential, tri-state, isolation, clock gating, decoders, ties, …) and
  the 77 cells without any line (fillers, antennas, …) are not covered.  The instance-level clause `pinsFitB` (all input pins
  connected, as many as input ports) is evaluated on every generated `resolve` case (tag `ds-hyp`).
* **Not theorem:** that the netlist dump handed to the model is the implementation circuit whose `SimOps` rows were dumped into
  the tables — this is exactly `describesB`, evaluated (not proved) per cell against the real library objects; that the real
  `resolve_tlib_cells` is `resolveCells` (exact correspondence, harness/c10.py). -/
namespace KV.C10
open KV KV.Transform KV.TL KV.DS

/-- **resolve_datasheet_sem.** `resolve_tlib_cells` when every substitution removes nothing (`resolveOKB`) and every library-cell
    instance is certified (`InstCert`: combinational cell of a listed family, implementation acyclic and described by its row
    of the generated library tables, all input pins connected; `row kind` is that row, `ord kind` a topological order of the
    implementation): the result is well-formed with the same ports, and
    **(1)** every consistent 2-valued labelling `v'` of the result is, on the original lines, consistent for the original circuit
    outside the library cells, and every connected output pin `k` of every library-cell instance carries
    `datasheet family pins [k] (values on the instance's input pins)` (`CellDatasheet`);
    **(2)** conversely every labelling of the original circuit that is consistent outside the library cells and gives every
    instance its datasheet function extends to a consistent labelling of the result (same values on the original lines, same
    assignment on the other nodes). -/
theorem resolve_datasheet_sem (lib : Lib) (row : String → Cell) (ord : String → List Nat) (h h' : NNet)
    (hw : h.wf = true) (hok : resolveOKB lib h.keys h = true) (he : resolveCells lib h = some h')
    (hcert : ∀ c, c < h.net.nodes.size → (lib.find (h.net.node c).kind).isSome = true → InstCert lib row ord h c) :
    h'.wf = true ∧ h'.net.io = h.net.io ∧
    (∀ an' v' : Nat → Bool, ConsOff h' (fun _ => False) false (!·) prim2 an' v' →
      ConsOff h (fun x => x < h.net.nodes.size ∧ (lib.find (h.net.node x).kind).isSome = true) false (!·) prim2 an' v' ∧
      ∀ c, c < h.net.nodes.size → (lib.find (h.net.node c).kind).isSome = true → CellDatasheet row h c v') ∧
    (∀ an v : Nat → Bool,
      ConsOff h (fun x => x < h.net.nodes.size ∧ (lib.find (h.net.node x).kind).isSome = true) false (!·) prim2 an v →
      (∀ c, c < h.net.nodes.size → (lib.find (h.net.node c).kind).isSome = true → CellDatasheet row h c v) →
      ∃ an' v', ConsOff h' (fun _ => False) false (!·) prim2 an' v' ∧ (∀ l, l < h.net.lines.size → v' l = v l) ∧
        (∀ d, d < h.net.nodes.size → (lib.find (h.net.node d).kind).isSome = false → an' d = an d)) := by
  obtain ⟨r1, r2, _, _, _, _, fw, bw⟩ := resolve_sem lib h h' hw hok he false (!·) prim2
  refine ⟨r1, r2, ?_, ?_⟩
  · intro an' v' hc
    obtain ⟨g1, g2⟩ := fw an' v' hc
    exact ⟨g1, fun c hc1 hc2 => (cell_datasheet_iff (hcert c hc1 hc2) v').mp (g2 c hc1 hc2)⟩
  · intro an v hc hds
    exact bw an v hc (fun c hc1 hc2 => (cell_datasheet_iff (hcert c hc1 hc2) v).mpr (hds c hc1 hc2))

/-- **resolve_datasheet_sem, general form** (the first form needs `resolveOKB`, which few real cases satisfy).
    `resolve_tlib_cells` through substitutions that may REMOVE lines, instances and dangling logic (`resolveGenOKB`, as
    `resolve_sem_general`; host well-formed up to trailing `None`s), every library-cell instance certified (`InstCert`): the result
    is well-formed up to trailing `None`s, and along the index maps `ρ` of `resolve_sem_general` it has the ports of the original
    circuit and every node that is no library cell, with kind, name and input lines; **(1)** every consistent 2-valued labelling
    of the result is the restriction of a labelling of the WHOLE original circuit that is consistent outside the library cells and
    gives every instance its datasheet function (`CellDatasheet`: every connected output pin `k` carries
    `datasheet family pins [k]` of the values on the input pins); **(2)** conversely every such labelling of the original circuit
    restricts/extends to a consistent labelling of the result.  The success of the model (`resolveCells … = some h'`) is CONTAINED in `resolveGenOKB` by its definition (it runs
    `substitute` along the loop; `resolveGenOKB_unfold`, Props/C10Library.lean) and is kept as a hypothesis only to name `h'`. -/
theorem resolve_datasheet_sem_general (lib : Lib) (row : String → Cell) (ord : String → List Nat) (h h' : NNet)
    (hw : h.wfNoTrail = true) (hok : resolveGenOKB lib h.keys h = true) (he : resolveCells lib h = some h')
    (hcert : ∀ c, c < h.net.nodes.size → (lib.find (h.net.node c).kind).isSome = true → InstCert lib row ord h c) :
    h'.wfNoTrail = true ∧ ∃ ρ : Ren,
      h'.net.io.map ρ.node = h.net.io ∧
      (∀ d, d < h.net.nodes.size → (lib.find (h.net.node d).kind).isSome = false →
        ∃ j, j < h'.net.nodes.size ∧ ρ.node j = d ∧ (h'.net.node j).kind = (h.net.node d).kind ∧
          h'.names.getD j "" = h.names.getD d "" ∧ ∀ k, ((h'.net.node j).inPin k).map ρ.line = (h.net.node d).inPin k) ∧
      (∀ an' v' : Nat → Bool, ConsOff h' (fun _ => False) false (!·) prim2 an' v' →
        ∃ an v, ConsOff h (fun x => x < h.net.nodes.size ∧ (lib.find (h.net.node x).kind).isSome = true) false (!·) prim2 an v ∧
          (∀ c, c < h.net.nodes.size → (lib.find (h.net.node c).kind).isSome = true → CellDatasheet row h c v) ∧
          (∀ l', l' < h'.net.lines.size → ρ.line l' < h.net.lines.size → v (ρ.line l') = v' l') ∧
          (∀ j, j < h'.net.nodes.size → ρ.node j < h.net.nodes.size → an (ρ.node j) = an' j)) ∧
      (∀ an v : Nat → Bool,
        ConsOff h (fun x => x < h.net.nodes.size ∧ (lib.find (h.net.node x).kind).isSome = true) false (!·) prim2 an v →
        (∀ c, c < h.net.nodes.size → (lib.find (h.net.node c).kind).isSome = true → CellDatasheet row h c v) →
        ∃ an' v', ConsOff h' (fun _ => False) false (!·) prim2 an' v' ∧
          (∀ l', l' < h'.net.lines.size → ρ.line l' < h.net.lines.size → v' l' = v (ρ.line l')) ∧
          (∀ j, j < h'.net.nodes.size → ρ.node j < h.net.nodes.size → an' j = an (ρ.node j))) := by
  obtain ⟨r1, ρ, r2, _, _, r5, fw, bw⟩ := resolve_sem_general lib h h' hw hok he false (!·) prim2
  refine ⟨r1, ρ, r2, r5, ?_, ?_⟩
  · intro an' v' hc
    obtain ⟨an, v, g1, g2, g3, g4⟩ := fw an' v' hc
    exact ⟨an, v, g1, fun c hc1 hc2 => (cell_datasheet_iff (hcert c hc1 hc2) v).mp (g2 c hc1 hc2), g3, g4⟩
  · intro an v hc hds
    exact bw an v hc (fun c hc1 hc2 => (cell_datasheet_iff (hcert c hc1 hc2) v).mpr (hds c hc1 hc2))

/-! ## non-vacuity: the multiplexer `MX2X1` of GSC180 (pins `A`, `B`, `S0` → `Y`; the select pin is found by NAME)

`dsMux` is the canonical dump of the real implementation circuit `GSC180.cells['MX2X1'][0]` (bench style: port forks `A`, `B`,
`S0`, `Y` and the cell `Y = MUX21(A, B, S0)`), `dsOrder` its real topological order, `dsRow` the row of the generated tables
(chunk 0, row 15); `dsHost` instantiates it between three inputs and an output. -/
deriving instance DecidableEq for NodeD
deriving instance DecidableEq for Net
deriving instance DecidableEq for NNet
deriving instance DecidableEq for Shape

def dsMux : NNet :=
  { net := { nodes := #[⟨"__fork__", [], [some 1]⟩, ⟨"__fork__", [], [some 2]⟩, ⟨"__fork__", [], [some 3]⟩,
                        ⟨"__fork__", [some 0], []⟩, ⟨"MUX21", [some 1, some 2, some 3], [some 0]⟩],
             lines := #[⟨4, 0, 3, 0⟩, ⟨0, 0, 4, 0⟩, ⟨1, 0, 4, 1⟩, ⟨2, 0, 4, 2⟩], io := [0, 1, 2, 3] },
    names := #["A", "B", "S0", "Y", "Y"] }
def dsOrder : List Nat := [0, 1, 2, 4, 3]
def dsHost : NNet :=
  { net := { nodes := #[⟨"input", [], [some 0]⟩, ⟨"input", [], [some 1]⟩, ⟨"input", [], [some 2]⟩,
                        ⟨"MX2X1", [some 0, some 1, some 2], [some 3]⟩, ⟨"output", [some 3], []⟩],
             lines := #[⟨0, 0, 3, 0⟩, ⟨1, 0, 3, 1⟩, ⟨2, 0, 3, 2⟩, ⟨3, 0, 4, 0⟩], io := [0, 1, 2, 4] },
    names := #["a", "b", "s", "u1", "z"] }
def dsLib : Lib := [("MX2X1", dsMux)]
def dsRow : Cell := Gen.techChunk0[15]'(by decide)

example : dsRow.tmpl = c!"MX2X1" ∧ dsRow.inNames = [c!"A", c!"B", c!"S0"] ∧ dsRow.outNames = [c!"Y"] := by decide +kernel

theorem dsRow_mem : dsRow ∈ Tech.cells :=
  List.mem_flatten.mpr ⟨Gen.techChunk0, by rw [Tech.chunks_eq]; exact List.mem_cons_self, List.getElem_mem _⟩

/-- the certificates of the host's library-cell nodes, by the driver's check `certsB` (one kernel evaluation) -/
theorem ds_certs : ∀ c, c < dsHost.net.nodes.size → (dsLib.find (dsHost.net.node c).kind).isSome = true →
    InstCert dsLib (fun _ => dsRow) (fun _ => dsOrder) dsHost c :=
  KV.Drv.VerilogLib.certsB_sound dsLib (fun _ => some dsRow) (fun _ => dsOrder) dsHost (fun _ _ h => Option.some.inj h ▸ dsRow_mem)
    (by decide +kernel)

/-- the other hypotheses of `resolve_datasheet_sem` hold, the result exists, and direction (1) is not vacuous: the result has a
    consistent labelling (the evaluator's) for the assignment `a = 1, b = 0, s = 1` -/
example : dsHost.wf = true ∧ resolveOKB dsLib dsHost.keys dsHost = true ∧
    (resolveCells dsLib dsHost).map (fun r => (r.wf, r.net.nodes.size,
      consistentB r.net false (!·) prim2 (fun j => j == 0 || j == 2) (evalAll r.net false (!·) prim2 (fun j => j == 0 || j == 2)))) =
      some (true, 5, true) := by decide +kernel

/-- the theorem applied: for the circuit the model of `resolve_tlib_cells` returns, every consistent labelling gives instance
    `u1` its datasheet meaning -/
example (h' : NNet) (he : resolveCells dsLib dsHost = some h') (an' v' : Nat → Bool)
    (hc : ConsOff h' (fun _ => False) false (!·) prim2 an' v') : CellDatasheet (fun _ => dsRow) dsHost 3 v' :=
  ((resolve_datasheet_sem dsLib (fun _ => dsRow) (fun _ => dsOrder) dsHost h' (by decide +kernel) (by decide +kernel) he
    ds_certs).2.2.1 an' v' hc).2 3 (by decide +kernel) (by decide +kernel)

/-- … which is: family `mux 2`, and the function of the output pin on the rows `(A, B, S0)` = 000, 100, 010, 110, 001, 101,
    011, 111 is `S0 ? B : A`; the value list handed to it is `[v' 0, v' 1, v' 2]`, the output line is line 3 -/
example : classify (baseName (dsHost.net.node 3).kind.toList) = some (.mux 2) ∧
    (datasheet (.mux 2) dsRow.inNames dsRow.outNames).map (fun fs => fs.map fun f => (allRows 3).map f) =
      some [[false, true, false, true, false, false, true, true]] ∧
    instOut dsHost 3 0 = some 3 ∧ (dsHost.net.node 3).ins = [some 0, some 1, some 2] := by decide +kernel

end KV.C10
