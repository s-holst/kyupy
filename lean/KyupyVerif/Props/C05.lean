import KyupyVerif.Proofs.Capture
import KyupyVerif.Proofs.AllCircWave
import KyupyVerif.Proofs.WaveMemDemo
/-! # C05 — 8-valued logic simulation conservatively predicts timing simulation

`semL8` = what the real 8-valued `LogicSim.c_prop` chain computes for an op row (generated),
`waveSem` = the transcription of `_wave_eval` (tied by correspondence, see C03).
Relation `Abs v w`: the 8-valued value `v` abstracts the waveform `w`.

**Theorem, per program:** `gate_abstracts`, `sim8_predicts` (every op program over known op codes, `cfg.Good`).
**Theorem, per NETLIST** (part "ALL circuits"): for every well-formed netlist (`Net.wfB`), every topological order
(`orderOKB`), the op program of the `SimOps` model with the generated prefix table, delays ≥ 0, capacities ≥ 4 on the lines
and the scratch slot: `sim8_predicts_all_circuits` / `sim8_predicts_stimulus_all_circuits` (stimulus over {0, 1, R, F} with
any times) — `Abs` between the LogicSim result and the WaveSim waveform on every signal; `predicts_solutions_all_circuits`
— the same between ANY solution of the 8-valued gate equations in the documented algebra and ANY solution of the waveform
gate equations (no execution order); `sim8_predicts_all_circuits_stripped` — WaveSim with `strip_forks` (eight-index rows),
on every signal that is not a stripped branch, no hypothesis on fork delays. `KnownProg` and `cfg.Good` are discharged
(`genOps_known`, `good_all_circuits`). **Correspondence (not theorem):** that the real `SimOps.__init__` produces the rows of
the model (C01/C08) and that `wave_eval_cpu` is `waveSem` (C03); the domain hypotheses `wfB`, `orderOKB`, `forksOKB` are
evaluated by the driver on every real circuit and order.
**Memory level** (last section, see the header of Props/C03.lean for the memory model): `sim8_predicts_mem` — for any map
the certificate accepts, after ANY propagation on the real memory layout the 8-valued value `LogicSim` computes for the
captured signal abstracts the waveform found in the region of the output slot, and a hazard-free constant means the captured
`s[4]`, `s[5]` are the "no transition" sentinels; `sim8_predicts_mem_all_circuits` — for the tables of the `SimOps` model of
every circuit (real prefix table: all op codes are known, `genOps_known`; certificate = `C08.simops_map_accepted`), with the
8-valued value taken from ANY solution of the netlist's 8-valued gate equations at the captured line. -/
namespace KV.C05
open KV KV.Sig KV.Wave

/-- `v` abstracts `w`: initial/final components agree and "no activity" means no finite transition -/
def Abs (v : V3) (w : Wv) : Prop :=
  v.isWave = true ∧ w.ok ∧ w.init = v.p1 ∧ w.final = v.p0 ∧ (v.p2 = false → Inactive w.ents)

theorem abs_default : Abs (default : V3) Wv.empty :=
  ⟨rfl, Wv.empty_ok, rfl, rfl, fun _ => Or.inl rfl⟩

theorem agrees_of_abs {v : V3} {w : Wv} (h : Abs v w) {b : Bool}
    (hb : Inactive w.ents → b = (w.ents.length % 2 == 1)) : agreesInactive v b = true := by
  unfold agreesInactive
  cases hp : v.p2 with
  | true => simp
  | false =>
    have hbb := hb (h.2.2.2.2 hp)
    have hf := h.2.2.2.1
    unfold Wv.final at hf
    simp [hbb, hf]

/-- gate level: the 8-valued result of the real dispatch abstracts the waveform the evaluator produces,
    for every known op, all delays ≥ 0, every capacity ≥ 4 -/
theorem gate_abstracts (cfg : WCfg) (op : Op) (hk : KnownCode op.code) (hd : ∀ l p q, 0 ≤ cfg.delay l p q)
    (hc : 4 ≤ cfg.cap op.out) (xs : List V3) (ws : List Wv) (hxy : All2 Abs xs ws) :
    Abs (semL8 op.code xs) (waveSem cfg op ws) := by
  obtain ⟨e, h8, _, h2⟩ := row_expr hk
  have hl : ∀ a b c d, lutBit4 op.code a b c d = e.eval specB a b c d := fun a b c d =>
    (semL2n_eq_spec hk [a, b, c, d]).symm.trans (h2 [a, b, c, d])
  have h0 : Abs (arg xs 0 default) (slot ws 0) := hxy.getD 0 _ _ abs_default
  have h1 : Abs (arg xs 1 default) (slot ws 1) := hxy.getD 1 _ _ abs_default
  have h2' : Abs (arg xs 2 default) (slot ws 2) := hxy.getD 2 _ _ abs_default
  have h3 : Abs (arg xs 3 default) (slot ws 3) := hxy.getD 3 _ _ abs_default
  have hO : OpOK cfg op ws := ⟨hd, hc, slot_ok (hxy.forall_right fun _ _ h => h.2.1)⟩
  obtain ⟨hi, hfin⟩ := waveSem_init_final hO
  have pl : ∀ (k : Bool) {v : V3}, v.isWave = true → planeIs k v (if k then v.p1 else v.p0) = true := fun k _ h => by
    simp [planeIs, h]
  have p0 := e.eval_rel (plane_rel false) (pl false h0.1) (pl false h1.1) (pl false h2'.1) (pl false h3.1)
  have p1 := e.eval_rel (plane_rel true) (pl true h0.1) (pl true h1.1) (pl true h2'.1) (pl true h3.1)
  simp only [planeIs, Bool.and_eq_true, beq_iff_eq, Bool.false_eq_true, ite_false, ite_true] at p0 p1
  rw [h8]
  refine ⟨p0.1, waveSem_ok hO, ?_, ?_, fun hq => ?_⟩
  · rw [hi, p1.2, hl, h0.2.2.1, h1.2.2.1, h2'.2.2.1, h3.2.2.1]
  · rw [hfin, p0.2, hl, h0.2.2.2.1, h1.2.2.2.1, h2'.2.2.2.1, h3.2.2.2.1]
  · -- without activity in the result, the formula has its final value on every vector that agrees with the inactive operands
    refine waveSem_inactive hO
      (e.eval spec8 (arg xs 0 default) (arg xs 1 default) (arg xs 2 default) (arg xs 3 default)).p0 fun b hb => ?_
    have ag : ∀ {v : V3} {w : Wv} {b : Bool} (h : Abs v w), (Inactive w.ents → b = (w.ents.length % 2 == 1)) →
        (v.isWave && agreesInactive v b) = true := fun h hb => by
      rw [h.1, agrees_of_abs h hb]; rfl
    have h := e.eval_rel inactive_rel (ag h0 fun hi => hb 0 hi) (ag h1 fun hi => hb 1 hi) (ag h2' fun hi => hb 2 hi)
      (ag h3 fun hi => hb 3 hi)
    rw [lutBit_eq, hl]
    simp only [agreesInactive, hq, Bool.false_or, Bool.and_eq_true, beq_iff_eq] at h
    exact h.2

/-- **every program over known op codes, every delay annotation ≥ 0, capacities ≥ 4**: if the stimulus
    values abstract the stimulus waveforms, then on every signal the 8-valued simulation abstracts the
    waveform of the timing simulation: same initial and final value, and no activity bit ⇒ no transition. -/
theorem sim8_predicts (cfg : WCfg) (ops : List Op) (hk : KnownProg ops) (hg : cfg.Good ops)
    (e8 : Nat → V3) (ew : Nat → Wv) (h : ∀ l, Abs (e8 l) (ew l)) (l : Nat) :
    Abs (exec semL8 ops e8 l) (simWave cfg ops ew l) :=
  execG_rel_on Abs (fun op => semL8 op.code) (waveSem cfg) ops
    (fun op hop xs ws hxy => gate_abstracts cfg op (hk op hop) hg.delay_nonneg (hg.cap_ge op hop) xs ws hxy) e8 ew h l

/-- stimuli over {0, 1, R, F} with any transition time abstract the waveforms `s_to_c` builds for them -/
theorem stim_abs (i f : Bool) (t : Int) : Abs ⟨f, i, i != f⟩ (stimWave i t f) := by
  cases i <;> cases f <;>
    simp [Abs, stimWave, V3.isWave, V3.unk, Wv.ok, WfRem, Wv.init, Wv.final, Inactive, T.isFin, T.isTerm]

/-- at a captured port: where 8-valued simulation reports a hazard-free constant, the timing simulator's
    earliest-arrival / latest-stabilisation entries are the "no transition" sentinels -/
theorem const_means_quiet {v : V3} {w : Wv} (h : Abs v w) (hc : v.p2 = false) (time : T) :
    (captureWv w time).eat = T.tmax ∧ (captureWv w time).lst = T.tmin ∧
    (captureWv w time).init = v.p1 ∧ (captureWv w time).final = v.p0 := by
  rw [capture_spec]
  refine ⟨?_, ?_, h.2.2.1, h.2.2.2.1⟩
  · rcases h.2.2.2.2 hc with he | he <;> simp [specEat, he]
  · rcases h.2.2.2.2 hc with he | he <;> simp [specLst, he]

/-! ## ALL circuits

The statements start from a NETLIST: every well-formed `net` (`Net.wfB`), every topological `order` (`orderOKB`), the op
program of the `SimOps` model with the generated prefix table; every delay annotation with delays ≥ 0 and every capacity
table with at least 4 entries on every line and on the scratch slot. `KnownProg` and `cfg.Good` are not hypotheses
(`genOps_known`, `good_all_circuits`). -/

/-- delays ≥ 0 and capacities ≥ 4 on the lines and the scratch slot give `cfg.Good` for the program of ANY netlist -/
theorem good_all_circuits (cfg : WCfg) (net : Net) (order : List Nat) (strip : Bool) (hwf : net.wfB = true)
    (ho : orderOKB net order = true) (hd : ∀ l p q, 0 ≤ cfg.delay l p q)
    (hc : ∀ l, l < net.lines.size → 4 ≤ cfg.cap l) (ht : 4 ≤ cfg.cap net.idx.tmp) :
    cfg.Good ((genOps Gen.kindPrefixes net order strip).map OpRow.toOp) :=
  good_of_caps Gen.kindPrefixes cfg net order strip hwf ho hd hc ht

/-- **every netlist, every topological order, every delay annotation ≥ 0, capacities ≥ 4**: if the 8-valued stimulus
    abstracts the stimulus waveforms, then on EVERY signal the result of the 8-valued logic simulation abstracts the
    waveform the timing simulation produces: same initial and final value, and no activity bit ⇒ no transition. -/
theorem sim8_predicts_all_circuits (net : Net) (order : List Nat) (hwf : net.wfB = true) (ho : orderOKB net order = true)
    (cfg : WCfg) (hd : ∀ l p q, 0 ≤ cfg.delay l p q) (hc : ∀ l, l < net.lines.size → 4 ≤ cfg.cap l)
    (ht : 4 ≤ cfg.cap net.idx.tmp) (e8 : Nat → V3) (ew : Nat → Wv) (h : ∀ l, Abs (e8 l) (ew l)) (l : Nat) :
    Abs (exec semL8 ((genOps Gen.kindPrefixes net order false).map OpRow.toOp) e8 l)
      (simWave cfg ((genOps Gen.kindPrefixes net order false).map OpRow.toOp) ew l) :=
  sim8_predicts cfg _ (genOps_known net order false) (good_all_circuits cfg net order false hwf ho hd hc ht) e8 ew h l

/-- … in terms of the gate equations, without an execution order: ANY solution `val8` of the netlist's 8-valued gate
    equations in the documented algebra (`specL8`; = the LogicSim result, `C02.sim8_all_circuits`) abstracts ANY solution
    `valw` of its waveform gate equations (`waveSem cfg`: `_wave_eval` with the delays of the operand lines and the capacity
    of the output line; = the WaveSim result, `C01.all_circuits_solution`) on every line -/
theorem predicts_solutions_all_circuits (net : Net) (order : List Nat) (hwf : net.wfB = true)
    (ho : orderOKB net order = true) (cfg : WCfg) (hd : ∀ l p q, 0 ≤ cfg.delay l p q)
    (hc : ∀ l, l < net.lines.size → 4 ≤ cfg.cap l) (ht : 4 ≤ cfg.cap net.idx.tmp)
    (e8 val8 : Nat → V3) (ew valw : Nat → Wv) (h : ∀ l, Abs (e8 l) (ew l))
    (h8 : SolvesJ (Jt net) (fun op => specL8 op.code) ((genOps Gen.kindPrefixes net order false).map OpRow.toOp) e8 val8)
    (hw : SolvesJ (Jt net) (waveSem cfg) ((genOps Gen.kindPrefixes net order false).map OpRow.toOp) ew valw)
    (x : Nat) (hx : Jt net x = false) : Abs (val8 x) (valw x) := by
  have hwo := genOps_WOJ Gen.kindPrefixes net order false hwf ho
  rw [(logic_all_circuits semL8 specL8 (fun _ hk xs => semL8_eq_spec hk xs) net order false hwf ho e8).2 val8 h8 x hx,
    solution_uniqueJ (Jt net) (waveSem cfg) _ hwo ew valw hw x hx]
  exact sim8_predicts_all_circuits net order hwf ho cfg hd hc ht e8 ew h x

/-- the stimulus of the property: every input carries 0, 1, a rise or a fall (`ini`, `fin`) at any time `t` -/
def stim8 (ini fin : Nat → Bool) : Nat → V3 := fun l => ⟨fin l, ini l, ini l != fin l⟩
def stimW (ini fin : Nat → Bool) (t : Nat → Int) : Nat → Wv := fun l => stimWave (ini l) (t l) (fin l)

/-- **the property as stated**: stimulus over {0, 1, R, F} with any transition times, every netlist, delays ≥ 0,
    capacities ≥ 4 -/
theorem sim8_predicts_stimulus_all_circuits (net : Net) (order : List Nat) (hwf : net.wfB = true)
    (ho : orderOKB net order = true) (cfg : WCfg) (hd : ∀ l p q, 0 ≤ cfg.delay l p q)
    (hc : ∀ l, l < net.lines.size → 4 ≤ cfg.cap l) (ht : 4 ≤ cfg.cap net.idx.tmp)
    (ini fin : Nat → Bool) (t : Nat → Int) (l : Nat) :
    Abs (exec semL8 ((genOps Gen.kindPrefixes net order false).map OpRow.toOp) (stim8 ini fin) l)
      (simWave cfg ((genOps Gen.kindPrefixes net order false).map OpRow.toOp) (stimW ini fin t) l) :=
  sim8_predicts_all_circuits net order hwf ho cfg hd hc ht _ _ (fun x => stim_abs (ini x) (fin x) (t x)) l

/-- **with `strip_forks` in the timing simulator** (domain hypothesis `forksOKB`, C06): the waveform model of the stripped
    WaveSim (eight-index rows: stems as value sources, branches as delay lines) is abstracted, on every signal that is not a
    stripped branch, by THE solution of the 8-valued gate equations of the un-stripped netlist. No hypothesis on fork
    delays or monotone stems is needed here (unlike `C06.strip_equiv_all_circuits`): the abstraction holds for every program. -/
theorem sim8_predicts_all_circuits_stripped (net : Net) (order : List Nat) (hwf : net.wfB = true)
    (ho : orderOKB net order = true) (hf : forksOKB net order = true) (cfg : WCfg) (hd : ∀ l p q, 0 ≤ cfg.delay l p q)
    (hc : ∀ l, l < net.lines.size → 4 ≤ cfg.cap l) (ht : 4 ≤ cfg.cap net.idx.tmp)
    (e8 val8 : Nat → V3) (ew : Nat → Wv) (h : ∀ l, Abs (e8 l) (ew l))
    (h8 : SolvesJ (Jt net) (fun op => specL8 op.code) ((genOps Gen.kindPrefixes net order false).map OpRow.toOp) e8 val8)
    (x : Nat) (hj : Jt net x = false) (hx : (stemsOf net true).getD x none = none) :
    Abs (val8 x) (simWave cfg ((genOps Gen.kindPrefixes net order true).map (fun r => redirect (stemList net) r.toOp)) ew x) := by
  rw [(logic_all_circuits semL8 specL8 (fun _ hk xs => semL8_eq_spec hk xs) net order false hwf ho e8).2 val8 h8 x hj,
    ← (strip_sig_logic Gen.kindPrefixes net order hwf ho hf semL8 default semL8_buf1 e8).1 x hx,
    ← exec8_redirect Gen.kindPrefixes net order e8]
  exact sim8_predicts cfg _ (genOps_known_map net order true (fun r => redirect (stemList net) r.toOp) (fun _ => rfl))
    (good_map cfg _ OpRow.toOp (fun r => redirect (stemList net) r.toOp) (fun _ => rfl)
      (good_all_circuits cfg net order true hwf ho hd hc ht)) e8 ew h x

/-! ### non-vacuity (netlists of `Proofs/AllCircDemo.lean` = `C01.demoNet`, `C06.forkNet`) -/

/-- delays 2 everywhere, capacity 8 -/
def demoCfg : WCfg := ⟨fun _ _ _ => 2, fun _ => 8⟩
theorem demoCfg_ok : (∀ l p q, 0 ≤ demoCfg.delay l p q) ∧ ∀ l, 4 ≤ demoCfg.cap l :=
  ⟨fun _ _ _ => by show (0 : Int) ≤ 2; decide, fun _ => by show 4 ≤ 8; decide⟩

/-- `demoNet` (AND2 + INV1): `a` (slot 9) rises at 5, `b` (slot 10) is 1 — the inverter output (line 5) falls, at 5 + 2·4 -/
def demoIni : Nat → Bool := fun l => l == 10
def demoFin : Nat → Bool := fun l => l == 9 || l == 10
example : exec semL8 ((genOps Gen.kindPrefixes Demo.demoNet Demo.demoOrder false).map OpRow.toOp) (stim8 demoIni demoFin) 5
      = ⟨false, true, true⟩ ∧
    simWave demoCfg ((genOps Gen.kindPrefixes Demo.demoNet Demo.demoOrder false).map OpRow.toOp)
      (stimW demoIni demoFin (fun _ => 5)) 5 = ⟨[T.tmin, T.fin 13], T.tmax⟩ := by decide +kernel
example (l : Nat) := sim8_predicts_stimulus_all_circuits Demo.demoNet Demo.demoOrder Demo.demo_hyps.1 Demo.demo_hyps.2.1
  demoCfg demoCfg_ok.1 (fun k _ => demoCfg_ok.2 k) (demoCfg_ok.2 _) demoIni demoFin (fun _ => 5) l

/-- … with `a` = 0 instead: the 8-valued result on the AND output (line 4) is a quiet 0 and the waveform has no transition -/
example : exec semL8 ((genOps Gen.kindPrefixes Demo.demoNet Demo.demoOrder false).map OpRow.toOp)
      (stim8 (fun _ => false) (fun l => l == 10)) 4 = V3.zero ∧
    simWave demoCfg ((genOps Gen.kindPrefixes Demo.demoNet Demo.demoOrder false).map OpRow.toOp)
      (stimW (fun _ => false) (fun l => l == 10) (fun _ => 5)) 4 = ⟨[], T.tmax⟩ := by decide +kernel

/-- `predicts_solutions_all_circuits`: its hypotheses hold for the simulation results themselves -/
example (x : Nat) (hx : Jt Demo.demoNet x = false) :=
  predicts_solutions_all_circuits Demo.demoNet Demo.demoOrder Demo.demo_hyps.1 Demo.demo_hyps.2.1
    demoCfg demoCfg_ok.1 (fun l _ => demoCfg_ok.2 l) (demoCfg_ok.2 _) (stim8 demoIni demoFin) _ (stimW demoIni demoFin (fun _ => 5)) _
    (fun _ => stim_abs _ _ _)
    (logic_all_circuits semL8 specL8 (fun _ hk xs => semL8_eq_spec hk xs) Demo.demoNet Demo.demoOrder false
      Demo.demo_hyps.1 Demo.demo_hyps.2.1 _).1
    (execG_solution (Jt Demo.demoNet) (waveSem demoCfg) _
      (genOps_WOJ Gen.kindPrefixes Demo.demoNet Demo.demoOrder false Demo.demo_hyps.1 Demo.demo_hyps.2.1) _) x hx

/-- the stripped statement applies to `forkNet` (OR output, line 7, is not a branch): `a` (slot 12) rises at 5, `b` (slot 13)
    falls at 40 (the fork rows carry delay 2 here, so the stripped waveform — rise at 9 — differs from the un-stripped one —
    rise at 13 —; both are abstracted by the same 8-valued RISE) -/
example := sim8_predicts_all_circuits_stripped Demo.forkNet Demo.forkOrder Demo.fork_hyps.1 Demo.fork_hyps.2.1
  Demo.fork_hyps.2.2.1 demoCfg demoCfg_ok.1 (fun l _ => demoCfg_ok.2 l) (demoCfg_ok.2 _)
  (stim8 (fun l => l == 13) (fun l => l == 12)) _ (stimW (fun l => l == 13) (fun l => l == 12) (fun l => if l = 12 then 5 else 40))
  (fun l => stim_abs _ _ _)
  (logic_all_circuits semL8 specL8 (fun _ hk xs => semL8_eq_spec hk xs) Demo.forkNet Demo.forkOrder false
    Demo.fork_hyps.1 Demo.fork_hyps.2.1 _).1 7 (by decide +kernel) (by decide +kernel)
example : simWave demoCfg ((genOps Gen.kindPrefixes Demo.forkNet Demo.forkOrder true).map
      (fun r => redirect (stemList Demo.forkNet) r.toOp))
      (stimW (fun l => l == 13) (fun l => l == 12) (fun l => if l = 12 then 5 else 40)) 7 = ⟨[T.fin 9], T.tmax⟩ ∧
    simWave demoCfg ((genOps Gen.kindPrefixes Demo.forkNet Demo.forkOrder false).map OpRow.toOp)
      (stimW (fun l => l == 13) (fun l => l == 12) (fun l => if l = 12 then 5 else 40)) 7 = ⟨[T.fin 13], T.tmax⟩ ∧
    exec semL8 ((genOps Gen.kindPrefixes Demo.forkNet Demo.forkOrder false).map OpRow.toOp)
      (stim8 (fun l => l == 13) (fun l => l == 12)) 7 = ⟨true, false, true⟩ := by decide +kernel

/-- non-vacuity: AND2 of a constant 1 and a rising input is a rise; of a constant 0 and a rise is a quiet 0 -/
example : semL8 34952 [⟨true, true, false⟩, ⟨true, false, true⟩, default, default] = ⟨true, false, true⟩ := by decide +kernel
example : semL8 34952 [⟨false, false, false⟩, ⟨true, false, true⟩, default, default] = ⟨false, false, false⟩ := by decide +kernel

/-! ## memory level -/
open KV.MapSound

/-- **8-valued prediction on memory.** Accepted map, `c_caps_min ≥ 4`, delays ≥ 0, rows over known op codes; `e8` abstracts
    the stimulus stored in the initial memory. After ANY propagation (any implementation honouring `WaveStep`, any
    level-respecting order) the value `v` that 8-valued logic simulation of the rows (operands resolved through the stems,
    as `LogicSim` runs them) computes for the captured signal abstracts the waveform `w` in the region of output slot `j`:
    same initial and final value, no activity bit ⇒ no transition; and where `v` is a hazard-free constant the captured
    earliest arrival / latest stabilisation are the sentinels and `s[3]`, `s[6]` are its components. -/
theorem sim8_predicts_mem (p : MapIn) (hc : p.check = none) (h4 : 4 ≤ p.capsMin) (delay : Nat → Bool → Bool → Int)
    (hd : ∀ l a b, 0 ≤ delay l a b) (hk : ∀ o ∈ p.ops, KnownCode o.lut) (m0 m' : Int → T) (env0 : Nat → Wv)
    (e8 : Nat → V3) (hst : Stimulus p m0 env0) (hpr : Propagated p delay m0 m') (habs : ∀ l, Abs (e8 l) (env0 l))
    (j s : Nat) (hjs : (j, s) ∈ p.ppoSrcs) (time : T) :
    let v := exec semL8 (p.ops.map (sigOp p)) e8 s
    let w := rdWave (p.loc j) (p.cap j) m'
    Abs v w ∧
    (v.p2 = false → (captureWv w time).eat = T.tmax ∧ (captureWv w time).lst = T.tmin ∧
      (captureWv w time).init = v.p1 ∧ (captureWv w time).final = v.p0) := by
  intro v w
  have hkp : KnownProg (waveProg p) := by
    intro op hop
    obtain ⟨o, ho, rfl⟩ := List.mem_map.1 hop
    exact hk o ho
  have key : Abs v w := by
    show Abs (exec semL8 _ e8 s) (rdWave _ _ m')
    rw [propagated_eq_sim p hc delay m0 m' env0 hst hpr j s hjs, ← exec_waveProg semL8 first4_semL8]
    exact sim8_predicts (wcfg p delay) (waveProg p) hkp (wcfg_good p hc h4 delay hd) e8 env0 habs s
  exact ⟨key, fun h2 => const_means_quiet key h2 time⟩

/-- **all circuits.** The map record of the `SimOps` model with the real prefix table for ANY well-formed netlist,
    topological order, `strip_forks` / `c_reuse` setting, capacity vector, `c_caps_min ≥ 4`; `v8` ANY solution of the netlist's
    8-valued gate equations (rows of the un-stripped program, the real 8-valued dispatch `semL8`) for a stimulus `e8` that
    abstracts the input waveforms in memory. For every interface node `n` at position `i` whose data pin reads line `l`:
    `v8 l` abstracts the waveform in the region of output slot `i` after any propagation. -/
theorem sim8_predicts_mem_all_circuits (net : Net) (order : List Nat) (strip : Bool)
    (capsIn : Nat → Nat) (capsMin : Nat) (reuse : Bool) (p : MapIn)
    (hp : p = simopsMap Gen.kindPrefixes net order strip capsIn capsMin reuse)
    (hwf : net.wfB = true) (ho : orderOKB net order = true) (hf : strip = true → forksOKB net order = true)
    (hr : readsDrivenB Gen.kindPrefixes net order = true) (h4 : 4 ≤ capsMin)
    (delay : Nat → Bool → Bool → Int) (hd : ∀ l a b, 0 ≤ delay l a b) (m0 m' : Int → T) (env0 : Nat → Wv)
    (e8 v8 : Nat → V3) (hst : Stimulus p m0 env0) (hpr : Propagated p delay m0 m') (habs : ∀ l, Abs (e8 l) (env0 l))
    (hv8 : SolvesJ (Jt net) (fun op => semL8 op.code) ((genOps Gen.kindPrefixes net order false).map OpRow.toOp) e8 v8)
    (n i l : Nat) (hn : (n, i) ∈ net.sNodes.zipIdx) (hl : (net.node n).inPin 0 = some l) (time : T) :
    let w := rdWave (p.loc (net.idx.ppo + i)) (p.cap (net.idx.ppo + i)) m'
    Abs (v8 l) w ∧
    ((v8 l).p2 = false → (captureWv w time).eat = T.tmax ∧ (captureWv w time).lst = T.tmin ∧
      (captureWv w time).init = (v8 l).p1 ∧ (captureWv w time).final = (v8 l).p0) := by
  intro w
  subst hp
  have hc := simopsMap_accepted strip capsIn capsMin reuse hwf ho hf hr (by omega)
  have key := sim8_predicts_mem _ hc h4 delay hd (genOps_known_rows net order strip) m0 m' env0 e8 hst hpr habs _ _
    (mem_ppoSrcs (simopsMap Gen.kindPrefixes net order strip capsIn capsMin reuse) hn hl) time
  rw [captured_logic hwf ho hf hr semL8 default semL8_buf1 hv8 hn hl] at key
  exact key

/-- non-vacuity on `Wave.memDemo` (strip + reuse; `a` rises at 5, `b` constant 1): the 8-valued stimulus `a = R`, `b = 1`
    abstracts the stored input waveforms, the 8-valued result for the captured line is a fall, and it abstracts what the real
    layout holds in the output slot's region after the propagation -/
example (junk : Int → Nat → Wv → (Int → T) → Int → T) :
    Abs ⟨false, true, true⟩ (rdWave 20 4 (memRun memDemo (waveRW junk) (waveRow (wcfg memDemo memDemoDelay) memDemo)
      (schedOps memDemo [1, 0, 2, 3]) memDemoM0)) := by
  let e8 : Nat → V3 := fun l => if l = 9 then ⟨true, false, true⟩ else if l = 10 then ⟨true, true, false⟩ else default
  have habs : ∀ l, Abs (e8 l) (inputEnv memDemo memDemoM0 l) :=
    memDemo_env_cases (fun l w => Abs (e8 l) w) (stim_abs false true 5) (stim_abs true true 0)
      (fun l h9 h10 => by simp only [e8, if_neg h9, if_neg h10]; exact abs_default)
  have key := (sim8_predicts_mem memDemo memDemo_check (by decide) memDemoDelay memDemoDelay_nonneg
    (genOps_known_rows memDemoNet memDemoOrder true) memDemoM0 _ (inputEnv memDemo memDemoM0) e8 (stimulus_inputEnv _ _)
    (memDemo_propagated junk) habs 14 5 memDemo_out.2.2 T.tmax).1
  have hloc := memDemo_out
  have hv : exec semL8 (memDemo.ops.map (sigOp memDemo)) e8 5 = ⟨false, true, true⟩ := by decide +kernel
  rw [hloc.1, hloc.2.1, hv] at key
  exact key

end KV.C05
