import KyupyVerif.Proofs.SemL
import KyupyVerif.Model.SimOps
import KyupyVerif.Proofs.Solve
import KyupyVerif.Proofs.GenOpsWO
import KyupyVerif.Proofs.StripLinkMem
import KyupyVerif.Proofs.MemMapAccept
import KyupyVerif.Gen.Tables
import KyupyVerif.Proofs.CycleNet
import KyupyVerif.Proofs.CycleMem
import KyupyVerif.Proofs.CycleRel
import KyupyVerif.Proofs.CycleStrip
import KyupyVerif.Proofs.CycleSpec
import KyupyVerif.Proofs.CycleZeroCap
import KyupyVerif.Proofs.AllCircDemo
/-! # C01 — 2-valued logic simulation computes the netlist's Boolean function

Generated from the working tree: `Gen.sem2n` (what `logic_sim._prop_cpu` computes for an op code),
`Gen.sem2p` (`LogicSim.c_prop()` at m=2), `Gen.sem2c` (the `inject_cb` chain), `Gen.prims`
(`sim.names`), `Gen.kindPrefixes` (`sim.kind_prefixes`, in dictionary order).
Hand model tied by exact correspondence: `genOps`, `levelise`, `memMap` (Model/SimOps.lean); the state handling around
`c_prop` — `s_to_c`, `c_to_s`, `s_ppo_to_ppi`, `cycle(k)` and the index tables `pi/po/ppio/pippi/poppo_s_locs` — is
Model/Cycle.lean (`Cycle.tabsOf`, `sToC`, `cToS`, `ppoToPpi`, `cycle1`, `cycleK`; array form `cycleKA` run by the driver).
Memory level for ALL circuits: `logic_sim_end_to_end_all_circuits` (the map certificate is the theorem `C08.simops_map_accepted`).
Specification: `formula`, `specPrimName` (Model/Prim.lean); `lineEq`, `consistentB`, `evalAll`, `nextStateFrom` (Model/Net.lean).
ARITY DOMAIN (known finding D33): specification (`lineEq`, `evalAll`) and simulator read input pins 0..3 of a gate; a
gate with more connected inputs (bench `z = AND(a,b,c,d,e)`) is simulated as the 4-input primitive of its first four pins.  The
theorems hold for every netlist; they say "the netlist's Boolean function" only inside `Net.arityOKB` (explicit in
`logic_sim_end_to_end_all_circuits`); the harness evaluates `arityOKB` per case and its wide-gate oracle (n-ary ground truth in
Python) reports D33.

Combinational statements, in file order: (1) `op2_*` the three dispatchers = the truth tables = the documented formulas;
(2) `sim2_paths`; (3) `select_vocab`; (4) `sim2_equation`, (4') `sim_is_the_solution`, (4'') `all_circuits_solution`,
(4''') `logic_sim_end_to_end`, (4e) `logic_sim_end_to_end_all_circuits`; (5) `lanewise2`, `sim2_lanes` (lane `k` of the
bit-parallel run = the one-lane run on lane `k`).

What is THEOREM for the sequential statement ("`cycle(k)` iterates the next-state function k times, primary-input rows of
`s[0]` untouched"), for every well-formed netlist, every topological order, every value domain / op semantics (so also with
a pure injection callback folded into `sem`, C16), every `merge` (m = 2, 4: copy; m = 8: transition builder), every k:
* (6) `cycle_step` — one cycle stores at `s[1][p]` the value ANY solution of the gate equations gives the captured line
  (constant slot for a state element with open data pin, nothing for a port without data pin), keeps port rows of `s[0]`,
  sets state rows of `s[0]` to `merge old s[1][p]`; `cycle_zero_slot`;
* (7) `cycle_iter` — `s[0]` after `cycle(k)` = `N^k s[0]`, `N = Cycle.nextState` (defined by THE solution: (7') `nextState_unique`),
  port rows constant, `s[1]` = capture of the labelling of `N^(k-1) s[0]`; memory left by earlier cycles is irrelevant;
* (7s) `nextState_is_spec` — ONE step, 2-valued njit path `semL2n`, `strip = false`, copy merge, hypotheses `forksOKB`, `linesDrivenB`
  ((11) is the general form): `N` is the INDEPENDENT specification `KV.nextStateFrom` (ports keep, a state element takes the value of
  its data line under any labelling the specification's `consistentB` accepts, an open data pin takes constant 0), `nextState_eq_from`
  (the driver's `eval2` next state is that function of the `evalAll` labelling);
* (11) **k cycles against the INDEPENDENT specification** (`KV.nextStateFrom` / `nextStateFromM`, Model/Net.lean,
  Proofs/CycleSpec.lean — no op rows, memory or index tables): `accepted_labelling_exists` (for every assignment the specification's
  check `consistentB` accepts the labelling the model computes — so an accepted labelling EXISTS; it is unique on the lines,
  `consistentB_unique`), `cycle_iter_spec` (2-valued), `cycle_iter_spec_m4`, `cycle_iter_spec_m8`, general form `cycle_iter_spec_any`
  (any value domain, any merge, `strip_forks` on or off): `s[0]` after `cycle(k)` = the k-fold iterate of
  `a ↦ nextStateFrom net z (v a) a` for ANY labelling family `v` accepted at the iterates `0 … k-1`; `cycle_spec_run` +
  `spec_step_total_functional` (relation form without a family: the specification's step is total and functional, the simulator's
  `s[0]` rows follow it, every sequence that follows it ends in `s[0]` after `cycle(k)`); `cycle_iter_iterState` (= the driver's
  executable `KV.iterState`, what the oracle compares the real `s[0]` with, under the flag `KV.iterAccepted` = `consistentB` on
  `evalAll` at EVERY iterate — returned by the driver's `eval2`, lanes with the flag off are skipped by the harness);
  `cycle_iter_spec_lanes` (lane k of the bit-parallel loop); `cycle_memory_is_spec` (the loop ON MEMORY for the `SimOps` model tables).
  HYPOTHESES, all explicit and decidable: `Net.wfB`, `orderOKB`, `forksOKB`, `linesDrivenB Gen.kindPrefixes` (every line is written by
  a row: known cell kinds; evaluated per case — `netspeccert`, tags `cycle-netspec-hyp:*`, `oracle-netspec-hyp:*`), for
  `strip = true` also `capDriversB`; `z` is the content of the constant slot (0 on every real memory: `cycle_zero_slot`).
  The general form takes the op semantics through `heq` (agrees with the documented LUT semantics on known codes: theorems
  `semL2n/2p/2c/4/8_eq_spec` for the five generated dispatchers) and `SemSpec` (`semSpec2/4/8`).
* (7'') `cycle_array_form` — the driver's array form = the model;
* (8) `cycle_on_memory`, (8') `cycle_end_to_end` — the loop ON MEMORY (`s_to_c` writes rows `c_locs[ppi_offset+p]`, real op rows on
  memory, `c_to_s` reads rows `c_locs[ppo_offset+p]`; any allocator, `c_reuse`, `strip_forks`) = the signal-level loop, under the
  accepted map certificate (C08) and the decidable table condition `zeroCapB`; (8z) `zeroCap_simopsMap` — `zeroCapB` is a THEOREM for
  the tables the `SimOps` model builds, (8e) `cycle_on_memory_all_circuits` — (8) for ALL circuits without per-instance certificate
  (`strip_forks` on or off, any capacity vector, with or without `c_reuse`; hypotheses `wfB`, `orderOKB`, `readsDrivenB`, `forksOKB`
  when stripping);
* (9) `cycle_lanes` — lane k of the bit-parallel loop = the one-lane loop on lane k, any batch size, any k;
* (10) `cycle_strip_irrelevant` — `s` after `cycle(k)` does not depend on `strip_forks` (hypotheses `forksOKB`, `capDriversB`).
CORRESPONDENCE (harness/c01.py `cycle_tie`, every generated sequential case, m = 2, 4, 8, {strip_forks} x {c_reuse}, both
`c_prop` code paths, k = 0..5, random `s[0]`, `s[1]` in all planes, all lanes): `pippi/poppo/ppio_s_locs` and
`pippi/poppo_c_locs` of the real `LogicSim` = the model's tables; `s[0]`, `s[1]` after the real `cycle(k)` = `cycleKA k`;
certificates `zeroCapB` (real `c_locs`), `capDriversB`, `forksOKB`, `wfB`, `orderOKB` (real order) per case.
Still ORACLE / correspondence only: that the REAL tables equal the model tables `simopsMap` (exact correspondence, C08) — for real
tables the certificate and `zeroCapB` are evaluated per case; the m = 4 / m = 8 `cycle(k)` of the real code against a specification
(`cycle_iter_spec_m4/_m8` are theorems about the model; the real 4- and 8-valued loop is tied to the model by `cycle_tie` only, the
k-cycle ORACLE `eval2` is 2-valued);
(a state element without output pin list has no (P)PI slot: `pippi_s_locs` skips it (sim.py:332-333, `ppi_used_s_locs`), the model's table
is `Cycle.ppiUsedS`, so (8) needs no side condition on it);
the bit-plane packing of `s` is outside THIS model (one value per lane and position = the first mdim planes); it is modelled and
tied byte by byte, all planes, in C15Sim (`datapath_tie`). -/
namespace KV.C01
open KV KV.Sig

/-- (1) every primitive, each of the three 2-valued code paths, all 16 input rows:
    the dispatched code = the bit of its sixteen-bit constant = the documented formula -/
theorem op2_njit {name : String} {code : Nat} (h : (name, code) ∈ Gen.prims) (a b c d : Bool) :
    Gen.sem2n code a b c d = lutBit4 code a b c d ∧ formula name a b c d = some (Gen.sem2n code a b c d) :=
  sem2_eq sem2n_all h a b c d
theorem op2_plain {name : String} {code : Nat} (h : (name, code) ∈ Gen.prims) (a b c d : Bool) :
    Gen.sem2p code a b c d = lutBit4 code a b c d ∧ formula name a b c d = some (Gen.sem2p code a b c d) :=
  sem2_eq sem2p_all h a b c d
theorem op2_callback {name : String} {code : Nat} (h : (name, code) ∈ Gen.prims) (a b c d : Bool) :
    Gen.sem2c code a b c d = lutBit4 code a b c d ∧ formula name a b c d = some (Gen.sem2c code a b c d) :=
  sem2_eq sem2c_all h a b c d

/-- the primitives of `sim.names` are exactly the 33 documented ones -/
theorem prims_are_the_documented_ones :
    (Gen.prims.map (·.1)).all (primNames.contains ·) = true ∧ primNames.all ((Gen.prims.map (·.1)).contains ·) = true :=
  prims_names

/-- (2) every program: the three code paths compute the same signals, namely the LUT semantics -/
theorem sim2_paths (ops : List Op) (hk : KnownProg ops) (env : Nat → Bool) (l : Nat) :
    exec semL2n ops env l = exec specL2 ops env l ∧ exec semL2p ops env l = exec specL2 ops env l ∧
    exec semL2c ops env l = exec specL2 ops env l :=
  ⟨exec_eq_of_known semL2n specL2 (fun _ h xs => semL2n_eq_spec h xs) ops hk env l,
    exec_eq_of_known semL2p specL2 (fun _ h xs => semL2p_eq_spec h xs) ops hk env l,
    exec_eq_of_known semL2c specL2 (fun _ h xs => semL2c_eq_spec h xs) ops hk env l⟩

/-- (3) selection of the primitive for a node kind: the first match over the **generated, ordered** `kind_prefixes` is the
    specified family member. `select_vocab` states it for the vocabulary below (every primitive name in both spellings, the
    prefixes themselves, typical library cell names) × all pin-connection flags; it holds for EVERY kind string
    (`select_is_spec`, C02 `select_all_kinds`), of which it is the restriction. -/
def vocab : List String := [
  "and", "and2", "and3", "and4", "nand", "nand2", "nand3", "nand4", "or", "or2", "or3", "or4", "nor", "nor2", "nor3", "nor4",
  "xor", "xor2", "xor3", "xor4", "xnor", "xnor2", "xnor3", "xnor4", "not", "not1", "inv", "inv1", "buf", "buf1",
  "ao21", "aoi21", "oa21", "oai21", "ao22", "aoi22", "oa22", "oai22", "ao211", "aoi211", "oa211", "oai211", "mux21",
  "ao21x1", "ao211x1", "aoi211x2", "oa211x1", "oai211x4", "ao22x1", "aoi22x1", "oa22x2", "oai22x1", "oa21x1", "oai21x2", "aoi21x1",
  "isolorx1", "ibuffx2", "nbuffx2", "delln1x2", "tieh", "tiel", "__const0__", "__const1__", "__const0_3__",
  "and2x1", "nand4x0", "nor2_x1", "xnor3x1", "inv_x4", "invx8", "buf_x1", "bufx3", "mux21x1", "or4x2", "xor2x1",
  "dff", "latch", "__fork__", "input", "output", "sdffx1", "fa_x1", "unknowncell", "a", ""]

def codeOf (name : String) : Option Nat := (Gen.prims.find? (·.1 == name)).map (·.2)

theorem select_vocab : ∀ k ∈ vocab, ∀ c2 ∈ bools, ∀ c3 ∈ bools,
    selectPrim Gen.kindPrefixes k c2 c3 = (specPrimName k c2 c3).bind codeOf :=
  fun k _ c2 _ c3 _ => select_is_spec k c2 c3

/-- every code the prefix table can select is a known primitive -/
theorem prefix_codes_known : ∀ r ∈ Gen.kindPrefixes, ∀ c ∈ [r.p4, r.p3, r.p2], (Gen.prims.map (·.2)).contains c = true :=
  prefix_codes_in_prims

/-- (4) the op equation: in a program `pre ++ o :: post` in which no later op overwrites `o`'s output or
    operands and `o` does not read its own output, the final value of `o.out` is the primitive applied to
    the final operand values — the netlist equation of that gate holds in the result. -/
theorem sim2_equation (pre post : List Op) (o : Op) (env : Nat → Bool)
    (hout : ∀ p ∈ post, p.out ≠ o.out) (hins : ∀ x ∈ o.ins, x ≠ o.out ∧ ∀ p ∈ post, p.out ≠ x) :
    exec semL2n (pre ++ o :: post) env o.out =
      semL2n o.code (o.ins.map (exec semL2n (pre ++ o :: post) env)) :=
  exec_equation semL2n pre post o env hout hins

/-- (4') the whole result: for a program in which no operand is written at or after its use and no signal has two
    writers (the Boolean certificate `wellOrderedB`, which gives `WOJ` without scratch slot: `wellOrderedB_woj`; evaluated on the REAL ops
    of every generated circuit; for the program of every topological order it is the theorem (4'')), the simulation result is THE solution
    of the netlist's equation system — every gate equation holds, inputs / state slots / the constant-0 slot are
    untouched, and any other labelling with these properties is equal to it. Any value domain (2-, 4-, 8-valued,
    waveforms). -/
theorem sim_is_the_solution {α} (sem : Op → List α → α) (ops : List Op) (hc : wellOrderedB ops = true) (env : Nat → α) :
    Solves sem ops env (execG sem ops env) ∧ ∀ val, Solves sem ops env val → ∀ x, val x = execG sem ops env x :=
  have hw := wellOrderedB_woj ops hc
  ⟨⟨fun x hx => execG_frame sem ops env x hx, fun o ho => execG_solvesJ _ sem ops hw env o ho rfl⟩,
   fun val hs x => solution_uniqueJ _ sem ops hw env val ⟨fun y _ hy => hs.1 y hy, fun o ho _ => hs.2 o ho⟩ x rfl⟩

example : wellOrderedB [⟨34952, 10, [0, 1, 9, 9]⟩, ⟨21845, 11, [10, 9, 9, 9]⟩, ⟨61166, 12, [10, 11, 9, 9]⟩] = true := by decide

/-- (4'') **ALL circuits**: for every netlist whose pin tables and line records refer to each other (`Net.wfB`) and
    every topological order of its nodes (`orderOKB`: no node twice, every driver of a connected input of a
    non-source node strictly earlier — the shape C17 proves of `Circuit.topological_order` in its own graph model; here a
    hypothesis), the op program `SimOps` generates
    (model `genOps`, equal to the real `ops` by exact correspondence) computes THE solution of the netlist's gate
    equations: every op equation holds in the result, inputs / state slots / the constant-0 slot keep their values,
    and any labelling with these properties agrees with the result on every signal except the scratch slot.
    Any value domain and op semantics (2-, 4-, 8-valued logic; waveforms with per-line delays). Both certificates are
    evaluated by the driver on the REAL circuit and the REAL order of every generated case. -/
theorem all_circuits_solution {α} (tbl : List PrefixRow) (net : Net) (order : List Nat)
    (hwf : net.wfB = true) (ho : orderOKB net order = true) (sem : Op → List α → α) (env : Nat → α) :
    let ops := (genOps tbl net order false).map OpRow.toOp
    SolvesJ (Jt net) sem ops env (execG sem ops env) ∧
    ∀ val, SolvesJ (Jt net) sem ops env val → ∀ x, Jt net x = false → val x = execG sem ops env x := by
  intro ops
  have hw := genOps_WOJ tbl net order false hwf ho
  exact ⟨execG_solution (Jt net) sem ops hw env, fun val hs => solution_uniqueJ (Jt net) sem ops hw env val hs⟩

/-- non-vacuity: a two-input AND with an inverter behind it (input cells, forks, output cell), in its natural order -/
def demoNet : Net := Demo.demoNet
example : demoNet.wfB = true ∧ orderOKB demoNet [0, 2, 1, 3, 4, 5, 6] = true := by decide +kernel

/-- (4''') **end to end, on memory**: for every well-formed netlist and topological order, if the tables of the real
    simulator (`ops` = the generated program, `level_starts`, `c_locs`, `c_caps`; any allocator, with or without memory
    re-use) pass the map certificate — it is evaluated on the real tables of every generated case, C08 — then after the
    op rows have run ON MEMORY the row of every output slot `j` holds the value that ANY solution `val` of the netlist's
    gate equations assigns to the captured signal `s`. Any value domain / op semantics `f` (2-, 4-, 8-valued, bit-parallel).
    Composition of `all_circuits_solution` (the program computes the unique solution) with `C08.map_certificate_sound_logic`
    (memory-level execution = signal-level execution). -/
theorem logic_sim_end_to_end {α} [Inhabited α] (tbl : List PrefixRow) (p : MapIn) (order : List Nat)
    (hwf : p.net.wfB = true) (ho : orderOKB p.net order = true) (hs : p.strip = false)
    (hops : p.ops = genOps tbl p.net order false) (hc : p.check = none) (hpos : 0 < p.capsMin)
    (f : Nat → List α → α) (m0 : Int → α) (env0 : Nat → α)
    (h0 : ∀ x ∈ p.tracked, (∀ o ∈ p.ops, o.out ≠ x) → m0 (p.loc x) = env0 x)
    (val : Nat → α)
    (hval : SolvesJ (Jt p.net) (fun op => f op.code) ((genOps tbl p.net order false).map OpRow.toOp) env0 val) :
    ∀ j s, (j, s) ∈ p.ppoSrcs →
      MapSound.memRun p (MapSound.rowRW α) (fun o => f o.lut) p.ops m0 (p.loc j) = val s := by
  intro j s hjs
  rw [MapSound.check_sound_rows p hc hpos f m0 env0 h0 j s hjs]
  rw [Cycle.map_sigOp tbl p order (hs ▸ hops), hs, Cycle.sigOps_false, exec_eq_execG]
  have hg := MapSound.good_of_check p hc
  have hnj := hg.trNJ s (hg.ppo j s hjs).2.2
  have hJ : Jt p.net s = false := by
    simp only [MapIn.isJunk, Bool.or_eq_false_iff, beq_eq_false_iff_ne] at hnj
    simp only [Jt, beq_eq_false_iff_ne]
    exact hnj.1
  exact ((all_circuits_solution tbl p.net order hwf ho (fun op => f op.code) env0).2 val hval s hJ).symm

/-- non-vacuity of (4'''): the REAL tables of `SimOps(c_reuse=True)` for `demoNet` (location 5 is used by line 0, then by
    line 4; location 6 by line 1, then by line 5 and the output slot) satisfy every hypothesis; the rows are the generated program -/
def demoMap : MapIn :=
  { net := demoNet, strip := false,
    ops := [⟨43690, 0, 9, 6, 6, 6⟩, ⟨43690, 1, 10, 6, 6, 6⟩, ⟨43690, 2, 0, 6, 6, 6⟩, ⟨43690, 3, 1, 6, 6, 6⟩,
            ⟨34952, 4, 2, 3, 6, 6⟩, ⟨21845, 5, 4, 6, 6, 6⟩],
    starts := [0, 2, 4, 5], locs := #[5, 6, 7, 8, 5, 6, 0, 1, 2, 3, 4, -1, -1, -1, 6],
    caps := #[1, 1, 1, 1, 1, 1, 1, 1, 1, 1, 1, 0, 0, 0, 1], cLen := 9, capsMin := 1 }
example : demoMap.ops = genOps Gen.kindPrefixes demoMap.net [0, 2, 1, 3, 4, 5, 6] false ∧ demoMap.check = none ∧
    demoMap.ppoSrcs = [(14, 5)] := by decide +kernel

/-- (4e) **end to end on memory, ALL circuits, no per-instance certificate**: `logic_sim_end_to_end` for the tables the
    `SimOps` model builds (`simopsMap`: `genOps`, `levelise`, `memMap` with the first-fit allocator, any capacity vector,
    with or without `c_reuse`; equal to the real tables by exact correspondence) — the hypothesis "the map certificate
    accepts" is discharged by `C08.simops_map_accepted` (`simopsMap_accepted`). Remaining hypotheses are the domain
    predicates `Net.wfB`, `orderOKB`, `readsDrivenB` (every read or captured line is written by a row: known cell kinds),
    evaluated by the driver on the real circuit and order — and `Net.arityOKB` (known finding D33: at most four
    input pin slots per gate; not used by the proof): the op rows `genOps` generates read pins 0..3 of a node, so only inside this
    domain are "the netlist's gate equations" (`hval`) the equations of the gates as drawn; a gate with more input pins is simulated
    as the 4-input primitive of its first four pins (`C11.wide_gate_not_simulated`; harness/c01.py oracle class `wide-gate`). -/
theorem logic_sim_end_to_end_all_circuits {α} [Inhabited α] (tbl : List PrefixRow) (net : Net) (order : List Nat)
    (capsIn : Nat → Nat) (capsMin : Nat) (reuse : Bool)
    (hwf : net.wfB = true) (ho : orderOKB net order = true) (hr : readsDrivenB tbl net order = true) (hpos : 0 < capsMin)
    (_har : net.arityOKB = true)
    (f : Nat → List α → α) (m0 : Int → α) (env0 : Nat → α)
    (h0 : ∀ x ∈ (simopsMap tbl net order false capsIn capsMin reuse).tracked,
      (∀ o ∈ (simopsMap tbl net order false capsIn capsMin reuse).ops, o.out ≠ x) →
        m0 ((simopsMap tbl net order false capsIn capsMin reuse).loc x) = env0 x)
    (val : Nat → α)
    (hval : SolvesJ (Jt net) (fun op => f op.code) ((genOps tbl net order false).map OpRow.toOp) env0 val) :
    let p := simopsMap tbl net order false capsIn capsMin reuse
    ∀ j s, (j, s) ∈ p.ppoSrcs →
      MapSound.memRun p (MapSound.rowRW α) (fun o => f o.lut) p.ops m0 (p.loc j) = val s :=
  logic_sim_end_to_end tbl (simopsMap tbl net order false capsIn capsMin reuse) order hwf ho rfl rfl
    (simopsMap_accepted false capsIn capsMin reuse hwf ho (fun h => Bool.noConfusion h) hr hpos) hpos
    f m0 env0 h0 val hval

/-- non-vacuity of (4e): `demoNet` satisfies the hypotheses and the model's tables are the real tables `demoMap` -/
example : demoNet.arityOKB = true := by decide +kernel
example : readsDrivenB Gen.kindPrefixes demoNet [0, 2, 1, 3, 4, 5, 6] = true ∧
    (simopsMap Gen.kindPrefixes demoNet [0, 2, 1, 3, 4, 5, 6] false (fun _ => 1) 1 true).locs = demoMap.locs ∧
    (simopsMap Gen.kindPrefixes demoNet [0, 2, 1, 3, 4, 5, 6] false (fun _ => 1) 1 true).cLen = demoMap.cLen := by
  decide +kernel


/-- (5) lane-wise for every lane count: lane `k` of the bit-parallel result is the per-lane function -/
theorem lanewise2 (w k : Nat) (hk : k < w) (code : Nat) (a b c d : BitVec w) :
    (Gen.sem2n code a b c d).getLsbD k = Gen.sem2n code (a.getLsbD k) (b.getLsbD k) (c.getLsbD k) (d.getLsbD k) :=
  Gen.sem2n_hom (lane w k hk) code a b c d
theorem lanewise2_cb (w k : Nat) (hk : k < w) (code : Nat) (a b c d : BitVec w) :
    (Gen.sem2c code a b c d).getLsbD k = Gen.sem2c code (a.getLsbD k) (b.getLsbD k) (c.getLsbD k) (d.getLsbD k) :=
  Gen.sem2c_hom (lane w k hk) code a b c d

/-- the 2-valued dispatcher on `w` lanes: one `BitVec w` per signal -/
def semLw (w : Nat) (code : Nat) (xs : List (BitVec w)) : BitVec w :=
  Gen.sem2n code (arg xs 0 0) (arg xs 1 0) (arg xs 2 0) (arg xs 3 0)

theorem semLw_lane (w k : Nat) (hk : k < w) (code : Nat) (xs : List (BitVec w)) (ys : List Bool)
    (hxy : All2 (fun v b => v.getLsbD k = b) xs ys) : (semLw w code xs).getLsbD k = semL2n code ys :=
  op_lanes (·.getLsbD k) 0 false BitVec.getLsbD_zero (Gen.sem2n code) (Gen.sem2n code) (lanewise2 w k hk code) xs ys hxy

/-- whole programs on `w` lanes: lane `k` of the bit-parallel run is the one-lane run on lane `k` of the stimulus — any batch size,
    lanes independent, padding lanes irrelevant -/
theorem sim2_lanes (w k : Nat) (hk : k < w) (ops : List Op) (env : Nat → BitVec w) (l : Nat) :
    (exec (semLw w) ops env l).getLsbD k = exec semL2n ops (fun x => (env x).getLsbD k) l :=
  exec_rel_on (fun (v : BitVec w) (b : Bool) => v.getLsbD k = b) (semLw w) semL2n ops
    (fun op _ xs ys hxy => semLw_lane w k hk op.code xs ys hxy) env _ (fun _ => rfl) l

/-! ### the sequential part: `s_to_c`, `c_to_s`, `s_ppo_to_ppi`, `cycle(k)`

Model `Cycle.cycle1 / Cycle.cycleK` (Model/Cycle.lean, signal level: memory = environment over the `c_locs` index space),
tied to `LogicSim.cycle` by exact correspondence of the index tables and of `s[0]`, `s[1]` (harness/c01.py `cycle_tie`,
m = 2, 4, 8). `sem` is any op semantics over any value domain `α` (one lane of `s[·, p, :mdim]`), `merge` what
`s_ppo_to_ppi` makes of (old assignment, captured value): `Cycle.mergeCopy` for m = 2, 4; the transition builder for m = 8. -/
open KV.Cycle in
/-- (6) **one clock cycle.** For every well-formed netlist and topological order: let `val` be ANY labelling that solves the
    gate equations under the assignment `s[0]` (i.e. `val (ppi_offset + p) = s[0][p]` for every position with a (P)PI slot,
    every op equation holds; it is unique by `all_circuits_solution`). After `s_to_c; c_prop; c_to_s; s_ppo_to_ppi`:
    (a) `s[1][p] = val l` for every position whose data pin 0 carries line `l` (ports and state elements);
    (b) a flip-flop / latch with open data pin captures the constant slot; (c) a port without data pin keeps `s[1][p]`;
    (d) `s[0][p]` of every port is unchanged; (e) `s[0][p]` of every state element is `merge old s[1][p]`. -/
theorem cycle_step {α} (tbl : List PrefixRow) (net : Net) (order : List Nat)
    (hwf : net.wfB = true) (ho : orderOKB net order = true) (sem : Op → List α → α) (merge : α → α → α) (d : α)
    (st : St α) (h0 : st.s.s0.length = net.sNodes.length) (h1 : st.s.s1.length = net.sNodes.length)
    (val : Nat → α)
    (hval : SolvesJ (Jt net) sem ((genOps tbl net order false).map OpRow.toOp) (sToC (tabsOf net false) d st.s.s0 st.env) val) :
    let r := cycle1 sem (sigOps tbl net order false) (tabsOf net false) merge d st
    (∀ p l, p < net.sNodes.length → (sNodeAt net p).inPin 0 = some l → r.s.s1[p]? = some (val l)) ∧
    (∀ p, net.io.length ≤ p → p < net.sNodes.length → (sNodeAt net p).inPin 0 = none → r.s.s1[p]? = some (val net.idx.zero)) ∧
    (∀ p, p < net.io.length → (sNodeAt net p).inPin 0 = none → r.s.s1[p]? = st.s.s1[p]?) ∧
    (∀ p, p < net.io.length → r.s.s0[p]? = st.s.s0[p]?) ∧
    (∀ p, net.io.length ≤ p → p < net.sNodes.length → r.s.s0[p]? = some (merge (st.s.s0.getD p d) (r.s.s1.getD p d))) := by
  intro r
  have hr : r.s = stepS sem (sigOps tbl net order false) net false merge d st.env st.s := cycle1_s _ _ _ _ _ _ _ h0 h1
  have hsol := sol_eq_val tbl net order hwf ho sem _ val hval
  have hcap : ∀ p, solOf sem (sigOps tbl net order false) (tabsOf net false) d st.env st.s.s0 (capSig net false p)
      = val (capSig net false p) := fun p => hsol _ (capSig_notJunk net hwf p)
  have hpo : ∀ p, p < net.sNodes.length → (net.io.length ≤ p ∨ ((sNodeAt net p).inPin 0).isSome = true) →
      r.s.s1[p]? = some (val (capSig net false p)) := by
    intro p hp hc
    rw [hr]
    show (captureRow net false _ st.s.s1)[p]? = _
    rw [captureRow_at net false _ _ p (by omega) (isPoppo_of net p hp hc), hcap]
  refine ⟨?_, ?_, ?_, ?_, ?_⟩
  · intro p l hp hl
    rw [hpo p hp (Or.inr (by rw [hl]; rfl)), capSig_false, hl]
  · intro p hio hp hl
    rw [hpo p hp (Or.inl hio), capSig_false, hl]
  · intro p hp hl
    rw [hr]
    exact captureRow_skip net false _ _ p (by unfold isPoppo; simp [hp, hl])
  · intro p hp
    rw [hr]
    exact nextRow_port net false merge _ _ p hp
  · intro p hio hp
    have h1p := hpo p hp (Or.inl hio)
    have : r.s.s1.getD p d = val (capSig net false p) := by rw [List.getD_eq_getElem?_getD, h1p]; rfl
    rw [this, hr]
    show (nextRow net false merge _ st.s.s0)[p]? = _
    rw [nextRow_state net false merge d _ _ p hio (by omega), hcap]

open KV.Cycle in
/-- the constant-0 slot is an input of the equation system: every solution reads there what the memory held before -/
theorem cycle_zero_slot {α} (tbl : List PrefixRow) (net : Net) (order : List Nat)
    (hwf : net.wfB = true) (ho : orderOKB net order = true) (sem : Op → List α → α) (d : α) (a : List α) (env val : Nat → α)
    (hval : SolvesJ (Jt net) sem ((genOps tbl net order false).map OpRow.toOp) (sToC (tabsOf net false) d a env) val) :
    val net.idx.zero = env net.idx.zero :=
  sol_zero_slot tbl net order hwf ho sem d a env val hval

open KV.Cycle in
/-- (7) **`cycle(k)` iterates the next-state function k times, primary-input rows untouched.** For every well-formed netlist,
    topological order, value domain, `k`: with `N a := nextRow (the labelling computed under assignment a) a`
    (`Cycle.nextState`: ports keep their value, state element `p` gets `merge a[p] (value of its captured signal)`),
    (a) `s[0]` after `cycle(k)` is `N^k s[0]`; (b) the rows of the ports are the initial ones; (c) after `k = j + 1` cycles `s[1]`
    is the capture of the labelling of assignment `N^j s[0]` written over the initial `s[1]`. The memory contents left by earlier
    cycles do not matter: the labelling is taken with the memory `st.env` of before the call, only its never-written signals
    (the constant slot) are read (`Cycle.solOf_agree`). By (7') the labelling is THE solution of the gate equations. -/
theorem cycle_iter {α} (tbl : List PrefixRow) (net : Net) (order : List Nat)
    (hwf : net.wfB = true) (ho : orderOKB net order = true) (sem : Op → List α → α) (merge : α → α → α) (d : α)
    (st : St α) (h0 : st.s.s0.length = net.sNodes.length) (h1 : st.s.s1.length = net.sNodes.length) (k : Nat) :
    let ops := sigOps tbl net order false
    let N := Cycle.nextState sem ops net false merge d st.env
    let r := cycleK sem ops (tabsOf net false) merge d k st
    r.s.s0 = iter N k st.s.s0 ∧
    (∀ p, p < net.io.length → r.s.s0[p]? = st.s.s0[p]?) ∧
    (∀ j, k = j + 1 → r.s.s1 = captureRow net false (solOf sem ops (tabsOf net false) d st.env (iter N j st.s.s0)) st.s.s1) := by
  intro ops N r
  have hr : r.s = iter (stepS sem ops net false merge d st.env) k st.s :=
    cycleK_s (Jt net) sem ops (sigOps_false_WOJ tbl net order hwf ho) net false (capSig_notJunk net hwf) merge d st.env k st h0 h1 (Agree.refl _ _ _)
  have hs0 : r.s.s0 = iter N k st.s.s0 := cycleK_s0_iter tbl net order hwf ho sem merge d st h0 h1 k
  refine ⟨hs0, ?_, ?_⟩
  · intro p hp
    rw [hs0]; exact iter_nextState_port _ _ _ _ _ _ _ _ _ p hp
  · intro j hj
    subst hj
    rw [hr]; exact iter_stepS_s1 _ _ _ _ _ _ _ _ _

open KV.Cycle in
/-- (7') the next-state function is defined by THE solution: for any labelling `val` that solves the gate equations under the
    assignment `a`, `nextState a = nextRow val a` -/
theorem nextState_unique {α} (tbl : List PrefixRow) (net : Net) (order : List Nat)
    (hwf : net.wfB = true) (ho : orderOKB net order = true) (sem : Op → List α → α) (merge : α → α → α) (d : α)
    (env : Nat → α) (a : List α) (val : Nat → α)
    (hval : SolvesJ (Jt net) sem ((genOps tbl net order false).map OpRow.toOp) (sToC (tabsOf net false) d a env) val) :
    Cycle.nextState sem (sigOps tbl net order false) net false merge d env a = nextRow net false merge val a :=
  nextRow_congr net false false merge _ _ a fun p _ => sol_eq_val tbl net order hwf ho sem _ val hval _ (capSig_notJunk net hwf p)

open KV.Cycle in
/-- (7s) **`nextState_is_spec`: the next-state function of `cycle_iter` IS the independent specification**.
`KV.nextStateFrom net z v a` (Model/Net.lean, written without reference to op rows, memory or index tables): ports keep their value, a
state element takes what the labelling `v` of the lines gives its data line, a state element with OPEN data pin takes the constant
`z` (constant 0 — the documented reading of an unconnected pin; the code copies the constant-0 slot, known finding D9).  For every well-formed netlist, every topological order
that schedules every line (`forksOKB`, `linesDrivenB`: decidable, evaluated per case), every memory `env` and assignment `a`: with `e0`
the memory after `s_to_c` and `v` ANY labelling that the specification's acceptance check `consistentB` (gate-by-gate equations
`lineEq` over the documented formulas `prim2`) accepts for the assignment in the (P)PI slots of `e0`, the simulator's next assignment
(2-valued `c_prop` — the njit path `semL2n`; the other two paths compute the same signals, `sim2_paths` — `c_to_s`, `s_ppo_to_ppi`) is
`nextStateFrom`.  The constant `z` is the content of the constant slot (`cycle_zero_slot`: 0 on every real memory). -/
theorem nextState_is_spec (net : Net) (order : List Nat) (hwf : net.wfB = true) (ho : orderOKB net order = true)
    (hfk : forksOKB net order = true) (hall : linesDrivenB Gen.kindPrefixes net order = true)
    (d : Bool) (env : Nat → Bool) (a : List Bool) (v : Array Bool)
    (hc : consistentB net (sToC (tabsOf net false) d a env net.idx.zero) (!·) prim2
            (fun p => sToC (tabsOf net false) d a env (net.idx.ppi + p)) v = true) :
    Cycle.nextState (fun op => semL2n op.code) (sigOps Gen.kindPrefixes net order false) net false mergeCopy d env a =
      nextStateFrom net (sToC (tabsOf net false) d a env net.idx.zero) v a := by
  rw [consistentB_asg net order hwf ho hall (!·) prim2 d a env] at hc
  rw [sToC_zero]
  exact nextState_spec_gen semL2n specL2 (fun _ h xs => semL2n_eq_spec h xs) (!·) prim2 semSpec2 net order hwf ho hfk hall
    mergeCopy d env a v hc

/-- the driver's executable next-state function (`eval2`, the oracle's expected values for `cycle(k)`) is `nextStateFrom` of the
labelling its evaluator `evalAll` returns — which it submits to `consistentB` on every request (answer flag `!`) -/
theorem nextState_eq_from (net : Net) (a : Nat → Bool) (j : Nat) (hj : j < net.sNodes.length) :
    KV.nextState net a j =
      (nextStateFrom net false (evalAll net false (!·) prim2 a) ((List.range net.sNodes.length).map a)).getD j false :=
  nextState_eq_from_main net a j hj

/-- non-vacuity: `q = DFF(open)`, `z = NOT(q)` observed at an output port, input `a` unused: from state 1 the next state is 0 -/
def openNet : Net :=
  { nodes := #[⟨"input", [], [some 0]⟩, ⟨"__fork__", [some 0], []⟩, ⟨"DFF", [], [some 1]⟩, ⟨"__fork__", [some 1], [some 2]⟩,
               ⟨"INV1", [some 2], [some 3]⟩, ⟨"output", [some 3], []⟩],
    lines := #[⟨0, 0, 1, 0⟩, ⟨2, 0, 3, 0⟩, ⟨3, 0, 4, 0⟩, ⟨4, 0, 5, 0⟩],
    io := [0, 5] }
theorem openNet_hyps : openNet.wfB = true ∧ orderOKB openNet [0, 2, 1, 3, 4, 5] = true ∧
    forksOKB openNet [0, 2, 1, 3, 4, 5] = true ∧ linesDrivenB Gen.kindPrefixes openNet [0, 2, 1, 3, 4, 5] = true ∧
    openNet.sNodes = [0, 5, 2] ∧ openNet.arityOKB = true := by
  decide +kernel
example : openNet.wfB = true ∧ orderOKB openNet [0, 2, 1, 3, 4, 5] = true ∧ forksOKB openNet [0, 2, 1, 3, 4, 5] = true ∧
    linesDrivenB Gen.kindPrefixes openNet [0, 2, 1, 3, 4, 5] = true ∧ openNet.sNodes = [0, 5, 2] ∧ openNet.arityOKB = true :=
  openNet_hyps
example : consistentB openNet false (!·) prim2 (fun p => p == 2) (evalAll openNet false (!·) prim2 (fun p => p == 2)) = true ∧
    nextStateFrom openNet false (evalAll openNet false (!·) prim2 (fun p => p == 2)) [false, false, true] = [false, false, false] := by
  decide +kernel

open KV.Cycle in
/-- the theorem itself instantiated (the example above only evaluates the specification): the simulator model's next
    state of `openNet` from `[0, 0, 1]` is `[0, 0, 0]`, obtained THROUGH `nextState_is_spec` with `evalAll` as the accepted labelling -/
example :
    Cycle.nextState (fun op => semL2n op.code) (sigOps Gen.kindPrefixes openNet [0, 2, 1, 3, 4, 5] false) openNet false mergeCopy
      false (fun _ => false) [false, false, true] = [false, false, false] := by
  rw [nextState_is_spec openNet [0, 2, 1, 3, 4, 5] openNet_hyps.1 openNet_hyps.2.1 openNet_hyps.2.2.1 openNet_hyps.2.2.2.1
    false (fun _ => false) [false, false, true] (evalAll openNet false (!·) prim2 (fun p => p == 2)) (by decide +kernel)]
  decide +kernel

open KV.Cycle in
/-- (7'') the form the correspondence runs evaluate: the compiled driver runs `cycleKA` (memory as an array of `c_locs_len`
    entries); it leaves the same `s` (and memory) as `cycleK`, for every well-formed netlist, order, `strip_forks` setting -/
theorem cycle_array_form {α} (tbl : List PrefixRow) (net : Net) (order : List Nat) (strip : Bool)
    (hwf : net.wfB = true) (ho : orderOKB net order = true) (sem : Op → List α → α) (merge : α → α → α) (d : α)
    (k : Nat) (st : StA α) (hn : st.env.size = net.idx.len) :
    toSt d (cycleKA sem (sigOps tbl net order strip) (tabsOf net strip) merge d k st) =
      cycleK sem (sigOps tbl net order strip) (tabsOf net strip) merge d k (toSt d st) :=
  cycleKA_eq sem _ _ merge d net.idx.len (sigOps_out tbl net order strip hwf (orderOK_lt ho)) (pippi_lt net strip) k st hn

open KV.Cycle in
/-- (8) **`cycle(k)` on memory = `cycle(k)` on signals.** `Cycle.cycleKM` (Proofs/CycleMem.lean) is the loop with `s_to_c` writing the
    rows `c_locs[ppi_offset + p]`, the real op rows running on memory (one row per signal, any allocator, with or without
    `c_reuse` / `strip_forks`), `c_to_s` reading the rows `c_locs[ppo_offset + p]`. If the real tables pass the map certificate
    (C08, evaluated on every generated case) and the (P)PO slot of a state element with open data pin is the row of the
    constant slot (`zeroCapB`, read off the table; known finding D9), then for every k, every
    initial memory `m0` and every signal environment `env0` that agrees with it on the constant slot, the `s` array after k
    cycles on memory is the `s` array of the signal-level model — to which (6), (7) apply. -/
theorem cycle_on_memory {α} [Inhabited α] (tbl : List PrefixRow) (p : MapIn) (order : List Nat)
    (hops : p.ops = genOps tbl p.net order p.strip) (hc : p.check = none) (hpos : 0 < p.capsMin)
    (hzc : zeroCapB p = true)
    (f : Nat → List α → α) (merge : α → α → α) (d : α) (k : Nat) (m0 : Int → α) (env0 : Nat → α) (s : S α)
    (hz : m0 (p.loc p.ix.zero) = env0 p.ix.zero) :
    (cycleKM p f (tabsOf p.net p.strip) merge d k ⟨m0, s⟩).s =
      (cycleK (fun op => f op.code) (sigOps tbl p.net order p.strip) (tabsOf p.net p.strip) merge d k ⟨env0, s⟩).s := by
  rw [← map_sigOp tbl p order hops]
  exact cycleKM_eq p hc hpos hzc f merge d k m0 env0 s hz

open KV.Cycle in
/-- (8') **end to end, sequential**: (7) for the loop ON MEMORY — for every well-formed netlist, topological order, accepted
    certificate: `s[0]` after `cycle(k)` on memory is the k-fold next-state iterate, port rows untouched, `s[1]` the capture of
    the labelling of the previous assignment. -/
theorem cycle_end_to_end {α} [Inhabited α] (tbl : List PrefixRow) (p : MapIn) (order : List Nat)
    (hwf : p.net.wfB = true) (ho : orderOKB p.net order = true) (hs : p.strip = false)
    (hops : p.ops = genOps tbl p.net order false) (hc : p.check = none) (hpos : 0 < p.capsMin)
    (hzc : zeroCapB p = true)
    (f : Nat → List α → α) (merge : α → α → α) (d : α) (k : Nat) (m0 : Int → α) (env0 : Nat → α) (s : S α)
    (hz : m0 (p.loc p.ix.zero) = env0 p.ix.zero)
    (h0 : s.s0.length = p.net.sNodes.length) (h1 : s.s1.length = p.net.sNodes.length) :
    let ops := sigOps tbl p.net order false
    let N := Cycle.nextState (fun op => f op.code) ops p.net false merge d env0
    let r := cycleKM p f (tabsOf p.net false) merge d k ⟨m0, s⟩
    r.s.s0 = iter N k s.s0 ∧
    (∀ q, q < p.net.io.length → r.s.s0[q]? = s.s0[q]?) ∧
    (∀ j, k = j + 1 → r.s.s1 = captureRow p.net false
        (solOf (fun op => f op.code) ops (tabsOf p.net false) d env0 (iter N j s.s0)) s.s1) := by
  intro ops N r
  have hm := cycle_on_memory tbl p order (by rw [hs]; exact hops) hc hpos hzc f merge d k m0 env0 s hz
  rw [hs] at hm
  have hi := cycle_iter tbl p.net order hwf ho (fun op => f op.code) merge d ⟨env0, s⟩ h0 h1 k
  show (cycleKM p f (tabsOf p.net false) merge d k ⟨m0, s⟩).s.s0 = _ ∧ _
  rw [hm]
  exact hi

/-- non-vacuity of (6), (7): a toggle flip-flop with enable (`q' = q XOR en`; ports `en`, `out = q`), natural order.
    With `en = 1` the state has period 2; the port row stays as assigned; the output port captures the OLD state. -/
def demoSeq : Net :=
  { nodes := #[⟨"input", [], [some 0]⟩, ⟨"__fork__", [some 0], [some 1]⟩, ⟨"DFF", [some 5], [some 2]⟩,
               ⟨"__fork__", [some 2], [some 3, some 6]⟩, ⟨"XOR2", [some 1, some 3], [some 4]⟩, ⟨"__fork__", [some 4], [some 5]⟩,
               ⟨"output", [some 6], []⟩],
    lines := #[⟨0, 0, 1, 0⟩, ⟨1, 0, 4, 0⟩, ⟨2, 0, 3, 0⟩, ⟨3, 0, 4, 1⟩, ⟨4, 0, 5, 0⟩, ⟨5, 0, 2, 0⟩, ⟨3, 1, 6, 0⟩],
    io := [0, 6] }
def demoSt (en q : Bool) : Cycle.St Bool := ⟨fun _ => false, ⟨[en, false, q], [false, false, false]⟩⟩
def demoRun (k : Nat) (en q : Bool) : Cycle.S Bool :=
  (Cycle.cycleK (fun op => semL2n op.code) (Cycle.sigOps Gen.kindPrefixes demoSeq [0, 1, 2, 3, 4, 5, 6] false)
    (Cycle.tabsOf demoSeq false) Cycle.mergeCopy false k (demoSt en q)).s
example : demoSeq.wfB = true ∧ orderOKB demoSeq [0, 1, 2, 3, 4, 5, 6] = true ∧ demoSeq.sNodes = [0, 6, 2] ∧
    (demoSt true false).s.s0.length = demoSeq.sNodes.length ∧ (demoSt true false).s.s1.length = demoSeq.sNodes.length := by
  decide +kernel
example : Cycle.tabsOf demoSeq false =
    { ppi := 10, ppo := 13, pippi := [(0, 10), (2, 12)], poppo := [(1, 6), (2, 5)], ppio := [2] } := by decide +kernel
example : (demoRun 1 true false).s0 = [true, false, true] ∧ (demoRun 1 true false).s1 = [false, false, true] ∧
    (demoRun 2 true false).s0 = [true, false, false] ∧ (demoRun 2 true false).s1 = [false, true, false] ∧
    (demoRun 5 true false).s0 = [true, false, true] ∧ (demoRun 3 false true).s0 = [false, false, true] := by decide +kernel

/-- non-vacuity of (6), clause (b): a flip-flop with OPEN data pin observed at a port — it captures the constant slot (known finding D9) -/
def demoOpen : Net :=
  { nodes := #[⟨"DFF", [], [some 0]⟩, ⟨"__fork__", [some 0], [some 1]⟩, ⟨"output", [some 1], []⟩],
    lines := #[⟨0, 0, 1, 0⟩, ⟨1, 0, 2, 0⟩], io := [2] }
def demoOpenRun (k : Nat) : Cycle.S Bool :=
  (Cycle.cycleK (fun op => semL2n op.code) (Cycle.sigOps Gen.kindPrefixes demoOpen [0, 1, 2] false)
    (Cycle.tabsOf demoOpen false) Cycle.mergeCopy false k ⟨fun _ => false, ⟨[false, true], [false, false]⟩⟩).s
example : demoOpen.wfB = true ∧ orderOKB demoOpen [0, 1, 2] = true ∧ demoOpen.sNodes = [2, 0] ∧
    Cycle.tabsOf demoOpen false = { ppi := 5, ppo := 7, pippi := [(1, 6)], poppo := [(0, 1), (1, 2)], ppio := [1] } ∧
    (demoOpenRun 1).s1 = [true, false] ∧ (demoOpenRun 1).s0 = [false, false] ∧ (demoOpenRun 2).s1 = [false, false] := by
  decide +kernel

/-- a flip-flop WITHOUT output pin list has no (P)PI slot: `s_to_c` skips it (`pippi` lists position 0 only), `c_to_s` and
    `s_ppo_to_ppi` still capture and move its state (sim.py:332-333) -/
def demoNoOut : Net :=
  { nodes := #[⟨"input", [], [some 0]⟩, ⟨"__fork__", [some 0], [some 1]⟩, ⟨"DFF", [some 1], []⟩],
    lines := #[⟨0, 0, 1, 0⟩, ⟨1, 0, 2, 0⟩], io := [0] }
example : demoNoOut.wfB = true ∧ orderOKB demoNoOut [0, 1, 2] = true ∧ demoNoOut.sNodes = [0, 2] ∧
    Cycle.tabsOf demoNoOut false = { ppi := 5, ppo := 7, pippi := [(0, 5)], poppo := [(1, 1)], ppio := [1] } ∧
    (Cycle.cycleK (fun op => semL2n op.code) (Cycle.sigOps Gen.kindPrefixes demoNoOut [0, 1, 2] false)
      (Cycle.tabsOf demoNoOut false) Cycle.mergeCopy false 1 ⟨fun _ => false, ⟨[true, false], [false, false]⟩⟩).s.s0 = [true, true] := by
  decide +kernel

/-- non-vacuity of (8), (8'): the REAL tables of `LogicSim(c_reuse=True)` for `demoSeq` and the REAL `topological_order()` -/
def demoSeqMap : MapIn :=
  { net := demoSeq, strip := false,
    ops := [⟨43690, 0, 10, 7, 7, 7⟩, ⟨43690, 2, 12, 7, 7, 7⟩, ⟨43690, 1, 0, 7, 7, 7⟩, ⟨43690, 3, 2, 7, 7, 7⟩,
            ⟨43690, 6, 2, 7, 7, 7⟩, ⟨26214, 4, 1, 3, 7, 7⟩, ⟨43690, 5, 4, 7, 7, 7⟩],
    starts := [0, 2, 5, 6], locs := #[5, 7, 6, 8, 5, 6, 9, 0, 1, 2, 3, -1, 4, -1, 9, 6],
    caps := #[1, 1, 1, 1, 1, 1, 1, 1, 1, 1, 1, 0, 1, 0, 1, 1], cLen := 10, capsMin := 1 }
example : demoSeqMap.ops = genOps Gen.kindPrefixes demoSeq [0, 2, 1, 3, 4, 6, 5] false ∧ demoSeqMap.check = none ∧
    orderOKB demoSeq [0, 2, 1, 3, 4, 6, 5] = true ∧ Cycle.zeroCapB demoSeqMap = true := by
  decide +kernel

open KV.Cycle in
/-- (8z) **`zeroCapB` is a theorem for the `SimOps` model tables**: the table condition of (8), (8') holds
for `simopsMap` — every well-formed netlist, topological order, capacity vector, with or without `c_reuse` / `strip_forks` -/
theorem zeroCap_simopsMap (tbl : List PrefixRow) (net : Net) (order : List Nat) (strip : Bool) (capsIn : Nat → Nat)
    (capsMin : Nat) (reuse : Bool) (hwf : net.wfB = true) (ho : orderOKB net order = true)
    (hf : strip = true → forksOKB net order = true) (hr : readsDrivenB tbl net order = true) (hpos : 0 < capsMin) :
    zeroCapB (simopsMap tbl net order strip capsIn capsMin reuse) = true :=
  zeroCapB_simopsMap tbl net order strip capsIn capsMin reuse hwf ho hf hr hpos

open KV.Cycle in
/-- (8e) **`cycle(k)` on memory, ALL circuits, no per-instance certificate** (`strip_forks` on or off, any allocator capacity vector,
with or without `c_reuse`): for the tables the `SimOps` model builds, the `s` array after k cycles ON MEMORY is the `s` array of the
signal-level loop — the certificate hypotheses of (8) are discharged by `C08.simops_map_accepted` and (8z). -/
theorem cycle_on_memory_all_circuits {α} [Inhabited α] (tbl : List PrefixRow) (net : Net) (order : List Nat) (strip : Bool)
    (capsIn : Nat → Nat) (capsMin : Nat) (reuse : Bool)
    (hwf : net.wfB = true) (ho : orderOKB net order = true) (hf : strip = true → forksOKB net order = true)
    (hr : readsDrivenB tbl net order = true) (hpos : 0 < capsMin)
    (f : Nat → List α → α) (merge : α → α → α) (d : α) (k : Nat) (m0 : Int → α) (env0 : Nat → α) (s : S α)
    (hz : m0 ((simopsMap tbl net order strip capsIn capsMin reuse).loc net.idx.zero) = env0 net.idx.zero) :
    (cycleKM (simopsMap tbl net order strip capsIn capsMin reuse) f (tabsOf net strip) merge d k ⟨m0, s⟩).s =
      (cycleK (fun op => f op.code) (sigOps tbl net order strip) (tabsOf net strip) merge d k ⟨env0, s⟩).s :=
  cycle_on_memory tbl (simopsMap tbl net order strip capsIn capsMin reuse) order rfl
    (simopsMap_accepted strip capsIn capsMin reuse hwf ho hf hr hpos) hpos
    (zeroCapB_simopsMap tbl net order strip capsIn capsMin reuse hwf ho hf hr hpos) f merge d k m0 env0 s hz

open KV.Cycle in
/-- (9) **lanes through the clock loop**: `cycle(k)` of the bit-parallel simulator (one `BitVec w` per signal / `s` entry, any
    batch size `w`) shows in lane `k` exactly `cycle(k)` of the one-lane simulator on lane `k` of the initial state — for every op
    program, index tables and number of cycles: lanes stay independent over any number of cycles, padding lanes never leak.
    (`Cycle.cycleK_rel`: every relation the ops and `merge` preserve is preserved by the loop.) -/
theorem cycle_lanes (w k : Nat) (hk : k < w) (ops : List Op) (T : Tabs) (n : Nat) (st : St (BitVec w)) :
    let r := cycleK (fun op => semLw w op.code) ops T mergeCopy 0 n st
    let rb := cycleK (fun op => semL2n op.code) ops T mergeCopy false n
      ⟨fun x => (st.env x).getLsbD k, ⟨st.s.s0.map (·.getLsbD k), st.s.s1.map (·.getLsbD k)⟩⟩
    r.s.s0.map (·.getLsbD k) = rb.s.s0 ∧ r.s.s1.map (·.getLsbD k) = rb.s.s1 := by
  intro r rb
  have h := cycleK_rel (fun (v : BitVec w) (b : Bool) => v.getLsbD k = b) (fun op => semLw w op.code) (fun op => semL2n op.code)
    ops (fun op _ xs ys hxy => semLw_lane w k hk op.code xs ys hxy) T mergeCopy mergeCopy (fun _ _ _ _ _ h => h) 0 false BitVec.getLsbD_zero n st
    ⟨fun x => (st.env x).getLsbD k, ⟨st.s.s0.map (·.getLsbD k), st.s.s1.map (·.getLsbD k)⟩⟩
    ⟨fun _ => rfl, All2.of_map _ _, All2.of_map _ _⟩
  exact ⟨h.s0.map_eq, h.s1.map_eq⟩

open KV.Cycle in
/-- (10) **`cycle(k)` does not depend on `strip_forks`** (C06 through the clock loop). For every well-formed netlist, topological
    order that respects the fork conventions (`forksOKB`, C06) and contains the driver of every captured line (`capDriversB`;
    `topological_order()` lists every node), any value domain and code-indexed op semantics in which `BUF1` returns its first
    operand (the generated 2-, 4-, 8-valued dispatchers: C06 `buf1_first_operand`), any `merge`, any `k`: the stripped simulator
    (rows without forks, operands and captures resolved to the stems) and the un-stripped one leave the same `s[0]`, `s[1]`.
    The two memories differ on the branch signals; both hypotheses are evaluated on every generated circuit. -/
theorem cycle_strip_irrelevant {α} (tbl : List PrefixRow) (net : Net) (order : List Nat)
    (hwf : net.wfB = true) (ho : orderOKB net order = true) (hf : forksOKB net order = true)
    (hcov : capDriversB net order = true)
    (f : Nat → List α → α) (dflt : α) (hbuf : ∀ xs, f BUF1 xs = xs.getD 0 dflt) (merge : α → α → α) (d : α)
    (k : Nat) (st : St α) (h0 : st.s.s0.length = net.sNodes.length) (h1 : st.s.s1.length = net.sNodes.length) :
    (cycleK (fun op => f op.code) (sigOps tbl net order true) (tabsOf net true) merge d k st).s =
      (cycleK (fun op => f op.code) (sigOps tbl net order false) (tabsOf net false) merge d k st).s :=
  cycleK_strip tbl hwf ho hf hcov f dflt hbuf merge d k st st rfl h0 h1 (Agree.refl _ _ _)

example : forksOKB demoSeq [0, 2, 1, 3, 4, 6, 5] = true ∧ Cycle.capDriversB demoSeq [0, 2, 1, 3, 4, 6, 5] = true ∧
    (∀ xs, semL2n BUF1 xs = xs.getD 0 false) := ⟨by decide +kernel, by decide +kernel, semL2n_buf1⟩

/-! ### (11) `cycle(k)` against the INDEPENDENT next-state specification

`KV.nextStateFromM net merge z v a` (Proofs/CycleSpec.lean; `= KV.nextStateFrom net z v a` of Model/Net.lean for `merge = mergeCopy`, by
`rfl`: `nextStateFrom_is_copy`) is written without op rows, memory or index tables: ports keep their value, a state element takes
`merge old (v of its data line)`, an open data pin reads the constant `z`.  `consistentB net z neg prim asg v` is the specification's
acceptance check (every line carries `lineEq` of its driver, over the documented primitive meanings `prim`).
EVERY restriction is a hypothesis: `Net.wfB`, `orderOKB`, `forksOKB`, `linesDrivenB` (decidable; evaluated per case by `cyclecert` /
`netspeccert` on the real circuit and order), the op semantics `sem` agrees with the documented LUT semantics `spec` on known codes
(`heq`; theorems `semL2n_eq_spec`, `semL2p_eq_spec`, `semL2c_eq_spec`, `semL4_eq_spec`, `semL8_eq_spec` for the five generated
dispatchers), `spec` means `prim`/`neg` (`SemSpec`: `semSpec2/4/8`), and for `strip = true` additionally `capDriversB` and "BUF1
returns its first operand". -/

theorem nextStateFrom_is_copy (net : Net) (z : Bool) (v : Array Bool) (a : List Bool) :
    nextStateFromM net Cycle.mergeCopy z v a = nextStateFrom net z v a := rfl

/-- (11a) **an accepted labelling EXISTS** for every assignment: the labelling of the lines the simulator model computes
(`simLabel`) passes the specification's check `consistentB` — for every well-formed netlist, topological order that schedules every
line, value domain, memory and assignment.  (`consistentB_unique`: it is the only one on the lines.) -/
theorem accepted_labelling_exists {α} [BEq α] [LawfulBEq α] (sem spec : Nat → List α → α)
    (heq : ∀ code, KnownCode code → ∀ xs, sem code xs = spec code xs) (neg : α → α) (prim : String → α → α → α → α → α)
    (hs : SemSpec spec neg prim) (net : Net) (order : List Nat) (hwf : net.wfB = true) (ho : orderOKB net order = true)
    (hfk : forksOKB net order = true) (hall : linesDrivenB Gen.kindPrefixes net order = true)
    (d : α) (env : Nat → α) (a : List α) :
    consistentB net (env net.idx.zero) neg prim (fun p => a.getD p d) (simLabel sem net order d env a) = true :=
  simLabel_accepted sem spec heq neg prim hs net order hwf ho hfk hall d env a

open KV.Cycle in
/-- (11b) **`cycle_iter_spec`, general form**: any value domain `α` (m = 2, 4, 8), any `merge`, `strip_forks` on or off.  For ANY
family `v` of line labellings (one per assignment) that the specification's check accepts at the iterates `0 … k-1`, `s[0]` after
`cycle(k)` IS the k-fold iterate of the specification's next-state function `a ↦ nextStateFromM net merge z (v a) a`, `z` = content
of the constant slot.  By (11a) such a family exists; by (11c) the iterate does not depend on which one is taken. -/
theorem cycle_iter_spec_any {α} [BEq α] [LawfulBEq α] (sem spec : Nat → List α → α)
    (heq : ∀ code, KnownCode code → ∀ xs, sem code xs = spec code xs) (neg : α → α) (prim : String → α → α → α → α → α)
    (hs : SemSpec spec neg prim) (net : Net) (order : List Nat) (strip : Bool)
    (hwf : net.wfB = true) (ho : orderOKB net order = true)
    (hfk : forksOKB net order = true) (hall : linesDrivenB Gen.kindPrefixes net order = true)
    (dflt : α) (hcov : strip = true → capDriversB net order = true)
    (hbuf : strip = true → ∀ xs, sem BUF1 xs = xs.getD 0 dflt)
    (merge : α → α → α) (d : α) (st : St α) (h0 : st.s.s0.length = net.sNodes.length)
    (h1 : st.s.s1.length = net.sNodes.length) (k : Nat) (v : List α → Array α)
    (hv : ∀ j, j < k → consistentB net (st.env net.idx.zero) neg prim
        (fun p => (iter (fun a => nextStateFromM net merge (st.env net.idx.zero) (v a) a) j st.s.s0).getD p d)
        (v (iter (fun a => nextStateFromM net merge (st.env net.idx.zero) (v a) a) j st.s.s0)) = true) :
    (cycleK (fun op => sem op.code) (sigOps Gen.kindPrefixes net order strip) (tabsOf net strip) merge d k st).s.s0 =
      iter (fun a => nextStateFromM net merge (st.env net.idx.zero) (v a) a) k st.s.s0 := by
  have hf := cycleK_spec_gen sem spec heq neg prim hs net order hwf ho hfk hall merge d st h0 h1 k v hv
  cases strip with
  | false => exact hf
  | true =>
    rw [cycleK_strip Gen.kindPrefixes hwf ho hfk (hcov rfl) sem dflt (hbuf rfl) merge d k st st rfl h0 h1 (Agree.refl _ _ _)]
    exact hf

open KV.Cycle in
/-- (11) **`cycle_iter_spec`** (2-valued `LogicSim`, njit path; `strip_forks` on or off): `s[0]` after `cycle(k)` = the k-fold iterate
of the independent `KV.nextStateFrom` under any labelling family the specification accepts at the iterates `0 … k-1`. -/
theorem cycle_iter_spec (net : Net) (order : List Nat) (strip : Bool)
    (hwf : net.wfB = true) (ho : orderOKB net order = true)
    (hfk : forksOKB net order = true) (hall : linesDrivenB Gen.kindPrefixes net order = true)
    (hcov : strip = true → capDriversB net order = true)
    (d : Bool) (st : St Bool) (h0 : st.s.s0.length = net.sNodes.length)
    (h1 : st.s.s1.length = net.sNodes.length) (k : Nat) (v : List Bool → Array Bool)
    (hv : ∀ j, j < k → consistentB net (st.env net.idx.zero) (!·) prim2
        (fun p => (iter (fun a => nextStateFrom net (st.env net.idx.zero) (v a) a) j st.s.s0).getD p d)
        (v (iter (fun a => nextStateFrom net (st.env net.idx.zero) (v a) a) j st.s.s0)) = true) :
    (cycleK (fun op => semL2n op.code) (sigOps Gen.kindPrefixes net order strip) (tabsOf net strip) mergeCopy d k st).s.s0 =
      iter (fun a => nextStateFrom net (st.env net.idx.zero) (v a) a) k st.s.s0 :=
  cycle_iter_spec_any semL2n specL2 (fun _ h xs => semL2n_eq_spec h xs) (!·) prim2 semSpec2 net order strip hwf ho hfk hall false hcov
    (fun _ => semL2n_buf1) mergeCopy d st h0 h1 k v hv

open KV.Cycle in
/-- (11-4) the same for 4-valued `LogicSim` (m = 4, `s_ppo_to_ppi` copies) … -/
theorem cycle_iter_spec_m4 (net : Net) (order : List Nat) (strip : Bool)
    (hwf : net.wfB = true) (ho : orderOKB net order = true)
    (hfk : forksOKB net order = true) (hall : linesDrivenB Gen.kindPrefixes net order = true)
    (hcov : strip = true → capDriversB net order = true)
    (d : V2) (st : St V2) (h0 : st.s.s0.length = net.sNodes.length)
    (h1 : st.s.s1.length = net.sNodes.length) (k : Nat) (v : List V2 → Array V2)
    (hv : ∀ j, j < k → consistentB net (st.env net.idx.zero) spec4Not prim4
        (fun p => (iter (fun a => nextStateFromM net mergeCopy (st.env net.idx.zero) (v a) a) j st.s.s0).getD p d)
        (v (iter (fun a => nextStateFromM net mergeCopy (st.env net.idx.zero) (v a) a) j st.s.s0)) = true) :
    (cycleK (fun op => semL4 op.code) (sigOps Gen.kindPrefixes net order strip) (tabsOf net strip) mergeCopy d k st).s.s0 =
      iter (fun a => nextStateFromM net mergeCopy (st.env net.idx.zero) (v a) a) k st.s.s0 :=
  cycle_iter_spec_any semL4 specL4 (fun _ h xs => semL4_eq_spec h xs) spec4Not prim4 semSpec4 net order strip hwf ho hfk hall default hcov
    (fun _ => semL4_buf1) mergeCopy d st h0 h1 k v hv

open KV.Cycle in
/-- (11-8) … and for 8-valued `LogicSim` (m = 8), any `merge` (the real one is the transition builder `Drv.Cycle.merge8` =
`merge8L`: new value, old value, changed) -/
theorem cycle_iter_spec_m8 (net : Net) (order : List Nat) (strip : Bool)
    (hwf : net.wfB = true) (ho : orderOKB net order = true)
    (hfk : forksOKB net order = true) (hall : linesDrivenB Gen.kindPrefixes net order = true)
    (hcov : strip = true → capDriversB net order = true)
    (merge : V3 → V3 → V3) (d : V3) (st : St V3) (h0 : st.s.s0.length = net.sNodes.length)
    (h1 : st.s.s1.length = net.sNodes.length) (k : Nat) (v : List V3 → Array V3)
    (hv : ∀ j, j < k → consistentB net (st.env net.idx.zero) specNot prim8
        (fun p => (iter (fun a => nextStateFromM net merge (st.env net.idx.zero) (v a) a) j st.s.s0).getD p d)
        (v (iter (fun a => nextStateFromM net merge (st.env net.idx.zero) (v a) a) j st.s.s0)) = true) :
    (cycleK (fun op => semL8 op.code) (sigOps Gen.kindPrefixes net order strip) (tabsOf net strip) merge d k st).s.s0 =
      iter (fun a => nextStateFromM net merge (st.env net.idx.zero) (v a) a) k st.s.s0 :=
  cycle_iter_spec_any semL8 specL8 (fun _ h xs => semL8_eq_spec h xs) specNot prim8 semSpec8 net order strip hwf ho hfk hall default hcov
    (fun _ => semL8_buf1) merge d st h0 h1 k v hv

open KV.Cycle in
/-- (11c) **the run of `cycle` is THE run of the specification** (no labelling family needed).  `SpecStep net neg prim merge z d a a'`:
some labelling accepted by `consistentB` for assignment `a` yields `a' = nextStateFromM …`.  The relation is total and functional
(`specStep_total`, `specStep_functional`); (a) consecutive `s[0]` rows of the simulator are related by it; (b) every sequence of
assignments that starts at `s[0]` and follows it for k steps ends in `s[0]` after `cycle(k)`.  Any value domain, merge. -/
theorem cycle_spec_run {α} [BEq α] [LawfulBEq α] (sem spec : Nat → List α → α)
    (heq : ∀ code, KnownCode code → ∀ xs, sem code xs = spec code xs) (neg : α → α) (prim : String → α → α → α → α → α)
    (hs : SemSpec spec neg prim) (net : Net) (order : List Nat) (hwf : net.wfB = true) (ho : orderOKB net order = true)
    (hfk : forksOKB net order = true) (hall : linesDrivenB Gen.kindPrefixes net order = true)
    (merge : α → α → α) (d : α) (st : St α) (h0 : st.s.s0.length = net.sNodes.length)
    (h1 : st.s.s1.length = net.sNodes.length) :
    let run := fun k => (cycleK (fun op => sem op.code) (sigOps Gen.kindPrefixes net order false) (tabsOf net false) merge d k st).s.s0
    (∀ k, SpecStep net neg prim merge (st.env net.idx.zero) d (run k) (run (k + 1))) ∧
    (∀ (seq : Nat → List α) (k : Nat), seq 0 = st.s.s0 →
      (∀ j, j < k → SpecStep net neg prim merge (st.env net.idx.zero) d (seq j) (seq (j + 1))) → seq k = run k) :=
  cycleK_spec_run sem spec heq neg prim hs net order hwf ho hfk hall merge d st h0 h1

/-- (11c') the specification's step relation is total and functional -/
theorem spec_step_total_functional {α} [BEq α] [LawfulBEq α] (spec : Nat → List α → α) (neg : α → α)
    (prim : String → α → α → α → α → α)
    (hs : SemSpec spec neg prim) (net : Net) (order : List Nat) (hwf : net.wfB = true) (ho : orderOKB net order = true)
    (hfk : forksOKB net order = true) (hall : linesDrivenB Gen.kindPrefixes net order = true)
    (merge : α → α → α) (z d : α) (a : List α) :
    (∃ a', SpecStep net neg prim merge z d a a') ∧
    ∀ a1 a2, SpecStep net neg prim merge z d a a1 → SpecStep net neg prim merge z d a a2 → a1 = a2 :=
  ⟨specStep_total spec neg prim hs net order hwf ho hfk hall merge z d a,
   fun a1 a2 => specStep_functional spec neg prim hs net order hwf ho hfk hall merge z d a a1 a2⟩

open KV.Cycle in
/-- (11d) **`cycle(k)` = `KV.iterState`** — the executable function the driver's `eval2` runs and the oracle of harness/c01.py compares
the real `s[0]` with: position by position, for every k, provided the constant slot holds 0 and the evaluator's labelling `evalAll` is
accepted at the iterates `0 … k-1` — the flag `KV.iterAccepted net (k-1)` that `eval2` returns (AND over ALL iterates; the harness
skips a lane when it is off: combinational loop). -/
theorem cycle_iter_iterState (net : Net) (order : List Nat) (hwf : net.wfB = true) (ho : orderOKB net order = true)
    (hfk : forksOKB net order = true) (hall : linesDrivenB Gen.kindPrefixes net order = true)
    (d : Bool) (st : St Bool) (h0 : st.s.s0.length = net.sNodes.length) (h1 : st.s.s1.length = net.sNodes.length)
    (hz : st.env net.idx.zero = false) (k : Nat)
    (hacc : k = 0 ∨ iterAccepted net (k - 1) (fun p => st.s.s0.getD p false) = true) (p : Nat) :
    (cycleK (fun op => semL2n op.code) (sigOps Gen.kindPrefixes net order false) (tabsOf net false) mergeCopy d k st).s.s0.getD p false =
      iterState net k (fun p => st.s.s0.getD p false) p :=
  cycleK_iterState semL2n (fun _ h xs => semL2n_eq_spec h xs) net order hwf ho hfk hall d st h0 h1 hz k hacc p

open KV.Cycle in
/-- (11e) **lanes**: lane `k` of the bit-parallel 2-valued simulator (`BitVec w` per entry, any batch size) after `n` cycles = the
`n`-fold iterate of the specification on lane `k` of the initial `s[0]` (composition of (9) `cycle_lanes` and (11)) -/
theorem cycle_iter_spec_lanes (w k : Nat) (hk : k < w) (net : Net) (order : List Nat) (strip : Bool)
    (hwf : net.wfB = true) (ho : orderOKB net order = true)
    (hfk : forksOKB net order = true) (hall : linesDrivenB Gen.kindPrefixes net order = true)
    (hcov : strip = true → capDriversB net order = true)
    (st : St (BitVec w)) (h0 : st.s.s0.length = net.sNodes.length) (h1 : st.s.s1.length = net.sNodes.length) (n : Nat)
    (v : List Bool → Array Bool)
    (hv : ∀ j, j < n → consistentB net ((st.env net.idx.zero).getLsbD k) (!·) prim2
        (fun p => (iter (fun a => nextStateFrom net ((st.env net.idx.zero).getLsbD k) (v a) a) j (st.s.s0.map (·.getLsbD k))).getD p false)
        (v (iter (fun a => nextStateFrom net ((st.env net.idx.zero).getLsbD k) (v a) a) j (st.s.s0.map (·.getLsbD k)))) = true) :
    (cycleK (fun op => semLw w op.code) (sigOps Gen.kindPrefixes net order strip) (tabsOf net strip) mergeCopy 0 n st).s.s0.map
        (·.getLsbD k) =
      iter (fun a => nextStateFrom net ((st.env net.idx.zero).getLsbD k) (v a) a) n (st.s.s0.map (·.getLsbD k)) := by
  rw [(cycle_lanes w k hk _ _ n st).1]
  exact cycle_iter_spec net order strip hwf ho hfk hall hcov false
    ⟨fun x => (st.env x).getLsbD k, ⟨st.s.s0.map (·.getLsbD k), st.s.s1.map (·.getLsbD k)⟩⟩
    (by simpa using h0) (by simpa using h1) n v hv

open KV.Cycle in
/-- (11m) **end to end, sequential, against the independent specification, ALL circuits**: `s[0]` after `cycle(k)` ON MEMORY (the
`SimOps` model tables, `strip_forks` on or off, with or without `c_reuse`; 2-valued njit path) = the k-fold iterate of
`KV.nextStateFrom` under any labelling family accepted at the iterates; `z` = what the row of the constant slot holds. -/
theorem cycle_memory_is_spec (net : Net) (order : List Nat) (strip : Bool)
    (capsIn : Nat → Nat) (capsMin : Nat) (reuse : Bool)
    (hwf : net.wfB = true) (ho : orderOKB net order = true)
    (hfk : forksOKB net order = true) (hall : linesDrivenB Gen.kindPrefixes net order = true)
    (hr : readsDrivenB Gen.kindPrefixes net order = true) (hcov : strip = true → capDriversB net order = true)
    (hpos : 0 < capsMin) (d : Bool) (k : Nat) (m0 : Int → Bool) (s : S Bool)
    (h0 : s.s0.length = net.sNodes.length) (h1 : s.s1.length = net.sNodes.length) (v : List Bool → Array Bool) :
    let z := m0 ((simopsMap Gen.kindPrefixes net order strip capsIn capsMin reuse).loc net.idx.zero)
    (∀ j, j < k → consistentB net z (!·) prim2
        (fun p => (iter (fun a => nextStateFrom net z (v a) a) j s.s0).getD p d)
        (v (iter (fun a => nextStateFrom net z (v a) a) j s.s0)) = true) →
    (cycleKM (simopsMap Gen.kindPrefixes net order strip capsIn capsMin reuse) (fun c => semL2n c) (tabsOf net strip)
        mergeCopy d k ⟨m0, s⟩).s.s0 = iter (fun a => nextStateFrom net z (v a) a) k s.s0 := by
  intro z hv
  rw [cycle_on_memory_all_circuits Gen.kindPrefixes net order strip capsIn capsMin reuse hwf ho (fun _ => hfk) hr hpos
    (fun c => semL2n c) mergeCopy d k m0 (fun _ => z) s rfl]
  exact cycle_iter_spec net order strip hwf ho hfk hall hcov d ⟨fun _ => z, s⟩ h0 h1 k v hv

/-- non-vacuity of (11), (11a), (11d): a 2-bit counter (`q0' = NOT q0`, `q1' = q1 XOR q0`, `q1` observed at an output port), three
cycles from 00: the states are 01, 10, 11 (`s[0] = [port, q0, q1]`).  All hypotheses hold; the labelling family is the evaluator
`evalAll`; the flag `iterAccepted` for the iterates 0, 1, 2 is on; `iterState` and the simulator model give `[0, 1, 1]`. -/
def counterNet : Net :=
  { nodes := #[⟨"DFF", [some 4], [some 0]⟩, ⟨"__fork__", [some 0], [some 1, some 2]⟩, ⟨"INV1", [some 1], [some 3]⟩,
               ⟨"__fork__", [some 3], [some 4]⟩, ⟨"DFF", [some 9], [some 5]⟩, ⟨"__fork__", [some 5], [some 6, some 7]⟩,
               ⟨"XOR2", [some 2, some 6], [some 8]⟩, ⟨"__fork__", [some 8], [some 9]⟩, ⟨"output", [some 7], []⟩],
    lines := #[⟨0, 0, 1, 0⟩, ⟨1, 0, 2, 0⟩, ⟨1, 1, 6, 0⟩, ⟨2, 0, 3, 0⟩, ⟨3, 0, 0, 0⟩, ⟨4, 0, 5, 0⟩, ⟨5, 0, 6, 1⟩, ⟨5, 1, 8, 0⟩,
               ⟨6, 0, 7, 0⟩, ⟨7, 0, 4, 0⟩],
    io := [8] }
def counterOrder : List Nat := [0, 4, 1, 5, 2, 6, 3, 7, 8]
def counterSt : Cycle.St Bool := ⟨fun _ => false, ⟨[false, false, false], [false, false, false]⟩⟩
def counterV (a : List Bool) : Array Bool := evalAll counterNet false (!·) prim2 (fun p => a.getD p false)
theorem counter_hyps : counterNet.wfB = true ∧ orderOKB counterNet counterOrder = true ∧
    forksOKB counterNet counterOrder = true ∧ linesDrivenB Gen.kindPrefixes counterNet counterOrder = true ∧
    Cycle.capDriversB counterNet counterOrder = true ∧ readsDrivenB Gen.kindPrefixes counterNet counterOrder = true ∧
    counterNet.sNodes = [8, 0, 4] ∧ counterNet.arityOKB = true := by decide +kernel
example : counterNet.wfB = true ∧ orderOKB counterNet counterOrder = true ∧ forksOKB counterNet counterOrder = true ∧
    linesDrivenB Gen.kindPrefixes counterNet counterOrder = true ∧ Cycle.capDriversB counterNet counterOrder = true ∧
    readsDrivenB Gen.kindPrefixes counterNet counterOrder = true ∧
    counterNet.sNodes = [8, 0, 4] ∧ counterNet.arityOKB = true := counter_hyps
theorem counter_accepted : ∀ j, j < 3 → consistentB counterNet (counterSt.env counterNet.idx.zero) (!·) prim2
    (fun p => (Cycle.iter (fun a => nextStateFrom counterNet (counterSt.env counterNet.idx.zero) (counterV a) a) j
      counterSt.s.s0).getD p false)
    (counterV (Cycle.iter (fun a => nextStateFrom counterNet (counterSt.env counterNet.idx.zero) (counterV a) a) j
      counterSt.s.s0)) = true := by decide +kernel
theorem counter_run : iterAccepted counterNet 2 (fun p => counterSt.s.s0.getD p false) = true ∧
    (List.range 3).map (iterState counterNet 3 (fun p => counterSt.s.s0.getD p false)) = [false, true, true] ∧
    (List.range 3).map (iterState counterNet 2 (fun p => counterSt.s.s0.getD p false)) = [false, false, true] ∧
    Cycle.iter (fun a => nextStateFrom counterNet false (counterV a) a) 3 [false, false, false] = [false, true, true] := by
  decide +kernel
example : iterAccepted counterNet 2 (fun p => counterSt.s.s0.getD p false) = true ∧
    (List.range 3).map (iterState counterNet 3 (fun p => counterSt.s.s0.getD p false)) = [false, true, true] ∧
    (List.range 3).map (iterState counterNet 2 (fun p => counterSt.s.s0.getD p false)) = [false, false, true] ∧
    Cycle.iter (fun a => nextStateFrom counterNet false (counterV a) a) 3 [false, false, false] = [false, true, true] :=
  counter_run
/-- the theorem instantiated: three cycles of the simulator model (un-stripped and stripped) on the counter give state 11 -/
example (strip : Bool) :
    (Cycle.cycleK (fun op => semL2n op.code) (Cycle.sigOps Gen.kindPrefixes counterNet counterOrder strip)
      (Cycle.tabsOf counterNet strip) Cycle.mergeCopy false 3 counterSt).s.s0 = [false, true, true] := by
  rw [cycle_iter_spec counterNet counterOrder strip counter_hyps.1 counter_hyps.2.1 counter_hyps.2.2.1 counter_hyps.2.2.2.1
    (fun _ => counter_hyps.2.2.2.2.1) false counterSt (by decide +kernel) (by decide +kernel) 3 counterV counter_accepted]
  exact counter_run.2.2.2

/-- non-vacuity of (4): a two-op program -/
example : exec semL2n [⟨34952, 10, [0, 1, 9, 9]⟩, ⟨21845, 11, [10, 9, 9, 9]⟩] (fun l => l == 0 || l == 1) 11 = false := by
  decide +kernel

end KV.C01
