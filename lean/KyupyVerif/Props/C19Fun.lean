import KyupyVerif.Props.C19Gates
import KyupyVerif.Proofs.TechAdd
/-! # C19 (continued) — the datasheet function of EVERY listed family, adders included

See Props/C19.lean for what is generated, specified and proved.  `Tech.adders` is the kernel evaluation of the
function checker on the half and full adders (`HA`, `ADDH`, `HADD`, `FA`, `ADDF`, `FADD`): sum (parity) on the pin
called `S`/`SO`, carry (majority) on the pin called `CO`/`C1`. -/
namespace KV.C19
open KV KV.TL KV.DS KV.Sig

/-- **family_function**: for every library, every cell name whose family the property lists (AND/OR/NAND/NOR/XOR/XNOR
    of its arity, buffers and inverters, AO/OA/AOI/OAI groupings, multiplexers, half/full adders) and ALL input rows:
    the cell is purely combinational, its pins fit the family, and the real `SimOps` program of its implementation,
    executed with the LUT semantics, yields the datasheet function on the line captured for every output pin. -/
theorem family_function {c : Cell} (hc : c ∈ Tech.cells) {name : Str} (hn : name ∈ c.names)
    {fam : Fam} (hf : classify (baseName name) = some fam) :
    c.nSeq = 0 ∧ ∃ fs, datasheet fam c.inNames c.outNames = some fs ∧ fs.length = c.outLines.length ∧
      ∀ k (hk : k < c.outLines.length) (hf : k < fs.length) (vals : List Bool), vals.length = c.inNames.length →
        exec lutSem c.prog (c.env vals) (c.outLines[k]).2 = fs[k] vals := by
  cases ha : fam.isAdder with
  | true => exact funOK_sound (all_chunks Tech.adders hc) hn hf ha
  | false => exact family_function_except_adders hc hn hf ha

/-- a full adder is among the cells the theorem speaks about (SAED90 `FADDX1`: pins A, B, CI → S, CO) -/
example : ∃ c ∈ Tech.cells, c!"FADDX1" ∈ c.names ∧ classify (baseName c!"FADDX1") = some .fullAdder ∧
    c.inNames = [c!"A", c!"B", c!"CI"] ∧ c.outNames = [c!"S", c!"CO"] := by decide +kernel

end KV.C19
