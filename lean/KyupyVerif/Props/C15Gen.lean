import KyupyVerif.Proofs.Encode
import KyupyVerif.Gen.MvTables
import KyupyVerif.Gen.EncTables
/-! # C15 — statements over the GENERATED tables of the real code

`Gen.renderChars` = `mv_str(arange(8))` character by character, `Gen.interpretAscii` = `interpret(ch)` for every
printable ASCII character, `Gen.interpretOther` = `interpret` of `0, 1, False, True, None`, `Gen.valueConsts` = the
eight constants (gen/dump_tables.py); `Gen.popCountLut`, `Gen.bitInLut` = the module tables behind `popcount` and
`bit_in` (gen/dump_encode.py).  They are regenerated from the working tree on every run, so each theorem here
is re-checked by the kernel against what the code of that tree does.  On a tree where `mv_str` raises, `renderChars = []`
and `render_parse` (and everything that renders) does not check: finding D2.

The documented characters and aliases (`docChars`, `docAliases`, below) are transcribed from the docstrings of
logic.py:54-80 and are part of the specification. -/
namespace KV.C15
open KV.Enc KV.Gen

/-- the documented render characters `0X-1PRFN` of the values 0..7 -/
def docChars : List Nat := "0X-1PRFN".toList.map Char.toNat
/-- the documented aliases: character ↦ value (logic.py:54-80) -/
def docAliases : List (Char × Nat) :=
  [('0', 0), ('L', 0), ('l', 0), ('X', 1), ('-', 2), ('Z', 2), ('z', 2), ('1', 3), ('H', 3), ('h', 3),
   ('P', 4), ('p', 4), ('^', 4), ('R', 5), ('r', 5), ('/', 5), ('F', 6), ('f', 6), ('\\', 6),
   ('N', 7), ('n', 7), ('v', 7)]

def interp (c : Nat) : Nat := interpretWith interpretAscii c
def render (v : Nat) : Option Nat := renderChars[v]?

/-- the constants carry their documented codes -/
theorem value_consts : valueConsts = [("ZERO", 0), ("UNKNOWN", 1), ("UNASSIGNED", 2), ("ONE", 3), ("PPULSE", 4),
    ("RISE", 5), ("FALL", 6), ("NPULSE", 7)] := by decide +kernel

/-- **render/parse**: each of the eight values renders to its documented character and that character parses back
to the value; there are exactly eight render characters -/
theorem render_parse : renderChars.length = 8 ∧
    ∀ v, v < 8 → render v = docChars[v]? ∧ (render v).map interp = some v := by decide +kernel

/-- rendering is injective on the eight values -/
theorem render_injective : ∀ u, u < 8 → ∀ v, v < 8 → render u = render v → u = v := by decide +kernel

/-- every documented alias parses to its documented value -/
theorem aliases_parse : ∀ p ∈ docAliases, interp p.1.toNat = p.2 := by decide +kernel

/-- the table covers exactly the printable ASCII characters 32..126, and every one of them that is not a
documented alias parses to UNKNOWN -/
theorem others_unknown : interpretAscii.map (·.1) = (List.range 95).map (· + 32) ∧
    ∀ c, c < 127 → 32 ≤ c → (docAliases.map (·.1.toNat)).contains c = false → interp c = 1 := by decide +kernel

/-- `interpret` of `0`, `1`, `False`, `True`, `None` -/
theorem other_aliases : interpretOther = [("i0", 0), ("i1", 3), ("bF", 0), ("bT", 3), ("none", 2)] := by
  decide +kernel

/-- every value `interpret` returns has a render character -/
theorem tables_ok : tblOK interpretAscii renderChars = true := by decide +kernel

/-- canonical character: `render (interpret c)` -/
def canonCh (c : Nat) : Nat := canon interpretAscii renderChars c

/-- a render character is its own canonical form -/
theorem canon_render : ∀ v, v < 8 → (render v).map canonCh = render v := by decide +kernel

/-- **string round trip** (`P ≥ 2` patterns of common length `S ≠ 1`): `mv_str(mvarray(s₀,…))` is the patterns,
one per line, each character canonicalised -/
theorem str_roundtrip (delim : List Nat) (ss : List (List Nat)) (S : Nat)
    (hu : ∀ s ∈ ss, s.length = S) (hP : 2 ≤ ss.length) (hS : S ≠ 1) :
    (mvarray interpretAscii ss).bind (mvStr renderChars delim) = some (delim.intercalate (ss.map (·.map canonCh))) := by
  rw [mvarray_2d _ ss S hu hP hS]
  exact mvStr_2d interpretAscii renderChars delim tables_ok ss S hu

/-- one pattern string: `mv_str(mvarray(s))` is `s` canonicalised -/
theorem str_roundtrip_single (delim : List Nat) (s : List Nat) :
    (mvarray interpretAscii [s]).bind (mvStr renderChars delim) = some (s.map canonCh) := by
  rw [mvarray_single]
  exact mvStr_1d interpretAscii renderChars delim tables_ok s

/-- the real `_pop_count_lut` holds the number of one bits of every byte -/
theorem popCountLut_eq : popCountLut = onesLut := by decide +kernel

/-- **popcount** (table look-up in the real `_pop_count_lut`, summed) = number of one bits, for every `uint8` data -/
theorem popcount_spec (a : List Nat) (ha : ∀ x ∈ a, x < 256) : popcountWith popCountLut a = onesOf a :=
  popcount_eq_ones popCountLut popCountLut_eq a ha

/-- **popcount on other integer dtypes** (the docstring says `uint8`): `_pop_count_lut[a]` is numpy indexing into 256
entries, so for values in `-256 .. 255` (every `int8` array; `uint16`/`int32`/… arrays with small entries) the result is the number
of one bits of the LOW BYTE in two's complement of each element — for `int8` that is the number of one bits of the data, for wider
dtypes it is NOT (an `int32` `-1` counts 8, not 32) … -/
theorem popcount_int_spec (a : List Int) (ha : ∀ x ∈ a, -256 ≤ x ∧ x < 256) :
    popcountInt popCountLut a = some (onesOf (a.map fun x => (x % 256).toNat)) :=
  popcountInt_spec popCountLut popCountLut_eq a ha

/-- … and any element outside `-256 .. 255` makes the real `popcount` raise IndexError (`popcount(np.uint16([511, 3]))`) -/
theorem popcount_int_raises (a : List Int) (h : ∃ x ∈ a, x < -256 ∨ 256 ≤ x) : popcountInt popCountLut a = none := by
  obtain ⟨x, hx, hr⟩ := h
  have : a.all (fun x => decide (-256 ≤ x) && decide (x < 256)) = false := by
    rw [List.all_eq_false]
    refine ⟨x, hx, ?_⟩
    rcases hr with hr | hr <;> simp <;> omega
  unfold popcountInt
  rw [if_neg (by simp [this])]

example : popcountInt popCountLut [3, -1] = some 10 ∧ popcountInt popCountLut [511, 3] = none := by decide +kernel

/-- `bit_in(a, pos)` masks bit `7 - pos % 8` of byte `pos / 8`: MOST significant bit first (the order of
`np.packbits` default), i.e. not the lane order of `mv_to_bp` (`bp_layout`: least significant first) -/
theorem bit_in_spec (a : List Nat) (pos : Nat) :
    bitInWith bitInLut a pos = a.getD (pos / 8) 0 &&& 2 ^ (7 - pos % 8) :=
  bitIn_eq bitInLut (by decide +kernel) a pos

/-! non-vacuity -/
example : (mvarray interpretAscii ["01X-".toList.map Char.toNat, "hLzZ".toList.map Char.toNat]).bind
    (mvStr renderChars [10]) = some ("01X-\n10--".toList.map Char.toNat) := by decide +kernel
example : popcountWith popCountLut [255, 1, 0, 0x5A] = 13 := by decide +kernel

end KV.C15
