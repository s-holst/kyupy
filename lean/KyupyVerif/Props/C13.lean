import KyupyVerif.Proofs.WaveExact
import KyupyVerif.Proofs.WaveMemDemo
import KyupyVerif.Proofs.ActivityCirc
/-! # C13 — capture results and switching-activity counts faithfully summarise waveforms

Models (M): `Wave.captureWv` = `wave_capture_cpu` / `wave_capture_gpu` with `sd = 0`; `Wave.waveCounts` = the
`(nrise, nfall)` pair `_wave_eval` returns; `Wave.accumulate` = the `abuf[a_loc, sim] += nrise*a_wr + nfall*a_wf`
updates of `level_eval_cpu` / `wave_eval_gpu`. Tied to the code by correspondence (harness/c13.py); the
accumulation itself is RUN by the driver (`accum`: `Wave.accumulate` on the zero row, fed with the model's per-op counts and the real
accumulation-control columns 6..8 of `ops`, once per propagation) and compared with the real `abuf`. `abuf_sum` / `abuf_order_independent` are statements about ANY contribution list; the statement
"after `c_prop` accumulator `a` of lane `x` grew by Σ over the rows with `aLoc = a` of `aWr·nrise + aWf·nfall` of the waveform the row
produced" is the theorem `activity_all_programs` (last section): over `WaveIO.cpuCProp` with `accAdd`, for EVERY op table, level
table, lane count and evaluator function — in particular the tables of every circuit; the kernel path `gpuCProp` computes the same
arrays for every block shape (`C06.c_prop_paths_agree`). `activity_any_schedule` / `activity_all_circuits` state it for `gpuCProp`
with the waveform evaluator `evWave` on the real memory layout, in terms of signal-level waveforms;
`activity_counts_are_transitions`: the counts `evWave` returns are the transitions of the waveform it stored.

**Memory level** (last section; memory model in the header of Props/C03.lean): `wave_capture_cpu` / `wave_capture_gpu` scan the region
`c[c_loc : c_loc + c_len]` of an output slot up to the first cell `≥ TMAX` — that is `captureWv (rdWave c_loc c_len m)`.
`capture_faithful_mem`: after ANY propagation on the real layout (accepted map certificate) the record captured at output
slot `j` is the faithful summary of the SIGNAL-LEVEL waveform of the captured signal; `clear_means_exact_mem`: if its overflow
indicator is clear, the stored waveform is the one a simulation with any larger (unlimited) capacities computes;
`counts_faithful_mem`: the counts an evaluator call returns are the transitions of the waveform it left in the output region;
`capture_all_circuits`: for the tables of the `SimOps` model of every circuit. -/
namespace KV.C13
open KV KV.Sig KV.Wave

/-- after capture: initial value, earliest arrival, latest stabilisation, final value, the value just before
    the capture time `T` and the overflow indicator are exactly what the waveform encodes — for every waveform
    and every capture time -/
theorem capture_faithful (w : Wv) (time : T) :
    captureWv w time =
      { init := w.init, eat := specEat w, lst := specLst w, final := w.final,
        val := valueAt w time, ovl := w.term == T.tovl } := capture_spec w time

/-- the transition counts returned by the evaluator are the numbers of rising and falling transitions of the
    waveform it stores (a leading `tmin` is the initial value, not a transition) -/
theorem counts_faithful (cfg : WCfg) (op : Op) (xs : List Wv) (hd : ∀ l p q, 0 ≤ cfg.delay l p q)
    (hc : 4 ≤ cfg.cap op.out) (hx : ∀ x ∈ xs, x.ok) :
    waveCounts cfg op xs = countTrans false (waveSem cfg op xs).ents :=
  waveCounts_eq_countTrans ⟨hd, hc, slot_ok hx⟩

/-- whenever the overflow indicator of a signal is clear, its waveform is identical to the one computed with
    any larger capacities (in particular unlimited capacity) — for every program, delays ≥ 0, inputs -/
theorem clear_means_exact (cfg cfg' : WCfg) (hdel : cfg'.delay = cfg.delay) (hcap : ∀ i, cfg.cap i ≤ cfg'.cap i)
    (ops : List Op) (hg : cfg.Good ops) (env : Nat → Wv) (henv : ∀ l, (env l).ok) (l : Nat)
    (hclear : (simWave cfg ops env l).term ≠ T.tovl) :
    simWave cfg' ops env l = simWave cfg ops env l :=
  Wave.clear_means_exact cfg cfg' hdel hcap ops hg env henv l hclear

/-- accumulated weighted switching activity: per accumulator the start value plus the weighted counts of all
    contributions addressed to it … -/
theorem abuf_sum (ab : Nat → Int) (cs : List Contrib) (a : Nat) :
    accumulate ab cs a = ab a + totalFor a cs := accumulate_spec ab cs a
/-- … independent of the order in which ops / threads add them -/
theorem abuf_order_independent (ab : Nat → Int) (cs cs' : List Contrib) (h : cs.Perm cs') :
    accumulate ab cs = accumulate ab cs' := accumulate_perm ab cs cs' h

/-- non-vacuity: a waveform that starts high, falls at 4, rises at 9; captured at 6 → value 0 -/
example : captureWv ⟨[T.tmin, T.fin 4, T.fin 9], T.tmax⟩ (T.fin 6) =
    { init := true, eat := T.fin 4, lst := T.fin 9, final := true, val := false, ovl := false } := by decide +kernel
example : countTrans false [T.tmin, T.fin 4, T.fin 9] = (1, 1) := by decide +kernel
example : accumulate (fun _ => 0) [⟨some 1, 3⟩, ⟨none, 5⟩, ⟨some 1, -2⟩, ⟨some 0, 7⟩] 1 = 1 := by decide +kernel

/-! ## memory level -/
open KV.MapSound

/-- **capture on memory is faithful to the signal level**: accepted map; after ANY propagation the record `wave_capture_cpu` / `wave_capture_gpu`
    compute from the region of output slot `j` (initial value, earliest arrival, latest stabilisation, final value, value at
    the capture time, overflow indicator) is exactly the summary of the waveform `simWave` computes for the captured signal —
    for every capture time -/
theorem capture_faithful_mem (p : MapIn) (hc : p.check = none) (delay : Nat → Bool → Bool → Int) (m0 m' : Int → T)
    (env0 : Nat → Wv) (hst : Stimulus p m0 env0) (hpr : Propagated p delay m0 m') (j s : Nat) (hjs : (j, s) ∈ p.ppoSrcs)
    (time : T) :
    let w := simWave (wcfg p delay) (waveProg p) env0 s
    captureWv (rdWave (p.loc j) (p.cap j) m') time =
      { init := w.init, eat := specEat w, lst := specLst w, final := w.final, val := valueAt w time,
        ovl := w.term == T.tovl } := by
  intro w
  rw [propagated_eq_sim p hc delay m0 m' env0 hst hpr j s hjs]
  exact capture_spec w time

/-- **clear means exact, on memory**: if the overflow indicator captured at output slot `j` is clear, the waveform stored in
    its region is identical to the one a simulation with ANY larger capacities `cfg'` (same delays; in particular unlimited
    capacity) computes for the captured signal -/
theorem clear_means_exact_mem (p : MapIn) (hc : p.check = none) (h4 : 4 ≤ p.capsMin) (delay : Nat → Bool → Bool → Int)
    (hd : ∀ l a b, 0 ≤ delay l a b) (m0 m' : Int → T) (env0 : Nat → Wv) (henv : ∀ l, (env0 l).ok)
    (hst : Stimulus p m0 env0) (hpr : Propagated p delay m0 m') (j s : Nat) (hjs : (j, s) ∈ p.ppoSrcs) (time : T)
    (cfg' : WCfg) (hdel : cfg'.delay = delay) (hcap : ∀ i, p.cap i ≤ cfg'.cap i)
    (hclear : (captureWv (rdWave (p.loc j) (p.cap j) m') time).ovl = false) :
    rdWave (p.loc j) (p.cap j) m' = simWave cfg' (waveProg p) env0 s := by
  have hsim := propagated_eq_sim p hc delay m0 m' env0 hst hpr j s hjs
  rw [hsim] at hclear ⊢
  have hne : (simWave (wcfg p delay) (waveProg p) env0 s).term ≠ T.tovl := by
    intro e
    simp [captureWv, e] at hclear
  exact (clear_means_exact (wcfg p delay) cfg' hdel hcap (waveProg p) (wcfg_good p hc h4 delay hd) env0 henv s hne).symm

/-- **counts on memory**: for one evaluator call honouring `WaveStep` (delays ≥ 0, output capacity ≥ 4, well-formed
    operand waveforms in memory) the `(nrise, nfall)` it returns for the operands it read are the numbers of rising and
    falling transitions of the waveform it left in the region of its output -/
theorem counts_faithful_mem (p : MapIn) (cfg : WCfg) (o : OpRow) (m m' : Int → T) (hd : ∀ l a b, 0 ≤ cfg.delay l a b)
    (hcap : 4 ≤ cfg.cap o.out) (hstep : WaveStep p cfg o m m')
    (hargs : ∀ i ∈ o.ins, (rdWave (p.loc i) (p.cap i) m).ok) :
    waveCounts cfg (wvOp p o) (o.ins.map fun i => rdWave (p.loc i) (p.cap i) m) =
      countTrans false (rdWave (p.loc o.out) (p.cap o.out) m').ents := by
  rw [hstep.2]
  apply counts_faithful cfg (wvOp p o) _ hd hcap
  intro x hx
  obtain ⟨i, hi, rfl⟩ := List.mem_map.1 hx
  exact hargs i hi

/-- **all circuits**: for the map record of the `SimOps` model of ANY well-formed netlist, topological order, `strip_forks` /
    `c_reuse` setting, capacity vector and `c_caps_min ≥ 4`: what `c_to_s` captures at the output slot of interface node `n`
    (position `i`, data pin on line `l`) after any propagation is the faithful summary of the signal-level waveform of the
    captured signal `src l`, and a clear overflow indicator means that waveform is exact -/
theorem capture_all_circuits (tbl : List PrefixRow) (net : Net) (order : List Nat) (strip : Bool)
    (capsIn : Nat → Nat) (capsMin : Nat) (reuse : Bool) (p : MapIn)
    (hp : p = simopsMap tbl net order strip capsIn capsMin reuse)
    (hwf : net.wfB = true) (ho : orderOKB net order = true) (hf : strip = true → forksOKB net order = true)
    (hr : readsDrivenB tbl net order = true) (h4 : 4 ≤ capsMin)
    (delay : Nat → Bool → Bool → Int) (hd : ∀ l a b, 0 ≤ delay l a b) (m0 m' : Int → T) (env0 : Nat → Wv)
    (henv : ∀ l, (env0 l).ok) (hst : Stimulus p m0 env0) (hpr : Propagated p delay m0 m')
    (n i l : Nat) (hn : (n, i) ∈ net.sNodes.zipIdx) (hl : (net.node n).inPin 0 = some l) (time : T) :
    let w := simWave (wcfg p delay) (waveProg p) env0 (p.src l)
    let r := rdWave (p.loc (net.idx.ppo + i)) (p.cap (net.idx.ppo + i)) m'
    captureWv r time = { init := w.init, eat := specEat w, lst := specLst w, final := w.final, val := valueAt w time,
                         ovl := w.term == T.tovl } ∧
    ((captureWv r time).ovl = false → ∀ cfg' : WCfg, cfg'.delay = delay → (∀ x, p.cap x ≤ cfg'.cap x) →
      r = simWave cfg' (waveProg p) env0 (p.src l)) := by
  intro w r
  subst hp
  have hc := simopsMap_accepted strip capsIn capsMin reuse hwf ho hf hr (by omega)
  have hjs := mem_ppoSrcs (simopsMap tbl net order strip capsIn capsMin reuse) hn hl
  exact ⟨capture_faithful_mem _ hc delay m0 m' env0 hst hpr _ _ hjs time, fun hclear cfg' hdel hcap =>
    clear_means_exact_mem _ hc h4 delay hd m0 m' env0 henv hst hpr _ _ hjs time cfg' hdel hcap hclear⟩

/-- non-vacuity on `Wave.memDemo` (strip + reuse; `a` rises at 5, `b` constant 1): what is captured from cells 20…23 of the
    real layout after the propagation, at capture time 6 -/
example (junk : Int → Nat → Wv → (Int → T) → Int → T) :
    captureWv (rdWave 20 4 (memRun memDemo (waveRW junk) (waveRow (wcfg memDemo memDemoDelay) memDemo)
      (schedOps memDemo [1, 0, 2, 3]) memDemoM0)) (T.fin 6) =
    { init := true, eat := T.fin 8, lst := T.fin 8, final := false, val := true, ovl := false } := by
  have key := capture_faithful_mem memDemo memDemo_check memDemoDelay memDemoM0 _ (inputEnv memDemo memDemoM0)
    (stimulus_inputEnv _ _) (memDemo_propagated junk) 14 5 memDemo_out.2.2 (T.fin 6)
  rw [memDemo_out.1, memDemo_out.2.1] at key
  rw [key, memDemo_sim]
  decide +kernel

/-- non-vacuity of `counts_faithful_mem`: the first evaluator call of that propagation (row `line 1 := BUF1(input slot 10)`,
    operands well formed in the initial memory) -/
example (junk : Int → Nat → Wv → (Int → T) → Int → T) : ∃ m1,
    waveCounts (wcfg memDemo memDemoDelay) (wvOp memDemo ⟨43690, 1, 10, 6, 6, 6⟩)
        ((OpRow.ins ⟨43690, 1, 10, 6, 6, 6⟩).map fun i => rdWave (memDemo.loc i) (memDemo.cap i) memDemoM0) =
      countTrans false (rdWave (memDemo.loc 1) (memDemo.cap 1) m1).ents := by
  have hrun := memDemo_run junk
  have hso : schedOps memDemo [1, 0, 2, 3] =
      ⟨43690, 1, 10, 6, 6, 6⟩ :: [⟨43690, 0, 9, 6, 6, 6⟩, ⟨34952, 4, 2, 3, 6, 6⟩, ⟨21845, 5, 4, 6, 6, 6⟩] := by decide +kernel
  rw [hso] at hrun
  obtain ⟨m1, hstep, _⟩ := waveRun_head hrun
  refine ⟨m1, counts_faithful_mem memDemo _ _ memDemoM0 m1 memDemoDelay_nonneg (by decide +kernel) hstep ?_⟩
  intro i hi
  simp only [OpRow.ins, List.mem_cons, List.not_mem_nil, or_false] at hi
  have h10 : (10 : Nat) ∈ memDemo.ppiSlots := by rw [memDemo_tables.2.2.1]; decide
  rcases hi with rfl | rfl | rfl | rfl
  · exact memDemo_inputs 10 (Or.inl h10)
  all_goals exact memDemo_inputs 6 (Or.inr rfl)

/-! ## accumulated activity of a whole `c_prop`
`activity_all_programs` is stated for the CPU path and every evaluator function; the kernel path leaves the same arrays
(`C06.c_prop_paths_agree`), and the two theorems on the real memory layout (`activity_any_schedule`, `activity_all_circuits`) are
stated for it.
`WaveIO.cpuCProp` / `gpuCProp` = `WaveSim.c_prop` / `WaveSimCuda.c_prop` of Model/WaveIO.lean (run by the driver on the raw memory and tables of real objects of both classes: C06 clause `path-tie-cprop`, driver `wio-cprop` — waveform of every region and every accumulator of every lane; the same cases evaluate the hypotheses of `activity_all_circuits`: tags `cprop-hyp:*`);
`WaveIO.sched ops levels` = the rows in the order a lane sees them; `laneMem` / `laneTrace` = the lane's memory column after the rows /
the rows with the `(nrise, nfall)` the evaluator returned for them. -/
open KV.WaveIO in
/-- **accumulated switching activity after a propagation** — every evaluator function `ev`, op table with accumulation control,
    level table, lane count `sims`, lane `k < sims`, accumulator `a`: after `c_prop` the accumulator holds its start value plus
    the sum, over the rows addressed to `a` in schedule order, of `nrise·a_wr + nfall·a_wf` with the counts the evaluation of that
    row returned; rows with `a_loc < 0` contribute nothing, negative indices are never written; the lane's memory is the run of
    the rows alone (accumulation does not feed back); lanes `≥ sims` are untouched -/
theorem activity_all_programs (ev : Ev) (ops : List AOp) (levels : List (Nat × Nat)) (sims : Nat) (S : Nat → LaneSt) (k : Nat)
    (hk : k < sims) :
    (∀ a : Nat, (cpuCProp ev ops levels sims S k).ab (a : Int) =
        (S k).ab (a : Int) + totalFor a ((laneTrace ev k (sched ops levels) (S k).c).map contribOf)) ∧
    (∀ a : Int, a < 0 → (cpuCProp ev ops levels sims S k).ab a = (S k).ab a) ∧
    (cpuCProp ev ops levels sims S k).c = laneMem ev k (sched ops levels) (S k).c ∧
    (∀ j, sims ≤ j → cpuCProp ev ops levels sims S j = S j) := by
  refine ⟨fun a => ?_, fun a ha => ?_, ?_, fun j hj => by rw [cpuCProp_lane, if_neg (by omega)]⟩ <;>
    rw [cpuCProp_lane, if_pos hk]
  · rw [laneRun_ab, accumulate_spec]
  · exact laneRun_ab_neg ev k _ _ a ha
  · exact laneRun_c ev k _ _

open KV.WaveIO in
/-- which counts enter the sum: entry `i` of the trace is row `i` of the schedule with the counts of ITS evaluation on the
    memory the rows before it left (not on the initial memory, not on the final one) -/
theorem activity_trace_entry (ev : Ev) (sim : Nat) (rows : List AOp) (c : Col) (i : Nat) (hi : i < rows.length) :
    ((laneTrace ev sim rows c).map contribOf)[i]'(by rw [List.length_map, laneTrace_length]; exact hi) =
      contribOf (rows[i], (ev rows[i].op sim (laneMem ev sim (rows.take i) c)).2.1,
        (ev rows[i].op sim (laneMem ev sim (rows.take i) c)).2.2) := by
  rw [List.getElem_map]
  congr 1
  induction rows generalizing c i with
  | nil => exact absurd hi (by simp)
  | cons o r ih =>
    cases i with
    | zero => rfl
    | succ i =>
      simp only [laneTrace, List.getElem_cons_succ, List.take_succ_cons, laneMem]
      exact ih _ i (by simpa using hi)

open KV.WaveIO in
/-- with the waveform evaluator (`evWave`, one configuration; delays ≥ 0, output capacity ≥ 4, well-formed operand waveforms in
    memory) the counts of an evaluation are the rising / falling transitions of the waveform its output region holds afterwards -/
theorem activity_counts_are_transitions (g : WCfg) (loc : Nat → Int) (o : OpRow) (sim : Nat) (c : Col)
    (hd : ∀ l p q, 0 ≤ g.delay l p q) (hc : 4 ≤ g.cap o.out)
    (hx : ∀ i ∈ o.ins, (readWave (rdCells c (loc i) (g.cap i))).ok) :
    (evWave (fun _ => g) loc o sim c).2 =
      countTrans false (readWave (rdCells (evWave (fun _ => g) loc o sim c).1 (loc o.out) (g.cap o.out))).ents := by
  obtain ⟨h1, h2, _⟩ := evWave_reads_back g loc o sim c hd hc hx
  rw [h1, h2]
  have hxs : ∀ x ∈ (o.ins.map fun i => readWave (rdCells c (loc i) (g.cap i))), x.ok := by
    intro x hx'
    obtain ⟨i, hi, rfl⟩ := List.mem_map.mp hx'
    exact hx i hi
  exact waveCounts_eq_countTrans ⟨hd, hc, slot_ok hxs⟩

open KV.WaveIO KV.MapSound in
/-- accumulated activity for ANY op / level tables whose schedule the certificate accepts (hypotheses of `C03.cprop_memory_sound`:
    `order` a duplicate-free level-respecting order of the rows of `p`, the rows a lane sees are those rows in that order); the
    signal-level trace runs along the same order -/
theorem activity_any_schedule (p : MapIn) (hc : p.check = none) (h4 : 4 ≤ p.capsMin) (delay : Nat → Bool → Bool → Int)
    (hd : ∀ l a b, 0 ≤ delay l a b) (ops : List AOp) (levels : List (Nat × Nat))
    (sims bx by_ : Nat) (hbx : 0 < bx) (hby : 0 < by_) (S : Nat → LaneSt) (k : Nat) (hk : k < sims)
    (order : List Nat) (horder : p.schedOKB order = true) (hrows : (WaveIO.sched ops levels).map (·.op) = schedOps p order)
    (env0 : Nat → Wv) (henv : ∀ x, (env0 x).ok) (h0 : Stimulus p (S k).c env0) (a : Nat) :
    (gpuCProp (evWave (fun _ => wcfg p delay) p.loc) ops levels sims bx by_ S k).ab (a : Int) =
      (S k).ab (a : Int) + totalFor a
        (List.zipWith (fun (o : AOp) (e : OpRow × Nat × Nat) => contribOf (o, e.2.1, e.2.2)) (WaveIO.sched ops levels)
          (sigTrace p (waveRow (wcfg p delay) p)
            (fun o args => countTrans false (waveRow (wcfg p delay) p o args).ents) (schedOps p order) env0)) := by
  rw [gpuCProp_eq_cpuCProp _ ops _ sims bx by_ hbx hby, (activity_all_programs _ ops _ sims S k hk).1 a,
    contribs_zip _ _ (laneTrace_rows _ k _ (S k).c),
    laneTrace_eq_sigTrace p hc h4 delay hd k _ order (schedOKB_sound p order horder).1 hrows (S k).c env0 henv h0,
    sigTrace_counts p hc h4 delay hd _ (fun _ h => mem_schedOps h) env0 henv]

open KV.WaveIO KV.MapSound in
/-- **accumulated activity on the real memory layout, in terms of signal-level waveforms** — `p` an accepted map record (for the
    tables of the `SimOps` model of EVERY well-formed netlist: `C08.simops_map_accepted`) with `c_caps_min ≥ 4`, delays ≥ 0, the op
    table lists the rows of `p` with any accumulation control, contiguous level boundaries, either code path, any block shape, lane
    `k < sims` whose column holds a well-formed stimulus: accumulator `a` ends at its start value plus the sum over the rows
    addressed to `a` of `a_wr·nrise + a_wf·nfall`, where `(nrise, nfall)` are the numbers of rising / falling transitions of the
    waveform the row produces in SIGNAL-LEVEL execution (`sigTrace`: no memory, no regions, operands = the source signals) —
    although regions are shared by stripped branches and re-used by later signals -/
theorem activity_all_circuits (p : MapIn) (hc : p.check = none) (h4 : 4 ≤ p.capsMin) (delay : Nat → Bool → Bool → Int)
    (hd : ∀ l a b, 0 ≤ delay l a b) (ops : List AOp) (hops : ops.map (·.op) = p.ops) (bs : List Nat)
    (hbs : List.Pairwise (· ≤ ·) (0 :: bs)) (hlast : (bs.getLast?).getD 0 = ops.length)
    (sims bx by_ : Nat) (hbx : 0 < bx) (hby : 0 < by_) (S : Nat → LaneSt) (k : Nat) (hk : k < sims)
    (env0 : Nat → Wv) (henv : ∀ x, (env0 x).ok) (h0 : Stimulus p (S k).c env0) (a : Nat) :
    (gpuCProp (evWave (fun _ => wcfg p delay) p.loc) ops (WaveIO.levelPairs 0 bs) sims bx by_ S k).ab (a : Int) =
      (S k).ab (a : Int) + totalFor a
        (List.zipWith (fun (o : AOp) (e : OpRow × Nat × Nat) => contribOf (o, e.2.1, e.2.2)) ops
          (sigTrace p (waveRow (wcfg p delay) p)
            (fun o args => countTrans false (waveRow (wcfg p delay) p o args).ents) p.ops env0)) := by
  have h := activity_any_schedule p hc h4 delay hd ops (WaveIO.levelPairs 0 bs) sims bx by_ hbx hby S k hk
    (List.range p.ops.length) (schedOKB_range p) (by rw [sched_contiguous ops bs hbs hlast, hops, schedOps_range]) env0 henv h0 a
  rwa [sched_contiguous ops bs hbs hlast, schedOps_range] at h

open KV.WaveIO KV.MapSound in
/-- non-vacuity on `Wave.memDemo` (strip + reuse: line 5 re-uses the region of line 0; `a` rises at 5, `b` constant 1): every row
    feeds accumulator 0 with weights `(2, 3)`; signal-level transitions per row `(1,0) (0,0) (1,0) (0,1)` — lane 0 ends at 7 -/
example :
    let ops : List AOp := memDemo.ops.map fun o => ⟨o, 0, 2, 3⟩
    let S : Nat → LaneSt := fun _ => ⟨memDemoM0, fun _ => 0⟩
    (gpuCProp (evWave (fun _ => wcfg memDemo memDemoDelay) memDemo.loc) ops (WaveIO.levelPairs 0 [2, 3, 4]) 2 1 1 S 0).ab 0 = 7 := by
  intro ops S
  have h := activity_all_circuits memDemo memDemo_check (by decide) memDemoDelay memDemoDelay_nonneg ops
    (by simp [ops, List.map_map, Function.comp_def]) [2, 3, 4] (by decide) (by decide +kernel) 2 1 1 (by decide) (by decide) S 0 (by decide)
    (inputEnv memDemo memDemoM0) (inputEnv_ok memDemo memDemoM0 memDemo_inputs) (stimulus_inputEnv memDemo memDemoM0) 0
  rw [show ((0 : Nat) : Int) = 0 from rfl] at h
  rw [h]
  decide +kernel

open KV.WaveIO in
/-- non-vacuity: two levels, three rows (accumulators 1, none, 1; weights (2,3), (5,7), (1,−1)), an evaluator returning
    `(nrise, nfall) = (out, 1)`: lane 0 of 2, accumulator 1 starts at 10 and ends at 10 + (4·2 + 1·3) + (6·1 − 1·1) = 26 -/
example :
    (cpuCProp (fun o _ c => (c, o.out, 1))
      [⟨⟨0, 4, 0, 0, 0, 0⟩, 1, 2, 3⟩, ⟨⟨0, 5, 0, 0, 0, 0⟩, -1, 5, 7⟩, ⟨⟨0, 6, 0, 0, 0, 0⟩, 1, 1, -1⟩] [(0, 2), (2, 3)] 2
      (fun _ => ⟨fun _ => T.tmax, fun _ => 10⟩) 0).ab 1 = 26 := by decide +kernel

end KV.C13
