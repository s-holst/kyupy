import KyupyVerif.Props.C12
/-! # C12 — the operators form one algebra: operand order and grouping are irrelevant

On top of `Props/C12.lean` (every recorded k-operand form, k = 1..4, is `spec*` of the operand list; `spec*_perm`,
`spec*_cons`, `bp8_*_nested`); this is the file Proofs/SpecRel.lean imports, i.e. what C02 and C05 rest on:

* `bp8_*_comm`, `bp8_*_assoc` — the real 2-operand forms are commutative and associative on all eight values;
* `bp8_*_fold`, `bp4_*_fold`, `mv_*_fold` — for operand lists of ANY length the documented algebra is the right fold of
  the recorded REAL 2-operand operator, in each storage format (one induction, `fold_of_cons`), so the formats agree
  for any number of operands (`formats_agree_fold_*`) and the code's bit-parallel 4-operand forms are instances (`bp8_*4_is_fold`, `bp4_*4_is_fold`).

A change to `logic.py` that makes one arity disagree with the others (a 3-operand form that is not the fold
of the 2-operand one) breaks `*_nested` (Props/C12.lean) / `*4_is_fold` even when each arity for itself still had a plausible table. -/
namespace KV.C12
open KV KV.Gen

/-! ## the recorded real 2-operand bit-parallel operators are commutative and associative -/
theorem bp8_and_comm (a b : V3) : (bp8v_and2 (.ofV3 a) (.ofV3 b)).toV3 = (bp8v_and2 (.ofV3 b) (.ofV3 a)).toV3 := by
  rw [bp8_and2_spec, bp8_and2_spec]
  exact specAnd_perm (List.Perm.swap b a [])
theorem bp8_or_comm (a b : V3) : (bp8v_or2 (.ofV3 a) (.ofV3 b)).toV3 = (bp8v_or2 (.ofV3 b) (.ofV3 a)).toV3 := by
  rw [bp8_or2_spec, bp8_or2_spec]
  exact specOr_perm (List.Perm.swap b a [])
theorem bp8_xor_comm (a b : V3) : (bp8v_xor2 (.ofV3 a) (.ofV3 b)).toV3 = (bp8v_xor2 (.ofV3 b) (.ofV3 a)).toV3 := by
  rw [bp8_xor2_spec, bp8_xor2_spec]
  exact specXor_perm (List.Perm.swap b a [])

/-! associativity: both groupings are the 3-operand algebra -/
theorem bp8_and_assoc (a b c : V3) :
    (bp8v_and2 (bp8v_and2 (.ofV3 a) (.ofV3 b)) (.ofV3 c)).toV3 =
      (bp8v_and2 (.ofV3 a) (bp8v_and2 (.ofV3 b) (.ofV3 c))).toV3 := by
  rw [bp8v_and2_ofV3 a b, bp8v_and2_ofV3 b c, bp8_and2_spec, bp8_and2_spec, ← specAnd3_nested, ← specAnd_cons]
theorem bp8_or_assoc (a b c : V3) :
    (bp8v_or2 (bp8v_or2 (.ofV3 a) (.ofV3 b)) (.ofV3 c)).toV3 =
      (bp8v_or2 (.ofV3 a) (bp8v_or2 (.ofV3 b) (.ofV3 c))).toV3 := by
  rw [bp8v_or2_ofV3 a b, bp8v_or2_ofV3 b c, bp8_or2_spec, bp8_or2_spec, ← specOr3_nested, ← specOr_cons]
theorem bp8_xor_assoc (a b c : V3) :
    (bp8v_xor2 (bp8v_xor2 (.ofV3 a) (.ofV3 b)) (.ofV3 c)).toV3 =
      (bp8v_xor2 (.ofV3 a) (bp8v_xor2 (.ofV3 b) (.ofV3 c))).toV3 := by
  rw [bp8v_xor2_ofV3 a b, bp8v_xor2_ofV3 b c, bp8_xor2_spec, bp8_xor2_spec, ← specXor3_nested, ← specXor_cons]

/-! ## any number of operands: the documented algebra is the fold of the real 2-operand operator -/
theorem fold_of_cons {α : Type} {f : List α → α} {g : α → α → α} {e : α} (nil : f [] = e)
    (cons : ∀ x xs, f (x :: xs) = f [x, f xs]) (h2 : ∀ x y, g x y = f [x, y]) (xs : List α) :
    f xs = xs.foldr g e := by
  induction xs with
  | nil => exact nil
  | cons x xs ih => rw [cons, List.foldr_cons, ← ih, h2]

theorem bp8_and_fold (xs : List V3) :
    specAnd xs = xs.foldr (fun x acc => (bp8v_and2 (.ofV3 x) (.ofV3 acc)).toV3) V3.one :=
  fold_of_cons rfl specAnd_cons bp8_and2_spec xs
theorem bp8_or_fold (xs : List V3) :
    specOr xs = xs.foldr (fun x acc => (bp8v_or2 (.ofV3 x) (.ofV3 acc)).toV3) V3.zero :=
  fold_of_cons rfl specOr_cons bp8_or2_spec xs
theorem bp8_xor_fold (xs : List V3) :
    specXor xs = xs.foldr (fun x acc => (bp8v_xor2 (.ofV3 x) (.ofV3 acc)).toV3) V3.zero :=
  fold_of_cons rfl specXor_cons bp8_xor2_spec xs

theorem bp8_and4_is_fold (a b c d : V3) :
    (bp8v_and4 (.ofV3 a) (.ofV3 b) (.ofV3 c) (.ofV3 d)).toV3 =
      [a, b, c, d].foldr (fun x acc => (bp8v_and2 (.ofV3 x) (.ofV3 acc)).toV3) V3.one := by
  rw [bp8_and4_spec, bp8_and_fold]
theorem bp8_or4_is_fold (a b c d : V3) :
    (bp8v_or4 (.ofV3 a) (.ofV3 b) (.ofV3 c) (.ofV3 d)).toV3 =
      [a, b, c, d].foldr (fun x acc => (bp8v_or2 (.ofV3 x) (.ofV3 acc)).toV3) V3.zero := by
  rw [bp8_or4_spec, bp8_or_fold]
theorem bp8_xor4_is_fold (a b c d : V3) :
    (bp8v_xor4 (.ofV3 a) (.ofV3 b) (.ofV3 c) (.ofV3 d)).toV3 =
      [a, b, c, d].foldr (fun x acc => (bp8v_xor2 (.ofV3 x) (.ofV3 acc)).toV3) V3.zero := by
  rw [bp8_xor4_spec, bp8_xor_fold]

/-- a five-operand list (longer than any form the code offers) -/
example : specXor [V3.one, ⟨true, false, true⟩, V3.zero, V3.one, ⟨false, true, true⟩] = ⟨true, true, true⟩ := by decide

/-! ## the same for the 4-valued storage format (`bp4v_*`) -/
theorem any_p2_toV3 (xs : List V2) : (xs.map V2.toV3).any (·.p2) = false := by
  induction xs with
  | nil => rfl
  | cons x xs ih => simp [List.any_cons, V2.toV3, ih]

theorem toV3_ofV3_of_p2 (r : V3) (h : r.p2 = false) : (V2.ofV3 r).toV3 = r := by
  rcases r with ⟨a, b, c⟩; simp only at h; subst h; rfl

theorem specAnd_p2_toV3 (xs : List V2) : (specAnd (xs.map V2.toV3)).p2 = false := by
  unfold specAnd; split
  · rfl
  · split
    · rfl
    · exact any_p2_toV3 xs
theorem specOr_p2_toV3 (xs : List V2) : (specOr (xs.map V2.toV3)).p2 = false := by
  unfold specOr; split
  · rfl
  · split
    · rfl
    · exact any_p2_toV3 xs
theorem specXor_p2_toV3 (xs : List V2) : (specXor (xs.map V2.toV3)).p2 = false := by
  unfold specXor; split
  · rfl
  · exact any_p2_toV3 xs

theorem spec4And_cons (x : V2) (xs : List V2) : spec4And (x :: xs) = spec4And [x, spec4And xs] := by
  simp only [spec4And, List.map_cons, List.map_nil]
  rw [toV3_ofV3_of_p2 _ (specAnd_p2_toV3 xs), ← specAnd_cons]
theorem spec4Or_cons (x : V2) (xs : List V2) : spec4Or (x :: xs) = spec4Or [x, spec4Or xs] := by
  simp only [spec4Or, List.map_cons, List.map_nil]
  rw [toV3_ofV3_of_p2 _ (specOr_p2_toV3 xs), ← specOr_cons]
theorem spec4Xor_cons (x : V2) (xs : List V2) : spec4Xor (x :: xs) = spec4Xor [x, spec4Xor xs] := by
  simp only [spec4Xor, List.map_cons, List.map_nil]
  rw [toV3_ofV3_of_p2 _ (specXor_p2_toV3 xs), ← specXor_cons]

theorem bp4_and_fold (xs : List V2) :
    spec4And xs = xs.foldr (fun x acc => (bp4v_and2 (.ofV2 x) (.ofV2 acc)).toV2) ⟨true, true⟩ :=
  fold_of_cons rfl spec4And_cons bp4_and2_spec xs
theorem bp4_or_fold (xs : List V2) :
    spec4Or xs = xs.foldr (fun x acc => (bp4v_or2 (.ofV2 x) (.ofV2 acc)).toV2) ⟨false, false⟩ :=
  fold_of_cons rfl spec4Or_cons bp4_or2_spec xs
theorem bp4_xor_fold (xs : List V2) :
    spec4Xor xs = xs.foldr (fun x acc => (bp4v_xor2 (.ofV2 x) (.ofV2 acc)).toV2) ⟨false, false⟩ :=
  fold_of_cons rfl spec4Xor_cons bp4_xor2_spec xs
theorem bp4_or4_is_fold (a b c d : V2) :
    (bp4v_or4 (.ofV2 a) (.ofV2 b) (.ofV2 c) (.ofV2 d)).toV2 =
      [a, b, c, d].foldr (fun x acc => (bp4v_or2 (.ofV2 x) (.ofV2 acc)).toV2) ⟨false, false⟩ := by
  rw [bp4_or4_spec, bp4_or_fold]
theorem bp4_and4_is_fold (a b c d : V2) :
    (bp4v_and4 (.ofV2 a) (.ofV2 b) (.ofV2 c) (.ofV2 d)).toV2 =
      [a, b, c, d].foldr (fun x acc => (bp4v_and2 (.ofV2 x) (.ofV2 acc)).toV2) ⟨true, true⟩ := by
  rw [bp4_and4_spec, bp4_and_fold]
theorem bp4_xor4_is_fold (a b c d : V2) :
    (bp4v_xor4 (.ofV2 a) (.ofV2 b) (.ofV2 c) (.ofV2 d)).toV2 =
      [a, b, c, d].foldr (fun x acc => (bp4v_xor2 (.ofV2 x) (.ofV2 acc)).toV2) ⟨false, false⟩ := by
  rw [bp4_xor4_spec, bp4_xor_fold]

/-! ## the same for the array storage format (complete tables of the real `_mv_*`), and agreement of the formats for any length -/
/-- array storage format: one application of the complete table of the real 2-operand array operator -/
def mvBin (t : Nat) (x acc : V3) : V3 := V3.ofCode (tab t (x.code + 8 * acc.code))

theorem mvBin_eq {t : Nat} {f : List V3 → V3} (h : ∀ a b : V3, tab t (a.code + 8 * b.code) = (f [a, b]).code)
    (x y : V3) : mvBin t x y = f [x, y] := by
  rw [mvBin, h, V3.code_ofCode]

theorem mv_and_fold (xs : List V3) : specAnd xs = xs.foldr (mvBin mv_and2) V3.one :=
  fold_of_cons rfl specAnd_cons (mvBin_eq mv_and2_spec) xs
theorem mv_or_fold (xs : List V3) : specOr xs = xs.foldr (mvBin mv_or2) V3.zero :=
  fold_of_cons rfl specOr_cons (mvBin_eq mv_or2_spec) xs
theorem mv_xor_fold (xs : List V3) : specXor xs = xs.foldr (mvBin mv_xor2) V3.zero :=
  fold_of_cons rfl specXor_cons (mvBin_eq mv_xor2_spec) xs

theorem formats_agree_fold_and (xs : List V3) :
    xs.foldr (mvBin mv_and2) V3.one = xs.foldr (fun x acc => (bp8v_and2 (.ofV3 x) (.ofV3 acc)).toV3) V3.one := by
  rw [← mv_and_fold, ← bp8_and_fold]
theorem formats_agree_fold_or (xs : List V3) :
    xs.foldr (mvBin mv_or2) V3.zero = xs.foldr (fun x acc => (bp8v_or2 (.ofV3 x) (.ofV3 acc)).toV3) V3.zero := by
  rw [← mv_or_fold, ← bp8_or_fold]
theorem formats_agree_fold_xor (xs : List V3) :
    xs.foldr (mvBin mv_xor2) V3.zero = xs.foldr (fun x acc => (bp8v_xor2 (.ofV3 x) (.ofV3 acc)).toV3) V3.zero := by
  rw [← mv_xor_fold, ← bp8_xor_fold]

/-- RISE, FALL and ONE under AND give a positive pulse -/
example : specAnd [⟨true, false, true⟩, ⟨false, true, true⟩, V3.one] = ⟨false, false, true⟩ := by decide

end KV.C12
