import KyupyVerif.Props.C01
import KyupyVerif.Props.C02
import KyupyVerif.Props.C15Gen
import KyupyVerif.Proofs.DataPathLanes
import KyupyVerif.Proofs.DataPathStr
import KyupyVerif.Proofs.DataPathVal
import KyupyVerif.Drv.DataPath
/-! # C15 × C01/C02/C06 — the data path: from PATTERN STRINGS to RESULT STRINGS through `LogicSim`

What a user does:

    sim = LogicSim(circuit, sims=P, m=m)                         # fresh: c = 0, s rows = (0, 255, 0)
    sim.s[0] = mv_to_bp(mvarray(*strings))                         # = logic.bparray(*strings)
    sim.s_to_c(); sim.c_prop(); sim.c_to_s()
    mv_str(bp_to_mv(sim.s[1])[..., :P])

Model: `DP.simStrings` / `DP.simArr` (Model/DataPath.lean) = `mvarray`, `mvToBp`, `bpToMv`, `mvStr` of Model/Encode.lean (C15)
around the BYTE-level `s_to_c; c_prop; c_to_s` (`DP.captureB`): an `s` row is three planes of `nbytes` bytes; a plane is read as ONE
`BitVec (8 * nbytes)` (`DP.ofBytes`: lane `8j + i` = bit `i` of byte `j`, as `np.packbits(bitorder='little')` packs); the arity
decides which planes are read and written (`DP.codec2/4/8`); the memory holds `BitVec` (m = 2), `P2 BitVec` (m = 4), `P3 BitVec`
(m = 8) values and the op rows run the GENERATED bit-parallel dispatchers (`C01.semLw`, `C02.semLw4`, `C02.semLw8` over `Gen.sem2n`,
`Gen.sem4`, `Gen.sem8`) — the domains and semantics of the lane theorems `C01.sim2_lanes`, `C02.sim4_lanes`, `C02.sim8_lanes`.

THEOREM (this file), for every well-formed netlist (`Net.wfB`), every topological order (`orderOKB`), m ∈ {2, 4, 8}, every number of
patterns `P` (not only multiples of 8) and every array / list of patterns:
* (1) bridge — `mv_to_bp_planes_are_lanes`, `bp_to_mv_reads_lanes`, `plane_bytes_roundtrip`, `plane_lane_is_byte_bit`: the byte layout
  of C15 and the `BitVec` lanes of C01/C02/C06 are the same thing;
* (2a) `logic_sim_lane2/4/8` — ANY lane (padding lanes too), ANY simulator state (any `s[0]`, `s[1]` left by earlier runs, any memory):
  pattern `p` of `bp_to_mv(s[1])` at a captured position is the code of the ONE-LANE simulation of lane `p` of `s[0]` (plus, for
  m = 2, 4, four times the old plane-2 bit that `c_to_s` does not overwrite): lanes never influence one another;
* (2b) `logic_sim_patterns_end_to_end2/4/8` — array level, fresh simulator: entry `[q][p]` of the result is the code of the value that
  ANY (= the unique, C02 `sim*_all_circuits`) solution of the netlist's gate equations in that logic's documented algebra, for
  stimulus pattern `p`, gives the line on data pin 0 of `s_nodes[q]`; `0` for a state element with open data pin (it captures the
  constant slot); UNASSIGNED (`2`, rendered `-`) at a port nothing is captured into;
* (2c) `pattern_result_independent2/4/8` — the result of a pattern depends on that pattern only: not on the other patterns, not on
  its position in the batch, not on `P`;
* (2d) `strip_forks_irrelevant_patterns2/4/8` — the result array of a simulator built with `strip_forks=True` is the one of the un-stripped
  simulator (hypotheses `forksOKB`, `capDriversB` of C06 / C01), so (2b) holds for both settings;
* (2e) `logic_sim_strings_end_to_end2/4/8` + `lane_run_is_the_solution2/4/8` — string level (`P ≥ 2` strings of length
  `S = len(s_nodes) ≠ 1`; GENERATED `interpret` and render tables): the result text is, line `p` / column `q`, the render character of
  the code of `laneRun` of string `p` at the captured signal, and `laneRun` is THE solution of the gate equations;
  `logic_sim_string_single8/4/2`: one string (`P = 1`);
* (3) `cycle(k)` at byte level: `cycle_byte_level_is_value_level` — the byte-level loop seen through the planes `:mdim` IS `Cycle.cycleK` of C01
  (m = 2, 4: `s_ppo_to_ppi` copies the row; m = 8: the transition builder `merge8W`), so C01 `cycle_step`, `cycle_iter`, `cycle_end_to_end`,
  `cycle_strip_irrelevant` speak about the bytes; `cycle_patterns2/4/8` — lane `p` (padding lanes too) of the planes of `s[0]`, `s[1]` after
  `k` cycles = the one-lane `Cycle.cycleK` on lane `p`; `cycle_patterns_end_to_end2` — composition with C01 `cycle_iter` (k-fold next-state
  iterate, port rows untouched, `s[1]` = capture of the previous labelling);
* `driver_runs_the_model`, `driver_array_form` — the bit-parallel semantics and the array form (`cycle1BA`, `cycleKBA`) the driver command
  `dp.run` evaluates are / leave the same `s` as the functions of these theorems.
CORRESPONDENCE (harness/c15.py `datapath_tie`, driver command `dp.run`): on generated circuits (C01's generator, incl. state elements,
open data pins, ports without data pin), m ∈ {2, 4, 8}, `strip_forks` ∈ {0, 1}, random pattern strings over alphabet + aliases, `P` =
1..23, `k` = 0..3 cycles, `c_reuse` ∈ {0, 1}: EVERY BYTE of `s[0]`, `s[1]` after the real run (all three planes, padding lanes included) =
`DP.cycleKBA` / `DP.cycle1BA`, and the real `mv_str(bp_to_mv(s[1])[..., :P])` = `mvStr ∘ takeLast P ∘ bpToMv` of the model rows;
hypotheses `wfB`, `orderOKB` evaluated per case on the real circuit and the real `topological_order()`.  Still correspondence, not
theorem: that the real `SimOps` tables are the model's (`genOps`, `tabsOf`: C01 `cycle_tie`, C08), that the real memory-level run
equals the signal-level one (theorem under the map certificate: C01 `cycle_on_memory`), NumPy itself.
NOT modelled: NumPy broadcasting of an `s[0]` assignment whose shape is not `(S, 3, nbytes)` (an `S` axis of length 1, leading axes of
length 1: the real assignment broadcasts, the model returns `none`); `inject_cb`. -/
namespace KV.C15
open KV KV.Sig KV.Cycle KV.Enc KV.DP

/-! ## (1) the bridge: bytes of C15 ↔ `BitVec` lanes of C01/C02/C06 -/

/-- lane `p` of a plane of `nb` bytes read as `BitVec (8 * nb)` is bit `p % 8` (least significant first) of byte `p / 8` -/
theorem plane_lane_is_byte_bit (nb : Nat) (bytes : List Nat) (p : Nat) :
    (ofBytes nb bytes).getLsbD p = (decide (p < 8 * nb) && (bytes.getD (p / 8) 0 / 2 ^ (p % 8) % 2 == 1)) :=
  getLsbD_ofBytes_byte nb bytes p

/-- bytes ↔ bit vector: `toBytes` produces `nb` bytes that read back as the same vector, lane by lane -/
theorem plane_bytes_roundtrip (nb : Nat) (v : BitVec (8 * nb)) :
    (toBytes nb v).length = nb ∧ ofBytes nb (toBytes nb v) = v ∧
    ∀ p, (unpackBytes (toBytes nb v)).getD p false = v.getLsbD p :=
  ⟨toBytes_length nb v, ofBytes_toBytes nb v, unpack_toBytes nb v⟩

/-- **`mv_to_bp`, planes as lanes**: plane `b` of the row `mv_to_bp` makes of `P` values, read as a bit vector of `8 * cdiv P 8`
    lanes: lane `p < P` is bit `b` of pattern `p`, every padding lane is 0 -/
theorem mv_to_bp_planes_are_lanes (row : List Nat) (b p : Nat) (hb : b < 3) :
    (plane (cdiv row.length 8) (mvToBpRow (cdiv row.length 8) row) b).getLsbD p
      = (decide (p < row.length) && (row.getD p 0 / 2 ^ b % 2 == 1)) :=
  plane_mvToBpRow row b p hb

/-- **`bp_to_mv`, lanes as codes**: pattern `p` of `bp_to_mv` of three planes of `nb` bytes is
    `lane p of plane 0 + 2 * lane p of plane 1 + 4 * lane p of plane 2` -/
theorem bp_to_mv_reads_lanes (nb : Nat) (x0 x1 x2 : List Nat) (p : Nat) (hp : p < 8 * nb) :
    (bpToMvRow nb [x0, x1, x2]).getD p 0 =
      b2n ((ofBytes nb x0).getLsbD p) + 2 * b2n ((ofBytes nb x1).getLsbD p) + 4 * b2n ((ofBytes nb x2).getLsbD p) :=
  bpToMvRow_lanes nb x0 x1 x2 p hp

example : ofBytes 2 [0b10101010, 0b10101] = 0b1010110101010#16 ∧ toBytes 2 0b1010110101010#16 = [0b10101010, 0b10101] ∧
    (plane 2 (mvToBpRow 2 [0, 1, 2, 3, 4, 5, 6, 7, 7, 6, 5, 4, 3]) 0) = 0b1010110101010#16 := by decide +kernel

/-! ## the simulators of the three arities -/

/-- the bit-parallel op semantics on `8 * nb` lanes: the generated dispatchers of C01 / C02 -/
def semW2 (nb : Nat) : Nat → List (BitVec (8 * nb)) → BitVec (8 * nb) := C01.semLw (8 * nb)
def semW4 (nb : Nat) : Nat → List (P2 (BitVec (8 * nb))) → P2 (BitVec (8 * nb)) := C02.semLw4 (8 * nb)
def semW8 (nb : Nat) : Nat → List (P3 (BitVec (8 * nb))) → P3 (BitVec (8 * nb)) := C02.semLw8 (8 * nb)

/-- array level: `bp_to_mv(s[1])[..., :P]` of a fresh `LogicSim(m)` after `s[0] = mv_to_bp(a); s_to_c; c_prop; c_to_s` -/
def sim2 := simArr codec2 (fun nb op => semW2 nb op.code) Gen.kindPrefixes
def sim4 := simArr codec4 (fun nb op => semW4 nb op.code) Gen.kindPrefixes
def sim8 := simArr codec8 (fun nb op => semW8 nb op.code) Gen.kindPrefixes

/-- string level, generated `interpret` / render tables -/
def simStr2 (delim : List Nat) :=
  simStrings codec2 (fun nb op => semW2 nb op.code) Gen.interpretAscii Gen.renderChars delim Gen.kindPrefixes
def simStr4 (delim : List Nat) :=
  simStrings codec4 (fun nb op => semW4 nb op.code) Gen.interpretAscii Gen.renderChars delim Gen.kindPrefixes
def simStr8 (delim : List Nat) :=
  simStrings codec8 (fun nb op => semW8 nb op.code) Gen.interpretAscii Gen.renderChars delim Gen.kindPrefixes

/-- the three arities as `Arity` records: what `simArr_*` / `simStrings_*` / `cycle_patterns` of Proofs/DataPath*.lean need to know about each.
    Fields in the order of `structure Arity` (Proofs/DataPath.lean): `A C ln ofCode code keep semW semL mergeW mergeL view lawful op_lane
    merge_lane`; `keep` = 4 where `c_to_s` leaves plane 2 of `s[1]` (m = 2, 4), 0 for m = 8 -/
@[reducible] def ar2 : Arity Bool := ⟨_, codec2, ln2, ofCode2, code2, 4, semW2, semL2n, fun _ => mergeCopy, mergeCopy, lv2,
  codec2_lawful, fun nb => C01.semLw_lane (8 * nb), fun _ _ _ _ => rfl⟩
@[reducible] def ar4 : Arity V2 := ⟨_, codec4, ln4, ofCode4, V2.code, 4, semW4, semL4, fun _ => mergeCopy, mergeCopy, lv4,
  codec4_lawful, fun nb => C02.semLw4_lane (8 * nb), fun _ _ _ _ => rfl⟩
@[reducible] def ar8 : Arity V3 := ⟨_, codec8, ln8, V3.ofCode, V3.code, 0, semW8, semL8, fun _ => merge8W, merge8L, lv8,
  codec8_lawful, fun nb => C02.semLw8_lane (8 * nb), ln8_merge⟩

/-! ## (2a) one lane of the byte-level run: any lane, any state

`captureB C sem ops T env0 s0 s1` is `s[1]` after `s_to_c(); c_prop(); c_to_s()` on the byte-level state (`s0`, `s1` = the rows of
`s[0]`, `s[1]` before, `env0` the memory before). Position `q` is captured (`isPoppo`: every state element, a port iff its data pin 0
is connected); `capSig` is the signal it captures. -/

/-- **m = 8** -/
theorem logic_sim_lane8 (nb : Nat) (ops : List Op) (net : Net) (strip : Bool) (env0 : Nat → P3 (BitVec (8 * nb)))
    (s0 s1 : List SRow) (q p : Nat) (hp : p < 8 * nb) (hq : q < s1.length) (hcap : isPoppo net q = true) :
    (bpToMvRow nb ((captureB (codec8 nb) (fun op => semW8 nb op.code) ops (tabsOf net strip) env0 s0 s1).getD q [])).getD p 0 =
      (exec semL8 ops (sToC (tabsOf net strip) V3.zero (s0.map fun r => ln8 nb p ((codec8 nb).dec r)) (fun x => ln8 nb p (env0 x)))
        (capSig net strip q)).code := by
  have := captureB_lane ar8 nb ops net strip env0 s0 s1 q p hp hq hcap
  rw [Nat.zero_mul, Nat.add_zero] at this
  exact this

/-- **m = 4**: plus four times the plane-2 bit `s[1]` held before (`c_to_s` writes planes 0, 1 only) -/
theorem logic_sim_lane4 (nb : Nat) (ops : List Op) (net : Net) (strip : Bool) (env0 : Nat → P2 (BitVec (8 * nb)))
    (s0 s1 : List SRow) (q p : Nat) (hp : p < 8 * nb) (hq : q < s1.length) (hcap : isPoppo net q = true) :
    (bpToMvRow nb ((captureB (codec4 nb) (fun op => semW4 nb op.code) ops (tabsOf net strip) env0 s0 s1).getD q [])).getD p 0 =
      (exec semL4 ops (sToC (tabsOf net strip) (ofCode4 0) (s0.map fun r => ln4 nb p ((codec4 nb).dec r))
        (fun x => ln4 nb p (env0 x))) (capSig net strip q)).code + 4 * b2n ((plane nb (s1.getD q []) 2).getLsbD p) :=
  captureB_lane ar4 nb ops net strip env0 s0 s1 q p hp hq hcap

/-- **m = 2**: the captured bit shows in planes 0 and 1 (`0` or `1`), plus four times the old plane-2 bit -/
theorem logic_sim_lane2 (nb : Nat) (ops : List Op) (net : Net) (strip : Bool) (env0 : Nat → BitVec (8 * nb))
    (s0 s1 : List SRow) (q p : Nat) (hp : p < 8 * nb) (hq : q < s1.length) (hcap : isPoppo net q = true) :
    (bpToMvRow nb ((captureB (codec2 nb) (fun op => semW2 nb op.code) ops (tabsOf net strip) env0 s0 s1).getD q [])).getD p 0 =
      code2 (exec semL2n ops (sToC (tabsOf net strip) false (s0.map fun r => ln2 nb p ((codec2 nb).dec r))
        (fun x => ln2 nb p (env0 x))) (capSig net strip q)) + 4 * b2n ((plane nb (s1.getD q []) 2).getLsbD p) :=
  captureB_lane ar2 nb ops net strip env0 s0 s1 q p hp hq hcap

/-! ## (2b) array level: every netlist, order, `P`, pattern array — against ANY solution of the gate equations

`column ofCode a p` = pattern `p` of the array `a` (shape `(S, P)`, `S = len(s_nodes)`) as lane values, one per `s_nodes` position;
`sToC (tabsOf net false) zero (column …) (fun _ => zero)` = the stimulus: the pattern on the (P)PI slots, zero elsewhere (fresh memory).
`SolvesJ (Jt net) (fun op => specL op.code) ops stim val`: `val` keeps the stimulus on every signal no row writes and satisfies the
gate equation of every row, in the documented algebra (`specL8`/`specL4`: `comp8`/`comp4` compositions; `specL2`: truth tables =
documented formulas). Such a `val` exists and is unique (C02 `sim*_all_circuits`); `C02.gate_equations_are_netlist` restates it as
consistency with the netlist. -/

/-- **m = 8.** Entry `[q][p]` of the result = code of the value the solution for pattern `p` gives the line on data pin 0 of
    `s_nodes[q]`; 0 for a state element with open data pin; UNASSIGNED at a port without data pin. -/
theorem logic_sim_patterns_end_to_end8 (net : Net) (order : List Nat) (hwf : net.wfB = true) (ho : orderOKB net order = true)
    (a : Arr Nat) (ha : a.wf = true) (hS : a.lead = [net.sNodes.length]) :
    ∃ r, sim8 net order false a = some r ∧ r.lead = [net.sNodes.length] ∧ r.last = a.last ∧ r.wf = true ∧
      ∀ p, p < a.last → ∀ val : Nat → V3,
        SolvesJ (Jt net) (fun op => specL8 op.code) ((genOps Gen.kindPrefixes net order false).map OpRow.toOp)
          (sToC (tabsOf net false) V3.zero (column V3.ofCode a p) (fun _ => V3.zero)) val →
        (∀ q l, q < net.sNodes.length → (sNodeAt net q).inPin 0 = some l → (r.rows.getD q []).getD p 0 = (val l).code) ∧
        (∀ q, net.io.length ≤ q → q < net.sNodes.length → (sNodeAt net q).inPin 0 = none → (r.rows.getD q []).getD p 0 = 0) ∧
        (∀ q, q < net.io.length → (sNodeAt net q).inPin 0 = none → (r.rows.getD q []).getD p 0 = 2) :=
  simArr_val ar8 Gen.kindPrefixes net order hwf ho specL8
    (fun env val hv => (C02.sim8_all_circuits net order hwf ho env).2 val hv) a ha hS

/-- **m = 4** (lane value of an entry: planes 0, 1 — `ofCode4`) -/
theorem logic_sim_patterns_end_to_end4 (net : Net) (order : List Nat) (hwf : net.wfB = true) (ho : orderOKB net order = true)
    (a : Arr Nat) (ha : a.wf = true) (hS : a.lead = [net.sNodes.length]) :
    ∃ r, sim4 net order false a = some r ∧ r.lead = [net.sNodes.length] ∧ r.last = a.last ∧ r.wf = true ∧
      ∀ p, p < a.last → ∀ val : Nat → V2,
        SolvesJ (Jt net) (fun op => specL4 op.code) ((genOps Gen.kindPrefixes net order false).map OpRow.toOp)
          (sToC (tabsOf net false) (ofCode4 0) (column ofCode4 a p) (fun _ => ofCode4 0)) val →
        (∀ q l, q < net.sNodes.length → (sNodeAt net q).inPin 0 = some l → (r.rows.getD q []).getD p 0 = (val l).code) ∧
        (∀ q, net.io.length ≤ q → q < net.sNodes.length → (sNodeAt net q).inPin 0 = none → (r.rows.getD q []).getD p 0 = 0) ∧
        (∀ q, q < net.io.length → (sNodeAt net q).inPin 0 = none → (r.rows.getD q []).getD p 0 = 2) :=
  simArr_val ar4 Gen.kindPrefixes net order hwf ho specL4
    (fun env val hv => (C02.sim4_all_circuits net order hwf ho env).2 val hv) a ha hS

/-- **m = 2** (lane value of an entry: plane 0 — `ofCode2`; a captured `true` shows as `1` = code 3, `false` as `0`) -/
theorem logic_sim_patterns_end_to_end2 (net : Net) (order : List Nat) (hwf : net.wfB = true) (ho : orderOKB net order = true)
    (a : Arr Nat) (ha : a.wf = true) (hS : a.lead = [net.sNodes.length]) :
    ∃ r, sim2 net order false a = some r ∧ r.lead = [net.sNodes.length] ∧ r.last = a.last ∧ r.wf = true ∧
      ∀ p, p < a.last → ∀ val : Nat → Bool,
        SolvesJ (Jt net) (fun op => specL2 op.code) ((genOps Gen.kindPrefixes net order false).map OpRow.toOp)
          (sToC (tabsOf net false) false (column ofCode2 a p) (fun _ => false)) val →
        (∀ q l, q < net.sNodes.length → (sNodeAt net q).inPin 0 = some l → (r.rows.getD q []).getD p 0 = code2 (val l)) ∧
        (∀ q, net.io.length ≤ q → q < net.sNodes.length → (sNodeAt net q).inPin 0 = none → (r.rows.getD q []).getD p 0 = 0) ∧
        (∀ q, q < net.io.length → (sNodeAt net q).inPin 0 = none → (r.rows.getD q []).getD p 0 = 2) :=
  simArr_val ar2 Gen.kindPrefixes net order hwf ho specL2
    (fun env val hv => (C02.sim2_all_circuits net order hwf ho env).2 val hv) a ha hS

/-! ## (2c) a pattern's result depends on that pattern only -/

theorem pattern_result_independent8 (net : Net) (order : List Nat) (strip : Bool) (a a' : Arr Nat)
    (hwf : a.wf = true) (hS : a.lead = [net.sNodes.length]) (hwf' : a'.wf = true) (hS' : a'.lead = [net.sNodes.length])
    (p p' : Nat) (hp : p < a.last) (hp' : p' < a'.last) (hcol : a.rows.map (·.getD p 0) = a'.rows.map (·.getD p' 0)) :
    ∃ r r', sim8 net order strip a = some r ∧ sim8 net order strip a' = some r' ∧
      ∀ q, q < net.sNodes.length → (r.rows.getD q []).getD p 0 = (r'.rows.getD q []).getD p' 0 :=
  simArr_indep ar8 Gen.kindPrefixes net order strip a a' hwf hS hwf' hS' p p' hp hp' hcol

theorem pattern_result_independent4 (net : Net) (order : List Nat) (strip : Bool) (a a' : Arr Nat)
    (hwf : a.wf = true) (hS : a.lead = [net.sNodes.length]) (hwf' : a'.wf = true) (hS' : a'.lead = [net.sNodes.length])
    (p p' : Nat) (hp : p < a.last) (hp' : p' < a'.last) (hcol : a.rows.map (·.getD p 0) = a'.rows.map (·.getD p' 0)) :
    ∃ r r', sim4 net order strip a = some r ∧ sim4 net order strip a' = some r' ∧
      ∀ q, q < net.sNodes.length → (r.rows.getD q []).getD p 0 = (r'.rows.getD q []).getD p' 0 :=
  simArr_indep ar4 Gen.kindPrefixes net order strip a a' hwf hS hwf' hS' p p' hp hp' hcol

theorem pattern_result_independent2 (net : Net) (order : List Nat) (strip : Bool) (a a' : Arr Nat)
    (hwf : a.wf = true) (hS : a.lead = [net.sNodes.length]) (hwf' : a'.wf = true) (hS' : a'.lead = [net.sNodes.length])
    (p p' : Nat) (hp : p < a.last) (hp' : p' < a'.last) (hcol : a.rows.map (·.getD p 0) = a'.rows.map (·.getD p' 0)) :
    ∃ r r', sim2 net order strip a = some r ∧ sim2 net order strip a' = some r' ∧
      ∀ q, q < net.sNodes.length → (r.rows.getD q []).getD p 0 = (r'.rows.getD q []).getD p' 0 :=
  simArr_indep ar2 Gen.kindPrefixes net order strip a a' hwf hS hwf' hS' p p' hp hp' hcol

/-! ## (2d) `strip_forks` does not change the result (C06 through the data path)

Domain hypotheses as in C06 / C01 `cycle_strip_irrelevant`: `forksOKB` (fork conventions of the order), `capDriversB` (the order contains
the driver of every captured line; `topological_order()` lists every node) — both evaluated on every generated circuit (C01 `cycle_tie`).
With this, (2b) holds verbatim for the simulator built with `strip_forks=True`. -/

theorem strip_forks_irrelevant_patterns8 (net : Net) (order : List Nat) (hwf : net.wfB = true) (ho : orderOKB net order = true)
    (hf : forksOKB net order = true) (hcov : capDriversB net order = true)
    (a : Arr Nat) (ha : a.wf = true) (hS : a.lead = [net.sNodes.length]) : sim8 net order true a = sim8 net order false a :=
  simArr_strip ar8 Gen.kindPrefixes net order hwf ho hf hcov default semL8_buf1 a ha hS

theorem strip_forks_irrelevant_patterns4 (net : Net) (order : List Nat) (hwf : net.wfB = true) (ho : orderOKB net order = true)
    (hf : forksOKB net order = true) (hcov : capDriversB net order = true)
    (a : Arr Nat) (ha : a.wf = true) (hS : a.lead = [net.sNodes.length]) : sim4 net order true a = sim4 net order false a :=
  simArr_strip ar4 Gen.kindPrefixes net order hwf ho hf hcov default semL4_buf1 a ha hS

theorem strip_forks_irrelevant_patterns2 (net : Net) (order : List Nat) (hwf : net.wfB = true) (ho : orderOKB net order = true)
    (hf : forksOKB net order = true) (hcov : capDriversB net order = true)
    (a : Arr Nat) (ha : a.wf = true) (hS : a.lead = [net.sNodes.length]) : sim2 net order true a = sim2 net order false a :=
  simArr_strip ar2 Gen.kindPrefixes net order hwf ho hf hcov false semL2n_buf1 a ha hS

/-! ## (2e) string level: pattern strings in, result strings out (generated `interpret` and render tables)

`laneRun ofCode semL tbl net order strip stim` = the ONE-LANE simulation of one stimulus pattern (`stim[q]` = lane value at `s_nodes`
position `q`; fresh memory: zero). `lane_run_is_the_solution*`: it is THE solution of the netlist's gate equations in the documented
algebra — so column `q` of result line `p` renders the value the unique consistent labelling for string `p` gives the captured line. -/

theorem render_chars_8 : 8 ≤ Gen.renderChars.length := Nat.le_of_eq render_parse.1.symm

/-- **m = 8, strings**: `P ≥ 2` strings of length `S = len(s_nodes) ≠ 1` -/
theorem logic_sim_strings_end_to_end8 (delim : List Nat) (net : Net) (order : List Nat) (strip : Bool) (ss : List (List Nat))
    (hu : ∀ s ∈ ss, s.length = net.sNodes.length) (hP : 2 ≤ ss.length) (hS1 : net.sNodes.length ≠ 1) :
    simStr8 delim net order strip ss =
      some (delim.intercalate ((List.range ss.length).map fun p => (List.range net.sNodes.length).map fun q =>
        Gen.renderChars.getD (if isPoppo net q then
          (laneRun V3.ofCode semL8 Gen.kindPrefixes net order strip ((ss.getD p []).map fun c => V3.ofCode (interp c))
            (capSig net strip q)).code else 2) 0)) :=
  simStrings_eq ar8 V3.code_lt_8 Gen.interpretAscii Gen.renderChars delim
    render_chars_8 Gen.kindPrefixes net order strip ss hu hP hS1

theorem logic_sim_strings_end_to_end4 (delim : List Nat) (net : Net) (order : List Nat) (strip : Bool) (ss : List (List Nat))
    (hu : ∀ s ∈ ss, s.length = net.sNodes.length) (hP : 2 ≤ ss.length) (hS1 : net.sNodes.length ≠ 1) :
    simStr4 delim net order strip ss =
      some (delim.intercalate ((List.range ss.length).map fun p => (List.range net.sNodes.length).map fun q =>
        Gen.renderChars.getD (if isPoppo net q then
          (laneRun ofCode4 semL4 Gen.kindPrefixes net order strip ((ss.getD p []).map fun c => ofCode4 (interp c))
            (capSig net strip q)).code else 2) 0)) :=
  simStrings_eq ar4 code4_lt Gen.interpretAscii Gen.renderChars delim
    render_chars_8 Gen.kindPrefixes net order strip ss hu hP hS1

theorem logic_sim_strings_end_to_end2 (delim : List Nat) (net : Net) (order : List Nat) (strip : Bool) (ss : List (List Nat))
    (hu : ∀ s ∈ ss, s.length = net.sNodes.length) (hP : 2 ≤ ss.length) (hS1 : net.sNodes.length ≠ 1) :
    simStr2 delim net order strip ss =
      some (delim.intercalate ((List.range ss.length).map fun p => (List.range net.sNodes.length).map fun q =>
        Gen.renderChars.getD (if isPoppo net q then
          code2 (laneRun ofCode2 semL2n Gen.kindPrefixes net order strip ((ss.getD p []).map fun c => ofCode2 (interp c))
            (capSig net strip q)) else 2) 0)) :=
  simStrings_eq ar2 code2_lt Gen.interpretAscii Gen.renderChars delim
    render_chars_8 Gen.kindPrefixes net order strip ss hu hP hS1

/-- one pattern string (`P = 1`; any `S`) -/
theorem logic_sim_string_single8 (delim : List Nat) (net : Net) (order : List Nat) (strip : Bool) (s : List Nat)
    (hu : s.length = net.sNodes.length) :
    simStr8 delim net order strip [s] =
      some ((List.range net.sNodes.length).map fun q =>
        Gen.renderChars.getD (if isPoppo net q then
          (laneRun V3.ofCode semL8 Gen.kindPrefixes net order strip (s.map fun c => V3.ofCode (interp c)) (capSig net strip q)).code
          else 2) 0) :=
  simStrings_single ar8 V3.code_lt_8 Gen.interpretAscii Gen.renderChars delim
    render_chars_8 Gen.kindPrefixes net order strip s hu

theorem logic_sim_string_single4 (delim : List Nat) (net : Net) (order : List Nat) (strip : Bool) (s : List Nat)
    (hu : s.length = net.sNodes.length) :
    simStr4 delim net order strip [s] =
      some ((List.range net.sNodes.length).map fun q =>
        Gen.renderChars.getD (if isPoppo net q then
          (laneRun ofCode4 semL4 Gen.kindPrefixes net order strip (s.map fun c => ofCode4 (interp c)) (capSig net strip q)).code
          else 2) 0) :=
  simStrings_single ar4 code4_lt Gen.interpretAscii Gen.renderChars delim
    render_chars_8 Gen.kindPrefixes net order strip s hu

theorem logic_sim_string_single2 (delim : List Nat) (net : Net) (order : List Nat) (strip : Bool) (s : List Nat)
    (hu : s.length = net.sNodes.length) :
    simStr2 delim net order strip [s] =
      some ((List.range net.sNodes.length).map fun q =>
        Gen.renderChars.getD (if isPoppo net q then
          code2 (laneRun ofCode2 semL2n Gen.kindPrefixes net order strip (s.map fun c => ofCode2 (interp c)) (capSig net strip q))
          else 2) 0) :=
  simStrings_single ar2 code2_lt Gen.interpretAscii Gen.renderChars delim
    render_chars_8 Gen.kindPrefixes net order strip s hu

/-- the one-lane run IS the netlist's unique consistent labelling (8-valued documented algebra), for every well-formed netlist,
    topological order and stimulus pattern -/
theorem lane_run_is_the_solution8 (net : Net) (order : List Nat) (hwf : net.wfB = true) (ho : orderOKB net order = true)
    (stim : List V3) :
    let ops := (genOps Gen.kindPrefixes net order false).map OpRow.toOp
    let env := sToC (tabsOf net false) V3.zero stim (fun _ => V3.zero)
    SolvesJ (Jt net) (fun op => specL8 op.code) ops env (laneRun V3.ofCode semL8 Gen.kindPrefixes net order false stim) ∧
    ∀ val, SolvesJ (Jt net) (fun op => specL8 op.code) ops env val → ∀ x, Jt net x = false →
      val x = laneRun V3.ofCode semL8 Gen.kindPrefixes net order false stim x :=
  laneRun_false V3.ofCode semL8 Gen.kindPrefixes net order stim ▸ C02.sim8_all_circuits net order hwf ho _

theorem lane_run_is_the_solution4 (net : Net) (order : List Nat) (hwf : net.wfB = true) (ho : orderOKB net order = true)
    (stim : List V2) :
    let ops := (genOps Gen.kindPrefixes net order false).map OpRow.toOp
    let env := sToC (tabsOf net false) (ofCode4 0) stim (fun _ => ofCode4 0)
    SolvesJ (Jt net) (fun op => specL4 op.code) ops env (laneRun ofCode4 semL4 Gen.kindPrefixes net order false stim) ∧
    ∀ val, SolvesJ (Jt net) (fun op => specL4 op.code) ops env val → ∀ x, Jt net x = false →
      val x = laneRun ofCode4 semL4 Gen.kindPrefixes net order false stim x :=
  laneRun_false ofCode4 semL4 Gen.kindPrefixes net order stim ▸ C02.sim4_all_circuits net order hwf ho _

theorem lane_run_is_the_solution2 (net : Net) (order : List Nat) (hwf : net.wfB = true) (ho : orderOKB net order = true)
    (stim : List Bool) :
    let ops := (genOps Gen.kindPrefixes net order false).map OpRow.toOp
    let env := sToC (tabsOf net false) false stim (fun _ => false)
    SolvesJ (Jt net) (fun op => specL2 op.code) ops env (laneRun ofCode2 semL2n Gen.kindPrefixes net order false stim) ∧
    ∀ val, SolvesJ (Jt net) (fun op => specL2 op.code) ops env val → ∀ x, Jt net x = false →
      val x = laneRun ofCode2 semL2n Gen.kindPrefixes net order false stim x :=
  laneRun_false ofCode2 semL2n Gen.kindPrefixes net order stim ▸ C02.sim2_all_circuits net order hwf ho _

/-! ## non-vacuity: `P = 11` patterns (not a multiple of 8: two bytes per plane, five padding lanes) on `C01.demoNet`

`demoNet`: ports `a`, `b` (positions 0, 1), `out = NOT (a AND b)` (position 2); the third character of a pattern is assigned to the
output port's row of `s[0]` and never read. Expected texts = what the real `LogicSim` prints (harness/c15.py `datapath_tie`). -/
def demoPats : List (List Nat) :=
  ["00-", "01-", "10-", "11-", "X1-", "0X-", "R1-", "RF-", "N1-", "P1X", "-1-"].map fun s => s.toList.map Char.toNat
def demoOrder : List Nat := [0, 2, 1, 3, 4, 5, 6]

/-! The op rows and index tables of the demo netlist, evaluated once. Finding a node's kind in the prefix table and among the port
and state kinds compares strings, which the kernel does slowly; the runs below rewrite with these tables instead of building them
again, so that what is evaluated there is the data path itself. -/
section
@[instance_reducible] def decEqOp : DecidableEq Op := fun ⟨a, b, c⟩ ⟨a', b', c'⟩ =>
  decidable_of_iff (a = a' ∧ b = b' ∧ c = c') (by rw [Op.mk.injEq])
attribute [local instance] decEqOp

theorem demo_ops : sigOps Gen.kindPrefixes C01.demoNet demoOrder false =
    [⟨43690, 0, [9, 6, 6, 6]⟩, ⟨43690, 1, [10, 6, 6, 6]⟩, ⟨43690, 2, [0, 6, 6, 6]⟩, ⟨43690, 3, [1, 6, 6, 6]⟩,
     ⟨34952, 4, [2, 3, 6, 6]⟩, ⟨21845, 5, [4, 6, 6, 6]⟩] := by
  rw [show C01.demoNet = Demo.demoNet from rfl, show demoOrder = Demo.demoOrder from rfl, sigOps_false, Demo.demo_ops.1]
  rfl
theorem demo_ops_strip : sigOps Gen.kindPrefixes C01.demoNet demoOrder true =
    [⟨43690, 0, [9, 6, 6, 6]⟩, ⟨43690, 1, [10, 6, 6, 6]⟩, ⟨34952, 4, [0, 1, 6, 6]⟩, ⟨21845, 5, [4, 6, 6, 6]⟩] := by decide +kernel
end
theorem demo_tabs (strip : Bool) : tabsOf C01.demoNet strip = ⟨9, 12, [(0, 9), (1, 10)], [(2, 5)], []⟩ := by
  cases strip <;> decide +kernel
theorem demo_S : C01.demoNet.sNodes.length = 3 := by decide +kernel

example : C01.demoNet.wfB = true ∧ orderOKB C01.demoNet demoOrder = true ∧ C01.demoNet.sNodes.length = 3 ∧
    demoPats.length = 11 ∧ (∀ s ∈ demoPats, s.length = C01.demoNet.sNodes.length) := by
  rw [demo_S]
  decide +kernel
example : simStr8 [10] C01.demoNet demoOrder false demoPats =
    some ("--1\n--1\n--1\n--0\n--X\n--1\n--F\n--N\n--P\n--N\n--X".toList.map Char.toNat) := by
  simp only [simStr8, simStrings, simArr, demo_ops, demo_tabs, demo_S]
  rw [String.toList_ofList]
  decide +kernel
example : simStr4 [10] C01.demoNet demoOrder false demoPats =
    some ("--1\n--1\n--1\n--0\n--X\n--1\n--X\n--X\n--0\n--1\n--X".toList.map Char.toNat) := by
  simp only [simStr4, simStrings, simArr, demo_ops, demo_tabs, demo_S]
  rw [String.toList_ofList]
  decide +kernel
example : simStr2 [10] C01.demoNet demoOrder false demoPats =
    some ("--1\n--1\n--1\n--0\n--0\n--1\n--0\n--1\n--0\n--1\n--1".toList.map Char.toNat) := by
  simp only [simStr2, simStrings, simArr, demo_ops, demo_tabs, demo_S]
  rw [String.toList_ofList]
  decide +kernel
def demoArr : Arr Nat := ⟨[3], 11, [[0, 0, 3, 3, 1, 0, 5, 5, 7, 4, 2], [0, 3, 0, 3, 3, 1, 3, 6, 3, 3, 3], [2, 2, 2, 2, 2, 2, 2, 2, 2, 1, 2]]⟩
/-- hypotheses of (2a)–(2e) on the demo objects: the array the strings denote is well-formed of shape `(S, 11)`; position 2 (the output
    port) is captured, positions 0, 1 (input ports) are not; pattern 6 of the 11-pattern array = pattern 0 of the one-pattern array;
    fork conventions and capture drivers hold -/
example : mvarray Gen.interpretAscii demoPats = some demoArr ∧ demoArr.wf = true ∧ demoArr.lead = [C01.demoNet.sNodes.length] ∧
    2 ≤ demoPats.length ∧ C01.demoNet.sNodes.length ≠ 1 ∧
    isPoppo C01.demoNet 2 = true ∧ isPoppo C01.demoNet 0 = false ∧ (sNodeAt C01.demoNet 2).inPin 0 = some 5 ∧
    demoArr.rows.map (·.getD 6 0) = (⟨[3], 1, [[5], [3], [2]]⟩ : Arr Nat).rows.map (·.getD 0 0) ∧
    forksOKB C01.demoNet demoOrder = true ∧ capDriversB C01.demoNet demoOrder = true := by
  rw [demo_S]
  decide +kernel
example : sim8 C01.demoNet demoOrder false demoArr = some ⟨[3], 11,
    [[2, 2, 2, 2, 2, 2, 2, 2, 2, 2, 2], [2, 2, 2, 2, 2, 2, 2, 2, 2, 2, 2], [3, 3, 3, 0, 1, 3, 6, 7, 4, 7, 1]]⟩ ∧
    sim8 C01.demoNet demoOrder true demoArr = sim8 C01.demoNet demoOrder false demoArr := by
  simp only [sim8, simArr, demo_ops, demo_ops_strip, demo_tabs, demo_S]
  decide +kernel
/-- the array the eleven strings denote, and the bytes assigned to `s[0]` (three rows of three planes of two bytes) -/
example : (mvarray Gen.interpretAscii demoPats).map mvToBp = some ⟨[3, 3], 2,
    [[0xdc, 0x01], [0x0c, 0x05], [0xc0, 0x03], [0x7a, 0x07], [0xda, 0x07], [0x80, 0x00],
     [0x00, 0x02], [0xff, 0x05], [0x00, 0x00]]⟩ := by decide +kernel
example : simStr8 [10] C01.demoNet demoOrder false [demoPats.getD 6 []] = some ("--F".toList.map Char.toNat) := by
  simp only [simStr8, simStrings, simArr, demo_ops, demo_tabs, demo_S]
  decide +kernel

/-! ## (3) `cycle(k)` at byte level (the byte ↔ value step and the lanes, m = 2, 4, 8)

`cycleKB C sem ops T k st` = `LogicSim.cycle(k)` on the byte-level state (`s_to_c; c_prop; c_to_s; s_ppo_to_ppi`, k times; for m = 2, 4
`s_ppo_to_ppi` copies the whole row `s[1, p]` to `s[0, p]`, all three planes). -/

/-- the byte-level loop, seen through the planes each arity reads, IS the value-level loop `Cycle.cycleK` of C01 (m = 2, 4: `merge` = copy; m = 8: the transition builder `merge8W`): every
    statement of C01 about `cycleK` over `BitVec` / `P2 BitVec` values (`cycle_step`, `cycle_iter`, `cycle_end_to_end`,
    `cycle_strip_irrelevant`) is a statement about the planes `:mdim` of the byte-level `s` -/
theorem cycle_byte_level_is_value_level (nb : Nat) (ops : List Op) (T : Tabs) (k : Nat) :
    (∀ (sem : Op → List (BitVec (8 * nb)) → BitVec (8 * nb)) (st : StB (BitVec (8 * nb))),
      decSt (codec2 nb) (cycleKB (codec2 nb) sem ops T k st) = cycleK sem ops T mergeCopy 0 k (decSt (codec2 nb) st)) ∧
    (∀ (sem : Op → List (P2 (BitVec (8 * nb))) → P2 (BitVec (8 * nb))) (st : StB (P2 (BitVec (8 * nb)))),
      decSt (codec4 nb) (cycleKB (codec4 nb) sem ops T k st) = cycleK sem ops T mergeCopy ⟨0, 0⟩ k (decSt (codec4 nb) st)) ∧
    (∀ (sem : Op → List (P3 (BitVec (8 * nb))) → P3 (BitVec (8 * nb))) (st : StB (P3 (BitVec (8 * nb)))),
      decSt (codec8 nb) (cycleKB (codec8 nb) sem ops T k st) = cycleK sem ops T merge8W ⟨0, 0, 0⟩ k (decSt (codec8 nb) st)) := by
  have hd2 : (codec2 nb).dec [] = 0 := by simp [codec2, plane]
  have hd4 : (codec4 nb).dec [] = ⟨0, 0⟩ := by simp [codec4, plane]
  have hd8 : (codec8 nb).dec [] = ⟨0, 0, 0⟩ := by simp [codec8, plane]
  exact ⟨fun sem st => hd2 ▸ cycleKB_dec (codec2 nb) mergeCopy (codec2_lawful nb) sem ops T k st,
    fun sem st => hd4 ▸ cycleKB_dec (codec4 nb) mergeCopy (codec4_lawful nb) sem ops T k st,
    fun sem st => hd8 ▸ cycleKB_dec (codec8 nb) merge8W (codec8_lawful nb) sem ops T k st⟩

/-- lane `p` of plane 0 of every row of `s[i]` -/
def lanes0 (nb p : Nat) (rows : List SRow) : List Bool := rows.map fun r => (plane nb r 0).getLsbD p

/-- **`cycle(k)`, m = 2, lanes**: for every op program, index tables, `k`, byte-level state and lane `p` (padding lanes too): lane `p` of
    plane 0 of `s[0]`, `s[1]` after `cycle(k)` on bytes = the ONE-LANE `Cycle.cycleK` started on lane `p` of plane 0 — patterns never
    influence one another over any number of clock cycles -/
theorem cycle_patterns2 (nb : Nat) (ops : List Op) (T : Tabs) (k : Nat) (st : StB (BitVec (8 * nb))) (p : Nat) (hp : p < 8 * nb) :
    let r := cycleKB (codec2 nb) (fun op => semW2 nb op.code) ops T k st
    let rb := cycleK (fun op => semL2n op.code) ops T mergeCopy false k
      ⟨fun x => (st.env x).getLsbD p, ⟨lanes0 nb p st.s0, lanes0 nb p st.s1⟩⟩
    lanes0 nb p r.s0 = rb.s.s0 ∧ lanes0 nb p r.s1 = rb.s.s1 :=
  cycle_patterns ar2 nb ops T k st p hp

/-- **`cycle(k)`, m = 8, lanes** (`s_ppo_to_ppi` builds the transition `merge8L`: initial := assigned final, final := captured final,
    activity := their difference): the three planes of `s[0]`, `s[1]` after `cycle(k)` on bytes show in lane `p` the ONE-LANE
    `Cycle.cycleK` over `V3` started on lane `p` — to which C01 `cycle_step` / `cycle_iter` apply with `merge := merge8L` -/
theorem cycle_patterns8 (nb : Nat) (ops : List Op) (T : Tabs) (k : Nat) (st : StB (P3 (BitVec (8 * nb)))) (p : Nat) (hp : p < 8 * nb) :
    let r := cycleKB (codec8 nb) (fun op => semW8 nb op.code) ops T k st
    let rb := cycleK (fun op => semL8 op.code) ops T merge8L V3.zero k
      ⟨fun x => ln8 nb p (st.env x), ⟨st.s0.map fun row => ln8 nb p ((codec8 nb).dec row), st.s1.map fun row => ln8 nb p ((codec8 nb).dec row)⟩⟩
    (r.s0.map fun row => ln8 nb p ((codec8 nb).dec row)) = rb.s.s0 ∧ (r.s1.map fun row => ln8 nb p ((codec8 nb).dec row)) = rb.s.s1 :=
  cycle_patterns ar8 nb ops T k st p hp

/-- **`cycle(k)`, m = 4, lanes** -/
theorem cycle_patterns4 (nb : Nat) (ops : List Op) (T : Tabs) (k : Nat) (st : StB (P2 (BitVec (8 * nb)))) (p : Nat) (hp : p < 8 * nb) :
    let r := cycleKB (codec4 nb) (fun op => semW4 nb op.code) ops T k st
    let rb := cycleK (fun op => semL4 op.code) ops T mergeCopy (ofCode4 0) k
      ⟨fun x => ln4 nb p (st.env x), ⟨st.s0.map fun row => ln4 nb p ((codec4 nb).dec row), st.s1.map fun row => ln4 nb p ((codec4 nb).dec row)⟩⟩
    (r.s0.map fun row => ln4 nb p ((codec4 nb).dec row)) = rb.s.s0 ∧ (r.s1.map fun row => ln4 nb p ((codec4 nb).dec row)) = rb.s.s1 :=
  cycle_patterns ar4 nb ops T k st p hp

/-- lane `p` of the planes an arity reads, row by row -/
def lanesOf {β} (R : Arity β) (nb p : Nat) (rows : List SRow) : List β := rows.map fun r => R.ln nb p ((R.C nb).dec r)

open KV.Cycle in
/-- **`cycle(k)`, any arity, end to end**: C01 `cycle_iter` through the bytes (`merge` = `R.mergeL`: copy for m = 2, 4, the transition
    builder for m = 8) -/
theorem cycle_patterns_end_to_end {β} (R : Arity β) (nb : Nat) (net : Net) (order : List Nat) (hwf : net.wfB = true)
    (ho : orderOKB net order = true) (k : Nat) (st : StB (R.A nb))
    (h0 : st.s0.length = net.sNodes.length) (h1 : st.s1.length = net.sNodes.length) (p : Nat) (hp : p < 8 * nb) :
    let ops := sigOps Gen.kindPrefixes net order false
    let sem : Op → List β → β := fun op => R.semL op.code
    let envp : Nat → β := fun x => R.ln nb p (st.env x)
    let N := Cycle.nextState sem ops net false R.mergeL (R.ofCode 0) envp
    let r := cycleKB (R.C nb) (fun op => R.semW nb op.code) ops (tabsOf net false) k st
    lanesOf R nb p r.s0 = iter N k (lanesOf R nb p st.s0) ∧
    (∀ q, q < net.io.length → (lanesOf R nb p r.s0)[q]? = (lanesOf R nb p st.s0)[q]?) ∧
    (∀ j, k = j + 1 → lanesOf R nb p r.s1 =
      captureRow net false (solOf sem ops (tabsOf net false) (R.ofCode 0) envp (iter N j (lanesOf R nb p st.s0))) (lanesOf R nb p st.s1)) := by
  intro ops sem envp N r
  obtain ⟨e0, e1⟩ := cycle_patterns R nb ops (tabsOf net false) k st p hp
  have hi := C01.cycle_iter Gen.kindPrefixes net order hwf ho sem R.mergeL (R.ofCode 0)
    ⟨envp, ⟨lanesOf R nb p st.s0, lanesOf R nb p st.s1⟩⟩ (by simp [lanesOf, h0]) (by simp [lanesOf, h1]) k
  simp only at hi e0 e1
  show lanesOf R nb p r.s0 = _ ∧ (∀ q, _ → (lanesOf R nb p r.s0)[q]? = _) ∧ (∀ j, _ → lanesOf R nb p r.s1 = _)
  unfold lanesOf at *
  rw [e0, e1]
  exact hi

open KV.Cycle in
/-- **`cycle(k)`, m = 2, end to end**: for every well-formed netlist, topological order, `k`, byte-level state (rows for every
    `s_nodes` position) and lane `p`: lane `p` of plane 0 of `s[0]` after `cycle(k)` is the k-fold iterate of the next-state function
    `N` (defined by THE solution of the gate equations, C01 `nextState_unique`) on lane `p` of the initial `s[0]`; port rows keep
    their lane; `s[1]` after `j + 1` cycles holds the capture of the labelling of `N^j` — C01 `cycle_iter` through the bytes. -/
theorem cycle_patterns_end_to_end2 (nb : Nat) (net : Net) (order : List Nat) (hwf : net.wfB = true)
    (ho : orderOKB net order = true) (k : Nat) (st : StB (BitVec (8 * nb)))
    (h0 : st.s0.length = net.sNodes.length) (h1 : st.s1.length = net.sNodes.length) (p : Nat) (hp : p < 8 * nb) :
    let ops := sigOps Gen.kindPrefixes net order false
    let sem : Op → List Bool → Bool := fun op => semL2n op.code
    let envp : Nat → Bool := fun x => (st.env x).getLsbD p
    let N := Cycle.nextState sem ops net false mergeCopy false envp
    let r := cycleKB (codec2 nb) (fun op => semW2 nb op.code) ops (tabsOf net false) k st
    lanes0 nb p r.s0 = iter N k (lanes0 nb p st.s0) ∧
    (∀ q, q < net.io.length → (lanes0 nb p r.s0)[q]? = (lanes0 nb p st.s0)[q]?) ∧
    (∀ j, k = j + 1 → lanes0 nb p r.s1 =
      captureRow net false (solOf sem ops (tabsOf net false) false envp (iter N j (lanes0 nb p st.s0))) (lanes0 nb p st.s1)) :=
  cycle_patterns_end_to_end ar2 nb net order hwf ho k st h0 h1 p hp

/-- non-vacuity of (3): the toggle flip-flop `C01.demoSeq` (`q' = q XOR en`), 11 lanes in two bytes: enable pattern
    `0b101_0101_0101` in plane 0 of the port row, state 0; after 1, 2, 3 cycles the state row toggles in the enabled lanes only, all
    three planes of `s[0]`'s state row are the copied `s[1]` row (plane 1 = plane 0, plane 2 as the constructor left it) -/
def demoSeqSt : StB (BitVec (8 * 2)) :=
  ⟨fun _ => 0, [[[0x55, 0x05], [0x55, 0x05], [0, 0]], freshRow 2, [[0, 0], [0, 0], [0, 0]]], List.replicate 3 (freshRow 2)⟩
example : C01.demoSeq.wfB = true ∧ orderOKB C01.demoSeq [0, 1, 2, 3, 4, 5, 6] = true ∧
    demoSeqSt.s0.length = C01.demoSeq.sNodes.length ∧ demoSeqSt.s1.length = C01.demoSeq.sNodes.length := by decide +kernel
def demoSeqRun (k : Nat) : StB (BitVec (8 * 2)) :=
  cycleKB (codec2 2) (fun op => semW2 2 op.code) (sigOps Gen.kindPrefixes C01.demoSeq [0, 1, 2, 3, 4, 5, 6] false)
    (tabsOf C01.demoSeq false) k demoSeqSt
example : (demoSeqRun 1).s0.getD 2 [] = [[0x55, 0x05], [0x55, 0x05], [0, 0]] ∧
    (demoSeqRun 2).s0.getD 2 [] = [[0, 0], [0, 0], [0, 0]] ∧ (demoSeqRun 3).s0.getD 2 [] = [[0x55, 0x05], [0x55, 0x05], [0, 0]] ∧
    (demoSeqRun 3).s1.getD 1 [] = [[0, 0], [0, 0], [0, 0]] ∧ (demoSeqRun 3).s0.getD 0 [] = [[0x55, 0x05], [0x55, 0x05], [0, 0]] := by
  decide +kernel

/-! ## what the driver evaluates -/

theorem envOf_replicate {α} (n : Nat) (d : α) : envOf d (Array.replicate n d) = fun _ => d := by
  funext i
  simp only [envOf, Array.getD_eq_getD_getElem?, Array.getElem?_replicate]
  split <;> rfl

/-- the array form the driver runs (`cycle1BA`, `cycleKBA`: memory = an array of `c_locs_len` entries, fresh: all `dec []` = zero) leaves
    the same `s[0]`, `s[1]` as the function forms `captureB`, `cycleKB` of the theorems — every well-formed netlist, order, `strip_forks`,
    arity, op semantics, `k` -/
theorem driver_array_form {α} (C : Codec α) (sem : Op → List α → α) (net : Net) (order : List Nat) (strip : Bool)
    (hwf : net.wfB = true) (ho : orderOKB net order = true) (k : Nat) (s0 s1 : List SRow) :
    let ops := sigOps Gen.kindPrefixes net order strip
    let T := tabsOf net strip
    let st0 : StBA α := ⟨Array.replicate net.idx.len (C.dec []), s0, s1⟩
    (cycle1BA C sem ops T st0).s1 = captureB C sem ops T (fun _ => C.dec []) s0 s1 ∧
    (cycleKBA C sem ops T k st0).s0 = (cycleKB C sem ops T k ⟨fun _ => C.dec [], s0, s1⟩).s0 ∧
    (cycleKBA C sem ops T k st0).s1 = (cycleKB C sem ops T k ⟨fun _ => C.dec [], s0, s1⟩).s1 := by
  intro ops T st0
  have hb : ∀ op ∈ ops, op.out < net.idx.len := sigOps_out Gen.kindPrefixes net order strip hwf (orderOK_lt ho)
  have hp : ∀ px ∈ T.pippi, px.2 < net.idx.len := pippi_lt net strip
  have h0 : toStB C st0 = ⟨fun _ => C.dec [], s0, s1⟩ := by
    show (⟨envOf (C.dec []) (Array.replicate net.idx.len (C.dec [])), s0, s1⟩ : StB α) = _
    rw [envOf_replicate]
  have hsz : st0.env.size = net.idx.len := by simp [st0]
  have h1 := (cycle1BA_eq C sem ops T st0 (fun op h => hsz ▸ hb op h) (fun px h => hsz ▸ hp px h)).1
  have hk := cycleKBA_eq C sem ops T net.idx.len hb hp k st0 hsz
  rw [h0] at h1 hk
  refine ⟨?_, ?_, ?_⟩
  · have := congrArg StB.s1 h1
    exact this
  · exact congrArg StB.s0 hk
  · exact congrArg StB.s1 hk

/-- the bit-parallel op semantics the driver command `dp.run` evaluates (Drv/DataPath.lean `semW2/4/8`) are the ones of the theorems
    above; `Drv.DataPath.run` applies `cycle1BA` / `cycleKBA` (`driver_array_form`) to them in its own text, which no theorem mentions -/
theorem driver_runs_the_model (nb : Nat) :
    Drv.DataPath.semW2 nb = semW2 nb ∧ Drv.DataPath.semW4 nb = semW4 nb ∧ Drv.DataPath.semW8 nb = semW8 nb :=
  ⟨rfl, rfl, rfl⟩

end KV.C15
