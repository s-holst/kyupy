import KyupyVerif.Proofs.BenchText
import KyupyVerif.Proofs.VerilogTextConst
import KyupyVerif.Proofs.BenchErr
import KyupyVerif.Proofs.BenchSched
import KyupyVerif.Proofs.VerilogEnd
import KyupyVerif.Proofs.WideGate
/-! # C11 — parsed Verilog and bench netlists simulate as the described netlist

Objects of the theorems: two hand-written models of `kyupy/verilog.py` and `kyupy/bench.py`.

(1) `KV.Netlist` (Model/Netlist.lean) — the transformers AFTER lark: the callbacks `range`, `sigsel`, `concat`, `declaration`,
`instantiation` and the passes of `VerilogTransformer.module` (0, 1, ports, 1.5, 2, outputs) over an abstract technology
library (`TL`: pin ↦ index, direction), and `BenchTransformer`.  `Cfg.assignFix` / `Cfg.onebitDecl` select between two variants of
pass 1.5 / pass 2: `true` is `verilog.py` as it is (assign pairs retried until a round makes no progress; a 1-bit bus named by its base
resolves through its declaration), `false` the variant that visits every assign pair once and falls back to `name[0]` only (known
findings D23 / D24).  Theorems quantify over ALL statement lists / port lists / libraries, and over `Cfg` unless they say otherwise.

(2) `KV.BenchText`, `KV.VerilogText` (Model/BenchText.lean, Model/VerilogText.lean) — the TEXT level: lexer and grammar as lark
(0.12, LALR, contextual lexer) reads the two `GRAMMAR` strings: ignored text (`#`, `//` + newline, `/* */`, `(* *)`, blanks,
`\r\n`, the lone `\r` that is an error), the name patterns with Python's Unicode case folding, escaped identifiers, sized
constants as names, numbers only inside ranges, keywords only where a statement begins (bench: `INPUT = AND(a)` is an error,
`z = INPUT(INPUT)` is not; Verilog: `wire input;` declares a wire, `module` is no statement keyword), `module` as bare prefix at
the top level, and the grammar by recursive descent.  Output: the statement list (1) consumes (`List BStmt`; `VModule` = lark's
tree after the `name` callback, handed on by `toR`).  Theorems quantify over ALL statement lists / module lists and ALL layouts.

* **Theorems** (this file, in this order; each docstring says the claim in kyupy's terms):
  post-parse callbacks and passes — `range_expand`, `const_expand`, `concat_flat`, `sig_decls_lookup` (`_nonwire_wins`, `_wire_last`),
  `ports_order`, `named_pins_map`, `pin_reaches` (`_output`, `_input`), `readers_exact`, `assign_fix_complete` (the code) and
  `assign_line`, `assign_order_matters`, `reader_onebit_fallback`, `onebit_bus_index` (the variants `false`, marked in their
  docstrings: D23 / D24), `bench_shape`, `bench_lines`, `bench_io_order`, `branchforks_only_forks`;
  **text level**, bench then Verilog — `*_text_roundtrip` (`parse (print x) = some x`), `*_text_layout_irrelevant` (every layout of
  the token stream), the token-class theorems (every SPELLING of every token: `bench_text_keyword_class`,
  `verilog_text_token_classes`, `const_spelling_class`, `verilog_text_classes_same_circuit`), `*_text_to_netlist` (the circuit built
  from the model's own reading of the text is the circuit of the statement list, which puts all theorems of (1) behind the text).
  NOT a theorem: the converse (every accepted text is a layout of a token stream) and, beyond `bench_other_case_rejected`, anything
  about texts with a syntax error.
  **`parsed_sem` (connectivity ⇒ function)**, bench then Verilog (sections `ParsedSem`, `ParsedSemVerilog`, each with a header that
  names its objects) — `*_net_wf`, `bench_net_ports`, `*_snodes`, `bench_parsed_sem` / `verilog_parsed_sem` (consistent labellings
  of the dump ⇔ models of the statement list, one-to-one, relational), `*_captured`, `*_checker_sound`, `bench_end_to_end`
  (`_as_simulated`, `_closed`, `4`, `8`), `verilog_end_to_end` (`8`), `*_text_to_net`.
  Bench: ALL statement lists on which the model does not set `err` (`benchOKB`).  Verilog: the fragment `verilogOKB` (spelled out at
  the section), UNRESOLVED circuit — library substitution is C10 `resolve_sem`, composed with these theorems in Props/C11Library.lean.
  **Arity domain (known finding D33).**  `lineEq`, `BenchModel` (`gateVal`), `VModel` (`instVal`) read operands / pins 0..3 of a gate —
  exactly as `SimOps` does; a gate with more than four connected inputs means, for model, specification and simulator alike, the
  4-input primitive of its first four pins.  Therefore `benchArityB` / `vArityB` are explicit DOMAIN hypotheses of the semantic
  theorems.  In the two-valued bench headline theorems the hypothesis is USED (they conclude with the n-ary reading `BenchModelN`;
  `bench_nary_reading`); in the generic-domain theorems it only marks where the statement speaks about the function the text
  describes; `bench_end_to_end_as_simulated` is the unrestricted statement, `wide_gate_not_simulated` the witness outside the domain.
  Harness: `bencharity` / `verilogarity` / `netarity` on every case (tags `parsed-sem:*:benchArityB=` / `vArityB=`); oracle class `wide-gate`.
  **Token classes, raise guard.**  The class of a token is what the real lexer / `name` / `range` / `sigsel` callbacks map to the same
  value (headers of the two `### token classes` sections).  RESTRICTED: a statement keyword used as a NAME and written PLAIN where no
  statement begins (`wire input;`) is accepted by `parseVerilog` but is no member of `sameTok`'s class (canonical: escaped).
  `circOfText` contains the transformer's raise guard (`RStmt.ok`, positional pins); it only sets `err`, which `toNet` ignores:
  therefore `verilog_text_to_net`, `verilog_text_classes_to_net` and the C11Library text theorems carry `hpos`, `hrok`
  (`verilog_text_accepted` / `verilog_text_rejected` say what the guard does).  Bench has no separate guard (`bench_ok_is_no_error`).
  **What the denotations share with the builder.**  `VModel` uses the builder's `assignPairs (sigDecls …)`, `outSig`, `inputNames`,
  `posNames`: bus-bit order, assign bit pairing, selects, concatenations, sized constants and declaration look-up are NOT re-specified
  inside the denotation; these clauses rest on `range_expand` (`rangeList` against the closed forms `l + i` / `l - i`), `const_expand`
  (against `Nat.testBit` of the parsed number), `concat_flat`, `sig_decls_lookup` / `_nonwire_wins` / `_wire_last`, `ports_order`
  (`io_nodes` = `posNames`), `assign_pairs_expand` — each pins its function against an independent closed form, except `posNames` /
  `expandSigs` themselves, which are DEFINITIONS shared by builder and denotation (their reading "port list expanded by declared range
  in declared direction" is `ports_order_expansion` + `decl_names_*`).
  Hypotheses of the end-to-end theorems `orderOKB` / `forksOKB` / `linesDrivenB` are decidable conditions on (net, order); for
  bench they follow from the description (`bench_sched_hyps`, `bench_end_to_end_closed`: closed description over kinds the prefix
  table knows, a topological order that covers every node), for Verilog they are hypotheses.  That a Verilog module inside
  `verilogOKB` builds (model `err` false, real parser does not raise) is checked on every generated case by the correspondence run,
  not proved.
* **Correspondence** (harness/c11.py, differential, not proof): (1) == real `verilog.parse` / `bench.parse` on generated
  texts: node list, line list with all pin numbers, `io_nodes`, connectivity table; both raise or both build on inputs outside
  the subset.  Which variant of pass 1.5 / pass 2 (`Cfg.assignFix`, `Cfg.onebitDecl`) the code under test has is probed.
  (2) == lark on the REAL grammar strings, for every generated text (all renderings), fixed lexer/grammar corner-case texts
  and random small edits of the generated texts (delete / insert / replace / swap / cut / duplicate / truncate / snippets such
  as `//`, `(*`, `\r`, keywords, non-ASCII letters): both accept or both reject (`lark.UnexpectedInput`), lark's parse tree ==
  the model's statement list == the generator's statement list, and circuit(1) built from (2)'s OWN reading of the text == the
  real parsed circuit (or both raise).  `class_stream` re-prints every generated statement list with random class members (tags
  `token-class:*`).  What remains trusted at the text level: that lark implements the grammar as the hand parser reads it —
  checked on these texts only.  Outside the modelled domain (answered `unsup`, counted, not compared): a name with an apostrophe
  that is not a sized constant (`sigsel` splits at the apostrophe and calls `int()`: it raises on most such names and accepts a few
  spellings with blanks or underscores).
  (3) `parsed_sem` tie (`parsed_sem_bench`, `parsed_sem_verilog`): `benchNet` / `verilogNet` (driver `netof`) == `dump_net` of the
  REAL parsed circuit character by character (every generated case that builds, also outside the Verilog fragment); `benchOKB`,
  `benchClosedB`, `verilogOKB` and the hypotheses of the end-to-end theorems (real topological order) evaluated by the driver on
  every case (coverage tags `parsed-sem:*`; a Verilog case whose σ was compared with nothing — `linesDrivenB` false — is not counted
  as covered); for covered cases the model's `σ` (driver `benchsem` / `verilogsem`: evaluator + acceptance check `benchModelB` /
  `vModelB`, sound by theorem) observed at outputs and state elements == the GENERATOR's own evaluation of the netlist it rendered
  (bench; Verilog over the library of primitives `PRIM`) and == the real `LogicSim` on the real unresolved circuit (Verilog, every
  library), on sampled assignments.
* **Oracle** (harness/c11.py): truth table of the parsed + resolved circuit under the real `LogicSim(m=2)` against the
  generator's own evaluation of the netlist it rendered; port order; Verilog vs bench.  This decides violations.
  "Verilog vs bench" is a THEOREM for the two canonical renderings `benchOf nl` / `verilogOf nl` of one netlist description of the
  common fragment `commonNlB` (Props/C11Library.lean section `FormatEquiv`; tie harness/c11.py `format_eq_hyp`); for the REAL
  renderings of the generator (shuffled, renamed, library pin names, buses, assigns) it stays oracle.  The step from "right
  connectivity" to "right Boolean function" is a theorem for bench and for the Verilog fragment; through `resolve_tlib_cells` for
  modules of the fragment over certified combinational library cells (Props/C11Library.lean); it stays oracle-only for Verilog
  modules outside the fragment and for library cells outside those hypotheses. -/
namespace KV.C11
open KV.Netlist

/-- `[l:r]`, `l ≤ r`: `r - l + 1` indices `l, l+1, …, r` in this order -/
theorem range_expand_ascending (l r i : Nat) (h : l ≤ r) (hi : i ≤ r - l) :
    (range l (some r)).length = r - l + 1 ∧ (range l (some r))[i]? = some (l + i) :=
  ⟨rangeList_length_asc h, rangeList_get_asc h hi⟩

/-- `[l:r]`, `l > r`: `l - r + 1` indices `l, l-1, …, r` in this order -/
theorem range_expand_descending (l r i : Nat) (h : r < l) (hi : i ≤ l - r) :
    (range l (some r)).length = l - r + 1 ∧ (range l (some r))[i]? = some (l - i) :=
  ⟨rangeList_length_desc h, rangeList_get_desc h hi⟩

/-- `[k]`: the single index -/
theorem range_single (k : Nat) : range k none = [k] := by simp [range, rangeList]

/-- `range_expand`: a declaration or select `base[l:r]` names `base[i]` for `i` running from `l` to `r` in the DECLARED
direction (both directions in one statement; `i`-th name, 0-based), and `base[k]` names the single bit -/
theorem range_expand (base : String) (l r i : Nat) :
    (l ≤ r → i ≤ r - l → ((range l (some r)).map (bitName base))[i]? = some (bitName base (l + i))) ∧
    (r < l → i ≤ l - r → ((range l (some r)).map (bitName base))[i]? = some (bitName base (l - i))) ∧
    ((range l (some r)).map (bitName base)).length = (if l ≤ r then r - l else l - r) + 1 ∧
    (range l none).map (bitName base) = [bitName base l] := by
  refine ⟨fun h hi => ?_, fun h hi => ?_, ?_, ?_⟩
  · rw [List.getElem?_map, (range_expand_ascending l r i h hi).2]; rfl
  · rw [List.getElem?_map, (range_expand_descending l r i h hi).2]; rfl
  · rw [List.length_map]
    by_cases h : l ≤ r
    · simp [h, (range_expand_ascending l r 0 h (Nat.zero_le _)).1]
    · have h' : r < l := by omega
      simp [h, (range_expand_descending l r 0 h' (Nat.zero_le _)).1]
  · rw [range_single]; rfl

/-- a declaration `kind [l:r] base`: one `SignalDeclaration` whose names are `base[i]` for `i` in range order -/
theorem decl_names_expand (k : DKind) (base : String) (l r : Nat) :
    declaration k (some (l, some r)) [base] = [⟨k, base, some (rangeList l r)⟩] ∧
    (⟨k, base, some (rangeList l r)⟩ : Decl).names = (rangeList l r).map (bitName base) := ⟨rfl, rfl⟩

theorem decl_names_ascending (k : DKind) (base : String) (l r i : Nat) (h : l ≤ r) (hi : i ≤ r - l) :
    ((⟨k, base, some (rangeList l r)⟩ : Decl).names)[i]? = some (bitName base (l + i)) := by
  show ((rangeList l r).map (bitName base))[i]? = _
  rw [List.getElem?_map, rangeList_get_asc h hi]; rfl

theorem decl_names_descending (k : DKind) (base : String) (l r i : Nat) (h : r < l) (hi : i ≤ l - r) :
    ((⟨k, base, some (rangeList l r)⟩ : Decl).names)[i]? = some (bitName base (l - i)) := by
  show ((rangeList l r).map (bitName base))[i]? = _
  rw [List.getElem?_map, rangeList_get_desc h hi]; rfl

/-- a declaration without range names the signal itself -/
theorem decl_names_scalar (k : DKind) (base : String) : (⟨k, base, none⟩ : Decl).names = [base] := rfl

/-- bit and part selects: `name[l:r]` is the list of `name[i]` in range order; `name[k]` is the single string `name[k]` -/
theorem sigsel_bits (n : String) (l : Nat) (r : Option Nat) :
    (sigsel (.bits n l r)).toList = (range l r).map (bitName n) := by
  simp [sigsel, collapse_toList]

theorem sigsel_bit (n : String) (k : Nat) : sigsel (.bits n k none) = .one (bitName n k) := by
  simp [sigsel, range_single, collapse]

example : bitName "data" 12 = "data[12]" := by decide +kernel
example : (sigsel (.bits "a" 3 (some 1))) = .many ["a[3]", "a[2]", "a[1]"] := by decide +kernel
example : (sigsel (.bits "a" 0 (some 2))) = .many ["a[0]", "a[1]", "a[2]"] := by decide +kernel
example : (declaration .input (some (7, some 5)) ["x", "y"]).flatMap Decl.names = ["x[7]", "x[6]", "x[5]", "y[7]", "y[6]", "y[5]"] := by
  decide +kernel

/-- `w'<base>K`: exactly `w` one-bit constants, most significant first: entry `i` is bit `w-1-i` of `K = int(digits, base)` -/
theorem const_expand (w : Nat) (b : Char) (ds : List Char) :
    (sigsel (.const w b ds)).toList =
      (List.range w).map fun i => bitStr ((parseNum (baseOf b) ds).testBit (w - 1 - i)) := by
  simp [sigsel, collapse_toList, constBits, constLoop_eq]

theorem const_expand_length (w : Nat) (b : Char) (ds : List Char) : ((sigsel (.const w b ds)).toList).length = w := by
  rw [const_expand]; simp

theorem const_expand_get (w : Nat) (b : Char) (ds : List Char) (i : Nat) (hi : i < w) :
    ((sigsel (.const w b ds)).toList)[i]? = some (bitStr ((parseNum (baseOf b) ds).testBit (w - 1 - i))) := by
  rw [const_expand, List.getElem?_map, List.getElem?_range hi]; rfl

/-- a 1-bit constant is a single string `1'b0` / `1'b1` (what a pin connection needs) -/
theorem const_one_bit (b : Char) (ds : List Char) :
    sigsel (.const 1 b ds) = .one (bitStr ((parseNum (baseOf b) ds).testBit 0)) := by
  simp only [sigsel, constBits, constLoop, collapse, Nat.testBit_zero]
  by_cases h : parseNum (baseOf b) ds % 2 = 1
  · simp [h]
  · have : (parseNum (baseOf b) ds % 2 == 1) = false := by simp [h]
    simp [h, this]

example : baseOf 'b' = 2 ∧ baseOf 'B' = 2 ∧ baseOf 'd' = 10 ∧ baseOf 'D' = 10 ∧ baseOf 'h' = 16 ∧ baseOf 'H' = 16 := by decide
example : parseNum 2 "1010".toList = 10 ∧ parseNum 10 "10".toList = 10 ∧ parseNum 16 "A".toList = 10 ∧ parseNum 16 "a".toList = 10 := by
  decide +kernel
example : sigsel (.const 4 'b' "1010".toList) = .many ["1'b1", "1'b0", "1'b1", "1'b0"] := by decide +kernel
example : sigsel (.const 4 'd' "10".toList) = .many ["1'b1", "1'b0", "1'b1", "1'b0"] := by decide +kernel
example : sigsel (.const 4 'h' "A".toList) = .many ["1'b1", "1'b0", "1'b1", "1'b0"] := by decide +kernel
example : sigsel (.const 6 'H' "a".toList) = .many ["1'b0", "1'b0", "1'b1", "1'b0", "1'b1", "1'b0"] := by decide +kernel  -- zero-extended
example : sigsel (.const 3 'h' "FA".toList) = .many ["1'b0", "1'b1", "1'b0"] := by decide +kernel                        -- cut to 3 bits
example : sigsel (.const 1 'd' "1".toList) = .one "1'b1" := by decide +kernel

/-- `{a, b, …}`: the bit lists of the items spliced in order, nested concatenations included -/
theorem concat_flat (items : List Sel) : sigsel (.concat items) = .many (items.flatMap fun a => (sigsel a).toList) := by
  simp [sigsel, concatL_eq]

example : sigsel (.concat [.name "x", .concat [.bits "a" 1 (some 0), .const 2 'b' "10".toList], .bits "y" 4 none]) =
    .many ["x", "a[1]", "a[0]", "1'b1", "1'b0", "y[4]"] := by decide +kernel

/-- the slot of a name is a register over the declarations of that name in statement order: a wire entry is replaced by
whatever follows, a non-wire entry stays -/
theorem sig_decls_lookup (stmts : List Stmt) (n : String) :
    lookup (sigDecls stmts) n = ((stmts.flatMap declsOf).filter (·.base == n)).foldl regStep none := by
  unfold sigDecls
  rw [lookup_foldl_declPut]; rfl

/-- the first non-wire declaration of a name wins over everything before (wires) and after it -/
theorem sig_decls_nonwire_wins (stmts : List Stmt) (n : String) (pre post : List Decl) (d : Decl)
    (hsplit : (stmts.flatMap declsOf).filter (·.base == n) = pre ++ d :: post)
    (hpre : ∀ e ∈ pre, e.kind = .wire) (hd : d.kind ≠ .wire) :
    lookup (sigDecls stmts) n = some d := by
  rw [sig_decls_lookup, hsplit, List.foldl_append, List.foldl_cons]
  rw [foldl_regStep_wires pre none (fun e h => by cases h) hpre]
  have : regStep (pre.getLast?.or none) d = some d := by
    cases hl : pre.getLast? with
    | none => rfl
    | some e =>
      have : e.kind = .wire := hpre e (List.mem_of_getLast? hl)
      simp [regStep, this]
  rw [this, foldl_regStep_nonwire post d hd]

/-- if a name is only ever declared as wire, the LAST wire declaration counts (e.g. its range) -/
theorem sig_decls_wire_last (stmts : List Stmt) (n : String)
    (h : ∀ e ∈ (stmts.flatMap declsOf).filter (·.base == n), e.kind = .wire) :
    lookup (sigDecls stmts) n = ((stmts.flatMap declsOf).filter (·.base == n)).getLast? := by
  rw [sig_decls_lookup, foldl_regStep_wires _ none (fun e h => by cases h) h]; simp

example : lookup (sigDecls [.decls [⟨.wire, "z", none⟩], .decls [⟨.output, "z", some [1, 0]⟩], .decls [⟨.input, "z", none⟩]]) "z"
    = some ⟨.output, "z", some [1, 0]⟩ := by decide +kernel

/-- `io_nodes` = the module port list, every port expanded by its declared range in declared direction (`posNames`),
provided every port is declared input/output and no bit name occurs twice. -/
theorem ports_order (cfg : Cfg) (tl : TL) (ports : List String) (stmts : List Stmt)
    (hnd : (posNames (sigDecls stmts) ports).Nodup)
    (hdecl : ∀ p ∈ ports, ∃ d, lookup (sigDecls stmts) p = some d ∧ d.kind ≠ .wire) :
    ioNames (module cfg tl ports stmts) = (posNames (sigDecls stmts) ports).map some :=
  ioNames_module cfg tl ports stmts hnd hdecl

/-- the position list spelled out: ports in header order, each replaced by the names of its declaration -/
theorem ports_order_expansion (ds : List Decl) (p : String) (rest : List String) (d : Decl) (h : lookup ds p = some d) :
    posNames ds (p :: rest) = d.names ++ posNames ds rest := by
  simp [posNames, h]

/-- OUTPUT pin: for every instantiation statement in the list and every named connection `.p(s)` whose pin is an output of
the cell, the netlist has the line `(inst, pin_index p) → fork`, where the fork is named `s` — or, when `s` is the base
name of a declared one-element signal, that element (`outSig`) —, and the cell `(type, inst)` exists. -/
theorem pin_reaches_output (cfg : Cfg) (tl : TL) (ports : List String) (stmts : List Stmt) (ty inst p s : String) (idx : Nat)
    (pins : List (String × SelVal)) (hmem : Stmt.inst ty inst pins ∈ stmts) (hp : (p, SelVal.one s) ∈ pins)
    (htl : tl ty p = some (idx, true)) :
    (⟨.cell inst idx, .fork (outSig (sigDecls stmts) s).1, none⟩ : LineM) ∈ (module cfg tl ports stmts).lines ∧
    (module cfg tl ports stmts).isFork (outSig (sigDecls stmts) s).1 = true ∧
    (⟨ty, inst, false⟩ : NodeM) ∈ (module cfg tl ports stmts).nodes := by
  obtain ⟨h1, h2, h3⟩ := pass1_reaches tl (sigDecls stmts) stmts { err := !portsDeclared (sigDecls stmts) ports }
    ty inst p s idx pins hmem hp htl
  have hs : Sub (stmts.foldl (pass1Stmt tl (sigDecls stmts)) { err := !portsDeclared (sigDecls stmts) ports })
      (module cfg tl ports stmts) :=
    (Grows.foldl (portDecl_grows _) _ _).sub.trans (sub_after1_module cfg tl ports stmts)
  exact ⟨hs.lines _ h1, hs.isFork h2, hs.nodes _ h3⟩

/-- the pin dictionary of an instantiation with pairwise different pin names: the connected pins in written order, each with
the value of its `sigsel`; `.P()` contributes nothing -/
theorem named_pins_map (pins : List (String × Option Sel)) (hnd : (pins.map (·.1)).Nodup) :
    instantiation pins = pins.filterMap fun p => p.2.map fun s => (p.1, sigsel s) := by
  unfold instantiation
  suffices h : ∀ m : List (String × SelVal), (∀ p ∈ pins, m.any (·.1 == p.1) = false) →
      pins.foldl pinStep m = m ++ pins.filterMap fun p => p.2.map fun s => (p.1, sigsel s) by
    have := h [] (fun _ _ => rfl); simpa using this
  induction pins with
  | nil => intro m _; simp
  | cons x xs ih =>
    intro m hm
    have hnd' := List.nodup_cons.mp (by simpa using hnd : (x.1 :: xs.map (·.1)).Nodup)
    simp only [List.foldl_cons, List.filterMap_cons]
    cases hx : x.2 with
    | none =>
      have : pinStep m x = m := by unfold pinStep; simp [hx]
      simp only [Option.map_none, this]
      exact ih hnd'.2 m (fun p hp => hm p (List.mem_cons_of_mem _ hp))
    | some sel =>
      have hput : pinStep m x = m ++ [(x.1, sigsel sel)] := by
        unfold pinStep pinPut; simp [hx, hm x List.mem_cons_self]
      simp only [Option.map_some, hput]
      rw [ih hnd'.2]
      · simp
      · intro p hp
        have h1 := hm p (List.mem_cons_of_mem _ hp)
        have h2 : x.1 ≠ p.1 := fun e => hnd'.1 (e ▸ List.mem_map.mpr ⟨p, hp, rfl⟩)
        simp [List.any_append, h1, h2]

/-- which fork an output pin drives: the signal itself when it is undeclared or a scalar, its one bit when it is a one-element bus -/
theorem outSig_undeclared (ds : List Decl) (s : String) (h : lookup ds s = none) : outSig ds s = (s, false) := by
  simp [outSig, h]
theorem outSig_scalar (ds : List Decl) (s : String) (k : DKind) (h : lookup ds s = some ⟨k, s, none⟩) : outSig ds s = (s, false) := by
  simp [outSig, h, Decl.names]
theorem outSig_onebit (ds : List Decl) (s : String) (k : DKind) (i : Nat) (h : lookup ds s = some ⟨k, s, some [i]⟩) :
    outSig ds s = (bitName s i, false) := by
  simp [outSig, h, Decl.names]

/-- INPUT pin: for every named connection `.p(s)` whose pin is an input of the cell there is a fork `f` with the line
`f → (inst, pin_index p)` — through the branch fork `f~inst/p` when `branchforks` is set —, and `f` is
* for a signal: `s` itself, or `s[0]`, or (`onebitDecl = true`) the single name of the declaration of `s`;
* for a constant bit `1'b0`/`1'b1`: a fork `__const<b>_<k>__` of its own, driven by a cell of kind `__const<b>__`. -/
theorem pin_reaches_input (cfg : Cfg) (tl : TL) (ports : List String) (stmts : List Stmt) (ty inst p s : String) (idx : Nat)
    (pins : List (String × SelVal)) (hmem : Stmt.inst ty inst pins ∈ stmts) (hp : (p, SelVal.one s) ∈ pins)
    (htl : tl ty p = some (idx, false)) :
    ∃ f, (⟨.fork f, .cell inst idx, if cfg.bf then some (branchName f inst p) else none⟩ : LineM) ∈ (module cfg tl ports stmts).lines ∧
      (module cfg tl ports stmts).isFork f = true ∧
      (cfg.bf = true → (⟨forkKind, branchName f inst p, true⟩ : NodeM) ∈ (module cfg tl ports stmts).nodes) ∧
      ((isConstBit s = false ∧ (f = s ∨ f = s ++ "[0]" ∨
          (cfg.onebitDecl = true ∧ ∃ d, lookup (sigDecls stmts) s = some d ∧ d.names = [f]))) ∨
       (isConstBit s = true ∧ ∃ k, f = constName s k ∧
          (⟨.cell f 0, .fork f, none⟩ : LineM) ∈ (module cfg tl ports stmts).lines ∧
          (⟨constKind s, f, false⟩ : NodeM) ∈ (module cfg tl ports stmts).nodes)) :=
  (pass2_reaches cfg tl (sigDecls stmts) stmts (afterPass15 cfg tl ports stmts) ty inst p s idx pins hmem hp htl).mono
    (sub_after2_module cfg tl ports stmts)

/-- a signal that is a fork when pass 2 starts (a cell output, an input, an assign target) is read under its own name -/
theorem reader_of_driven (cfg : Cfg) (ds : List Decl) (C : Circ) (s : String) (h : C.isFork s = true) :
    resolveRead cfg ds C s = (s, false) := resolveRead_of_isFork cfg ds C s h

/-- **[variant `assignFix = false` / `onebitDecl = false`, not `verilog.py` as it is: known findings D23 / D24]** this variant resolves a 1-bit bus named by its base only through the literal index 0 -/
theorem reader_onebit_fallback (ds : List Decl) (C : Circ) (s : String) (h0 : C.isFork s = false) :
    resolveRead {} ds C s = if C.isFork (s ++ "[0]") then (s ++ "[0]", false) else (s, true) := by
  simp [resolveRead, h0]

/-- `pin_reaches`: both directions in one statement — for every named connection `(inst, p, s)` of an instantiation in the
statement list the netlist connects the fork of `s` to `(inst, pin_index p)`: as DRIVER line `(inst, idx) → fork` when `p` is
an output of the cell, as READER line `fork → (inst, idx)` (optionally through the branch fork) when it is an input -/
theorem pin_reaches (cfg : Cfg) (tl : TL) (ports : List String) (stmts : List Stmt) (ty inst p s : String) (idx : Nat) (isOut : Bool)
    (pins : List (String × SelVal)) (hmem : Stmt.inst ty inst pins ∈ stmts) (hp : (p, SelVal.one s) ∈ pins)
    (htl : tl ty p = some (idx, isOut)) :
    (isOut = true → (⟨.cell inst idx, .fork (outSig (sigDecls stmts) s).1, none⟩ : LineM) ∈ (module cfg tl ports stmts).lines) ∧
    (isOut = false → ∃ f, (⟨.fork f, .cell inst idx, if cfg.bf then some (branchName f inst p) else none⟩ : LineM) ∈ (module cfg tl ports stmts).lines ∧
      (module cfg tl ports stmts).isFork f = true ∧
      ((isConstBit s = false ∧ (f = s ∨ f = s ++ "[0]" ∨
          (cfg.onebitDecl = true ∧ ∃ d, lookup (sigDecls stmts) s = some d ∧ d.names = [f]))) ∨
       (isConstBit s = true ∧ ∃ k, f = constName s k ∧
          (⟨.cell f 0, .fork f, none⟩ : LineM) ∈ (module cfg tl ports stmts).lines))) := by
  constructor
  · intro ho; subst ho
    exact (pin_reaches_output cfg tl ports stmts ty inst p s idx pins hmem hp htl).1
  · intro ho; subst ho
    obtain ⟨f, h1, h2, _, h4⟩ := pin_reaches_input cfg tl ports stmts ty inst p s idx pins hmem hp htl
    refine ⟨f, h1, h2, ?_⟩
    rcases h4 with h4 | ⟨hc, k, hk, hl, _⟩
    · exact Or.inl h4
    · exact Or.inr ⟨hc, k, hk, hl⟩

/-- **[variant `assignFix = false` / `onebitDecl = false`, not `verilog.py` as it is: known findings D23 / D24]** One (target, source) bit pair of the assigns (`assignPairs`: both sides expanded through `sig_decls`, zipped), in the
single-visit variant (`assignFix = false`).  `C` is the circuit at the moment the pair is visited.
* target already a fork → line `t → s` (the source becomes an alias of the target);
* else source a fork → line `s → t`;
* else source a constant bit → a `__const<b>_<k>__` cell drives the new fork `t`;
* else the pair leaves NO trace (`assignStep C (t, s) = C`): neither side is driven yet. -/
theorem assign_line (cfg : Cfg) (hcfg : cfg.assignFix = false) (tl : TL) (ports : List String) (stmts : List Stmt)
    (pre post : List (String × String)) (t s : String)
    (hsplit : assignPairs (sigDecls stmts) stmts = pre ++ (t, s) :: post) :
    ((pre.foldl assignStep (afterPass1 tl ports stmts)).isFork t = true →
        (⟨.fork t, .fork s, none⟩ : LineM) ∈ (module cfg tl ports stmts).lines) ∧
    ((pre.foldl assignStep (afterPass1 tl ports stmts)).isFork t = false →
      (pre.foldl assignStep (afterPass1 tl ports stmts)).isFork s = true →
        (⟨.fork s, .fork t, none⟩ : LineM) ∈ (module cfg tl ports stmts).lines) ∧
    ((pre.foldl assignStep (afterPass1 tl ports stmts)).isFork t = false →
      (pre.foldl assignStep (afterPass1 tl ports stmts)).isFork s = false → isConstBit s = true →
        (⟨.cell (constName s (pre.foldl assignStep (afterPass1 tl ports stmts)).cc) 0, .fork t, none⟩ : LineM) ∈ (module cfg tl ports stmts).lines ∧
        (⟨constKind s, constName s (pre.foldl assignStep (afterPass1 tl ports stmts)).cc, false⟩ : NodeM) ∈ (module cfg tl ports stmts).nodes) ∧
    ((pre.foldl assignStep (afterPass1 tl ports stmts)).isFork t = false →
      (pre.foldl assignStep (afterPass1 tl ports stmts)).isFork s = false → isConstBit s = false →
        afterPass15 cfg tl ports stmts = post.foldl assignStep (pre.foldl assignStep (afterPass1 tl ports stmts))) := by
  have h15 : afterPass15 cfg tl ports stmts =
      post.foldl assignStep (assignStep (pre.foldl assignStep (afterPass1 tl ports stmts)) (t, s)) := by
    unfold afterPass15 pass15
    simp only [hcfg, Bool.false_eq_true, if_false]
    rw [hsplit, List.foldl_append, List.foldl_cons]
  have hsub : Sub (assignStep (pre.foldl assignStep (afterPass1 tl ports stmts)) (t, s)) (module cfg tl ports stmts) := by
    have := sub_after15_module cfg tl ports stmts
    rw [h15] at this
    exact (Grows.foldl assignStep_grows post _).sub.trans this
  obtain ⟨s1, s2, s3, s4⟩ := assignStep_spec (pre.foldl assignStep (afterPass1 tl ports stmts)) t s
  refine ⟨fun h => hsub.lines _ (s1 h), fun h1 h2 => hsub.lines _ (s2 h1 h2), fun h1 h2 h3 => ?_, fun h1 h2 h3 => ?_⟩
  · exact ⟨hsub.lines _ (s3 h1 h2 h3).1, hsub.nodes _ (s3 h1 h2 h3).2⟩
  · rw [h15, s4 h1 h2 h3]

/-- **[variant `assignFix = false` / `onebitDecl = false`, not `verilog.py` as it is: known findings D23 / D24]** corollary in netlist terms: a source that is driven by a cell or is an input (a fork after pass 1) and a target that
nothing has driven so far give the line source → target -/
theorem assign_line_driven_source (cfg : Cfg) (hcfg : cfg.assignFix = false) (tl : TL) (ports : List String) (stmts : List Stmt)
    (pre post : List (String × String)) (t s : String)
    (hsplit : assignPairs (sigDecls stmts) stmts = pre ++ (t, s) :: post)
    (hs : (afterPass1 tl ports stmts).isFork s = true)
    (ht : (pre.foldl assignStep (afterPass1 tl ports stmts)).isFork t = false) :
    (⟨.fork s, .fork t, none⟩ : LineM) ∈ (module cfg tl ports stmts).lines :=
  (assign_line cfg hcfg tl ports stmts pre post t s hsplit).2.1 ht
    ((Grows.foldl assignStep_grows pre _).sub.isFork hs)

/-- the pairs of one assign statement: declared signals are replaced by their names in declared order, the two sides are
zipped position by position -/
theorem assign_pairs_expand (ds : List Decl) (t s : List String) :
    pairsOf ds (.assign t s) = (expandSigs ds t).zip (expandSigs ds s) := rfl

/-- pass 1.5 with retry (`assignFix = true`, `verilog.py` as it is): after the pass every pair either has one of its three lines, or still
neither of its sides is a fork and its source is no constant — no assign is dropped because of statement order -/
theorem assign_fix_complete (cfg : Cfg) (hcfg : cfg.assignFix = true) (tl : TL) (ports : List String) (stmts : List Stmt)
    (ts : String × String) (hts : ts ∈ assignPairs (sigDecls stmts) stmts) :
    Linked ts (module cfg tl ports stmts) ∨ handled (afterPass15 cfg tl ports stmts) ts = false := by
  have h15 : afterPass15 cfg tl ports stmts = (assignFix ((assignPairs (sigDecls stmts) stmts).length + 1)
      (afterPass1 tl ports stmts) (assignPairs (sigDecls stmts) stmts)).1 := by
    unfold afterPass15 pass15; simp [hcfg]
  obtain ⟨a, b⟩ := assignFix_spec ((assignPairs (sigDecls stmts) stmts).length + 1) (afterPass1 tl ports stmts)
    (assignPairs (sigDecls stmts) stmts) (Nat.lt_succ_self _)
  rcases b ts hts with h | h
  · right; rw [h15]; exact a ts h
  · left
    have := sub_after15_module cfg tl ports stmts
    rw [h15] at this
    exact h.mono this

/-- every gate statement `name = kind(d0, d1, …)`: a cell `(kind, name)`, the line cell → same-named fork, and for every
argument position `k` the line `fork d_k → (cell, k)`: drivers in argument order -/
theorem bench_shape (stmts : List BStmt) (name kind : String) (drv : List String) (hmem : BStmt.gate name kind drv ∈ stmts) :
    (⟨kind, name, false⟩ : NodeM) ∈ (bench stmts).nodes ∧
    (⟨.cell name 0, .fork name, none⟩ : LineM) ∈ (bench stmts).lines ∧ (bench stmts).isFork name = true ∧
    ∀ k (hk : k < drv.length), (⟨.fork drv[k], .cell name k, none⟩ : LineM) ∈ (bench stmts).lines ∧ (bench stmts).isFork drv[k] = true := by
  have hl : ∀ l ∈ benchLinesOf (.gate name kind drv), l ∈ (bench stmts).lines := fun l h => by
    rw [bench_lines']; exact List.mem_flatMap.mpr ⟨_, hmem, h⟩
  obtain ⟨hf, hd⟩ := bench_fork_gate stmts ⟨name, kind, drv⟩ (List.mem_filterMap.mpr ⟨_, hmem, rfl⟩)
  refine ⟨?_, hl _ (by simp [benchLinesOf]), hf, fun k hk => ⟨hl _ ?_, hd _ (List.getElem_mem hk)⟩⟩
  · obtain ⟨C, _, h⟩ := foldl_reach benchStmt sub_benchStmt hmem {}
    have s1 : Sub ((drv.foldl getOrAddFork C).addCell kind name) (benchStmt C (.gate name kind drv)) :=
      (sub_getOrAddFork _ _).trans ((grows_addLine _ _ _ _).sub.trans (grows_addLines _ _).sub)
    exact h.nodes _ (s1.nodes _ (by simp))
  · simp [benchLinesOf, mem_driverLines name drv k hk]

/-- the complete line list of a bench circuit: per gate statement, in text order, the line to its fork followed by its
driver lines in argument order — and nothing else -/
theorem bench_lines (stmts : List BStmt) : (bench stmts).lines = stmts.flatMap benchLinesOf := bench_lines' stmts

/-- `io_nodes` of a bench circuit: the names of the INPUT(...)/OUTPUT(...) statements in text order -/
theorem bench_io_order (stmts : List BStmt) : (bench stmts).ioB = stmts.flatMap benchPortsOf := by
  rw [bench_ioB, benchPorts, show benchPortsOf = portsOf from funext fun s => by cases s <;> rfl]

/-- `branchforks=True` only inserts forks: removing the tagged forks and joining the two lines through each of them
(`stripBranch`) gives exactly the nodes, lines and ports of the circuit built with `branchforks=False`; the inserted forks
are, in order, the `via`s of the reader lines (so each has exactly the one input and the one output line of its `via` line,
see `LineM.flat`), and the circuit without `branchforks` has no `via` at all.
Hypothesis `noTilde`: no name that pass 2 or the output pass looks up contains the separator `~`. -/
theorem branchforks_only_forks (cfg : Cfg) (tl : TL) (ports : List String) (stmts : List Stmt) (hq : noTilde stmts = true) :
    (stripBranch (module { cfg with bf := true } tl ports stmts)).nodes = (module { cfg with bf := false } tl ports stmts).nodes ∧
    (stripBranch (module { cfg with bf := true } tl ports stmts)).lines = (module { cfg with bf := false } tl ports stmts).lines ∧
    ioNames (module { cfg with bf := true } tl ports stmts) = ioNames (module { cfg with bf := false } tl ports stmts) ∧
    ((module { cfg with bf := true } tl ports stmts).nodes.filter (·.branch)).map (·.name) =
      (module { cfg with bf := true } tl ports stmts).lines.filterMap (·.via) ∧
    (∀ l ∈ (module { cfg with bf := false } tl ports stmts).lines, l.via = none) := by
  have h15 : afterPass15 { cfg with bf := true } tl ports stmts = afterPass15 { cfg with bf := false } tl ports stmts := rfl
  have h0 : BR (afterPass15 { cfg with bf := true } tl ports stmts) (afterPass15 { cfg with bf := false } tl ports stmts) := by
    rw [h15]; exact BR.refl_of_nb (nb_afterPass15 _ tl ports stmts)
  unfold noTilde at hq
  simp only [Bool.and_eq_true] at hq
  have h2 := br_pass2 h0 { cfg with bf := true } { cfg with bf := false } rfl rfl rfl tl (sigDecls stmts) stmts
    (List.all_eq_true.mp hq.1)
  have h3 : BR (module { cfg with bf := true } tl ports stmts) (module { cfg with bf := false } tl ports stmts) :=
    br_outPass h2 (sigDecls stmts) (List.all_eq_true.mp hq.2)
  refine ⟨?_, ?_, ?_, h3.vias, ?_⟩
  · simp [stripBranch, h3.nodes]
  · simp [stripBranch, h3.lines]
  · unfold ioNames; rw [h3.io]
  · intro l hl
    rw [h3.lines] at hl
    obtain ⟨l', _, rfl⟩ := List.mem_map.mp hl
    rfl

/-- what a `via` line stands for in the real line list: two lines through the fork, which is their only meeting point -/
theorem via_is_one_in_one_out (d r : Ep) (b : String) :
    (⟨d, r, some b⟩ : LineM).flat = [(d, .fork b), (.fork b, r)] ∧ (⟨d, r, none⟩ : LineM).flat = [(d, r)] := ⟨rfl, rfl⟩

/-- The lines of the netlist that END IN A CELL PIN are, in line order, exactly: one per named connection to an input pin
(`stmtReaders`: statement order, then the order of the pin dictionary), followed by the lines into the output-port cells.
Together with `pin_reaches_input`: when the pairs (instance, pin index) are pairwise different, every input pin that is
connected has exactly ONE incoming line, and no other pin of an instance has any. -/
theorem readers_exact (cfg : Cfg) (tl : TL) (ports : List String) (stmts : List Stmt) :
    ∃ outs, RC (module cfg tl ports stmts) = stmts.flatMap (stmtReaders tl) ++ outs ∧ ∀ x ∈ outs, OutRC (sigDecls stmts) x := by
  obtain ⟨o, h, p⟩ := rc_outPass (sigDecls stmts) (afterPass2 cfg tl ports stmts)
  exact ⟨o, by unfold module; rw [h, rc_afterPass2], p⟩

example : RC (module {} exTL ["z", "a", "e"] exStmts) = [("u1", 1), ("u1", 0), ("u2", 0), ("u3", 0), ("z[0]", 0), ("z[1]", 0)] := by
  decide +kernel

/-! ## non-vacuity: a small module with a bus, a constant, an assign, a 1-bit bus (`exStmts`, `exTL` in Proofs/NetlistBF.lean:
`module m(z, a, e); input [1:0] a; input [0:0] e; output [0:1] z; wire w; wire n; NAND2_X1 u1 (.ZN(w), .A2(a[0]), .A1(a[1]));
INV_X1 u2 (.I(e), .ZN(n)); INV_X1 u3 (.I(1'b1), .ZN(k)); assign z = {w, n}; endmodule`) -/
example : ioNames (module {} exTL ["z", "a", "e"] exStmts) =
    [some "z[0]", some "z[1]", some "a[1]", some "a[0]", some "e[0]"] := by decide +kernel
example : (module {} exTL ["z", "a", "e"] exStmts).err = false ∧ (module { bf := true } exTL ["z", "a", "e"] exStmts).err = false := by
  decide +kernel
example : noTilde exStmts = true := by decide +kernel
example : (posNames (sigDecls exStmts) ["z", "a", "e"]).Nodup ∧
    ∀ p ∈ ["z", "a", "e"], ∃ d, lookup (sigDecls exStmts) p = some d ∧ d.kind ≠ .wire := by decide +kernel
/-- the reader of the 1-bit bus `e` (named by its base) is connected to the fork `e[0]`; the constant gets its own cell -/
example : (⟨.fork "e[0]", .cell "u2" 0, none⟩ : LineM) ∈ (module {} exTL ["z", "a", "e"] exStmts).lines ∧
    (⟨.fork "a[1]", .cell "u1" 0, none⟩ : LineM) ∈ (module {} exTL ["z", "a", "e"] exStmts).lines ∧
    (⟨.fork "a[0]", .cell "u1" 1, none⟩ : LineM) ∈ (module {} exTL ["z", "a", "e"] exStmts).lines ∧
    (⟨.cell "__const1_0__" 0, .fork "__const1_0__", none⟩ : LineM) ∈ (module {} exTL ["z", "a", "e"] exStmts).lines ∧
    (⟨.fork "w", .fork "z[0]", none⟩ : LineM) ∈ (module {} exTL ["z", "a", "e"] exStmts).lines ∧
    (⟨.fork "n", .fork "z[1]", none⟩ : LineM) ∈ (module {} exTL ["z", "a", "e"] exStmts).lines ∧
    (⟨.fork "z[1]", .cell "z[1]" 0, none⟩ : LineM) ∈ (module {} exTL ["z", "a", "e"] exStmts).lines := by decide +kernel
example : (⟨.fork "a[1]", .cell "u1" 0, some "a[1]~u1/A1"⟩ : LineM) ∈ (module { bf := true } exTL ["z", "a", "e"] exStmts).lines ∧
    (⟨forkKind, "a[1]~u1/A1", true⟩ : NodeM) ∈ (module { bf := true } exTL ["z", "a", "e"] exStmts).nodes := by decide +kernel

/-- **[variant `assignFix = false` / `onebitDecl = false`, not `verilog.py` as it is: known findings D23 / D24]** Statement order matters in the single-visit variant: `assign z = b; assign b = a;` leaves `z` without driver (the first
assign is dropped: neither `z` nor `b` is driven when it is visited), `assign b = a; assign z = b;` connects it.  Pass 1.5
with retry (`assignFix = true`) gives the same lines for both orders. -/
theorem assign_order_matters :
    let decls := [Stmt.decls [⟨.input, "a", none⟩], Stmt.decls [⟨.output, "z", none⟩], Stmt.decls [⟨.wire, "b", none⟩]]
    let zb := Stmt.assign ["z"] ["b"]
    let ba := Stmt.assign ["b"] ["a"]
    (⟨.fork "b", .fork "z", none⟩ : LineM) ∈ (module {} exTL ["a", "z"] (decls ++ [ba, zb])).lines ∧
    (⟨.fork "b", .fork "z", none⟩ : LineM) ∉ (module {} exTL ["a", "z"] (decls ++ [zb, ba])).lines ∧
    (module {} exTL ["a", "z"] (decls ++ [zb, ba])).isFork "z" = false ∧
    (⟨.fork "b", .fork "z", none⟩ : LineM) ∈ (module { assignFix := true } exTL ["a", "z"] (decls ++ [zb, ba])).lines ∧
    (⟨.fork "z", .cell "z" 0, none⟩ : LineM) ∈ (module { assignFix := true } exTL ["a", "z"] (decls ++ [zb, ba])).lines := by
  decide +kernel

/-- **[variant `assignFix = false` / `onebitDecl = false`, not `verilog.py` as it is: known findings D23 / D24]** The 1-bit-bus fall-back of pass 2 tries index 0 only: with `input [3:3] a` a pin `.I(a)` reads a new undriven fork `a`
in this variant, and the fork `a[3]` with the look-up through the declaration (`onebitDecl = true`). -/
theorem onebit_bus_index :
    let st := [Stmt.decls [⟨.input, "a", some [3]⟩], Stmt.decls [⟨.output, "z", none⟩],
               Stmt.inst "INV_X1" "u" [("I", .one "a"), ("ZN", .one "z")]]
    (⟨.fork "a", .cell "u" 0, none⟩ : LineM) ∈ (module {} exTL ["a", "z"] st).lines ∧
    (⟨.fork "a[3]", .cell "u" 0, none⟩ : LineM) ∉ (module {} exTL ["a", "z"] st).lines ∧
    (⟨.fork "a[3]", .cell "u" 0, none⟩ : LineM) ∈ (module { onebitDecl := true } exTL ["a", "z"] st).lines := by
  decide +kernel

/-- bench: `INPUT(a) INPUT(b) OUTPUT(z) z = NAND(n, a) n = NOT(b)` (`exBench`) -/
example : (bench exBench).ioB = ["a", "b", "z"] ∧ (bench exBench).err = false ∧
    (bench exBench).lines = [⟨.cell "z" 0, .fork "z", none⟩, ⟨.fork "n", .cell "z" 0, none⟩, ⟨.fork "a", .cell "z" 1, none⟩,
                             ⟨.cell "n" 0, .fork "n", none⟩, ⟨.fork "b", .cell "n" 0, none⟩] := by decide +kernel

/-! ## text level (lexer + grammar): bench

`KV.BenchText.parseBench` (Model/BenchText.lean) reads a text the way lark reads it with the grammar of `bench.py` (contextual
keywords, `%ignore` expression, Unicode case folding of `NAME`); `printBench` is the canonical printer. -/
section BenchText
open KV.BenchText

/-- the parser on a character list; rewriting a text literal with it before an evaluation spares the kernel the UTF-8 round trip of
`String.toList` (the literal IS `String.ofList` of its characters) -/
theorem parseBench_ofList (l : List Char) : parseBench (String.ofList l) = parseChars l := by
  rw [parseBench, String.toList_ofList]

/-- `bench_text_roundtrip`: for ALL statement lists whose names are `NAME`s (`validStmt`: non-empty, only `[-_a-z0-9]` in any
case; an assignment target does not spell one of the four keywords), parsing the printed text gives the statement list back -/
theorem bench_text_roundtrip (stmts : List BStmt) (hv : stmts.all validStmt = true) :
    parseBench (printBench stmts) = some stmts :=
  parse_print stmts (by simpa using hv)

/-- layout independence: print the token stream of the statement list with ANY text `g0` in front and ANY gap behind each
token, as long as every gap is ignorable text (`gapB`: blanks, tabs, form feeds, `\n`, `\r\n`, `#` comments closed by their
`\n`) and no `NAME` is directly followed by a name character (`layoutOK`) — the parser returns the same statement list -/
theorem bench_text_layout_irrelevant (stmts : List BStmt) (hv : stmts.all validStmt = true) (g0 : List Char)
    (l : List (Tok × List Char)) (hl : l.map (·.1) = benchToks stmts) (hg0 : gapB .ws g0 = true) (hlay : layoutOK l = true) :
    parseBench (String.ofList (g0 ++ renderTG l)) = some stmts := by
  simp only [parseBench, String.toList_ofList]
  exact parse_layout stmts (by simpa using hv) g0 l hl hg0 hlay

/-- corollary: anything ignorable (blank lines, comment lines, or nothing at all) in front of the text and between the
statements does not change the result -/
theorem bench_text_between_statements (sg : List (BStmt × List Char)) (hv : (sg.map (·.1)).all validStmt = true)
    (g0 : List Char) (hg0 : gapB .ws g0 = true) (hg : sg.all (fun p => gapB .ws p.2) = true) :
    parseBench (String.ofList (g0 ++ renderTG (benchTGWith sg))) = some (sg.map (·.1)) :=
  bench_text_layout_irrelevant (sg.map (·.1)) hv g0 (benchTGWith sg) (benchTGWith_toks sg) hg0
    (layout_benchWith sg (by simpa using hg))

/-- the only other thing lark ignores: a tail that begins with `#` and is ignorable text as a whole (`tailOK`: comments, blanks, line
breaks) — behind any layout it does not change the result either -/
theorem bench_text_trailing_comment (stmts : List BStmt) (hv : stmts.all validStmt = true) (g0 tail : List Char)
    (l : List (Tok × List Char)) (hl : l.map (·.1) = benchToks stmts) (hg0 : gapB .ws g0 = true) (hlay : layoutOK l = true)
    (ht : tailOK tail = true) : parseBench (String.ofList (g0 ++ (renderTG l ++ tail))) = some stmts := by
  simp only [parseBench, String.toList_ofList]
  exact parse_layout_tail stmts (by simpa using hv) g0 tail l hl hg0 hlay ht

example : tailOK "# last line, no line break".toList = true ∧ tailOK "#a\r".toList = true ∧ tailOK "#a\nINPUT(x)".toList = false := by
  decide +kernel

/-- the hypotheses are satisfiable; the printed text -/
example : [BStmt.intf ["a", "b"], .intf ["z"], .gate "z" "NAND" ["n-1", "a"], .gate "n-1" "not" ["b"], .gate "K" "__const1__" []].all
    validStmt = true := by decide +kernel
example : printBench [.intf ["a", "b"], .intf ["z"], .gate "z" "NAND" ["n-1", "a"], .gate "n-1" "not" ["b"]] =
    "INPUT(a, b)\nINPUT(z)\nz = NAND(n-1, a)\nn-1 = not(b)\n" := by 
  exact congrArg String.ofList (by decide +kernel)
/-- concrete texts: comments, `\r\n`, no blanks at all, keywords in non-keyword positions -/
example : parseBench "# c17\r\nINPUT(a,b)  OUTPUT ( z )\n\tz=NAND(n-1 , a)#x\nn-1 = not(b)" =
    some [.intf ["a", "b"], .intf ["z"], .gate "z" "NAND" ["n-1", "a"], .gate "n-1" "not" ["b"]] := by
  rw [parseBench_ofList]
  decide +kernel
example : parseBench "input()x=INPUT(OUTPUT,input)" = some [.intf [], .gate "x" "INPUT" ["OUTPUT", "input"]] := by
  rw [parseBench_ofList]
  decide +kernel
/-- rejected: a keyword as assignment target, a lone `\r`, a missing comma, a name character outside the class -/
example : parseBench "INPUT = AND(a)" = none ∧ parseBench "INPUT(a)\rOUTPUT(z)" = none ∧ parseBench "z = AND(a b)" = none ∧
    parseBench "z = AND(a.b)" = none := by
  rw [parseBench_ofList, parseBench_ofList, parseBench_ofList, parseBench_ofList]
  decide +kernel
/-- a layout with gaps of all kinds -/
example : gapB .ws "  # comment\r\n\t\x0c\n".toList = true ∧ gapB .ws "# open comment".toList = false ∧ gapB .ws "\r".toList = false := by
  decide +kernel

/-- text → netlist: the circuit the post-parse model builds from its own reading of the printed text is the circuit of the
statement list — so `bench_shape`, `bench_lines`, `bench_io_order` above speak about circuits built from TEXT -/
theorem bench_text_to_netlist (stmts : List BStmt) (hv : stmts.all validStmt = true) :
    KV.BenchText.circOfText (printBench stmts) = some (bench stmts) := by
  simp only [KV.BenchText.circOfText, bench_text_roundtrip stmts hv, Option.map_some]

/-! ### token classes: the spellings of the interface keyword

`bench.py`: `input: ("INPUT" | "input") parameters -> interface`, `output: ("OUTPUT" | "output") parameters -> interface` — four
case-SENSITIVE literals (no `i` flag on them; only `NAME` is case-insensitive), one callback.  The class of the statement-leading
keyword token is exactly these four spellings (`isKw`). -/

/-- **every spelling of the keyword, every layout**: each interface statement of the list carries its OWN keyword spelling
(`ks : List (spelling × statement)`, every spelling one of the four literals: `kwsOK`); any layout of that token stream
(`layoutOK`), any ignorable text in front, an unclosed `#` comment behind — the parser returns the statement list -/
theorem bench_text_keyword_class (ks : List (List Char × BStmt)) (hk : kwsOK ks = true)
    (hv : (ks.map (·.2)).all validStmt = true) (g0 tail : List Char) (l : List (Tok × List Char))
    (hl : l.map (·.1) = benchToksK ks) (hg0 : gapB .ws g0 = true) (hlay : layoutOK l = true) (ht : tailOK tail = true) :
    parseBench (String.ofList (g0 ++ (renderTG l ++ tail))) = some (ks.map (·.2)) := by
  simp only [parseBench, String.toList_ofList]
  refine parse_layout_kw ks hk (fun p hp => ?_) g0 tail l hl hg0 hlay ht
  simp only [List.all_map, List.all_eq_true] at hv
  exact hv p hp

/-- … and the circuit built from such a text is the circuit of the statement list (so every `bench_*` theorem below speaks about
texts in all four keyword spellings) -/
theorem bench_text_keyword_class_netlist (ks : List (List Char × BStmt)) (hk : kwsOK ks = true)
    (hv : (ks.map (·.2)).all validStmt = true) (g0 tail : List Char) (l : List (Tok × List Char))
    (hl : l.map (·.1) = benchToksK ks) (hg0 : gapB .ws g0 = true) (hlay : layoutOK l = true) (ht : tailOK tail = true) :
    KV.BenchText.circOfText (String.ofList (g0 ++ (renderTG l ++ tail))) = some (bench (ks.map (·.2))) := by
  simp only [KV.BenchText.circOfText, bench_text_keyword_class ks hk hv g0 tail l hl hg0 hlay ht, Option.map_some]

/-- the class is what the grammar says: the four literals … -/
theorem bench_keyword_class_exact (n : List Char) :
    isKw n = true ↔ n = "INPUT".toList ∨ n = "input".toList ∨ n = "OUTPUT".toList ∨ n = "output".toList := isKw_iff n

/-- … and nothing else: a text whose first two tokens are a NAME that is NOT one of the four literals (`Input`, `OutPut`,
`INput`) and `(` is rejected, whatever follows and in whatever layout (lark: the name is an assignment target, `=` must follow) -/
theorem bench_other_case_rejected (n : List Char) (hn : isKw n = false) (g0 : List Char) (l : List (Tok × List Char))
    (ts : List Tok) (hl : l.map (·.1) = .name n :: .lpar :: ts) (hok : l.all (fun p => tokOK p.1) = true)
    (hg0 : gapB .ws g0 = true) (hlay : layoutOK l = true) : parseBench (String.ofList (g0 ++ renderTG l)) = none := by
  simp only [parseBench, String.toList_ofList]
  apply not_kw_not_interface n hn _ ts
  rw [← hl]
  exact lexes_render l g0 hg0 (by simpa using hok) hlay

/-- the canonical stream is the member of the class with every keyword spelled `INPUT` -/
theorem bench_keyword_class_canonical (stmts : List BStmt) : benchToksK (stmts.map fun st => (kwInput, st)) = benchToks stmts :=
  benchToksK_canon stmts

example : kwsOK [("input".toList, .intf ["a"]), ("OUTPUT".toList, .intf ["z"]), ("output".toList, .intf []), ([], .gate "z" "NOT" ["a"])] = true ∧
    kwsOK [("Input".toList, .intf ["a"])] = false := by decide +kernel
example : parseBench "input(a) OUTPUT(z)\noutput ( ) z = NOT(a) # end" =
    some [.intf ["a"], .intf ["z"], .intf [], .gate "z" "NOT" ["a"]] := by
  rw [parseBench_ofList]
  decide +kernel
example : parseBench "Input(a)" = none ∧ parseBench "INPUT(a) OutPut(z)" = none ∧ parseBench "iNPUT (a)" = none := by
  rw [parseBench_ofList, parseBench_ofList, parseBench_ofList]
  decide +kernel
example : isKw "Input".toList = false ∧ isKw "OUTput".toList = false ∧ tokOK (.name "Input".toList) = true := by decide +kernel
end BenchText

/-! ## text level (lexer + grammar): structural Verilog

`KV.VerilogText.parseVerilog` (Model/VerilogText.lean) reads a text the way lark reads it with the grammar of `verilog.py`:
contextual lexer (keywords only where a statement begins, `module` as bare prefix at the top level, numbers only inside
ranges), the two `%ignore` terminals (`//` needs its newline, `/* */`, `(* *)`, lone `\r` is an error), escaped identifiers,
sized constants as names, ANSI-less headers, declarations with ranges, named and positional pins, bit/part selects, nested
concatenations, several modules.  The result `VModule` is lark's tree after the `name` callback. -/
section VerilogText
open KV.VerilogText

/-- as `parseBench_ofList` -/
theorem parseVerilog_ofList (l : List Char) : parseVerilog (String.ofList l) = parseChars l := by
  rw [parseVerilog, String.toList_ofList]
theorem circOfText_ofList (cfg : Cfg) (tl : TL) (l : List Char) :
    KV.VerilogText.circOfText cfg tl (String.ofList l) = match parseChars l with | some [m] => circOfModule cfg tl m | _ => none := by
  rw [KV.VerilogText.circOfText, parseVerilog, String.toList_ofList]
  rfl

/-- `verilog_text_roundtrip`: for ALL module lists whose names can be written (`validModule`: every name non-empty and
without tab, blank, `\r`, `\n` — any such string is the name of an escaped identifier —, every declaration names at least
one signal, every concatenation has at least one item), parsing the printed text gives the module list back -/
theorem verilog_text_roundtrip (ms : List VModule) (hv : ms.all validModule = true) :
    parseVerilog (printVerilog ms) = some ms := by
  simp only [parseVerilog, printVerilog, String.toList_ofList]
  exact VerilogText.parse_layout ms hv [] (layout (modulesT ms)) (layout_map_fst _) rfl (layout_ok _ (modulesT_ok ms hv))

/-- layout independence: print the token stream of the module list with ANY text `g0` in front and ANY gap behind each
token, as long as the gaps are ignorable text (`gapV`: blanks, tabs, form feeds, `\n`, `\r\n`, closed `/* */` and `(* *)`,
`//` comments closed by `\n`), a word or number is not directly followed by an identifier character, `(` not by `*`, and the
gap behind an escaped identifier starts with its terminator (`layoutOK`) — the parser returns the same module list -/
theorem verilog_text_layout_irrelevant (ms : List VModule) (hv : ms.all validModule = true) (g0 : List Char)
    (l : List (CT × List Char)) (hl : l.map (·.1) = modulesT ms) (hg0 : gapV .ws g0 = true) (hlay : layoutOK l = true) :
    parseVerilog (String.ofList (g0 ++ renderL l)) = some ms := by
  simp only [parseVerilog, String.toList_ofList]
  exact parse_layout ms hv g0 l hl hg0 hlay

/-- text → netlist: for a module whose statements the post-parse model accepts (`toRs`: no name with an apostrophe other
than sized constants), the circuit built from the model's own reading of the printed text is `module` of the transformed
statement list — so `ports_order`, `pin_reaches`, `readers_exact`, `assign_line`, … above speak about circuits built from
TEXT; an instantiation with a positional pin sets `err` (the real `module()` raises), and so does a sized constant `sigsel` raises
on (`RStmt.ok` false: `assign z = 0'b1;`) -/
theorem verilog_text_to_netlist (cfg : Cfg) (tl : TL) (m : VModule) (rs : List RStmt) (hv : validModule m = true)
    (hr : toRs m.stmts = some rs) :
    KV.VerilogText.circOfText cfg tl (printVerilog [m]) =
      some ((module cfg tl m.ports (rs.map transform)).failIf (m.stmts.any VStmt.hasPos || !(rs.all RStmt.ok))) := by
  have := verilog_text_roundtrip [m] (by simp [hv])
  simp only [KV.VerilogText.circOfText, this, hr]

/-- **accepted texts**: the guard inside `circOfText` only SETS `err` — the dumps `toNet` / `toNNet` ignore it.
Under the two hypotheses the driver evaluates on every case (`rs.all RStmt.ok`: no sized constant `sigsel` raises on, i.e. width ≥ 1
and digits below the base; no positional pin — the statement lists the driver receives have none) the guard is off: the circuit of
the text IS `module …` of the transformed statement list, `err` included.  Every text-level theorem below whose conclusion speaks
about the built circuit or its meaning carries these two hypotheses; a text such as `INV_X1 u1(.I(1'b2), .ZN(n));` (real
`verilog.parse`: `ValueError`) is outside. -/
theorem verilog_text_accepted (cfg : Cfg) (tl : TL) (m : VModule) (rs : List RStmt) (hv : validModule m = true)
    (hr : toRs m.stmts = some rs) (hpos : m.stmts.any VStmt.hasPos = false) (hrok : rs.all RStmt.ok = true) :
    KV.VerilogText.circOfText cfg tl (printVerilog [m]) = some (module cfg tl m.ports (rs.map transform)) := by
  rw [verilog_text_to_netlist cfg tl m rs hv hr, hpos, hrok]
  simp [Circ.failIf]

/-- … and conversely the guard: a positional pin or a constant outside `RStmt.ok` sets `err` (the model says: the real parser
raises) -/
theorem verilog_text_rejected (cfg : Cfg) (tl : TL) (m : VModule) (rs : List RStmt) (hv : validModule m = true)
    (hr : toRs m.stmts = some rs) (h : m.stmts.any VStmt.hasPos = true ∨ rs.all RStmt.ok = false) :
    (KV.VerilogText.circOfText cfg tl (printVerilog [m])).map (·.err) = some true := by
  rw [verilog_text_to_netlist cfg tl m rs hv hr]
  rcases h with h | h <;> simp [Circ.failIf, h]

/-- the hypotheses are satisfiable: a module with a bus, escaped identifiers (one spelling a keyword), a sized constant, a
nested concatenation, an unconnected and a positional pin, `tri`, `inout` -/
def exVM : VModule := ⟨"top", ["a", "z.q", "e"],
  [.decl .input (some (3, some 0)) ["a", "b"], .decl .output none ["z.q"], .decl .inout (some (0, none)) ["e"], .decl .tri none ["t"],
   .inst "AND2_X1" "u$1" [.named "A1" (some (.sig "a" (some (1, none)))), .named "A2" (some (.sig "4'b0011" none)), .named "ZN" none],
   .inst "input" "assign" [.pos (.cat [.sig "a" none, .cat [.sig "b" (some (2, some 1))]])],
   .assign (.cat [.sig "z.q" none, .sig "e" none]) (.sig "a" (some (3, some 2)))]⟩

theorem exVM_valid : [exVM].all validModule = true := by decide +kernel
example : [exVM].all validModule = true := exVM_valid
example : printVerilog [exVM] =
    "module top(a, \\z.q , e);\ninput [3:0] a, b;\noutput \\z.q ;\ninout [0] e;\ntri t;\n" ++
    "AND2_X1 \\u$1 (.A1(a[1]), .A2(4'b0011), .ZN());\n\\input \\assign ({a, {b[2:1]}});\nassign {\\z.q , e} = a[3:2];\nendmodule\n" := by
  rw [printVerilog, ← String.ofList_append]
  exact congrArg String.ofList (by decide +kernel)
example : parseVerilog (printVerilog [exVM]) = some [exVM] := verilog_text_roundtrip [exVM] exVM_valid
example : (toRs exVM.stmts).isSome = true ∧ exVM.stmts.any VStmt.hasPos = true := by decide +kernel
/-- the guard: a zero-width / out-of-base sized constant builds nothing (the real `verilog.parse` raises) -/
example : (circOfText {} exTL "module m(z); output z; assign z = 0'b1; endmodule").map (·.err) = some true ∧
    (circOfText {} exTL "module m(z); output z; assign z = 1'b2; endmodule").map (·.err) = some true ∧
    (circOfText {} exTL "module m(z); output z; assign z = 1'b1; endmodule").map (·.err) = some false := by
  rw [circOfText_ofList, circOfText_ofList, circOfText_ofList]
  decide +kernel

/-- concrete texts: comments of the three kinds, `\r\n`, an attribute between `(` tokens, keywords as plain names, `module`
glued to the name, two modules -/
example : parseVerilog "// netlist\r\nmodule top (a, z);\n  input a; output z; /* wire w; */ wire input;\n  INV_X1 (* keep *) u1 (.A(a), .ZN(z));\nendmodule\n" =
    some [⟨"top", ["a", "z"], [.decl .input none ["a"], .decl .output none ["z"], .decl .wire none ["input"],
      .inst "INV_X1" "u1" [.named "A" (some (.sig "a" none)), .named "ZN" (some (.sig "z" none))]]⟩] := by
  rw [parseVerilog_ofList]
  decide +kernel
example : parseVerilog "modulem();endmodule module module(module);assign module={1'b0};endmodule" =
    some [⟨"m", [], []⟩, ⟨"module", ["module"], [.assign (.sig "module" none) (.cat [.sig "1'b0" none])]⟩] := by
  rw [parseVerilog_ofList]
  decide +kernel
/-- rejected: a `//` comment that is not closed by a newline, a lone `\r`, a number where a name must stand, an empty
concatenation, a keyword as cell type, a missing `;`, an unclosed escaped identifier -/
example : parseVerilog "module m(); endmodule // end" = none ∧ parseVerilog "module m();\rendmodule" = none ∧
    parseVerilog "module m(); assign a = 12; endmodule" = none ∧ parseVerilog "module m(); assign {} = a; endmodule" = none ∧
    parseVerilog "module m(); input u (.A(a)); endmodule" = none ∧ parseVerilog "module m() endmodule" = none ∧
    parseVerilog "module m(); wire \\a" = none := by
  rw [parseVerilog_ofList, parseVerilog_ofList, parseVerilog_ofList, parseVerilog_ofList, parseVerilog_ofList, parseVerilog_ofList, parseVerilog_ofList]
  decide +kernel
/-- sized constants and names with an apostrophe on the way to the post-parse model -/
example : (toSel (.sig "4'hA" none)).map sigsel = some (.many ["1'b1", "1'b0", "1'b1", "1'b0"]) ∧
    (toSel (.sig "012'd7" (some (1, none)))).map sigsel = some (.one "012'd7[1]") ∧
    (toSel (.cat [.sig "x" none, .sig "2'B10" none])).map sigsel = some (.many ["x", "1'b1", "1'b0"]) ∧
    (toSel (.sig "a'b" none)).isNone = true := by decide +kernel

/-! ### token classes: keywords, escaped identifiers, range numbers, sized constants

What the real lexer / `VerilogTransformer.name` / `.range` / `.sigsel` map to the same value (read off `verilog.py`):
keywords are case-SENSITIVE literals (one spelling each); the `name` callback strips backslash and terminator, so `\abc ` IS
`abc`; `range` takes `int()` of its digit strings; `sigsel` takes `int(width)`, `int(digits, base)` of a sized constant and
keeps `width` bits. -/

/-- **every spelling, every layout**: the text may spell every token of the canonical stream `modulesT ms` by ANY member of
its class (`spellsB`, token by token `sameTok`): a name that is no statement keyword plain or as escaped identifier — also a
sized constant: `\4'b0011 ` —, a range number by any non-empty digit string of the same value (`[03:0]`); literals and keywords
as they are.  Any layout of that token list (`layoutOK`) parses to `ms`. -/
theorem verilog_text_token_classes (ms : List VModule) (hv : ms.all validModule = true) (g0 : List Char)
    (l : List (CT × List Char)) (hl : spellsB (l.map (·.1)) (modulesT ms) = true) (hg0 : gapV .ws g0 = true)
    (hlay : layoutOK l = true) : parseVerilog (String.ofList (g0 ++ renderL l)) = some ms := by
  simp only [parseVerilog, String.toList_ofList]
  exact parse_layout_cls ms hv g0 l hl hg0 hlay

/-- the class relation spelled out: the token itself; a plain word that is no statement keyword as escaped identifier; a
number as another digit string of the same value -/
theorem verilog_token_class_def (a t : Tok) :
    sameTok a t = true ↔ a = t ∨ (∃ w, a = .esc w ∧ t = .word w ∧ kwOf w = none) ∨
      (∃ ds ds', a = .num ds ∧ t = .num ds' ∧ ds ≠ [] ∧ ds.all Char.isDigit = true ∧ numVal ds = numVal ds') := by
  cases a <;> cases t <;> simp [sameTok, Option.isNone_iff_eq_none]
  all_goals grind

/-- the canonical stream is a member of its own class (so `verilog_text_layout_irrelevant` is the special case) -/
theorem verilog_token_class_refl (ts : List CT) : spellsB ts ts = true := spellsB_refl ts

/-- **escaped names are the same names**: the `name` rule gives `\w ` and `w` the same string (the real callback: `s[1:-1] if
s[0] == '\\' else s`) -/
theorem escaped_name_same (w : List Char) : tokName (.esc w) = tokName (.word w) := rfl

/-- **keywords have one spelling**: a keyword word, `module` and the one-character literals are spelled by themselves only
(the grammar's literals carry no `i` flag; `Input`, `WIRE` are plain names, `MODULE` at the top level a lexical error) -/
theorem verilog_keyword_one_spelling (a : Tok) :
    (∀ w, (kwOf w).isSome = true → sameTok a (.word w) = true → a = .word w) ∧ (sameTok a .modkw = true → a = .modkw) ∧
    (∀ c, sameTok a (.sym c) = true → a = .sym c) :=
  ⟨fun _ hk h => sameTok_kw (by simpa [Option.isNone_iff_eq_none, Option.isSome_iff_ne_none] using hk) h,
   fun h => sameTok_modkw h, fun _ h => sameTok_sym h⟩

example : kwOf "input".toList = some (.decl .input) ∧ kwOf "Input".toList = none ∧ kwOf "WIRE".toList = none ∧
    kwOf "ENDMODULE".toList = none := by decide +kernel
example : parseVerilog "module m(a); Input a; endmodule" = none ∧ parseVerilog "MODULE m(a); input a; endmodule" = none ∧
    parseVerilog "module m(a); input a; ENDMODULE" = none ∧
    parseVerilog "module m(a); INPUT a(); endmodule" = some [⟨"m", ["a"], [.inst "INPUT" "a" []]⟩] := by
  rw [parseVerilog_ofList, parseVerilog_ofList, parseVerilog_ofList, parseVerilog_ofList]
  decide +kernel

/-- the hypotheses are satisfiable: `module \m (\a );input [03:00] a;INV \4'b01 (.A(\a ));endmodule` spells
`module m(a);input [3:0] a;INV 4'b01 (.A(a));endmodule` -/
def exSpelled : List CT := [(.top, .modkw), (.gen, .esc "m".toList), (.gen, .sym '('), (.gen, .esc "a".toList), (.gen, .sym ')'),
  (.gen, .sym ';'), (.gen, .word "input".toList), (.gen, .sym '['), (.num, .num "03".toList), (.gen, .sym ':'), (.num, .num "00".toList),
  (.gen, .sym ']'), (.gen, .word "a".toList), (.gen, .sym ';'), (.gen, .word "INV".toList), (.gen, .esc "4'b01".toList), (.gen, .sym '('),
  (.gen, .sym '.'), (.gen, .word "A".toList), (.gen, .sym '('), (.gen, .esc "a".toList), (.gen, .sym ')'), (.gen, .sym ')'), (.gen, .sym ';'),
  (.gen, .word "endmodule".toList)]
def exSpelledM : VModule := ⟨"m", ["a"], [.decl .input (some (3, some 0)) ["a"], .inst "INV" "4'b01" [.named "A" (some (.sig "a" none))]]⟩
example : spellsB exSpelled (modulesT [exSpelledM]) = true ∧ [exSpelledM].all validModule = true ∧
    layoutOK (layout exSpelled) = true := by decide +kernel
example : parseVerilog "module \\m (\\a );input [03:00] a;INV \\4'b01 (.A(\\a\t));endmodule" = some [exSpelledM] := by
  rw [parseVerilog_ofList]
  decide +kernel
/-- not in the class: a keyword written escaped is a NAME (a cell type), a different value is a different range -/
example : sameTok (.esc "input".toList) (.word "input".toList) = false ∧ sameTok (.num "04".toList) (.num "3".toList) = false ∧
    sameTok (.num []) (.num "0".toList) = false ∧ sameTok (.word "A".toList) (.word "a".toList) = false := by decide +kernel

/-- **sized constants, model level** (`const_expand` for every spelling): `W'Bdigits` and `W''B'digits'` expand to the same bit
list EXACTLY when the widths are equal and the values agree modulo `2^W` — whatever the base letters (`b d h`, either case: `baseOf`),
the letter case of hex digits, leading zeros, digits beyond the width -/
theorem const_spelling_class (w w' : Nat) (b b' : Char) (ds ds' : List Char) :
    sigsel (.const w b ds) = sigsel (.const w' b' ds') ↔
      w = w' ∧ parseNum (baseOf b) ds % 2 ^ w = parseNum (baseOf b') ds' % 2 ^ w := by
  constructor
  · intro h
    simp only [sigsel, constBits_eq] at h
    have hl := collapse_inj h
    have hw : w = w' := by
      have := congrArg List.length hl
      simpa using this
    subst hw
    refine ⟨rfl, mod_eq_of_testBit fun j hj => ?_⟩
    have := List.map_inj_left.mp hl (w - 1 - j) (List.mem_range.mpr (by omega))
    have h2 := bitStr_inj this
    have e : w - 1 - (w - 1 - j) = j := by omega
    rwa [e] at h2
  · rintro ⟨rfl, h⟩
    exact const_same w b b' ds ds' h

/-- the base letter is case-insensitive, leading zeros of the digits do not matter -/
theorem const_base_letter_case (w : Nat) (ds : List Char) :
    sigsel (.const w 'B' ds) = sigsel (.const w 'b' ds) ∧ sigsel (.const w 'D' ds) = sigsel (.const w 'd' ds) ∧
    sigsel (.const w 'H' ds) = sigsel (.const w 'h' ds) := ⟨rfl, rfl, rfl⟩

theorem const_leading_zeros (w : Nat) (b : Char) (ds : List Char) : sigsel (.const w b ('0' :: ds)) = sigsel (.const w b ds) :=
  const_same w b b _ _ (by rw [parseNum_zero_cons])

/-- **sized constants, from the tree**: two module trees that differ only in the spelling of sized constants in assigns and pin
connections (`sameModule`: names of constants related by `sameConst` — both of the sized-constant shape, same `int(width)`, same
value modulo `2^width`, both inside or both outside the guard of `sigsel`) build the SAME circuit (both outside the modelled
domain, or both with `err`, included) -/
theorem verilog_const_spelling_same_circuit (cfg : Cfg) (tl : TL) (m m' : VModule) (h : sameModule m m' = true) :
    circOfModule cfg tl m = circOfModule cfg tl m' := circOfModule_same cfg tl m m' h

/-- **all classes together, from TEXT**: two texts — any spellings (`spellsB`) and any layouts of two module trees that differ
only in the spelling of sized constants — build the same circuit -/
theorem verilog_text_classes_same_circuit (cfg : Cfg) (tl : TL) (m m' : VModule) (hv : validModule m = true)
    (hv' : validModule m' = true) (h : sameModule m m' = true) (g0 g0' : List Char) (l l' : List (CT × List Char))
    (hl : spellsB (l.map (·.1)) (modulesT [m]) = true) (hl' : spellsB (l'.map (·.1)) (modulesT [m']) = true)
    (hg0 : gapV .ws g0 = true) (hg0' : gapV .ws g0' = true) (hlay : layoutOK l = true) (hlay' : layoutOK l' = true) :
    KV.VerilogText.circOfText cfg tl (String.ofList (g0 ++ renderL l)) =
      KV.VerilogText.circOfText cfg tl (String.ofList (g0' ++ renderL l')) := by
  rw [circOfText_of_parse cfg tl _ m (verilog_text_token_classes [m] (by simp [hv]) g0 l hl hg0 hlay),
    circOfText_of_parse cfg tl _ m' (verilog_text_token_classes [m'] (by simp [hv']) g0' l' hl' hg0' hlay')]
  exact circOfModule_same cfg tl m m' h

example : sameConst "4'b0011" "4'B0011" = true ∧ sameConst "4'b0011" "4'd3" = true ∧ sameConst "4'b0011" "4'H03" = true ∧
    sameConst "4'b0011" "04'b11" = true ∧ sameConst "4'b0011" "4'hF3" = true ∧ sameConst "4'b0011" "4'D19" = true ∧
    sameConst "4'hA" "4'ha" = true ∧ sameConst "4'b0011" "4'b0111" = false ∧ sameConst "4'b0011" "5'b0011" = false ∧
    sameConst "1'b1" "1'b3" = false ∧ sameConst "4'b0011" "abc" = false := by decide +kernel
example : sameModule ⟨"m", ["z"], [.decl .output (some (3, some 0)) ["z"], .assign (.sig "z" none) (.cat [.sig "2'b00" none, .sig "2'h3" none])]⟩
    ⟨"m", ["z"], [.decl .output (some (3, some 0)) ["z"], .assign (.sig "z" none) (.cat [.sig "02'D0" none, .sig "2'B11" none])]⟩ = true := by
  decide +kernel
example : circOfText {} exTL "module m(z); output [3:0] z; assign z = 4'b0011; endmodule" =
    circOfText {} exTL "module \\m (z); output [03:0] \\z ; assign z = 04'H3; endmodule" := by
  rw [circOfText_of_parse {} exTL _ ⟨"m", ["z"], [.decl .output (some (3, some 0)) ["z"], .assign (.sig "z" none) (.sig "4'b0011" none)]⟩
      (by rw [parseVerilog_ofList]; decide +kernel),
    circOfText_of_parse {} exTL _ ⟨"m", ["z"], [.decl .output (some (3, some 0)) ["z"], .assign (.sig "z" none) (.sig "04'H3" none)]⟩
      (by rw [parseVerilog_ofList]; decide +kernel)]
  exact verilog_const_spelling_same_circuit _ _ _ _ (by decide +kernel)
example : (circOfText {} exTL "module m(z); output [3:0] z; assign z = 04'H3; endmodule").map (·.err) = some false := by
  rw [circOfText_ofList]
  decide +kernel
/-- what the grammar does NOT have: base `o`, `_` separators, blanks inside the constant, a sign letter — syntax errors -/
example : parseVerilog "module m(z); assign z = 4'o3; endmodule" = none ∧ parseVerilog "module m(z); assign z = 4'b0_011; endmodule" = none ∧
    parseVerilog "module m(z); assign z = 4 'b0011; endmodule" = none ∧ parseVerilog "module m(z); assign z = 4'sb0011; endmodule" = none := by
  rw [parseVerilog_ofList, parseVerilog_ofList, parseVerilog_ofList, parseVerilog_ofList]
  decide +kernel
end VerilogText

/-! ## `parsed_sem`, bench: the parsed circuit has the Boolean function the description denotes

`benchNet stmts` (Model/CircNet.lean) is the canonical dump (`KV.Net`: what `dump_net` prints for a real `Circuit`, what every
simulation theorem of C01/C02 speaks about) of the circuit `bench stmts`; `BenchModel stmts z prim a σ` (Model/BenchSem.lean) is
the statement-level denotation, written without reference to the circuit: the environment `σ : signal name → α` satisfies every
gate statement (`σ g = prim P (σ d₀) …`, `P` by longest prefix family and operand count, missing operands read `z`; a `dff` /
`latch` statement: `σ g` = the value assigned to that state element) and gives every other name its assigned value (ports) or `z`.
`NetLabelling net z neg prim a v`: the labelling `v` of the lines satisfies the specification evaluator's gate equation `lineEq`
on every line (`consistentB` as a proposition, `netlabelling_is_consistentB`).  Any value domain `α`, any op algebra. -/
section ParsedSem
open KV KV.Sig

/-- the dump of the parsed circuit is well formed — for EVERY statement list (and every model circuit) -/
theorem bench_net_wf (stmts : List BStmt) : (benchNet stmts).wfB = true := toNet_wf _ _

/-- `benchOKB` is what it says: gate names pairwise different, no kind `__fork__` -/
theorem bench_ok_iff (stmts : List BStmt) (h : benchOKB stmts = true) :
    ((benchGates stmts).map (·.name)).Nodup ∧ ∀ g ∈ benchGates stmts, g.kind ≠ forkKind := by
  obtain ⟨h1, h2⟩ := benchOK_of stmts h
  exact ⟨h1, fun g hg => by simpa using List.all_eq_true.mp h2 g hg⟩

/-- … and it is exactly the condition under which the parser model does not set `err`: the model sets `err` where the real
`bench.parse` raises, and on a gate of kind `__fork__` (a domain guard of the model; the real parser builds a second fork there) -/
theorem bench_ok_is_no_error (stmts : List BStmt) : (bench stmts).err = !benchOKB stmts := by
  unfold bench
  rw [err_foldl_bench stmts [] {} rfl (fun x => rfl), okAcc_eq]
  unfold benchOKB
  rw [Bool.and_comm]
  rfl

/-- the ports of the net are the names of the INPUT/OUTPUT statements in text order, each the fork of that name -/
theorem bench_net_ports (stmts : List BStmt) :
    (benchNet stmts).io = (benchPorts stmts).map (fun s => (bench stmts).nodeIdx (.fork s)) ∧
    benchPorts stmts = stmts.flatMap benchPortsOf ∧
    ∀ s ∈ benchPorts stmts, ∃ h : (bench stmts).nodeIdx (.fork s) < (bench stmts).nodes.length,
      ((bench stmts).nodes[(bench stmts).nodeIdx (.fork s)]).kind = forkKind ∧
      ((bench stmts).nodes[(bench stmts).nodeIdx (.fork s)]).name = s := by
  refine ⟨?_, ?_, ?_⟩
  · show (bench stmts).ioBench = _
    unfold Circ.ioBench; rw [bench_ioB]
  · rw [← bench_ioB, bench_io_order]
  · intro s hs
    exact ⟨bench_resolved_port s hs, resolved_fork_spec _ s (bench_resolved_port s hs)⟩

/-- `s_nodes` of the net: the port forks in text order, then the cells of the flip-flop statements in text order, then the cells
of the latch statements (`benchSNames`); `benchSPos` is the position in this list -/
theorem bench_snodes (stmts : List BStmt) (hok : benchOKB stmts = true) :
    (benchNet stmts).sNodes = (benchSNames stmts).map (bench stmts).nodeIdx ∧
    ∀ e ∈ benchSNames stmts, (benchNet stmts).sPos ((bench stmts).nodeIdx e) = some (benchSPos stmts e) := by
  have hok' := benchOK_of stmts hok
  refine ⟨benchNet_sNodes hok', fun e he => ?_⟩
  obtain ⟨h1, h2⟩ := sNames_resolved hok' e he
  rw [benchNet_sPos hok' e h1 h2]
  simp [he]

/-- **`bench_parsed_sem`**: for every description that builds (`benchOKB`), every value domain, op algebra and assignment:
(1) the net has one line per gate statement and operand (`benchSigs`: the signal each line carries — the line from cell `g` to
fork `g` carries `g`, the line from fork `d` into a gate pin carries `d`);
(2) every model `σ` of the description induces a labelling of the lines consistent with the netlist;
(3) every labelling consistent with the netlist is induced by a model;
(4) two models inducing the same labelling are equal — models and consistent labellings correspond one-to-one.
Relational: no acyclicity hypothesis; a cyclic description has as many models as the net has consistent labellings.
DOMAIN hypothesis `benchArityB` (known finding D33; not used by the proof): `BenchModel` and `lineEq` read operands
0..3 of a gate statement — inside the domain this is the operator of the family over ALL operands (`bench_nary_reading`), outside it
the statement stays true but speaks about a reading of the text no reader has (`wide_gate_not_simulated`). -/
theorem bench_parsed_sem {α : Type} (stmts : List BStmt) (hok : benchOKB stmts = true) (_har : benchArityB stmts = true) (z : α)
    (neg : α → α) (prim : String → α → α → α → α → α) (a : Nat → α) :
    (benchNet stmts).lines.size = (benchSigs stmts).length ∧
    (∀ σ, BenchModel stmts z prim a σ → NetLabelling (benchNet stmts) z neg prim a (benchLabel stmts σ)) ∧
    (∀ v, NetLabelling (benchNet stmts) z neg prim a v →
      ∃ σ, BenchModel stmts z prim a σ ∧ ∀ i, i < (benchNet stmts).lines.size → v i = benchLabel stmts σ i) ∧
    (∀ σ σ', BenchModel stmts z prim a σ → BenchModel stmts z prim a σ' →
      (∀ i, i < (benchNet stmts).lines.size → benchLabel stmts σ i = benchLabel stmts σ' i) → σ = σ') := by
  have hok' := benchOK_of stmts hok
  refine ⟨by rw [benchNet_lines_size, benchSigs_length], fun σ hm => bench_model_labelling hok' z neg prim a σ hm,
    fun v hv => ⟨_, bench_labelling_model hok' z neg prim a v hv⟩, fun σ σ' h1 h2 h => bench_model_unique z prim a σ σ' h1 h2 h⟩

/-- the label of line `i` under an environment is the value of the signal `benchSigs[i]` -/
theorem bench_label_def {α : Type} (stmts : List BStmt) (σ : String → α) (i : Nat) :
    benchLabel stmts σ i = σ ((benchSigs stmts).getD i "") := rfl

/-- `NetLabelling` is the proposition the oracle's Boolean checker `consistentB` decides (on `benchNet` of a description that builds) -/
theorem netlabelling_is_consistentB {α : Type} [BEq α] [LawfulBEq α] (stmts : List BStmt) (hok : benchOKB stmts = true) (z : α)
    (neg : α → α) (prim : String → α → α → α → α → α) (a : Nat → α) (v : Array α) :
    consistentB (benchNet stmts) z neg prim a v = true ↔ NetLabelling (benchNet stmts) z neg prim a (fun i => v.getD i z) := by
  apply netLabelling_iff_consistentB
  intro l hl
  have hok' := benchOK_of stmts hok
  rw [benchNet_lines_size] at hl
  unfold benchNet
  rw [toNet_nodes_size, toNet_line _ _ l (by rw [bench_flat]; exact hl)]
  have := bench_resolved_driver hok' _ (List.getElem_mem hl)
  simp only [bench_flat]
  exact this

/-- **what is observed**: under the labelling of an environment `σ`, the value captured at `s_nodes` position `j` (the line on
input pin 0 of the `j`-th interface node: what `c_to_s` copies, `evalCapturesG`) is — for an output port `o` (a port some gate
statement defines) `σ o`; for a state element `q = DFF(d, …)` its data operand `σ d`; nothing for assigned ports -/
theorem bench_captured {α : Type} (stmts : List BStmt) (hok : benchOKB stmts = true) (σ : String → α) :
    ((benchNet stmts).sNodes.map fun n => ((benchNet stmts).node n).inPin 0 |>.map (benchLabel stmts σ)) =
      benchCaptures stmts σ :=
  bench_captures (benchOK_of stmts hok) σ

/-- the driver's acceptance check is sound: an accepted table IS a model (this is how the correspondence run evaluates `σ`) -/
theorem bench_checker_sound {α : Type} [BEq α] [LawfulBEq α] (stmts : List BStmt) (z : α) (prim : String → α → α → α → α → α)
    (a : Nat → α) (tab : List (String × α)) (h : benchModelB stmts z prim a tab = true) :
    BenchModel stmts z prim a (envOf stmts z a tab) := benchModelB_sound z prim a tab h

/-- **inside the arity domain the four-operand reading is the n-ary reading**: for a description whose combinational gate
statements have at most four operands, `σ` is a model in the n-ary reading `BenchModelN` (and/nand: ALL operands, or/nor: ANY
operand, xor/xnor: parity of ALL operands, at least two operand slots, a missing one reads `z`; fixed-arity kinds by their formula)
iff it is a model in the reading `BenchModel … prim2` of `bench_parsed_sem` (operands 0..3, primitive by operand count) -/
theorem bench_nary_reading (stmts : List BStmt) (har : benchArityB stmts = true) (z : Bool) (a : Nat → Bool) (σ : String → Bool) :
    BenchModelN stmts z a σ ↔ BenchModel stmts z prim2 a σ := benchModelN_iff stmts har z a σ

/-- per gate statement: at most four operands ⇒ operands 0..3 under the primitive chosen by the operand count = the family's
operator over all operands -/
theorem gate_nary_reading (z : Bool) (kind : String) (drv : List String) (σ : String → Bool) (h : drv.length ≤ 4) :
    gateVal z prim2 kind drv σ = gateFunN z kind.toLower (drv.map σ) := gateVal_eq_nary z kind drv σ h

example : gateFunN false "and" [true, true, true, true, false] = false ∧ gateFunN false "nand" [true, true, true, true, false] = true ∧
    gateFunN false "xor" [true, true, true, true, true, false, false] = true ∧ gateFunN false "nor" [false, false, false, false, true] = false ∧
    gateFunN false "and" [true] = false ∧ gateFunN false "or" [true] = true ∧ gateFunN false "mux21" [false, true, true] = true := by
  decide +kernel

/-- **`bench_end_to_end`** (2-valued; `bench_sim_generic`, which rests on `sim_is_the_model`: `logic_all_circuits` +
`solves_iff_consistent`): for every
description that builds and stays inside the arity domain (`benchArityB`: at most four operands per combinational gate statement —
outside it the real simulator computes something else, `wide_gate_not_simulated`, known finding D33), every
topological order of its net (`orderOKB`) that schedules every line (`linesDrivenB`; forks are forks: `forksOKB` — three decidable
conditions on net and order, evaluated by the driver on every real circuit and order) and every stimulus `env`: there is exactly ONE
model `σ` of the description IN THE N-ARY READING (`BenchModelN`: every gate statement computes its family's operator over ALL its
operands) under the assignment the stimulus gives to the interface positions, the 2-valued `LogicSim` result (`exec semL2n` of the
rows the `SimOps` model generates) is `σ` of the line's signal on every line, and what is captured at every interface position is
what the description observes: `σ o` at an output port `o`, `σ d` at a flip-flop `q = DFF(d)`.  Existence and uniqueness of the
model are CONCLUSIONS (an order exists only for acyclic nets). -/
theorem bench_end_to_end (stmts : List BStmt) (hok : benchOKB stmts = true) (har : benchArityB stmts = true) (order : List Nat)
    (ho : orderOKB (benchNet stmts) order = true) (hfk : forksOKB (benchNet stmts) order = true)
    (hall : linesDrivenB Gen.kindPrefixes (benchNet stmts) order = true) (env : Nat → Bool) :
    ∃ σ, BenchModelN stmts (env (benchNet stmts).idx.zero) (fun p => env ((benchNet stmts).idx.ppi + p)) σ ∧
      (∀ σ', BenchModelN stmts (env (benchNet stmts).idx.zero) (fun p => env ((benchNet stmts).idx.ppi + p)) σ' → σ' = σ) ∧
      (∀ i, i < (benchNet stmts).lines.size →
        exec semL2n ((genOps Gen.kindPrefixes (benchNet stmts) order false).map OpRow.toOp) env i = benchLabel stmts σ i) ∧
      ((benchNet stmts).sNodes.map fun n => ((benchNet stmts).node n).inPin 0 |>.map
        (exec semL2n ((genOps Gen.kindPrefixes (benchNet stmts) order false).map OpRow.toOp) env)) = benchCaptures stmts σ := by
  obtain ⟨σ, h1, h2, h3, h4⟩ := bench_sim_generic (benchOK_of stmts hok) semL2n specL2 (fun _ h xs => semL2n_eq_spec h xs) (!·) prim2
    semSpec2 order ho hfk hall env
  exact ⟨σ, (bench_nary_reading stmts har _ _ σ).mpr h1, fun σ' h => h2 σ' ((bench_nary_reading stmts har _ _ σ').mp h), h3, h4⟩

/-- the same in the four-operand reading, WITHOUT the arity hypothesis: what the simulator computes for EVERY description that
builds -/
theorem bench_end_to_end_as_simulated (stmts : List BStmt) (hok : benchOKB stmts = true) (order : List Nat)
    (ho : orderOKB (benchNet stmts) order = true) (hfk : forksOKB (benchNet stmts) order = true)
    (hall : linesDrivenB Gen.kindPrefixes (benchNet stmts) order = true) (env : Nat → Bool) :
    ∃ σ, BenchModel stmts (env (benchNet stmts).idx.zero) prim2 (fun p => env ((benchNet stmts).idx.ppi + p)) σ ∧
      (∀ σ', BenchModel stmts (env (benchNet stmts).idx.zero) prim2 (fun p => env ((benchNet stmts).idx.ppi + p)) σ' → σ' = σ) ∧
      (∀ i, i < (benchNet stmts).lines.size →
        exec semL2n ((genOps Gen.kindPrefixes (benchNet stmts) order false).map OpRow.toOp) env i = benchLabel stmts σ i) ∧
      ((benchNet stmts).sNodes.map fun n => ((benchNet stmts).node n).inPin 0 |>.map
        (exec semL2n ((genOps Gen.kindPrefixes (benchNet stmts) order false).map OpRow.toOp) env)) = benchCaptures stmts σ :=
  bench_sim_generic (benchOK_of stmts hok) semL2n specL2 (fun _ h xs => semL2n_eq_spec h xs) (!·) prim2 semSpec2 order ho hfk hall env

/-- the scheduler's domain hypotheses follow from the DESCRIPTION: for a closed description (`benchClosedB`: every operand is a
port or a gate output, no kind lower-cases to `__fork__`) `forksOKB` holds for EVERY order; if moreover every combinational kind
is known to the simulator's generated prefix table in the arity its operand count selects (`benchKnownB`) and the order covers every
node, every line is scheduled (`linesDrivenB`) -/
theorem bench_sched_hyps (stmts : List BStmt) (hcl : benchClosedB stmts = true) (order : List Nat) :
    forksOKB (benchNet stmts) order = true ∧
    (benchKnownB stmts = true → (∀ n, n < (benchNet stmts).nodes.size → n ∈ order) →
      linesDrivenB Gen.kindPrefixes (benchNet stmts) order = true) :=
  ⟨bench_forksOK (benchClosed_of stmts hcl) order,
   fun hkn hcov => bench_linesDriven (benchClosed_of stmts hcl) hkn order (fun n hn => hcov n (by rw [benchNet_nodes_size]; exact hn))⟩

/-- **`bench_end_to_end_closed`**: `bench_end_to_end` with hypotheses on the description and the order only — a closed
description over known kinds with at most four operands per combinational gate statement (`benchArityB`), a topological order
(`orderOKB`) that covers every node of the net; the model is the one of the N-ARY reading -/
theorem bench_end_to_end_closed (stmts : List BStmt) (hcl : benchClosedB stmts = true) (hkn : benchKnownB stmts = true)
    (har : benchArityB stmts = true)
    (order : List Nat) (ho : orderOKB (benchNet stmts) order = true) (hcov : ∀ n, n < (benchNet stmts).nodes.size → n ∈ order)
    (env : Nat → Bool) :
    ∃ σ, BenchModelN stmts (env (benchNet stmts).idx.zero) (fun p => env ((benchNet stmts).idx.ppi + p)) σ ∧
      (∀ σ', BenchModelN stmts (env (benchNet stmts).idx.zero) (fun p => env ((benchNet stmts).idx.ppi + p)) σ' → σ' = σ) ∧
      (∀ i, i < (benchNet stmts).lines.size →
        exec semL2n ((genOps Gen.kindPrefixes (benchNet stmts) order false).map OpRow.toOp) env i = benchLabel stmts σ i) ∧
      ((benchNet stmts).sNodes.map fun n => ((benchNet stmts).node n).inPin 0 |>.map
        (exec semL2n ((genOps Gen.kindPrefixes (benchNet stmts) order false).map OpRow.toOp) env)) = benchCaptures stmts σ := by
  have hok : benchOKB stmts = true := by
    unfold benchClosedB at hcl
    rw [Bool.and_eq_true] at hcl
    exact hcl.1
  obtain ⟨h1, h2⟩ := bench_sched_hyps stmts hcl order
  exact bench_end_to_end stmts hok har order ho h1 (h2 hkn hcov) env

/-- the same for the 8-valued simulation against the documented algebra (`prim8`; `semL8` = the real dispatch of `c_prop`), in the
four-operand reading `BenchModel` (no n-ary reading is defined over `V3`/`V2`); `benchArityB` is the DOMAIN hypothesis (not used by
the proof) inside which that reading is the one of the text -/
theorem bench_end_to_end8 (stmts : List BStmt) (hok : benchOKB stmts = true) (_har : benchArityB stmts = true) (order : List Nat)
    (ho : orderOKB (benchNet stmts) order = true) (hfk : forksOKB (benchNet stmts) order = true)
    (hall : linesDrivenB Gen.kindPrefixes (benchNet stmts) order = true) (env : Nat → V3) :
    ∃ σ, BenchModel stmts (env (benchNet stmts).idx.zero) prim8 (fun p => env ((benchNet stmts).idx.ppi + p)) σ ∧
      (∀ σ', BenchModel stmts (env (benchNet stmts).idx.zero) prim8 (fun p => env ((benchNet stmts).idx.ppi + p)) σ' → σ' = σ) ∧
      (∀ i, i < (benchNet stmts).lines.size →
        exec semL8 ((genOps Gen.kindPrefixes (benchNet stmts) order false).map OpRow.toOp) env i = benchLabel stmts σ i) ∧
      ((benchNet stmts).sNodes.map fun n => ((benchNet stmts).node n).inPin 0 |>.map
        (exec semL8 ((genOps Gen.kindPrefixes (benchNet stmts) order false).map OpRow.toOp) env)) = benchCaptures stmts σ :=
  bench_sim_generic (benchOK_of stmts hok) semL8 specL8 (fun _ h xs => semL8_eq_spec h xs) specNot prim8 semSpec8 order ho hfk hall env

/-- … and the 4-valued one -/
theorem bench_end_to_end4 (stmts : List BStmt) (hok : benchOKB stmts = true) (_har : benchArityB stmts = true) (order : List Nat)
    (ho : orderOKB (benchNet stmts) order = true) (hfk : forksOKB (benchNet stmts) order = true)
    (hall : linesDrivenB Gen.kindPrefixes (benchNet stmts) order = true) (env : Nat → V2) :
    ∃ σ, BenchModel stmts (env (benchNet stmts).idx.zero) prim4 (fun p => env ((benchNet stmts).idx.ppi + p)) σ ∧
      (∀ σ', BenchModel stmts (env (benchNet stmts).idx.zero) prim4 (fun p => env ((benchNet stmts).idx.ppi + p)) σ' → σ' = σ) ∧
      (∀ i, i < (benchNet stmts).lines.size →
        exec semL4 ((genOps Gen.kindPrefixes (benchNet stmts) order false).map OpRow.toOp) env i = benchLabel stmts σ i) ∧
      ((benchNet stmts).sNodes.map fun n => ((benchNet stmts).node n).inPin 0 |>.map
        (exec semL4 ((genOps Gen.kindPrefixes (benchNet stmts) order false).map OpRow.toOp) env)) = benchCaptures stmts σ :=
  bench_sim_generic (benchOK_of stmts hok) semL4 specL4 (fun _ h xs => semL4_eq_spec h xs) spec4Not prim4 semSpec4 order ho hfk hall env

/-- **from TEXT**: for every statement list with writable names and EVERY layout of its token stream (any ignorable text between
the tokens, `bench_text_layout_irrelevant`), the net of the circuit built from the model's reading of the text is `benchNet stmts`
— so `bench_parsed_sem`, `bench_captured`, `bench_end_to_end` speak about the circuit parsed from that text -/
theorem bench_text_to_net (stmts : List BStmt) (hv : stmts.all KV.BenchText.validStmt = true) (g0 : List Char)
    (l : List (KV.BenchText.Tok × List Char)) (hl : l.map (·.1) = KV.BenchText.benchToks stmts)
    (hg0 : KV.BenchText.gapB .ws g0 = true) (hlay : KV.BenchText.layoutOK l = true) :
    (KV.BenchText.circOfText (String.ofList (g0 ++ KV.BenchText.renderTG l))).map (fun C => C.toNet C.ioBench) =
      some (benchNet stmts) := by
  simp only [KV.BenchText.circOfText, bench_text_layout_irrelevant stmts hv g0 l hl hg0 hlay, Option.map_some]
  rfl

/-! ### non-vacuity: `INPUT(a) INPUT(b) OUTPUT(z)  q = DFF(n)  n = NAND(a, q)  z = XOR(n, b)` -/
def exDff : List BStmt :=
  [.intf ["a"], .intf ["b"], .intf ["z"], .gate "q" "DFF" ["n"], .gate "n" "NAND" ["a", "q"], .gate "z" "XOR" ["n", "b"]]
/-- assignment: `a = 1`, `b = 0`, state of `q` = 1 (positions 0, 1, 3; position 2 is the output port) -/
def exDffA : Nat → Bool := fun p => p == 0 || p == 3

example : KV.BenchText.parseBench "INPUT(a) INPUT(b) OUTPUT(z)\nq = DFF(n)\nn = NAND(a, q)\nz = XOR(n, b)" = some exDff := by
  rw [parseBench_ofList]
  decide +kernel
example : exDff.all KV.BenchText.validStmt = true ∧ benchOKB exDff = true ∧ benchClosedB exDff = true ∧ benchKnownB exDff = true ∧
    benchArityB exDff = true := by
  decide +kernel
example : benchSNames exDff = [.fork "a", .fork "b", .fork "z", .cell "q" 0] ∧ benchSigs exDff = ["q", "n", "n", "a", "q", "z", "n", "b"] := by
  decide +kernel
/-- the model: `q = 1` (state), `n = NAND(1, 1) = 0`, `z = XOR(0, 0) = 0`; the checker accepts it; observed: `z = 0`, next state of `q` = `n = 0` -/
example : benchEval exDff false prim2 exDffA = [("q", true), ("n", false), ("z", false)] ∧
    benchModelB exDff false prim2 exDffA (benchEval exDff false prim2 exDffA) = true ∧
    benchCaptures exDff (envOf exDff false exDffA (benchEval exDff false prim2 exDffA)) = [none, none, some false, some false] := by
  decide +kernel
/-- the net (8 nodes: forks a b z n, cell q, fork q, cells n z; 8 lines) and an order satisfying the hypotheses of `bench_end_to_end` -/
example : (benchNet exDff).io = [0, 1, 2] ∧ (benchNet exDff).sNodes = [0, 1, 2, 4] ∧ (benchNet exDff).lines.size = 8 ∧
    orderOKB (benchNet exDff) [0, 1, 4, 5, 6, 3, 7, 2] = true ∧ forksOKB (benchNet exDff) [0, 1, 4, 5, 6, 3, 7, 2] = true ∧
    linesDrivenB Gen.kindPrefixes (benchNet exDff) [0, 1, 4, 5, 6, 3, 7, 2] = true ∧ (benchNet exDff).nodes.size = 8 ∧
    (List.range 8).all (fun n => [0, 1, 4, 5, 6, 3, 7, 2].contains n) = true := by decide +kernel
/-- kind families and arities: the primitive a gate statement means -/
example : specPrimName "nand" false false = some "NAND2" ∧ specPrimName "nand" true false = some "NAND3" ∧
    specPrimName "and" true true = some "AND4" ∧ specPrimName "not" false false = some "INV1" ∧
    specPrimName "buff" false false = some "BUF1" ∧ specPrimName "__const1__" false false = some "INV1" ∧
    prim2 "NAND2" true true false false = false ∧ prim2 "INV1" false false false false = true := by decide +kernel
/-! ### outside the arity domain: `INPUT(a,b,c,d,e) OUTPUT(z) z = AND(a,b,c,d,e)` (known finding D33) -/
def exWide : List BStmt := [.intf ["a", "b", "c", "d", "e"], .intf ["z"], .gate "z" "AND" ["a", "b", "c", "d", "e"]]
/-- stimulus: `a = b = c = d = 1`, `e = 0` (interface positions 0..4 = signals `ppi + 0..4`; everything else 0) -/
def exWideEnv : Nat → Bool := fun x => decide ((benchNet exWide).idx.ppi ≤ x ∧ x < (benchNet exWide).idx.ppi + 4)
def exWideOrder : List Nat := [0, 1, 2, 3, 4, 6, 5]

/-- everything that is evaluated about `exWide`, its net and the stimulus, in one kernel evaluation -/
theorem exWide_eval : (benchClosedB exWide = true ∧ benchKnownB exWide = true ∧ benchArityB exWide = false ∧
    orderOKB (benchNet exWide) exWideOrder = true ∧ forksOKB (benchNet exWide) exWideOrder = true ∧
    linesDrivenB Gen.kindPrefixes (benchNet exWide) exWideOrder = true ∧ (benchSigs exWide).getD 0 "" = "z" ∧
    exec semL2n ((genOps Gen.kindPrefixes (benchNet exWide) exWideOrder false).map OpRow.toOp) exWideEnv 0 = true) ∧
    exWideEnv (benchNet exWide).idx.zero = false ∧
    freeVal exWide false (fun p => exWideEnv ((benchNet exWide).idx.ppi + p)) "e" = false := by decide +kernel

/-- **`wide_gate_not_simulated`** (kernel-checked witness of known finding D33): the description
`z = AND(a, b, c, d, e)` is closed, over known kinds, its net and the order satisfy every hypothesis of `bench_end_to_end` EXCEPT the
arity domain — and at `a = b = c = d = 1`, `e = 0` the 2-valued `LogicSim` result on the line into the output fork `z` (line 0 of the
net) is `true`, while every model of the description in the n-ary reading has `z = false`: the simulator computes `AND4(a, b, c, d)`
and ignores `e`.  (The real code does the same: harness/c11.py oracle class `wide-gate`.) -/
theorem wide_gate_not_simulated :
    benchClosedB exWide = true ∧ benchKnownB exWide = true ∧ benchArityB exWide = false ∧
    orderOKB (benchNet exWide) exWideOrder = true ∧ forksOKB (benchNet exWide) exWideOrder = true ∧
    linesDrivenB Gen.kindPrefixes (benchNet exWide) exWideOrder = true ∧ (benchSigs exWide).getD 0 "" = "z" ∧
    exec semL2n ((genOps Gen.kindPrefixes (benchNet exWide) exWideOrder false).map OpRow.toOp) exWideEnv 0 = true ∧
    (∀ σ, BenchModelN exWide (exWideEnv (benchNet exWide).idx.zero) (fun p => exWideEnv ((benchNet exWide).idx.ppi + p)) σ →
      σ "z" = false) := by
  obtain ⟨⟨h1, h2, h3, h4, h5, h6, h7, h8⟩, hz, hval_e⟩ := exWide_eval
  refine ⟨h1, h2, h3, h4, h5, h6, h7, h8, fun σ hm => ?_⟩
  have hk : isSeqKind "AND" = false := by decide +kernel
  have hf : specFamily "AND".toLower = some ("and", "AND4", "AND3", "AND2") := by decide +kernel
  rw [hz] at hm
  have he := hm.2 "e" (by decide +kernel)
  rw [hval_e] at he
  rw [hm.1 ⟨"z", "AND", ["a", "b", "c", "d", "e"]⟩ (by decide +kernel)]
  simp only [stmtValN, hk, Bool.false_eq_true, if_false, gateFunN, hf, List.map_cons, List.map_nil, he]
  simp [padTwo]
end ParsedSem

/-! ## `parsed_sem`, structural Verilog (fragment `verilogOKB`): the parsed circuit has the function the module denotes

`verilogNet cfg tl ports stmts` is the canonical dump of `module cfg tl ports stmts` — the UNRESOLVED circuit, as `verilog.parse`
returns it before `resolve_tlib_cells`: an instance node of cell type `K` means what the simulator's kind table makes of the name
`K` (prefix family, arity by connected pins; `dff`/`latch` kinds are state elements), pins numbered by the library `tl`.  For a
library whose cells are the simulation primitives this is the function of the netlist; substitution of library cells is property
C10 (`resolve_sem`).  `VModel tl ports stmts z neg prim a σ` (Model/VerilogSem.lean): `σ` gives every instance output what the
instance computes from the signals and constants on its input pins, every input port bit its assigned value, every assign target
the value of its source (`sigVal`: a signal's `σ`, or what a `__const<b>__` cell computes), every undriven name `z`.
Fragment `verilogOKB` (decidable, spelled out in Model/VerilogSem.lean): declarations (any ranges / grouping / order / redundant
wires); instantiations with named single-bit pins known to the library, each input pin a constant bit `1'b0`/`1'b1` (its own
`__const<b>_<k>__` cell and fork, numbered by `const_count`) or a DRIVEN signal under the driver's name; `assign` statements of any
shape (widths, concatenations, selects, sized constants — what counts are the bit pairs) whose pairs are in dependency order: the
target is not yet a fork, the source is a constant bit or already a fork (both variants of pass 1.5, `Cfg.assignFix`); all ports
declared and all port declarations listed; outputs driven under their own name; cell names pairwise different; one line per fork
/ cell pin (`nodupE` of the reader end points); per instance pairwise different input pin indices; BOTH `branchforks` settings.
NOT covered (oracle only): multi-bit pin connections, a 1-bit bus read by its base name, floating inputs, undriven outputs,
assign pairs out of dependency order or onto a driven target (findings D23/D24), positional pins. -/
section ParsedSemVerilog
open KV KV.Sig

/-- the dump of the parsed circuit is well formed — every statement list, library, configuration -/
theorem verilog_net_wf (cfg : Cfg) (tl : TL) (ports : List String) (stmts : List Stmt) : (verilogNet cfg tl ports stmts).wfB = true :=
  toNet_wf _ _

/-- the circuit of a module of the fragment in closed form: its lines are, in creation order, one line per instance output
connection (cell pin → fork of the driven signal), one per input port bit (cell → fork), one per assign pair (source fork →
target fork, or a new constant cell → target fork), per instance input connection the line of its constant cell (if any) and the
line fork → cell pin (with `branchforks` two lines through the fork `stem~inst/pin`), one per output port bit (fork → cell) —
`vFlat`, each with the signal or constant it carries -/
theorem verilog_lines (cfg : Cfg) (tl : TL) (ports : List String) (stmts : List Stmt) (hok : verilogOKB cfg tl ports stmts = true) :
    flatLines (module cfg tl ports stmts) = (vFlat cfg tl (sigDecls stmts) stmts).map (fun l => (l.d, l.r)) ∧
    (verilogNet cfg tl ports stmts).lines.size = (vSigs cfg tl stmts).length := by
  have hok' := vok_of cfg tl ports stmts hok
  refine ⟨module_flat hok', ?_⟩
  rw [verilogNet_lines_size hok']
  simp [vSigs]

/-- ports and `s_nodes` of the net: the port bits in port-list order, each expanded by its declared range in declared direction
(`posNames`, `ports_order`) — the `input`/`output` cells —, then the flip-flop instances in statement order, then the latch
instances; `vSPos` is the position in this list -/
theorem verilog_snodes (cfg : Cfg) (tl : TL) (ports : List String) (stmts : List Stmt) (hok : verilogOKB cfg tl ports stmts = true) :
    (verilogNet cfg tl ports stmts).io = (posNames (sigDecls stmts) ports).map (fun n => (module cfg tl ports stmts).nodeIdx (.cell n 0)) ∧
    (verilogNet cfg tl ports stmts).sNodes = (vSNames ports stmts).map (module cfg tl ports stmts).nodeIdx ∧
    ∀ e ∈ vSNames ports stmts, (verilogNet cfg tl ports stmts).sPos ((module cfg tl ports stmts).nodeIdx e) = some (vSPos ports stmts e) := by
  have hok' := vok_of cfg tl ports stmts hok
  refine ⟨?_, verilogNet_sNodes hok', fun e he => ?_⟩
  · show (module cfg tl ports stmts).ioVerilog = _
    unfold Circ.ioVerilog
    rw [module_ioNames hok', List.map_map]
    rfl
  · obtain ⟨h1, h2⟩ := vSNames_resolved hok' e he
    rw [verilogNet_sPos hok' e h1 h2]
    simp [he]

/-- **`verilog_parsed_sem`**: for every module of the fragment, every value domain, op algebra and assignment:
(1) every model `σ` of the module induces a labelling of the lines consistent with the netlist (line `i` carries `sigVal σ` of
`vSigs[i]`: an instance output line its driven signal, an assign line its source, a reader line — and both halves of a branch,
and the line of a constant cell — the signal or constant read);
(2) every labelling consistent with the netlist is induced by a model; (3) one model per labelling.
DOMAIN hypothesis `vArityB` (known finding D33; not used by the proof): every connected input pin of a combinational
instance has pin index 0..3 — `instVal` and `lineEq` read these four only, as the real simulator does; an instance of a primitive
kind with a fifth input pin is simulated as the 4-input primitive of pins 0..3. -/
theorem verilog_parsed_sem {α : Type} (cfg : Cfg) (tl : TL) (ports : List String) (stmts : List Stmt)
    (hok : verilogOKB cfg tl ports stmts = true) (_har : vArityB tl stmts = true) (z : α) (neg : α → α) (prim : String → α → α → α → α → α) (a : Nat → α) :
    (∀ σ, VModel tl ports stmts z neg prim a σ →
      NetLabelling (verilogNet cfg tl ports stmts) z neg prim a (vLabel cfg tl stmts z prim σ)) ∧
    (∀ v, NetLabelling (verilogNet cfg tl ports stmts) z neg prim a v →
      ∃ σ, VModel tl ports stmts z neg prim a σ ∧
        ∀ i, i < (verilogNet cfg tl ports stmts).lines.size → v i = vLabel cfg tl stmts z prim σ i) ∧
    (∀ σ σ', VModel tl ports stmts z neg prim a σ → VModel tl ports stmts z neg prim a σ' →
      (∀ i, i < (verilogNet cfg tl ports stmts).lines.size → vLabel cfg tl stmts z prim σ i = vLabel cfg tl stmts z prim σ' i) →
      σ = σ') := by
  have hok' := vok_of cfg tl ports stmts hok
  exact ⟨fun σ hm => v_model_labelling hok' z neg prim a σ hm, fun v hv => v_labelling_model hok' z neg prim a v hv,
    fun σ σ' h1 h2 h => v_model_unique hok' z neg prim a σ σ' h1 h2 h⟩

theorem verilog_label_def {α : Type} (cfg : Cfg) (tl : TL) (stmts : List Stmt) (z : α) (prim : String → α → α → α → α → α)
    (σ : String → α) (i : Nat) :
    vLabel cfg tl stmts z prim σ i = sigVal z prim σ ((vSigs cfg tl stmts).getD i "") := rfl

/-- **what is observed**: under the labelling of `σ`, the value captured at `s_nodes` position `j` is `σ o` at an output port bit
`o`, the value of the signal or constant on input pin index 0 at a state element, nothing at input ports -/
theorem verilog_captured {α : Type} (cfg : Cfg) (tl : TL) (ports : List String) (stmts : List Stmt)
    (hok : verilogOKB cfg tl ports stmts = true) (z : α) (prim : String → α → α → α → α → α) (σ : String → α) :
    ((verilogNet cfg tl ports stmts).sNodes.map fun n =>
        ((verilogNet cfg tl ports stmts).node n).inPin 0 |>.map (vLabel cfg tl stmts z prim σ)) =
      vCaptures tl ports stmts z prim σ :=
  v_captures (vok_of cfg tl ports stmts hok) z prim σ

/-- the driver's acceptance check is sound: an accepted table IS a model -/
theorem verilog_checker_sound {α : Type} [BEq α] [LawfulBEq α] (tl : TL) (ports : List String) (stmts : List Stmt) (z : α)
    (neg : α → α) (prim : String → α → α → α → α → α) (a : Nat → α) (tab : List (String × α))
    (h : vModelB tl ports stmts z neg prim a tab = true) : VModel tl ports stmts z neg prim a (vEnvOf z tab) :=
  vModelB_sound z neg prim a tab h

/-- **`verilog_end_to_end`** (2-valued; `verilog_sim_generic`, which rests on `sim_is_the_model`): for every module of the fragment, every topological order of
its net that schedules every line (`orderOKB`, `forksOKB`, `linesDrivenB`: decidable, evaluated by the driver on every real circuit
and order) and every stimulus: exactly ONE model `σ`, the 2-valued `LogicSim` result is the value of the line's signal on every
line, and what is captured at every interface position is what the module observes.  `vArityB`: domain hypothesis as in
`verilog_parsed_sem` -/
theorem verilog_end_to_end (cfg : Cfg) (tl : TL) (ports : List String) (stmts : List Stmt) (hok : verilogOKB cfg tl ports stmts = true)
    (_har : vArityB tl stmts = true) (order : List Nat) (ho : orderOKB (verilogNet cfg tl ports stmts) order = true)
    (hfk : forksOKB (verilogNet cfg tl ports stmts) order = true)
    (hall : linesDrivenB Gen.kindPrefixes (verilogNet cfg tl ports stmts) order = true) (env : Nat → Bool) :
    ∃ σ, VModel tl ports stmts (env (verilogNet cfg tl ports stmts).idx.zero) (!·) prim2
        (fun p => env ((verilogNet cfg tl ports stmts).idx.ppi + p)) σ ∧
      (∀ σ', VModel tl ports stmts (env (verilogNet cfg tl ports stmts).idx.zero) (!·) prim2
        (fun p => env ((verilogNet cfg tl ports stmts).idx.ppi + p)) σ' → σ' = σ) ∧
      (∀ i, i < (verilogNet cfg tl ports stmts).lines.size →
        exec semL2n ((genOps Gen.kindPrefixes (verilogNet cfg tl ports stmts) order false).map OpRow.toOp) env i =
          vLabel cfg tl stmts (env (verilogNet cfg tl ports stmts).idx.zero) prim2 σ i) ∧
      ((verilogNet cfg tl ports stmts).sNodes.map fun n => ((verilogNet cfg tl ports stmts).node n).inPin 0 |>.map
        (exec semL2n ((genOps Gen.kindPrefixes (verilogNet cfg tl ports stmts) order false).map OpRow.toOp) env)) =
          vCaptures tl ports stmts (env (verilogNet cfg tl ports stmts).idx.zero) prim2 σ :=
  verilog_sim_generic (vok_of cfg tl ports stmts hok) semL2n specL2 (fun _ h xs => semL2n_eq_spec h xs) (!·) prim2 semSpec2
    order ho hfk hall env

/-- the same for the 8-valued simulation against the documented algebra (a 4-valued statement is the same instance of
`verilog_sim_generic` with `semL4`; it is not stated) -/
theorem verilog_end_to_end8 (cfg : Cfg) (tl : TL) (ports : List String) (stmts : List Stmt) (hok : verilogOKB cfg tl ports stmts = true)
    (_har : vArityB tl stmts = true) (order : List Nat) (ho : orderOKB (verilogNet cfg tl ports stmts) order = true)
    (hfk : forksOKB (verilogNet cfg tl ports stmts) order = true)
    (hall : linesDrivenB Gen.kindPrefixes (verilogNet cfg tl ports stmts) order = true) (env : Nat → V3) :
    ∃ σ, VModel tl ports stmts (env (verilogNet cfg tl ports stmts).idx.zero) specNot prim8
        (fun p => env ((verilogNet cfg tl ports stmts).idx.ppi + p)) σ ∧
      (∀ σ', VModel tl ports stmts (env (verilogNet cfg tl ports stmts).idx.zero) specNot prim8
        (fun p => env ((verilogNet cfg tl ports stmts).idx.ppi + p)) σ' → σ' = σ) ∧
      (∀ i, i < (verilogNet cfg tl ports stmts).lines.size →
        exec semL8 ((genOps Gen.kindPrefixes (verilogNet cfg tl ports stmts) order false).map OpRow.toOp) env i =
          vLabel cfg tl stmts (env (verilogNet cfg tl ports stmts).idx.zero) prim8 σ i) ∧
      ((verilogNet cfg tl ports stmts).sNodes.map fun n => ((verilogNet cfg tl ports stmts).node n).inPin 0 |>.map
        (exec semL8 ((genOps Gen.kindPrefixes (verilogNet cfg tl ports stmts) order false).map OpRow.toOp) env)) =
          vCaptures tl ports stmts (env (verilogNet cfg tl ports stmts).idx.zero) prim8 σ :=
  verilog_sim_generic (vok_of cfg tl ports stmts hok) semL8 specL8 (fun _ h xs => semL8_eq_spec h xs) specNot prim8 semSpec8
    order ho hfk hall env

/-- **from TEXT**: the net of the circuit built from the model's reading of the printed module text is `verilogNet` of the
transformed statement list — so the theorems above speak about circuits parsed from text (any spelling, any layout:
`verilog_text_classes_to_net`).  `hpos` / `hrok`: the text is inside the raise guard, i.e. not one the real
parser rejects (`verilog_text_accepted`) -/
theorem verilog_text_to_net (cfg : Cfg) (tl : TL) (m : KV.VerilogText.VModule) (rs : List RStmt)
    (hv : KV.VerilogText.validModule m = true) (hr : KV.VerilogText.toRs m.stmts = some rs)
    (hpos : m.stmts.any KV.VerilogText.VStmt.hasPos = false) (hrok : rs.all RStmt.ok = true) :
    (KV.VerilogText.circOfText cfg tl (KV.VerilogText.printVerilog [m])).map (fun C => C.toNet C.ioVerilog) =
      some (verilogNet cfg tl m.ports (rs.map transform)) := by
  rw [verilog_text_accepted cfg tl m rs hv hr hpos hrok]
  rfl

/-- **from TEXT, every spelling and every layout** (token classes): for ANY text that spells the token stream
of the module token by token with members of the spelling classes (`spellsB`) in any layout (`layoutOK`), inside the raise guard
(`hpos`, `hrok`): the net of the circuit built from the model's reading of that text is `verilogNet` of the transformed statement
list, and its `err` flag is the one of `module` -/
theorem verilog_text_classes_to_net (cfg : Cfg) (tl : TL) (m : KV.VerilogText.VModule) (rs : List RStmt)
    (hv : KV.VerilogText.validModule m = true) (hr : KV.VerilogText.toRs m.stmts = some rs)
    (hpos : m.stmts.any KV.VerilogText.VStmt.hasPos = false) (hrok : rs.all RStmt.ok = true)
    (g0 : List Char) (l : List (KV.VerilogText.CT × List Char))
    (hl : KV.VerilogText.spellsB (l.map (·.1)) (KV.VerilogText.modulesT [m]) = true)
    (hg0 : KV.VerilogText.gapV .ws g0 = true) (hlay : KV.VerilogText.layoutOK l = true) :
    (KV.VerilogText.circOfText cfg tl (String.ofList (g0 ++ KV.VerilogText.renderL l))).map (fun C => (C.toNet C.ioVerilog, C.err)) =
      some (verilogNet cfg tl m.ports (rs.map transform), (module cfg tl m.ports (rs.map transform)).err) := by
  rw [KV.VerilogText.circOfText_of_parse cfg tl _ m (verilog_text_token_classes [m] (by simp [hv]) g0 l hl hg0 hlay)]
  simp only [KV.VerilogText.circOfModule, hr, hpos, hrok]
  simp [Circ.failIf]
  rfl

/-! ### non-vacuity: `module m(a, z, y); input a; output z, y; wire n; DFF_X1 f (.D(n), .Q(q), .QN(qn));
NAND2_X1 u1 (.A1(a), .A2(1'b1), .ZN(n)); INV_X1 u2 (.I(qn), .ZN(w)); assign z = w; assign y = 1'b0; endmodule` -/
def exTL2 : TL := fun k p =>
  if k == "DFF_X1" then (if p == "D" then some (0, false) else if p == "CK" then some (1, false) else if p == "Q" then some (0, true)
    else if p == "QN" then some (1, true) else none)
  else exTL k p
def exV : List Stmt := [.decls [⟨.input, "a", none⟩], .decls [⟨.output, "z", none⟩, ⟨.output, "y", none⟩], .decls [⟨.wire, "n", none⟩],
  .inst "DFF_X1" "f" [("D", .one "n"), ("Q", .one "q"), ("QN", .one "qn")],
  .inst "NAND2_X1" "u1" [("A1", .one "a"), ("A2", .one "1'b1"), ("ZN", .one "n")],
  .inst "INV_X1" "u2" [("I", .one "qn"), ("ZN", .one "w")],
  .assign ["z"] ["w"], .assign ["y"] ["1'b0"]]
/-- assignment: `a = 1` (position 0), state of `f` = 1 (position 3; positions 1, 2 are the output ports) -/
def exVA : Nat → Bool := fun p => p == 0 || p == 3

example : vArityB exTL2 exV = true := by decide +kernel
example : verilogOKB {} exTL2 ["a", "z", "y"] exV = true ∧ verilogOKB { bf := true } exTL2 ["a", "z", "y"] exV = true ∧
    verilogOKB { assignFix := true } exTL2 ["a", "z", "y"] exV = true ∧ (module {} exTL2 ["a", "z", "y"] exV).err = false := by
  decide +kernel
example : vSNames ["a", "z", "y"] exV = [.cell "a" 0, .cell "z" 0, .cell "y" 0, .cell "f" 0] ∧
    vSigs {} exTL2 exV = ["q", "qn", "n", "w", "a", "w", "1'b0", "n", "a", "1'b1", "1'b1", "qn", "z", "y"] := by decide +kernel
/-- the lines of the two constants: the assign constant gets `__const0_0__`, the pin constant `__const1_1__` with its own fork -/
example : (⟨.cell "__const0_0__" 0, .fork "y", none⟩ : LineM) ∈ (module {} exTL2 ["a", "z", "y"] exV).lines ∧
    (⟨.cell "__const1_1__" 0, .fork "__const1_1__", none⟩ : LineM) ∈ (module {} exTL2 ["a", "z", "y"] exV).lines ∧
    (⟨.fork "__const1_1__", .cell "u1" 1, none⟩ : LineM) ∈ (module {} exTL2 ["a", "z", "y"] exV).lines ∧
    (⟨.fork "w", .fork "z", none⟩ : LineM) ∈ (module {} exTL2 ["a", "z", "y"] exV).lines := by decide +kernel
/-- the model: `q = 1`, `qn = 0`, `n = NAND(1, 1) = 0`, `w = NOT(0) = 1`, `z = w = 1`, `y = 0`; observed: `z = 1`, `y = 0`, next state `n = 0` -/
example : vEval exTL2 ["a", "z", "y"] exV false (!·) prim2 exVA =
      [("a", true), ("q", true), ("qn", false), ("n", false), ("w", true), ("z", true), ("y", false)] ∧
    vModelB exTL2 ["a", "z", "y"] exV false (!·) prim2 exVA (vEval exTL2 ["a", "z", "y"] exV false (!·) prim2 exVA) = true ∧
    vCaptures exTL2 ["a", "z", "y"] exV false prim2 (vEnvOf false (vEval exTL2 ["a", "z", "y"] exV false (!·) prim2 exVA)) =
      [none, some true, some false, some false] := by
  decide +kernel
/-- the net (16 nodes) and an order satisfying the hypotheses of `verilog_end_to_end` -/
example : (verilogNet {} exTL2 ["a", "z", "y"] exV).io = [7, 9, 10] ∧ (verilogNet {} exTL2 ["a", "z", "y"] exV).sNodes = [7, 9, 10, 0] ∧
    orderOKB (verilogNet {} exTL2 ["a", "z", "y"] exV) [7, 8, 0, 1, 2, 14, 15, 3, 4, 5, 6, 11, 12, 13, 9, 10] = true ∧
    forksOKB (verilogNet {} exTL2 ["a", "z", "y"] exV) [7, 8, 0, 1, 2, 14, 15, 3, 4, 5, 6, 11, 12, 13, 9, 10] = true ∧
    linesDrivenB Gen.kindPrefixes (verilogNet {} exTL2 ["a", "z", "y"] exV) [7, 8, 0, 1, 2, 14, 15, 3, 4, 5, 6, 11, 12, 13, 9, 10] = true := by
  decide +kernel
end ParsedSemVerilog

end KV.C11
