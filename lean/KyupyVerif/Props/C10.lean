import KyupyVerif.Proofs.TransformConv
import KyupyVerif.Proofs.CopyTrim
import KyupyVerif.Proofs.ResolveGeneral
/-! # C10 — copy, pickle, fork elimination and cell substitution preserve function

**Claim.** `Circuit.copy`, the pickle round trip (`__getstate__` / `__setstate__`), `eliminate_1to1_forks`, `Circuit.substitute` (with
`Line.remove` and `remove_dangling_nodes(…, only=…)`) and `resolve_tlib_cells` of circuit.py keep the port list, the state elements
(their order only in part: see the summary below) and the function of the circuit.

**Models.** Hand-written (`KV.Transform`: Model/Transform.lean for copy, pickle and elimination, Model/Substitute.lean for
`substitute`, `removeDangling` and `resolveCells`), on the level of the canonical netlist dump `NNet` = `Net` (nodes with kind and
pin lists, lines, io list: the object every other property starts from) plus the node names.  A Python object reference is the
index it prints as; `IndexList.__delitem__` (the last object moves into the hole) shows as a renaming of indices, which the models
return as index maps (`Ren`: index in the result ↦ index before).
The theorems quantify over ALL dumps satisfying the decidable predicate `NNet.wf` (every line is referenced from the two pin
entries it records, every pin entry is such a line, no trailing `None` in a pin list, names unique per class, ports are
nodes) or `NNet.wfNoTrail` (the same without "no trailing `None`": `Line.remove()` leaves one in the pin list of a cell); the
fork-elimination theorems over ALL visiting orders of the forks and both behaviours at a fork without driver (`skip = true`: it is
passed over, as in circuit.py, `if len(n.ins) == 0 or n.ins[0] is None: continue`; `skip = false`: the model answers `none`, the
behaviour of the loop without that guard, which raises).
The meaning of a netlist is relational (Model/Net.lean, C01): a labelling of the lines is consistent when every line carries
what its driver computes (`consistentB`; `ConsOff nn S` = the same outside a set `S` of hole nodes; `consOff_consistent`).
No acyclicity, uniqueness of labellings or evaluation order is assumed anywhere.

**Layout** (each docstring says what its theorem claims).
* copy / pickle.  `copy_dump_eq`, `pickle_dump_eq`, `copy_pickle_same_function`: the rebuilt circuit of a `wf` dump has the SAME
  dump.  `copy_trims`, `trim_wf_id`, `copy_wfNoTrail_same_function`: of a dump that is only `wfNoTrail` (what `substitute` /
  `resolve_tlib_cells` return) it is the dump with the trailing `None`s trimmed, which is `wf` and has the same function.
* `eliminate_1to1_forks`.  `elim_ports`, `elim_state_perm`: ports keep names and order, flip-flops and latches kind and name UP TO
  ORDER; `elim_state_order_false`: the order is NOT kept (known finding D29: the last node moves into the slot of the deleted
  fork); `elim_stable_snames`, `elim_stable_classes`: names AND order are kept by the variant `elimForksStableIn`, the loop
  followed by a re-sort of the node list, which circuit.py does not have.  Function, under `NNet.forkIns1` (a fork has at most one
  input pin; a fork reading its own output on a second pin would be spliced onto a removed node): `elim_sem` along the index maps
  of `elimForksInM` (`elimForksInM_fst`: same circuit as `elimForksIn`), `elim_sem_captures` by `s_nodes` position,
  `elim_sem_converse` (the consistent labellings before and after correspond one-to-one), `elim_one_sem` (one loop iteration),
  `elim_sem_partial`; `elim_wf`, `elim_then_copy`: the result is `wf` with `forkIns1`.  No other theorem concludes `forkIns1`: to
  the result of `substitute` / `resolve_tlib_cells` (after a copy where it is only `wfNoTrail`) `elim_ports`, `elim_state_perm` and
  `elim_stable_*` apply, which need `wf` alone; the `elim_sem*` theorems need `forkIns1` of that circuit in addition.
* `substitute`, structure.  `substitute_ports`, `substitute_state_perm`: every use.  `substitute_regular`, `substitute_snames`:
  regular use (`regularB`: designated cell, no connected-but-ignored input, all outputs connected).  `substitute_wiring` (pin by
  pin), `substitute_sem_partial` (a host line not driven by the cell keeps its equation): regular use and `denseB` (no copied fork
  has a `None` gap after the connecting loops; the loop `densify` of the code squeezes such gaps and renumbers driver pins).
* `substitute`, function (vocabulary in Model/SubstSem.lean, Proofs/SubstVocab.lean).  `substitute_sem` (statement `SubstSemStmt`,
  see there), `substitute_wf`: when nothing is removed (`keepsAllB`; contains regular use, `regular_keepsAll`), the cell neither
  port nor fork, the implementation satisfying `implOKB`, the labellings of the result consistent outside `S` are exactly the
  labellings of the host consistent outside `S ∪ {cell}` glued with labellings of the implementation whose ports carry the
  values at the instance's pins (`ImplMatches`: the relational meaning of the cell; the line of an input port whose instance pin
  is unconnected is absent, `cutIns m (deadLine …)`: the code leaves the reader pin open in the copy instead of feeding it 0,
  known finding D23).  No `denseB` is needed (Proofs/Densify.lean; `exGapImpl` is a use with a gap).
  `remove_dangling_sem`: `remove_dangling_nodes` on any `wfNoTrail` circuit; the result embeds into the circuit before,
  consistent labellings restrict and extend.  `substitute_sem_removing`: `substitute` with an unconnected output whose driver
  dangles (`noIgnoredB`); the result need not be `wf` (`exImplFZ`).
  `substitute_sem_general` (statement `SubstGenStmt`): EVERY use under `implGenOKB` (= `implOKB` without "a designated cell
  exists") and `noSelfIgnB` (no connected ignored pin is driven by the cell itself), host only `wfNoTrail`: also connected input
  pins the implementation ignores (`ll.reader = None; ll.remove()` inside the connecting loop renumbers the lines) and
  implementations without designated cell (`node.remove()` renumbers the nodes: filler / antenna cells, feed-through); stated
  along index maps into canonical indices.
  `substitute_designated_port_not_wf` / `substitute_feedthrough_repaired` (D32): with the rule "the node at which the walk from
  the first output ends is the designated cell even when it is a port" (`substituteOld`, Model/SubstSem.lean) a feed-through
  implementation makes `substitute` return a circuit that is not well-formed; with the rule of circuit.py (a port is no
  designated cell: `implShape`) the same input gives the well-formed feed-through.
* `resolve_tlib_cells`.  `resolve_ports`.  `resolve_sem`: when every substitution along the loop removes nothing (`resolveOKB`,
  decidable by running the model) the consistent labellings of the result are exactly the labellings of the original circuit
  that are consistent outside the library cells and give every library cell the meaning `ImplMatches` of its implementation.
  `resolve_sem_general`: the same through substitutions that remove lines, instances and dangling logic (`resolveGenOKB`), along
  index maps to the original circuit.
* Names and order of state elements, summary: ports — names AND order for every transformation; flip-flops and latches — names
  and order for copy / pickle, up to order for `eliminate_1to1_forks` and `substitute` (order in the cases `substitute_snames`,
  `elim_stable_snames`); for `resolve_tlib_cells` every state element that is no library cell survives with its name, the
  order is NOT a theorem and not true of the code (D29: node removal permutes `s_nodes`; D22: `s_nodes` of the unresolved circuit
  does not list a library flip-flop or latch whose kind name contains neither `dff` nor `latch`).
* That `substitute` / `resolve_tlib_cells` return a circuit at all is Props/C10Library.lean; `resolve_sem` composed with the
  datasheet functions of C19 is Props/C10Datasheet.lean.

**Trusted / outside the theorems.**  That the models are the code: harness/c10.py compares model dumps with the dumps of the real
objects after copy / pickle / `eliminate_1to1_forks` / `substitute` / `resolve_tlib_cells` on random circuits, random
implementations and the cells of the five built-in libraries (where the real code raises the model answers `none`; not
conversely: for a fork whose out-line is its own in-line the model answers `none`, the code does not raise, and the `elim_*`
theorems say nothing), the index maps with the identity of the real `Node` / `Line` objects, and evaluates the hypotheses (`wf`,
`forkIns1`, `keepsAllB`, `implOKB`, `noIgnoredB`, `resolveOKB`, `denseB`, `implGenOKB`, `noSelfIgnB`, `resolveGenOKB`) on every real
case.  Uses outside the hypotheses of `substitute_sem_general` / `resolve_sem_general` (a port that is a flip-flop, a driven port
read inside that is no fork, duplicate ports; a cell that is a port or a fork; an ignored pin driven by the cell itself) are only
simulated before / after by the harness. -/
namespace KV.C10
open KV KV.Transform
variable {skip : Bool}

/-- `Circuit.copy()`: the dump of the copy equals the dump of the original -/
theorem copy_dump_eq (nn : NNet) (h : nn.wf = true) : copyNet nn = nn :=
  have w := WF.of_wf h
  rebuild_eq nn w _ (fun i hi => lookup_key_m nn w.nodup i hi)

/-- `pickle.loads(pickle.dumps(c))`: the dump of the unpickled circuit equals the dump of the original -/
theorem pickle_dump_eq (nn : NNet) (h : nn.wf = true) : pickleNet nn = nn :=
  rebuild_eq nn (WF.of_wf h) id (fun _ _ => rfl)

/-- consequences spelled out: same port/state names in the same order, same Boolean function on every line and at
    every capture point, for every assignment, and a well-formed dump again, for both transformations and the two
    compositions of one with the other -/
theorem copy_pickle_same_function (nn : NNet) (h : nn.wf = true) (t : NNet → NNet)
    (ht : t = copyNet ∨ t = pickleNet ∨ t = copyNet ∘ pickleNet ∨ t = pickleNet ∘ copyNet) :
    (t nn).sNames = nn.sNames ∧ (t nn).net.sNodes = nn.net.sNodes ∧
    (∀ a fuel l, evalLine (t nn).net a fuel l = evalLine nn.net a fuel l) ∧
    (∀ a, evalCaptures (t nn).net a = evalCaptures nn.net a) ∧ (t nn).wf = true := by
  have e : t nn = nn := by
    rcases ht with e | e | e | e <;> subst e <;> simp [Function.comp, pickle_dump_eq nn h, copy_dump_eq nn h]
  rw [e]; exact ⟨rfl, rfl, fun _ _ _ => rfl, fun _ => rfl, h⟩

/-- **copy / pickle of a dump that is well-formed only up to trailing `None`s** (`wfNoTrail`: what `substitute` /
    `resolve_tlib_cells` return, `substitute_sem_general` / `resolve_sem_general`): the rebuilt circuit is the dump with the
    trailing `None`s of every pin list trimmed (`trimNet`, Proofs/Transform.lean) -/
theorem copy_trims (nn : NNet) (h : nn.wfNoTrail = true) : copyNet nn = trimNet nn ∧ pickleNet nn = trimNet nn :=
  have w := WFm.of_wfNoTrail h
  ⟨rebuild_trim nn w _ (fun i hi => lookup_key_m nn w.nodup i hi), rebuild_trim nn w id (fun _ _ => rfl)⟩

/-- for a well-formed dump trimming changes nothing: `copy_trims` contains `copy_dump_eq` / `pickle_dump_eq` -/
theorem trim_wf_id (nn : NNet) (h : nn.wf = true) : trimNet nn = nn := by
  rw [← (copy_trims nn (wfNoTrail_of_WFm (WF.of_wf h).toWFm)).1]; exact copy_dump_eq nn h

/-- … hence the copy (or the unpickled circuit) of a `wfNoTrail` dump is WELL-FORMED (`wf`), has the same node names,
    kinds, lines, ports, `s_nodes` (names and order), every node reads and drives the same lines at every pin, and exactly
    the same labellings are consistent — the same function.  So a copy takes the result of `substitute_sem_general` /
    `resolve_sem_general` (`wfNoTrail`) to a circuit that satisfies the hypothesis `wf` of `elim_ports`, `elim_state_perm`,
    `elim_stable_*` and the `substitute_*` theorems; `elim_sem` and its companions need `forkIns1` of it in addition. -/
theorem copy_wfNoTrail_same_function (nn : NNet) (h : nn.wfNoTrail = true) (t : NNet → NNet)
    (ht : t = copyNet ∨ t = pickleNet) :
    (t nn).wf = true ∧ (t nn).names = nn.names ∧ (t nn).net.lines = nn.net.lines ∧ (t nn).net.io = nn.net.io ∧
    (t nn).net.nodes.size = nn.net.nodes.size ∧ (t nn).net.sNodes = nn.net.sNodes ∧ (t nn).sNames = nn.sNames ∧
    (∀ i, ((t nn).net.node i).kind = (nn.net.node i).kind ∧
      (∀ k, ((t nn).net.node i).inPin k = (nn.net.node i).inPin k) ∧ (∀ k, ((t nn).net.node i).outPin k = (nn.net.node i).outPin k)) ∧
    (∀ {α : Type} [BEq α] (z : α) (neg : α → α) (prim : String → α → α → α → α → α) (asg : Nat → α) (v : Array α),
      consistentB (t nn).net z neg prim asg v = consistentB nn.net z neg prim asg v) := by
  have e : t nn = trimNet nn := by
    rcases ht with e | e <;> subst e
    · exact (copy_trims nn h).1
    · exact (copy_trims nn h).2
  rw [e]
  refine ⟨wf_of_WF (trimNet_WF nn (WFm.of_wfNoTrail h)), rfl, rfl, rfl, by simp [trimNet], trimNet_sNodes nn, ?_,
    fun i => ⟨trimNet_kind nn i, trimNet_inPin nn i, trimNet_outPin nn i⟩,
    fun z neg prim asg v => trimNet_consistentB nn z neg prim asg v⟩
  simp only [NNet.sNames, trimNet_sNodes]; rfl

/-- `eliminate_1to1_forks()` (forks visited in any order): port names and their order are kept -/
theorem elim_ports (nn nn' : NNet) (order : List String) (h : nn.wf = true) (he : elimForksIn skip order nn = some nn') :
    nn'.ioNames = nn.ioNames ∧ nn'.net.io.length = nn.net.io.length := by
  have w := WF.of_wf h
  have r := (elimForksIn_obs order nn nn' ⟨w.names, w.io⟩ he).2.1
  exact ⟨r, by simpa [NNet.ioNames] using congrArg List.length r⟩

/-- … and the flip-flops, the latches and every other selection of nodes that are not forks are kept with kind and name,
    up to order -/
theorem elim_state_perm (nn nn' : NNet) (order : List String) (h : nn.wf = true) (he : elimForksIn skip order nn = some nn') :
    nn'.dffNames.Perm nn.dffNames ∧ nn'.latchNames.Perm nn.latchNames ∧
    ∀ p : String × String → Bool, (∀ name, p ("__fork__", name) = false) →
      (nn'.kindNames.filter p).Perm (nn.kindNames.filter p) := by
  have w := WF.of_wf h
  have r := (elimForksIn_obs order nn nn' ⟨w.names, w.io⟩ he).2.2
  have hd : hasSub "dff" "__fork__".toLower = false := by decide +kernel
  have hl : hasSub "latch" "__fork__".toLower = false := by decide +kernel
  exact ⟨(r _ (fun _ => hd)).map _, (r _ (fun _ => hl)).map _, r⟩

/-- the circuit of the counterexample: `a -> fork a -> DFF A -> (Q) o, (QN) -> DFF B -> o2`, `B` created last -/
def exOrder : NNet where
  net :=
    { nodes := #[⟨"input", [], [some 0]⟩, ⟨"__fork__", [some 0], [some 1]⟩, ⟨"DFF", [some 1], [some 2, some 3]⟩,
                 ⟨"output", [some 2], []⟩, ⟨"output", [some 4], []⟩, ⟨"DFF", [some 3], [some 4]⟩]
      lines := #[⟨0, 0, 1, 0⟩, ⟨1, 0, 2, 0⟩, ⟨2, 0, 3, 0⟩, ⟨2, 1, 5, 0⟩, ⟨5, 0, 4, 0⟩]
      io := [0, 3, 4] }
  names := #["a", "a", "A", "o", "o2", "B"]

/- FULL STATEMENT (false for the modelled and for the real code):
   `nn.wf → elimForksIn skip order nn = some nn' → nn'.sNames = nn.sNames`. -/
/-- fork elimination does NOT keep the order of the state elements (known finding D29): `s_nodes` of the example is
    `a o o2 A B` before and `a o o2 B A` after (the deleted fork's slot is filled with the last node, `B`) -/
theorem elim_state_order_false :
    exOrder.wf = true ∧ exOrder.sNames = ["a", "o", "o2", "A", "B"] ∧
    (elimForks exOrder).map NNet.sNames = some ["a", "o", "o2", "B", "A"] := by decide +kernel

/-- `eliminate_1to1_forks` followed by a re-sort of the node list (`elimForksStableIn`; circuit.py has no such re-sort, it is
    what would cure D29): ports and state elements keep names AND order -/
theorem elim_stable_snames (nn nn' : NNet) (order : List String) (h : nn.wf = true)
    (he : elimForksStableIn skip order nn = some nn') : nn'.sNames = nn.sNames ∧ nn'.ioNames = nn.ioNames :=
  ⟨elimStable_sNames order nn nn' (WF.of_wf h) he, (elimStable_obs order nn nn' (WF.of_wf h) he).1⟩

/-- … and so does every class of nodes other than forks (kind and name, in index order) -/
theorem elim_stable_classes (nn nn' : NNet) (order : List String) (h : nn.wf = true)
    (he : elimForksStableIn skip order nn = some nn') (p : String × String → Bool) (hp : ∀ name, p ("__fork__", name) = false) :
    nn'.kindNames.filter p = nn.kindNames.filter p :=
  (elimStable_obs order nn nn' (WF.of_wf h) he).2 p hp

/-- on the counterexample of `elim_state_order_false` the re-sorting variant keeps `a o o2 A B` and still removes the fork -/
example : (elimForksStable exOrder).map (fun n => (n.sNames, n.net.nodes.size, n.wf)) =
    some (["a", "o", "o2", "A", "B"], 5, true) := by decide +kernel

/-- **`eliminate_1to1_forks` preserves the function.**  For every well-formed dump whose forks have at most one input pin
    (`forkIns1`), every visiting order, the result `nn'` and the index maps `r` the model returns (`r.line l'` /
    `r.node j'` = the index the line / node object at `l'` / `j'` had before; swap-with-last deletion renumbers):
    every consistent labelling `v` of the lines of `nn` (each line carries what its driver computes, Model/Net.lean) under
    any assignment `asg`, restricted and renamed along `r`, is a consistent labelling of `nn'` under the assignment
    permuted like the `s_nodes`; every surviving node reads the same value at every input pin (in particular what is
    captured at ports and state elements); `r.node` is an injection of the nodes of `nn'` into those of `nn` that keeps
    kind, name, the port list (in order) and the `s_node` status and reaches every node that is not a fork. -/
theorem elim_sem {α : Type _} [BEq α] [LawfulBEq α] (nn nn' : NNet) (r : Ren) (order : List String)
    (h : nn.wf = true) (hf : nn.forkIns1 = true) (he : elimForksInM skip order nn = some (nn', r))
    (z : α) (neg : α → α) (prim : String → α → α → α → α → α) (asg : Nat → α) (v : Array α)
    (hc : consistentB nn.net z neg prim asg v = true) :
    elimForksIn skip order nn = some nn' ∧
    consistentB nn'.net z neg prim (reassign r nn nn' asg) (relabel r nn' v z) = true ∧
    (∀ j' k, j' < nn'.net.nodes.size → pinRead nn'.net (relabel r nn' v z) z j' k = pinRead nn.net v z (r.node j') k) ∧
    nn'.net.io.map r.node = nn.net.io ∧
    (∀ j', j' < nn'.net.nodes.size → r.node j' < nn.net.nodes.size ∧
      (nn'.net.node j').kind = (nn.net.node (r.node j')).kind ∧ nn'.names.getD j' "" = nn.names.getD (r.node j') "" ∧
      (j' ∈ nn'.net.sNodes ↔ r.node j' ∈ nn.net.sNodes)) ∧
    (∀ j1 j2, j1 < nn'.net.nodes.size → j2 < nn'.net.nodes.size → r.node j1 = r.node j2 → j1 = j2) ∧
    (∀ j, j < nn.net.nodes.size → (nn.net.node j).isFork = false → ∃ j', j' < nn'.net.nodes.size ∧ r.node j' = j) := by
  have si := SI.of_wf (WF.of_wf h) hf
  obtain ⟨s, sem, _, _⟩ := elimForksInM_simQ z neg prim order nn nn' r si he
  have hb := sim_consistentB si s z neg prim sem asg v hc
  exact ⟨(elimForksInM_fst order (nn, Ren.id)).symm.trans (congrArg (Option.map (·.1)) he), hb.1, hb.2, s.emb.io,
    fun j' hj => ⟨s.emb.nodeLt j' hj, s.emb.kind j' hj, s.emb.name j' hj, s.emb.mem_sNodes j' hj⟩, s.emb.nodeInj, s.surj⟩

/-- the same in `s_nodes` positions: position `p'` of the result shows the capture, the name and the kind of position
    `sigma r nn nn' p'` of the original (`capturesOf` = what `evalCapturesG` returns for the labelling) -/
theorem elim_sem_captures {α : Type _} [BEq α] [LawfulBEq α] (nn nn' : NNet) (r : Ren) (order : List String)
    (h : nn.wf = true) (hf : nn.forkIns1 = true) (he : elimForksInM skip order nn = some (nn', r))
    (z : α) (neg : α → α) (prim : String → α → α → α → α → α) (asg : Nat → α) (v : Array α)
    (hc : consistentB nn.net z neg prim asg v = true) (p' : Nat) (hp' : p' < nn'.net.sNodes.length) :
    sigma r nn nn' p' < nn.net.sNodes.length ∧
    (capturesOf nn'.net (relabel r nn' v z) z)[p']? = (capturesOf nn.net v z)[sigma r nn nn' p']? ∧
    nn'.sNames[p']? = nn.sNames[sigma r nn nn' p']? ∧
    (nn'.net.node (nn'.net.sNodes.getD p' 0)).kind = (nn.net.node (nn.net.sNodes.getD (sigma r nn nn' p') 0)).kind := by
  have si := SI.of_wf (WF.of_wf h) hf
  obtain ⟨s, sem, _, _⟩ := elimForksInM_simQ z neg prim order nn nn' r si he
  exact sim_captures s v _ z (sim_consistentB si s z neg prim sem asg v hc).2 p' hp'

/-- **converse of `elim_sem` and uniqueness**: the consistent labellings of `nn` and of `nn'` correspond ONE-TO-ONE.
    (existence) every consistent labelling `v'` of the result under the permuted assignment is `relabel` of a consistent
    labelling `v` of the original circuit (a removed fork is 1:1, so the value of the removed out-line is that of the
    fork's in-line); (uniqueness) two consistent labellings of the original with the same `relabel` agree on every line of
    the original.  With `elim_sem`: `v ↦ relabel r nn' v z` is a bijection between the consistent labellings of `nn` under
    `asg` (as functions on the lines of `nn`) and those of `nn'` under `reassign r nn nn' asg`. -/
theorem elim_sem_converse {α : Type _} [BEq α] [LawfulBEq α] (nn nn' : NNet) (r : Ren) (order : List String)
    (h : nn.wf = true) (hf : nn.forkIns1 = true) (he : elimForksInM skip order nn = some (nn', r))
    (z : α) (neg : α → α) (prim : String → α → α → α → α → α) (asg : Nat → α) :
    (∀ v' : Array α, consistentB nn'.net z neg prim (reassign r nn nn' asg) v' = true →
      ∃ v : Array α, v.size = nn.net.lines.size ∧ consistentB nn.net z neg prim asg v = true ∧
        (∀ l', l' < nn'.net.lines.size → v.getD (r.line l') z = v'.getD l' z) ∧
        (v'.size = nn'.net.lines.size → relabel r nn' v z = v')) ∧
    (∀ v1 v2 : Array α, consistentB nn.net z neg prim asg v1 = true → consistentB nn.net z neg prim asg v2 = true →
      relabel r nn' v1 z = relabel r nn' v2 z → ∀ l, l < nn.net.lines.size → v1.getD l z = v2.getD l z) := by
  have si := SI.of_wf (WF.of_wf h) hf
  obtain ⟨s, _, sq, su⟩ := elimForksInM_simQ z neg prim order nn nn' r si he
  exact ⟨sim_consistentB_conv si s z neg prim sq asg, sim_consistentB_unique si z neg prim su asg⟩

/-- **the result of `eliminate_1to1_forks` is well-formed** and its forks have at most one input pin: the hypotheses `wf` and
    `forkIns1` of `copy_dump_eq`, `pickle_dump_eq`, the `elim_*` and the `substitute_*` theorems hold for the result again -/
theorem elim_wf (nn nn' : NNet) (r : Ren) (order : List String) (h : nn.wf = true) (hf : nn.forkIns1 = true)
    (he : elimForksInM skip order nn = some (nn', r)) : nn'.wf = true ∧ nn'.forkIns1 = true :=
  elimForksInM_wf order nn nn' r (WF.of_wf h) hf he

/-- chaining: `copy()` / pickle round trip of the result of `eliminate_1to1_forks` is the same dump -/
theorem elim_then_copy (nn nn' : NNet) (r : Ren) (order : List String) (h : nn.wf = true) (hf : nn.forkIns1 = true)
    (he : elimForksInM skip order nn = some (nn', r)) : copyNet nn' = nn' ∧ pickleNet nn' = nn' :=
  ⟨copy_dump_eq nn' (elim_wf nn nn' r order h hf he).1, pickle_dump_eq nn' (elim_wf nn nn' r order h hf he).1⟩

/-- `elim_sem` for one loop iteration, at the fork `i`.  When the fork is spliced out, its in-line takes the place of the
    out-line `b` at the reader pin, fork and out-line are deleted with swap-with-last and `r = stepRen nn i b`; when it is
    passed over (a port, not 1:1, no driver with `skip`), `nn' = nn` and `r = Ren.id` -/
theorem elim_one_sem {α : Type _} [BEq α] [LawfulBEq α] (nn nn' : NNet) (r : Ren) (i : Nat)
    (h : nn.wf = true) (hf : nn.forkIns1 = true) (hi : i < nn.net.nodes.size) (hfk : (nn.net.node i).isFork = true)
    (he : elimOneM skip nn i = some (nn', r))
    (z : α) (neg : α → α) (prim : String → α → α → α → α → α) (asg : Nat → α) (v : Array α)
    (hc : consistentB nn.net z neg prim asg v = true) :
    elimOne skip nn i = some nn' ∧
    consistentB nn'.net z neg prim (reassign r nn nn' asg) (relabel r nn' v z) = true ∧
    (∀ j' k, j' < nn'.net.nodes.size → pinRead nn'.net (relabel r nn' v z) z j' k = pinRead nn.net v z (r.node j') k) := by
  have si := SI.of_wf (WF.of_wf h) hf
  obtain ⟨s, sem⟩ := elimOneM_sim z neg prim nn nn' r i si hi hfk he
  have hb := sim_consistentB si s z neg prim sem asg v hc
  exact ⟨(elimOneM_fst nn i).symm.trans (congrArg (Option.map (·.1)) he), hb⟩

/-- what `evalCapturesG` returns is `capturesOf` of the evaluator's labelling -/
theorem evalCaptures_eq_capturesOf {α : Type _} (net : Net) (z : α) (neg : α → α) (prim : String → α → α → α → α → α)
    (a : Nat → α) : evalCapturesG net z neg prim a = capturesOf net (evalAll net z neg prim a) z := rfl

/-- the first out-line `b` of a fork that is no port carries, in every consistent labelling, the value of the fork's
    in-line `a`: the line `elimOne` deletes and the line it connects to `b`'s reader pin instead -/
theorem elim_sem_partial {α} [BEq α] [LawfulBEq α] (nn : NNet) (h : nn.wf = true)
    (z : α) (neg : α → α) (prim : String → α → α → α → α → α) (asg : Nat → α) (v : Array α)
    (hc : consistentB nn.net z neg prim asg v = true)
    (i a b : Nat) (hi : i < nn.net.nodes.size) (hf : (nn.net.node i).isFork = true) (hio : nn.net.io.contains i = false)
    (hin : (nn.net.node i).ins.head? = some (some a)) (hout : (nn.net.node i).outs.head? = some (some b)) :
    v.getD b z = v.getD a z :=
  fork_passes nn (WF.of_wf h) z neg prim asg v hc i a b hi hf hio hin hout

/-! ## `Circuit.substitute` (model: Model/Substitute.lean) -/

/-- `substitute(node, impl)` keeps the port list: names and order (the cell itself must not be a port) -/
theorem substitute_ports (h m h' : NNet) (c : Nat) (hw : h.wf = true) (hc : c < h.net.nodes.size)
    (hio : h.net.io.contains c = false) (he : substitute h c m = some h') :
    h'.ioNames = h.ioNames ∧ h'.net.io.length = h.net.io.length := by
  have w := WF.of_wf hw
  obtain ⟨_, _, _, r, _⟩ := substitute_obs h c m h' ⟨w.names, w.io⟩ hc hio he
  have r := ioNames_of_ioKN r
  exact ⟨r, by simpa [NNet.ioNames] using congrArg List.length r⟩

/-- state elements of the result, up to order, in every case (also when an empty implementation or an unconnected output
    makes `substitute` remove nodes): they are the state elements of the host — the cell `c` counted with the kind of the
    designated cell (the first flip-flop/latch of the implementation if there is one) under its own name, or dropped when
    there is no designated cell — plus the further nodes of the implementation, named `<instance>~<internal name>`
    (`addedKN`); `p` = any selection of (kind, name) pairs that only accepts flip-flop/latch kinds -/
theorem substitute_state_perm (h m h' : NNet) (c : Nat) (sh : Shape) (hw : h.wf = true) (hc : c < h.net.nodes.size)
    (hio : h.net.io.contains c = false) (hs : implShape m = some sh) (he : substitute h c m = some h')
    (p : String × String → Bool) (hp : ∀ k n, p (k, n) = true → isSeqKind k = true) :
    (h'.kindNames.filter p).Perm (((match sh.des with
        | some dn => h.kindNames.set c ((m.net.node dn).kind, h.names.getD c "")
        | none => h.kindNames.eraseIdx c) ++ addedKN m (h.names.getD c "") sh.des).filter p) := by
  have w := WF.of_wf hw
  have li : LI h := ⟨w.names, w.io⟩
  obtain ⟨sh', h5, hs', _, _, hk, hperm⟩ := substitute_obs h c m h' li hc hio he
  cases hs.symm.trans hs'
  refine (hperm p hp).trans ?_
  rw [hk]
  cases hd : sh.des with
  | some dn => rw [(phase1_some_obs h c m dn li hc).1]
  | none => exact ((phase1_none_obs h c m li hc hio).1.append_right _).filter p

/-- regular use (`regularB`: a designated cell exists, no connected input pin is ignored by the implementation, every
    output of the implementation is connected): nothing is removed; the nodes of the host keep index, kind and name,
    except that the cell takes the kind of the designated cell, and the other nodes of the implementation follow -/
theorem substitute_regular (h m h' : NNet) (c : Nat) (hw : h.wf = true) (hc : c < h.net.nodes.size)
    (hio : h.net.io.contains c = false) (hr : regularB h c m = true) (he : substitute h c m = some h') :
    ∃ sh dn, implShape m = some sh ∧ sh.des = some dn ∧ h'.net.io = h.net.io ∧
      h'.kindNames = h.kindNames.set c ((m.net.node dn).kind, h.names.getD c "") ++ addedKN m (h.names.getD c "") (some dn) := by
  have w := WF.of_wf hw
  have li : LI h := ⟨w.names, w.io⟩
  obtain ⟨sh, dn, map, h5, hs, hd, hcore, eh', _⟩ := substitute_regular_eq' h c m h' hr he
  have p1 := phase1_some_obs h c m dn li hc
  rw [← hd] at p1
  have o := substituteCore_obs h c m sh hs h5 map [] hcore p1.2.2.1 p1.2.2.2
  -- the loop that makes the copied forks dense only re-wires pins
  have pd := pinsOnly_densify h5.net map
  have od := obs_of_pinsOnly h5 { h5 with net := densify h5.net map } pd rfl
  have hio' : h'.net.io = h.net.io := by
    subst eh'
    show (densify h5.net map).io = h.net.io
    rw [pd.2, o.2.2.2.2, hd]; rfl
  exact ⟨sh, dn, hs, hd, hio', by subst eh'; rw [od.1, o.1, p1.1, hd]⟩

/-- the case in which `substitute` keeps `[n.name for n in c.s_nodes]`, names AND order: regular use, the
    designated cell is of the same class as the cell it replaces (flip-flop / latch / neither, as `s_nodes` reads the
    kind) and the implementation holds no other flip-flop or latch -/
theorem substitute_snames (h m h' : NNet) (c : Nat) (hw : h.wf = true) (hc : c < h.net.nodes.size)
    (hio : h.net.io.contains c = false) (hr : regularB h c m = true) (he : substitute h c m = some h')
    (hclass : ∀ sh dn, implShape m = some sh → sh.des = some dn →
      hasSub "dff" (m.net.node dn).kind.toLower = hasSub "dff" (h.net.node c).kind.toLower ∧
      hasSub "latch" (m.net.node dn).kind.toLower = hasSub "latch" (h.net.node c).kind.toLower ∧
      ∀ j, j < m.net.nodes.size → j ≠ dn → isSeqKind (m.net.node j).kind = false) :
    h'.sNames = h.sNames ∧ h'.ioNames = h.ioNames := by
  obtain ⟨sh, dn, hs, hd, hio', hk⟩ := substitute_regular h m h' c hw hc hio hr he
  obtain ⟨c1, c2, c3⟩ := hclass sh dn hs hd
  have hports := (substitute_ports h m h' c hw hc hio he).1
  have hadd := addedKN_noSeq m (h.names.getD c "") dn c3
  refine ⟨?_, hports⟩
  rw [sNames_eq, sNames_eq, hports]
  have e1 : h'.dffNames = h.dffNames := by
    simp only [NNet.dffNames, hk]
    exact regular_names h c hc _ _ (fun k => hasSub "dff" k.toLower) c1
      (fun kn hkn => by have := hadd kn hkn; simp only [isSeqKind, Bool.or_eq_false_iff] at this; exact this.1)
  have e2 : h'.latchNames = h.latchNames := by
    simp only [NNet.latchNames, hk]
    exact regular_names h c hc _ _ (fun k => hasSub "latch" k.toLower) c2
      (fun kn hkn => by have := hadd kn hkn; simp only [isSeqKind, Bool.or_eq_false_iff] at this; exact this.2)
  rw [e1, e2]

/-- **pin-by-pin wiring** (regular use).  `map` = `node_map` of the real code (implementation node ↦ host node; every
    entry is the cell itself or a node added behind the host's nodes).  The host line at input pin `k` of the instance is
    connected to what input port `k` of the implementation was connected to (`inTarget`: the reader pin of the port's only
    line, or pin 0 of the fork created for a port with several readers); the host line at output pin `k` is driven from
    what drove output `k` of the implementation (`outTarget`: the driver pin of the port's line, or the next output of
    the fork created for an output that is also read internally).  Frame: all other nodes of the host keep their record,
    all other lines keep driver side / reader side.
    `denseB`: no copied fork has a `None` gap after the connecting loops — `substitute` makes such forks dense again
    (`densify`) and renumbers the driver pins of their lines, so the pin positions below are the implementation's only
    when nothing had to be squeezed (in regular use every output pin is connected, so nothing has to be when no fork and
    no port of the implementation has a gap in its outputs). -/
theorem substitute_wiring (h m h' : NNet) (c : Nat) (hw : h.wf = true) (hc : c < h.net.nodes.size)
    (hr : regularB h c m = true) (hdense : denseB h c m = true) (he : substitute h c m = some h') :
    ∃ sh map, implShape m = some sh ∧
      (∀ k x, map.getD k none = some x → x = c ∨ h.net.nodes.size ≤ x) ∧
      (∀ k ll, (h.net.node c).ins.getD k none = some ll → ∃ inn r rp, sh.inPorts[k]? = some inn ∧
        inTarget m map inn = some (r, rp) ∧ (h'.net.line ll).reader = r ∧ (h'.net.line ll).rpin = rp) ∧
      (∀ k ll, (h.net.node c).outs.getD k none = some ll → ∃ il d dp, sh.outLines[k]? = some il ∧
        outTarget m map il = some (d, dp) ∧ (h'.net.line ll).driver = d ∧ (h'.net.line ll).dpin = dp) ∧
      (∀ d, d < h.net.nodes.size → d ≠ c → h'.net.node d = h.net.node d) ∧
      (∀ l, l < h.net.lines.size → (h.net.line l).driver ≠ c →
        (h'.net.line l).driver = (h.net.line l).driver ∧ (h'.net.line l).dpin = (h.net.line l).dpin) ∧
      (∀ l, l < h.net.lines.size → (h.net.line l).reader ≠ c →
        (h'.net.line l).reader = (h.net.line l).reader ∧ (h'.net.line l).rpin = (h.net.line l).rpin) := by
  have w := WF.of_wf hw
  obtain ⟨sh, dn, map, hs, hd, hcore, hni⟩ := substitute_regular_eq h c m h' hr hdense he
  obtain ⟨fr, hm, win, wout⟩ := substituteCore_wire h c m sh hs w.toWFr hc dn hd hni h' map [] hcore
  refine ⟨sh, map, hs, hm, win, wout, fr.node, ?_, ?_⟩
  · exact fun l hl hne => fr.drv l hl fun hmem => hne ((w.toWFr.outsPins hc).1 l hmem).2
  · exact fun l hl hne => fr.rdr l hl fun hmem => hne ((w.toWFr.insPins hc).1 l hmem).2

/-- regular use (`regularB`) is a use of `substitute` in which nothing is removed (`keepsAllB`, Model/SubstSem.lean: designated
    cell, no connected-but-ignored input pin, every unconnected output driven by a node that stays) -/
theorem regular_keepsAll (h m h' : NNet) (c : Nat) (hr : regularB h c m = true) (he : substitute h c m = some h') :
    keepsAllB h c m = true := regularB_keepsAll h c m h' hr he

/-- `substitute`, when nothing is removed, returns a well-formed circuit (side conditions as for `substitute_sem`; no
    `denseB`: the loop `densify` keeps the circuit well-formed, Proofs/Densify.lean) -/
theorem substitute_wf (h m h' : NNet) (c : Nat) (hw : h.wf = true) (mw : m.wf = true) (hc : c < h.net.nodes.size)
    (hio : h.net.io.contains c = false) (hcf : (h.net.node c).isFork = false)
    (hr : keepsAllB h c m = true) (hok : implOKB m = true) (he : substitute h c m = some h') : h'.wf = true := by
  obtain ⟨sh, dn, map, ct⟩ := substitute_cert h m h' c (WF.of_wf hw) (WF.of_wf mw) hc hio hcf hr hok he
  exact wf_of_WF ct.wf'

/-- **the semantic statement about `substitute`**: the conclusion of `substitute_sem`, where `h'` is the result of `substitute`
    in a use in which nothing is removed (`keepsAllB`: regular use — `regular_keepsAll` —, unconnected input pins, unconnected
    outputs whose driver stays), host `h` and implementation `m` are well-formed, the cell `c` is neither port nor fork and `m`
    satisfies `implOKB` (a designated cell exists, ports distinct, no port a flip-flop/latch, driven ports that are read inside
    are forks).  `substitute_sem_removing` states it of the circuit `substituteCore` builds (the implementation copied in and
    connected, before the copied forks are made dense and dangling logic is removed): it holds before AND after the
    densifying loop.
    Vocabulary (Model/SubstSem.lean, Proofs/SubstVocab.lean): `ConsOff nn S an v` — the labelling `v` of the lines of `nn`
    under the node-indexed assignment `an` satisfies the equation (`lineEq`, Model/Net.lean) of every line whose driver
    is not in the set `S` of "holes" (`S = ∅`: `v` is consistent, `consOff_consistent`); `ImplMatches h c m sh anm vm v` —
    **the relational meaning of the cell**: `(anm, vm)` is a consistent labelling of the implementation `m` (the line
    of an input port whose instance pin is unconnected being absent: `cutIns m (deadLine h c m sh)`), every port of `m` is
    assigned the value of the host line at its instance pin (`portVal`: `z` for an unconnected pin and for output ports),
    and output line `k` of `m` carries the value of the host line at output pin `k` of the instance.
    The statement:
    * `h'` is well-formed; `node_map` (`map`, an existential witness) is injective, sends the designated cell to `c` and
      everything else behind the host's nodes, keeps the kinds (ports become forks); ports and all other nodes of the host
      are untouched; the lines of `h'` are numbered as the host's lines followed by the copied lines (`copiedLines`);
    * **(1)** every labelling `v'` of `h'` that is consistent outside `S` (any set of host nodes other than `c`) is, on the
      host's lines, consistent for `h` outside `S ∪ {c}`, and there is a labelling `(anm, vm)` of the implementation with
      `ImplMatches … anm vm v'` that agrees with `v'` on the copied lines and with `an'` on the copied nodes — the cell
      behaves as its implementation; every copied node reads, pin by pin, what its original reads;
    * **(2)** conversely every labelling `v` of `h` that is consistent outside `S ∪ {c}` together with any `(anm, vm)` with
      `ImplMatches … anm vm v` glues to a labelling of `h'` that is consistent outside `S`, equals `v` on the host's lines
      and `vm` on the copied lines.
    No acyclicity, no uniqueness of labellings and no evaluation order is needed; multi-output cells, outputs read
    inside the implementation, inputs with one or many readers, state elements inside the implementation and
    unconnected input pins are covered uniformly. -/
def SubstSemStmt {α : Type _} (h m h' : NNet) (c : Nat) (z : α) (neg : α → α) (prim : String → α → α → α → α → α) : Prop :=
    ∃ (sh : Shape) (dn : Nat) (map : Array (Option Nat)),
      implShape m = some sh ∧ sh.des = some dn ∧ h'.wf = true ∧
      -- `node_map`
      map.getD dn none = some c ∧
      (∀ j x, map.getD j none = some x → j < m.net.nodes.size ∧ (x = c ∨ h.net.nodes.size ≤ x) ∧ x < h'.net.nodes.size ∧
        (h'.net.node x).kind = if j ∈ m.net.io then "__fork__" else (m.net.node j).kind) ∧
      (∀ j1 j2 x, map.getD j1 none = some x → map.getD j2 none = some x → j1 = j2) ∧
      -- frame
      h'.net.io = h.net.io ∧ (∀ d, d < h.net.nodes.size → d ≠ c → h'.net.node d = h.net.node d) ∧
      h'.net.lines.size = h.net.lines.size + (copiedLines m map).length ∧
      -- (1) result ⇒ host with the cell meaning its implementation
      (∀ (S : Nat → Prop), (∀ s, S s → s < h.net.nodes.size ∧ s ≠ c) → ∀ an' v' : Nat → α,
        ConsOff h' S z neg prim an' v' →
        ConsOff h (fun d => S d ∨ d = c) z neg prim an' v' ∧
        ∃ anm vm, ImplMatches h c m sh z neg prim anm vm v' ∧
          (∀ j x, j ∉ m.net.io → map.getD j none = some x → anm j = an' x) ∧
          (∀ t (ht : t < (copiedLines m map).length), vm (copiedLines m map)[t] = v' (h.net.lines.size + t)) ∧
          (∀ j x k, map.getD j none = some x → ¬ (j ∈ m.net.io ∧ (m.net.node j).ins.length = 0) →
            ((h'.net.node x).inPin k).map v' = (((cutIns m (deadLine h c m sh)).net.node j).inPin k).map vm)) ∧
      -- (2) host with the cell meaning its implementation ⇒ result (gluing)
      (∀ (S : Nat → Prop) (an v anm vm : Nat → α), ConsOff h (fun d => S d ∨ d = c) z neg prim an v →
        ImplMatches h c m sh z neg prim anm vm v →
        ∃ an' v', ConsOff h' S z neg prim an' v' ∧ (∀ l, l < h.net.lines.size → v' l = v l) ∧
          (∀ d, d < h.net.nodes.size → d ≠ c → an' d = an d) ∧
          (∀ j x, j ∉ m.net.io → map.getD j none = some x → an' x = anm j) ∧
          (∀ t (ht : t < (copiedLines m map).length), v' (h.net.lines.size + t) = vm (copiedLines m map)[t]) ∧
          (∀ j x k, map.getD j none = some x → ¬ (j ∈ m.net.io ∧ (m.net.node j).ins.length = 0) →
            ((h'.net.node x).inPin k).map v' = (((cutIns m (deadLine h c m sh)).net.node j).inPin k).map vm))

/-- `substitute`, when nothing is removed (`keepsAllB`), satisfies the semantic statement `SubstSemStmt` (see there) -/
theorem substitute_sem {α : Type _} (h m h' : NNet) (c : Nat) (hw : h.wf = true) (mw : m.wf = true) (hc : c < h.net.nodes.size)
    (hio : h.net.io.contains c = false) (hcf : (h.net.node c).isFork = false)
    (hr : keepsAllB h c m = true) (hok : implOKB m = true) (he : substitute h c m = some h')
    (z : α) (neg : α → α) (prim : String → α → α → α → α → α) : SubstSemStmt h m h' c z neg prim := by
  obtain ⟨sh, dn, map, ct⟩ := substitute_cert h m h' c (WF.of_wf hw) (WF.of_wf mw) hc hio hcf hr hok he
  exact ⟨sh, dn, map, ct.shape, ct.des, wf_of_WF ct.wf', ct.mapDn,
    fun j x hm => ⟨ct.mapM j x hm, ct.mapGe j x hm, ct.mapLt j x hm, ct.kind' j x hm⟩, ct.mapInj, ct.io', ct.frameNode, ct.lsize,
    ct.forward z neg prim, ct.backward z neg prim⟩

/-- **`remove_dangling_nodes` preserves the function** (model `removeDangling`: any start nodes `stack`, any `only` set `own`
    of valid node references, any fuel that suffices), for every circuit that is well-formed up to trailing `None`s
    (`wfNoTrail`).  The result is again well-formed up to trailing `None`s (`Line.remove()` leaves a trailing `None` in the
    pin list of a cell, so `NNet.wf` itself can fail), and there are index maps `r` (new index ↦ old index) under which
    every surviving node keeps kind, name and — pin by pin — the lines it reads, every surviving line keeps its driver, the
    ports are the same list and every flip-flop/latch survives.  The last three clauses, for any set `S` of holes:
    (restrict) every labelling of the circuit before that is consistent outside `S`, restricted to the surviving lines and
    renamed, is consistent for the result; (extend) a labelling of the circuit before whose restriction is consistent for
    the result and which satisfies the equations of the removed lines is consistent; (extension exists) every labelling of
    the result that is consistent outside `S` IS the restriction of a labelling of the circuit before that is consistent
    outside `S` — a node has no connected output when it is removed, so the lines removed with it carry what their (still
    complete) drivers compute; removed logic cannot contain a cycle, and no acyclicity assumption is needed. -/
theorem remove_dangling_sem {α : Type _} (fuel : Nat) (nn nn' : NNet) (own : List Nat) (stack : List (Option Nat))
    (hw : nn.wfNoTrail = true) (ho : own.all (fun x => decide (x < nn.net.nodes.size)) = true)
    (he : removeDangling fuel nn own stack = some nn') (z : α) (neg : α → α) (prim : String → α → α → α → α → α) :
    nn'.wfNoTrail = true ∧ ∃ r : Ren,
      (∀ j', j' < nn'.net.nodes.size → r.node j' < nn.net.nodes.size ∧ (nn'.net.node j').kind = (nn.net.node (r.node j')).kind ∧
        nn'.names.getD j' "" = nn.names.getD (r.node j') "" ∧
        ∀ k, ((nn'.net.node j').inPin k).map r.line = (nn.net.node (r.node j')).inPin k) ∧
      (∀ j1 j2, j1 < nn'.net.nodes.size → j2 < nn'.net.nodes.size → r.node j1 = r.node j2 → j1 = j2) ∧
      nn'.net.io.map r.node = nn.net.io ∧
      (∀ j, j < nn.net.nodes.size → isSeqKind (nn.net.node j).kind = true → ∃ j', j' < nn'.net.nodes.size ∧ r.node j' = j) ∧
      (∀ l', l' < nn'.net.lines.size → r.line l' < nn.net.lines.size ∧
        (nn.net.line (r.line l')).driver = r.node (nn'.net.line l').driver) ∧
      (∀ (S : Nat → Prop) (an v : Nat → α), ConsOff nn S z neg prim an v →
        ConsOff nn' (fun j' => S (r.node j')) z neg prim (fun j => an (r.node j)) (fun l => v (r.line l))) ∧
      (∀ (S : Nat → Prop) (an v : Nat → α),
        ConsOff nn' (fun j' => S (r.node j')) z neg prim (fun j => an (r.node j)) (fun l => v (r.line l)) →
        (∀ l, l < nn.net.lines.size → (¬ ∃ l', l' < nn'.net.lines.size ∧ r.line l' = l) → ¬ S (nn.net.line l).driver →
          v l = lineEq nn.net (spN nn.net) z neg prim an v l) →
        ConsOff nn S z neg prim an v) ∧
      (∀ (S : Nat → Prop) (an' v' : Nat → α), ConsOff nn' (fun j' => S (r.node j')) z neg prim an' v' →
        ∃ an v, ConsOff nn S z neg prim an v ∧ (∀ l', l' < nn'.net.lines.size → v (r.line l') = v' l') ∧
          (∀ j', j' < nn'.net.nodes.size → an (r.node j') = an' j')) := by
  obtain ⟨w', r, e, _, sq, ex⟩ := removeDangling_extP z neg prim fuel nn own stack nn' (WFm.of_wfNoTrail hw)
    (fun x hx => by simpa using List.all_eq_true.mp ho x hx) he
  exact ⟨wfNoTrail_of_WFm w', r, fun j' hj => ⟨e.nodeLt j' hj, e.kind j' hj, e.name j' hj, e.pins j' hj (fun x => x)⟩, e.nodeInj, e.io,
    sq, fun l' hl => ⟨e.lineLt l' hl, (e.drv l' hl).2.1⟩, fun S => e.restrict S z neg prim,
    fun S => e.extend S z neg prim, fun S an' v' hc =>
      let ⟨an, v, c, e1, e2, _⟩ := ex S (fun _ => z) an' v' hc
      ⟨an, v, c, e1, e2⟩⟩

/-- **`substitute` with removal of dangling logic** (an unconnected output of the instance whose driver dangles): a designated
    cell exists and no connected input pin is ignored (`noIgnoredB`; no condition on the outputs), `implOKB`.  The result
    `h'` of `substitute` is the circuit `h5` that `substituteCore` builds — for which `SubstSemStmt` holds — with the copied
    forks made dense (`densify` renumbers neither nodes nor lines) and dangling logic removed; when nothing is removed
    (`keepsAllB`) `h'` is `h5` densified, and `h5` itself under `denseB`.  `h'` embeds into `h5` as in `remove_dangling_sem`:
    well-formed up to trailing `None`s, index maps `r`, same ports, all state elements, every surviving node reads the same
    lines, restrict, extend.  Composition with `SubstSemStmt` (the last two clauses): (1) every consistent labelling of `h'` is
    the restriction of a labelling of `h5` under which the host is consistent outside the cell and the cell has the
    relational meaning of its whole implementation; (2) every labelling of the host that is consistent outside the cell,
    together with an `ImplMatches` labelling of the implementation, yields a consistent labelling of `h'` (glue, then
    restrict). -/
theorem substitute_sem_removing {α : Type _} (h m h' : NNet) (c : Nat) (hw : h.wf = true) (mw : m.wf = true)
    (hc : c < h.net.nodes.size) (hio : h.net.io.contains c = false) (hcf : (h.net.node c).isFork = false)
    (hr : noIgnoredB h c m = true) (hok : implOKB m = true) (he : substitute h c m = some h')
    (z : α) (neg : α → α) (prim : String → α → α → α → α → α) :
    ∃ (h5 : NNet) (map : Array (Option Nat)) (dang : List (Option Nat)) (r : Ren),
      substituteCore h c m = some (h5, map, dang) ∧ SubstSemStmt h m h5 c z neg prim ∧ h'.wfNoTrail = true ∧
      (keepsAllB h c m = true → h' = { h5 with net := densify h5.net map }) ∧ (keepsAllB h c m = true → denseB h c m = true → h' = h5) ∧
      (∀ j', j' < h'.net.nodes.size → r.node j' < h5.net.nodes.size ∧ (h'.net.node j').kind = (h5.net.node (r.node j')).kind ∧
        h'.names.getD j' "" = h5.names.getD (r.node j') "" ∧
        ∀ k, ((h'.net.node j').inPin k).map r.line = (h5.net.node (r.node j')).inPin k) ∧
      (∀ j1 j2, j1 < h'.net.nodes.size → j2 < h'.net.nodes.size → r.node j1 = r.node j2 → j1 = j2) ∧
      h'.net.io.map r.node = h5.net.io ∧
      (∀ j, j < h5.net.nodes.size → isSeqKind (h5.net.node j).kind = true → ∃ j', j' < h'.net.nodes.size ∧ r.node j' = j) ∧
      (∀ l', l' < h'.net.lines.size → r.line l' < h5.net.lines.size ∧
        (h5.net.line (r.line l')).driver = r.node (h'.net.line l').driver) ∧
      (∀ (S : Nat → Prop) (an v : Nat → α), ConsOff h5 S z neg prim an v →
        ConsOff h' (fun j' => S (r.node j')) z neg prim (fun j => an (r.node j)) (fun l => v (r.line l))) ∧
      (∀ (S : Nat → Prop) (an v : Nat → α),
        ConsOff h' (fun j' => S (r.node j')) z neg prim (fun j => an (r.node j)) (fun l => v (r.line l)) →
        (∀ l, l < h5.net.lines.size → (¬ ∃ l', l' < h'.net.lines.size ∧ r.line l' = l) → ¬ S (h5.net.line l).driver →
          v l = lineEq h5.net (spN h5.net) z neg prim an v l) →
        ConsOff h5 S z neg prim an v) ∧
      -- (1) of the composition; the holes `S` are host nodes other than the cell, read in `h'` through `r.node`
      (∀ (S : Nat → Prop), (∀ s, S s → s < h.net.nodes.size ∧ s ≠ c) → ∀ an' v' : Nat → α,
        ConsOff h' (fun j' => S (r.node j')) z neg prim an' v' →
        ∃ an5 v5 : Nat → α, (∀ l', l' < h'.net.lines.size → v5 (r.line l') = v' l') ∧ (∀ j', j' < h'.net.nodes.size → an5 (r.node j') = an' j') ∧
          ConsOff h (fun d => S d ∨ d = c) z neg prim an5 v5 ∧
          ∃ sh anm vm, implShape m = some sh ∧ ImplMatches h c m sh z neg prim anm vm v5) ∧
      -- (2) of the composition
      (∀ (S : Nat → Prop) (sh : Shape) (an v anm vm : Nat → α), implShape m = some sh →
        ConsOff h (fun d => S d ∨ d = c) z neg prim an v → ImplMatches h c m sh z neg prim anm vm v →
        ∃ an5 v5 : Nat → α, ConsOff h' (fun j' => S (r.node j')) z neg prim (fun j => an5 (r.node j)) (fun l => v5 (r.line l)) ∧
          (∀ l, l < h.net.lines.size → v5 l = v l) ∧ (∀ d, d < h.net.nodes.size → d ≠ c → an5 d = an d)) := by
  obtain ⟨h5, map, dang, sh, dn, r, hcore, ct, w5, hdl, w', e, sq, ex⟩ :=
    substitute_removing z neg prim h m h' c (WF.of_wf hw) (WF.of_wf mw) hc hio hcf hr hok he
  have hkeep : keepsAllB h c m = true → h' = { h5 with net := densify h5.net map } :=
    fun hk => substitute_of_core h c m h' h5 map dang hcore w5 (keepsAllB_allKept hk hcore) he
  refine ⟨h5, map, dang, r, hcore, ?_, wfNoTrail_of_WFm w', hkeep, ?_,
    fun j' hj => ⟨e.nodeLt j' hj, e.kind j' hj, e.name j' hj, e.pins j' hj (fun x => x)⟩, e.nodeInj, e.io,
    sq, fun l' hl => ⟨e.lineLt l' hl, (e.drv l' hl).2.1⟩, fun S => e.restrict S z neg prim,
    fun S => e.extend S z neg prim, ?_, ?_⟩
  rotate_left 2
  · intro S hS an' v' hc'
    obtain ⟨an5, v5, c5, e1, e2, _⟩ := ex S (fun _ => z) an' v' hc'
    obtain ⟨f1, anm, vm, hM, _⟩ := ct.forward z neg prim S hS an5 v5 c5
    exact ⟨an5, v5, e1, e2, f1, sh, anm, vm, ct.shape, hM⟩
  · intro S sh' an v anm vm hs' hH hM
    cases hs'.symm.trans ct.shape
    obtain ⟨an5, v5, c5, b1, b2, _⟩ := ct.backward z neg prim S an v anm vm hH hM
    exact ⟨an5, v5, e.restrict S z neg prim an5 v5 c5, b1, b2⟩
  · exact ⟨sh, dn, map, ct.shape, ct.des hdl, wf_of_WF w5, ct.mapDn hdl,
      fun j x hm => ⟨ct.mapM j x hm, ct.mapGe j x hm, ct.mapLt j x hm, ct.kind' j x hm⟩, ct.mapInj, ct.io', ct.frameNode, ct.lsize,
      ct.forward z neg prim, ct.backward z neg prim⟩
  · intro hk hdn
    rw [hkeep hk]
    exact densNN_of_denseB h c m h5 map dang hcore hdn

/-- `ConsOff` without holes is consistency, and consistency in the node-indexed form is `consistentB` (Model/Net.lean,
    the gate-by-gate meaning used by C01): the labelling as an array, the assignment by `s_nodes` position -/
theorem consOff_consistent {α : Type _} [BEq α] [LawfulBEq α] (nn : NNet) (hw : nn.wf = true) (z : α) (neg : α → α)
    (prim : String → α → α → α → α → α) (asg : Nat → α) (v : Array α) :
    consistentB nn.net z neg prim asg v = true ↔
      ConsOff nn (fun _ => False) z neg prim (fun n => asg (nn.net.sNodes.idxOf n)) (fun l => v.getD l z) := by
  rw [consOff_false]; exact consistentB_iff (WF.of_wf hw).toWFm.drvLt z neg prim asg v

/-- regular use, `denseB`: every line of the host that is not driven by the substituted cell keeps its equation literally:
    for every labelling and every assignment, `lineEq` of the result at that line equals `lineEq` of the host (same driver,
    same pin, same driver record, hence same gate function of the same in-lines) -/
theorem substitute_sem_partial {α : Type _} (h m h' : NNet) (c : Nat) (hw : h.wf = true) (hc : c < h.net.nodes.size)
    (hr : regularB h c m = true) (hdense : denseB h c m = true) (he : substitute h c m = some h')
    (sp : Nat → Option Nat) (z : α) (neg : α → α) (prim : String → α → α → α → α → α) (a : Nat → α) (v : Nat → α)
    (l : Nat) (hl : l < h.net.lines.size) (hd : (h.net.line l).driver ≠ c) :
    lineEq h'.net sp z neg prim a v l = lineEq h.net sp z neg prim a v l := by
  obtain ⟨_, _, _, _, _, _, hnode, hdrv, _⟩ := substitute_wiring h m h' c hw hc hr hdense he
  exact lineEq_frame h.net h'.net sp z neg prim a v l (hdrv l hl hd).1 (hdrv l hl hd).2 (hnode _ ((WF.of_wf hw).back l hl).1 hd)

/-- `resolve_tlib_cells(tlib)` (model `resolveCells`: `substitute` for every node of the snapshot whose kind is in the
    library): the port list keeps names and order, for every library, provided no port node is itself a library cell -/
theorem resolve_ports (lib : Lib) (h h' : NNet) (hw : h.wf = true)
    (hp : (h.net.io.all fun i => (lib.find (h.net.node i).kind).isNone) = true) (he : resolveCells lib h = some h') :
    h'.ioNames = h.ioNames ∧ h'.net.io.length = h.net.io.length := by
  have w := WF.of_wf hw
  have hk : ∀ kn ∈ h.ioKN, lib.find kn.1 = none := by
    intro kn hk
    obtain ⟨i, hi, e⟩ := List.mem_map.mp hk
    have := List.all_eq_true.mp hp i hi
    rw [← e]
    simpa [kindAt, Net.node] using this
  have r := ioNames_of_ioKN (resolve_fold lib h.keys h h' he ⟨w.names, w.io⟩ hk).1
  exact ⟨r, by simpa [NNet.ioNames] using congrArg List.length r⟩

/-- **`resolve_tlib_cells` preserves the function** (model `resolveCells`).  Hypothesis `resolveOKB` (decidable, evaluated by
    running the model): every substitution along the loop is a use covered by `substitute_sem` — nothing is removed
    (`keepsAllB`), well-formed implementation with `implOKB`, the cell neither port nor fork — and none of them raises.  Then
    nodes and lines are only appended, so the original indices stay valid in the result.  With `cell x` = "`x` is a node of the
    original circuit whose kind is in the library": the result is well-formed, keeps the port list, every other node with
    its kind and pin lists, and the key (name, class) of every node of the original;
    **(1)** every consistent labelling `v'` of the result is, on the original lines, consistent for the original circuit
    outside the library cells, and every library cell `c` has the relational meaning of its implementation under `v'`
    (`ImplMatches`, see `SubstSemStmt`); **(2)** conversely every labelling of the original circuit that is consistent
    outside the library cells and gives every library cell the relational meaning of its implementation extends to a
    consistent labelling of the result (same values on the original lines, same assignment on the other nodes). -/
theorem resolve_sem {α : Type _} (lib : Lib) (h h' : NNet) (hw : h.wf = true) (hok : resolveOKB lib h.keys h = true)
    (he : resolveCells lib h = some h') (z : α) (neg : α → α) (prim : String → α → α → α → α → α) :
    h'.wf = true ∧ h'.net.io = h.net.io ∧ h.net.nodes.size ≤ h'.net.nodes.size ∧ h.net.lines.size ≤ h'.net.lines.size ∧
    (∀ d, d < h.net.nodes.size → (lib.find (h.net.node d).kind).isSome = false → h'.net.node d = h.net.node d) ∧
    (∀ d, d < h.net.nodes.size → h'.key d = h.key d) ∧
    (∀ an' v' : Nat → α, ConsOff h' (fun _ => False) z neg prim an' v' →
      ConsOff h (fun x => x < h.net.nodes.size ∧ (lib.find (h.net.node x).kind).isSome = true) z neg prim an' v' ∧
      ∀ c, c < h.net.nodes.size → (lib.find (h.net.node c).kind).isSome = true →
        ∃ impl sh anm vm, lib.find (h.net.node c).kind = some impl ∧ implShape impl = some sh ∧
          ImplMatches h c impl sh z neg prim anm vm v') ∧
    (∀ an v : Nat → α,
      ConsOff h (fun x => x < h.net.nodes.size ∧ (lib.find (h.net.node x).kind).isSome = true) z neg prim an v →
      (∀ c, c < h.net.nodes.size → (lib.find (h.net.node c).kind).isSome = true →
        ∃ impl sh anm vm, lib.find (h.net.node c).kind = some impl ∧ implShape impl = some sh ∧
          ImplMatches h c impl sh z neg prim anm vm v) →
      ∃ an' v', ConsOff h' (fun _ => False) z neg prim an' v' ∧ (∀ l, l < h.net.lines.size → v' l = v l) ∧
        (∀ d, d < h.net.nodes.size → (lib.find (h.net.node d).kind).isSome = false → an' d = an d)) := by
  have r := resolve_sem_main lib h h' (WF.of_wf hw) z neg prim hok he
  refine ⟨wf_of_WF r.wf, r.io, r.nsize, r.lsize, fun d hd hn => r.node d hd (fun hc => by rw [hn] at hc; exact absurd hc.2 (by simp)),
    r.key, ?_, ?_⟩
  · intro an' v' hc
    obtain ⟨g1, g2⟩ := r.fw (fun _ => False) (fun _ hs => absurd hs id) an' v' hc
    exact ⟨consOff_congr (fun x => by simp) g1, fun c hc1 hc2 => g2 c ⟨hc1, hc2⟩⟩
  · intro an v hc hcells
    obtain ⟨an', v', c1, e1, e2⟩ := r.bw (fun _ => False) an v
      (consOff_congr (fun x => by simp) hc) (fun c hc' => hcells c hc'.1 hc'.2)
    exact ⟨an', v', c1, e1, fun d hd hn => e2 d hd (fun hc' => by rw [hn] at hc'; exact absurd hc'.2 (by simp))⟩

/-! ## non-vacuity: the hypotheses of the theorems of this file evaluated on example circuits -/
/-- a well-formed dump with an unconnected pin, a two-output flip-flop, fan-out and both node classes sharing a name -/
def exWf : NNet where
  net :=
    { nodes := #[⟨"input", [], [some 0]⟩, ⟨"__fork__", [some 0], [some 1, some 2]⟩,
                 ⟨"AND3", [some 1, none, some 5], [some 3]⟩, ⟨"DFF", [some 2], [some 4, some 5]⟩,
                 ⟨"__fork__", [some 3], [some 6]⟩, ⟨"output", [some 6], []⟩, ⟨"output", [some 4], []⟩]
      lines := #[⟨0, 0, 1, 0⟩, ⟨1, 0, 2, 0⟩, ⟨1, 1, 3, 0⟩, ⟨2, 0, 4, 0⟩, ⟨3, 0, 6, 0⟩, ⟨3, 1, 2, 2⟩, ⟨4, 0, 5, 0⟩]
      io := [0, 5, 6] }
  names := #["a", "a", "g", "ff", "g", "z", "q"]

example : exWf.wf = true := by decide +kernel
example : copyNet exWf = exWf := copy_dump_eq exWf (by decide +kernel)
/-- the hypotheses of `elim_ports` / `elim_state_perm` are satisfiable and the loop really removes something -/
example : exWf.wf = true ∧ (elimForks exWf).map (fun n => (n.net.nodes.size, n.net.lines.size, n.ioNames)) =
    some (6, 6, ["a", "z", "q"]) := by decide +kernel
/-- `wf` rejects a dump whose pin entry does not point back (so it is not trivially true) -/
example : ({ exWf with net := { exWf.net with lines := exWf.net.lines.set! 1 ⟨1, 0, 3, 0⟩ } } : NNet).wf = false := by
  decide +kernel
/-- a trailing `None` in a pin list is the one thing `copy` does not reproduce (hence part of `wf`) -/
example : let nn : NNet := { net := { nodes := #[⟨"AND2", [none], []⟩], lines := #[], io := [] }, names := #["g"] }
    nn.wf = false ∧ (copyNet nn).net.nodes.toList.map (·.ins) = [[]] := by decide +kernel
/-- hypothesis of `copy_trims` / `copy_wfNoTrail_same_function`: a dump that is `wfNoTrail` but not `wf` (a `DFF` with
    `ins = [line 0, None]`, `outs = [line 1, None]`; `substitute exHostFF 2 exImplFZ` below returns a dump of this kind);
    its copy has the trailing `None`s trimmed and is `wf` -/
example : let nn : NNet := { net := { nodes := #[⟨"input", [], [some 0]⟩, ⟨"DFF", [some 0, none], [some 1, none]⟩, ⟨"output", [some 1], []⟩],
                                      lines := #[⟨0, 0, 1, 0⟩, ⟨1, 0, 2, 0⟩], io := [0, 2] }, names := #["d", "u", "q"] }
    nn.wfNoTrail = true ∧ nn.wf = false ∧ (copyNet nn).wf = true ∧
    (copyNet nn).net.nodes.toList.map (fun n => (n.ins, n.outs)) = [([], [some 0]), ([some 0], [some 1]), ([some 1], [])] := by
  decide +kernel
/-- hypotheses of `elim_sem_partial`: a consistent labelling of `exWf` exists (the evaluator's), fork 4 is a 1:1 fork -/
example : consistentB exWf.net false (!·) prim2 (fun j => j == 0) (evalAll exWf.net false (!·) prim2 (fun j => j == 0)) = true ∧
    (exWf.net.node 4).isFork = true ∧ exWf.net.io.contains 4 = false ∧
    (exWf.net.node 4).ins.head? = some (some 3) ∧ (exWf.net.node 4).outs.head? = some (some 6) := by decide +kernel
/-- hypotheses of `elim_sem` / `elim_sem_captures` / `elim_one_sem`: `exWf` is well-formed with one-input forks, the loop
    removes fork 4 (the last node, `q`, moves into its slot; line 6 is the last line, so only the node map is not the identity),
    and the evaluator's labelling is consistent; the conclusion evaluated on it -/
example : exWf.wf = true ∧ exWf.forkIns1 = true ∧
    (elimForksInM false exWf.forkNames exWf).map (fun p => ((List.range p.1.net.nodes.size).map p.2.node,
      (List.range p.1.net.lines.size).map p.2.line)) = some ([0, 1, 2, 3, 6, 5], [0, 1, 2, 3, 4, 5]) ∧
    (elimOneM false exWf 4).map (fun p => (p.1.net.nodes.size, p.1.net.lines.size)) = some (6, 6) ∧
    (exWf.net.node 4).isFork = true ∧
    consistentB exWf.net false (!·) prim2 (fun j => j == 0) (evalAll exWf.net false (!·) prim2 (fun j => j == 0)) = true ∧
    ((elimForksInM false exWf.forkNames exWf).map fun p =>
      consistentB p.1.net false (!·) prim2 (reassign p.2 exWf p.1 (fun j => j == 0))
        (relabel p.2 p.1 (evalAll exWf.net false (!·) prim2 (fun j => j == 0)) false)) = some true := by decide +kernel

/-- on `exOrder` the line map is not the identity either: line 1 is deleted, the last line (4) takes its index; node 1 is
    deleted, the last node (5, flip-flop `B`) takes its index — `sigma` exchanges the positions of `A` and `B` -/
example : exOrder.wf = true ∧ exOrder.forkIns1 = true ∧
    (elimForksInM false exOrder.forkNames exOrder).map (fun p => ((List.range p.1.net.nodes.size).map p.2.node,
      (List.range p.1.net.lines.size).map p.2.line, (List.range p.1.net.sNodes.length).map (sigma p.2 exOrder p.1))) =
      some ([0, 5, 2, 3, 4], [0, 4, 2, 3], [0, 1, 2, 4, 3]) ∧
    consistentB exOrder.net false (!·) prim2 (fun j => j == 0 || j == 4)
      (evalAll exOrder.net false (!·) prim2 (fun j => j == 0 || j == 4)) = true := by decide +kernel

/-! ### `substitute` -/
/-- an implementation (as `TechLib` builds it: bench text, 1:1 forks eliminated) with two outputs, an input with two
    readers (`A`), an input with one reader (`B`) and an output that is also read internally (`X`):
    `input(A,B) output(X,Y) T=NAND2(A,B) X=INV1(T) Y=OR2(A,X)` -/
def exImpl : NNet :=
  { net := { nodes := #[⟨"__fork__", [], [some 1, some 6]⟩, ⟨"__fork__", [], [some 2]⟩, ⟨"__fork__", [some 3], [some 4]⟩,
                        ⟨"__fork__", [some 5], []⟩, ⟨"NAND2", [some 1, some 2], [some 0]⟩, ⟨"OR2", [some 6, some 4], [some 5]⟩,
                        ⟨"INV1", [some 0], [some 3]⟩],
             lines := #[⟨4, 0, 6, 0⟩, ⟨0, 0, 4, 0⟩, ⟨1, 0, 4, 1⟩, ⟨6, 0, 2, 0⟩, ⟨2, 0, 5, 1⟩, ⟨5, 0, 3, 0⟩, ⟨0, 1, 5, 0⟩],
             io := [0, 1, 2, 3] },
    names := #["A", "B", "X", "Y", "T", "Y", "X"] }
/-- a host with the instance `u` (node 2) between two inputs, an output and a flip-flop -/
def exHost : NNet :=
  { net := { nodes := #[⟨"input", [], [some 0]⟩, ⟨"input", [], [some 2]⟩, ⟨"AOCELL", [some 1, some 2], [some 3, some 4]⟩,
                        ⟨"output", [some 3], []⟩, ⟨"DFF", [some 4, some 6], [some 5]⟩, ⟨"output", [some 5], []⟩,
                        ⟨"__fork__", [some 0], [some 1, some 6]⟩],
             lines := #[⟨0, 0, 6, 0⟩, ⟨6, 0, 2, 0⟩, ⟨1, 0, 2, 1⟩, ⟨2, 0, 3, 0⟩, ⟨2, 1, 4, 0⟩, ⟨4, 0, 5, 0⟩, ⟨6, 1, 4, 1⟩],
             io := [0, 1, 3, 5] },
    names := #["a", "b", "u", "z", "ff", "q", "a"] }

/-- hypotheses of `substitute_ports`, `substitute_state_perm`, `substitute_regular`, `substitute_snames`, `substitute_wiring`,
    `substitute_sem_partial` are satisfiable: the designated cell is `X=INV1` (node 6 of the implementation).  The three
    `example`s after this one evaluate the result: added nodes and `s_nodes` names; copied lines and the cell; the host lines
    at the pins of the instance.  It is the dump the real `substitute` produces on this input (harness/c10.py compares model
    dumps with the dumps of the real objects on random inputs) -/
example : exHost.wf = true ∧ exHost.net.io.contains 2 = false ∧ regularB exHost 2 exImpl = true ∧ denseB exHost 2 exImpl = true ∧
    (implShape exImpl).map (fun sh => (sh.inPorts, sh.outLines, sh.des)) = some ([0, 1], [3, 5], some 6) ∧
    -- the class condition of `substitute_snames`
    hasSub "dff" (exImpl.net.node 6).kind.toLower = hasSub "dff" (exHost.net.node 2).kind.toLower ∧
    hasSub "latch" (exImpl.net.node 6).kind.toLower = hasSub "latch" (exHost.net.node 2).kind.toLower ∧
    ((List.range exImpl.net.nodes.size).all fun j => j == 6 || !isSeqKind (exImpl.net.node j).kind) = true := by decide +kernel
example : (substitute exHost 2 exImpl).map (fun r => (r.kindNames.drop 7, r.sNames)) =
    some ([("__fork__", "u~A"), ("__fork__", "u~X"), ("NAND2", "u~T"), ("OR2", "u~Y")], ["a", "b", "z", "q", "ff"]) := by
  decide +kernel
example : (substitute exHost 2 exImpl).map (fun r => (r.net.lines.toList.drop 7, (r.net.node 2).kind, (r.net.node 2).ins, (r.net.node 2).outs)) =
    some ([⟨9, 0, 2, 0⟩, ⟨7, 0, 9, 0⟩, ⟨2, 0, 8, 0⟩, ⟨8, 0, 10, 1⟩, ⟨7, 1, 10, 0⟩], "INV1", [some 7], [some 9]) := by
  decide +kernel
example : (substitute exHost 2 exImpl).map (fun r => (r.net.line 1, r.net.line 2, r.net.line 3, r.net.line 4)) =
    some (⟨6, 0, 7, 0⟩, ⟨1, 0, 9, 1⟩, ⟨8, 1, 3, 0⟩, ⟨10, 0, 4, 0⟩) := by decide +kernel

/-- hypotheses of `substitute_wf` / `substitute_sem` are satisfiable (`exHost`, cell 2, `exImpl`: two outputs, an output read
    inside, inputs with one and with two readers); the result is well-formed, has 5 copied lines, and a consistent
    labelling of it exists (the evaluator's), so direction (1) of `substitute_sem` is not vacuous -/
example : exHost.wf = true ∧ exImpl.wf = true ∧ exHost.net.io.contains 2 = false ∧ (exHost.net.node 2).isFork = false ∧
    regularB exHost 2 exImpl = true ∧ keepsAllB exHost 2 exImpl = true ∧ implOKB exImpl = true ∧
    (substitute exHost 2 exImpl).map (fun r => (r.wf, r.net.lines.size,
      consistentB r.net false (!·) prim2 (fun j => j == 0 || j == 4) (evalAll r.net false (!·) prim2 (fun j => j == 0 || j == 4)))) =
      some (true, 12, true) := by decide +kernel

/-- regular use with an unconnected input pin: the instance `u` has pin `A` only; line 2 of `exImpl` (from port `B` to the
    `NAND2`) is absent (`deadLine`), the copied `NAND2` has one pin — `substitute_sem` relates the result to
    `cutIns exImpl …`, the implementation without that line ("kyupy's own reading of a missing pin") -/
def exHostI : NNet :=
  { net := { nodes := #[⟨"input", [], [some 0]⟩, ⟨"AOCELL", [some 0], [some 1, some 2]⟩, ⟨"output", [some 1], []⟩,
                        ⟨"output", [some 2], []⟩],
             lines := #[⟨0, 0, 1, 0⟩, ⟨1, 0, 2, 0⟩, ⟨1, 1, 3, 0⟩], io := [0, 2, 3] },
    names := #["a", "u", "z", "y"] }
example : exHostI.wf = true ∧ regularB exHostI 1 exImpl = true ∧ keepsAllB exHostI 1 exImpl = true ∧
    (exHostI.net.node 1).isFork = false ∧
    (implShape exImpl).map (fun sh => (List.range exImpl.net.lines.size).filter (deadLine exHostI 1 exImpl sh)) = some [2] ∧
    (substitute exHostI 1 exImpl).map (fun r => (r.wf, (r.net.node 6).kind, (r.net.node 6).ins)) =
      some (true, "NAND2", [some 4]) := by decide +kernel

/-- why a port is no designated cell (known finding D32, fixed in circuit.py).  Under the rule `designated_cell = n`
    (`substituteOld`, Model/SubstSem.lean: the node at which the walk from the first output ends, port or not) a Verilog-style
    feed-through `input A -> fork a -> output X` as implementation makes the port cell `A` the designated cell: the host cell
    takes kind `input`, its copied line to the fork `u~a` (line 2) loses the fork's pin 0 to the instance's input line (line 0).
    Every pin is connected and nothing is ignored, yet the result is not a well-formed circuit, and `copy()` / a pickle round
    trip of it connects the fork to the stale line so that the output reads 0 instead of the input
    (`substitute_designated_port_not_wf`, corpus/C10-designated-port.json, harness class `substitute-designated-port`).
    Under the rule of circuit.py (`designated_cell = None if n in ios else n`, model `implShape`; the instance is removed) the
    result is the well-formed feed-through `i -> u~a -> o` (`substitute_feedthrough_repaired`), and under `implOKB` the
    designated cell is never a port (`implShape_des_notPort`). -/
def exFeed : NNet :=
  { net := { nodes := #[⟨"input", [], [some 0]⟩, ⟨"__fork__", [some 0], [some 1]⟩, ⟨"output", [some 1], []⟩],
             lines := #[⟨0, 0, 1, 0⟩, ⟨1, 0, 2, 0⟩], io := [0, 2] },
    names := #["A", "a", "X"] }
def exFeedHost : NNet :=
  { net := { nodes := #[⟨"input", [], [some 0]⟩, ⟨"CELL", [some 0], [some 1]⟩, ⟨"output", [some 1], []⟩],
             lines := #[⟨0, 0, 1, 0⟩, ⟨1, 0, 2, 0⟩], io := [0, 2] },
    names := #["i", "u", "o"] }
theorem substitute_designated_port_not_wf :
    exFeed.wf = true ∧ exFeedHost.wf = true ∧ (implShapeOld exFeed).map (·.des) = some (some 0) ∧
    (substituteOld exFeedHost 1 exFeed).map (fun r => (r.wf, (r.net.node 1).kind, r.net.line 2, (r.net.node 3).ins)) =
      some (false, "input", ⟨1, 0, 3, 0⟩, [some 0]) := by decide +kernel

/-- `substitute` on the same input: no designated cell, the instance `u` is removed (the last node `o` takes its
    index, the fork `u~a` is appended), the result `i -> u~a -> o` is well-formed and `copy()` of it has the same lines
    (`copy_dump_eq` applies) -/
theorem substitute_feedthrough_repaired :
    (implShape exFeed).map (·.des) = some none ∧
    (substitute exFeedHost 1 exFeed).map (fun r => (r.wf, r.kindNames, r.net.io)) =
      some (true, [("input", "i"), ("output", "o"), ("__fork__", "u~a")], [0, 1]) ∧
    (substitute exFeedHost 1 exFeed).map (fun r => (r.net.lines.toList, (copyNet r).net.lines.toList)) =
      some ([⟨0, 0, 2, 0⟩, ⟨2, 0, 1, 0⟩], [⟨0, 0, 2, 0⟩, ⟨2, 0, 1, 0⟩]) := by
  decide +kernel

/-- a use of `substitute` in which a copied fork gets a GAP (known finding D30; `C09.exGap` at object level): fork `F` of the
    implementation drives the output port `O1` at pin 0 and the `INV1` at pin 1, the instance has `O1` open.  Nothing is removed
    (`keepsAllB`: `F` keeps a connected output), `denseB` is false, `substituteCore` leaves `u~F.outs = [None, line 2]` and
    `substitute` makes it `[line 2]` with `driver_pin` 0 — `substitute_wf` / `substitute_sem` apply (they need no `denseB`) -/
def exGapImpl : NNet :=
  { net := { nodes := #[⟨"input", [], [some 0]⟩, ⟨"__fork__", [some 0], [some 1, some 2]⟩, ⟨"INV1", [some 2], [some 3]⟩,
                        ⟨"output", [some 1], []⟩, ⟨"output", [some 3], []⟩],
             lines := #[⟨0, 0, 1, 0⟩, ⟨1, 0, 3, 0⟩, ⟨1, 1, 2, 0⟩, ⟨2, 0, 4, 0⟩], io := [0, 4, 3] },
    names := #["A", "F", "X", "O1", "O2"] }
example : exGapImpl.wf = true ∧ exFeedHost.wf = true ∧ exFeedHost.net.io.contains 1 = false ∧ (exFeedHost.net.node 1).isFork = false ∧
    keepsAllB exFeedHost 1 exGapImpl = true ∧ implOKB exGapImpl = true ∧ regularB exFeedHost 1 exGapImpl = false ∧
    denseB exFeedHost 1 exGapImpl = false ∧
    (substituteCore exFeedHost 1 exGapImpl).map (fun r => (r.1.net.node 3).outs) = some [none, some 2] ∧
    (substitute exFeedHost 1 exGapImpl).map (fun r => (r.wf, (r.net.node 3).kind, (r.net.node 3).outs, r.net.line 2)) =
      some (true, "__fork__", [some 2], ⟨3, 0, 1, 0⟩) := by decide +kernel

/-- uses in which `substitute` removes something (`substitute_ports` and `substitute_state_perm` cover them; their semantics
    is `substitute_sem_removing` for the first and `substitute_sem_general` for the second): with output pin 1 of the instance
    unconnected the `OR2` of `exImpl` dangles and is removed; with an implementation that ignores its input and has no node
    of its own the cell and its in-line are removed, and the last node takes the cell's index -/
def exHostU : NNet :=
  { net := { nodes := #[⟨"input", [], [some 0]⟩, ⟨"input", [], [some 2]⟩, ⟨"AOCELL", [some 1, some 2], [some 3]⟩,
                        ⟨"output", [some 3], []⟩, ⟨"DFF", [none, some 5], [some 4]⟩, ⟨"output", [some 4], []⟩,
                        ⟨"__fork__", [some 0], [some 1, some 5]⟩],
             lines := #[⟨0, 0, 6, 0⟩, ⟨6, 0, 2, 0⟩, ⟨1, 0, 2, 1⟩, ⟨2, 0, 3, 0⟩, ⟨4, 0, 5, 0⟩, ⟨6, 1, 4, 1⟩],
             io := [0, 1, 3, 5] },
    names := #["a", "b", "u", "z", "ff", "q", "a"] }
def exFill : NNet :=
  { net := { nodes := #[⟨"input", [], [some 0]⟩, ⟨"FILL", [some 0], []⟩, ⟨"DFF", [], []⟩], lines := #[⟨0, 0, 1, 0⟩], io := [0] },
    names := #["a", "u", "ff"] }
example : exHostU.wf = true ∧ exHostU.net.io.contains 2 = false ∧ regularB exHostU 2 exImpl = false ∧
    (substitute exHostU 2 exImpl).map (fun r => (r.net.nodes.size, r.kindNames.drop 7, r.sNames)) =
      some (10, [("__fork__", "u~A"), ("__fork__", "u~X"), ("NAND2", "u~T")], ["a", "b", "z", "q", "ff"]) := by decide +kernel
example : exFill.wf = true ∧
    (substitute exFill 1 { net := { nodes := #[⟨"__fork__", [], []⟩], lines := #[], io := [0] }, names := #["A"] }).map
      (fun r => (r.kindNames, r.net.lines.size)) = some ([("input", "a"), ("DFF", "ff")], 0) := by decide +kernel

/-- an unconnected output whose driver stays (`keepsAllB` but not `regularB`): a flip-flop cell `input(D,C) output(Q,QN)` whose
    outputs are the two pins of one `DFF` primitive, instantiated with `QN` open — nothing is removed, the host cell becomes
    the `DFF`, `substitute_wf` / `substitute_sem` apply.  (With `exHostU`, where the `OR2` of `exImpl` dangles and is
    removed, `keepsAllB` is false: that use belongs to `substitute_sem_removing`.) -/
def exImplFF : NNet :=
  { net := { nodes := #[⟨"__fork__", [], [some 0]⟩, ⟨"__fork__", [], [some 1]⟩, ⟨"__fork__", [some 2], []⟩,
                        ⟨"__fork__", [some 3], []⟩, ⟨"DFF", [some 0, some 1], [some 2, some 3]⟩],
             lines := #[⟨0, 0, 4, 0⟩, ⟨1, 0, 4, 1⟩, ⟨4, 0, 2, 0⟩, ⟨4, 1, 3, 0⟩], io := [0, 1, 2, 3] },
    names := #["D", "C", "Q", "QN", "Q"] }
def exHostFF : NNet :=
  { net := { nodes := #[⟨"input", [], [some 0]⟩, ⟨"input", [], [some 1]⟩, ⟨"DFFX1", [some 0, some 1], [some 2]⟩,
                        ⟨"output", [some 2], []⟩],
             lines := #[⟨0, 0, 2, 0⟩, ⟨1, 0, 2, 1⟩, ⟨2, 0, 3, 0⟩], io := [0, 1, 3] },
    names := #["d", "clk", "u", "q"] }
example : exImplFF.wf = true ∧ exHostFF.wf = true ∧ regularB exHostFF 2 exImplFF = false ∧ keepsAllB exHostFF 2 exImplFF = true ∧
    implOKB exImplFF = true ∧ exHostFF.net.io.contains 2 = false ∧ (exHostFF.net.node 2).isFork = false ∧
    keepsAllB exHostU 2 exImpl = false ∧
    (substitute exHostFF 2 exImplFF).map (fun r => (r.wf, (r.net.node 2).kind, (r.net.node 2).outs, r.sNames)) =
      some (true, "DFF", [some 2], ["d", "clk", "q", "u"]) := by decide +kernel

/-- hypotheses of `substitute_sem_removing` / `remove_dangling_sem` are satisfiable and something is removed: with `exHostU` the
    `OR2` of `exImpl` dangles (11 nodes before, 10 after the removal); with the cell `input(D,C) output(Q,Z)`, `Q` = pin 0 of a
    `DFF`, `Z = INV1(pin 1 of the DFF)`, instantiated with `Z` open, the `INV1` is removed and leaves a trailing `None` in the
    `outs` of the `DFF` (`[some 2, none]`): the result is well-formed only up to trailing `None`s (`wfNoTrail`), as the
    theorems state -/
def exImplFZ : NNet :=
  { net := { nodes := #[⟨"__fork__", [], [some 0]⟩, ⟨"__fork__", [], [some 1]⟩, ⟨"__fork__", [some 2], []⟩,
                        ⟨"__fork__", [some 4], []⟩, ⟨"DFF", [some 0, some 1], [some 2, some 3]⟩, ⟨"INV1", [some 3], [some 4]⟩],
             lines := #[⟨0, 0, 4, 0⟩, ⟨1, 0, 4, 1⟩, ⟨4, 0, 2, 0⟩, ⟨4, 1, 5, 0⟩, ⟨5, 0, 3, 0⟩], io := [0, 1, 2, 3] },
    names := #["D", "C", "Q", "Z", "Q", "Z"] }
example : noIgnoredB exHostU 2 exImpl = true ∧ keepsAllB exHostU 2 exImpl = false ∧
    (substituteCore exHostU 2 exImpl).map (fun r => (r.1.wf, r.1.net.nodes.size, r.2.2)) = some (true, 11, [some 10]) ∧
    (substitute exHostU 2 exImpl).map (fun r => (r.wf, r.wfNoTrail, r.net.nodes.size)) = some (true, true, 10) ∧
    exImplFZ.wf = true ∧ implOKB exImplFZ = true ∧ noIgnoredB exHostFF 2 exImplFZ = true ∧
    (substitute exHostFF 2 exImplFZ).map (fun r => (r.wf, r.wfNoTrail, (r.net.node 2).kind, (r.net.node 2).outs, r.net.nodes.size)) =
      some (false, true, "DFF", [some 2, none], 4) := by decide +kernel

/-- hypotheses of `resolve_sem`: every substitution of the example removes nothing (`resolveOKB`); the result is consistent under the
    evaluator's labelling (direction (1) is not vacuous) -/
example : exHost.wf = true ∧ resolveOKB [("AOCELL", exImpl)] exHost.keys exHost = true ∧
    (resolveCells [("AOCELL", exImpl)] exHost).map (fun r => (r.wf,
      consistentB r.net false (!·) prim2 (fun j => j == 1 || j == 4) (evalAll r.net false (!·) prim2 (fun j => j == 1 || j == 4)))) =
      some (true, true) := by decide +kernel

/-- hypotheses of `resolve_ports`: the host of the example with the library `AOCELL ↦ exImpl` -/
example : exHost.wf = true ∧ (exHost.net.io.all fun i => (Lib.find [("AOCELL", exImpl)] (exHost.net.node i).kind).isNone) = true ∧
    (resolveCells [("AOCELL", exImpl)] exHost).map (fun r => (r.net.nodes.size, r.ioNames)) = some (11, ["a", "b", "z", "q"]) := by
  decide +kernel

/-! ## the general semantic statement about `substitute` (ignored input pins, implementations without designated cell) -/

/-- **the general semantic statement about `substitute`** (conclusion of `substitute_sem_general`).  `substitute` may remove things: the host
    line at an instance pin that the implementation ignores (`Line.remove()`, the last line takes its index), the instance
    itself when the implementation has no designated cell (`Node.remove()`, the last node takes its index), dangling logic
    behind an unconnected output.  Host line / node indices are therefore not stable, and the statement is along **index maps**
    `R` (as `elim_sem` / `remove_dangling_sem`): `R.node j'` / `R.line l'` = the *canonical index* of node `j'` / line `l'` of the
    result `h'`, where a host node or line has its index in `h`, the copy of implementation node `j` has index `map[j]`
    (`node_map` in canonical indices: `c` for the designated cell, indices behind the host's nodes for the others; an
    existential witness: not the array `substituteCore h c m` returns, whose entries are indices after the renumbering, but
    that array renamed to canonical indices) and the copy of the `t`-th copied implementation line (`copiedLines m map`) has
    index `h.lines.size + t`; `glueV h m map v vm` = the labelling of the canonical line indices made of a host labelling `v`
    and an implementation labelling `vm`.
    * `h'` is well-formed up to trailing `None`s; `R` is injective on nodes and on lines; ports are kept in order;
    * every host node other than the cell survives, with kind, name and (pin by pin, renamed) the same input lines; the copy
      of an implementation node has its kind (a port becomes a fork); every flip-flop / latch of the implementation
      survives; only host lines that END AT THE CELL can disappear (the lines at
      ignored pins, lines into removed dangling logic); a surviving host line not driven by the cell keeps its driver (and
      its driver pin, unless the driver is a fork, whose outputs `Line.remove()` squeezes);
    * **(1)** every labelling `(an', v')` of `h'` that is consistent outside `S` (any set of host nodes other than the cell,
      read through `R`) comes from a labelling `(an, v)` of the WHOLE host that is consistent outside `S ∪ {c}` and a labelling
      `(anm, vm)` of the implementation with `ImplMatches h c m sh anm vm v` (the cell means its implementation), `v'` being
      the restriction of `glueV … v vm` along `R` and `an'` that of `an` / `anm`; the values of the removed host lines that are
      driven by a hole in `S` can be prescribed (`pre`) — no equation constrains them (needed for `resolve_sem_general`, where a
      removed line may be driven by a cell that is substituted later);
    * **(2)** conversely every such pair glues and restricts to a labelling of `h'` consistent outside `S`. -/
def SubstGenStmt {α : Type _} (h m h' : NNet) (c : Nat) (z : α) (neg : α → α) (prim : String → α → α → α → α → α) : Prop :=
    ∃ (sh : Shape) (map : Array (Option Nat)) (R : Ren),
      implShape m = some sh ∧ h'.wfNoTrail = true ∧
      -- `node_map`
      (∀ j x, map.getD j none = some x → j < m.net.nodes.size ∧ (x = c ∨ h.net.nodes.size ≤ x)) ∧
      (∀ j1 j2 x, map.getD j1 none = some x → map.getD j2 none = some x → j1 = j2) ∧
      -- the index maps
      (∀ j1 j2, j1 < h'.net.nodes.size → j2 < h'.net.nodes.size → R.node j1 = R.node j2 → j1 = j2) ∧
      (∀ l1 l2, l1 < h'.net.lines.size → l2 < h'.net.lines.size → R.line l1 = R.line l2 → l1 = l2) ∧
      (∀ l', l' < h'.net.lines.size → R.line l' < h.net.lines.size + (copiedLines m map).length) ∧
      h'.net.io.map R.node = h.net.io ∧
      (∀ j', j' < h'.net.nodes.size → R.node j' < h.net.nodes.size → R.node j' ≠ c →
        (h'.net.node j').kind = (h.net.node (R.node j')).kind ∧ h'.names.getD j' "" = h.names.getD (R.node j') "" ∧
        ∀ k, ((h'.net.node j').inPin k).map R.line = (h.net.node (R.node j')).inPin k) ∧
      (∀ j x j', map.getD j none = some x → j' < h'.net.nodes.size → R.node j' = x →
        (h'.net.node j').kind = if j ∈ m.net.io then "__fork__" else (m.net.node j).kind) ∧
      -- what survives
      (∀ d, d < h.net.nodes.size → d ≠ c → ∃ j', j' < h'.net.nodes.size ∧ R.node j' = d) ∧
      (∀ j x, map.getD j none = some x → isSeqKind (if j ∈ m.net.io then "__fork__" else (m.net.node j).kind) = true →
        ∃ j', j' < h'.net.nodes.size ∧ R.node j' = x) ∧
      (∀ l, l < h.net.lines.size → (h.net.line l).reader ≠ c → ∃ l', l' < h'.net.lines.size ∧ R.line l' = l) ∧
      (∀ l', l' < h'.net.lines.size → R.line l' < h.net.lines.size → (h.net.line (R.line l')).driver ≠ c →
        R.node (h'.net.line l').driver = (h.net.line (R.line l')).driver ∧
        ((h'.net.line l').dpin = (h.net.line (R.line l')).dpin ∨ (h.net.node (h.net.line (R.line l')).driver).isFork = true)) ∧
      -- (1) result ⇒ host with the cell meaning its implementation
      (∀ (S : Nat → Prop), (∀ s, S s → s < h.net.nodes.size ∧ s ≠ c) → ∀ (pre an' v' : Nat → α),
        ConsOff h' (fun j' => S (R.node j')) z neg prim an' v' →
        ∃ an v anm vm, ConsOff h (fun d => S d ∨ d = c) z neg prim an v ∧ ImplMatches h c m sh z neg prim anm vm v ∧
          (∀ l', l' < h'.net.lines.size → v' l' = glueV h m map v vm (R.line l')) ∧
          (∀ j', j' < h'.net.nodes.size → R.node j' < h.net.nodes.size → R.node j' ≠ c → an' j' = an (R.node j')) ∧
          (∀ j x j', j ∉ m.net.io → map.getD j none = some x → j' < h'.net.nodes.size → R.node j' = x → an' j' = anm j) ∧
          (∀ l, l < h.net.lines.size → (¬ ∃ l', l' < h'.net.lines.size ∧ R.line l' = l) → S (h.net.line l).driver → v l = pre l)) ∧
      -- (2) host with the cell meaning its implementation ⇒ result
      (∀ (S : Nat → Prop) (an v anm vm : Nat → α), ConsOff h (fun d => S d ∨ d = c) z neg prim an v →
        ImplMatches h c m sh z neg prim anm vm v →
        ∃ an' v', ConsOff h' (fun j' => S (R.node j')) z neg prim an' v' ∧
          (∀ l', l' < h'.net.lines.size → v' l' = glueV h m map v vm (R.line l')) ∧
          (∀ j', j' < h'.net.nodes.size → R.node j' < h.net.nodes.size → R.node j' ≠ c → an' j' = an (R.node j')) ∧
          (∀ j x j', j ∉ m.net.io → map.getD j none = some x → j' < h'.net.nodes.size → R.node j' = x → an' j' = anm j))

/-- **`substitute` preserves the function — general case**: every host that is well-formed up to trailing `None`s (as left by a preceding
    substitution), every well-formed implementation satisfying `implGenOKB` (ports distinct, no port a flip-flop/latch,
    driven ports that are read inside are forks — WITH or WITHOUT designated cell), cell neither port nor fork, connected
    input pins may be IGNORED by the implementation (`noSelfIgnB`: such a pin is not driven by the cell itself), input and
    output pins may be unconnected, dangling logic is removed: `SubstGenStmt` holds.  The hypotheses contain those of
    `substitute_sem` / `substitute_sem_removing` and two cases outside them: (a) an ignored connected input pin (`Line.remove()`
    renumbers the lines in the middle of the connecting loop), (b) no designated cell (`node.remove()` renumbers the nodes). -/
theorem substitute_sem_general {α : Type _} (h m h' : NNet) (c : Nat) (hw : h.wfNoTrail = true) (mw : m.wf = true)
    (hc : c < h.net.nodes.size) (hio : h.net.io.contains c = false) (hcf : (h.net.node c).isFork = false)
    (hok : implGenOKB m = true) (hns : noSelfIgnB h c m = true) (he : substitute h c m = some h')
    (z : α) (neg : α → α) (prim : String → α → α → α → α → α) : SubstGenStmt h m h' c z neg prim := by
  obtain ⟨sh, map, R, hs, g⟩ := substitute_general z neg prim h m h' c (WFm.of_wfNoTrail hw) (WF.of_wf mw) hc (by simpa using hio) hcf
    hok hns he
  exact ⟨sh, map, R, hs, wfNoTrail_of_WFm g.wf', g.mapM, g.mapInj, g.nodeInj, g.lineInj, g.lineLt, g.io, g.hostNode, g.copyNode,
    g.hostSurj, g.seqSurj, g.lineSurj, g.hostDrv, g.fw, g.bw⟩

/-! ### non-vacuity of `substitute_sem_general` -/
/-- (a) a cell that ignores an input pin: `TBUF`-style `input(A,EN) output(Z) Z=BUF1(A)` as `TechLib` builds it (port `EN`, node 1,
    has no reader) -/
def exTbuf : NNet :=
  { net := { nodes := #[⟨"__fork__", [], [some 0]⟩, ⟨"__fork__", [], []⟩, ⟨"__fork__", [some 1], []⟩, ⟨"BUF1", [some 0], [some 1]⟩],
             lines := #[⟨0, 0, 3, 0⟩, ⟨3, 0, 2, 0⟩], io := [0, 1, 2] },
    names := #["A", "EN", "Z", "Z"] }
/-- host: `u = TBUF(a, en)`, `z = u`; the fork `en` also feeds an inverter `n` -/
def exTbufHost : NNet :=
  { net := { nodes := #[⟨"input", [], [some 0]⟩, ⟨"input", [], [some 4]⟩, ⟨"TBUF", [some 0, some 1], [some 2]⟩, ⟨"output", [some 2], []⟩,
                        ⟨"__fork__", [some 4], [some 1, some 3]⟩, ⟨"INV1", [some 3], [some 5]⟩, ⟨"output", [some 5], []⟩],
             lines := #[⟨0, 0, 2, 0⟩, ⟨4, 0, 2, 1⟩, ⟨2, 0, 3, 0⟩, ⟨4, 1, 5, 0⟩, ⟨1, 0, 4, 0⟩, ⟨5, 0, 6, 0⟩], io := [0, 1, 3, 6] },
    names := #["a", "en", "u", "z", "en", "n", "y"] }
/-- hypotheses of `substitute_sem_general` on the `TBUF` example: the enable pin is connected and ignored (`hasIgnoredB`; so
    `noIgnoredB` fails and `substitute_sem` / `substitute_sem_removing` do not apply); `Line.remove()` deletes line 1, the last
    line (5) takes its index, the fork `en` is squeezed (line 3 moves from output pin 1 to pin 0) -/
example : exTbufHost.wfNoTrail = true ∧ exTbuf.wf = true ∧ exTbufHost.net.io.contains 2 = false ∧
    (exTbufHost.net.node 2).isFork = false ∧ implGenOKB exTbuf = true ∧ noSelfIgnB exTbufHost 2 exTbuf = true ∧
    hasIgnoredB exTbufHost 2 exTbuf = true ∧ noIgnoredB exTbufHost 2 exTbuf = false ∧
    (substitute exTbufHost 2 exTbuf).map (fun r => (r.wf, r.net.lines.toList, (r.net.node 2).kind, (r.net.node 4).outs)) =
      some (true, [⟨0, 0, 2, 0⟩, ⟨5, 0, 6, 0⟩, ⟨2, 0, 3, 0⟩, ⟨4, 0, 5, 0⟩, ⟨1, 0, 4, 0⟩], "BUF1", [some 3]) := by decide +kernel

/-- (b) a cell without output (antenna / filler): `input(A)`; no designated cell, the instance is removed (`node.remove()`: the last
    node takes its index) together with the line at its ignored pin -/
def exAnt : NNet := { net := { nodes := #[⟨"__fork__", [], []⟩], lines := #[], io := [0] }, names := #["A"] }
def exAntHost : NNet :=
  { net := { nodes := #[⟨"input", [], [some 0]⟩, ⟨"__fork__", [some 0], [some 1, some 2]⟩, ⟨"ANTENNA", [some 1], []⟩, ⟨"output", [some 2], []⟩],
             lines := #[⟨0, 0, 1, 0⟩, ⟨1, 0, 2, 0⟩, ⟨1, 1, 3, 0⟩], io := [0, 3] },
    names := #["a", "a", "u", "z"] }
example : exAntHost.wfNoTrail = true ∧ exAnt.wf = true ∧ exAntHost.net.io.contains 2 = false ∧ (exAntHost.net.node 2).isFork = false ∧
    implGenOKB exAnt = true ∧ noSelfIgnB exAntHost 2 exAnt = true ∧ (implShape exAnt).map (·.des) = some none ∧ implOKB exAnt = false ∧
    (substitute exAntHost 2 exAnt).map (fun r => (r.wf, r.kindNames, r.net.lines.toList, r.net.io)) =
      some (true, [("input", "a"), ("__fork__", "a"), ("output", "z")], [⟨0, 0, 1, 0⟩, ⟨1, 0, 2, 0⟩], [0, 2]) := by decide +kernel

/-- (b) the feed-through `input A -> fork a -> output X` (an implementation without designated cell): hypotheses of
    `substitute_sem_general` hold for `exFeedHost`, cell 1 -/
example : exFeedHost.wfNoTrail = true ∧ exFeed.wf = true ∧ exFeedHost.net.io.contains 1 = false ∧ (exFeedHost.net.node 1).isFork = false ∧
    implGenOKB exFeed = true ∧ noSelfIgnB exFeedHost 1 exFeed = true ∧ (implShape exFeed).map (·.des) = some none ∧
    (substitute exFeedHost 1 exFeed).map (fun r => (r.wf, r.kindNames)) =
      some (true, [("input", "i"), ("output", "o"), ("__fork__", "u~a")]) := by decide +kernel

/-- a host that is well-formed only up to trailing `None`s (the result of `exHostFF` with `exImplFZ`: the `DFF` has `outs = [line, None]`)
    satisfies the host hypothesis of `substitute_sem_general` — `substitute_sem` needs `wf` -/
example : ((substitute exHostFF 2 exImplFZ).map fun r => (r.wf, r.wfNoTrail)) = some (false, true) := by decide +kernel

/-! ## `resolve_tlib_cells` through substitutions that remove lines, instances and dangling logic -/

/-- **`resolve_tlib_cells` preserves the function — general case** (model `resolveCells`; every substitution along the loop satisfies the
    hypotheses of `substitute_sem_general`: `resolveGenOKB`, decidable, evaluated by running the model — implementations with
    or without designated cell, ignored input pins, unconnected outputs with dangling logic; the circuit between two
    substitutions is well-formed only up to trailing `None`s).  With `cell x` = "`x` is a node of the original circuit `h` whose
    kind is in the library" and index maps `ρ` from the result `h'` to `h` (`ρ.node j < h.nodes.size`: node `j` of `h'` IS the
    original node `ρ.node j`; `ρ.line l < h.lines.size`: line `l` of `h'` IS the original line `ρ.line l`; injective there):
    the result is well-formed up to trailing `None`s and keeps the ports in order; every original node that is no library cell
    survives with kind, name and (pin by pin, renamed) its input lines;
    **(1)** every consistent labelling `(an', v')` of the result is the restriction (along `ρ`) of a labelling `(an, v)` of the WHOLE
    original circuit — the removed lines included — that is consistent outside the library cells and gives every library
    cell `c` the relational meaning of its implementation (`ImplMatches`, with the ORIGINAL pins of `c`, also those whose
    lines a substitution removed); **(2)** conversely every such labelling of the original circuit restricts/extends to a
    consistent labelling of the result. -/
theorem resolve_sem_general {α : Type _} (lib : Lib) (h h' : NNet) (hw : h.wfNoTrail = true) (hok : resolveGenOKB lib h.keys h = true)
    (he : resolveCells lib h = some h') (z : α) (neg : α → α) (prim : String → α → α → α → α → α) :
    h'.wfNoTrail = true ∧ ∃ ρ : Ren,
      h'.net.io.map ρ.node = h.net.io ∧
      (∀ j1 j2, j1 < h'.net.nodes.size → j2 < h'.net.nodes.size → ρ.node j1 < h.net.nodes.size → ρ.node j1 = ρ.node j2 → j1 = j2) ∧
      (∀ l1 l2, l1 < h'.net.lines.size → l2 < h'.net.lines.size → ρ.line l1 < h.net.lines.size → ρ.line l1 = ρ.line l2 → l1 = l2) ∧
      (∀ d, d < h.net.nodes.size → (lib.find (h.net.node d).kind).isSome = false →
        ∃ j, j < h'.net.nodes.size ∧ ρ.node j = d ∧ (h'.net.node j).kind = (h.net.node d).kind ∧
          h'.names.getD j "" = h.names.getD d "" ∧ ∀ k, ((h'.net.node j).inPin k).map ρ.line = (h.net.node d).inPin k) ∧
      (∀ an' v' : Nat → α, ConsOff h' (fun _ => False) z neg prim an' v' →
        ∃ an v, ConsOff h (fun x => x < h.net.nodes.size ∧ (lib.find (h.net.node x).kind).isSome = true) z neg prim an v ∧
          (∀ c, c < h.net.nodes.size → (lib.find (h.net.node c).kind).isSome = true →
            ∃ impl sh anm vm, lib.find (h.net.node c).kind = some impl ∧ implShape impl = some sh ∧
              ImplMatches h c impl sh z neg prim anm vm v) ∧
          (∀ l', l' < h'.net.lines.size → ρ.line l' < h.net.lines.size → v (ρ.line l') = v' l') ∧
          (∀ j, j < h'.net.nodes.size → ρ.node j < h.net.nodes.size → an (ρ.node j) = an' j)) ∧
      (∀ an v : Nat → α,
        ConsOff h (fun x => x < h.net.nodes.size ∧ (lib.find (h.net.node x).kind).isSome = true) z neg prim an v →
        (∀ c, c < h.net.nodes.size → (lib.find (h.net.node c).kind).isSome = true →
          ∃ impl sh anm vm, lib.find (h.net.node c).kind = some impl ∧ implShape impl = some sh ∧
            ImplMatches h c impl sh z neg prim anm vm v) →
        ∃ an' v', ConsOff h' (fun _ => False) z neg prim an' v' ∧
          (∀ l', l' < h'.net.lines.size → ρ.line l' < h.net.lines.size → v' l' = v (ρ.line l')) ∧
          (∀ j, j < h'.net.nodes.size → ρ.node j < h.net.nodes.size → an' j = an (ρ.node j))) := by
  obtain ⟨ρ, r⟩ := resolve_general_main lib h h' (WFm.of_wfNoTrail hw) z neg prim hok he
  refine ⟨wfNoTrail_of_WFm r.wf, ρ, r.io, r.nodeInj, r.lineInj, ?_, ?_, ?_⟩
  · intro d hd hn
    obtain ⟨j, hj, ej⟩ := r.pos d hd (fun hc => by rw [hn] at hc; exact absurd hc.2 (by simp))
    obtain ⟨n1, n2, n3⟩ := r.node j hj (ej ▸ hd)
    rw [ej] at n1 n2 n3
    exact ⟨j, hj, ej, n1, n2, n3⟩
  · intro an' v' hc
    obtain ⟨an, v, g1, g2, g3, g4, _⟩ := r.fw (fun _ => False) (fun _ hs => absurd hs id) (fun _ => z) an' v' hc
    exact ⟨an, v, consOff_congr (fun x => by simp) g1, fun c hc1 hc2 => g2 c ⟨hc1, hc2⟩, g3, g4⟩
  · intro an v hc hcells
    exact r.bw (fun _ => False) (fun _ hs => absurd hs id) an v (consOff_congr (fun x => by simp) hc)
      (fun c hc' => hcells c hc'.1 hc'.2)

/-- hypotheses of `resolve_sem_general` are satisfiable where `resolve_sem` does not apply (`resolveOKB` false): a library with the
    `TBUF`-style cell (ignored enable pin), the antenna cell (no output: the instance is removed) and `exImpl`; the enable fork
    feeds the `TBUF`, the antenna and an inverter.  The result is consistent under the evaluator's labelling (direction (1) is
    not vacuous) -/
def exResHost : NNet :=
  { net := { nodes := #[⟨"input", [], [some 0]⟩, ⟨"input", [], [some 1]⟩, ⟨"__fork__", [some 1], [some 2, some 3, some 4]⟩,
                        ⟨"TBUF", [some 0, some 2], [some 5]⟩, ⟨"ANTENNA", [some 3], []⟩, ⟨"INV1", [some 4], [some 6]⟩,
                        ⟨"AOCELL", [some 5, some 6], [some 7, some 8]⟩, ⟨"output", [some 7], []⟩, ⟨"output", [some 8], []⟩],
             lines := #[⟨0, 0, 3, 0⟩, ⟨1, 0, 2, 0⟩, ⟨2, 0, 3, 1⟩, ⟨2, 1, 4, 0⟩, ⟨2, 2, 5, 0⟩, ⟨3, 0, 6, 0⟩, ⟨5, 0, 6, 1⟩, ⟨6, 0, 7, 0⟩,
                        ⟨6, 1, 8, 0⟩],
             io := [0, 1, 7, 8] },
    names := #["a", "en", "en", "u", "ant", "n", "g", "x", "y"] }
example : exResHost.wfNoTrail = true ∧
    resolveGenOKB [("TBUF", exTbuf), ("ANTENNA", exAnt), ("AOCELL", exImpl)] exResHost.keys exResHost = true ∧
    resolveOKB [("TBUF", exTbuf), ("ANTENNA", exAnt), ("AOCELL", exImpl)] exResHost.keys exResHost = false ∧
    (resolveCells [("TBUF", exTbuf), ("ANTENNA", exAnt), ("AOCELL", exImpl)] exResHost).map (fun r => (r.wf, r.net.nodes.size,
      r.net.lines.size,
      consistentB r.net false (!·) prim2 (fun j => j == 0) (evalAll r.net false (!·) prim2 (fun j => j == 0)))) =
      some (true, 12, 12, true) ∧
    (resolveCells [("TBUF", exTbuf), ("ANTENNA", exAnt), ("AOCELL", exImpl)] exResHost).map (fun r => r.kindNames.take 8) =
      some [("input", "a"), ("input", "en"), ("__fork__", "en"), ("BUF1", "u"), ("output", "y"), ("INV1", "n"),
        ("INV1", "g"), ("output", "x")] := by decide +kernel

end KV.C10
