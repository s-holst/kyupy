import KyupyVerif.Proofs.Stil
import KyupyVerif.Proofs.StilText
import KyupyVerif.Proofs.StilExtract
import KyupyVerif.Proofs.MvChk
import KyupyVerif.Gen.MvTables
import KyupyVerif.Proofs.StilSim
import KyupyVerif.Drv.StilSim
/-! # C18 — STIL patterns map scan data onto flip-flops by chain order and inversion

Object: the hand-written model `KV.Stil` (Model/Stil.lean) of `stil.py` after parsing, in property mode
(`Mode.spec`: interface = `Circuit.s_nodes`, whole inversion vector).  A chain is `[si] ++ mid ++ [so]`; a cell
`x` of it is given by a decomposition `mid = pre ++ x :: post` (`x` not a marker): `(cellsOf post).length` is its
position counted from scan-out, `markers pre` / `markers post` the number of "!" between scan-in / scan-out and it.

**Name → row.**  Interface names need not be unique (bench-style `OUTPUT(q1) q1 = DFF(g)`: port fork
and flip-flop are both `q1`).  The theorems speak about `Circ.cellRow x` (row of a scan cell: looked up among the state elements
first) and `Circ.portRow x` (row of a `_pi`/`_po` member: among the ports first) — `_maps` of stil.py (`LookMode.role`);
`rows_by_role`: a cell that is a state element gets a state row with its name, a member that is a port a port row, whatever else
carries the name; `rows_unique_names`: with pairwise different names both are `s_nodes.idxOf x`;
`name_clash_as_found`: the look-up `LookMode.last` (one dictionary over all interface names, last position) on a bench-style circuit.  The harness probes
nothing here: the model in property mode is compared with the code under test, and a difference that the `LookMode.last` look-up
(`sfl`) reproduces is the oracle's violation class `name-clash`; the generator makes scan-out ports and plain
outputs of bench-style circuits the output fork of a flip-flop (tags `name-clash:*`).
**Hypotheses.**  `hnd` (the target rows of one call are pairwise different) is evaluated by the driver (`stil hnd`) on every case's
real parse result (tags `hyp:hnd:*`, together with "interface names pairwise different"); a well-formed generated case outside it
is a broken tie.  `hports : fl.portsOK = true` (decidable: the scan-in port names of the chains are pairwise different, and so
are the scan-out port names): the model walks the chain LIST, stil.py walks dictionaries keyed by port (`si_ports`, `scan_maps[chain[0]]`),
which keep the LAST chain of a port — with a shared port `hnd` still holds and the conclusion of `load_pos` is false for the code
(`shared_scan_port_outside`: two chains with one scan-in port are outside `portsOK`); every positional / launch-on-capture theorem carries `hports`
— no proof uses it: it marks the domain in which the model agrees with stil.py —,
`stil hnd` answers it (`ports=`) and a well-formed generated case with `ports=false` is a broken tie.  `hp : (extract fl)[i]? = some p` — `Stil.extract` (pattern assembly from the call list, stil.py:28-56):
the section "pattern assembly" at the end proves what it yields on call lists of the shape ATPG tools (and the generator)
write — `extract_blocks`, `extract_count`, `extract_pattern`; for ARBITRARY call lists (a `load_unload` without capture, two captures
in a row, calls of other names) it has no theorem: what it guarantees there (pattern `i` = the load of the `i`-th `load_unload` that is followed by a capture, the
launch / capture parameters of the calls between it and the next `load_unload`, the unload of that next `load_unload`; strings
with `\n` removed and `N` → `-`) is tied to `StilFile.__init__` by exact correspondence only (driver `stil pats` == `s.patterns`
on every case) and checked against the generator's pattern list by the oracle.
**Theorems (kernel-checked, all chains / marker placements / strings / circuits):**
* `load_pos`, `unload_pos`, `pi_po_map`/`po_map`, `order_is_s_nodes`, `loc_transition` (+ `loc_transition_input`, `loc_rowwise`)
  about the model; `interp_table`, `mv_transition_table`, `mv_xor_table`, `invLoad_code` tie the model's value functions to the
  tables generated from the real `logic.interpret`, `logic.mv_transition`, `logic.mv_xor` on every run;
* `legacy_interface_agrees`, `first_flag_agrees`: sufficient conditions for the variants `IntfMode.upperDff` / `InvMode.first` to coincide with the property mode;
  `legacy_inversion_differs`, `legacy_interface_differs`: concrete inputs where they do not.
* text level (section `text`, model `KV.StilText` in Model/StilText.lean = the grammar of `stil.py` read as lark reads it:
  contextual scanner with the per-state terminal order of the real `Lark` object incl. the merged states after a quoted name
  and after a skipped `{ .. }` region, `/[^;]+/` values, nested skipped regions; then `StilFile.ok` = what the transformer and
  `StilFile.__init__` raise on): `stil_text_roundtrip` — `parseStil (printStil f) = some f` for every valid syntax tree;
  `stil_text_roundtrip_tree` (grammar alone).  `StilFile.toFile` (`dict(..)` semantics, `.SI` / path stripping of cell names) is the
  hand-over to `KV.Stil.File`.
**Correspondence (sampled, harness/c18.py):** model in property mode = real `StilFile.tests/tests_loc/responses` on generated
circuit x STIL-text pairs, the model being fed with the real parse result.  Text level: the model reader (driver `stilparse`)
against the real lark grammar — parse tree with ALL tokens kept — the real `stil.parse` (accept / raise) and its three
dictionaries `signal_groups` / `scan_chains` / `calls` (= `toFile`) on generated, hand-written and mutated texts.  Still trusted:
that lark implements the grammar as the hand-written reader does — checked by this correspondence, not proved.
**Oracle:** real results vs the generator's ground truth (which flip-flop / port must hold which value).
The 8-valued simulation inside `tests_loc` is a parameter (`nxt`) of `Stil.testsLoc`; section "end to end" below instantiates it
with `StilSim.nxtOf` — the real 8-valued dispatch `semL8` on the `SimOps` program of the netlist, stimulus = init column on
fresh memory, rows read at the captured lines — and composes with C02:
* `tests_loc_end_to_end` (+ `_input`, `_open`, `tests_loc_rows`): the value for scan cell `x` is `mv_transition(loaded value,
  σ(data line of x))`, σ any (= the unique, `loc_labelling_unique`) labelling consistent with the netlist under the assignment
  `loc_assignment_state/_input/_rest`; every well-formed netlist, topological order, chain / marker / pattern set;
* `s_nodes_bridge`: the STIL model's `Circ` and the netlist `Net` have the same `s_nodes` when `compatB` (same `io_nodes`, same
  node list) holds; `nxtOf_has_shape`; `driver_evaluates_nxtOf`: the driver's array executor computes `nxtOf`;
  `nxtOf_memory`: the memory row `c_to_s` reads for position `i` under the map of the `SimOps` model (no `c_reuse`, no
  `strip_forks`, any capacities) is entry `i` of the model's column (composition with C08).
**Correspondence for the composition:** `nxtOf` = `bp_to_mv(s[1])` of the LogicSim inside the real `tests_loc` (recorded, and
recomputed on the init matrix) and `tests_loc` of the model with `nxtOf` = the real result, on every generated case; `compatB`,
`wfB`, `orderOKB`, `forksOKB` evaluated by the driver on every real circuit and order. Not theorem: that `SimOps.__init__` /
`LogicSim` compute the rows and memory behaviour of their models (exact correspondence in C01/C08; signal level here),
`mv_to_bp`/`bp_to_mv` packing (C15), the optional `init_filter`/`launch_filter` (identity). -/
namespace KV.C18
open KV KV.Stil

/-! ## value functions = generated tables of the real functions -/
/-- `interp` is `logic.interpret` on every printable ASCII character (table regenerated from the code) -/
theorem interp_table : (Gen.interpretAscii.all fun p => (interp (Char.ofNat p.1)).code == p.2) = true := by
  decide +kernel

/-- `mvTransition` (written from the docstring) is `logic.mv_transition`, all 64 rows: row = init + 8*final -/
theorem mv_transition_table (i f : V3) : tab Gen.mv_transition2 (i.code + 8 * f.code) = (mvTransition i f).code :=
  mvAgree2_sound (f := mvTransition) (by decide +kernel) i f

/-- `xorInv b v` is `logic.mv_xor(v, ONE if b else ZERO)` -/
theorem mv_xor_table (b : Bool) (v : V3) :
    tab Gen.mvpub_xor2 (v.code + 8 * (V3.ofBool b).code) = (xorInv b v).code :=
  mvAgree2_sound (f := fun a b => specXor [a, b]) (by decide +kernel) v (V3.ofBool b)

/-- `invLoad` is `pattern ^ choose(pattern is - or X, [3 if inverted else 0, 0])` on the 3-bit codes -/
theorem invLoad_code (b : Bool) (v : V3) :
    (invLoad b v).code = v.code ^^^ (if v.unk then 0 else if b then 3 else 0) := by
  rcases v with ⟨x, y, z⟩; cases b <;> cases x <;> cases y <;> cases z <;> decide

/-- unknown / unassigned load characters are untouched by inversion; 0/1 are complemented iff the parity is odd -/
theorem invLoad_unknown (b : Bool) (v : V3) (h : v.unk = true) : invLoad b v = v := by simp [invLoad, h]
theorem invLoad_bool (a b : Bool) : invLoad b (V3.ofBool a) = V3.ofBool (a ^^ b) := by
  cases a <;> cases b <;> decide
/-- unloads go through `mv_xor`: 0/1 complemented iff the parity is odd, `X` and `-` both come out as `X` -/
theorem xorInv_bool (a b : Bool) : xorInv b (V3.ofBool a) = V3.ofBool (a ^^ b) := by
  cases a <;> cases b <;> decide
theorem xorInv_unknown (b : Bool) (v : V3) (h : v.unk = true) : xorInv b v = V3.unknown := by
  rcases v with ⟨x, y, z⟩; cases b <;> cases x <;> cases y <;> cases z <;> first | decide | (simp [V3.unk] at h)

/-! ## name → row

`_maps` turns the names of the STIL file into rows of the result.  Interface names need not be unique: in a bench-style circuit
`OUTPUT(q1)  q1 = DFF(g)` the port fork and the flip-flop are both called `q1`.  With ONE dictionary over
`s_nodes` (`LookMode.last`, the LAST position of a name: the flip-flop) the `_po` character of port `q1` goes to the flip-flop's row and the
port row stays unassigned (`name_clash_as_found`).  stil.py and the theorems (`LookMode.role`): a `_pi`/`_po` member is
looked up among the ports first (`Circ.portRow`), a scan cell among the state elements first (`Circ.cellRow`); within its role
the last position counts (names are unique there in every real circuit: keys of `Circuit.cells` / `Circuit.forks`). -/

/-- the row of a scan cell that is a state element is a STATE row (at or behind `io_nodes`) carrying that name, whatever the ports
are called; the row of a group member that is a port is a PORT row carrying that name, whatever the state elements are called -/
theorem rows_by_role (c : Circ) (x : String) :
    (x ∈ c.stateNames → c.io.length ≤ c.cellRow x ∧ c.stateNames[c.cellRow x - c.io.length]? = some x) ∧
    (x ∈ c.io → c.portRow x < c.io.length ∧ c.io[c.portRow x]? = some x) ∧
    c.sNodes = c.io ++ c.stateNames :=
  ⟨cellRow_state, portRow_port, sNodes_split c⟩

/-- where the interface names are pairwise different (Verilog-style circuits: every interface node is a cell) both rows are
the position `s_nodes.idxOf x` -/
theorem rows_unique_names (c : Circ) (x : String) (hnd : c.sNodes.Nodup) (hx : x ∈ c.sNodes) :
    c.cellRow x = c.sNodes.idxOf x ∧ c.portRow x = c.sNodes.idxOf x := by
  have h1 := @cellRow_get c x hx
  have h2 := @portRow_get c x hx
  have h0 : c.sNodes[c.sNodes.idxOf x]? = some x := getElem?_idxOf hx
  exact ⟨(List.getElem?_inj (cellRow_lt hx) hnd).1 (h1.trans h0.symm), (List.getElem?_inj (portRow_lt hx) hnd).1 (h2.trans h0.symm)⟩

/-! ## scan loads -/
/-- If `tests` returns `M`, then in the column of pattern `i` the row of cell `x` — `c.cellRow x`: the row of the
state element of that name (`rows_by_role`; `s_nodes.idxOf x` where names are unique, `rows_unique_names`) — holds character `j` of the load string of the chain's scan-in port, `j` = number of cells between
`x` and scan-out, inverted iff the number of markers between scan-in and `x` is odd (`invLoad` leaves `X`/`-` alone).
`hnd`: no two scan cells / `_pi` members resolve to the same row (`tests` writes the `_pi` string after the loads: a `_pi` member on the
cell's row would overwrite it).
`hports` marks the domain in which the model agrees with stil.py (file header); no step of the proof uses it. -/
theorem load_pos (c : Circ) (fl : File) (M : List (List V3)) (i : Nat) (p : Pat) (ch : Chain)
    (pre post : List String) (x : String) (s : List Char) (cj : Char)
    (hok : tests .spec c fl = .ok M) (hp : (extract fl)[i]? = some p)
    (hch : ch ∈ fl.chains) (hmid : ch.mid = pre ++ x :: post) (hx : isMark x = false) (hxin : x ∈ c.sNodes)
    (hnd : ((mapsPure .spec c fl).scanRows ++ (mapsPure .spec c fl).pi).Nodup)
    (hports : fl.portsOK = true)
    (hs : p.load.lookup ch.si = some s) (hcj : s[(cellsOf post).length]? = some cj) :
    ∃ col, M[i]? = some col ∧ c.sNodes[c.cellRow x]? = some x ∧
      col[c.cellRow x]? = some (invLoad (odd (markers pre)) (interp cj)) := by
  refine ⟨testsCol (mapsPure .spec c fl) p, ?_, cellRow_get hxin, ?_⟩
  · rw [(tests_ok hok).2, List.getElem?_map, hp]; rfl
  · exact loadCol_cell c fl p ch pre post x _ hch hmid hx hxin hnd hs hcj

/-! ## scan unloads -/
/-- In `responses`, the row of cell `x` holds character `j` (counted as above) of the unload string of
the chain's scan-out port, xor-ed (`mv_xor`) with the parity of the markers between `x` and scan-out.
`hports` marks the domain in which the model agrees with stil.py (file header); no step of the proof uses it. -/
theorem unload_pos (c : Circ) (fl : File) (M : List (List V3)) (i : Nat) (p : Pat) (ch : Chain)
    (pre post : List String) (x : String) (s : List Char) (cj : Char)
    (hok : responses .spec c fl = .ok M) (hp : (extract fl)[i]? = some p)
    (hch : ch ∈ fl.chains) (hmid : ch.mid = pre ++ x :: post) (hx : isMark x = false) (hxin : x ∈ c.sNodes)
    (hnd : ((mapsPure .spec c fl).po ++ (mapsPure .spec c fl).scanRows).Nodup)
    (hports : fl.portsOK = true)
    (hs : p.unload.lookup ch.so = some s) (hcj : s[(cellsOf post).length]? = some cj) :
    ∃ col, M[i]? = some col ∧ c.sNodes[c.cellRow x]? = some x ∧
      col[c.cellRow x]? = some (xorInv (odd (markers post)) (interp cj)) := by
  refine ⟨respCol (mapsPure .spec c fl) p, ?_, cellRow_get hxin, ?_⟩
  · rw [(responses_ok hok).2, List.getElem?_map, hp]; rfl
  · unfold respCol
    apply applyWrites_get_unique
    · rw [List.map_append]
      exact ((zip_fst_sublist _ _).append (unloadWrites_targets _ _)).nodup hnd
    · exact List.mem_append_right _ (unloadWrites_mem c fl p ch pre post x hch hmid hx hs hcj)
    · rw [blank_length, mapsPure_n]; exact cellRow_lt hxin

/-! ## primary inputs and outputs through the signal groups -/
/-- Inputs: character `k` of the capture call's `_pi` string lands, uninverted, on the row of the
`k`-th member of signal group `_pi`, whatever the order of the group.
`hports` marks the domain in which the model agrees with stil.py (file header); no step of the proof uses it. -/
theorem pi_po_map (c : Circ) (fl : File) (M : List (List V3)) (i : Nat) (p : Pat) (k : Nat) (x : String)
    (s : List Char) (ck : Char)
    (hok : tests .spec c fl = .ok M) (hp : (extract fl)[i]? = some p)
    (hk : (group fl "_pi")[k]? = some x) (hxin : x ∈ c.sNodes)
    (hnd : ((mapsPure .spec c fl).scanRows ++ (mapsPure .spec c fl).pi).Nodup)
    (hports : fl.portsOK = true)
    (hs : p.capture.lookup "_pi" = some s) (hck : s[k]? = some ck) :
    ∃ col, M[i]? = some col ∧ c.sNodes[c.portRow x]? = some x ∧
      col[c.portRow x]? = some (interp ck) := by
  refine ⟨testsCol (mapsPure .spec c fl) p, ?_, portRow_get hxin, ?_⟩
  · rw [(tests_ok hok).2, List.getElem?_map, hp]; rfl
  · exact loadCol_port c fl p _ k x ck hk hxin hnd (str_of_lookup hs ▸ hck)

/-- Outputs: character `k` of the capture call's `_po` string lands on the row of the `k`-th member
of signal group `_po` in `responses`.
`hports` marks the domain in which the model agrees with stil.py (file header); no step of the proof uses it. -/
theorem po_map (c : Circ) (fl : File) (M : List (List V3)) (i : Nat) (p : Pat) (k : Nat) (x : String)
    (s : List Char) (ck : Char)
    (hok : responses .spec c fl = .ok M) (hp : (extract fl)[i]? = some p)
    (hk : (group fl "_po")[k]? = some x) (hxin : x ∈ c.sNodes)
    (hnd : ((mapsPure .spec c fl).po ++ (mapsPure .spec c fl).scanRows).Nodup)
    (hports : fl.portsOK = true)
    (hcap : p.capture.length > 0) (hs : p.capture.lookup "_po" = some s) (hck : s[k]? = some ck) :
    ∃ col, M[i]? = some col ∧ c.sNodes[c.portRow x]? = some x ∧
      col[c.portRow x]? = some (interp ck) := by
  refine ⟨respCol (mapsPure .spec c fl) p, ?_, portRow_get hxin, ?_⟩
  · rw [(responses_ok hok).2, List.getElem?_map, hp]; rfl
  · unfold respCol
    apply applyWrites_get_unique
    · rw [List.map_append]
      exact ((zip_fst_sublist _ _).append (unloadWrites_targets _ _)).nodup hnd
    · apply List.mem_append_left
      have : poStr p = s := by simp [poStr, hcap, str_of_lookup hs]
      rw [this]
      exact group_write_mem c _ s k x ck hk hck
    · rw [blank_length, mapsPure_n]; exact portRow_lt hxin

/-! ## rows follow `s_nodes` -/
/-- Every column returned by the three functions has one row per element of `s_nodes`
(io_nodes, then kinds containing "dff", then kinds containing "latch", case-insensitive); together with the row
index `cellRow x` / `portRow x` in the theorems above, row `r` belongs to `s_nodes[r]`. -/
theorem order_is_s_nodes (c : Circ) (fl : File) (nxt M : List (List V3)) :
    (tests .spec c fl = .ok M → ∀ col ∈ M, col.length = c.sNodes.length) ∧
    (responses .spec c fl = .ok M → ∀ col ∈ M, col.length = c.sNodes.length) ∧
    (testsLoc .spec c fl nxt = .ok M → ∀ col ∈ M, col.length = c.sNodes.length) := by
  refine ⟨?_, ?_, ?_⟩
  · intro h col hc
    rw [(tests_ok h).2] at hc
    obtain ⟨p, _, rfl⟩ := List.mem_map.1 hc
    simp [testsCol, applyWrites_length, blank_length, mapsPure_n]
  · intro h col hc
    rw [(responses_ok h).2] at hc
    obtain ⟨p, _, rfl⟩ := List.mem_map.1 hc
    simp [respCol, applyWrites_length, blank_length, mapsPure_n]
  · intro h col hc
    obtain ⟨_, hM, _, hnx⟩ := testsLoc_ok h
    obtain ⟨i, hi⟩ := List.mem_iff_getElem?.1 hc
    rw [hM, zipCols_eq, List.getElem?_zipWith_eq_some] at hi
    obtain ⟨p, nx, _, hn, rfl⟩ := hi
    simp [locCol, initCol, launchCol, applyWrites_length, blank_length, mapsPure_n, hnx nx (List.mem_of_getElem? hn)]

/-- when one of the three functions returns (no `KeyError`), every scan cell and every `_pi` / `_po` member is an element
of `s_nodes`: hypothesis `hxin` of the positional theorems is implied by the call having succeeded -/
theorem names_resolve (c : Circ) (fl : File) (M : List (List V3))
    (h : tests .spec c fl = .ok M ∨ responses .spec c fl = .ok M ∨ ∃ nxt, testsLoc .spec c fl nxt = .ok M) :
    (∀ ch ∈ fl.chains, ∀ x ∈ cellsOf ch.mid, x ∈ c.sNodes) ∧
    (∀ x ∈ group fl "_pi", x ∈ c.sNodes) ∧ (∀ x ∈ group fl "_po", x ∈ c.sNodes) := by
  have hm : mapsErr .spec c fl = none := by
    rcases h with h | h | ⟨nxt, h⟩
    · exact (tests_ok h).1
    · exact (responses_ok h).1
    · exact (testsLoc_ok h).1
  exact ⟨fun ch hch x hx => mapsErr_none_cells hm ch hch x hx,
         fun x hx => mapsErr_none_group hm "_pi" (Or.inl rfl) x hx,
         fun x hx => mapsErr_none_group hm "_po" (Or.inr rfl) x hx⟩

/-- sufficient (the converse is not proved): the `upperDff` interface (`'DFF' in n.kind`) equals `s_nodes`
on circuits whose state-element kinds contain the upper-case substring `DFF` and that have no latches -/
theorem legacy_interface_agrees (c : Circ)
    (h : ∀ n ∈ c.nodes, Stil.hasSub "dff".toList (lowerOf n.2) = Stil.hasSub "DFF".toList n.2.toList ∧
                        Stil.hasSub "latch".toList (lowerOf n.2) = false) :
    c.upperDffIntf = c.sNodes := by
  unfold Circ.upperDffIntf Circ.sNodes
  have h1 : (c.nodes.filter fun n => Stil.hasSub "latch".toList (lowerOf n.2)) = [] := by
    rw [List.filter_eq_nil_iff]; intro n hn; have h2 := (h n hn).2; simp_all
  have h2 : (c.nodes.filter fun n => Stil.hasSub "dff".toList (lowerOf n.2)) =
      c.nodes.filter fun n => Stil.hasSub "DFF".toList n.2.toList := by
    apply List.filter_congr; intro n hn; exact (h n hn).1
  rw [h1, h2]; simp

/-- keeping only the first inversion flag (`InvMode.first`) is harmless on a chain without markers
(sufficient; "all flags equal" would do, the converse is not proved) -/
theorem first_flag_agrees (mid : List String) (h : markers mid = 0) :
    invVec .first (scanInInv mid) = scanInInv mid ∧ invVec .first (scanOutInv mid) = scanOutInv mid := by
  have key : ∀ (l : List String) (b : Bool), markers l = 0 → invScan b l = List.replicate (cellsOf l).length b := by
    intro l
    induction l with
    | nil => intro b _; rfl
    | cons n r ih =>
      intro b hm
      by_cases hn : isMark n = true
      · simp [markers, hn] at hm
      · have hn' : isMark n = false := by simpa using hn
        rw [invScan_cell b hn', cellsOf_cons_cell hn', ih b (by simpa [markers_cons_cell hn'] using hm)]; rfl
  have rep : ∀ (n : Nat) (b : Bool), invVec .first (List.replicate n b) = List.replicate n b := by
    intro n b; cases n <;> simp [invVec, List.replicate_succ]
  have hr : markers mid.reverse = 0 := by rw [markers_reverse]; exact h
  constructor
  · simp only [scanInInv, key mid false h, List.reverse_replicate]; exact rep _ _
  · simp only [scanOutInv, key mid.reverse false hr]; exact rep _ _

/-! ## launch-on-capture -/
/-- Every value returned by `tests_loc` is `mv_transition(init, launch)` of the two columns. -/
theorem loc_rowwise (c : Circ) (fl : File) (nxt M : List (List V3)) (i : Nat) (p : Pat) (nx : List V3)
    (hok : testsLoc .spec c fl nxt = .ok M) (hp : (extract fl)[i]? = some p) (hn : nxt[i]? = some nx) :
    M[i]? = some (List.zipWith mvTransition (initCol (mapsPure .spec c fl) p) (launchCol (mapsPure .spec c fl) p nx)) := by
  rw [(testsLoc_ok hok).2.1, zipCols_eq]
  exact List.getElem?_zipWith_eq_some.mpr ⟨p, nx, hp, hn, rfl⟩

/-- Flip-flops: for cell `x` of a chain, the value is `mv_transition(init, launch)` with
init = the loaded value (as in `load_pos`) and launch = the simulated next state `nx[row]` when the launch call and the
capture call both pulse a clock (`noLaunchPulse p = false`), else the loaded state (through `mv_xor`).
`hnd`: scan cells, `_pi` and `_po` members resolve to pairwise different rows.
`hports` marks the domain in which the model agrees with stil.py (file header); no step of the proof uses it. -/
theorem loc_transition (c : Circ) (fl : File) (nxt M : List (List V3)) (i : Nat) (p : Pat) (nx : List V3)
    (ch : Chain) (pre post : List String) (x : String) (s : List Char) (cj : Char)
    (hok : testsLoc .spec c fl nxt = .ok M) (hp : (extract fl)[i]? = some p) (hn : nxt[i]? = some nx)
    (hch : ch ∈ fl.chains) (hmid : ch.mid = pre ++ x :: post) (hx : isMark x = false) (hxin : x ∈ c.sNodes)
    (hnd : ((mapsPure .spec c fl).scanRows ++ (mapsPure .spec c fl).pi ++ (mapsPure .spec c fl).po).Nodup)
    (hports : fl.portsOK = true)
    (hs : p.load.lookup ch.si = some s) (hcj : s[(cellsOf post).length]? = some cj) :
    ∃ col, M[i]? = some col ∧ c.sNodes[c.cellRow x]? = some x ∧
      col[c.cellRow x]? = some (mvTransition (invLoad (odd (markers pre)) (interp cj))
        (if noLaunchPulse p then xorInv (odd (markers pre)) (interp cj) else nx.getD (c.cellRow x) V3.unknown)) := by
  obtain ⟨_, _, _, hnx⟩ := testsLoc_ok hok
  have hnl : nx.length = c.sNodes.length := hnx nx (List.mem_of_getElem? hn)
  have hr : c.cellRow x < c.sNodes.length := cellRow_lt hxin
  have hnd1 := (List.nodup_append.1 hnd).1
  have hdisj := (List.nodup_append.1 hnd).2.2
  have hrow := row_mem_scanRows c fl ch pre post x hch hmid hx
  refine ⟨_, loc_rowwise c fl nxt M i p nx hok hp hn, cellRow_get hxin, ?_⟩
  rw [List.getElem?_zipWith_eq_some]
  refine ⟨_, _, ?_, ?_, rfl⟩
  · exact loadCol_cell c fl p ch pre post x _ hch hmid hx hxin hnd1 hs hcj
  · by_cases hl : noLaunchPulse p = true
    · rw [if_pos hl]
      refine launchCol_written _ p nx _ _ hnd (by omega) (List.mem_append_left _ (List.mem_append_left _ ?_))
      rw [if_pos hl]
      exact loadWrites_mem c fl p ch pre post x xorInv hch hmid hx hs hcj
    · rw [if_neg hl, launchCol_kept _ p nx, List.getD_eq_getElem?_getD, List.getElem?_eq_getElem (by omega)]
      · rfl
      · rw [if_neg hl, List.nil_append]
        intro hm
        rcases List.mem_append.1 hm with h1 | h1
        · exact (List.nodup_append.1 hnd1).2.2 _ hrow _ ((ite_sublist _ _).subset h1) rfl
        · exact hdisj _ (List.mem_append_left _ hrow) _ h1 rfl

/-- Inputs: for the `k`-th member `x` of `_pi`: init = character `k` of the launch call's `_pi`
string (of the capture call's when there is no launch call), launch = character `k` of the capture call's `_pi`
string when that call pulses a clock, else whatever the simulator left in that row.
`hports` marks the domain in which the model agrees with stil.py (file header); no step of the proof uses it. -/
theorem loc_transition_input (c : Circ) (fl : File) (nxt M : List (List V3)) (i : Nat) (p : Pat) (nx : List V3)
    (k : Nat) (x : String) (ci cc : Char)
    (hok : testsLoc .spec c fl nxt = .ok M) (hp : (extract fl)[i]? = some p) (hn : nxt[i]? = some nx)
    (hk : (group fl "_pi")[k]? = some x) (hxin : x ∈ c.sNodes)
    (hnd : ((mapsPure .spec c fl).scanRows ++ (mapsPure .spec c fl).pi ++ (mapsPure .spec c fl).po).Nodup)
    (hports : fl.portsOK = true)
    (hci : (initPiStr p)[k]? = some ci) (hcc : capturePulse p = true → (str p.capture "_pi")[k]? = some cc) :
    ∃ col, M[i]? = some col ∧ c.sNodes[c.portRow x]? = some x ∧
      col[c.portRow x]? = some (mvTransition (interp ci)
        (if capturePulse p then interp cc else nx.getD (c.portRow x) V3.unknown)) := by
  obtain ⟨_, _, _, hnx⟩ := testsLoc_ok hok
  have hnl : nx.length = c.sNodes.length := hnx nx (List.mem_of_getElem? hn)
  have hr : c.portRow x < c.sNodes.length := portRow_lt hxin
  have hnd1 := (List.nodup_append.1 hnd).1
  have hdisj := (List.nodup_append.1 hnd).2.2
  have hrow : c.portRow x ∈ (mapsPure .spec c fl).pi := by
    simp only [mapsPure, Mode.spec, Circ.intf]
    exact List.mem_map.2 ⟨x, List.mem_of_getElem? hk, rfl⟩
  refine ⟨_, loc_rowwise c fl nxt M i p nx hok hp hn, portRow_get hxin, ?_⟩
  rw [List.getElem?_zipWith_eq_some]
  refine ⟨_, _, ?_, ?_, rfl⟩
  · exact loadCol_port c fl p _ k x ci hk hxin hnd1 hci
  · by_cases hc : capturePulse p = true
    · rw [if_pos hc]
      refine launchCol_written _ p nx _ _ hnd (by omega) (List.mem_append_left _ (List.mem_append_right _ ?_))
      rw [if_pos hc]
      exact group_write_mem c _ _ k x cc hk (hcc hc)
    · rw [if_neg hc, launchCol_kept _ p nx, List.getD_eq_getElem?_getD, List.getElem?_eq_getElem (by omega)]
      · rfl
      · rw [if_neg hc, List.append_nil]
        intro hm
        rcases List.mem_append.1 hm with h1 | h1
        · exact (List.nodup_append.1 hnd1).2.2 _ ((ite_sublist _ _).subset h1) _ hrow rfl
        · exact hdisj _ (List.mem_append_right _ hrow) _ h1 rfl

/-! ## launch-on-capture, end to end: the simulation inside `tests_loc` instantiated (composition with C02)

`StilSim.nxtOf c fl net order` (Model/StilSim.lean, Proofs/StilSim.lean) is the matrix `tests_loc` reads back from its own
`LogicSim(circuit, m=8)`: per pattern, the real 8-valued dispatch `semL8` runs the `SimOps` program of the netlist
(`genOps Gen.kindPrefixes net order false`) on the stimulus `envOf net init` — input slot of `s_nodes` position `r` = row `r` of
the `init` column, every other signal `ZERO` (fresh memory) — and row `r` is `captured`: the value of the line on input pin 0 of
the `r`-th `s_nodes` element.  `net : Net` is the canonical dump of the same `Circuit` whose names/kinds are `c : Circ`
(`compatB c net names`, decidable, evaluated by the driver on every generated case).  `σ` below is ANY labelling consistent with
the netlist (`NetConsistent`, specification evaluator's gate equations over `specNot`/`prim8`) for that stimulus — by
`loc_labelling_unique` there is exactly one on the lines. -/
open KV.StilSim

/-- the driver's `stilsim` command evaluates `nxtOf` / `tests_loc` with `nxtOf`: its dispatch is `semL8` by definition, its
array executor (`StilSim.execA`) computes the rows of `exec` on every well-formed netlist and topological order -/
theorem driver_sem : Drv.StilSim.sem8L = semL8 := rfl
theorem driver_evaluates_nxtOf (c : Circ) (fl : File) (net : Net) (order : List Nat) (hwf : net.wfB = true)
    (ho : orderOKB net order = true) :
    Drv.StilSim.nxtCols .spec c fl net order = nxtOf c fl net order := by
  show nxtOfA semL8 (opsOf Gen.kindPrefixes net order) .spec c fl net = nxtOf c fl net order
  unfold nxtOfA nxtOf nxtOfG
  apply List.map_congr_left
  intro p _
  apply simRowA_eq
  intro op hop
  rcases genOps_out_line Gen.kindPrefixes net order false hwf ho op hop with h | h
  · rw [h]; simp only [Net.idx]; omega
  · simp only [Net.idx]; omega

/-- **bridge.** the two views of the circuit have the same `s_nodes`, node index ↦ name -/
theorem s_nodes_bridge (c : Circ) (net : Net) (names : List String) (h : compatB c net names = true) :
    c.sNodes = net.sNodes.map (nameAt names) := sNodes_bridge h

/-- the simulated matrix always has the shape `tests_loc` expects (the `shape` error of the parameterised model cannot occur) -/
theorem nxtOf_has_shape (c : Circ) (fl : File) (net : Net) (names : List String) (order : List Nat)
    (h : compatB c net names = true) :
    (nxtOf c fl net order).length = (extract fl).length ∧ ∀ col ∈ nxtOf c fl net order, col.length = c.sNodes.length := by
  refine ⟨by simp [nxtOf, nxtOfG], ?_⟩
  intro col hc
  simp only [nxtOf, nxtOfG, List.mem_map] at hc
  obtain ⟨p, _, rfl⟩ := hc
  rw [simRow_length, sNodes_bridge h, List.length_map]

/-- **the assignment (state).** What the simulator is given for scan cell `x`: its input slot holds the loaded value
`hports` marks the domain in which the model agrees with stil.py (file header); no step of the proof uses it. -/
theorem loc_assignment_state (c : Circ) (fl : File) (net : Net) (names : List String) (p : Pat)
    (ch : Chain) (pre post : List String) (x : String) (s : List Char) (cj : Char)
    (hcompat : compatB c net names = true)
    (hch : ch ∈ fl.chains) (hmid : ch.mid = pre ++ x :: post) (hx : isMark x = false) (hxin : x ∈ c.sNodes)
    (hnd : ((mapsPure .spec c fl).scanRows ++ (mapsPure .spec c fl).pi).Nodup)
    (hports : fl.portsOK = true)
    (hs : p.load.lookup ch.si = some s) (hcj : s[(cellsOf post).length]? = some cj) :
    envOf net (initCol (mapsPure .spec c fl) p) (net.idx.ppi + c.cellRow x) =
      invLoad (odd (markers pre)) (interp cj) := by
  obtain ⟨n, _, _, hlt⟩ := row_node_at hcompat (cellRow_get hxin)
  rw [envOf_ppi net _ _ hlt, List.getD_eq_getElem?_getD]
  rw [show (initCol (mapsPure .spec c fl) p)[c.cellRow x]? = _ from
    loadCol_cell c fl p ch pre post x _ hch hmid hx hxin hnd hs hcj]
  rfl

/-- **the assignment (inputs).** … and for the `k`-th member of `_pi` character `k` of the launch call's `_pi` string (of the
capture call's when there is no launch call)
`hports` marks the domain in which the model agrees with stil.py (file header); no step of the proof uses it. -/
theorem loc_assignment_input (c : Circ) (fl : File) (net : Net) (names : List String) (p : Pat)
    (k : Nat) (x : String) (ci : Char) (hcompat : compatB c net names = true)
    (hk : (group fl "_pi")[k]? = some x) (hxin : x ∈ c.sNodes)
    (hnd : ((mapsPure .spec c fl).scanRows ++ (mapsPure .spec c fl).pi).Nodup)
    (hports : fl.portsOK = true)
    (hci : (initPiStr p)[k]? = some ci) :
    envOf net (initCol (mapsPure .spec c fl) p) (net.idx.ppi + c.portRow x) = interp ci := by
  obtain ⟨n, _, _, hlt⟩ := row_node_at hcompat (portRow_get hxin)
  rw [envOf_ppi net _ _ hlt, List.getD_eq_getElem?_getD]
  rw [show (initCol (mapsPure .spec c fl) p)[c.portRow x]? = _ from loadCol_port c fl p _ k x ci hk hxin hnd hci]
  rfl

/-- **the assignment (rest).** every signal that is not an input slot — the constant-0 slot, the scratch slots, lines before
they are written — starts as `ZERO` -/
theorem loc_assignment_rest (net : Net) (col : List V3) (y : Nat) (h : y < net.idx.ppi ∨ net.idx.ppo ≤ y) :
    envOf net col y = V3.zero := envOf_outside net col y h

/-- **existence and uniqueness of σ.** For every well-formed netlist, topological order and init column there is a labelling
consistent with the netlist — the simulation result — and every consistent labelling equals it on every signal but the
scratch slot, in particular on every line (C02 `sim8_netlist_all_circuits` at the stimulus of `tests_loc`) -/
theorem loc_labelling_unique (net : Net) (order : List Nat) (hwf : net.wfB = true) (ho : orderOKB net order = true)
    (hfk : forksOKB net order = true) (col : List V3) :
    NetConsistent net order specNot prim8 (envOf net col) (valOf net order col) ∧
    ∀ σ, NetConsistent net order specNot prim8 (envOf net col) σ → ∀ y, y ≠ net.idx.tmp → σ y = valOf net order col y :=
  ⟨(valOf_spec net order hwf ho hfk col).1,
    fun σ hσ y hy => (valOf_spec net order hwf ho hfk col).2 σ hσ y (by simp [Jt, hy])⟩

/-- With its own simulation, the value `tests_loc` returns for scan cell `x` is
`mv_transition(loaded value, captured row)`; `captured` reads the result of the `SimOps` program at the line the `r`-th
`s_nodes` element captures (general form: any pin connection)
`hports` marks the domain in which the model agrees with stil.py (file header); no step of the proof uses it. -/
theorem tests_loc_rows (c : Circ) (fl : File) (net : Net) (names : List String) (order : List Nat)
    (M : List (List V3)) (i : Nat) (p : Pat)
    (ch : Chain) (pre post : List String) (x : String) (s : List Char) (cj : Char)
    (hcompat : compatB c net names = true)
    (hok : testsLoc .spec c fl (nxtOf c fl net order) = .ok M) (hp : (extract fl)[i]? = some p)
    (hch : ch ∈ fl.chains) (hmid : ch.mid = pre ++ x :: post) (hx : isMark x = false) (hxin : x ∈ c.sNodes)
    (hnd : ((mapsPure .spec c fl).scanRows ++ (mapsPure .spec c fl).pi ++ (mapsPure .spec c fl).po).Nodup)
    (hports : fl.portsOK = true)
    (hs : p.load.lookup ch.si = some s) (hcj : s[(cellsOf post).length]? = some cj) :
    ∃ col, M[i]? = some col ∧ c.sNodes[c.cellRow x]? = some x ∧
      col[c.cellRow x]? = some (mvTransition (invLoad (odd (markers pre)) (interp cj))
        (if noLaunchPulse p then xorInv (odd (markers pre)) (interp cj)
         else captured net (valOf net order (initCol (mapsPure .spec c fl) p)) (c.cellRow x))) := by
  obtain ⟨n, _, _, hlt⟩ := row_node_at hcompat (cellRow_get hxin)
  have := loc_transition c fl _ M i p _ ch pre post x s cj hok hp (nxtOf_get hp) hch hmid hx hxin hnd hports hs hcj
  rwa [simRow_getD _ _ _ _ _ _ hlt] at this

/-- Flip-flops: for every well-formed netlist and topological order, every chain / marker / pattern
set: the value `tests_loc` returns for scan cell `x` in pattern `i` is `mv_transition(loaded value, σ(data line of x))`, where
`n` is the node named `x` (the `r`-th `s_nodes` element, `r` = row of `x`), `l` the line on its input pin 0, and `σ` the (unique)
labelling consistent with the netlist under the assignment of `loc_assignment_state/_input/_rest` — and the loaded state
itself (through `mv_xor`) under the no-pulse rule.
`hports` marks the domain in which the model agrees with stil.py (file header); no step of the proof uses it. -/
theorem tests_loc_end_to_end (c : Circ) (fl : File) (net : Net) (names : List String) (order : List Nat)
    (M : List (List V3)) (i : Nat) (p : Pat)
    (ch : Chain) (pre post : List String) (x : String) (s : List Char) (cj : Char) (σ : Nat → V3) (n l : Nat)
    (hwf : net.wfB = true) (ho : orderOKB net order = true) (hfk : forksOKB net order = true)
    (hcompat : compatB c net names = true)
    (hok : testsLoc .spec c fl (nxtOf c fl net order) = .ok M) (hp : (extract fl)[i]? = some p)
    (hch : ch ∈ fl.chains) (hmid : ch.mid = pre ++ x :: post) (hx : isMark x = false) (hxin : x ∈ c.sNodes)
    (hnd : ((mapsPure .spec c fl).scanRows ++ (mapsPure .spec c fl).pi ++ (mapsPure .spec c fl).po).Nodup)
    (hports : fl.portsOK = true)
    (hs : p.load.lookup ch.si = some s) (hcj : s[(cellsOf post).length]? = some cj)
    (hσ : NetConsistent net order specNot prim8 (envOf net (initCol (mapsPure .spec c fl) p)) σ)
    (hn : net.sNodes[c.cellRow x]? = some n) (hl : (net.node n).inPin 0 = some l) :
    ∃ col, M[i]? = some col ∧ c.sNodes[c.cellRow x]? = some x ∧ nameAt names n = x ∧
      col[c.cellRow x]? = some (mvTransition (invLoad (odd (markers pre)) (interp cj))
        (if noLaunchPulse p then xorInv (odd (markers pre)) (interp cj) else σ l)) := by
  obtain ⟨col, h1, h2, h3⟩ := tests_loc_rows c fl net names order M i p ch pre post x s cj hcompat hok hp hch hmid hx hxin
    hnd hports hs hcj
  obtain ⟨n', hn', hname, _⟩ := row_node_at hcompat (cellRow_get hxin)
  rw [hn] at hn'; injection hn' with hn'; subst hn'
  refine ⟨col, h1, h2, hname, ?_⟩
  rw [h3, captured_pin hn hl, valOf_of_consistent net order hwf ho hfk _ σ hσ hl]

/-- a state element without data connection captures the constant 0 (sim.py:318-319)
`hports` marks the domain in which the model agrees with stil.py (file header); no step of the proof uses it. -/
theorem tests_loc_end_to_end_open (c : Circ) (fl : File) (net : Net) (names : List String) (order : List Nat)
    (M : List (List V3)) (i : Nat) (p : Pat)
    (ch : Chain) (pre post : List String) (x : String) (s : List Char) (cj : Char) (n : Nat)
    (hcompat : compatB c net names = true)
    (hok : testsLoc .spec c fl (nxtOf c fl net order) = .ok M) (hp : (extract fl)[i]? = some p)
    (hch : ch ∈ fl.chains) (hmid : ch.mid = pre ++ x :: post) (hx : isMark x = false) (hxin : x ∈ c.sNodes)
    (hnd : ((mapsPure .spec c fl).scanRows ++ (mapsPure .spec c fl).pi ++ (mapsPure .spec c fl).po).Nodup)
    (hports : fl.portsOK = true)
    (hs : p.load.lookup ch.si = some s) (hcj : s[(cellsOf post).length]? = some cj)
    (hn : net.sNodes[c.cellRow x]? = some n) (hl : (net.node n).inPin 0 = none)
    (hst : net.io.length ≤ c.cellRow x) :
    ∃ col, M[i]? = some col ∧ c.sNodes[c.cellRow x]? = some x ∧
      col[c.cellRow x]? = some (mvTransition (invLoad (odd (markers pre)) (interp cj))
        (if noLaunchPulse p then xorInv (odd (markers pre)) (interp cj) else V3.zero)) := by
  obtain ⟨col, h1, h2, h3⟩ := tests_loc_rows c fl net names order M i p ch pre post x s cj hcompat hok hp hch hmid hx hxin
    hnd hports hs hcj
  exact ⟨col, h1, h2, by rw [h3, captured_open_state hn hl hst]⟩

/-- Inputs: for the `k`-th member `x` of `_pi`, as in `loc_transition_input`; without a capture
pulse the launch value is what the simulator captured for that port: the line it reads if it is driven (`σ l`), and
`UNASSIGNED` for a port without driver (an input)
`hports` marks the domain in which the model agrees with stil.py (file header); no step of the proof uses it. -/
theorem tests_loc_end_to_end_input (c : Circ) (fl : File) (net : Net) (names : List String) (order : List Nat)
    (M : List (List V3)) (i : Nat) (p : Pat) (k : Nat) (x : String) (ci cc : Char) (σ : Nat → V3) (n : Nat)
    (hwf : net.wfB = true) (ho : orderOKB net order = true) (hfk : forksOKB net order = true)
    (hcompat : compatB c net names = true)
    (hok : testsLoc .spec c fl (nxtOf c fl net order) = .ok M) (hp : (extract fl)[i]? = some p)
    (hk : (group fl "_pi")[k]? = some x) (hxin : x ∈ c.sNodes)
    (hnd : ((mapsPure .spec c fl).scanRows ++ (mapsPure .spec c fl).pi ++ (mapsPure .spec c fl).po).Nodup)
    (hports : fl.portsOK = true)
    (hci : (initPiStr p)[k]? = some ci) (hcc : capturePulse p = true → (str p.capture "_pi")[k]? = some cc)
    (hσ : NetConsistent net order specNot prim8 (envOf net (initCol (mapsPure .spec c fl) p)) σ)
    (hn : net.sNodes[c.portRow x]? = some n) (hio : c.portRow x < net.io.length) :
    ∃ col, M[i]? = some col ∧ c.sNodes[c.portRow x]? = some x ∧ nameAt names n = x ∧
      col[c.portRow x]? = some (mvTransition (interp ci)
        (if capturePulse p then interp cc else
          match (net.node n).inPin 0 with
          | some l => σ l
          | none => V3.unassigned)) := by
  obtain ⟨n', hn', hname, hlt⟩ := row_node_at hcompat (portRow_get hxin)
  rw [hn] at hn'; injection hn' with hn'; subst hn'
  obtain ⟨col, h1, h2, h3⟩ := loc_transition_input c fl _ M i p _ k x ci cc hok hp (nxtOf_get hp) hk hxin hnd hports hci hcc
  refine ⟨col, h1, h2, hname, ?_⟩
  rw [h3, simRow_getD _ _ _ _ _ _ hlt]
  cases hl : (net.node n).inPin 0 with
  | none => rw [captured_open_port hn hl hio]
  | some l =>
    rw [captured_pin hn hl]
    have := valOf_of_consistent net order hwf ho hfk _ σ hσ hl
    unfold valOf at this
    rw [this]

/-- **memory level.** `nxtOf` is stated on signals; what `c_to_s` reads is a memory row.  For the tables the `SimOps` model
builds with the options of `tests_loc` (`strip_forks = False`, `c_reuse = False`; any capacity vector, `c_caps_min > 0`), after
the op rows have run ON MEMORY from any initial memory `m0` that holds the stimulus in the slots no row writes (`h0`: what
`np.zeros` + `s_to_c` leave), the row of the output slot of the `i`-th `s_nodes` element is the entry `i` of the model's column
(composition with `C08.simops_map_accepted` through `simops_mem_value`, whose shape `(n, i) ∈ net.sNodes.zipIdx` is kept; domain
`readsDrivenB`: every read or captured line is written by a row) -/
theorem nxtOf_memory (net : Net) (order : List Nat) (capsIn : Nat → Nat) (capsMin : Nat) (hwf : net.wfB = true)
    (ho : orderOKB net order = true) (hr : readsDrivenB Gen.kindPrefixes net order = true) (hpos : 0 < capsMin)
    (col : List V3) (m0 : Int → V3)
    (h0 : ∀ x ∈ (simopsMap Gen.kindPrefixes net order false capsIn capsMin false).tracked,
      (∀ o ∈ (simopsMap Gen.kindPrefixes net order false capsIn capsMin false).ops, o.out ≠ x) →
        m0 ((simopsMap Gen.kindPrefixes net order false capsIn capsMin false).loc x) = envOf net col x)
    (n i l : Nat) (hn : (n, i) ∈ net.sNodes.zipIdx) (hl : (net.node n).inPin 0 = some l) :
    MapSound.memRun (simopsMap Gen.kindPrefixes net order false capsIn capsMin false) (MapSound.rowRW V3)
        (fun o => semL8 o.lut) (simopsMap Gen.kindPrefixes net order false capsIn capsMin false).ops m0
        ((simopsMap Gen.kindPrefixes net order false capsIn capsMin false).loc (net.idx.ppo + i)) =
      (simRow semL8 (ops8 net order) net col).getD i V3.unknown := by
  have hi : net.sNodes[i]? = some n := mem_zipIdx_getElem? hn
  have hlt : i < net.sNodes.length := (List.getElem?_eq_some_iff.mp hi).1
  rw [simRow_getD _ _ _ _ _ _ hlt, captured_pin hi hl]
  exact simops_mem_value (strip := false) (reuse := false) hwf ho (fun h => by cases h) hr hpos semL8 default
    (fun h => by cases h) h0 hn hl

/-! ## non-vacuity: a chain with markers at both ends and adjacent markers, lower-case `dff`, a latch -/
def exC : Circ := ⟨["a", "si", "z", "so"], [("f0", "DFF"), ("g", "AND2"), ("f1", "dff"), ("l0", "LATCH"), ("f2", "SDFFX1")]⟩
def exChain : Chain := ⟨"si", ["!", "f0", "!", "!", "f1", "f2", "!"], "so"⟩
def exCalls : List Call :=
  [⟨"load_unload", [("si", "10N".toList)]⟩,
   ⟨"allclock_launch", [("_pi", "0P".toList)]⟩,
   ⟨"allclock_capture", [("_pi", "1P".toList), ("_po", "LH".toList)]⟩,
   ⟨"load_unload", [("so", "LHX".toList), ("si", "011".toList)]⟩,
   ⟨"multiclock_capture", [("_pi", "N0".toList), ("_po", "XL".toList)]⟩,
   ⟨"load_unload", [("so", "HLL".toList)]⟩]
def exF : File := ⟨[("_pi", ["si", "a"]), ("_po", ["so", "z"])], [exChain], exCalls⟩
def exP : Pat := ⟨[("si", "10-".toList)], [("_pi", "0P".toList)], [("_pi", "1P".toList), ("_po", "LH".toList)], [("so", "LHX".toList)]⟩
def v (n : Nat) : V3 := V3.ofCode n
/-- rows: a si z so f0 f1 f2 l0 -/
def exTests : List (List V3) := [[4, 3, 2, 2, 2, 3, 0, 2].map v, [0, 2, 2, 2, 0, 0, 3, 2].map v]
def exResp : List (List V3) := [[2, 2, 3, 0, 1, 0, 3, 2].map v, [2, 2, 0, 1, 3, 3, 0, 2].map v]
def exLoc : List (List V3) := [[0, 5, 2, 2, 1, 3, 5, 1].map v, [1, 2, 2, 2, 0, 0, 3, 1].map v]
def exNxt : List (List V3) := [[2, 2, 0, 3, 3, 3, 3, 0].map v, [2, 2, 0, 3, 0, 0, 0, 0].map v]

example : exC.sNodes = ["a", "si", "z", "so", "f0", "f1", "f2", "l0"] := by decide +kernel
theorem ex_pat : (extract exF)[0]? = some exP := by decide +kernel
theorem ex_tests : tests .spec exC exF = .ok exTests := by decide +kernel
theorem ex_resp : responses .spec exC exF = .ok exResp := by decide +kernel
theorem ex_loc : testsLoc .spec exC exF exNxt = .ok exLoc := by decide +kernel
theorem ex_nd :
    ((mapsPure .spec exC exF).scanRows ++ (mapsPure .spec exC exF).pi ++ (mapsPure .spec exC exF).po).Nodup := by
  decide +kernel
example : (extract exF)[0]? = some exP := ex_pat
example : tests .spec exC exF = .ok exTests := ex_tests
example : responses .spec exC exF = .ok exResp := ex_resp
/-- hypotheses of `load_pos` hold for cell `f1` (behind adjacent markers, before one more cell and a marker) -/
example : ∃ col, exTests[0]? = some col ∧ exC.sNodes[exC.cellRow "f1"]? = some "f1" ∧
    col[exC.cellRow "f1"]? = some (invLoad (odd (markers ["!", "f0", "!", "!"])) (interp '0')) :=
  load_pos exC exF exTests 0 exP exChain ["!", "f0", "!", "!"] ["f2", "!"] "f1" "10-".toList '0'
    ex_tests ex_pat (by decide +kernel) (by decide +kernel) (by decide +kernel) (by decide +kernel)
    (List.nodup_append.1 ex_nd).1 (by decide +kernel) (by decide +kernel) (by decide +kernel)
example : exC.cellRow "f1" = 5 ∧ invLoad (odd (markers ["!", "f0", "!", "!"])) (interp '0') = V3.one := by
  decide +kernel
example : ∃ col, exResp[0]? = some col ∧ exC.sNodes[exC.cellRow "f1"]? = some "f1" ∧
    col[exC.cellRow "f1"]? = some (xorInv (odd (markers ["f2", "!"])) (interp 'H')) :=
  unload_pos exC exF exResp 0 exP exChain ["!", "f0", "!", "!"] ["f2", "!"] "f1" "LHX".toList 'H'
    ex_resp ex_pat (by decide +kernel) (by decide +kernel) (by decide +kernel) (by decide +kernel)
    (by decide +kernel) (by decide +kernel) (by decide +kernel) (by decide +kernel)
example : xorInv (odd (markers ["f2", "!"])) (interp 'H') = V3.zero := by decide +kernel
example : ((mapsPure .spec exC exF).scanRows ++ (mapsPure .spec exC exF).pi ++ (mapsPure .spec exC exF).po).Nodup :=
  ex_nd
example : testsLoc .spec exC exF exNxt = .ok exLoc := ex_loc
example : noLaunchPulse exP = false ∧ capturePulse exP = true := by decide +kernel
/-- hypotheses of `loc_transition` hold for cell `f1`, pattern 0 (launch and capture pulse: launch = simulated state) -/
example : ∃ col, exLoc[0]? = some col ∧ exC.sNodes[exC.cellRow "f1"]? = some "f1" ∧
    col[exC.cellRow "f1"]? = some (mvTransition (invLoad (odd (markers ["!", "f0", "!", "!"])) (interp '0'))
      (if noLaunchPulse exP then xorInv (odd (markers ["!", "f0", "!", "!"])) (interp '0')
       else ([2, 2, 0, 3, 3, 3, 3, 0].map v).getD (exC.cellRow "f1") V3.unknown)) :=
  loc_transition exC exF exNxt exLoc 0 exP ([2, 2, 0, 3, 3, 3, 3, 0].map v) exChain ["!", "f0", "!", "!"] ["f2", "!"] "f1"
    "10-".toList '0' ex_loc ex_pat (by decide +kernel) (by decide +kernel) (by decide +kernel) (by decide +kernel)
    (by decide +kernel) ex_nd (by decide +kernel) (by decide +kernel) (by decide +kernel)
/-- hypotheses of `pi_po_map` / `loc_transition_input` hold for input `a` (second member of the shuffled group `_pi`) -/
example : ∃ col, exTests[0]? = some col ∧ exC.sNodes[exC.portRow "a"]? = some "a" ∧
    col[exC.portRow "a"]? = some (interp 'P') :=
  pi_po_map exC exF exTests 0 exP 1 "a" "1P".toList 'P' ex_tests ex_pat (by decide +kernel) (by decide +kernel)
    (List.nodup_append.1 ex_nd).1 (by decide +kernel) (by decide +kernel) (by decide +kernel)
example : ∃ col, exLoc[0]? = some col ∧ exC.sNodes[exC.portRow "si"]? = some "si" ∧
    col[exC.portRow "si"]? = some (mvTransition (interp '0')
      (if capturePulse exP then interp '1' else ([2, 2, 0, 3, 3, 3, 3, 0].map v).getD (exC.portRow "si") V3.unknown)) :=
  loc_transition_input exC exF exNxt exLoc 0 exP ([2, 2, 0, 3, 3, 3, 3, 0].map v) 0 "si" '0' '1'
    ex_loc ex_pat (by decide +kernel) (by decide +kernel) (by decide +kernel) ex_nd
    (by decide +kernel) (by decide +kernel) (fun _ => by decide +kernel)
example : mvTransition (interp '0') (interp '1') = rise := by decide +kernel

/-! ### non-vacuity of the end-to-end statements: ports `a`, `si`, `z`, `so`; `f0 = DFF(si)`, `f1 = dff(g)`, `g = AND2(a, f0.Q)`,
`so = f1.Q`, `z = f1.QN`; chain `si f0 ! f1 so`; load `01` (f1 = 0 inverted = 1, f0 = 1), launch `_pi` = `P0` (`si` pulses,
`a` = 0), capture `_pi` = `P1` -/
def e2eNet : Net :=
  { nodes := #[⟨"input", [], [some 0]⟩, ⟨"input", [], [some 1]⟩, ⟨"DFF", [some 1], [some 2]⟩,
               ⟨"dff", [some 3], [some 4, some 5]⟩, ⟨"AND2", [some 0, some 2], [some 3]⟩,
               ⟨"output", [some 5], []⟩, ⟨"output", [some 4], []⟩],
    lines := #[⟨0, 0, 4, 0⟩, ⟨1, 0, 2, 0⟩, ⟨2, 0, 4, 1⟩, ⟨4, 0, 3, 0⟩, ⟨3, 0, 6, 0⟩, ⟨3, 1, 5, 0⟩],
    io := [0, 1, 5, 6] }
def e2eNames : List String := ["a", "si", "f0", "f1", "g", "z", "so"]
def e2eOrder : List Nat := [0, 1, 2, 3, 4, 5, 6]
def e2eC : Circ := ⟨["a", "si", "z", "so"],
  [("a", "input"), ("si", "input"), ("f0", "DFF"), ("f1", "dff"), ("g", "AND2"), ("z", "output"), ("so", "output")]⟩
def e2eChain : Chain := ⟨"si", ["f0", "!", "f1"], "so"⟩
def e2eF : File := ⟨[("_pi", ["si", "a"]), ("_po", ["so", "z"])], [e2eChain],
  [⟨"load_unload", [("si", "01".toList)]⟩, ⟨"allclock_launch", [("_pi", "P0".toList)]⟩,
   ⟨"allclock_capture", [("_pi", "P1".toList), ("_po", "LH".toList)]⟩, ⟨"load_unload", [("so", "LH".toList)]⟩]⟩
def e2eP : Pat := ⟨[("si", "01".toList)], [("_pi", "P0".toList)], [("_pi", "P1".toList), ("_po", "LH".toList)], [("so", "LH".toList)]⟩
/-- rows: a si z so f0 f1 -/
def e2eNxt : List (List V3) := [[2, 2, 0, 3, 4, 0].map v]
def e2eLoc : List (List V3) := [[5, 0, 2, 2, 6, 6].map v]

theorem e2e_hyps : e2eNet.wfB = true ∧ orderOKB e2eNet e2eOrder = true ∧ forksOKB e2eNet e2eOrder = true ∧
    compatB e2eC e2eNet e2eNames = true := by decide +kernel
example : e2eC.sNodes = ["a", "si", "z", "so", "f0", "f1"] ∧ e2eNet.sNodes = [0, 1, 5, 6, 2, 3] := by decide +kernel
theorem e2e_pat : (extract e2eF)[0]? = some e2eP ∧ noLaunchPulse e2eP = false := by decide +kernel
example : (extract e2eF)[0]? = some e2eP ∧ noLaunchPulse e2eP = false := e2e_pat
theorem e2e_nd :
    ((mapsPure .spec e2eC e2eF).scanRows ++ (mapsPure .spec e2eC e2eF).pi ++ (mapsPure .spec e2eC e2eF).po).Nodup := by
  decide +kernel
/-- the simulation of the model: `f0` captures the pulse on `si`, `f1` captures `a AND f0 = 0`, `z = NOT f1 = 0`, `so = f1 = 1`,
    the undriven ports stay unassigned -/
theorem e2e_nxt : nxtOf e2eC e2eF e2eNet e2eOrder = e2eNxt := by decide +kernel
theorem e2e_loc : testsLoc .spec e2eC e2eF (nxtOf e2eC e2eF e2eNet e2eOrder) = .ok e2eLoc := by
  rw [e2e_nxt]; decide +kernel
/-- all hypotheses of `tests_loc_end_to_end` hold for cell `f1` (node 3, data line 3 = output of `g`), `σ` = the simulation
    result, which `loc_labelling_unique` shows consistent; the value is `mv_transition(1, 0)`: a falling transition -/
example : ∃ col, e2eLoc[0]? = some col ∧ e2eC.sNodes[e2eC.cellRow "f1"]? = some "f1" ∧ nameAt e2eNames 3 = "f1" ∧
    col[e2eC.cellRow "f1"]? = some (mvTransition (invLoad (odd (markers ["f0", "!"])) (interp '0'))
      (if noLaunchPulse e2eP then xorInv (odd (markers ["f0", "!"])) (interp '0')
       else valOf e2eNet e2eOrder (initCol (mapsPure .spec e2eC e2eF) e2eP) 3)) :=
  tests_loc_end_to_end e2eC e2eF e2eNet e2eNames e2eOrder e2eLoc 0 e2eP e2eChain ["f0", "!"] [] "f1" "01".toList '0' _ 3 3
    e2e_hyps.1 e2e_hyps.2.1 e2e_hyps.2.2.1 e2e_hyps.2.2.2 e2e_loc e2e_pat.1 (by decide +kernel)
    (by decide +kernel) (by decide +kernel) (by decide +kernel) e2e_nd (by decide +kernel) (by decide +kernel)
    (by decide +kernel) (loc_labelling_unique e2eNet e2eOrder e2e_hyps.1 e2e_hyps.2.1 e2e_hyps.2.2.1 _).1 (by decide +kernel) (by decide +kernel)
example : mvTransition (invLoad (odd (markers ["f0", "!"])) (interp '0'))
    (valOf e2eNet e2eOrder (initCol (mapsPure .spec e2eC e2eF) e2eP) 3) = fall := by decide +kernel
/-- the assignment the simulator was given: `f1` = 1 (loaded 0 behind one marker), `a` = 0 (second member of `_pi`) -/
example : envOf e2eNet (initCol (mapsPure .spec e2eC e2eF) e2eP) (e2eNet.idx.ppi + e2eC.cellRow "f1") = V3.one ∧
    envOf e2eNet (initCol (mapsPure .spec e2eC e2eF) e2eP) (e2eNet.idx.ppi + e2eC.portRow "a") = V3.zero := by
  decide +kernel
/-- hypotheses of `tests_loc_end_to_end_input` for the input `a` (node 0, no driver, capture pulse present) -/
example : ∃ col, e2eLoc[0]? = some col ∧ e2eC.sNodes[e2eC.portRow "a"]? = some "a" ∧ nameAt e2eNames 0 = "a" ∧
    col[e2eC.portRow "a"]? = some (mvTransition (interp '0')
      (if capturePulse e2eP then interp '1' else
        match (e2eNet.node 0).inPin 0 with
        | some l => valOf e2eNet e2eOrder (initCol (mapsPure .spec e2eC e2eF) e2eP) l
        | none => V3.unassigned)) :=
  tests_loc_end_to_end_input e2eC e2eF e2eNet e2eNames e2eOrder e2eLoc 0 e2eP 1 "a" '0' '1' _ 0
    e2e_hyps.1 e2e_hyps.2.1 e2e_hyps.2.2.1 e2e_hyps.2.2.2 e2e_loc e2e_pat.1 (by decide +kernel)
    (by decide +kernel) e2e_nd (by decide +kernel) (by decide +kernel) (fun _ => by decide +kernel)
    (loc_labelling_unique e2eNet e2eOrder e2e_hyps.1 e2e_hyps.2.1 e2e_hyps.2.2.1 _).1 (by decide +kernel) (by decide +kernel)

/-- hypotheses of `nxtOf_memory` on the example (capacity 1 everywhere): the initial memory holds the stimulus in the input
    slots (`a` at location 3, `si` at 4, `f0` at 5, `f1` at 6, the constant 0 at 0); the output slot of `f1` (position 5, node 3,
    data line 3) then holds entry 5 of the model's column, the plain 0 -/
def e2eM0 : Int → V3 := fun a => if a = 4 then ppulse else if a = 5 ∨ a = 6 then V3.one else V3.zero
theorem e2eM0_ok : ∀ x ∈ (simopsMap Gen.kindPrefixes e2eNet e2eOrder false (fun _ => 1) 1 false).tracked,
    (∀ o ∈ (simopsMap Gen.kindPrefixes e2eNet e2eOrder false (fun _ => 1) 1 false).ops, o.out ≠ x) →
      e2eM0 ((simopsMap Gen.kindPrefixes e2eNet e2eOrder false (fun _ => 1) 1 false).loc x) =
        envOf e2eNet (initCol (mapsPure .spec e2eC e2eF) e2eP) x := by decide +kernel
example : MapSound.memRun (simopsMap Gen.kindPrefixes e2eNet e2eOrder false (fun _ => 1) 1 false) (MapSound.rowRW V3)
      (fun o => semL8 o.lut) (simopsMap Gen.kindPrefixes e2eNet e2eOrder false (fun _ => 1) 1 false).ops e2eM0
      ((simopsMap Gen.kindPrefixes e2eNet e2eOrder false (fun _ => 1) 1 false).loc (e2eNet.idx.ppo + 5)) = V3.zero :=
  (nxtOf_memory e2eNet e2eOrder (fun _ => 1) 1 e2e_hyps.1 e2e_hyps.2.1 (by decide +kernel) (by decide) _ e2eM0 e2eM0_ok 3 5 3
    (by decide +kernel) (by decide +kernel)).trans (by decide +kernel)

/-- `InvMode.first` differs: chain `f0 ! f1 f2`, load `100`: the property asks for f0 = 0, the `InvMode.first`
variant (first flag only) gives f0 = 1 -/
theorem legacy_inversion_differs :
    let c : Circ := ⟨["si", "so"], [("f0", "DFF"), ("f1", "DFF"), ("f2", "DFF")]⟩
    let f : File := ⟨[("_pi", ["si"]), ("_po", ["so"])], [⟨"si", ["f0", "!", "f1", "f2"], "so"⟩],
      [⟨"load_unload", [("si", "100".toList)]⟩, ⟨"x_capture", [("_pi", "0".toList), ("_po", "L".toList)]⟩, ⟨"load_unload", [("so", "LLL".toList)]⟩]⟩
    tests .spec c f = .ok [[0, 2, 0, 3, 0].map v] ∧ tests ⟨.sNodes, .first, .role⟩ c f = .ok [[0, 2, 3, 3, 0].map v] := by
  decide +kernel

/-- `LookMode.last` differs: bench-style circuit `INPUT(si) INPUT(a) OUTPUT(q1) OUTPUT(z)  q0 = DFF(si)
g = AND(a, q0)  q1 = DFF(g)  z = NOT(q1)`, `_po = q1 + z`, chain `si: q0 ! q1 :q1`, capture `_po = LH`, unload `LH`: the property (and
stil.py) puts `L` on the row of PORT `q1` (row 2); `LookMode.last` (one dictionary, last position) never assigns the port
row and writes the `_po` character onto the flip-flop's row 5, where the unload character overwrites it -/
theorem name_clash_as_found :
    let c : Circ := ⟨["si", "a", "q1", "z"], [("si", "__fork__"), ("a", "__fork__"), ("q1", "__fork__"), ("z", "__fork__"), ("q0", "DFF"),
      ("q0", "__fork__"), ("g", "AND"), ("g", "__fork__"), ("q1", "DFF"), ("z", "NOT")]⟩
    let f : File := ⟨[("_pi", ["si", "a"]), ("_po", ["q1", "z"])], [⟨"si", ["q0", "!", "q1"], "q1"⟩],
      [⟨"load_unload", [("si", "01".toList)]⟩, ⟨"cap_capture", [("_pi", "00".toList), ("_po", "LH".toList)]⟩,
       ⟨"load_unload", [("q1", "LH".toList)]⟩]⟩
    c.sNodes = ["si", "a", "q1", "z", "q0", "q1"] ∧ c.portRow "q1" = 2 ∧ c.cellRow "q1" = 5 ∧
    responses .spec c f = .ok [[2, 2, 0, 3, 0, 0].map v] ∧
    responses ⟨.sNodes, .full, .last⟩ c f = .ok [[2, 2, 2, 3, 0, 0].map v] := by
  decide +kernel

/-- `IntfMode.upperDff` differs: a lower-case `dff` in the chain is a `KeyError` with the `upperDff` interface,
and with a latch that interface is shorter than `s_nodes` -/
theorem legacy_interface_differs :
    tests ⟨.upperDff, .full, .role⟩ exC exF = .error .key ∧ exC.upperDffIntf.length + 2 = exC.sNodes.length := by
  decide +kernel

/-! ## text level: the grammar of `stil.py` (Model/StilText.lean) -/
section text
open KV.StilText

/-- Print/parse round trip of the STIL text model: for every syntax tree `f` of the grammar (version, skipped blocks,
PatternBurst, UserKeywords, SignalGroups with `+` lists / annotation block / optional `;`, ScanStructures with all
ScanChain statements incl. `!` markers, Pattern blocks with labels, W, C, Macro, Ann and Call statements with
parameter lists) whose tokens are tokens of the grammar (`StilFile.valid`: quoted names without `"` inside, digits,
version over `[-0-9.]`, parameter values without `;` that do not start with a blank / line end / `/`, skipped regions
well nested with text runs that start at such a character and never follow one another) and that the transformer accepts (`StilFile.ok`, part of `valid`), reading the canonical text (every token
preceded by a blank, a value directly followed by its `;`, a text run of a skipped region directly by its brace) gives back exactly `f` — through the scanner with lark's
per-state terminal order (incl. the merged states after a quoted name and after a skipped region), the reader for the
grammar, and the raise conditions of transformer and `StilFile.__init__`. -/
theorem stil_text_roundtrip (f : StilFile) (h : f.valid = true) : parseStil (printStil f) = some f := by
  simp [parseStil, printStil, String.toList_ofList, parseStilL_print f h]

/-- the same at the grammar level alone (what lark's parse tree contains, no transformer) -/
theorem stil_text_roundtrip_tree (f : StilFile) (h : f.valid = true) : parseTree (printStilL f) = some f :=
  parseTree_print f h

private def t (s : String) : Txt := s.toList

/-- two chains with markers and hierarchical cell names, groups with and without annotation block / semicolon, nested
skipped regions with text, a pattern with label, W, C, Macro, Ann and three calls -/
def exText : StilFile :=
  { version := t "1.0", headIgn := some [IgnTok.nob (t "Design 2005; ")],
    blocks := [.skip .Header [.nob (t "Title \"x\"; History "), .opn, .nob (t "Ann "), .opn, .nob (t "* a *"), .cls, .cls],
      .skip .Signals [.nob (t "\"a0\" In; \"z0\" Out; ")],
      .groups [⟨t "\"_pi\"", t "\"a0\"", [t "\"clk\"", t "\"si0\""], none, true⟩, ⟨t "\"_si\"", t "\"si0\"", [], some [], false⟩,
               ⟨t "\"_po\"", t "\"z0\"", [t "\"so0\""], some [], true⟩, ⟨t "\"all\"", t "\"_pi\"", [t "\"_po\""], none, false⟩],
      .skip .Timing [],
      .chains [⟨t "\"c0\"", [.length (t "2"), .scanIn (t "\"si0\""), .scanOut (t "\"so0\""), .inv (t "1"),
                 .cells [.bang, .cell (t "\"top.f0.SI\""), .bang, .bang, .cell (t "\"f1\"")], .clock (t "\"clk\"")]⟩,
               ⟨t "\"c1\"", [.scanIn (t "\"si1\""), .cells [.cell (t "\"r_reg[3].SI\"")], .scanOut (t "\"so1\"")]⟩],
      .burst (t "\"_burst_\"") [], .skip .Patternexec [], .skip .Procedures [], .skip .Macrodefs [], .ukw (t "abc;"),
      .pattern (t "\"_pattern_\"") [.w (t "\"_default_WFT_\""), .label (t "\"precondition\""), .c [.nob (t "\"_pi\"=\\r4 0 ; ")], .macro_ (t "\"test_setup\""),
        .ann [.nob (t "* fast_sequential *")], .label (t "\"pattern 0\""), .call (t "\"load_unload\"") [(t "\"si0\"", t "01"), (t "\"si1\"", t "N")],
        .call (t "\"multiclock_capture\"") [(t "\"_pi\"", t "0P1"), (t "\"_po\"", t "LH")],
        .call (t "\"load_unload\"") [(t "\"so0\"", t "L\nH"), (t "\"so1\"", t "X")]]] }

theorem exText_valid : exText.valid = true := by decide +kernel
example : exText.valid = true := exText_valid
example : parseStil (printStil exText) = some exText := stil_text_roundtrip exText exText_valid
/-- hand-over to the post-parse model: cell names lose `.SI` and their path, markers stay, ports frame the chain -/
example : (exText.toFile.map fun f => (f.chains, f.groups.map (·.1), f.calls.map (·.name)))
    = some ([⟨"si0", ["!", "f0", "!", "!", "f1"], "so0"⟩, ⟨"si1", ["r_reg[3]"], "so1"⟩], ["_pi", "_si", "_po", "all"],
            ["load_unload", "multiclock_capture", "load_unload"]) := by decide +kernel

/-- as `C14.parseSdf_ofList` -/
theorem parseStil_ofList (l : List Char) : parseStil (String.ofList l) = parseStilL l := by rw [parseStil, String.toList_ofList]

/-- the reader on a text the printer does not produce: comments, a nested skipped region with text (the ignored terminal is
tried first, so text inside starts at its first solid character), a wrapped value,
`ScanInversion` before `ScanIn` (longest keyword first), no blank between tokens -/
example : parseStil ("STIL 1.0 { Design 2005; }\nHeader { Title \"x\"; History { Ann {* a *} } } // c\n" ++
      "ScanStructures{ScanChain\"1\"{ScanInversion 0;ScanIn\"i\";ScanCells\"a\"!;}}Pattern\"p\"{Call\"c\"{\"k\"= 0\n1 ;}}")
    = some ⟨t "1.0", some [.nob (t "Design 2005; ")],
        [.skip .Header [.nob (t "Title \"x\"; History "), .opn, .nob (t "Ann "), .opn, .nob (t "* a *"), .cls, .cls],
         .chains [⟨t "\"1\"", [.inv (t "0"), .scanIn (t "\"i\""), .cells [.cell (t "\"a\""), .bang]]⟩],
         .pattern (t "\"p\"") [.call (t "\"c\"") [(t "\"k\"", t "0\n1 ")]]]⟩ := by
  show parseStil (String.ofList _ ++ String.ofList _) = _
  rw [← String.ofList_append, parseStil_ofList]
  decide +kernel
/-- the grammar accepts a file without ScanStructures; `StilFile.__init__` raises on it -/
example : parseStil "STIL 1.0; Pattern \"p\" { }" = none ∧ (parseTree "STIL 1.0; Pattern \"p\" { }".toList).isSome = true := by
  rw [parseStil_ofList, String.toList_ofList]
  decide +kernel
end text

/-! ## pattern assembly (`StilFile.__init__`, stil.py:28-56)
A call list of the shape `load_unload+, [x_launch,] y_capture, load_unload+, [..,] .., load_unload` (`Stil.callsOf bs fin`; a block `Blk` =
any number of `load_unload` calls that no capture follows (`pre`), its own `load_unload`, optional launch call, capture call with at
least one parameter). -/
section extract
open KV.Stil

/-- **pattern assembly**: the pattern list is `expectPats` — for every block list, closing call, chain list (scan port names) -/
theorem extract_blocks (groups : List (String × List String)) (chains : List Chain) (bs : List Blk) (fin : Dict)
    (hb : ∀ b ∈ bs, b.ok = true) :
    extract ⟨groups, chains, callsOf bs fin⟩ = expectPats (chains.map (·.si)) (chains.map (·.so)) bs fin :=
  Stil.extract_blocks groups chains bs fin hb

/-- one pattern per block: the closing `load_unload` opens no pattern, nothing is dropped or doubled -/
theorem extract_count (groups : List (String × List String)) (chains : List Chain) (bs : List Blk) (fin : Dict)
    (hb : ∀ b ∈ bs, b.ok = true) : (extract ⟨groups, chains, callsOf bs fin⟩).length = bs.length := by
  rw [extract_blocks groups chains bs fin hb, expectPats_length]

/-- **pattern `k`** = the scan-in strings of block `k`'s `load_unload` (scan-in ports only, in chain order), the cleaned launch
    parameters of block `k` (EMPTY when the block has no launch call — not the previous block's), the cleaned capture parameters of
    block `k`, and the scan-out strings of the NEXT `load_unload` call in the list: the first one of block `k + 1` (a discarded
    `load_unload` in front of that block if there is one — its load is lost, its unload is not), for the last block the closing call -/
theorem extract_pattern (groups : List (String × List String)) (chains : List Chain) (bs : List Blk) (fin : Dict)
    (hb : ∀ b ∈ bs, b.ok = true) (k : Nat) (hk : k < bs.length) :
    (extract ⟨groups, chains, callsOf bs fin⟩)[k]? =
      some ⟨pick (chains.map (·.si)) bs[k].lu, bs[k].launch, cleanDict bs[k].ca,
            pick (chains.map (·.so)) (if h : k + 1 < bs.length then bs[k + 1].unloadSrc else fin)⟩ := by
  rw [extract_blocks groups chains bs fin hb, List.getElem?_eq_getElem (by rw [expectPats_length]; exact hk),
    expectPats_get _ _ bs fin k hk]

/-- non-vacuity: two blocks (the second without launch call and behind a discarded `load_unload`), one chain; `N` → `-`, line break removed, the unload of pattern 0
    comes from the discarded `load_unload`, the load of pattern 1 from the one after it, the launch of pattern 1 is empty -/
example :
    let bs : List Blk := [⟨[], [("si0", "01".toList), ("so0", "LL".toList)], some ("ck_launch", [("_pi", "0P".toList)]), "ck_capture", [("_po", "LH".toList)]⟩,
                          ⟨[[("si0", "00".toList), ("so0", "H\nL".toList)]], [("si0", "1N".toList), ("so0", "LL".toList)], none, "x_capture", [("_pi", "11".toList)]⟩]
    (∀ b ∈ bs, b.ok = true) ∧
    extract ⟨[], [⟨"si0", ["a", "b"], "so0"⟩], callsOf bs [("so0", "XX".toList)]⟩ =
      [⟨[("si0", "01".toList)], [("_pi", "0P".toList)], [("_po", "LH".toList)], [("so0", "HL".toList)]⟩,
       ⟨[("si0", "1-".toList)], [], [("_pi", "11".toList)], [("so0", "XX".toList)]⟩] := by decide +kernel
end extract

/-- two chains sharing the scan-in port `si` — `hnd` holds, `portsOK` does not: the
positional theorems do not apply (not stated here: the real `tests` leaves `f0` untouched, the list-walking model writes both chains) -/
theorem shared_scan_port_outside :
    let c : Circ := ⟨["si", "a", "so1", "so2"], [("si","__fork__"),("a","__fork__"),("so1","__fork__"),("so2","__fork__"),
      ("f0","DFF"),("f1","DFF"),("so1","BUF"),("so2","BUF")]⟩
    let fl : File := ⟨[("_pi", ["si","a"]), ("_po", ["so1","so2"])], [⟨"si", ["f0"], "so1"⟩, ⟨"si", ["f1"], "so2"⟩],
      [⟨"load_unload", [("si", "1".toList)]⟩, ⟨"x_capture", [("_pi", "00".toList), ("_po", "LL".toList)]⟩,
       ⟨"load_unload", [("so1","L".toList),("so2","L".toList)]⟩]⟩
    ((mapsPure .spec c fl).scanRows ++ (mapsPure .spec c fl).pi).Nodup ∧ fl.portsOK = false := by decide +kernel

end KV.C18
