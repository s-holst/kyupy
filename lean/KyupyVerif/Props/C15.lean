import KyupyVerif.Proofs.Encode
/-! # C15 — logic-value encodings convert losslessly and follow the axis convention (model level)

Statements about the hand-written executable model `Model/Encode.lean` (`KV.Enc`), for **every** leading shape,
pattern count `P`, signal count, bit width `w > 0` and signedness.  An array is `Arr`: `lead` (all axes but the
last), `last` (length of the last axis), `rows` (`lead.prod` last-axis vectors in C order); `wf` says exactly that.

* THEOREM (this file): round trip `bp_to_mv ∘ mv_to_bp`, plane/byte/bit layout, axis arrangement of `mvarray` for a flat list of
  strings (`axes`, …) AND for arguments nested two deep (`mvarray_nested`, `mvarray_nested_block`: groups = new first axis, each
  group arranged as the flat call), `packbits`/`unpackbits` inverse laws, `cdiv`.  Depth 3 (and the corner
  cases of depth 2: one-string groups, one-character strings, empty and ragged nestings) is MODELLED (`mvarray3`, `stack`,
  `arrange`) and TIED (`enc.mvarrayn`), not stated as a general theorem.  `mv_str` of an array with more than two axes raises
  TypeError in the real code (model `mvStr = none`): rendering is lossless for ≤ 2-D only — recorded as restriction, see harness.  A 0-d
  array, for which `mv_str` returns the character itself (logic.py:116), is outside `Arr`.
* THEOREM over GENERATED tables (`Props/C15Gen.lean`): render/parse of the eight values, aliases, `mv_str ∘ mvarray`,
  `popcount`, `bit_in`.
* THEOREM, composition with C01/C02/C06 (`Props/C15Sim.lean`): the byte planes of `mv_to_bp` ARE the `BitVec` lanes of the bit-parallel
  simulation theorems; pattern strings → `LogicSim` (m = 2, 4, 8; any `P`) → result strings, `cycle(k)` on bytes.
* CORRESPONDENCE (harness/c15.py): the model functions used here equal the real kyupy functions on random inputs
  (driver commands `enc.*`).  NumPy itself is exercised, not modelled.
* ORACLE (harness/c15.py): the same statements evaluated on the real functions. -/
namespace KV.C15
open KV.Enc

/-! ## mv_to_bp / bp_to_mv -/

/-- shape of `mv_to_bp`: a plane axis of length 3 is inserted before the last axis, which shrinks to
`cdiv P 8` bytes; the result is well-formed. (`a.lead ≠ []`: at least two axes; 1-D see `bp_mv_roundtrip_1d`.) -/
theorem mv_to_bp_shape (a : Arr Nat) (hwf : a.wf = true) (hl : a.lead ≠ []) :
    (mvToBp a).lead = a.lead ++ [3] ∧ (mvToBp a).last = cdiv a.last 8 ∧ (mvToBp a).wf = true := by
  obtain ⟨hlen, _⟩ := (wf_iff a).mp hwf
  refine ⟨by simp [mvToBp, hl], by simp [mvToBp, hl], ?_⟩
  rw [wf_iff]
  simp only [mvToBp, hl, if_false]
  constructor
  · have : ∀ rows : List (List Nat), (rows.flatMap (mvToBpRow (cdiv a.last 8))).length = rows.length * 3 := by
      intro rows; induction rows with
      | nil => rfl
      | cons r rs ih => simp only [List.flatMap_cons, List.length_append, ih, mvToBpRow_length, List.length_cons]; omega
    rw [this, hlen]; simp [List.prod_append]
  · intro r hr
    simp only [List.mem_flatMap, mvToBpRow, List.mem_map] at hr
    obtain ⟨_, _, _, _, rfl⟩ := hr
    simp

/-- **round trip, every shape with ≥ 2 axes and every pattern count `P = a.last`**: `bp_to_mv (mv_to_bp a)` has the
leading shape of `a`, last axis `8 * cdiv P 8`, and each row is the row of `a` masked to three bits followed by
zeros in the padding lanes. -/
theorem bp_mv_roundtrip (a : Arr Nat) (hwf : a.wf = true) (hl : a.lead ≠ []) :
    bpToMv (mvToBp a) = some ⟨a.lead, 8 * cdiv a.last 8,
      a.rows.map fun r => r.map (· &&& 7) ++ List.replicate (8 * cdiv a.last 8 - a.last) 0⟩ := by
  obtain ⟨hlen, hrow⟩ := (wf_iff a).mp hwf
  simp only [mvToBp, hl, if_false, bpToMv, List.getLast?_concat, List.dropLast_concat]
  rw [← hlen, chunks_flatMap 3 _ _ (fun r _ => mvToBpRow_length _ r)]
  simp only [List.map_map, Option.some.injEq, Arr.mk.injEq, true_and]
  apply List.map_congr_left
  intro r hr
  have := bpToMvRow_mvToBpRow r
  rw [hrow r hr] at this
  simp only [Function.comp, this, and_seven_eq_mod]

/-- restricted to the first `P` patterns the round trip is `a &&& 7` -/
theorem bp_mv_roundtrip_first (a : Arr Nat) (hwf : a.wf = true) (hl : a.lead ≠ []) :
    ∃ b, bpToMv (mvToBp a) = some b ∧ b.lead = a.lead ∧ a.last ≤ b.last ∧
      b.rows.map (·.take a.last) = a.rows.map (·.map (· &&& 7)) := by
  obtain ⟨_, hrow⟩ := (wf_iff a).mp hwf
  refine ⟨_, bp_mv_roundtrip a hwf hl, rfl, cdiv8_ge a.last, ?_⟩
  simp only [List.map_map]
  apply List.map_congr_left
  intro r hr
  simp only [Function.comp]
  rw [List.take_left' (by simp [hrow r hr])]

/-- the padding lanes `P .. 8*cdiv P 8 - 1` read 0 -/
theorem bp_mv_padding_zero (a : Arr Nat) (hwf : a.wf = true) (hl : a.lead ≠ []) :
    ∃ b, bpToMv (mvToBp a) = some b ∧ b.last = 8 * cdiv a.last 8 ∧
      ∀ r ∈ b.rows, ∀ x ∈ r.drop a.last, x = 0 := by
  obtain ⟨_, hrow⟩ := (wf_iff a).mp hwf
  refine ⟨_, bp_mv_roundtrip a hwf hl, rfl, ?_⟩
  intro r hr x hx
  simp only [List.mem_map] at hr
  obtain ⟨r0, hr0, rfl⟩ := hr
  rw [List.drop_left' (by simp [hrow r0 hr0])] at hx
  exact (List.mem_replicate.mp hx).2

/-- 1-D input (`S` signals, one pattern: `mva[..., np.newaxis]`): result `[S][8]`, lane 0 = value masked -/
theorem bp_mv_roundtrip_1d (v : List Nat) :
    bpToMv (mvToBp ⟨[], v.length, [v]⟩) = some ⟨[v.length], 8, v.map fun x => [x &&& 7, 0, 0, 0, 0, 0, 0, 0]⟩ := by
  have h : mvToBp ⟨[], v.length, [v]⟩ = mvToBp ⟨[v.length], 1, v.map ([·])⟩ := by simp [mvToBp]
  have hwf : (⟨[v.length], 1, v.map ([·])⟩ : Arr Nat).wf = true := by simp [wf_iff]
  rw [h, bp_mv_roundtrip _ hwf (by simp)]
  simp [cdiv, List.replicate]

/-- **layout**: in `mv_to_bp` of a row of `P` values, bit `p % 8` (least significant first) of byte `p / 8` of
plane `b` is bit `b` of pattern `p`; lanes `p ≥ P` of the last byte are 0. -/
theorem bp_layout (row : List Nat) (b p : Nat) (hb : b < 3) (hp : p < 8 * cdiv row.length 8) :
    (((mvToBpRow (cdiv row.length 8) row).getD b []).getD (p / 8) 0 / 2 ^ (p % 8) % 2 == 1)
      = (decide (p < row.length) && (row.getD p 0 / 2 ^ b % 2 == 1)) := by
  rw [← getD_unpackBytes, mvToBpRow_getD _ _ _ hb, getD_unpack_pack, colBit _ _ _ hb]
  simp [hp]

/-- `kyupy.cdiv` is the ceiling of the quotient (number of bytes for `P` patterns: `cdiv P 8`) -/
theorem cdiv_spec (x y : Nat) (hy : 0 < y) : x ≤ cdiv x y * y ∧ cdiv x y * y < x + y := by
  unfold cdiv
  have h1 := Nat.div_add_mod (x + y - 1) y
  have h2 := Nat.mod_lt (x + y - 1) hy
  rw [Nat.mul_comm] at h1
  constructor <;> omega

/-! ## mvarray: axis arrangement -/

/-- **axes**: for `P ≥ 2` pattern strings of common length `S ≠ 1`, `mvarray s₀ … s_{P-1}` is the 2-D array of
shape `(S, P)` — signals on the second-to-last axis, patterns on the last — whose entry `[sig][pat]` is
`interpret s_pat[sig]`. -/
theorem axes (tbl : List (Nat × Nat)) (ss : List (List Nat)) (S : Nat)
    (hu : ∀ s ∈ ss, s.length = S) (hP : 2 ≤ ss.length) (hS : S ≠ 1) :
    ∃ a, mvarray tbl ss = some a ∧ a.lead = [S] ∧ a.last = ss.length ∧ a.wf = true ∧
      ∀ sig pat c : Nat, ss[pat]?.bind (·[sig]?) = some c → a.rows[sig]?.bind (·[pat]?) = some (interpretWith tbl c) := by
  refine ⟨_, mvarray_2d tbl ss S hu hP hS, rfl, rfl, by simp [wf_iff], fun sig pat c hc => ?_⟩
  cases hp : ss[pat]? with
  | none => simp [hp] at hc
  | some s =>
    simp only [hp, Option.bind_some] at hc
    have hmem : s ∈ ss := List.mem_of_getElem? hp
    have hsig : sig < S := by
      have := hu s hmem
      have h2 : sig < s.length := by
        rcases Nat.lt_or_ge sig s.length with h | h
        · exact h
        · simp [List.getElem?_eq_none h] at hc
      omega
    simp [List.getElem?_map, List.getElem?_range hsig, hp, List.getD_eq_getElem?_getD, hc]

/-- one pattern string: 1-D array along the signals (`mva[..., 0, :]`) -/
theorem axes_single_pattern (tbl : List (Nat × Nat)) (s : List Nat) :
    mvarray tbl [s] = some ⟨[], s.length, [s.map (interpretWith tbl)]⟩ := mvarray_single tbl s

/-- one-character strings are scalars for `interpret`: `P` of them give a 1-D array of length `P` (the reading
`mvarray(1, 0, 1)` = one vector fixed by tests/test_logic.py), NOT shape `(1, P)`. -/
theorem axes_one_signal (tbl : List (Nat × Nat)) (ss : List (List Nat)) (hne : ss ≠ [])
    (hu : ∀ s ∈ ss, s.length = 1) :
    mvarray tbl ss = some ⟨[], ss.length, [ss.map fun s => interpretWith tbl (s.headD 0)]⟩ := by
  cases ss with
  | nil => exact absurd rfl hne
  | cons s0 rest =>
    have h0 : s0.length = 1 := hu s0 List.mem_cons_self
    have hany := any_len_false (s0 :: rest) 1 hu
    simp only [mvarray, h0, hany, Bool.false_eq_true, if_false, beq_self_eq_true, if_true, List.map_map,
      Option.some.injEq, Arr.mk.injEq, true_and, List.cons.injEq, and_true]
    apply List.map_congr_left
    intro s hs
    have := hu s hs
    match s, this with
    | [c], _ => simp

/-- guard: strings of different lengths raise (`np.array` on a ragged list) -/
theorem mvarray_ragged_raises (tbl : List (Nat × Nat)) (s0 : List Nat) (rest : List (List Nat))
    (h : ∃ s ∈ rest, s.length ≠ s0.length) : mvarray tbl (s0 :: rest) = none := by
  obtain ⟨s, hs, hne⟩ := h
  have : (s0 :: rest).any (·.length != s0.length) = true := by
    rw [List.any_eq_true]; exact ⟨s, List.mem_cons_of_mem _ hs, by simpa using hne⟩
  simp only [mvarray, this, if_true]

/-! ## mvarray with nested arguments -/

/-- **nested arguments, depth 2** — `mvarray(['01','1X'], ['--','HL'])`: `G ≥ 1` groups (the arguments), each a list of `P ≥ 2`
pattern strings of common length `S ≠ 1`. The result has shape `(G, S, P)`: the groups form a new FIRST (batch) axis, and inside
group `g` the `(S, P)` block holds, at `(sig, pat)`, the interpreted character `sig` of string `pat` — signals second-to-last,
patterns last, exactly as the flat call arranges that group (`axes`). Model: `mvarray2` = `np.array(interpret(a))` (`stack`,
homogeneous nesting or ValueError) followed by the three lines of `mvarray` (`arrange`); tied by `enc.mvarrayn` for depth 1, 2, 3
(incl. one-string groups → `mva[..., 0, :]`, one-character strings, ragged and empty nestings). -/
theorem mvarray_nested (tbl : List (Nat × Nat)) (gs : List (List (List Nat))) (P S : Nat) (hne : gs ≠ [])
    (hP : ∀ g ∈ gs, g.length = P) (hS : ∀ g ∈ gs, ∀ s ∈ g, s.length = S) (hP2 : 2 ≤ P) (hS1 : S ≠ 1) :
    mvarray2 tbl gs = some ⟨[gs.length, S, P],
      gs.flatMap fun g => (List.range S).flatMap fun sig => g.map fun s => interpretWith tbl (s.getD sig 0)⟩ := by
  have h1 : ∀ g ∈ gs, interp1 tbl g = some ⟨[P, S], g.flatMap fun s => s.map (interpretWith tbl)⟩ := by
    intro g hg
    have hgne : g ≠ [] := by intro h; have := hP g hg; rw [h] at this; simp at this; omega
    rw [← hP g hg]
    exact stack_map _ [S] _ g hgne fun s hs => by
      rw [interpStr_of_ne_one tbl s (by rw [hS g hg s hs]; exact hS1), hS g hg s hs]
  have h2 : interp2 tbl gs = some ⟨[gs.length, P, S], gs.flatMap fun g => g.flatMap fun s => s.map (interpretWith tbl)⟩ :=
    stack_map _ [P, S] _ gs hne h1
  unfold mvarray2
  rw [h2]
  have hPgt : P > 1 := by omega
  simp only [Option.bind_some, arrange, List.reverse_cons, List.reverse_nil, List.nil_append, List.cons_append, hPgt,
    if_true, List.prod_cons, List.prod_nil, Nat.mul_one]
  have hlen : ∀ g ∈ gs, (g.flatMap fun s => s.map (interpretWith tbl)).length = P * S := by
    intro g hg
    have : ∀ s ∈ g, (s.map (interpretWith tbl)).length = S := fun s hs => by simp [hS g hg s hs]
    rw [List.length_flatMap, List.map_congr_left this]
    rw [List.map_const', List.sum_replicate_nat, hP g hg]
  rw [chunks_flatMap (P * S) _ gs hlen, List.flatMap_map]
  congr 2
  apply flatMap_congr
  intro g hg
  have := transposeBlock_group tbl g S (hS g hg)
  rw [hP g hg] at this
  exact this

/-- … and each group's block IS the flat `mvarray` of that group (rows = signals, C order) -/
theorem mvarray_nested_block (tbl : List (Nat × Nat)) (g : List (List Nat)) (S : Nat)
    (hS : ∀ s ∈ g, s.length = S) (hP2 : 2 ≤ g.length) (hS1 : S ≠ 1) :
    (mvarray tbl g).map (·.data) =
      some ((List.range S).flatMap fun sig => g.map fun s => interpretWith tbl (s.getD sig 0)) := by
  rw [mvarray_2d tbl g S hS hP2 hS1]
  simp only [Option.map_some, Arr.data, Option.some.injEq]
  rw [← List.flatMap_def]
  apply flatMap_congr
  intro j hj
  have hj' := List.mem_range.1 hj
  rw [List.map_map]
  apply List.map_congr_left
  intro s hs
  have := hS s hs
  simp only [Function.comp, List.getD_eq_getElem?_getD, List.getElem?_map]
  rw [List.getElem?_eq_getElem (by omega)]
  simp

/-- hypotheses satisfiable; `mvarray(['01X','10-'],['11R','00F'])` has shape (2,3,2) (real code: same data);
depth 3 (`mvarray3`, no general theorem — tie only): shape (2,2,2,2); one-string groups: `mva[..., 0, :]`; ragged: ValueError -/
example : mvarray2 [(48, 0), (49, 3), (88, 1), (45, 2), (82, 5), (70, 6)] [[[48,49,88],[49,48,45]], [[49,49,82],[48,48,70]]]
    = some ⟨[2, 3, 2], [0, 3, 3, 0, 1, 2, 3, 0, 3, 0, 5, 6]⟩ := by decide +kernel
example : mvarray3 [(48, 0), (49, 3)] [[[[48,49],[49,49]], [[48,48],[49,48]]], [[[48,48],[49,49]], [[49,49],[48,48]]]]
    = some ⟨[2, 2, 2, 2], [0, 3, 3, 3, 0, 3, 0, 0, 0, 3, 0, 3, 3, 0, 3, 0]⟩ := by decide +kernel
example : mvarray2 [(48, 0), (49, 3)] [[[48,49,49]], [[49,49,48]]] = some ⟨[2, 3], [0, 3, 3, 3, 3, 0]⟩
    ∧ mvarray2 [(48, 0), (49, 3)] [[[48,49],[49,49]], [[48,48]]] = none
    ∧ mvarrayN1 [(48, 0), (49, 3)] [[48, 49, 88], [49, 49, 48]] = some ⟨[3, 2], [0, 3, 3, 3, 1, 0]⟩ := by decide +kernel

/-! ## packbits / unpackbits: every width `w > 0`, signed and unsigned -/

/-- the value range of a `w`-bit dtype -/
def inRange (w : Nat) (signed : Bool) (x : Int) : Prop :=
  if signed then -((2 ^ (w - 1) : Nat) : Int) ≤ x ∧ x < ((2 ^ (w - 1) : Nat) : Int)
  else 0 ≤ x ∧ x < ((2 ^ w : Nat) : Int)

instance (w : Nat) (signed : Bool) (x : Int) : Decidable (inRange w signed x) := by
  unfold inRange; exact inferInstance

theorem bits_back (bs : List Bool) : (bs.map fun b => if b then (1 : Int) else 0).map (· != 0) = bs := by
  induction bs with
  | nil => rfl
  | cons b bs ih => cases b <;> simp_all

/-- **pack ∘ unpack = id** for every array shape (incl. 0-d), every width and signedness, on the dtype's range -/
theorem pack_unpack (w : Nat) (signed : Bool) (hw : 0 < w) (f : Flat Int) (h : ∀ x ∈ f.data, inRange w signed x) :
    packbits w signed (unpackbits w f) = some f := by
  have hw' : (w == 0) = false := by simp; omega
  simp only [packbits, unpackbits, hw', Bool.and_false, Bool.false_eq_true, if_false, List.map_map]
  congr 1
  cases f with
  | mk shape data =>
    simp only [Flat.mk.injEq, true_and]
    conv => rhs; rw [← List.map_id data]
    apply List.map_congr_left
    intro x hx
    have hr := h x hx
    simp only [Function.comp, bits_back, id]
    cases signed with
    | false =>
      simp only [inRange, Bool.false_eq_true, if_false] at hr
      exact packElem_unpackElem_u w x hr.1 hr.2
    | true =>
      simp only [inRange, if_true] at hr
      exact packElem_unpackElem_s w x hw hr.1 hr.2

/-- the bit with which `packbits` pads a short last axis: the last given bit for signed dtypes ('edge'), else 0 -/
def fillOf (w : Nat) (signed : Bool) (bs : List Bool) : Bool := if signed then (bs.take w).getLastD false else false

/-- **unpack ∘ pack** = the bits (non-zero ↦ 1) truncated to `w` resp. padded to `w` as documented; shape
`lead ++ [w]`.  (`packbits` raises for a signed dtype on an empty last axis.) -/
theorem unpack_pack (w : Nat) (signed : Bool) (a : Arr Int) (hne : signed = true → a.last ≠ 0) :
    (packbits w signed a).map (unpackbits w) = some ⟨a.lead, w, a.rows.map fun r =>
      (padTo w (fillOf w signed (r.map (· != 0))) (r.map (· != 0))).map fun b => if b then 1 else 0⟩ := by
  have hc : (signed && a.last == 0) = false := by
    cases signed with
    | false => rfl
    | true => simpa using hne rfl
  simp only [packbits, hc, Bool.false_eq_true, if_false, Option.map_some, unpackbits, List.map_map]
  congr 2
  apply List.map_congr_left
  intro r _
  simp only [Function.comp, fillOf]
  cases signed with
  | false => simp only [Bool.false_eq_true, if_false, unpackElem_packElem_u]
  | true => simp only [if_true, unpackElem_packElem_s]

/-- guard: signed dtype and empty last axis raises (`np.pad(…, 'edge')`) -/
theorem pack_signed_empty_raises (w : Nat) (a : Arr Int) (h : a.last = 0) : packbits w true a = none := by
  simp [packbits, h]

/-! ## non-vacuity: a 3-D shape `(2, 2, 13)` (13 patterns, not a multiple of 8), widths 8 and 64 -/
def ex3d : Arr Nat := ⟨[2, 2], 13,
  [[0, 1, 2, 3, 4, 5, 6, 7, 7, 6, 5, 4, 3], [3, 3, 3, 0, 0, 0, 9, 255, 1, 2, 4, 0, 7],
   [7, 7, 7, 7, 7, 7, 7, 7, 7, 7, 7, 7, 7], [0, 0, 0, 0, 0, 0, 0, 0, 0, 0, 0, 0, 1]]⟩
example : ex3d.wf = true ∧ ex3d.lead ≠ [] := by decide
example : (mvToBp ex3d).shape = [2, 2, 3, 2] := by decide +kernel
example : (mvToBp ex3d).rows.take 3 = [[0b10101010, 0b10101], [0b11001100, 0b10011], [0b11110000, 0b01111]] := by
  decide +kernel
example : (bpToMv (mvToBp ex3d)).map (·.rows.getD 1 []) = some [3, 3, 3, 0, 0, 0, 1, 7, 1, 2, 4, 0, 7, 0, 0, 0] := by
  decide +kernel
example : mvarray [(48, 0), (49, 3)] [[48, 49, 88], [49, 49, 48]] = some ⟨[3], 2, [[0, 3], [3, 3], [1, 0]]⟩ := by
  decide +kernel
example : inRange 8 true (-128) ∧ inRange 64 false 18446744073709551615 := by decide
example : packbits 64 true (unpackbits 64 ⟨[], [-9223372036854775808]⟩) = some ⟨[], [-9223372036854775808]⟩ := by
  decide +kernel
example : packbits 8 true ⟨[1], 3, [[1, 0, 5]]⟩ = some ⟨[1], [-3]⟩ := by decide +kernel

end KV.C15
