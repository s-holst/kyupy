import KyupyVerif.Proofs.Sdf
import KyupyVerif.Proofs.SdfText
import KyupyVerif.Proofs.SdfTextRaw
import KyupyVerif.Proofs.SdfCirc
/-! # C14 — every SDF delay lands on the right line, polarity and data set — none is lost

Object of the theorems: the hand-written model `KV.Sdf` (Model/Sdf.lean) of `kyupy/sdf.py` *after* lark:
`triple`, `sanitize`, `cell`, `start`, `DelayFile.__init__`, `iopaths`, `interconnects`, first over an abstract circuit
given by two tables (`pinLine`, `icLine`: theorems for ALL block lists / delay files and ALL tables), then (section
`circuit`, Model/SdfCirc.lean) with the look-ups the real code performs over the named circuit dump `NNet` and the library's
pin table: `pinLook` (`circuit.cells.get`, `cell.ins[tlib.pin_index(kind, pin)]`) and `icLook` (both cells, pin indices, the
two warn exits, fork asserts, branch fork / sole reader / warn).

* **Theorem** (kernel-checked, this file): where every assignment of the two annotation loops lands
  (`iopath_lands`, `interconnect_lands`), that nothing else is touched (`others_zero_*`), the value conventions
  (`edge_qualified_*`, `unqualified`), the skip test of the INTERCONNECT loop: `icSkip_iff`, `icSkip_iff_all_zero`,
  `icSkip_false_iff` — an entry is skipped EXACTLY when all its values are zero, negative values included (the code's test;
  `icSkipOld_drops_nonzero` = what the lexicographic test `max(max(delvals)) == 0`, `icSkipOld`, drops,
  `icSkipOld_eq_of_nonneg` = the two tests agree on non-negative values); the landing theorems of this file take "the entry is not all-zero" (`hnz`),
  those of Props/C14Wave.lean the equivalent `hskip : icSkip … = false` (`icSkip_false_iff`).
  What `start` keeps of a file: `Mode.merge` (the code: `setdefault(..).extend`) keeps every entry of every block (`none_lost`, `none_lost_mem`,
  `none_lost_top`, `regroup_split`, `none_lost_result`, end-to-end `iopath_lands_file`, `interconnect_lands_file`);
  `Mode.lastWins` (a plain `dict(...)` over the blocks) keeps only the last block of a name
  (`lastWins_keeps_last_only`), so the full statement is FALSE for it (`none_lost_false_lastWins`,
  `none_lost_top_false_lastWins`) and only `none_lost_partial` (pairwise different block names) holds.
  `interconnects` is PARTIAL: `none` = the real code raises `TypeError` because the file has no block without INSTANCE name
  (`interconnects_none_iff`); statements about its result have the form `(interconnects …).map (fun A => A d l ip op) = some v`.
* **Theorem, look-ups** (section `circuit`): `pin_lookup_spec` — on a well-formed dump (`NNet.wf`, decidable, the
  predicate of C10) the IOPATH look-up answers `l` iff `l` is THE line whose reader is pin `pin_index(kind, pin)` of the cell of
  that name; `cell_lookup_spec`, `pin_lookup_skip`; `interconnect_lookup_spec` — the answered line enters pin 0 of the fork that
  drives the destination pin, that fork has one reader, and it is the signal fork itself (sole line) or a branch fork fed by the
  signal fork of the origin pin; `iopath_lands_lookup`, `interconnect_lands_lookup` — the landing theorems with the TABLES of
  these look-ups in place of free tables (a table that sends every pin to line 0 is no instance of them).
  REAL RESULT: the tables `pinLineOf` / `icLineOf` read `raise` and `skip` both as "no line", so the
  table-level arrays exist where the real call raises.  `iopath_lands_circuit`, `interconnect_lands_circuit` are therefore stated
  about `iopathsC` / `interconnectsC` (the functions the driver `sdfc` ties; `none` = the real call raises, no array at all):
  `iopathsC … = some A → A d l ip op = …`; `iopaths_raises_iff`, `interconnects_raises_iff` say exactly when there is no array;
  `pin_lookup_raise` (third outcome of `pinLook`, next to `pin_lookup_spec` / `pin_lookup_skip`), `interconnect_lookup_raise`,
  `interconnect_lookup_skip` (the outcomes of `icLook` in terms of the exits below).
  COMPLETENESS (Proofs/SdfCirc.lean): `interconnect_lookup_complete` — on a well-formed dump, whenever the place that
  description names exists, `icLook` answers it; `interconnect_lookup_iff` (`icLook … = .line l ↔ IcPlace … l`: exactly the
  entries that have a place land, none is lost silently), `interconnect_place_unique`, `interconnect_place_no_warn`.
  EVERY EXIT: `icLookX` = `icLook` with the two kinds of warning kept apart (`interconnect_exit_refines`, every dump);
  `interconnect_lookup_exits` — under `NNet.wf` and the decidable structural hypothesis `icStructOKB` (every fork has exactly one,
  connected, input pin; lines at pins of cells come from / go to forks) four iff's: answer `l` ⇔ one-reader fork `f2` at the
  destination and (a) it is the signal fork of the origin pin and `l` is the line leaving that pin, or (b) it is another fork
  whose input line `l` is driven by that signal fork; warn "No branchfork" ⇔ one fork between the pins, with fan-out; warn
  "No line to annotate pin" ⇔ an open pin; raise ⇔ a name does not resolve or the two forks differ and `f2` is not a one-reader
  branch of `f1`.  `interconnect_lookup_exits_any`: the same for every dump, in terms of the fork decision `icFork`.
  Array level: `interconnect_not_lost_circuit`, `interconnect_not_lost_circuitC` — an entry that is not all-zero and has a place
  stands in the result of `interconnects` (`interconnectsC`) on that line.
  Not proved: that `verilog.parse` builds dumps satisfying `NNet.wf` and `icStructOKB` (C11's subject) — both are evaluated by the
  check on the dump of EVERY parsed circuit (driver `sdfc … icx`, tags `c14-hyp:wf:*`, `c14-hyp:icStruct:*`; a generated
  well-formed netlist outside is a broken tie).
* **Lemmas, not property theorems** (Proofs/Sdf.lean, `rfl` restatements of definitions):
  `triple_empty_fields`, `triple_unit`, `norm_full`, `sanitize_single`, `sanitize_pair`.
* **Theorem, text level** (section `text`, model `KV.SdfText` in Model/SdfText.lean = the grammar of `sdf.py` read as lark reads
  it: contextual scanner with the per-state terminal order of the real `Lark` object, keywords as prefixes, `ID` /
  `ID_OR_EDGE` tried before the ignored terminals, `_NOB`, balanced TIMINGCHECK skip; then `SdfFile.ok` = what
  `SdfTransformer` raises on): `sdf_text_roundtrip` — `parseSdf (printSdf f) = some f` for every tree with valid name
  tokens and number fields (`SdfFile.valid`); `sdf_text_roundtrip_tree` (grammar alone), `sdf_text_valid_ok`;
  `sdf_text_roundtrip_raw` — the same at the level of the block lists the theorems above are about (`SdfFile.toRaw` /
  `ofRaw`: numbers in thousandths printed as `[-]i.fff`, `sdf_text_number_roundtrip`).
* **Correspondence** (harness/c14.py, differential, not proof): (a) text level: the model reader (driver `sdfparse`) against the
  real lark grammar (parse tree, token texts verbatim) and the real `sdf.parse` (accept / raise) on every generated text, on
  hand-written corner cases and on mutated texts (one or two edits: character deleted / inserted / replaced, fragment
  inserted); the generated text must read back as the generator's block list; for accepted mutants the delay arrays of the
  post-parse model fed with the MODEL's block list equal the real arrays; (b) the post-parse model — in the mode that a probe
  of the real `sdf.parse` selects — against the real `sdf.parse(text).iopaths/.interconnects` on generated circuits and texts,
  twice: with tables exported from the real circuit by structural search (driver `sdf`), and with the concrete look-ups fed
  with the circuit dump and `tlib.cells` (driver `sdfc`, which also answers `NNet.wf` of the dump — the hypothesis of every
  look-up theorem — checked per case, tag `c14-hyp:sdfc-wf:*`): whole arrays, the raise of `interconnects()` on a file without
  top-level block, and PER ENTRY the line index (or warn / raise) that the real loop picks, observed by running each entry alone
  through the real `iopaths()` / `interconnects()`; and the EXIT per INTERCONNECT entry with the kind of warning read from
  kyupy's log (line / "No line to annotate pin" / "No branchfork" / raise) against `icLookX` (driver `sdfc … icx`, tags
  `c14-hyp:ic-exit:*`), incl. hand-written fan-out cases with and without branch forks, a connection the circuit does not
  have, a port as destination.
  What remains trusted at the text level: that lark implements the grammar as the hand-written reader does (LALR tables,
  `re` semantics of the terminals) — checked by (a), not proved; `float`, NumPy assignment and the Verilog reader are
  exercised, not modelled.
* **Oracle** (harness/c14.py): the generator's ground-truth array (it placed every value itself; negative IOPATH and
  INTERCONNECT values, all-zero entries and entries that are not all-zero although `max(max(delvals)) == 0` included) against
  the real result; this, not the model, decides violations (classes `interconnect-lexmax-skip` = D34, `repeated-cell-block` = D6,
  `sdf-annotation`).
* **Composition with C04/C03** (timing data path, from the SDF text to the WaveSim waveforms): Props/C14Wave.lean. -/
namespace KV.C14
open KV.Sdf

/-! ## values: qualifiers and the skip test
(the `rfl` restatements of the value conventions — `triple_empty_fields`, `triple_unit`, `norm_full`, `sanitize_single`,
`sanitize_pair` — are lemmas of Proofs/Sdf.lean, not property theorems) -/
/-- `(posedge P)` selects input polarity 0 only and names pin `P` -/
theorem edge_qualified_pos (p : String) (h1 : p.toList ≠ []) (h2 : ')' ∉ p.toList) :
    polsOf ("(posedge " ++ p ++ ")") = [false] ∧ pinOf ("(posedge " ++ p ++ ")") = p :=
  edge_qualified _ false (Or.inl ⟨posPrefix_eq, rfl⟩) p h1 h2

/-- `(negedge P)` selects input polarity 1 only and names pin `P` -/
theorem edge_qualified_neg (p : String) (h1 : p.toList ≠ []) (h2 : ')' ∉ p.toList) :
    polsOf ("(negedge " ++ p ++ ")") = [true] ∧ pinOf ("(negedge " ++ p ++ ")") = p :=
  edge_qualified _ true (Or.inr ⟨negPrefix_eq, rfl⟩) p h1 h2

/-- an unqualified pin affects both input polarities -/
theorem unqualified (s : String) (h : s.toList.head? ≠ some '(') : polsOf s = [false, true] ∧ pinOf s = s := by
  have h1 := not_prefix_of_head posPrefix s.toList rfl h
  have h2 := not_prefix_of_head negPrefix s.toList rfl h
  constructor
  · unfold polsOf; rw [h1, h2]; rfl
  · unfold pinOf; simp [h1, h2]

example : polsOf "(posedge CLK)" = [false] ∧ pinOf "(posedge CLK)" = "CLK" := by decide +kernel
example : polsOf "(negedge RSTB)" = [true] ∧ pinOf "(negedge RSTB)" = "RSTB" := by decide +kernel
example : polsOf "A1" = [false, true] ∧ pinOf "A1" = "A1" := by decide +kernel
example : stripBackslash "u3\\[0\\]" = "u3[0]" ∧ splitSlash "u3\\[0\\]/A1" = ("u3\\[0\\]", some "A1")
    ∧ splitSlash "clk" = ("clk", none) := by decide +kernel

/-- the INTERCONNECT loop (the code's test: `not any(any(d) for d in delvals)`) skips an entry exactly when all
its values are zero — for ALL value lists, negative values included -/
theorem icSkip_iff (r f : Triple) : icSkip r f = true ↔ (∀ v ∈ r, v = 0) ∧ (∀ v ∈ f, v = 0) := by
  simp [icSkip]

/-- … in the shape of the six values of an entry (no sign hypothesis) -/
theorem icSkip_iff_all_zero (a b c x y z : Int) :
    icSkip [a, b, c] [x, y, z] = true ↔ (a = 0 ∧ b = 0 ∧ c = 0 ∧ x = 0 ∧ y = 0 ∧ z = 0) := by
  simp [icSkip, and_assoc]

/-- an entry is kept exactly when one of its values is non-zero: the form the landing theorems use -/
theorem icSkip_false_iff (r f : Triple) : icSkip r f = false ↔ ∃ v ∈ r ++ f, v ≠ 0 := by
  simp only [icSkip, Bool.not_eq_false', Bool.or_eq_true, List.any_eq_true, bne_iff_ne, List.mem_append, or_and_right, exists_or]

/-- negative delays are kept by this test … -/
theorem icSkip_negative_kept : icSkip [0, 0, 0] [-1, -1, -1] = false ∧ icSkip [0, 0, 0] [-1, 5, 5] = false
    ∧ icSkip [-1, 0, -2] [-1, 0, -2] = false := by decide
/-- … whereas the test `max(max(delvals)) == 0` (`icSkipOld`, a lexicographic list maximum) drops entries
that are not all-zero: `(0:0:0) (-1:5:5)`, a single list `(-1:0:-2)`, a purely negative list -/
theorem icSkipOld_drops_nonzero : icSkipOld [0, 0, 0] [-1, 5, 5] = true ∧ icSkipOld [-1, 0, -2] [-1, 0, -2] = true
    ∧ icSkipOld [0, 0, 0] [-1, -1, -1] = true := by decide
/-- on non-negative values the two tests agree -/
theorem icSkipOld_eq_of_nonneg (a b c x y z : Int) (h : 0 ≤ a ∧ 0 ≤ b ∧ 0 ≤ c ∧ 0 ≤ x ∧ 0 ≤ y ∧ 0 ≤ z) :
    icSkipOld [a, b, c] [x, y, z] = icSkip [a, b, c] [x, y, z] := by
  obtain ⟨ha, hb, hc, hx, hy, hz⟩ := h
  have lex : lexLt [a, b, c] [x, y, z] = true ↔ a < x ∨ (a = x ∧ (b < y ∨ (b = y ∧ c < z))) := by
    simp only [lexLt]
    repeat' split
    all_goals simp only [true_iff, Bool.false_eq_true, false_iff]; omega
  have listMax3 : ∀ p q r : Int, 0 ≤ p → 0 ≤ q → 0 ≤ r → (listMax [p, q, r] = 0 ↔ p = 0 ∧ q = 0 ∧ r = 0) := by
    intro p q r hp hq hr
    simp only [listMax, List.foldl]
    omega
  rw [Bool.eq_iff_iff, icSkip_iff_all_zero]
  simp only [icSkipOld, lexMax, beq_iff_eq]
  by_cases hlt : lexLt [a, b, c] [x, y, z] = true
  · have := lex.mp hlt
    rw [if_pos hlt, listMax3 x y z hx hy hz]
    omega
  · have := mt lex.mpr hlt
    rw [if_neg hlt, listMax3 a b c ha hb hc]
    omega

/-! ## where the assignments land -/
/-- Each entry of a named block: its d-th value stands at `[d, line(inst, ipin), inpol, outpol]` for every input
polarity its qualifier selects, provided no later assignment of the loop covers the same (line, inpol).
`namedEntries df` is the sequence of (block name, entry) pairs in the order `iopaths` visits them. -/
theorem iopath_lands (pinLine : PinTable) (df : DelayFile) (pre post : List (String × Entry)) (n : String)
    (e : Entry) (l d : Nat) (ip op : Bool)
    (hsplit : namedEntries df = pre ++ (n, e) :: post)
    (hline : pinLine (stripBackslash n) (pinOf e.a) = some l)
    (hip : ip ∈ polsOf e.a) (hd : d < 3)
    (hpost : ∀ p ∈ post, ∀ w, ioWrite pinLine p.1 p.2 = some w → w.covers l ip = false) :
    iopaths pinLine df d l ip op = (norm (if op then e.f else e.r)).getD d 0 := by
  rw [← W.val_norm l (polsOf e.a)]
  exact writes_lands _ _ d l ip op pre post (n, e) _ hsplit (ioWrite_eq_some.mpr ⟨l, hline, rfl⟩) (by simp [W.covers, hip]) hd hpost

/-- Each entry of the top-level block that is not all-zero (`hnz`: the exact condition under which the loop
keeps it, `icSkip_false_iff`; an all-zero entry has nothing to annotate): its values stand at
`[d, icLine(orig, dest), both input polarities, outpol]`, provided no later assignment goes to the same line. -/
theorem interconnect_lands (icLine : IcTable) (df : DelayFile) (pre post : List Entry) (e : Entry)
    (l d : Nat) (ip op : Bool)
    (hsplit : icEntries df = some (pre ++ e :: post))
    (hnz : ∃ v ∈ norm e.r ++ norm e.f, v ≠ 0)
    (hline : icLine (stripBackslash (splitSlash e.a).1) (splitSlash e.a).2
                    (stripBackslash (splitSlash e.b).1) (splitSlash e.b).2 = some l)
    (hd : d < 3)
    (hpost : ∀ e' ∈ post, ∀ w, icWrite icLine e' = some w → w.line ≠ l) :
    (interconnects icLine df).map (fun A => A d l ip op) = some ((norm (if op then e.f else e.r)).getD d 0) := by
  rw [interconnects_def, hsplit, ← W.val_norm l [false, true]]
  exact congrArg some (writes_lands _ _ d l ip op pre post e _ rfl
    (icWrite_eq_some.mpr ⟨(icSkip_false_iff _ _).mpr hnz, l, hline, rfl⟩) (by cases ip <;> simp [W.covers]) hd
    fun p hp w hw => W.covers_of_line_ne (hpost p hp w hw) ip)

/-- coordinates that no entry names stay 0 (IOPATH array) -/
theorem others_zero_iopaths (pinLine : PinTable) (df : DelayFile) (l d : Nat) (ip op : Bool)
    (h : ∀ p ∈ namedEntries df, ∀ w, ioWrite pinLine p.1 p.2 = some w → w.covers l ip = false) :
    iopaths pinLine df d l ip op = 0 :=
  writes_zero _ _ d l ip op h

/-- coordinates that no entry names stay 0 (INTERCONNECT array) -/
theorem others_zero_interconnects (icLine : IcTable) (df : DelayFile) (es : List Entry) (l d : Nat) (ip op : Bool)
    (hes : icEntries df = some es)
    (h : ∀ e ∈ es, ∀ w, icWrite icLine e = some w → w.line ≠ l) :
    (interconnects icLine df).map (fun A => A d l ip op) = some 0 := by
  rw [interconnects_def, hes]
  exact congrArg some (writes_zero _ _ d l ip op fun p hp w hw => W.covers_of_line_ne (h p hp w hw) ip)

/-- there are only three data sets -/
theorem others_zero_datasets (pinLine : PinTable) (icLine : IcTable) (df : DelayFile) (l d : Nat) (ip op : Bool)
    (hd : 3 ≤ d) : iopaths pinLine df d l ip op = 0 ∧ ∀ A, interconnects icLine df = some A → A d l ip op = 0 := by
  refine ⟨applyAll_high _ d l ip op hd, ?_⟩
  intro A hA
  unfold interconnects at hA
  rcases Option.map_eq_some_iff.mp hA with ⟨es, _, rfl⟩
  exact applyAll_high _ d l ip op hd

/-- a file without a block that has no INSTANCE name: `interconnects()` raises (`TypeError`: `for .. in None`) — the
model answers `none`, for both readings of `start`; with such a block it returns an array -/
theorem interconnects_none_iff (m : Mode) (icLine : IcTable) (B : List RawCell) :
    interconnects icLine (parse m B) = none ↔ ∀ c ∈ B, c.insts.head? ≠ none := by
  have key : icEntries (parse m B) = none ↔ ∀ c ∈ B, c.insts.head? ≠ none := by
    cases m with
    | merge =>
      rw [icEntries_merge]
      simp only [List.map_map, List.mem_map, Function.comp, cell, ite_eq_right_iff, reduceCtorEq, imp_false, not_exists, not_and]
    | lastWins =>
      rw [icEntries_lastWins]
      simp only [Option.map_eq_none_iff, List.find?_eq_none, List.mem_reverse, List.mem_map, beq_iff_eq, forall_exists_index, and_imp,
        forall_apply_eq_imp_iff₂, cell]
  unfold interconnects
  rw [Option.map_eq_none_iff]
  exact key

/-! ## none is lost: what `start` keeps of the file -/
/-- `none_lost` for the code's `start` (`Mode.merge`): under every block name the dictionary holds exactly the
entries the file lists under that name, in file order — a function of the flat (name, entry) sequence `flatRaw B`
alone, i.e. independent of how the file groups entries into CELL blocks. -/
theorem none_lost (B : List RawCell) (k : Option String) :
    dictGet (start .merge B) k =
      if k ∈ (B.map cell).map (·.1) then some (((flatRaw B).filter (·.1 == k)).map (·.2)) else none := by
  rw [dictGet_start_merge, entriesOfKey_eq_flat]; rfl

/-- … hence every entry of every named block reaches the IOPATH loop (`Mode.merge`) … -/
theorem none_lost_mem (B : List RawCell) (c : RawCell) (n : String) (x : RawEntry)
    (hc : c ∈ B) (hn : c.insts.head? = some n) (hne : n ≠ "") (hx : x ∈ c.delays.flatten) :
    (n, sanitize x) ∈ namedEntries (parse .merge B) :=
  mem_namedEntries_merge B c n (sanitize x) hc hn hne (List.mem_map.mpr ⟨x, hx, rfl⟩)

/-- … and the INTERCONNECT loop sees all entries of all top-level blocks in file order (`Mode.merge`); without any
top-level block there is no list at all (the real code raises). -/
theorem none_lost_top (B : List RawCell) :
    icEntries (parse .merge B) =
      if none ∈ (B.map cell).map (·.1) then some (((flatRaw B).filter (·.1 == none)).map (·.2)) else none := by
  rw [icEntries_merge, entriesOfKey_eq_flat]; rfl

/-- nothing is invented (both modes): whatever the IOPATH loop sees stands in a block of that name -/
theorem nothing_invented (m : Mode) (B : List RawCell) (n : String) (e : Entry)
    (h : (n, e) ∈ namedEntries (parse m B)) :
    ∃ c ∈ B, c.insts.head? = some n ∧ ∃ x ∈ c.delays.flatten, e = sanitize x :=
  mem_namedEntries_origin m B n e h

/-- regrouping step (`Mode.merge`): splitting a CELL block into two adjacent blocks of the same instance changes
neither the parsed file nor, therefore, any annotation result -/
theorem regroup_split (B1 B2 : List RawCell) (insts : List String) (ds1 ds2 : List (List RawEntry)) :
    start .merge (B1 ++ ⟨insts, ds1 ++ ds2⟩ :: B2) = start .merge (B1 ++ ⟨insts, ds1⟩ :: ⟨insts, ds2⟩ :: B2) := by
  rw [start_eq, start_eq]
  simp only [List.map_append, List.map_cons, cell, List.flatten_append, firstKeys_dup]
  exact List.map_congr_left fun k' _ => by rw [valOf, valOf, entriesOfKey_split]

/-- … so the two annotation results do not depend on that grouping either (`Mode.merge`) -/
theorem none_lost_result (pinLine : PinTable) (icLine : IcTable) (B1 B2 : List RawCell) (insts : List String)
    (ds1 ds2 : List (List RawEntry)) :
    iopaths pinLine (parse .merge (B1 ++ ⟨insts, ds1 ++ ds2⟩ :: B2))
      = iopaths pinLine (parse .merge (B1 ++ ⟨insts, ds1⟩ :: ⟨insts, ds2⟩ :: B2))
    ∧ interconnects icLine (parse .merge (B1 ++ ⟨insts, ds1 ++ ds2⟩ :: B2))
      = interconnects icLine (parse .merge (B1 ++ ⟨insts, ds1⟩ :: ⟨insts, ds2⟩ :: B2)) := by
  unfold parse
  rw [regroup_split]
  exact ⟨rfl, rfl⟩

/-- The statement for both modes,
`∀ m B c n x, c ∈ B → c.insts.head? = some n → n ≠ "" → x ∈ c.delays.flatten → (n, sanitize x) ∈ namedEntries (parse m B)`,
is false (`none_lost_false_lastWins`: it fails for `Mode.lastWins`). What holds in both modes: when all block names of the file differ, the dictionary is the block list itself, so every
entry is kept in file order. -/
theorem none_lost_partial (m : Mode) (B : List RawCell) (h : ((B.map cell).map (·.1)).Nodup) :
    start m B = B.map cell ∧ flatDict (start m B) = flatRaw B := by
  have : start m B = B.map cell := by
    unfold start
    rw [foldl_dictPut_nodup m (B.map cell) [] (by simpa [keys] using h)]
    simp
  exact ⟨this, by rw [this]; rfl⟩

/-- what a plain `dict(...)` over the blocks (`Mode.lastWins`) keeps: for every name the LAST block only -/
theorem lastWins_keeps_last_only (B : List RawCell) (k : Option String) :
    dictGet (start .lastWins B) k = ((B.map cell).reverse.find? (·.1 == k)).map (·.2) :=
  dictGet_start_lastWins B k

/-! ### the counterexample for `Mode.lastWins`
Two CELL blocks for instance `u1`: `(IOPATH A1 ZN (1:2:3))` in the first, `(IOPATH A2 ZN (4:5:6))` in the second;
`A1` is fed by line 5, `A2` by line 6. -/
def cexCells : List RawCell :=
  [⟨["u1"], [[⟨"A1", "ZN", [[some 1, some 2, some 3]]⟩]]⟩,
   ⟨["u1"], [[⟨"A2", "ZN", [[some 4, some 5, some 6]]⟩]]⟩]
def cexPins : PinTable := fun c p =>
  if c = "u1" ∧ p = "A1" then some 5 else if c = "u1" ∧ p = "A2" then some 6 else none

/-- `dict(...)` loses the first block: its entry never reaches the loop and line 5 stays 0 in every data set,
whereas `Mode.merge` annotates 1, 2, 3. -/
theorem none_lost_false_lastWins :
    ("u1", sanitize ⟨"A1", "ZN", [[some 1, some 2, some 3]]⟩) ∉ namedEntries (parse .lastWins cexCells)
    ∧ (List.range 3).map (fun d => iopaths cexPins (parse .lastWins cexCells) d 5 false false) = [0, 0, 0]
    ∧ (List.range 3).map (fun d => iopaths cexPins (parse .merge cexCells) d 5 false false) = [1, 2, 3]
    ∧ (List.range 3).map (fun d => iopaths cexPins (parse .lastWins cexCells) d 6 true true) = [4, 5, 6] := by
  decide +kernel

/-- the same for two top-level INTERCONNECT blocks -/
def cexTop : List RawCell :=
  [⟨[], [[⟨"a", "u1/A1", [[some 1, some 1, some 1]]⟩]]⟩,
   ⟨[], [[⟨"b", "u1/A2", [[some 2, some 2, some 2]]⟩]]⟩]
def cexIc : IcTable := fun c1 _ c2 p2 =>
  if c1 = "a" ∧ c2 = "u1" ∧ p2 = some "A1" then some 3 else
  if c1 = "b" ∧ c2 = "u1" ∧ p2 = some "A2" then some 4 else none

theorem none_lost_top_false_lastWins :
    (icEntries (parse .lastWins cexTop)).map List.length = some 1 ∧ (icEntries (parse .merge cexTop)).map List.length = some 2
    ∧ (interconnects cexIc (parse .lastWins cexTop)).map (fun A => A 0 3 false false) = some 0
    ∧ (interconnects cexIc (parse .merge cexTop)).map (fun A => A 0 3 false false) = some 1
    ∧ (interconnects cexIc (parse .lastWins cexTop)).map (fun A => A 0 4 false false) = some 2 := by
  decide +kernel

/-! ## end to end, from the blocks of the file -/
/-- `nothing_invented` as a rule (both modes): what holds of every entry of every named block holds of every pair the IOPATH
loop sees -/
theorem forall_namedEntries (m : Mode) (B : List RawCell) (P : String × Entry → Prop)
    (h : ∀ c ∈ B, ∀ n, c.insts.head? = some n → ∀ x ∈ c.delays.flatten, P (n, sanitize x)) :
    ∀ p ∈ namedEntries (parse m B), P p := by
  intro p hp
  obtain ⟨c, hc, hn, x, hx, he⟩ := nothing_invented m B p.1 p.2 hp
  exact (show p = (p.1, sanitize x) from Prod.ext rfl he) ▸ h c hc p.1 hn x hx

/-- `Mode.merge`: EVERY entry of EVERY named block of the file lands, whatever the grouping, as long as the
entries that cover the same (line, input polarity) agree on their values (the generator's regime: one entry per
coordinate; kyupy stores one delay per line by design). -/
theorem iopath_lands_file (pinLine : PinTable) (B : List RawCell) (c : RawCell) (n : String) (x : RawEntry)
    (l d : Nat) (ip op : Bool)
    (hc : c ∈ B) (hn : c.insts.head? = some n) (hne : n ≠ "") (hx : x ∈ c.delays.flatten)
    (hline : pinLine (stripBackslash n) (pinOf (sanitize x).a) = some l)
    (hip : ip ∈ polsOf (sanitize x).a) (hd : d < 3)
    (huniq : ∀ c' ∈ B, ∀ n', c'.insts.head? = some n' → ∀ x' ∈ c'.delays.flatten,
      pinLine (stripBackslash n') (pinOf (sanitize x').a) = some l → ip ∈ polsOf (sanitize x').a →
      norm (sanitize x').r = norm (sanitize x).r ∧ norm (sanitize x').f = norm (sanitize x).f) :
    iopaths pinLine (parse .merge B) d l ip op
      = (norm (if op then (sanitize x).f else (sanitize x).r)).getD d 0 :=
  iopaths_agree pinLine _ n (sanitize x) l d ip op (none_lost_mem B c n x hc hn hne hx) hline hip hd
    (forall_namedEntries .merge B _ huniq)

/-- `Mode.lastWins`: the same holds for the entries of a block that is the LAST one of its instance name. -/
theorem iopath_lands_file_lastWins (pinLine : PinTable) (B1 B2 : List RawCell) (c : RawCell) (n : String)
    (x : RawEntry) (l d : Nat) (ip op : Bool)
    (hn : c.insts.head? = some n) (hne : n ≠ "") (hx : x ∈ c.delays.flatten)
    (hlast : ∀ c' ∈ B2, c'.insts.head? ≠ some n)
    (hline : pinLine (stripBackslash n) (pinOf (sanitize x).a) = some l)
    (hip : ip ∈ polsOf (sanitize x).a) (hd : d < 3)
    (huniq : ∀ c' ∈ B1 ++ c :: B2, ∀ n', c'.insts.head? = some n' → ∀ x' ∈ c'.delays.flatten,
      pinLine (stripBackslash n') (pinOf (sanitize x').a) = some l → ip ∈ polsOf (sanitize x').a →
      norm (sanitize x').r = norm (sanitize x).r ∧ norm (sanitize x').f = norm (sanitize x).f) :
    iopaths pinLine (parse .lastWins (B1 ++ c :: B2)) d l ip op
      = (norm (if op then (sanitize x).f else (sanitize x).r)).getD d 0 :=
  iopaths_agree pinLine _ n (sanitize x) l d ip op
    (mem_namedEntries_lastWins B1 B2 c n (sanitize x) hn hne (List.mem_map.mpr ⟨x, hx, rfl⟩) hlast) hline hip hd
    (forall_namedEntries .lastWins _ _ huniq)

/-- `Mode.merge`: every INTERCONNECT entry of every top-level block that is not all-zero lands on its
fork line, for both input polarities, as long as the entries going to the same line agree on their values. -/
theorem interconnect_lands_file (icLine : IcTable) (B : List RawCell) (c : RawCell) (x : RawEntry)
    (l d : Nat) (ip op : Bool)
    (hc : c ∈ B) (hn : c.insts.head? = none) (hx : x ∈ c.delays.flatten)
    (hnz : ∃ v ∈ norm (sanitize x).r ++ norm (sanitize x).f, v ≠ 0)
    (hline : icLine (stripBackslash (splitSlash (sanitize x).a).1) (splitSlash (sanitize x).a).2
                    (stripBackslash (splitSlash (sanitize x).b).1) (splitSlash (sanitize x).b).2 = some l)
    (hd : d < 3)
    (huniq : ∀ c' ∈ B, c'.insts.head? = none → ∀ x' ∈ c'.delays.flatten,
      ∀ w, icWrite icLine (sanitize x') = some w → w.line = l →
      norm (sanitize x').r = norm (sanitize x).r ∧ norm (sanitize x').f = norm (sanitize x).f) :
    (interconnects icLine (parse .merge B)).map (fun A => A d l ip op)
      = some ((norm (if op then (sanitize x).f else (sanitize x).r)).getD d 0) := by
  have htop : none ∈ (B.map cell).map (·.1) :=
    List.mem_map.mpr ⟨cell c, List.mem_map_of_mem hc, hn⟩
  unfold interconnects
  rw [icEntries_merge, if_pos htop, Option.map_some, Option.map_some]
  refine congrArg some (icWrites_agree icLine _ (sanitize x) l d ip op
    (mem_entriesOfKey.mpr ⟨cell c, List.mem_map_of_mem hc, hn, List.mem_map_of_mem hx⟩)
    ((icSkip_false_iff _ _).mpr hnz) hline hd ?_)
  intro e' he' w hw hl
  obtain ⟨p, hp, hk, he⟩ := mem_entriesOfKey.mp he'
  obtain ⟨c', hc', rfl⟩ := List.mem_map.mp hp
  obtain ⟨x', hx', rfl⟩ := List.mem_map.mp he
  exact huniq c' hc' hk x' hx' w hw hl

/-! ## non-vacuity: a file with a repeated block, qualifiers, `()`, an escaped name and two top-level blocks -/
def exCells : List RawCell :=
  [⟨[], [[⟨"a", "u\\3\\[0\\]/A1", [[some 7, none, none]]⟩]]⟩,
   ⟨["u\\3\\[0\\]"], [[⟨"(posedge A1)", "ZN", [[some 1, some 2, some 3], []]⟩],
                       [⟨"(negedge A1)", "ZN", [[none, none, some 9]]⟩]]⟩,
   ⟨["u2"], [[⟨"I", "ZN", [[some 4, some 5, some 6], [some 1, some 1, some 1]]⟩]]⟩,
   ⟨["u\\3\\[0\\]"], [[⟨"A2", "ZN", [[], [some 8, some 8, some 8]]⟩]]⟩,
   ⟨[], [[⟨"u\\3\\[0\\]/ZN", "u2/I", [[some 2, some 2, some 2], [some 3, some 3, some 3]]⟩]]⟩]
def exPins : PinTable := fun c p =>
  if c = "u3[0]" ∧ p = "A1" then some 5 else if c = "u3[0]" ∧ p = "A2" then some 6
  else if c = "u2" ∧ p = "I" then some 7 else none
def exIc : IcTable := fun c1 p1 c2 p2 =>
  if c1 = "a" ∧ p1 = none ∧ c2 = "u3[0]" ∧ p2 = some "A1" then some 3
  else if c1 = "u3[0]" ∧ p1 = some "ZN" ∧ c2 = "u2" ∧ p2 = some "I" then some 9 else none

example : exCells.all RawCell.ok = true := by decide +kernel
/-- `Mode.merge`: the IOPATH values of all blocks and both interconnects are there -/
example :
    (List.range 3).map (fun d => iopaths exPins (parse .merge exCells) d 5 false false) = [1, 2, 3]
    ∧ (List.range 3).map (fun d => iopaths exPins (parse .merge exCells) d 5 false true) = [0, 0, 0]
    ∧ (List.range 3).map (fun d => iopaths exPins (parse .merge exCells) d 5 true true) = [0, 0, 9]
    ∧ (List.range 3).map (fun d => iopaths exPins (parse .merge exCells) d 6 true true) = [8, 8, 8]
    ∧ (List.range 3).map (fun d => iopaths exPins (parse .merge exCells) d 6 false false) = [0, 0, 0]
    ∧ (List.range 3).map (fun d => iopaths exPins (parse .merge exCells) d 7 true false) = [4, 5, 6]
    ∧ (interconnects exIc (parse .merge exCells)).map (fun A => (List.range 3).map (fun d => A d 3 true true)) = some [7, 0, 0]
    ∧ (interconnects exIc (parse .merge exCells)).map (fun A => (List.range 3).map (fun d => A d 9 false true)) = some [3, 3, 3] := by
  decide +kernel
/-- `Mode.lastWins` on the same file: the first block of `u3[0]` and the first top-level block are gone -/
example :
    (List.range 3).map (fun d => iopaths exPins (parse .lastWins exCells) d 5 false false) = [0, 0, 0]
    ∧ (List.range 3).map (fun d => iopaths exPins (parse .lastWins exCells) d 6 true true) = [8, 8, 8]
    ∧ (interconnects exIc (parse .lastWins exCells)).map (fun A => (List.range 3).map (fun d => A d 3 true true)) = some [0, 0, 0] := by
  decide +kernel
/-- the hypotheses of `iopath_lands_file` are satisfiable by a non-trivial object (first block of the repeated
instance, posedge entry, data set 1) -/
example : iopaths exPins (parse .merge exCells) 1 5 false false = 2 :=
  iopath_lands_file exPins exCells (exCells[1]) "u\\3\\[0\\]" ⟨"(posedge A1)", "ZN", [[some 1, some 2, some 3], []]⟩
    5 1 false false (by decide +kernel) (by decide +kernel) (by decide +kernel) (by decide +kernel)
    (by decide +kernel) (by decide +kernel) (by decide) (by decide +kernel)
/-- `none_lost_partial` has non-trivial instances -/
example : ((([exCells[0], exCells[1], exCells[2]] : List RawCell).map cell).map (·.1)).Nodup := by decide +kernel

/-! ## the look-ups as the real code performs them, over the circuit dump (Model/SdfCirc.lean) -/
section circuit
open KV.Transform

/-- IOPATH look-up = "the line whose reader is pin `tlib.pin_index(kind, pin)` of the cell of that name": on a well-formed
circuit dump `pinLook` answers `l` exactly for that line (unique: a pin holds one line). -/
theorem pin_lookup_spec (C : NNet) (hwf : C.wf = true) (tl : PinIdx) (name pin : String) (l : Nat) :
    pinLook C tl name pin = .line l ↔
      ∃ i idx, cellOf C name = some i ∧ tl (C.net.node i).kind pin = some idx ∧
        l < C.net.lines.size ∧ (C.net.line l).reader = i ∧ (C.net.line l).rpin = idx := by
  have hwf := WF.of_wf hwf
  refine ⟨pinLook_line_sound hwf.fwdIn, ?_⟩
  rintro ⟨i, idx, hc, ht, hl, hr, hp⟩
  have hb := (hwf.back l hl).2.2.2
  rw [hr, hp] at hb
  have hlt : idx < (C.net.node i).ins.length := lt_of_getD_some hb
  simp only [pinLook, hc, ht, hlt, if_true, NodeD.inPin, hb]

/-- the cell found under a name is a non-fork node of that name, and every such node is found (well-formed dump) -/
theorem cell_lookup_spec (C : NNet) (hwf : C.wf = true) (name : String) (i : Nat) :
    cellOf C name = some i ↔ i < C.net.nodes.size ∧ C.names.getD i "" = name ∧ (C.net.node i).isFork = false := by
  refine ⟨cellOf_spec, fun ⟨hi, hn, hf⟩ => ?_⟩
  unfold cellOf NNet.lookup
  have hlen : C.keys.length = C.net.nodes.size := by simp [NNet.keys]
  have hk : C.keys[i]'(by omega) = (name, false) := by
    simp [NNet.keys, NNet.key, hn, hf]
  have := (WF.of_wf hwf).nodup.idxOf_getElem i (by omega)
  rw [hk] at this
  simp [this, hi]

/-- the IOPATH loop warns and skips exactly when the cell is unknown or the named pin is open -/
theorem pin_lookup_skip (C : NNet) (tl : PinIdx) (name pin : String) :
    pinLook C tl name pin = .skip ↔
      cellOf C name = none ∨ ∃ i idx, cellOf C name = some i ∧ tl (C.net.node i).kind pin = some idx ∧
        idx < (C.net.node i).ins.length ∧ (C.net.node i).inPin idx = none := by
  unfold pinLook
  cases hc : cellOf C name with
  | none => simp
  | some i =>
    cases ht : tl (C.net.node i).kind pin with
    | none => simp [ht]
    | some idx =>
      by_cases hlt : idx < (C.net.node i).ins.length
      · cases hp : (C.net.node i).inPin idx <;> simp [ht, hlt, hp]
      · simp [ht, hlt]

/-- INTERCONNECT look-up (soundness): the answered line enters pin 0 of the fork `f2` that drives the named input pin of `c2`,
`f2` has one reader, the line leaving the named output pin of `c1` enters a fork `f1`, and either `f1 = f2` (sole line, no
fan-out) or `f2` is a branch fork fed by `f1`. -/
theorem interconnect_lookup_spec (C : NNet) (hwf : C.wf = true) (tl : PinIdx) (c1 : String) (p1 : Option String) (c2 : String)
    (p2 : Option String) (l : Nat) (h : icLook C tl c1 p1 c2 p2 = .line l) :
    ∃ i1 i2 q1 q2 lo li, cellOf C c1 = some i1 ∧ cellOf C c2 = some i2 ∧
      endPin tl (C.net.node i1).kind p1 = some q1 ∧ endPin tl (C.net.node i2).kind p2 = some q2 ∧
      (C.net.node i1).outPin q1 = some lo ∧ (C.net.node i2).inPin q2 = some li ∧
      (C.net.node (C.net.line lo).reader).isFork = true ∧ (C.net.node (C.net.line li).driver).isFork = true ∧
      (C.net.node (C.net.line li).driver).outs.length = 1 ∧
      l < C.net.lines.size ∧ (C.net.line l).reader = (C.net.line li).driver ∧ (C.net.line l).rpin = 0 ∧
      ((C.net.line lo).reader = (C.net.line li).driver ∨
       ((C.net.line lo).reader ≠ (C.net.line li).driver ∧ (C.net.line l).driver = (C.net.line lo).reader)) :=
  icLook_line_spec C (WF.of_wf hwf) tl c1 p1 c2 p2 l h

/-- `iopath_lands` with the TABLE of the look-up the real code performs (`pinLineOf`: `raise` and `skip` both read as "no line"):
the values of the entry stand on THE line that feeds pin `tlib.pin_index(kind, pin)` of the instance (`hcell`, `hpin`, `hreader`:
the declarative description of that line).  This array is defined also where the real call raises: the
statement about the REAL result is `iopath_lands_circuit` below. -/
theorem iopath_lands_lookup (C : NNet) (hwf : C.wf = true) (tl : PinIdx) (df : DelayFile) (pre post : List (String × Entry))
    (n : String) (e : Entry) (i idx l d : Nat) (ip op : Bool)
    (hsplit : namedEntries df = pre ++ (n, e) :: post)
    (hcell : cellOf C (stripBackslash n) = some i) (hpin : tl (C.net.node i).kind (pinOf e.a) = some idx)
    (hl : l < C.net.lines.size) (hreader : (C.net.line l).reader = i ∧ (C.net.line l).rpin = idx)
    (hip : ip ∈ polsOf e.a) (hd : d < 3)
    (hpost : ∀ p ∈ post, ∀ w, ioWrite (pinLineOf C tl) p.1 p.2 = some w → w.covers l ip = false) :
    iopaths (pinLineOf C tl) df d l ip op = (norm (if op then e.f else e.r)).getD d 0 := by
  apply iopath_lands (pinLineOf C tl) df pre post n e l d ip op hsplit _ hip hd hpost
  have := (pin_lookup_spec C hwf tl (stripBackslash n) (pinOf e.a) l).mpr ⟨i, idx, hcell, hpin, hl, hreader.1, hreader.2⟩
  simp [pinLineOf, this, Look.toOpt]

/-- `interconnect_lands` with the TABLE of the look-up the real code performs (`icLineOf` of `icLookE`: names split at `/`,
backslashes removed, the fork decision of `icLook`, described by `interconnect_lookup_spec`; `raise` and `skip` both read as
"no line").  The statement about the REAL result (no array when a look-up raises) is `interconnect_lands_circuit` below. -/
theorem interconnect_lands_lookup (C : NNet) (tl : PinIdx) (df : DelayFile) (pre post : List Entry) (e : Entry)
    (l d : Nat) (ip op : Bool)
    (hsplit : icEntries df = some (pre ++ e :: post))
    (hnz : ∃ v ∈ norm e.r ++ norm e.f, v ≠ 0)
    (hlook : icLookE C tl e = .line l) (hd : d < 3)
    (hpost : ∀ e' ∈ post, ∀ w, icWrite (icLineOf C tl) e' = some w → w.line ≠ l) :
    (interconnects (icLineOf C tl) df).map (fun A => A d l ip op) = some ((norm (if op then e.f else e.r)).getD d 0) := by
  apply interconnect_lands (icLineOf C tl) df pre post e l d ip op hsplit hnz _ hd hpost
  unfold icLookE at hlook
  simp only at hlook
  simp [icLineOf, hlook, Look.toOpt]

/-! ### the result of the REAL calls: `iopathsC` / `interconnectsC` (`none` = the call raises) -/

/-- IOPATH look-up, third outcome: it RAISES exactly when the cell exists and the pin name is not in the library
(`AssertionError` of `pin_index`) or its index lies beyond `cell.ins` (`IndexError`).  With `pin_lookup_spec` (answer) and
`pin_lookup_skip` (warn) every exit of `pinLook` is characterised. -/
theorem pin_lookup_raise (C : NNet) (tl : PinIdx) (name pin : String) :
    pinLook C tl name pin = .raise ↔
      ∃ i, cellOf C name = some i ∧
        (tl (C.net.node i).kind pin = none ∨ ∃ idx, tl (C.net.node i).kind pin = some idx ∧ (C.net.node i).ins.length ≤ idx) := by
  unfold pinLook
  cases hc : cellOf C name with
  | none => simp
  | some i =>
    cases ht : tl (C.net.node i).kind pin with
    | none => simp [ht]
    | some idx =>
      by_cases hlt : idx < (C.net.node i).ins.length
      · have hle : ¬ (C.net.node i).ins.length ≤ idx := by omega
        cases hp : (C.net.node i).inPin idx <;> simp [ht, hlt, hp, hle]
      · have hle : (C.net.node i).ins.length ≤ idx := by omega
        simp [ht, hlt, hle]

/-- `iopaths(circuit, tlib)` raises (no array at all) exactly when the look-up of SOME entry of the file raises -/
theorem iopaths_raises_iff (C : NNet) (tl : PinIdx) (df : DelayFile) :
    iopathsC C tl df = none ↔ ∃ p ∈ namedEntries df, ioLook C tl p.1 p.2 = .raise := by
  unfold iopathsC
  rw [ite_all_eq_none _ _ _ (by simp)]
  simp

/-- `interconnects(circuit, tlib)` raises exactly when the file has no top-level block, or an entry that is not all-zero
(`icSkip_false_iff`) has a name with two `/` or a look-up that raises (`interconnect_lookup_exits`: which ones) -/
theorem interconnects_raises_iff (C : NNet) (tl : PinIdx) (df : DelayFile) :
    interconnectsC C tl df = none ↔
      icEntries df = none ∨ ∃ es, icEntries df = some es ∧ ∃ e ∈ es, icSkip (norm e.r) (norm e.f) = false ∧
        (slashOK e.a = false ∨ slashOK e.b = false ∨ icLookE C tl e = .raise) := by
  unfold interconnectsC
  cases hes : icEntries df with
  | none => simp
  | some es =>
    simp only [reduceCtorEq, false_or, Option.some.injEq, exists_eq_left']
    rw [ite_all_eq_none _ _ _ (by simp [interconnects, hes])]
    simp only [List.mem_filter, Bool.not_eq_true', Bool.and_eq_false_iff, bne_eq_false_iff_eq, and_assoc, or_assoc]

/-- **IOPATH landing, real result**: WHEN `iopaths(circuit, tlib)` returns an array `A` (`iopathsC … = some A`: no look-up of the
file raises), the values of the entry stand in `A` on THE line that feeds pin `tlib.pin_index(kind, pin)` of the instance.
Where the real call raises there is no array and the theorem says nothing (a block with a second entry for a pin `Q` that
does not exist is no instance: `hA` fails there). -/
theorem iopath_lands_circuit (C : NNet) (hwf : C.wf = true) (tl : PinIdx) (df : DelayFile) (A : Arr)
    (hA : iopathsC C tl df = some A) (pre post : List (String × Entry))
    (n : String) (e : Entry) (i idx l d : Nat) (ip op : Bool)
    (hsplit : namedEntries df = pre ++ (n, e) :: post)
    (hcell : cellOf C (stripBackslash n) = some i) (hpin : tl (C.net.node i).kind (pinOf e.a) = some idx)
    (hl : l < C.net.lines.size) (hreader : (C.net.line l).reader = i ∧ (C.net.line l).rpin = idx)
    (hip : ip ∈ polsOf e.a) (hd : d < 3)
    (hpost : ∀ p ∈ post, ∀ w, ioWrite (pinLineOf C tl) p.1 p.2 = some w → w.covers l ip = false) :
    A d l ip op = (norm (if op then e.f else e.r)).getD d 0 := by
  rw [iopathsC_eq hA]
  exact iopath_lands_lookup C hwf tl df pre post n e i idx l d ip op hsplit hcell hpin hl hreader hip hd hpost

/-- **INTERCONNECT landing, real result**: WHEN `interconnects(circuit, tlib)` returns an array `A` (`interconnectsC … = some A`:
top-level block present, no kept entry with two `/`, no look-up of a kept entry raises), the values of an entry that is not
all-zero and whose look-up answers `l` stand in `A` on line `l`. -/
theorem interconnect_lands_circuit (C : NNet) (tl : PinIdx) (df : DelayFile) (A : Arr)
    (hA : interconnectsC C tl df = some A) (pre post : List Entry) (e : Entry)
    (l d : Nat) (ip op : Bool)
    (hsplit : icEntries df = some (pre ++ e :: post))
    (hnz : ∃ v ∈ norm e.r ++ norm e.f, v ≠ 0)
    (hlook : icLookE C tl e = .line l) (hd : d < 3)
    (hpost : ∀ e' ∈ post, ∀ w, icWrite (icLineOf C tl) e' = some w → w.line ≠ l) :
    A d l ip op = (norm (if op then e.f else e.r)).getD d 0 := by
  have h := interconnect_lands_lookup C tl df pre post e l d ip op hsplit hnz hlook hd hpost
  rw [interconnectsC_eq hA] at h
  simpa using h

/-! ### completeness of the INTERCONNECT look-up and every exit -/

/-- INTERCONNECT look-up (COMPLETENESS): on a well-formed dump, whenever the place the declarative description of
`interconnect_lookup_spec` names exists — both ends resolve, `lo` leaves the origin pin and enters fork `f1`, `li` enters the
destination pin and leaves fork `f2`, `f2` has one reader, `l` enters pin 0 of `f2`, and `f1 = f2` (sole line) or `l` is driven by
`f1` (branch fork) — the look-up answers `l`: no entry that has a place is warned about, skipped or raised on. -/
theorem interconnect_lookup_complete (C : NNet) (hwf : C.wf = true) (tl : PinIdx) (c1 : String) (p1 : Option String) (c2 : String)
    (p2 : Option String) (l : Nat)
    (h : ∃ i1 i2 q1 q2 lo li, cellOf C c1 = some i1 ∧ cellOf C c2 = some i2 ∧
      endPin tl (C.net.node i1).kind p1 = some q1 ∧ endPin tl (C.net.node i2).kind p2 = some q2 ∧
      (C.net.node i1).outPin q1 = some lo ∧ (C.net.node i2).inPin q2 = some li ∧
      (C.net.node (C.net.line lo).reader).isFork = true ∧ (C.net.node (C.net.line li).driver).isFork = true ∧
      (C.net.node (C.net.line li).driver).outs.length = 1 ∧
      l < C.net.lines.size ∧ (C.net.line l).reader = (C.net.line li).driver ∧ (C.net.line l).rpin = 0 ∧
      ((C.net.line lo).reader = (C.net.line li).driver ∨
       ((C.net.line lo).reader ≠ (C.net.line li).driver ∧ (C.net.line l).driver = (C.net.line lo).reader))) :
    icLook C tl c1 p1 c2 p2 = .line l :=
  (icLook_line_iff C (WF.of_wf hwf) tl c1 p1 c2 p2 l).mpr h

/-- soundness and completeness together (`IcPlace` = the description above, Proofs/SdfCirc.lean): the look-up answers
`l` EXACTLY when `l` is the place of the entry; and the place is unique -/
theorem interconnect_lookup_iff (C : NNet) (hwf : C.wf = true) (tl : PinIdx) (c1 : String) (p1 : Option String) (c2 : String)
    (p2 : Option String) (l : Nat) : icLook C tl c1 p1 c2 p2 = .line l ↔ IcPlace C tl c1 p1 c2 p2 l :=
  icLook_line_iff C (WF.of_wf hwf) tl c1 p1 c2 p2 l

theorem interconnect_place_unique (C : NNet) (hwf : C.wf = true) (tl : PinIdx) (c1 : String) (p1 : Option String) (c2 : String)
    (p2 : Option String) (l l' : Nat) (h : IcPlace C tl c1 p1 c2 p2 l) (h' : IcPlace C tl c1 p1 c2 p2 l') : l = l' :=
  IcPlace.unique (WF.of_wf hwf) h h'

/-- `icLookX` = the look-up with the two kinds of warning kept apart (`warnPin`: "No line to annotate pin", `warnNoBranch`:
"No branchfork to annotate interconnect delay"); forgetting the kind gives `icLook`, for every dump -/
theorem interconnect_exit_refines (C : NNet) (tl : PinIdx) (c1 : String) (p1 : Option String) (c2 : String) (p2 : Option String) :
    (icLookX C tl c1 p1 c2 p2).toLook = icLook C tl c1 p1 c2 p2 :=
  icLookX_toLook C tl c1 p1 c2 p2

/-- **Every exit of the INTERCONNECT look-up** on a well-formed dump with the structure `verilog.parse` builds (`icStructOKB`,
decidable: every fork has exactly one, connected, input pin; lines at pins of cells come from / go to forks; evaluated by the
check on every parsed circuit, tag `c14-hyp:icStruct:*`).  With `IcEnds … i1 q1 i2 q2` = "both cell names are in `circuit.cells`
(nodes `i1`, `i2`) and both pin names are in the library (indices `q1`, `q2`; 0 for a name without `/pin`)", `lo` = the line at
output pin `q1` of `i1`, `li` = the line at input pin `q2` of `i2`, `f1` = reader of `lo`, `f2` = driver of `li`:
* **answer `l`** ⇔ `f2` has one reader and (a) `f1 = f2` and `l = lo` (the signal fork of the origin pin feeds the destination
  pin alone) or (b) `f1 ≠ f2`, `l` is THE input line of `f2` and is driven by `f1` (branch fork of the signal fork);
* **warn "No branchfork"** ⇔ both pins connected, `f1 = f2`, and `f2` does not have exactly one reader slot (fan-out);
* **warn "No line to annotate pin"** ⇔ both ends resolve and one of the two pins is open;
* **raise** ⇔ an end does not resolve (`KeyError` / `AssertionError` of `pin_index`), or both pins are connected, `f1 ≠ f2`, and
  `f2` is not a one-reader fork whose input line is driven by `f1` (the file names a connection the circuit does not have).
The four right-hand sides are exhaustive and exclusive because they describe the value of one function. -/
theorem interconnect_lookup_exits (C : NNet) (hwf : C.wf = true) (hst : icStructOKB C = true) (tl : PinIdx) (c1 : String)
    (p1 : Option String) (c2 : String) (p2 : Option String) :
    (∀ l, icLookX C tl c1 p1 c2 p2 = .line l ↔
      ∃ i1 q1 i2 q2 lo li, IcEnds C tl c1 p1 c2 p2 i1 q1 i2 q2 ∧
        (C.net.node i1).outPin q1 = some lo ∧ (C.net.node i2).inPin q2 = some li ∧
        (C.net.node (C.net.line li).driver).outs.length = 1 ∧
        (((C.net.line lo).reader = (C.net.line li).driver ∧ l = lo) ∨
         ((C.net.line lo).reader ≠ (C.net.line li).driver ∧ FeedsFork C l (C.net.line li).driver ∧
            (C.net.line l).driver = (C.net.line lo).reader))) ∧
    (icLookX C tl c1 p1 c2 p2 = .warnNoBranch ↔
      ∃ i1 q1 i2 q2 lo li, IcEnds C tl c1 p1 c2 p2 i1 q1 i2 q2 ∧
        (C.net.node i1).outPin q1 = some lo ∧ (C.net.node i2).inPin q2 = some li ∧
        (C.net.line lo).reader = (C.net.line li).driver ∧ (C.net.node (C.net.line li).driver).outs.length ≠ 1) ∧
    (icLookX C tl c1 p1 c2 p2 = .warnPin ↔
      ∃ i1 q1 i2 q2, IcEnds C tl c1 p1 c2 p2 i1 q1 i2 q2 ∧
        ((C.net.node i1).outPin q1 = none ∨ (C.net.node i2).inPin q2 = none)) ∧
    (icLookX C tl c1 p1 c2 p2 = .raise ↔
      IcUnresolved C tl c1 p1 c2 p2 ∨
      ∃ i1 q1 i2 q2 lo li, IcEnds C tl c1 p1 c2 p2 i1 q1 i2 q2 ∧
        (C.net.node i1).outPin q1 = some lo ∧ (C.net.node i2).inPin q2 = some li ∧
        (C.net.line lo).reader ≠ (C.net.line li).driver ∧
        ¬ ((C.net.node (C.net.line li).driver).outs.length = 1 ∧
            ∃ l, FeedsFork C l (C.net.line li).driver ∧ (C.net.line l).driver = (C.net.line lo).reader)) := by
  have hwf := WF.of_wf hwf
  refine ⟨fun l => ?_, ?_, ?_, ?_⟩
  · rw [icLookX_fork_iff _ (by simp) (by simp)]
    exact IcLines.congr fun _ _ _ _ _ _ he hlo hli => icFork_line_struct hwf hst (icCtx_of hwf hst he hlo hli) l
  · rw [icLookX_fork_iff _ (by simp) (by simp)]
    exact IcLines.congr fun _ _ _ _ _ _ he hlo hli => icFork_noBranch_struct (icCtx_of hwf hst he hlo hli)
  · rw [icLookX_eq_iff _ _ _ _ _ _ _ (by simp)]
    simp only [icPins_warnPin_iff]
  · rw [icLookX_raise_fork_iff]
    exact or_congr_right (IcLines.congr fun _ _ _ _ _ _ he hlo hli => icFork_raise_struct hwf hst (icCtx_of hwf hst he hlo hli))

/-- the raise exit at the level of `icLook` (the three outcomes answer / skip / raise of `Look`): same condition -/
theorem interconnect_lookup_raise (C : NNet) (hwf : C.wf = true) (hst : icStructOKB C = true) (tl : PinIdx) (c1 : String)
    (p1 : Option String) (c2 : String) (p2 : Option String) :
    icLook C tl c1 p1 c2 p2 = .raise ↔
      IcUnresolved C tl c1 p1 c2 p2 ∨
      ∃ i1 q1 i2 q2 lo li, IcEnds C tl c1 p1 c2 p2 i1 q1 i2 q2 ∧
        (C.net.node i1).outPin q1 = some lo ∧ (C.net.node i2).inPin q2 = some li ∧
        (C.net.line lo).reader ≠ (C.net.line li).driver ∧
        ¬ ((C.net.node (C.net.line li).driver).outs.length = 1 ∧
            ∃ l, FeedsFork C l (C.net.line li).driver ∧ (C.net.line l).driver = (C.net.line lo).reader) := by
  rw [← (interconnect_lookup_exits C hwf hst tl c1 p1 c2 p2).2.2.2, ← icLookX_toLook]
  cases icLookX C tl c1 p1 c2 p2 <;> simp [IcExit.toLook]

/-- … and the skip of `icLook` is one of the two warnings -/
theorem interconnect_lookup_skip (C : NNet) (tl : PinIdx) (c1 : String) (p1 : Option String) (c2 : String) (p2 : Option String) :
    icLook C tl c1 p1 c2 p2 = .skip ↔ icLookX C tl c1 p1 c2 p2 = .warnPin ∨ icLookX C tl c1 p1 c2 p2 = .warnNoBranch := by
  rw [← icLookX_toLook]
  cases icLookX C tl c1 p1 c2 p2 <;> simp [IcExit.toLook]

/-- the exits WITHOUT the structural hypothesis (every dump, in terms of the fork decision `icFork` of the two lines): what
`icStructOKB` removes from the list are the raises "a neighbour of a cell is not a fork" and "the fork has no first input". -/
theorem interconnect_lookup_exits_any (C : NNet) (tl : PinIdx) (c1 : String) (p1 : Option String) (c2 : String) (p2 : Option String) :
    (∀ x, x ≠ IcExit.raise → x ≠ IcExit.warnPin → (icLookX C tl c1 p1 c2 p2 = x ↔
      ∃ i1 q1 i2 q2 lo li, IcEnds C tl c1 p1 c2 p2 i1 q1 i2 q2 ∧
        (C.net.node i1).outPin q1 = some lo ∧ (C.net.node i2).inPin q2 = some li ∧ icFork C lo li = x)) ∧
    (icLookX C tl c1 p1 c2 p2 = .raise ↔
      IcUnresolved C tl c1 p1 c2 p2 ∨
      ∃ i1 q1 i2 q2 lo li, IcEnds C tl c1 p1 c2 p2 i1 q1 i2 q2 ∧
        (C.net.node i1).outPin q1 = some lo ∧ (C.net.node i2).inPin q2 = some li ∧
        (¬ ((C.net.node (C.net.line lo).reader).isFork = true ∧ (C.net.node (C.net.line li).driver).isFork = true) ∨
         ((C.net.line lo).reader ≠ (C.net.line li).driver ∧
            ¬ ∃ l, BranchOK C (C.net.line lo).reader (C.net.line li).driver l) ∨
         ((C.net.line lo).reader = (C.net.line li).driver ∧ (C.net.node (C.net.line li).driver).outs.length = 1 ∧
            forkIn (C.net.node (C.net.line li).driver) = none))) := by
  refine ⟨fun x hx hx' => icLookX_fork_iff x hx hx', ?_⟩
  rw [icLookX_raise_fork_iff]
  simp only [IcLines, icFork_iff]

/-- **none is lost, array level**: an INTERCONNECT entry of the file whose values are not all zero and that HAS a place in the
circuit (`IcPlace`, for the names as the loop prepares them: split at `/`, backslashes removed) stands in the result of
`interconnects` on that line (`hpost`: no later entry annotates the same line — the last one wins, by design). -/
theorem interconnect_not_lost_circuit (C : NNet) (hwf : C.wf = true) (tl : PinIdx) (df : DelayFile) (pre post : List Entry)
    (e : Entry) (l d : Nat) (ip op : Bool)
    (hsplit : icEntries df = some (pre ++ e :: post))
    (hnz : ∃ v ∈ norm e.r ++ norm e.f, v ≠ 0)
    (hplace : IcPlace C tl (stripBackslash (splitSlash e.a).1) (splitSlash e.a).2
                (stripBackslash (splitSlash e.b).1) (splitSlash e.b).2 l)
    (hd : d < 3)
    (hpost : ∀ e' ∈ post, ∀ w, icWrite (icLineOf C tl) e' = some w → w.line ≠ l) :
    (interconnects (icLineOf C tl) df).map (fun A => A d l ip op) = some ((norm (if op then e.f else e.r)).getD d 0) :=
  interconnect_lands_lookup C tl df pre post e l d ip op hsplit hnz
    ((interconnect_lookup_iff C hwf tl _ _ _ _ l).mpr hplace) hd hpost

/-- … and in the result of the function with its raises (`interconnectsC`), whenever that is an array -/
theorem interconnect_not_lost_circuitC (C : NNet) (hwf : C.wf = true) (tl : PinIdx) (df : DelayFile) (pre post : List Entry)
    (e : Entry) (l d : Nat) (ip op : Bool) (A : Arr)
    (hA : interconnectsC C tl df = some A)
    (hsplit : icEntries df = some (pre ++ e :: post))
    (hnz : ∃ v ∈ norm e.r ++ norm e.f, v ≠ 0)
    (hplace : IcPlace C tl (stripBackslash (splitSlash e.a).1) (splitSlash e.a).2
                (stripBackslash (splitSlash e.b).1) (splitSlash e.b).2 l)
    (hd : d < 3)
    (hpost : ∀ e' ∈ post, ∀ w, icWrite (icLineOf C tl) e' = some w → w.line ≠ l) :
    A d l ip op = (norm (if op then e.f else e.r)).getD d 0 := by
  have h := interconnect_not_lost_circuit C hwf tl df pre post e l d ip op hsplit hnz hplace hd hpost
  rw [interconnectsC_eq hA] at h
  simpa using h

/-- a place can only be missed by raising or warning: with the place, neither happens -/
theorem interconnect_place_no_warn (C : NNet) (hwf : C.wf = true) (tl : PinIdx) (c1 : String) (p1 : Option String) (c2 : String)
    (p2 : Option String) (l : Nat) (h : IcPlace C tl c1 p1 c2 p2 l) :
    icLookX C tl c1 p1 c2 p2 = .line l :=
  (icLookX_line_iff C tl c1 p1 c2 p2 l).mpr ((interconnect_lookup_iff C hwf tl c1 p1 c2 p2 l).mpr h)

/-- a circuit `a -> u1 (INV_X1) -> n -> u2 (INV_X1) -> z` with signal forks (no branch forks), as `dump_net` exports it -/
def exCirc : NNet :=
  { net := { nodes := #[⟨"input", [], [some 0]⟩, ⟨"__fork__", [some 0], [some 1]⟩, ⟨"INV_X1", [some 1], [some 2]⟩,
                        ⟨"__fork__", [some 2], [some 3]⟩, ⟨"INV_X1", [some 3], [some 4]⟩, ⟨"__fork__", [some 4], [some 5]⟩,
                        ⟨"output", [some 5], []⟩],
             lines := #[⟨0, 0, 1, 0⟩, ⟨1, 0, 2, 0⟩, ⟨2, 0, 3, 0⟩, ⟨3, 0, 4, 0⟩, ⟨4, 0, 5, 0⟩, ⟨5, 0, 6, 0⟩],
             io := [0, 6] },
    names := #["a", "a", "u1", "n", "u2", "z", "z"] }
def exTl : PinIdx := fun k p => if k = "INV_X1" ∧ (p = "I" ∨ p = "ZN") then some 0 else none

theorem exCirc_wf : exCirc.wf = true := by decide +kernel
example : exCirc.wf = true := exCirc_wf
example : pinLook exCirc exTl "u2" "I" = .line 3 ∧ pinLook exCirc exTl "u9" "I" = .skip
    ∧ pinLook exCirc exTl "u2" "Q" = .raise := by decide +kernel
example : icLook exCirc exTl "u1" (some "ZN") "u2" (some "I") = .line 2 ∧ icLook exCirc exTl "a" none "u1" (some "I") = .line 0
    ∧ icLook exCirc exTl "u7" none "u1" (some "I") = .raise := by decide +kernel
/-- the hypotheses of `iopath_lands_lookup` / `interconnect_lands_lookup` hold for this file on this circuit (the `_circuit` forms follow below);
the negative INTERCONNECT value lands (`icSkip` keeps it) -/
example : iopaths (pinLineOf exCirc exTl) (parse .merge [⟨["u2"], [[⟨"I", "ZN", [[some 1, some 2, some 3]]⟩]]⟩]) 1 3 true false = 2 :=
  iopath_lands_lookup exCirc exCirc_wf exTl _ [] [] "u2" ⟨"I", "ZN", [1, 2, 3], [1, 2, 3]⟩ 4 0 3 1 true false
    (by decide +kernel) (by decide +kernel) (by decide +kernel) (by decide +kernel) (by decide +kernel) (by decide +kernel)
    (by decide) (by simp)
example : (interconnects (icLineOf exCirc exTl)
      (parse .merge [⟨[], [[⟨"u1/ZN", "u2/I", [[some 0, some 0, some 0], [some (-1), some 5, some 5]]⟩]]⟩])).map
        (fun A => A 0 2 false true) = some (-1) :=
  interconnect_lands_lookup exCirc exTl _ [] [] ⟨"u1/ZN", "u2/I", [0, 0, 0], [-1, 5, 5]⟩ 2 0 false true
    (by decide +kernel) ⟨-1, by decide, by decide⟩ (by decide +kernel) (by decide) (by simp)
/-- the real-result theorems: the hypothesis `iopathsC … = some A` / `interconnectsC … = some A` is satisfiable (a file whose
look-ups all succeed or warn) … -/
example : (iopathsC exCirc exTl (parse .merge [⟨["u2"], [[⟨"I", "ZN", [[some 1, some 2, some 3]]⟩]]⟩, ⟨["ghost"], [[⟨"I", "ZN", [[some 1, some 2, some 3]]⟩]]⟩])).isSome = true
    ∧ (interconnectsC exCirc exTl (parse .merge [⟨[], [[⟨"u1/ZN", "u2/I", [[some 0, some 0, some 0], [some (-1), some 5, some 5]]⟩]]⟩])).isSome = true := by
  decide +kernel
/-- … and fails for a block with an entry for pin `Q`, which `INV_X1` does not have — the real `iopaths()` raises
`AssertionError`, there is no array, `iopath_lands_circuit` has no instance -/
example : iopathsC exCirc exTl (parse .merge [⟨["u2"], [[⟨"I", "ZN", [[some 1, some 2, some 3]]⟩, ⟨"Q", "ZN", [[some 4, some 5, some 6]]⟩]]⟩]) = none := by
  decide +kernel
example : pinLook exCirc exTl "u2" "Q" = .raise := by decide +kernel
example (A : Arr) (hA : iopathsC exCirc exTl (parse .merge [⟨["u2"], [[⟨"I", "ZN", [[some 1, some 2, some 3]]⟩]]⟩]) = some A) :
    A 1 3 true false = 2 :=
  iopath_lands_circuit exCirc exCirc_wf exTl _ A hA [] [] "u2" ⟨"I", "ZN", [1, 2, 3], [1, 2, 3]⟩ 4 0 3 1 true false
    (by decide +kernel) (by decide +kernel) (by decide +kernel) (by decide +kernel) (by decide +kernel) (by decide +kernel)
    (by decide) (by simp)
example (A : Arr) (hA : interconnectsC exCirc exTl
      (parse .merge [⟨[], [[⟨"u1/ZN", "u2/I", [[some 0, some 0, some 0], [some (-1), some 5, some 5]]⟩]]⟩]) = some A) :
    A 0 2 false true = -1 :=
  interconnect_lands_circuit exCirc exTl _ A hA [] [] ⟨"u1/ZN", "u2/I", [0, 0, 0], [-1, 5, 5]⟩ 2 0 false true
    (by decide +kernel) ⟨-1, by decide, by decide⟩ (by decide +kernel) (by decide) (by simp)
/-- fan-out with branch forks (`verilog.parse(branchforks=True)`): `a -> u1 -> n -> {u2 -> z1, u3 -> z2}`; node 3 is the
signal fork of `n`, nodes 4 and 5 its branch forks -/
def exFan : NNet :=
  { net := { nodes := #[⟨"input", [], [some 0]⟩, ⟨"__fork__", [some 0], [some 1]⟩, ⟨"INV_X1", [some 1], [some 2]⟩,
                        ⟨"__fork__", [some 2], [some 3, some 4]⟩, ⟨"__fork__", [some 3], [some 5]⟩, ⟨"__fork__", [some 4], [some 6]⟩,
                        ⟨"INV_X1", [some 5], [some 7]⟩, ⟨"INV_X1", [some 6], [some 8]⟩,
                        ⟨"__fork__", [some 7], [some 9]⟩, ⟨"__fork__", [some 8], [some 10]⟩,
                        ⟨"output", [some 9], []⟩, ⟨"output", [some 10], []⟩],
             lines := #[⟨0, 0, 1, 0⟩, ⟨1, 0, 2, 0⟩, ⟨2, 0, 3, 0⟩, ⟨3, 0, 4, 0⟩, ⟨3, 1, 5, 0⟩, ⟨4, 0, 6, 0⟩, ⟨5, 0, 7, 0⟩,
                        ⟨6, 0, 8, 0⟩, ⟨7, 0, 9, 0⟩, ⟨8, 0, 10, 0⟩, ⟨9, 0, 11, 0⟩],
             io := [0, 10, 11] },
    names := #["a", "a", "u1", "n", "n~0", "n~1", "u2", "u3", "z1", "z2", "z1", "z2"] }
/-- the same netlist without branch forks (`branchforks=False`): the signal fork of `n` has two readers -/
def exFanNB : NNet :=
  { net := { nodes := #[⟨"input", [], [some 0]⟩, ⟨"__fork__", [some 0], [some 1]⟩, ⟨"INV_X1", [some 1], [some 2]⟩,
                        ⟨"__fork__", [some 2], [some 3, some 4]⟩,
                        ⟨"INV_X1", [some 3], [some 5]⟩, ⟨"INV_X1", [some 4], [some 6]⟩,
                        ⟨"__fork__", [some 5], [some 7]⟩, ⟨"__fork__", [some 6], [some 8]⟩,
                        ⟨"output", [some 7], []⟩, ⟨"output", [some 8], []⟩],
             lines := #[⟨0, 0, 1, 0⟩, ⟨1, 0, 2, 0⟩, ⟨2, 0, 3, 0⟩, ⟨3, 0, 4, 0⟩, ⟨3, 1, 5, 0⟩, ⟨4, 0, 6, 0⟩, ⟨5, 0, 7, 0⟩,
                        ⟨6, 0, 8, 0⟩, ⟨7, 0, 9, 0⟩],
             io := [0, 8, 9] },
    names := #["a", "a", "u1", "n", "u2", "u3", "z1", "z2", "z1", "z2"] }

/-- the hypotheses of `interconnect_lookup_exits` hold for all three example circuits -/
theorem exCircs_ok : exCirc.wf = true ∧ icStructOKB exCirc = true ∧ exFan.wf = true ∧ icStructOKB exFan = true
    ∧ exFanNB.wf = true ∧ icStructOKB exFanNB = true := ⟨exCirc_wf, by decide +kernel⟩
example : exCirc.wf = true ∧ icStructOKB exCirc = true ∧ exFan.wf = true ∧ icStructOKB exFan = true
    ∧ exFanNB.wf = true ∧ icStructOKB exFanNB = true := exCircs_ok
/-- all four exits occur: branch-fork answers (lines 3 and 4), sole-line answer (line 0), "No branchfork" on the netlist without
branch forks, open pin (the port `a` as destination: an `input` node has no input pin), raise for a connection that does not exist, for an
unknown cell and for an unknown pin -/
example : icLookX exFan exTl "u1" (some "ZN") "u2" (some "I") = .line 3 ∧ icLookX exFan exTl "u1" (some "ZN") "u3" (some "I") = .line 4
    ∧ icLookX exFan exTl "a" none "u1" (some "I") = .line 0
    ∧ icLookX exFanNB exTl "u1" (some "ZN") "u2" (some "I") = .warnNoBranch
    ∧ icLookX exFan exTl "u1" (some "ZN") "a" none = .warnPin
    ∧ icLookX exFan exTl "u2" (some "ZN") "u3" (some "I") = .raise
    ∧ icLookX exFan exTl "u9" none "u3" (some "I") = .raise
    ∧ icLookX exFan exTl "u1" (some "Q") "u3" (some "I") = .raise := by decide +kernel
/-- an INTERCONNECT naming a connection the circuit does not have (`u2/ZN -> u3/I`), and a file without top-level block, make
`interconnects()` raise -/
example : interconnectsC exFan exTl (parse .merge [⟨[], [[⟨"u2/ZN", "u3/I", [[some 1, some 2, some 3]]⟩]]⟩]) = none
    ∧ interconnectsC exFan exTl (parse .merge [⟨["u1"], []⟩]) = none := by decide +kernel
/-- the place of `u1/ZN -> u3/I` in `exFan` is line 4 (hypothesis of `interconnect_lookup_complete`, stated directly) -/
example : IcPlace exFan exTl "u1" (some "ZN") "u3" (some "I") 4 :=
  ⟨2, 7, 0, 0, 2, 6, by decide +kernel, by decide +kernel, by decide +kernel, by decide +kernel, by decide +kernel,
    by decide +kernel, by decide +kernel, by decide +kernel, by decide +kernel, by decide +kernel, by decide +kernel,
    by decide +kernel, Or.inr ⟨by decide +kernel, by decide +kernel⟩⟩
/-- `interconnect_not_lost_circuit` on the fan-out circuit: the negative value of the entry for the second branch lands on line 4 -/
example : (interconnects (icLineOf exFan exTl)
      (parse .merge [⟨[], [[⟨"u1/ZN", "u3/I", [[some 0, some 0, some 0], [some (-1), some 5, some 5]]⟩]]⟩])).map
        (fun A => A 0 4 false true) = some (-1) :=
  interconnect_not_lost_circuit exFan exCircs_ok.2.2.1 exTl _ [] [] ⟨"u1/ZN", "u3/I", [0, 0, 0], [-1, 5, 5]⟩ 4 0 false true
    (by decide +kernel) ⟨-1, by decide, by decide⟩
    ((interconnect_lookup_iff exFan exCircs_ok.2.2.1 exTl _ _ _ _ 4).mp (by decide +kernel)) (by decide) (by simp)
end circuit

/-! ## text level: the grammar of `sdf.py` (Model/SdfText.lean) -/
section text
open KV.SdfText

/-- Print/parse round trip of the SDF text model: for every parse tree `f` (DESIGN names, CELL blocks with INSTANCE
names and DELAY sections of IOPATH / INTERCONNECT entries with `()` or three-field value lists) whose name tokens
are tokens of the grammar (`validId`, `validIoe`, `validDesign`: plain or quoted / parenthesised form) and whose
number fields are empty or decimal numbers `float()` accepts, and whose entries have one or two value lists,
reading the canonical text gives back exactly `f` — through the scanner with lark's per-state terminal order, the
reader for the grammar, and the transformer's raise conditions (`SdfFile.ok`). -/
theorem sdf_text_roundtrip (f : SdfFile) (h : f.valid = true) : parseSdf (printSdf f) = some f :=
  parseSdf_print f h

/-- the same at the grammar level alone (what lark's parse tree contains, no transformer) -/
theorem sdf_text_roundtrip_tree (f : SdfFile) (h : f.valid = true) : parseTree (printSdfL f) = some f :=
  parseTree_print f h

/-- Through the text and back at the level of the block lists that the landing theorems above are about: print a block
list (IOPATH entries in blocks with an INSTANCE name, INTERCONNECT entries in blocks without; numbers in thousandths as
`[-]i.fff`), read the text with the grammar model, hand the tree over (`SdfFile.toRaw`) — the same block list comes back.
Hypotheses (decidable): value lists are `()` or have three fields (`rawShapeOK`), and the tree is printable
(`SdfFile.valid`: name tokens of the grammar, one or two value lists per entry). -/
theorem sdf_text_roundtrip_raw (B : List RawCell) (hs : rawShapeOK B = true) (hv : (ofRaw B).valid = true) :
    (parseSdf (printSdf (ofRaw B))).bind SdfFile.toRaw = some B := by
  rw [parseSdf_print (ofRaw B) hv]
  exact toRaw_ofRaw B hs

/-- thousandths print and read back exactly; the printed field is a number `float()` accepts -/
theorem sdf_text_number_roundtrip (v : Int) : milli (showMilli v) = some v ∧ validField (showMilli v) = true :=
  ⟨(showMilli_spec v).2, (showMilli_spec v).1⟩

/-- a valid tree never makes the transformer raise -/
theorem sdf_text_valid_ok (f : SdfFile) (h : f.valid = true) : f.ok = true := SdfFile.ok_of_valid f h

/-- a file with a DESIGN entry, an escaped instance name, an edge-qualified pin, `()`, partially empty value lists,
a negative number, two DELAY sections, a quoted name with a blank, and a block without INSTANCE -/
def exText : SdfFile :=
  { designs := ["top".toList],
    cells := [⟨["u\\3\\[0\\]".toList],
                [[⟨true, "(posedge A1)".toList, "ZN".toList, [some ("1.5".toList, "2".toList, "-.25".toList), none]⟩],
                 [⟨true, "A2".toList, "ZN".toList, [some ([], [], "9".toList)]⟩]]⟩,
              ⟨[], [[⟨false, "\"a b\"".toList, "u2/I".toList, [some ("0.1".toList, [], [])]⟩]]⟩] }

theorem exText_valid : exText.valid = true := by decide +kernel
example : exText.valid = true := exText_valid
example : printSdf exText = "(DELAYFILE (DESIGN \"top\") (CELL (INSTANCE u\\3\\[0\\]) (DELAY (ABSOLUTE (IOPATH (posedge A1) ZN (1.5:2:-.25) ()))) (DELAY (ABSOLUTE (IOPATH A2 ZN (::9))))) (CELL (DELAY (ABSOLUTE (INTERCONNECT \"a b\" u2/I (0.1::))))))\n" := by
  rw [printSdf, ← String.toList_inj, String.toList_ofList, String.toList_ofList]
  decide +kernel
example : parseSdf (printSdf exText) = some exText := sdf_text_roundtrip exText exText_valid

/-- a literal text is handed to the kernel as its character list (elaboration unfolds the literal; decoding UTF-8 in the kernel is
slow); a text written as `"…" ++ "…"` first becomes `String.ofList _ ++ String.ofList _` by `show` -/
theorem parseSdf_ofList (l : List Char) : parseSdf (String.ofList l) = parseSdfL l := by rw [parseSdf, String.toList_ofList]

/-- the reader on a text the printer does not produce: header entries, comment, tabs and line breaks, CELLTYPE,
`( )`, a TIMINGCHECK block with nested parentheses -/
example : parseSdf ("(DELAYFILE (SDFVERSION \"2.1\") // c\n (CELL (CELLTYPE \"INV\")\n\t(INSTANCE u1) (DELAY (ABSOLUTE\n " ++
      "(IOPATH A ZN (1:2:3) ( )))) (TIMINGCHECK (WIDTH (posedge A) (1:1:1)) x)))")
    = some ⟨[], [⟨["u1".toList], [[⟨true, "A".toList, "ZN".toList, [some ("1".toList, "2".toList, "3".toList), none]⟩]]⟩]⟩ := by
  show parseSdf (String.ofList _ ++ String.ofList _) = _
  rw [← String.ofList_append, parseSdf_ofList]
  decide +kernel
/-- lark's terminal order: a line break after `(INSTANCE` belongs to the name -/
example : parseSdf "(DELAYFILE (CELL (INSTANCE\nu1)))" = some ⟨[], [⟨["\nu1".toList], []⟩]⟩ := by
  rw [parseSdf_ofList]
  decide +kernel
/-- `float("-")` raises in the transformer; three value lists make `IOPath(*args)` raise -/
example : parseSdf "(DELAYFILE (CELL (INSTANCE u1) (DELAY (ABSOLUTE (IOPATH A ZN (1:-:3))))))" = none := by
  rw [parseSdf_ofList]
  decide +kernel
example : parseSdf "(DELAYFILE (CELL (INSTANCE u1) (DELAY (ABSOLUTE (IOPATH A ZN () () ())))))" = none
    ∧ (parseTree "(DELAYFILE (CELL (INSTANCE u1) (DELAY (ABSOLUTE (IOPATH A ZN () () ())))))".toList).isSome = true := by
  rw [parseSdf_ofList, String.toList_ofList]
  decide +kernel
/-- the block list `exCells` of the non-vacuity section above satisfies the hypotheses of `sdf_text_roundtrip_raw` -/
theorem exCells_printable : rawShapeOK exCells = true ∧ (ofRaw exCells).valid = true := by decide +kernel
example : rawShapeOK exCells = true ∧ (ofRaw exCells).valid = true := exCells_printable
example : (parseSdf (printSdf (ofRaw exCells))).bind SdfFile.toRaw = some exCells :=
  sdf_text_roundtrip_raw exCells exCells_printable.1 exCells_printable.2
example : showMilli (-1250) = "-1.250".toList ∧ showMilli 7 = "0.007".toList ∧ milli "12.5".toList = some 12500
    ∧ milli "-.25".toList = some (-250) ∧ milli "1.0004".toList = none ∧ milli "3.".toList = some 3000 := by decide +kernel
end text

end KV.C14
