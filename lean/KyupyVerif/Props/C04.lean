import KyupyVerif.Proofs.WaveMemDemo
import KyupyVerif.Proofs.Capture
/-! # C04 — transitions stay inside the static-timing window and move rigidly with inputs

Model: `Wave.waveEval` / `Wave.simWave` (transcription of `_wave_eval`, tied by the correspondence of C03).
Proved here for every op program: (1) the static-timing window, (2) strict monotonicity for polarity-
independent delays, (3) rigid motion under `t ↦ k·t + s` (shift, positive-integer scaling incl. powers of two).

**Memory level** (last section): the same three statements for what the REAL memory layout holds in the region of
every output slot after a propagation (`sta_window_mem`, `mono_timestamps_mem`, `rigid_motion_mem`: any map the certificate
`MapIn.check` accepts, `c_caps_min ≥ 4`, any implementation of the evaluator calls honouring `Wave.WaveStep`, any
level-respecting order — see the header of Props/C03.lean), incl. the captured earliest-arrival / latest-stabilisation
entries `s[4]`, `s[5]`; `wave_timing_all_circuits`: for the tables of the `SimOps` model of every circuit (certificate =
theorem `C08.simops_map_accepted`). The window along a SENSITISED PATH (`C04.path_window_mem`, `C04.chain_arrival_mem`) is in
Proofs/StaPath.lean, which imports this file. -/
namespace KV.C04
open KV KV.Sig KV.Wave

/-! ## (1) static-timing window -/

/-- arrival window of a signal: `none` = no finite transition possible -/
abbrev Win := Option (Int × Int)

def Win.hull : Win → Win → Win
  | none, b => b
  | a, none => a
  | some (l1, h1), some (l2, h2) => some (Min.min l1 l2, Max.max h1 h2)

def Win.shift (w : Win) (dlo dhi : Int) : Win := w.map fun (l, h) => (l + dlo, h + dhi)

/-- every finite entry of the waveform lies in the window -/
def Within (w : Wv) (win : Win) : Prop :=
  ∀ t, T.fin t ∈ w.ents → ∃ l h, win = some (l, h) ∧ l ≤ t ∧ t ≤ h

def dmin (cfg : WCfg) (op : Op) (i : Nat) : Int :=
  Min.min (Min.min (opDelays cfg op i false false) (opDelays cfg op i false true))
          (Min.min (opDelays cfg op i true false) (opDelays cfg op i true true))
def dmax (cfg : WCfg) (op : Op) (i : Nat) : Int :=
  Max.max (Max.max (opDelays cfg op i false false) (opDelays cfg op i false true))
          (Max.max (opDelays cfg op i true false) (opDelays cfg op i true true))

/-- static timing analysis of one op: hull of the operand windows moved by the smallest / largest of the four
    delay entries of that operand's line -/
def staSem (cfg : WCfg) (op : Op) (wins : List Win) : Win :=
  Win.hull (Win.hull ((wins.getD 0 none).shift (dmin cfg op 0) (dmax cfg op 0)) ((wins.getD 1 none).shift (dmin cfg op 1) (dmax cfg op 1)))
           (Win.hull ((wins.getD 2 none).shift (dmin cfg op 2) (dmax cfg op 2)) ((wins.getD 3 none).shift (dmin cfg op 3) (dmax cfg op 3)))

theorem dmin_le (cfg : WCfg) (op : Op) (i : Nat) (p q : Bool) : dmin cfg op i ≤ opDelays cfg op i p q := by
  unfold dmin; cases p <;> cases q <;> omega
theorem le_dmax (cfg : WCfg) (op : Op) (i : Nat) (p q : Bool) : opDelays cfg op i p q ≤ dmax cfg op i := by
  unfold dmax; cases p <;> cases q <;> omega

theorem hull_left {a b : Win} {t : Int} (h : ∃ l h, a = some (l, h) ∧ l ≤ t ∧ t ≤ h) :
    ∃ l h, Win.hull a b = some (l, h) ∧ l ≤ t ∧ t ≤ h := by
  obtain ⟨l, hh, rfl, h1, h2⟩ := h
  cases b with
  | none => exact ⟨l, hh, rfl, h1, h2⟩
  | some p => obtain ⟨l2, h2'⟩ := p; exact ⟨_, _, rfl, by omega, by omega⟩
theorem hull_right {a b : Win} {t : Int} (h : ∃ l h, b = some (l, h) ∧ l ≤ t ∧ t ≤ h) :
    ∃ l h, Win.hull a b = some (l, h) ∧ l ≤ t ∧ t ≤ h := by
  obtain ⟨l, hh, rfl, h1, h2⟩ := h
  cases a with
  | none => exact ⟨l, hh, rfl, h1, h2⟩
  | some p => obtain ⟨l1, h1'⟩ := p; exact ⟨_, _, rfl, by omega, by omega⟩

def WRel (w : Wv) (win : Win) : Prop := w.ok ∧ Within w win

/-- gate level: every transition the evaluator emits is an operand transition plus one of that line's four
    delay entries, hence inside the op's static-timing window -/
theorem gate_window (cfg : WCfg) (op : Op) (hd : ∀ l p q, 0 ≤ cfg.delay l p q) (hc : 4 ≤ cfg.cap op.out)
    (xs : List Wv) (wins : List Win) (hxy : All2 WRel xs wins) : WRel (waveSem cfg op xs) (staSem cfg op wins) := by
  have hx : ∀ x ∈ xs, x.ok := hxy.forall_left (fun _ _ h => h.1)
  refine ⟨waveSem_ok ⟨hd, hc, slot_ok hx⟩, ?_⟩
  intro t ht
  have hmem := waveSem_reach ⟨hd, hc, slot_ok hx⟩ _ ht
  rcases hmem with h | ⟨i, e, p, q, he, hxe⟩
  · cases h
  · -- e is a finite entry of operand i
    cases e with
    | fin te =>
      simp only [T.add, T.fin.injEq] at hxe
      have hw : WRel (slot xs i) (wins.getD i.val none) := hxy.getD i.val Wv.empty none ⟨Wv.empty_ok, by intro t h; simp [Wv.empty] at h⟩
      obtain ⟨l, h, hwin, h1, h2⟩ := hw.2 te he
      have key : ∃ l' h', (wins.getD i.val none).shift (dmin cfg op i.val) (dmax cfg op i.val) = some (l', h') ∧ l' ≤ t ∧ t ≤ h' := by
        refine ⟨l + dmin cfg op i.val, h + dmax cfg op i.val, by rw [hwin]; rfl, ?_, ?_⟩
        · have := dmin_le cfg op i.val p q; rw [hxe]; omega
        · have := le_dmax cfg op i.val p q; rw [hxe]; omega
      unfold staSem
      have : i = 0 ∨ i = 1 ∨ i = 2 ∨ i = 3 := by omega
      rcases this with rfl | rfl | rfl | rfl
      · exact hull_left (hull_left key)
      · exact hull_left (hull_right key)
      · exact hull_right (hull_left key)
      · exact hull_right (hull_right key)
    | _ => simp [T.add] at hxe

/-- **every program, delays ≥ 0**: no transition appears on any signal earlier than the earliest or later than
    the latest arrival that static timing analysis (`staSem` propagated through the same program) permits
    for the windows of the input transitions -/
theorem sta_window (cfg : WCfg) (ops : List Op) (hg : cfg.Good ops) (env : Nat → Wv) (win : Nat → Win)
    (h : ∀ l, WRel (env l) (win l)) (l : Nat) :
    Within (simWave cfg ops env l) (execG (staSem cfg) ops win l) :=
  (execG_rel_on WRel (waveSem cfg) (staSem cfg) ops
    (fun op hop xs ws hxy => gate_window cfg op hg.delay_nonneg (hg.cap_ge op hop) xs ws hxy) env win h l).2

/-! ## (2) strictly increasing timestamps for polarity-independent delays -/

def PolIndep (cfg : WCfg) : Prop := ∀ l p q, cfg.delay l p q = cfg.delay l false false

def MonoOk (w : Wv) : Prop := w.ok ∧ Incr w.ents

theorem gate_mono (cfg : WCfg) (hpol : PolIndep cfg) (op : Op) (hd : ∀ l p q, 0 ≤ cfg.delay l p q) (hc : 4 ≤ cfg.cap op.out)
    (xs : List Wv) (hx : ∀ x ∈ xs, MonoOk x) : MonoOk (waveSem cfg op xs) := by
  have hxo : ∀ x ∈ xs, x.ok := fun x h => (hx x h).1
  refine ⟨waveSem_ok ⟨hd, hc, slot_ok hxo⟩, ?_⟩
  have hinc : ∀ i, Incr (slot xs i).ents := by
    intro i
    unfold slot
    rw [List.getD_eq_getElem?_getD]
    cases hx' : xs[i.val]? with
    | none => simp [Wv.empty, Incr]
    | some x => exact (hx x (List.mem_of_getElem? hx')).2
  exact waveSem_incr ⟨hd, hc, slot_ok hxo⟩ (fun i => cfg.delay (op.ins.getD (4 + i.val) (op.ins.getD i.val 0)) false false)
    (fun i p q => by unfold opDelays; exact hpol _ p q) hinc

/-- **every program**: when no line's delay depends on transition polarity, the timestamps inside every
    waveform are strictly increasing (given strictly increasing input waveforms) -/
theorem mono_timestamps (cfg : WCfg) (hpol : PolIndep cfg) (ops : List Op) (hg : cfg.Good ops) (env : Nat → Wv)
    (h : ∀ l, MonoOk (env l)) (l : Nat) : Incr (simWave cfg ops env l).ents :=
  (execG_inv_on MonoOk (waveSem cfg) ops
    (fun op hop xs hx => gate_mono cfg hpol op hg.delay_nonneg (hg.cap_ge op hop) xs hx) env h l).2

/-- with polarity-DEPENDENT delays the stack may be non-monotone (51, 44, 57): consistent with the property, which
    claims monotonicity only for polarity-independent delays. AND2, operand 0 rises at 19, operand 1 toggles at
    33, 34, 39; delays of line 0 `[[0,0],[0,18]]`, of line 1 `[[18,18],[4,10]]`. -/
example : (waveEval 0x8888 (fun i p q => if i = 0 then (if p && q then 18 else 0) else if i = 1 then (if !p then 18 else if q then 10 else 4) else 0)
    (fun i => if i = 0 then [T.fin 19] else if i = 1 then [T.fin 33, T.fin 34, T.fin 39] else []) (fun _ => T.tmax) 16).1
    = [T.fin 51, T.fin 44, T.fin 57] := by decide +kernel

/-! ## (3) rigid motion: shifting all input transitions by `s` shifts every transition by `s`; scaling all times
and delays by a positive integer factor `k` (in particular a power of two) scales every transition by `k` -/

/-- **every program**: rigid motion of all input waveforms (times `t ↦ k·t + s`, delays `d ↦ k·d`, `k > 0`)
    moves every waveform on every signal rigidly. `k = 1`: shift by any amount `s`; `s = 0`: scaling. -/
theorem rigid_motion (k s : Int) (hk : 0 < k) (cfg : WCfg) (ops : List Op) (hg : cfg.Good ops) (env : Nat → Wv)
    (henv : ∀ l, (env l).ok) (l : Nat) :
    simWave ⟨fun l p q => k * cfg.delay l p q, cfg.cap⟩ ops (fun x => (env x).aff k s) l = (simWave cfg ops env l).aff k s := by
  refine (simWave_ok_rel (fun w w' => w' = w.aff k s) cfg (waveSem ⟨fun l p q => k * cfg.delay l p q, cfg.cap⟩) ops hg ?_ env
    (fun x => (env x).aff k s) (fun x => ⟨henv x, rfl⟩) l).2
  intro op hop xs xs' hok hxy
  have hxs' : xs' = xs.map (Wv.aff k s) := by
    induction hxy with
    | nil => rfl
    | cons h _ ih => rw [List.map_cons, ← h.2, ih (fun x hx => hok x (List.mem_cons_of_mem _ hx))]
  rw [hxs']
  exact waveSem_aff k s hk cfg op xs (fun i => (slot_ok hok i).2)

theorem shift_invariance (s : Int) (cfg : WCfg) (ops : List Op) (hg : cfg.Good ops) (env : Nat → Wv)
    (henv : ∀ l, (env l).ok) (l : Nat) :
    simWave cfg ops (fun x => (env x).aff 1 s) l = (simWave cfg ops env l).aff 1 s := by
  have := rigid_motion 1 s (by decide) cfg ops hg env henv l
  simpa using this

/-- **rational scaling** (every program): two runs whose input times and delays are the multiples `p·` and `q·` of a common
    base (`p, q > 0`) — i.e. one is the other scaled by the rational `p/q`; for coprime `p, q` such a base exists whenever
    both runs have integer tick times — have results in the same ratio: `q · result_p = p · result_q` on every signal.
    In particular scaling by 1/2 (`p = 1, q = 2`): halving all times and delays halves every transition time. -/
theorem rational_scaling (p q : Int) (hp : 0 < p) (hq : 0 < q) (cfg : WCfg) (ops : List Op) (hg : cfg.Good ops) (env : Nat → Wv)
    (henv : ∀ l, (env l).ok) (l : Nat) :
    (simWave ⟨fun l a b => p * cfg.delay l a b, cfg.cap⟩ ops (fun x => (env x).aff p 0) l).aff q 0 =
    (simWave ⟨fun l a b => q * cfg.delay l a b, cfg.cap⟩ ops (fun x => (env x).aff q 0) l).aff p 0 := by
  rw [rigid_motion p 0 hp cfg ops hg env henv l, rigid_motion q 0 hq cfg ops hg env henv l, Wv.aff_aff, Wv.aff_aff, Int.mul_comm]

/-- the scaled result is determined: scaling is injective on waveforms, so the run on the base grid is THE waveform whose
    `k`-fold is the run on the `k`-fold grid ("dividing by k") -/
theorem scale_down_unique (k : Int) (hk : 0 < k) (cfg : WCfg) (ops : List Op) (hg : cfg.Good ops) (env : Nat → Wv)
    (henv : ∀ l, (env l).ok) (l : Nat) (w : Wv)
    (h : w.aff k 0 = simWave ⟨fun l a b => k * cfg.delay l a b, cfg.cap⟩ ops (fun x => (env x).aff k 0) l) :
    w = simWave cfg ops env l := by
  rw [rigid_motion k 0 hk cfg ops hg env henv l] at h
  exact Wv.aff_inj k 0 hk _ _ h

/-- non-vacuity (scaling by 1/2 and by 3/2): the NAND example on the grids 1, 2 and 3 -/
example :
    (waveSem ⟨fun _ _ _ => 2, fun _ => 4⟩ ⟨0x7777, 7, [0, 1, 9, 9]⟩ [(⟨[T.tmin], T.tmax⟩ : Wv), (⟨[T.fin 6], T.tmax⟩ : Wv), Wv.empty, Wv.empty])
      = (waveSem ⟨fun _ _ _ => 1, fun _ => 4⟩ ⟨0x7777, 7, [0, 1, 9, 9]⟩ [(⟨[T.tmin], T.tmax⟩ : Wv), (⟨[T.fin 3], T.tmax⟩ : Wv), Wv.empty, Wv.empty]).aff 2 0 ∧
    (waveSem ⟨fun _ _ _ => 3, fun _ => 4⟩ ⟨0x7777, 7, [0, 1, 9, 9]⟩ [(⟨[T.tmin], T.tmax⟩ : Wv), (⟨[T.fin 9], T.tmax⟩ : Wv), Wv.empty, Wv.empty]).aff 2 0
      = (waveSem ⟨fun _ _ _ => 2, fun _ => 4⟩ ⟨0x7777, 7, [0, 1, 9, 9]⟩ [(⟨[T.tmin], T.tmax⟩ : Wv), (⟨[T.fin 6], T.tmax⟩ : Wv), Wv.empty, Wv.empty]).aff 3 0 := by
  decide +kernel

/-- non-vacuity: shifting the NAND example of C03 by 7 -/
example : (waveSem ⟨fun _ _ _ => 1, fun _ => 4⟩ ⟨0x7777, 7, [0, 1, 9, 9]⟩
    [(⟨[T.tmin], T.tmax⟩ : Wv).aff 1 7, (⟨[T.fin 3], T.tmax⟩ : Wv).aff 1 7, Wv.empty, Wv.empty])
    = (⟨[T.tmin, T.fin 4], T.tmax⟩ : Wv).aff 1 7 := by decide +kernel

/-! ## memory level: the three statements for the region of every output slot of the real memory layout -/
open KV.MapSound

theorem foldl_sel_mem (f : T → T → T) (hf : ∀ a b, f a b = a ∨ f a b = b) (l : List T) (a : T) :
    l.foldl f a = a ∨ l.foldl f a ∈ l := by
  induction l generalizing a with
  | nil => exact Or.inl rfl
  | cons x r ih =>
    simp only [List.foldl_cons, List.mem_cons]
    rcases ih (f a x) with h | h
    · rw [h]
      exact (hf a x).imp_right Or.inl
    · exact Or.inr (Or.inr h)

theorem port_entry_in_window {w : Wv} {win : Win} (hok : w.ok) (hw : Within w win) {e : T}
    (he : e ∈ w.ents.filter (· ≠ T.tmin)) : ∃ t lo hi, e = T.fin t ∧ win = some (lo, hi) ∧ lo ≤ t ∧ t ≤ hi := by
  obtain ⟨hm, hne⟩ := List.mem_filter.1 he
  have hne : e ≠ T.tmin := by simpa using hne
  rcases hok.1.2 e hm with h | h
  · exact absurd h hne
  · cases e with
    | fin t =>
      obtain ⟨lo, hi, h1, h2, h3⟩ := hw t hm
      exact ⟨t, lo, hi, rfl, h1, h2, h3⟩
    | _ => simp [T.isFin] at h

/-- **(1m) static-timing window on memory.** Accepted map, `c_caps_min ≥ 4`, delays ≥ 0; `win l` a window for the input
    waveform of every signal `l` of the stimulus. After ANY propagation the waveform found in the region of output slot `j`
    has all its transitions inside the window static timing analysis computes for the captured signal, and the captured
    earliest arrival `s[4]` / latest stabilisation `s[5]` are the "none" sentinels or lie in that window. -/
theorem sta_window_mem (p : MapIn) (hc : p.check = none) (h4 : 4 ≤ p.capsMin) (delay : Nat → Bool → Bool → Int)
    (hd : ∀ l a b, 0 ≤ delay l a b) (m0 m' : Int → T) (env0 : Nat → Wv) (win : Nat → Win)
    (hst : Stimulus p m0 env0) (hpr : Propagated p delay m0 m') (hw : ∀ l, WRel (env0 l) (win l))
    (j s : Nat) (hjs : (j, s) ∈ p.ppoSrcs) (time : T) :
    let w := rdWave (p.loc j) (p.cap j) m'
    let sta := execG (staSem (wcfg p delay)) (waveProg p) win s
    Within w sta ∧
    ((captureWv w time).eat = T.tmax ∨
      ∃ t lo hi, (captureWv w time).eat = T.fin t ∧ sta = some (lo, hi) ∧ lo ≤ t ∧ t ≤ hi) ∧
    ((captureWv w time).lst = T.tmin ∨
      ∃ t lo hi, (captureWv w time).lst = T.fin t ∧ sta = some (lo, hi) ∧ lo ≤ t ∧ t ≤ hi) := by
  intro w sta
  have hg := wcfg_good p hc h4 delay hd
  have key : WRel w sta := by
    show WRel (rdWave _ _ m') _
    rw [propagated_eq_sim p hc delay m0 m' env0 hst hpr j s hjs]
    exact ⟨simWave_ok (wcfg p delay) (waveProg p) hg env0 (fun l => (hw l).1) s, sta_window (wcfg p delay) (waveProg p) hg env0 win hw s⟩
  refine ⟨key.2, ?_, ?_⟩
  · rw [capture_spec]
    show specEat w = _ ∨ _
    unfold specEat
    rcases foldl_sel_mem T.min T.min_cases (w.ents.filter (· ≠ T.tmin)) T.tmax with h | h
    · exact Or.inl h
    · exact Or.inr (port_entry_in_window key.1 key.2 h)
  · rw [capture_spec]
    show specLst w = _ ∨ _
    unfold specLst
    rcases foldl_sel_mem T.max T.max_cases (w.ents.filter (· ≠ T.tmin)) T.tmin with h | h
    · exact Or.inl h
    · exact Or.inr (port_entry_in_window key.1 key.2 h)

/-- **(2m) strictly increasing timestamps on memory**: polarity-independent delays, strictly increasing well-formed input
    waveforms ⇒ the waveform in the region of every output slot is strictly increasing -/
theorem mono_timestamps_mem (p : MapIn) (hc : p.check = none) (h4 : 4 ≤ p.capsMin) (delay : Nat → Bool → Bool → Int)
    (hd : ∀ l a b, 0 ≤ delay l a b) (hpol : ∀ l a b, delay l a b = delay l false false) (m0 m' : Int → T)
    (env0 : Nat → Wv) (hst : Stimulus p m0 env0) (hpr : Propagated p delay m0 m') (hm : ∀ l, MonoOk (env0 l))
    (j s : Nat) (hjs : (j, s) ∈ p.ppoSrcs) : Incr (rdWave (p.loc j) (p.cap j) m').ents := by
  rw [propagated_eq_sim p hc delay m0 m' env0 hst hpr j s hjs]
  exact mono_timestamps (wcfg p delay) hpol (waveProg p) (wcfg_good p hc h4 delay hd) env0 hm s

/-- **(3m) rigid motion on memory**: two propagations on the same map — any implementations, any level-respecting
    orders — the second with all input waveforms moved by `t ↦ k·t + s` and all delays scaled by `k > 0`: the waveform in
    the region of every output slot of the second memory is the moved waveform of the first -/
theorem rigid_motion_mem (k s : Int) (hk : 0 < k) (p : MapIn) (hc : p.check = none) (h4 : 4 ≤ p.capsMin)
    (delay : Nat → Bool → Bool → Int) (hd : ∀ l a b, 0 ≤ delay l a b) (m0 m1 m0' m1' : Int → T) (env0 : Nat → Wv)
    (henv : ∀ l, (env0 l).ok) (hst : Stimulus p m0 env0) (hpr : Propagated p delay m0 m1)
    (hst' : Stimulus p m0' (fun x => (env0 x).aff k s))
    (hpr' : Propagated p (fun l a b => k * delay l a b) m0' m1')
    (j c : Nat) (hjc : (j, c) ∈ p.ppoSrcs) :
    rdWave (p.loc j) (p.cap j) m1' = (rdWave (p.loc j) (p.cap j) m1).aff k s := by
  rw [propagated_eq_sim p hc delay m0 m1 env0 hst hpr j c hjc,
    propagated_eq_sim p hc _ m0' m1' _ hst' hpr' j c hjc]
  exact rigid_motion k s hk (wcfg p delay) (waveProg p) (wcfg_good p hc h4 delay hd) env0 henv c

/-- **all circuits**: (1m)–(3m) for the map record the `SimOps` model builds for ANY well-formed netlist, topological order,
    `strip_forks` / `c_reuse` setting, capacity vector and `c_caps_min ≥ 4` — the certificate hypothesis is discharged by
    `C08.simops_map_accepted` -/
theorem wave_timing_all_circuits (tbl : List PrefixRow) (net : Net) (order : List Nat) (strip : Bool)
    (capsIn : Nat → Nat) (capsMin : Nat) (reuse : Bool) (p : MapIn)
    (hp : p = simopsMap tbl net order strip capsIn capsMin reuse)
    (hwf : net.wfB = true) (ho : orderOKB net order = true) (hf : strip = true → forksOKB net order = true)
    (hr : readsDrivenB tbl net order = true) (h4 : 4 ≤ capsMin)
    (delay : Nat → Bool → Bool → Int) (hd : ∀ l a b, 0 ≤ delay l a b) (m0 m1 : Int → T) (env0 : Nat → Wv)
    (hst : Stimulus p m0 env0) (hpr : Propagated p delay m0 m1) (j c : Nat) (hjc : (j, c) ∈ p.ppoSrcs) :
    (∀ win : Nat → Win, (∀ l, WRel (env0 l) (win l)) →
      Within (rdWave (p.loc j) (p.cap j) m1) (execG (staSem (wcfg p delay)) (waveProg p) win c)) ∧
    ((∀ l a b, delay l a b = delay l false false) → (∀ l, MonoOk (env0 l)) →
      Incr (rdWave (p.loc j) (p.cap j) m1).ents) ∧
    (∀ (k s : Int) (m0' m1' : Int → T), 0 < k → (∀ l, (env0 l).ok) → Stimulus p m0' (fun x => (env0 x).aff k s) →
      Propagated p (fun l a b => k * delay l a b) m0' m1' →
      rdWave (p.loc j) (p.cap j) m1' = (rdWave (p.loc j) (p.cap j) m1).aff k s) := by
  subst hp
  have hc := simopsMap_accepted strip capsIn capsMin reuse hwf ho hf hr (by omega)
  exact ⟨fun win hw => (sta_window_mem _ hc h4 delay hd m0 m1 env0 win hst hpr hw j c hjc T.tmax).1,
    fun hpol hm => mono_timestamps_mem _ hc h4 delay hd hpol m0 m1 env0 hst hpr hm j c hjc,
    fun k s m0' m1' hk henv hst' hpr' =>
      rigid_motion_mem k s hk _ hc h4 delay hd m0 m1 m0' m1' env0 henv hst hpr hst' hpr' j c hjc⟩

/-! ### non-vacuity of the memory-level statements: `Wave.memDemo` (strip + reuse; `a` rises at 5, `b` constant 1) -/

/-- (1m): with the window `[5, 5]` on input `a` and none elsewhere, static timing analysis gives `[8, 8]` for the captured
    line, and the output region of the real layout holds transitions only there -/
example (junk : Int → Nat → Wv → (Int → T) → Int → T) :
    Within (rdWave 20 4 (memRun memDemo (waveRW junk) (waveRow (wcfg memDemo memDemoDelay) memDemo)
      (schedOps memDemo [1, 0, 2, 3]) memDemoM0)) (some (8, 8)) := by
  have hw : ∀ l, WRel (inputEnv memDemo memDemoM0 l) (if l = 9 then some (5, 5) else none) := by
    apply memDemo_env_cases (fun l w => WRel w (if l = 9 then some (5, 5) else none))
    · refine ⟨by simp only [Wv.ok, WfRem]; decide +kernel, ?_⟩
      intro t ht
      simp only [List.mem_singleton, T.fin.injEq] at ht
      exact ⟨5, 5, rfl, by omega, by omega⟩
    · refine ⟨by simp only [Wv.ok, WfRem]; decide +kernel, ?_⟩
      intro t ht; simp at ht
    · intro l _ _
      exact ⟨Wv.empty_ok, fun t ht => by simp [Wv.empty] at ht⟩
  have key := (sta_window_mem memDemo memDemo_check (by decide) memDemoDelay memDemoDelay_nonneg memDemoM0 _
    (inputEnv memDemo memDemoM0) _ (stimulus_inputEnv _ _) (memDemo_propagated junk) hw 14 5 memDemo_out.2.2 T.tmax).1
  have hloc := memDemo_out
  have hsta : execG (staSem (wcfg memDemo memDemoDelay)) (waveProg memDemo) (fun l => if l = 9 then some (5, 5) else none) 5
      = some (8, 8) := by decide +kernel
  rw [hloc.1, hloc.2.1, hsta] at key
  exact key

/-- (2m), (3m): the hypotheses hold for the demo (delays are polarity independent, the input waveforms increasing; the
    moved run starts from the moved memory, `stimulus_aff`) -/
example (junk : Int → Nat → Wv → (Int → T) → Int → T) (k s : Int) (hk : 0 < k) (m1' : Int → T)
    (hpr' : Propagated memDemo (fun l a b => k * memDemoDelay l a b) (fun a => (memDemoM0 a).aff k s) m1') :
    Incr (rdWave 20 4 (memRun memDemo (waveRW junk) (waveRow (wcfg memDemo memDemoDelay) memDemo)
      (schedOps memDemo [1, 0, 2, 3]) memDemoM0)).ents ∧
    rdWave 20 4 m1' = ⟨[T.tmin, T.fin (k * 8 + s)], T.tmax⟩ := by
  have hloc := memDemo_out
  have hm : ∀ l, MonoOk (inputEnv memDemo memDemoM0 l) := by
    apply memDemo_env_cases (fun _ w => MonoOk w)
    · exact ⟨by simp only [Wv.ok, WfRem]; decide +kernel, by simp [Incr]⟩
    · exact ⟨by simp only [Wv.ok, WfRem]; decide +kernel, by simp [Incr]⟩
    · intro l _ _; exact ⟨Wv.empty_ok, by simp [Incr, Wv.empty]⟩
  have h2 := mono_timestamps_mem memDemo memDemo_check (by decide) memDemoDelay memDemoDelay_nonneg (fun _ _ _ => rfl)
    memDemoM0 _ (inputEnv memDemo memDemoM0) (stimulus_inputEnv _ _) (memDemo_propagated junk) hm 14 5 memDemo_out.2.2
  have h3 := rigid_motion_mem k s hk memDemo memDemo_check (by decide) memDemoDelay memDemoDelay_nonneg memDemoM0 _ _ m1'
    (inputEnv memDemo memDemoM0) (inputEnv_ok _ _ memDemo_inputs) (stimulus_inputEnv _ _) (memDemo_propagated junk)
    (stimulus_aff k s _ _ _ (stimulus_inputEnv _ _)) hpr' 14 5 memDemo_out.2.2
  have h1 := propagated_eq_sim memDemo memDemo_check memDemoDelay memDemoM0 _ _ (stimulus_inputEnv _ _)
    (memDemo_propagated junk) 14 5 memDemo_out.2.2
  rw [hloc.1, hloc.2.1] at h2 h3 h1
  refine ⟨h2, ?_⟩
  rw [h3, h1, memDemo_sim]
  rfl

end KV.C04
