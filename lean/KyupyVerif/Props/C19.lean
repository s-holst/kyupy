import KyupyVerif.Proofs.TechPins
/-! # C19 — built-in library cells have consistent pins and datasheet Boolean functions

**Generated** from the working tree on every run (gen/dump_techlib.py): `Gen.techChunks` — one `TL.Cell` row per
distinct implementation circuit of GSC180, NANGATE, NANGATE_ZN, SAED32, SAED90: the template name, the keys of
`TechLib.cells` that map to it, their pin table in dictionary order, the circuit's ports (`io_nodes`) with the
(P)PI slot / captured line of each, and the REAL `SimOps(circuit).ops` rows.
**Specification** (hand-written, Model/Datasheet.lean + Model/Techlib.lean): `baseName`, `classify`, `datasheet`,
`outside`, `expand`.
**Theorems** here are kernel evaluations (`decide +kernel`, Proofs/TechPins, TechFun, TechAdd) of decidable checkers on
those tables, lifted by the soundness lemmas of Proofs/TechChk.lean to the for-all statements below.  They hold
for the tables, i.e. for the library objects and op programs the imported package produced; that the LUT
semantics of an op row is what the simulator's code paths execute is C01 (`real_code_paths` restates it for
these programs).  **Oracle** (harness/c19.py): the same comparison on the real `LogicSim` truth tables.
**Composition with C10** (Props/C10Datasheet.lean `resolve_datasheet_sem`, glue Proofs/ImplDatasheet2.lean
`implMatches_iff_datasheet`): `family_function` is about the op rows in the tables; for an implementation NETLIST that a row
describes (`Transform.describesB`, evaluated by the driver for every key of the five libraries: all 656 listed-family keys
pass) the relational meaning C10 gives a resolved instance is therefore the datasheet function of the values on its pins.

This file: cardinality (`cells_count`), pins (`pins_consistent`), `partition`, `real_code_paths`.  Props/C19Gates.lean:
`family_function_except_adders`.  Props/C19Fun.lean (imports C19Gates): the full statement `family_function` (adders included).  Separate
modules, this one imported by neither of the two, so
that a defect in the function of one family does not hide the theorems about pins, and a defect in the adders does not hide the
other families.  `real_code_paths` brings the dispatchers of C01 (Proofs/SemL.lean and, through it, Props/C12Algebra.lean) into the
imports of this file: a defect there does hide it; the function theorems import Proofs/TechCells.lean (with TechChk, Lanes) only. -/
namespace KV.C19
open KV KV.TL KV.DS KV.Sig

/-- all implementation rows of the five libraries -/
abbrev cells : List Cell := Tech.cells

/-- **Cardinality**: the generated table lists, per library (`Gen.libNames` = GSC180, NANGATE, NANGATE_ZN, SAED32,
SAED90), exactly 38 / 133 / 133 / 189 / 533 keys (1026 in all) on 28 / 49 / 49 / 70 / 67 implementation rows (263), no key twice
within a library, and no row outside the five libraries — so the `∀ c ∈ cells` theorems below range over exactly that many
definitions. The numbers are those of the library objects of the tree the table was generated from: the harness compares the
driver's `techcount` (the same `Tech.libKeys` / `Tech.libRows`) with `len(tlib.cells)` and the number of distinct implementation
circuits of the five REAL `TechLib` objects, so a dump that silently drops entries fails here (kernel) and there (tie). A
deliberate change of a library changes these literals. -/
theorem cells_count :
    (List.range 5).map (fun l => (Tech.libKeys l).length) = [38, 133, 133, 189, 533] ∧
    (List.range 5).map (fun l => (Tech.libRows l).length) = [28, 49, 49, 70, 67] ∧
    (∀ l, l < 5 → (Tech.libKeys l).Nodup) ∧
    cells.all (fun c => decide (c.lib < 5)) = true ∧
    (cells.flatMap (·.names)).length = 1026 ∧ cells.length = 263 :=
  ⟨by decide +kernel, by decide +kernel,
    -- `Nodup` of up to 533 names: by sorting their numeric codes, not by comparing every pair of character lists; fuel 10 ≥ log₂ 533,
    -- and with too little fuel `ascending` would fail
    fun l hl => Tech.nodup_of_codes Tech.strCode 10 _
      ((by decide +kernel : ∀ l, l < 5 → Tech.ascending (Tech.msort 10 ((Tech.libKeys l).map Tech.strCode)) = true) l hl),
    by decide +kernel, by decide +kernel, by decide +kernel⟩

/-- Every cell lists each pin exactly once; inputs and outputs are numbered 0..n-1 in declaration order; names,
    order and directions agree with the ports of the implementation circuit; and the keys that carry this
    definition are exactly the names its template stands for (every expanded name has a definition). -/
theorem pins_consistent {c : Cell} (hc : c ∈ cells) :
    (c.pins.map (·.1)).Nodup ∧ (c.ports.map (·.1)).Nodup ∧
    c.inputs.map (·.2.1) = List.range c.inputs.length ∧
    c.outputs.map (·.2.1) = List.range c.outputs.length ∧
    c.pins.map (fun p => (p.1, p.2.2)) = c.ports.map (fun p => (p.1, p.2.1)) ∧
    c.names = expand c.tmpl ∧ c.names ≠ [] :=
  pinsOK_sound (all_chunks Tech.pins_all hc)

/-- The partition is explicit: a cell name either belongs to a listed family (`classify`) or its family is in the
    hand-written list `DS.outside` (sequential, tri-state, isolation, clock gating, decoder, tie, power switch,
    filler) — never both, never neither. -/
theorem partition {c : Cell} (hc : c ∈ cells) {name : Str} (hn : name ∈ c.names) :
    (classify (baseName name)).isSome = !outsideBases.contains (baseName name) :=
  partOK_sound (all_chunks Tech.part_all hc) hn

/-- The three 2-valued code paths of the simulator (`_prop_cpu`, `c_prop` plain, `c_prop` with callback — the
    generated dispatchers of C01) compute exactly the LUT semantics on every library cell's program. -/
theorem real_code_paths {c : Cell} (hc : c ∈ cells) (env : Nat → Bool) (l : Nat) :
    exec semL2n c.prog env l = exec lutSem c.prog env l ∧ exec semL2p c.prog env l = exec lutSem c.prog env l ∧
    exec semL2c c.prog env l = exec lutSem c.prog env l :=
  ⟨Tech.paths_eq_lut hc _ (fun _ h xs => semL2n_eq_spec h xs) env l,
   Tech.paths_eq_lut hc _ (fun _ h xs => semL2p_eq_spec h xs) env l,
   Tech.paths_eq_lut hc _ (fun _ h xs => semL2c_eq_spec h xs) env l⟩

/-! ### the hypotheses are satisfiable by non-trivial objects -/

/-- the notation `c!"…"` is the character list of the string -/
example : c!"AOI221X1_RVT" = "AOI221X1_RVT".toList := by decide +kernel

/-- an AOI221 with letter groups (NANGATE) -/
example : ∃ c ∈ cells, c.lib = 1 ∧ c!"AOI221_X2" ∈ c.names ∧
    classify (baseName c!"AOI221_X2") = some (.aoi true true [2, 2, 1]) ∧
    c.inNames = [c!"A", c!"B1", c!"B2", c!"C1", c!"C2"] ∧
    groupsOf [2, 2, 1] c.inNames = some [[0], [1, 2], [3, 4]] ∧ c.prog.length = 7 := by decide +kernel
/-- … and one with sequential pins (SAED32) -/
example : ∃ c ∈ cells, c.lib = 3 ∧ c!"AOI221X1_RVT" ∈ c.names ∧
    classify (baseName c!"AOI221X1_RVT") = some (.aoi true true [2, 2, 1]) ∧
    groupsOf [2, 2, 1] c.inNames = some [[0, 1], [2, 3], [4]] := by decide +kernel
/-- a MUX41 -/
example : ∃ c ∈ cells, c!"MUX41X2_HVT" ∈ c.names ∧ classify (baseName c!"MUX41X2_HVT") = some (.mux 4) ∧
    (datasheet (.mux 4) c.inNames c.outNames).isSome ∧ c.inNames.length = 6 := by decide +kernel
/-- template expansion, with an empty alternative -/
example : expand c!"ISOLAND{,AO}X{1,2}_RVT" =
    [c!"ISOLANDX1_RVT", c!"ISOLANDX2_RVT", c!"ISOLANDAOX1_RVT", c!"ISOLANDAOX2_RVT"] := by decide +kernel
/-- the checker is not trivially true: numbering the pins from 1 fails -/
example : Cell.pinsOK
    { lib := 0, tmpl := c!"BUFX{1,3}", names := [c!"BUFX1", c!"BUFX3"], nSeq := 0,
      pins := [(c!"A", 1, false), (c!"Y", 1, true)], ports := [(c!"A", false, 5), (c!"Y", true, 0)],
      ops := [] } = false := by decide +kernel

end KV.C19
