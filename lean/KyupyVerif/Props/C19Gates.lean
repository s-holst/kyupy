import KyupyVerif.Proofs.TechFun
/-! # C19 (continued) — datasheet function of every listed family except the adders

See Props/C19.lean for what is generated, specified and proved.  The conclusion of `family_function_except_adders` and of
`family_function` (Props/C19Fun.lean, which imports this file) is `DS.FamSpec c fam` (Proofs/TechChk.lean) written out. -/
namespace KV.C19
open KV KV.TL KV.DS KV.Sig

/-- `family_function` for every listed family except the half/full adders: the cell is purely combinational, its
    pins fit the family, and on EVERY input row the real op program, run with the LUT semantics from the state
    "input k in its (P)PI slot, everything else 0", leaves the datasheet value on the line captured for each output. -/
theorem family_function_except_adders {c : Cell} (hc : c ∈ Tech.cells) {name : Str} (hn : name ∈ c.names)
    {fam : Fam} (hf : classify (baseName name) = some fam) (hna : fam.isAdder = false) :
    c.nSeq = 0 ∧ ∃ fs, datasheet fam c.inNames c.outNames = some fs ∧ fs.length = c.outLines.length ∧
      ∀ k (hk : k < c.outLines.length) (hf : k < fs.length) (vals : List Bool), vals.length = c.inNames.length →
        exec lutSem c.prog (c.env vals) (c.outLines[k]).2 = fs[k] vals :=
  funOK_sound (all_chunks Tech.gates_all hc) hn hf (by simp [hna])

/-- the checker is not trivially true: exchanging the data pins of a multiplexer fails -/
example : famOK
    { lib := 0, tmpl := c!"MX2X1", names := [c!"MX2X1"], nSeq := 0,
      pins := [(c!"A", 0, false), (c!"B", 1, false), (c!"S0", 2, false), (c!"Y", 0, true)],
      ports := [(c!"A", false, 10), (c!"B", false, 11), (c!"S0", false, 12), (c!"Y", true, 0)],
      ops := [[43690, 1, 10, 6, 6, 6], [43690, 2, 11, 6, 6, 6], [43690, 3, 12, 6, 6, 6], [51914, 0, 2, 1, 3, 6]] }
    (.mux 2) = false := by decide +kernel
end KV.C19
