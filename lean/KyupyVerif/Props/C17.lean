import KyupyVerif.Proofs.Traverse
import KyupyVerif.Proofs.Locs
/-! # C17 — graph traversals and name lookups are complete and correctly ordered

Object of the theorems: the hand-written models of `kyupy/circuit.py`
* `KV.Kahn.kahn` (`topological_order`), `KV.Trav.levels` (`topological_order_with_level`), `KV.Trav.lineOrder`
  (`topological_line_order`), `KV.Trav.revKahn` (`reversed_topological_order`, own literal deque loop),
  `KV.Trav.fanin late` (`fanin`) over a graph
  `G` = readers / drivers of the *connected* pins of every node in pin order + the dff/latch flag;
* `KV.Locs.locsL` / `KV.Locs.locsLF` (`_locs` = `io_locs`/`s_locs`) over lists of names.
* Two variants of `fanin` and of `_locs` are modelled. The tree under /repo has the REPAIRED ones: `fanin true` (circuit.py:587-599,
  nodes visited unmarked are kept in `late` and re-examined after the pass) and `locsLF` (circuit.py:292-311, the `isinstance`
  guards of the insertion). The UNREPAIRED ones, `fanin false` (single pass) and `locsL` (`d[j] = d.get(j, dict())`), are kept as a
  model switch: they are what kyupy without these two fixes does, and the statements about them say what the defects D17 / D15 are.

* **Theorem** (kernel-checked, this file; for ALL graphs / ALL name lists satisfying the stated hypotheses):
  - `topo_sound` (every consistent graph, cyclic or not: no node twice, every driver of a connected pin before its reader),
    `topo_nodup_sound_complete` (if the graph cut at state elements has a rank function: every node exactly once —
    nodes with unconnected pins are nodes like all others, only connected pins are lines —, drivers first, and all
    sources = nodes without connected input and state elements, in index order, in front of everything else);
  - `level_longest` (reported level = length of the longest path from a source in the cut graph);
  - `line_order_cover` (every connected line exactly once);
  - `rev_is_kahn_transpose`, `rev_mirror` (the literal reversed traversal IS `kahn` of the transposed graph; hence no node
    twice, every reader before its driver except across state elements, complete, sinks and state elements first);
  - `fanin_sound` (every yielded node has a path to an origin — both variants, every graph), `fanin_nodup`,
    `fanin_exact` (repaired code: every node with a combinational path is yielded),
    `fanin_exact_partial` (unrepaired code: … every such node that is not a state element, or is an origin),
    `fanin_exact_combinational` (no state elements: yielded = exactly the transitive fan-in, both variants),
    `fanin_source_ff_omitted` (the full statement is FALSE for the unrepaired code: witness `q=dff(d) d=and(a,b) z=not(q)`);
  - `locs_sorted` (every name list whose matching paths are pairwise prefix-free: no exception, the nested result is the
    recursively key-sorted trie of exactly the matching positions, flattened = ascending by (stem, indices); the repaired
    code returns the same), `locs_flat_ascending`, `locs_bus_sorted` (names `p[i]`, `p_i`, `p_i_`, any dimension, any
    finite index set in any order, styles mixed: positions by ascending numeric index vector, nested per dimension),
    `locs_bus_1d`, `locs_bus_2d` (readings for one and two dimensions), `locs_stems_sorted`,
    `locs_prefix_collision` (D15: what the unrepaired code does on `data1[0]`/`data10[0]` and `data`/`data[0]`,
    and what the repaired code returns).
* **Correspondence** (harness/c17.py, differential, not proof): each model, through the compiled driver, against the real
  generators / `io_locs` / `s_locs` on random circuits (unconnected pins, flip-flops, latches, sequential loops,
  dangling outputs) and random name lists; exact sequences, levels and nested results. Which `fanin` / `_locs`
  variant the code under test follows is decided by a probe (harness/c17.py). `Python re`, `int`, `dict`, `sorted`, NumPy are exercised
  there, not modelled (`\d` = ASCII digit, names without line break, literal prefix).
* **Oracle** (harness/c17.py): the property statements evaluated directly on the real output with an independent
  reachability / longest-path / name-key computation; this, not the model, decides violations.
* `G.Consistent` and the bounds are decidable for graphs given by arrays (`wf_graph`: `GA.wfB`); the driver evaluates
  `wfB` on every exported circuit. The rank functions are hypotheses (existence = no combinational cycle). -/
namespace KV.C17
open KV.Kahn KV.Trav

/-! ## graphs given by arrays satisfy the hypotheses when the decidable checks say so -/
theorem wf_graph (a : GA) (h : a.wfB = true) :
    a.toG.Consistent ∧ (∀ v r, r ∈ a.toG.succs v → r < a.toG.n) ∧ (∀ r v, v ∈ a.toG.preds r → v < a.toG.n) := by
  simp only [GA.wfB, Bool.and_eq_true, beq_iff_eq, List.all_eq_true, List.mem_range, decide_eq_true_eq] at h
  obtain ⟨⟨hps, _⟩, hall⟩ := h
  have hsb : ∀ v r, r ∈ a.succs.getD v [] → r < a.n := fun v r hr => (hall v (lt_size_of_mem_getD hr)).1.1 r hr
  have hpb : ∀ r v, v ∈ a.preds.getD r [] → v < a.n := fun r v hv => (hall r (hps ▸ lt_size_of_mem_getD hv)).1.2 v hv
  refine ⟨?_, hsb, hpb⟩
  intro v r
  show (a.succs.getD v []).count r = (a.preds.getD r []).count v
  by_cases hv : v < a.n
  · by_cases hr : r < a.n
    · exact (hall v hv).2 r hr
    · have h1 : (a.succs.getD v []).count r = 0 :=
        List.count_eq_zero.mpr (fun hm => hr (hsb v r hm))
      rw [h1, getD_nil_of_ge a.preds r (by omega)]; simp
  · have h1 : (a.preds.getD r []).count v = 0 :=
      List.count_eq_zero.mpr (fun hm => hv (hpb r v hm))
    rw [h1, getD_nil_of_ge a.succs v (by unfold GA.n at hv; omega)]; simp

/-- the array checks `wfB` and `rrankOKB` give `RevOK`, the hypotheses of `rev_mirror` and of the `fanin_exact*` theorems (the forward
rank of `topo_nodup_sound_complete` comes from `rankOKB_sound`) -/
theorem wf_graph_rev (a : GA) (rank : Nat → Nat) (h : a.wfB = true) (hr : a.rrankOKB rank = true) :
    RevOK a.toG rank :=
  ⟨(wf_graph a h).1, (wf_graph a h).2.1, (wf_graph a h).2.2, rrankOKB_sound a rank hr⟩

/-! ## topological_order -/
/-- every consistent graph — even with combinational cycles: no node twice, and every node that is not a source comes
after the drivers of all its connected pins -/
theorem topo_sound (g : G) (hc : g.Consistent) : (kahn g).Nodup ∧ Ordered g (kahn g) := kahn_sound g hc

/-- every node exactly once (a node with unconnected pins is a node like any other; a node with NO connected input is a
source), drivers before readers, sources (no connected input, or state element) first in index order.
`rank` witnesses that the graph cut at state elements is acyclic. -/
theorem topo_nodup_sound_complete (g : G) (hc : g.Consistent)
    (hb : ∀ v r, r ∈ g.succs v → r < g.n) (hpb : ∀ r v, v ∈ g.preds r → v < g.n)
    (rank : Nat → Nat) (hrank : ∀ r v, g.isSrc r = false → v ∈ g.preds r → rank v < rank r) :
    (kahn g).Perm (List.range g.n) ∧ (kahn g).Nodup ∧ (∀ r, r ∈ kahn g ↔ r < g.n) ∧
    Ordered g (kahn g) ∧
    ∃ X, kahn g = (List.range g.n).filter g.isSrc ++ X ∧ ∀ x ∈ X, g.isSrc x = false := by
  have hs := kahn_sound g hc
  have hcpl := kahn_complete g hc hb hpb rank hrank
  have hbd := kahn_bound g hb
  exact ⟨perm_range_of_nodup_complete _ _ hs.1 hbd hcpl, hs.1, fun r => ⟨hbd r, hcpl r⟩, hs.2,
    kahn_sources_first g hc hb⟩

/-! ## topological_order_with_level -/
/-- the generator yields the nodes of `topological_order()` in that order, each with the length of the longest path
from a source (node without connected input / state element) in the graph cut at state elements -/
theorem level_longest (g : G) (hc : g.Consistent) :
    (levels g).map Prod.fst = kahn g ∧
    ∀ x ∈ levels g, ∃ k : Nat, x.2 = (k : Int) ∧ SrcPath g x.1 k ∧ ∀ k', SrcPath g x.1 k' → k' ≤ k := by
  have hs := kahn_sound g hc
  refine ⟨levelsLoop_fst g _ _, ?_⟩
  exact levelsLoop_longest g [] (kahn g) _ (by simpa using hs.1) (by simpa using hs.2) (by intro j hj; simp at hj)

/-! ## topological_line_order -/
/-- every connected line exactly once (`outLines v` = connected out-lines of node `v`; `lineTableB` = every line index
`< m` occurs exactly once among them) -/
theorem line_order_cover (g : G) (m : Nat) (outLines : Nat → List Nat) (hc : g.Consistent)
    (hb : ∀ v r, r ∈ g.succs v → r < g.n) (hpb : ∀ r v, v ∈ g.preds r → v < g.n)
    (rank : Nat → Nat) (hrank : ∀ r v, g.isSrc r = false → v ∈ g.preds r → rank v < rank r)
    (ht : lineTableB g.n m outLines = true) :
    (lineOrder g outLines).Nodup ∧ ∀ l, l ∈ lineOrder g outLines ↔ l < m := by
  have hperm := (topo_nodup_sound_complete g hc hb hpb rank hrank).1
  have hp : (lineOrder g outLines).Perm ((List.range g.n).flatMap outLines) := hperm.flatMap_right outLines
  simp only [lineTableB, Bool.and_eq_true, List.all_eq_true, List.mem_range, List.contains_iff_mem,
    decide_eq_true_eq] at ht
  obtain ⟨⟨hall, hlt⟩, hnd⟩ := ht
  refine ⟨hp.nodup_iff.mpr hnd, ?_⟩
  intro l
  rw [hp.mem_iff]
  exact ⟨fun h => hlt l h, fun h => hall l h⟩

/-! ## reversed_topological_order -/
/-- the literal model of the reversed traversal (own deque loop, counters over connected output pins) is `kahn` of the
transposed graph -/
theorem rev_is_kahn_transpose (g : G) : revKahn g = kahn g.transpose := revKahn_eq g

/-- mirror image: the reversed order is a topological order of the reversed graph, cut at state elements on the other
side: every node exactly once; a node that is not a state element and has a connected output comes after ALL its readers;
nodes without connected output and state elements come first, in index order -/
theorem rev_mirror (g : G) (rank : Nat → Nat) (h : RevOK g rank) :
    (revKahn g).Perm (List.range g.n) ∧ (revKahn g).Nodup ∧ (∀ r, r ∈ revKahn g ↔ r < g.n) ∧
    (∀ A v B, revKahn g = A ++ v :: B → g.isSink v = false → ∀ r ∈ g.succs v, r ∈ A) ∧
    ∃ X, revKahn g = (List.range g.n).filter g.isSink ++ X ∧ ∀ x ∈ X, g.isSink x = false := by
  have := topo_nodup_sound_complete g.transpose (transpose_consistent g h.cons) (fun v r hr => h.pb v r hr)
    (fun r v hv => h.sb r v hv) rank h.rank
  rw [← revKahn_eq] at this
  exact this

/-- without any acyclicity assumption: no node twice, readers before drivers -/
theorem rev_sound (g : G) (hc : g.Consistent) :
    (revKahn g).Nodup ∧ ∀ A v B, revKahn g = A ++ v :: B → g.isSink v = false → ∀ r ∈ g.succs v, r ∈ A :=
  revKahn_ordered g hc

/-! ## fanin -/
/-- both variants, every graph: a yielded node is a node and has a path to an origin
("no node without any path is yielded") -/
theorem fanin_sound (late : Bool) (g : G) (O : List Nat) (hc : g.Consistent) (hpb : ∀ r v, v ∈ g.preds r → v < g.n) :
    ∀ x ∈ fanin late g O, x < g.n ∧ AnyReach g O x := by
  intro x hx
  refine ⟨?_, fanin_sound_any late g O x hx⟩
  have := fanin_sub late g O x hx
  rw [revKahn_eq] at this
  exact kahn_bound g.transpose (fun v r hr => hpb v r hr) x this

/-- both variants, every consistent graph: no node is yielded twice -/
theorem fanin_nodup (late : Bool) (g : G) (O : List Nat) (hc : g.Consistent) : (fanin late g O).Nodup := by
  have hnd : (revKahn g).Nodup := by rw [revKahn_eq]; exact (kahn_sound g.transpose (transpose_consistent g hc)).1
  exact ((yield_late_perm g (revKahn g) (originMarks O)).nodup_iff.mpr hnd).sublist (fanin_sublist late g O)

/-- FULL STATEMENT, proved for the repaired code (`late = true`): every node with a combinational path to an origin is
yielded, and no node without any path is yielded -/
theorem fanin_exact (g : G) (O : List Nat) (rank : Nat → Nat) (h : RevOK g rank) :
    (∀ x, x < g.n → CombReach g O x → x ∈ fanin true g O) ∧
    (∀ x ∈ fanin true g O, x < g.n ∧ AnyReach g O x) :=
  ⟨fun x hx hr => fanin_complete_late g O rank h x hx hr, fanin_sound true g O h.cons h.pb⟩

/- fanin_exact for the unrepaired code (`late = false`) would read
     (∀ x, x < g.n → CombReach g O x → x ∈ fanin false g O) ∧ (∀ x ∈ fanin false g O, x < g.n ∧ AnyReach g O x)
   and is FALSE (`fanin_source_ff_omitted`). Proved part: the first half for nodes that are not state elements
   (or are origins themselves). Missing piece: state elements that are sources of the cone. -/
theorem fanin_exact_partial (g : G) (O : List Nat) (rank : Nat → Nat) (h : RevOK g rank) :
    (∀ x, x < g.n → CombReach g O x → (g.seq x = false ∨ x ∈ O) → x ∈ fanin false g O) ∧
    (∀ x ∈ fanin false g O, x < g.n ∧ AnyReach g O x) :=
  ⟨fun x hx hr hns => fanin_complete_ns false g O rank h x hx ⟨hr, hns⟩, fanin_sound false g O h.cons h.pb⟩

/-- circuits without state elements, both variants: the yielded nodes are exactly the transitive fan-in -/
theorem fanin_exact_combinational (late : Bool) (g : G) (O : List Nat) (rank : Nat → Nat) (h : RevOK g rank)
    (hseq : ∀ v, g.seq v = false) :
    ∀ x, x ∈ fanin late g O ↔ (x < g.n ∧ AnyReach g O x) := by
  intro x
  constructor
  · exact fanin_sound late g O h.cons h.pb x
  · rintro ⟨hx, hr⟩
    exact fanin_complete_ns late g O rank h x hx ⟨anyReach_comb g O hseq x hr, Or.inl (hseq x)⟩

/-! ### non-vacuity and the witness of D17 -/
/-- `input(a,b) output(z)  q=dff(d)  d=and(a,b)  z=not(q)` as kyupy's bench reader builds it:
0 a, 1 b, 2 z, 3 d (forks), 4 q (dff), 5 q (fork), 6 d (and), 7 z (not) -/
def ex17 : GA :=
  { succs := #[[6], [6], [], [4], [5], [7], [3], [2]],
    preds := #[[], [], [7], [6], [3], [4], [0, 1], [5]],
    seq := #[false, false, false, false, true, false, false, false] }
def ex17Rank : Nat → Nat := fun v => [0, 0, 3, 2, 0, 1, 1, 2].getD v 0
def ex17RRank : Nat → Nat := fun v => [3, 3, 0, 1, 0, 2, 2, 1].getD v 0

/-- a flip-flop in a loop `q → fork → inv → fork → q`, and a gate (node 4) whose only pin is unconnected -/
def exLoop : GA :=
  { succs := #[[1], [2], [3], [0], []], preds := #[[3], [0], [1], [2], []], seq := #[true, false, false, false, false] }

example : ex17.wfB = true ∧ ex17.rankOKB ex17Rank = true ∧ ex17.rrankOKB ex17RRank = true := by decide +kernel
example : exLoop.wfB = true ∧ exLoop.rankOKB (fun v => v) = true ∧ exLoop.rrankOKB (fun v => (5 - v) % 5) = true := by
  decide +kernel
example : kahn ex17.toG = [0, 1, 4, 6, 5, 3, 7, 2] ∧ revKahn ex17.toG = [2, 4, 7, 3, 5, 6, 0, 1] := by decide +kernel
example : levels ex17.toG = [(0, 0), (1, 0), (4, 0), (6, 1), (5, 1), (3, 2), (7, 2), (2, 3)] := by decide +kernel
example : kahn exLoop.toG = [0, 4, 1, 2, 3] ∧ revKahn exLoop.toG = [0, 4, 3, 2, 1] := by decide +kernel
example : lineTableB 8 7 (fun v => [[0], [1], [], [3], [4], [5], [2], [6]].getD v []) = true ∧
    lineOrder ex17.toG (fun v => [[0], [1], [], [3], [4], [5], [2], [6]].getD v []) = [0, 1, 4, 2, 5, 3, 6] := by
  decide +kernel

/-- D17: in `q=dff(d) d=and(a,b) z=not(q)` the flip-flop `q` (node 4) has the combinational path `q → fork → not → z`
to the origin `z` (node 2), but the unrepaired code yields only `[z, not, fork q]`; the repaired code adds `q` -/
theorem fanin_source_ff_omitted :
    CombReach ex17.toG [2] 4 ∧ fanin false ex17.toG [2] = [2, 7, 5] ∧ 4 ∉ fanin false ex17.toG [2] ∧
    fanin true ex17.toG [2] = [2, 7, 5, 4] := by
  refine ⟨?_, by decide +kernel, by decide +kernel, by decide +kernel⟩
  have h2 : CombReach ex17.toG [2] 2 := CombReach.orig 2 (by simp)
  have h7 : CombReach ex17.toG [2] 7 := CombReach.step 7 2 (by decide +kernel) (Or.inr (by simp)) h2
  have h5 : CombReach ex17.toG [2] 5 := CombReach.step 5 7 (by decide +kernel) (Or.inl (by decide +kernel)) h7
  exact CombReach.step 4 5 (by decide +kernel) (Or.inl (by decide +kernel)) h5

theorem ex17_wf : ex17.wfB = true := by decide +kernel
theorem ex17_rank : ex17.rankOKB ex17Rank = true := by decide +kernel
/-- the hypotheses of the theorems above are satisfiable by circuits with a flip-flop (and a loop through it):
each theorem instantiated -/
example : (kahn ex17.toG).Perm (List.range 8) :=
  (topo_nodup_sound_complete ex17.toG (wf_graph ex17 ex17_wf).1 (wf_graph ex17 ex17_wf).2.1 (wf_graph ex17 ex17_wf).2.2 ex17Rank
    (rankOKB_sound ex17 rfl ex17Rank ex17_rank)).1
example : (revKahn exLoop.toG).Perm (List.range 5) :=
  (rev_mirror exLoop.toG _ (wf_graph_rev exLoop (fun v => (5 - v) % 5) (by decide +kernel) (by decide +kernel))).1
example : ∀ x, x < 8 → CombReach ex17.toG [2] x → x ∈ fanin true ex17.toG [2] :=
  (fanin_exact ex17.toG [2] ex17RRank (wf_graph_rev ex17 ex17RRank (by decide +kernel) (by decide +kernel))).1
example : (lineOrder ex17.toG (fun v => [[0], [1], [], [3], [4], [5], [2], [6]].getD v [])).Nodup :=
  (line_order_cover ex17.toG 7 _ (wf_graph ex17 ex17_wf).1 (wf_graph ex17 ex17_wf).2.1 (wf_graph ex17 ex17_wf).2.2 ex17Rank
    (rankOKB_sound ex17 rfl ex17Rank ex17_rank) (by decide +kernel)).1
/-- a purely combinational circuit `z = and(a, not(a))`, node 4 (a gate with an unconnected pin only) is outside the cone -/
def exComb : GA :=
  { succs := #[[1, 2], [2], [3], [], []], preds := #[[], [0], [0, 1], [2], []], seq := #[false, false, false, false, false] }
example : ∀ x, x ∈ fanin false exComb.toG [2] ↔ (x < 5 ∧ AnyReach exComb.toG [2] x) :=
  fanin_exact_combinational false exComb.toG [2] (fun v => 4 - v)
    (wf_graph_rev exComb (fun v => 4 - v) (by decide +kernel) (by decide +kernel)) (by intro v; simp only [exComb, GA.toG]; rcases v with _ | _ | _ | _ | _ | v <;> simp)
example : fanin false exComb.toG [2] = [2, 1, 0] ∧ kahn exComb.toG = [0, 4, 1, 2, 3] := by decide +kernel

/-- an origin that is a flip-flop pulls in the cone of its data pin (both variants): `fanin([q])` -/
example : fanin false ex17.toG [4] = [4, 3, 6, 0, 1] ∧ fanin true ex17.toG [4] = [4, 3, 6, 0, 1] := by decide +kernel

/-! ## io_locs / s_locs -/
section Locs
open KV.Locs

/-- ALL name lists and prefixes such that the paths (stem, indices…) of the matching names are pairwise prefix-free
(`CompatP`: no path equals or extends another one): the lookup does not raise; its result is `unwrap` (strip levels
with a single entry, `None` for no match) of a nested dictionary `s` that
* is sorted by key at every level (`Sorted`: stems by code point, indices by numeric value),
* contains exactly the matching names, each at its path with its position (`entries` is a permutation of the matches),
* hence lists the positions by strictly ascending path, and unwrapping keeps that list;
and the repaired code returns the same result. -/
theorem locs_sorted (pre : List Char) (names : List (List Char))
    (hc : (matchesFrom pre names 0).Pairwise CompatP) :
    ∃ s : D, locsL pre names = unwrap s ∧ locsLF pre names = unwrap s ∧ locsL pre names ≠ .raises ∧
      s.Sorted ∧ s.entries.Perm (matchesFrom pre names 0) ∧
      s.entries.Pairwise (fun a b => pathLt a.1 b.1 = true) ∧
      (locsL pre names).flat = s.entries.map Prod.snd := by
  obtain ⟨d, hb, hbF, hw, hp⟩ := insertAll_spec pre names 0 .nil trivial hc fun e _ x hx => by simp [D.entries] at hx
  have h1 : locsL pre names = unwrap (sortRec d) := by simp [locsL, hb]
  have h2 : locsLF pre names = unwrap (sortRec d) := by simp [locsLF, hbF]
  have hsorted := sortRec_sorted d hw
  have hperm : (sortRec d).entries.Perm (matchesFrom pre names 0) :=
    (entries_sortRec d).trans (by simpa [D.entries] using hp)
  refine ⟨sortRec d, h1, h2, by rw [h1]; exact unwrap_ne_raises _, hsorted, hperm,
    sorted_entries_pairwise _ hsorted, ?_⟩
  rw [h1]
  exact unwrap_flat _

/-- the flat reading: the positions of all matching names, each once, in ascending order of their paths -/
theorem locs_flat_ascending (pre : List Char) (names : List (List Char))
    (hc : (matchesFrom pre names 0).Pairwise CompatP) :
    ∃ L, (locsL pre names).flat = L ∧ L.Perm ((matchesFrom pre names 0).map Prod.snd) ∧
      L.Pairwise (fun a b => ∀ pa pb, (pa, a) ∈ matchesFrom pre names 0 → (pb, b) ∈ matchesFrom pre names 0 →
        pathLt pa pb = true) := by
  obtain ⟨s, _, _, _, _, hperm, hpw, hflat⟩ := locs_sorted pre names hc
  refine ⟨s.entries.map Prod.snd, hflat, hperm.map _, ?_⟩
  apply List.pairwise_map.mpr
  refine hpw.imp_of_mem ?_
  intro a b ha hb hab pa pb hpa hpb
  have e1 := matchesFrom_functional pre names 0 a.2 pa a.1 hpa (hperm.subset ha)
  have e2 := matchesFrom_functional pre names 0 b.2 pb b.1 hpb (hperm.subset hb)
  rw [e1, e2]; exact hab

/-- bus names under their stem `p`: every name is `p` followed by one formatted index per dimension, each in one of the
styles `[i]`, `_i`, `_i_` (mixed freely), `i` any number printed without leading zeros (`toString`); the index vectors are pairwise prefix-free (e.g. pairwise
different vectors of one dimension: any finite set, gaps allowed), names in any order.  Then `io_locs(p)`
is the unwrapped nested list `s` in which the position of the name with index vector `v` sits at path `p, v₁, v₂, …`
(nested per dimension), every level sorted by numeric index, so that the positions read in ascending lexicographic
numeric order of the index vectors (LSB to MSB). -/
theorem locs_bus_sorted (p : List Char) (rows : List (List (Style × Nat)))
    (hc : (rows.map vecOf).Pairwise VecCompat) :
    ∃ (s : D) (E : List (List Nat × Nat)),
      locsL p (rows.map fun r => busName p (numRow r)) = unwrap s ∧
      locsLF p (rows.map fun r => busName p (numRow r)) = unwrap s ∧
      s.Sorted ∧ s.entries = E.map (fun e => (busPath p e.1, e.2)) ∧
      E.Perm (vecEntries rows 0) ∧ E.Pairwise (fun a b => vecLt a.1 b.1 = true) ∧
      (locsL p (rows.map fun r => busName p (numRow r))).flat = E.map Prod.snd := by
  obtain ⟨s, h1, h2, _, hsorted, hperm, hpw, hflat⟩ :=
    locs_sorted p _ (matchesFrom_num p rows 0 ▸ compat_num p rows 0 hc)
  rw [matchesFrom_num] at hperm
  obtain ⟨hE, hEp⟩ := perm_map_inv (fun e : List Nat × Nat => (busPath p e.1, e.2)) (fun e => (unkey e.1, e.2))
    (fun e => by simp [unkey_busPath]) _ _ hperm
  refine ⟨s, _, h1, h2, hsorted, hE, hEp, ?_, ?_⟩
  · rw [hE] at hpw
    simpa [busPath, pathLt_stem, vecLt] using List.pairwise_map.mp hpw
  · rw [hflat]; simp [List.map_map, Function.comp_def]

/-- one dimension: `p[i]`, `p_i`, `p_i_` for `i` in any finite set (any order, gaps allowed, styles mixed):
the positions are listed by strictly ascending numeric `i` -/
theorem locs_bus_1d (p : List Char) (items : List (Style × Nat)) (hnd : (items.map Prod.snd).Nodup) :
    ∃ E : List (Nat × Nat),
      E.Perm (items.zipIdx.map fun x => (x.1.2, x.2)) ∧ E.Pairwise (fun a b => a.1 < b.1) ∧
      (locsL p (items.map fun it => busName p (numRow [it]))).flat = E.map Prod.snd := by
  have hc : ((items.map fun it => [it]).map vecOf).Pairwise VecCompat := by
    rw [List.map_map]
    refine List.pairwise_map.mpr ((List.pairwise_map.mp hnd).imp ?_)
    intro a b hab
    simp only [Function.comp, vecOf, List.map_cons, List.map_nil, VecCompat, List.cons_prefix_cons,
      List.nil_prefix, and_true]
    exact ⟨hab, fun e => hab e.symm⟩
  obtain ⟨s, E, _, _, _, _, hperm, hpw, hflat⟩ := locs_bus_sorted p (items.map fun it => [it]) hc
  rw [List.map_map] at hflat
  rw [vecEntries_1d] at hperm
  obtain ⟨hE, hEp⟩ := perm_map_inv (fun e : Nat × Nat => ([e.1], e.2)) (fun e => (e.1.headD 0, e.2)) (fun _ => rfl) _ _ hperm
  refine ⟨_, hEp, ?_, ?_⟩
  · rw [hE] at hpw
    simpa [vecLt, pathLt_idx1] using List.pairwise_map.mp hpw
  · rw [show (fun it => busName p (numRow [it])) = (fun r => busName p (numRow r)) ∘ fun it => [it] from rfl, hflat]
    simp [List.map_map, Function.comp_def]

/-- two dimensions `p[i][j]` (or any mix of the styles): ascending `i`, then ascending `j`, is how `vecLt` reads -/
theorem locs_bus_2d (i1 j1 i2 j2 : Nat) : vecLt [i1, j1] [i2, j2] = decide (i1 < i2 ∨ (i1 = i2 ∧ j1 < j2)) := by
  rw [Bool.eq_iff_iff, vecLt_iff]
  simp [List.cons_lt_cons_iff]

/-- several stems under one prefix: the stem is compared first (by code point), e.g. `addr…` before `data…` -/
theorem locs_stems_sorted (s1 s2 : Key) (a b : List Key) (h : lexLe s2 s1 = false) :
    pathLt (s1 :: a) (s2 :: b) = true := by simp [pathLt, h]

/-- D15 (prefix collisions). Unrepaired code: `io_locs('data1')` with ports `data1[0]`, `data10[0]` raises (the regular
expression reads `data10[0]` as stem `data1`, indices 0, 0, below the integer stored for `data1[0]`); with the ports in
the other order the position of `data10[0]` is silently overwritten; `io_locs('data')` with ports `data`, `data[0]` raises.
Repaired code on these lists (the third with one more port): nothing raises, nothing is lost, the name that is also the stem of
longer names is listed first. Six evaluated cases; no statement here covers `locsLF` on every list with colliding paths. -/
theorem locs_prefix_collision :
    locs "data1" ["data1[0]", "data10[0]"] = .raises ∧
    locs "data1" ["data10[0]", "data1[0]"] = .int 1 ∧
    locs "data" ["data", "data[0]"] = .raises ∧
    (locsF "data1" ["data1[0]", "data10[0]"]).show = "[0,1]" ∧
    (locsF "data1" ["data10[0]", "data1[0]"]).show = "[1,0]" ∧
    (locsF "data" ["data[1]", "data", "data[0]"]).show = "[1,2,0]" := by decide +kernel

/-! ### non-vacuity: the hypotheses hold for ordinary port lists, and the results are the expected ones -/
example : (matchesFrom "d".toList (["d[3]", "q", "d_1", "d_10_", "d2"].map String.toList) 0).Pairwise CompatP := by
  decide +kernel
example : (locs "d" ["d[3]", "q", "d_1", "d_10_", "d2"]).show = "[2,4,0,3]" := by decide +kernel
example : (locs "m" ["m[1][0]", "m[0][1]", "m[0][0]", "m[1][1]"]).show = "[[2,1],[0,3]]" := by decide +kernel
example : (locs "data" ["data0[0]", "data0[1]", "data1[0]", "data1[1]"]).show = "[[0,1],[2,3]]" := by decide +kernel
example : (locs "" ["data[1]", "addr[0]", "data[0]", "clk"]).show = "[[1],3,[2,0]]" := by decide +kernel
example : (locs "data" ["data1[0]", "data10[0]", "data2[0]"]).show = "[[0],[2],[1]]" := by decide +kernel
example : (locs "x" ["data[1]"]).show = "None" ∧ (locs "clk" ["a", "clk"]).show = "1" := by decide +kernel
example : ([[3], [1], [10]].map id : List (List Nat)).Pairwise VecCompat := by decide +kernel
example : ([[1, 0], [0, 1], [0, 0]] : List (List Nat)).Pairwise VecCompat := by decide +kernel
example : busName "d".toList (numRow [(Style.br, 3), (Style.ust, 12)]) = "d[3]_12_".toList := by decide +kernel

end Locs

end KV.C17
